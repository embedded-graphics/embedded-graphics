/-
  C18 (sector / arc part, `fixed_point` build) — "Arc and sector points lie in the circle and inside
  the swept angle up to 1.5 pixels at its radial boundaries, and every circle point further than that
  inside the sweep is included (diameters up to 128), in both the floating-point and the `fixed_point`
  build."

  For the `fixed_point` build the trigonometry is integer arithmetic and is INSIDE the model:
  `EG.Model.FixedReal` (I16F16 as bits, the checked build's panics as `none`), `EG.Model.FixedTrig`
  (`Angle`, the 91-entry sine table regenerated from the source by tools/tr_trig.py, `sin`, `cos`,
  `OriginLinearEquation::with_angle`), `EG.Model.PlaneSectorNew` (`PlaneSector::new`, the bevel
  selection of the styled sector), tied to the real code by the streams `sector.consts`,
  `sector.trig`, `sector.fxpoints` (fixed_point harness build). The theorems below quantify over ALL
  raw angles (I16F16 bits, `Angle::verif_raw`); none has a hypothesis about trigonometry.

  "Ideal ray" here: the ray from the centre in the TABLE direction `(cosT k, sinT k)` of the whole
  degree `k` the code rounds the boundary angle to (`sinT`, `cosT`: the table values, I16F16 bits,
  exact rationals `/ 65536`). Distances `Fx.tableDist k delta` are in units of 1/65536 half pixel:
  1.5 px = 196608. Tolerances proved, relative to these rays, for every pixel of a circle of diameter
  up to 128: 1.23 px (161290) for every raw angle, 0.087 px (11403) unless the cosine's degree is off
  by one (`Fx.deg_shift`: `cos` adds the I16F16 constant for 90 degrees before rounding to whole
  degrees, which rounds roughly one raw angle in a few thousand — those within 0.0004 degrees below `k + 1/2` —
  to `k + 91`; the normal is then built from `sin k` and `cos (k + 1)`).
  Relative to the EXACT boundary lines of the raw angles one must add the rounding to whole degrees
  — up to half a degree (`fixed_degree_nearest`), i.e. 64 px * sin 0.5 degrees = 0.56 px at the rim of a
  diameter-128 circle — and the accuracy of the table: that is done, with `Real.sin` / `Real.cos`, in
  EG/Props/C18/SineTable.lean (`fixed_normal_exact`: every computed normal within 10.32 of 1024 of the
  exact one; `fixed_sector_angular_exact`: the claim with 1.5 px against the exact lines, every raw
  angle pair). The oracle measures 0.55 px on half-degree angles at d = 127 / 128.

  -- [V] `Angle::from_degrees` / `from_radians` (f32 multiply / divide and `I16F16::from_num`: the relation between a user's degrees and the raw bits) is outside the model: carried by correspondence + oracle only
  -- [V] difference between the boundary LINES (proved, table lines here and exact lines in SineTable.lean) and the boundary RAYS of `SectorAngle.AngularClaim`: the two differ within 1.5/sin(phi/2) px of the centre (phi = the angle between the rays), i.e. for sweeps below ~2 degrees or above ~358 degrees along the whole opposite ray (the region of /repo fix caef12f); fixed_point build: carried by correspondence + oracle only
-/
import EG.Lemmas.FixedTrigSector
import EG.Props.C18.Sector
namespace EG.C18
open EG EG.Generated

/-- **Whole-degree rounding.** The degree `k` the code computes for the raw angle `a` (before
`rem_euclid(360)`) is the nearest whole degree of `a * 180 / 205887` (205887 = the code's `PI` in
I16F16 bits), ties away from zero, up to the 1/65536 degree the truncating division loses:
`|180 * 65536 * a - 205887 * 65536 * k| <= 205887 * 32768 + 205886`. -/
theorem fixed_degree_nearest (a k : Int) (h : Fx.degreeOf a = some k) :
    11796480 * a - 13493010432 * k ≤ 6746505216 + 205886 ∧
    -(6746505216 + 205886) ≤ 11796480 * a - 13493010432 * k := by
  obtain ⟨-, rfl⟩ := Fx.degreeOf_eq_some.mp h
  exact Fx.deg_nearest a
example : Fx.degreeOf 34315 = some 30 ∧ Fx.degreeOf (-571) = some 0 ∧ Fx.degreeOf (-572) = some (-1) := by decide +kernel

/-- The degree is computed unless `Real::from(180) * angle` overflows (`|a| > 11930464` bits, about
182 radians): then the checked build panics. -/
theorem fixed_degree_defined (a : Int) :
    (Fx.degreeOf a).isSome = true ↔ -2147483648 ≤ 180 * a ∧ 180 * a ≤ 2147483647 := by
  rw [Option.isSome_iff_exists]
  exact ⟨fun ⟨_, h⟩ => (Fx.degreeOf_eq_some.mp h).1, fun h => ⟨_, Fx.degreeOf_eq_some.mpr ⟨h, rfl⟩⟩⟩

/-- `sin` and `cos` are table values of whole degrees: `sin a = sinT k`, `cos a = sinT c` with `k` the
degree of `a` and `c` the degree of `a + FRAC_PI_2`, which is `k + 90` or `k + 91`. -/
theorem fixed_sin_cos_table (a s c : Int) (hs : Fx.sin a = some s) (hc : Fx.cos a = some c) :
    ∃ k kc, Fx.degreeOf a = some k ∧ (kc = k + 90 ∨ kc = k + 91) ∧ s = Fx.sinT k ∧ c = Fx.sinT kc := by
  obtain ⟨hf, rfl⟩ := Fx.sin_eq_some.mp hs
  obtain ⟨-, rfl⟩ := Fx.cos_eq_some.mp hc
  exact ⟨_, _, Fx.degreeOf_eq a hf, Fx.deg_shift a, rfl, rfl⟩
example : Fx.sin 34315 = some 32768 ∧ Fx.cos 34315 = some 56756 := by decide +kernel

/-- The first quadrant of `sinT` is the source's table, the rest its mirror images; all values are
within `[-65536, 65536]` (I16F16 one). -/
theorem fixed_table_values :
    (∀ k : Nat, k ≤ 90 → sinTable[k]? = some (Fx.sinT k)) ∧
    (∀ k : Int, Fx.sinT (180 - k) = Fx.sinT k ∧ Fx.sinT (k + 180) = -Fx.sinT k ∧ Fx.sinT (k + 360) = Fx.sinT k ∧
      -65536 ≤ Fx.sinT k ∧ Fx.sinT k ≤ 65536) := by
  refine ⟨fun k hk => ?_, fun k => ⟨Fx.sinT_reflect k, Fx.sinT_half_turn k, Fx.sinT_period k 1, Fx.sinT_bound k⟩⟩
  rw [Fx.sinT_q1 k (by omega)]
  exact Fx.tab_get k hk

/-- **The normal vector `with_angle` computes**, for every raw angle `a` it does not panic on: with
`k` the whole degree of `a`, the normal is within 63/64 (of 1024) of `1024 * (-sinT k, cosT k)` in its
first component and within 1207/64 = 18.9 in its second — within 63/64 there too when the cosine's
degree is exact. (Scaled by 64 = 65536 / 1024 to stay in integers.) -/
theorem fixed_normal_near_table (a : Int) (n : Pt) (h : Fx.withAngle a = some n) :
    ∃ k, Fx.degreeOf a = some k ∧
      |64 * n.x - -(Fx.sinT k)| ≤ 63 ∧ |64 * n.y - Fx.cosT k| ≤ 1207 ∧
      (Fx.degreeOf (a + 102944) = some (k + 90) → |64 * n.y - Fx.cosT k| ≤ 63) := by
  obtain ⟨hf, rfl⟩ := Fx.withAngle_eq_some.mp h
  have hy := Fx.normal_y_err (Fx.deg a) (Fx.deg (a + 102944)) (Fx.deg_shift a)
  refine ⟨Fx.deg a, Fx.degreeOf_eq a hf.1, Fx.normal_x_err (Fx.deg a),
    le_trans hy (Fx.cosErr_le _ _).2, fun hc => ?_⟩
  rw [Fx.cosErr, if_pos (Fx.degreeOf_eq_some.mp hc).2] at hy
  exact hy
example : Fx.withAngle 34315 = some ⟨-512, 886⟩ ∧ Fx.withAngle 205887 = some ⟨0, -1024⟩ ∧
    Fx.withAngle 11930465 = none := by decide +kernel

/-- The cosine's degree really is off by one for some raw angles: 103515 bits (90.49964 degrees by the
code's conversion) rounds to 90, its cosine is taken at 90.49964 + 90.00044 -> 181 = 90 + 91: the normal is
`(-1024, -17)` (the exact normal of 103515 / 65536 rad is `(-1023.96, -8.93)`, the table normal of 90
degrees `(-1024, 0)`). -/
theorem fixed_cos_degree_off_by_one_witness :
    Fx.degreeOf 103515 = some 90 ∧ Fx.degreeOf (103515 + 102944) = some 181 ∧
    Fx.withAngle 103515 = some ⟨-1024, -17⟩ := by decide +kernel

/-- `|sweep|` as the code computes it. -/
def rawAbs (sweep : Int) : Int := Fx.sweepAbs sweep

/-- **Sweeps of 360 degrees or more give the `EntirePlane` tag** (and the two horizontal half planes),
`Union` from 180 degrees, `Intersection` below — at the raw level: 360 degrees = `TAU` = 411775 bits,
180 degrees = `PI` = 205887 bits. -/
theorem fixed_operation_tag (start sweep : Int) (ps : PlaneSector)
    (h : Fx.planeSectorNew start sweep = some ps) :
    (ps.op = .entirePlane ↔ 411775 ≤ rawAbs sweep) ∧
    (411775 ≤ rawAbs sweep → ps = PlaneSector.entire) ∧
    (ps.op = .union ↔ 205887 ≤ rawAbs sweep ∧ rawAbs sweep < 411775) ∧
    (ps.op = .intersection ↔ rawAbs sweep < 205887) := by
  unfold rawAbs
  obtain ⟨-, ⟨hw, rfl⟩ | ⟨hw, -, rfl⟩⟩ := Fx.planeSectorNew_eq_some.mp h
  · exact ⟨⟨fun _ => hw, fun _ => rfl⟩, fun _ => rfl, ⟨fun h => (nomatch h), fun h => by omega⟩,
      ⟨fun h => (nomatch h), fun h => by omega⟩⟩
  · have hop : (Fx.sectorOf (Fx.boundaryAngles start sweep).1 (Fx.sweepAbs sweep)).op =
        if 205887 ≤ Fx.sweepAbs sweep then .union else .intersection := rfl
    rw [hop]
    split
    · exact ⟨⟨fun h => (nomatch h), fun h => by omega⟩, fun h => by omega,
        ⟨fun _ => ⟨‹_›, hw⟩, fun _ => rfl⟩, ⟨fun h => (nomatch h), fun h => by omega⟩⟩
    · exact ⟨⟨fun h => (nomatch h), fun h => by omega⟩, fun h => by omega,
        ⟨fun h => (nomatch h), fun h => by omega⟩, ⟨fun _ => by omega, fun _ => rfl⟩⟩
example : Fx.planeSectorNew 0 411775 = some PlaneSector.entire ∧
    Fx.planeSectorNew 34315 (-205887) = some ⟨.union, ⟨-512, 886⟩, ⟨512, -886⟩⟩ ∧
    Fx.planeSectorNew 34315 (-205886) = some ⟨.intersection, ⟨-512, 886⟩, ⟨512, -886⟩⟩ := by decide +kernel

/-- A user's `360.0.deg()` (`Angle::from_degrees(360.0)`, evaluated by the translator the way the
fixed_point build does and compared with the real build by `sector.consts`) is 411775 bits = `TAU`:
it reaches the `EntirePlane` arm; so does `(2.0 * PI).into()`, the modulus of `normalize`. -/
theorem fixed_360_degrees_is_tau :
    bevelInteriorHiBits = tauBits ∧ normalizeModBits = tauBits ∧ withAngleSpecialBits = piBits := by decide +kernel

/-- **`PlaneSector::new` returns (no panic)** for every start angle up to 11000000 bits (about 26
turns either way) and every sweep up to 800000 bits (almost two turns): the theorems of this file are
about a non-empty set of inputs. Beyond `|angle| = 11930464` bits the checked build panics
(`Real::from(180) * angle` overflows I16F16; `fixed_degree_defined`). -/
theorem fixed_plane_sector_defined (start sweep : Int)
    (hs : -11000000 ≤ start ∧ start ≤ 11000000) (hw : -800000 ≤ sweep ∧ sweep ≤ 800000) :
    (Fx.planeSectorNew start sweep).isSome = true := by
  rw [Fx.planeSectorNew_defined hs (by omega)]
  rfl

/-- A sector whose plane sector the fixed_point code computed from a sweep of 360 degrees or more
(raw: `|sweep| >= 411775` bits) has exactly the circle's points. -/
theorem fixed_sector_full_eq_circle (tl : Pt) (d : Nat) (start sweep : Int) (ps : PlaneSector)
    (h : Fx.planeSectorNew start sweep = some ps) (hw : 411775 ≤ rawAbs sweep)
    (hr : (⟨tl, d⟩ : Circle).InRange) :
    (⟨tl, d, ps⟩ : Sector).points = (⟨tl, d⟩ : Circle).points :=
  sector_full_eq_circle ⟨tl, d, ps⟩ ((fixed_operation_tag start sweep ps h).1.mpr hw) hr
example : Fx.planeSectorNew 12345 (-500000) = some PlaneSector.entire ∧ 411775 ≤ rawAbs (-500000) ∧
    (⟨⟨-3, 2⟩, 7⟩ : Circle).InRange := by decide +kernel

/-- **The angular claim for the fixed_point build.** `PlaneSector::new(start, sweep)` for ANY raw
angles on which it does not panic, sweep below a full turn; `kr`, `kl` the whole degrees the code
rounds the lower (right) and the upper (left) boundary angle to; `delta` a pixel of a circle of
diameter up to 128 (doubled coordinates from the centre). A pixel at least 1.5 px (196608) inside both
boundary lines of the table directions `kr`, `kl` is accepted, one more than 1.5 px outside is
rejected; `Union` (sweep from 180 degrees) alike. No hypothesis on the normals: their accuracy
(`fixed_normal_near_table`), their orientation (EG.Lemmas.FixedTrigNormals: the bisector test of the
repaired `contains` never interferes) and the unresolved sweeps (boundaries less than two table
degrees apart, where no pixel of such a circle is 1.5 px inside both lines) are all proved. -/
theorem fixed_sector_angular (start sweep : Int) (ps : PlaneSector)
    (h : Fx.planeSectorNew start sweep = some ps) (hne : ps.op ≠ .entirePlane)
    (delta : Pt) (hd : delta.x * delta.x + delta.y * delta.y < 128 * 128) :
    ∃ kr kl, Fx.degreeOf (Fx.boundaryAngles start sweep).1 = some kr ∧
      Fx.degreeOf (Fx.boundaryAngles start sweep).2 = some kl ∧
      (ps.op = .intersection →
        (Fx.tableDist kl delta ≤ -196608 ∧ 196608 ≤ Fx.tableDist kr delta → ps.contains delta = true) ∧
        (196608 < Fx.tableDist kl delta ∨ Fx.tableDist kr delta < -196608 → ps.contains delta = false)) ∧
      (ps.op = .union →
        (Fx.tableDist kl delta ≤ -196608 ∨ 196608 ≤ Fx.tableDist kr delta → ps.contains delta = true) ∧
        (196608 < Fx.tableDist kl delta ∧ Fx.tableDist kr delta < -196608 → ps.contains delta = false)) := by
  obtain ⟨r, w, hb, -, hw0, -, hr, hl, rfl⟩ := Fx.planeSectorNew_partial h hne
  rw [hb]
  exact ⟨_, _, Fx.degreeOf_eq _ hr.1, Fx.degreeOf_eq _ hl.1, Fx.sectorOf_table_margin r w hw0 delta hd⟩

/-- The test vector of the angular claims below: start 15 degrees (17158 bits), sweep 45 degrees. -/
theorem fixed_plane_sector_15_60 :
    Fx.planeSectorNew 17158 51472 = some ⟨.intersection, ⟨-886, 512⟩, ⟨-265, 989⟩⟩ := by decide +kernel
example : Fx.planeSectorNew 17158 51472 = some ⟨.intersection, ⟨-886, 512⟩, ⟨-265, 989⟩⟩ ∧
    Fx.boundaryAngles 17158 51472 = (17158, 68630) ∧
    Fx.degreeOf 17158 = some 15 ∧ Fx.degreeOf 68630 = some 60 ∧
    Fx.tableDist 60 ⟨40, 37⟩ ≤ -196608 ∧ 196608 ≤ Fx.tableDist 15 ⟨40, 37⟩ ∧
    ((40 : Int) * 40 + 37 * 37 < 128 * 128) := ⟨fixed_plane_sector_15_60, by decide +kernel⟩

/-- **The same with tolerance 0.087 px (11403)** when the cosine degrees of both boundary angles are
exact — the truncation of the normal's components to integers is then the only error. -/
theorem fixed_sector_angular_exact_cos (start sweep : Int) (ps : PlaneSector)
    (h : Fx.planeSectorNew start sweep = some ps) (hne : ps.op ≠ .entirePlane)
    (kr kl : Int)
    (hkr : Fx.degreeOf (Fx.boundaryAngles start sweep).1 = some kr)
    (hkl : Fx.degreeOf (Fx.boundaryAngles start sweep).2 = some kl)
    (hcr : Fx.degreeOf ((Fx.boundaryAngles start sweep).1 + 102944) = some (kr + 90))
    (hcl : Fx.degreeOf ((Fx.boundaryAngles start sweep).2 + 102944) = some (kl + 90))
    (delta : Pt) (hd : delta.x * delta.x + delta.y * delta.y < 128 * 128) :
    (ps.op = .intersection →
      (Fx.tableDist kl delta ≤ -11403 ∧ 11403 ≤ Fx.tableDist kr delta → ps.contains delta = true) ∧
      (11403 < Fx.tableDist kl delta ∨ Fx.tableDist kr delta < -11403 → ps.contains delta = false)) ∧
    (ps.op = .union →
      (Fx.tableDist kl delta ≤ -11403 ∨ 11403 ≤ Fx.tableDist kr delta → ps.contains delta = true) ∧
      (11403 < Fx.tableDist kl delta ∧ Fx.tableDist kr delta < -11403 → ps.contains delta = false)) := by
  obtain ⟨r, w, hb, -, hw0, -, -, -, rfl⟩ := Fx.planeSectorNew_partial h hne
  rw [hb] at hkr hkl hcr hcl
  obtain ⟨-, rfl⟩ := Fx.degreeOf_eq_some.mp hkr
  obtain ⟨-, rfl⟩ := Fx.degreeOf_eq_some.mp hkl
  exact Fx.sectorOf_table_margin_exact_cos r w hw0 (Fx.degreeOf_eq_some.mp hcr).2
    (Fx.degreeOf_eq_some.mp hcl).2 delta hd
example : Fx.planeSectorNew 17158 51472 = some ⟨.intersection, ⟨-886, 512⟩, ⟨-265, 989⟩⟩ ∧
    Fx.degreeOf 17158 = some 15 ∧ Fx.degreeOf 68630 = some 60 ∧
    Fx.degreeOf (17158 + 102944) = some (15 + 90) ∧ Fx.degreeOf (68630 + 102944) = some (60 + 90) :=
  ⟨fixed_plane_sector_15_60, by decide +kernel⟩

/-- Every pixel of a circle of diameter up to 128 has `|delta|^2 < 128^2`. -/
theorem circle_delta_small (c : Circle) (hd : c.d ≤ 128) (p : Pt) (hc : c.contains p = true) :
    ((⟨p.x * 2, p.y * 2⟩ : Pt) - c.center2x).x * ((⟨p.x * 2, p.y * 2⟩ : Pt) - c.center2x).x +
    ((⟨p.x * 2, p.y * 2⟩ : Pt) - c.center2x).y * ((⟨p.x * 2, p.y * 2⟩ : Pt) - c.center2x).y < 128 * 128 := by
  have ht : c.threshold ≤ 128 * 128 := Nat.le_trans (threshold_le_sq c.d) (Nat.mul_le_mul hd hd)
  exact lt_of_lt_of_le (Circle.contains_iff.mp hc) (by exact_mod_cast ht)
example : (⟨⟨0, 0⟩, 100⟩ : Circle).d ≤ 128 ∧ (⟨⟨0, 0⟩, 100⟩ : Circle).contains ⟨70, 68⟩ = true := by decide +kernel

/-- **Sector level**: for a `Sector` of diameter up to 128 whose plane sector the fixed_point code
computed, a circle point at least 1.5 px inside both table boundary lines is contained (and so is a
point of `points()`), one more than 1.5 px outside is not. -/
theorem fixed_sector_contains_angular (tl : Pt) (d : Nat) (start sweep : Int) (ps : PlaneSector)
    (h : Fx.planeSectorNew start sweep = some ps) (hne : ps.op ≠ .entirePlane) (hd : d ≤ 128)
    (p : Pt) (hc : (⟨tl, d⟩ : Circle).contains p = true) :
    ∃ kr kl, Fx.degreeOf (Fx.boundaryAngles start sweep).1 = some kr ∧
      Fx.degreeOf (Fx.boundaryAngles start sweep).2 = some kl ∧
      (ps.op = .intersection →
        (Fx.tableDist kl ((⟨p.x * 2, p.y * 2⟩ : Pt) - (⟨tl, d⟩ : Circle).center2x) ≤ -196608 ∧
          196608 ≤ Fx.tableDist kr ((⟨p.x * 2, p.y * 2⟩ : Pt) - (⟨tl, d⟩ : Circle).center2x) →
            (⟨tl, d, ps⟩ : Sector).contains p = true) ∧
        (196608 < Fx.tableDist kl ((⟨p.x * 2, p.y * 2⟩ : Pt) - (⟨tl, d⟩ : Circle).center2x) ∨
          Fx.tableDist kr ((⟨p.x * 2, p.y * 2⟩ : Pt) - (⟨tl, d⟩ : Circle).center2x) < -196608 →
            (⟨tl, d, ps⟩ : Sector).contains p = false)) ∧
      (ps.op = .union →
        (Fx.tableDist kl ((⟨p.x * 2, p.y * 2⟩ : Pt) - (⟨tl, d⟩ : Circle).center2x) ≤ -196608 ∨
          196608 ≤ Fx.tableDist kr ((⟨p.x * 2, p.y * 2⟩ : Pt) - (⟨tl, d⟩ : Circle).center2x) →
            (⟨tl, d, ps⟩ : Sector).contains p = true) ∧
        (196608 < Fx.tableDist kl ((⟨p.x * 2, p.y * 2⟩ : Pt) - (⟨tl, d⟩ : Circle).center2x) ∧
          Fx.tableDist kr ((⟨p.x * 2, p.y * 2⟩ : Pt) - (⟨tl, d⟩ : Circle).center2x) < -196608 →
            (⟨tl, d, ps⟩ : Sector).contains p = false)) := by
  rw [Sector.contains_of_circle (s := ⟨tl, d, ps⟩) hc]
  exact fixed_sector_angular start sweep ps h hne _ (circle_delta_small ⟨tl, d⟩ hd p hc)
example : Fx.planeSectorNew 17158 51472 = some ⟨.intersection, ⟨-886, 512⟩, ⟨-265, 989⟩⟩ ∧
    (⟨⟨0, 0⟩, 100⟩ : Circle).contains ⟨70, 68⟩ = true ∧
    (⟨70 * 2, 68 * 2⟩ : Pt) - (⟨⟨0, 0⟩, 100⟩ : Circle).center2x = ⟨41, 37⟩ :=
  ⟨fixed_plane_sector_15_60, by decide +kernel⟩

end EG.C18
