/-
  C18 (circle part) — a circle includes a point iff the pixel's centre is inside the ideal curve,
  up to a band of half a pixel; it is mirror-symmetric about its centre lines; every row and column
  is one contiguous run; it touches all four sides of its bounding box.

  Doubled coordinates: pixel `p` has centre `p + (1/2, 1/2)`, the ideal circle has centre
  `top_left + (d/2, d/2)` and radius `d/2`; `idealDist2 c p` is 4 x the squared distance between the
  two centres, so "strictly inside the ideal circle" is `idealDist2 c p < d * d`.
-/
import EG.Lemmas.CirclePoints
namespace EG.C18
open EG EG.Circle

/-- 4 x squared distance between the centre of pixel `p` and the centre of the ideal circle. -/
def idealDist2 (c : Circle) (p : Pt) : Int :=
  (p.x * 2 + 1 - (c.tl.x * 2 + c.d)) * (p.x * 2 + 1 - (c.tl.x * 2 + c.d)) +
  (p.y * 2 + 1 - (c.tl.y * 2 + c.d)) * (p.y * 2 + 1 - (c.tl.y * 2 + c.d))

theorem idealDist2_eq (c : Circle) (hd : 1 ≤ c.d) (p : Pt) : idealDist2 c p = dist2 c.center2x p := by
  unfold idealDist2 dist2
  rw [center2x_x, center2x_y]
  have e1 : p.x * 2 + 1 - (c.tl.x * 2 + (c.d : Int)) = p.x * 2 - (c.tl.x * 2 + ((c.d - 1 : Nat) : Int)) := by omega
  have e2 : p.y * 2 + 1 - (c.tl.y * 2 + (c.d : Int)) = p.y * 2 - (c.tl.y * 2 + ((c.d - 1 : Nat) : Int)) := by omega
  rw [e1, e2]
example : 1 ≤ (⟨⟨-3, 2⟩, 7⟩ : Circle).d := by decide

/-- Membership is the threshold test on the ideal distance (every diameter >= 1). -/
theorem circle_contains_iff_threshold (c : Circle) (hd : 1 ≤ c.d) (p : Pt) :
    c.contains p = true ↔ idealDist2 c p < (diameterToThreshold c.d : Int) := by
  rw [idealDist2_eq c hd, contains_iff]; rfl

/-- **For `d > 4` membership is exactly "pixel centre strictly inside the ideal circle".** -/
theorem circle_contains_iff_ideal (c : Circle) (hd : 4 < c.d) (p : Pt) :
    c.contains p = true ↔ idealDist2 c p < (c.d : Int) * (c.d : Int) := by
  rw [circle_contains_iff_threshold c (by omega), threshold_of_gt4 hd]
  push_cast; rfl
example : 4 < (⟨⟨-3, 2⟩, 7⟩ : Circle).d := by decide

/-- The special thresholds of the four small diameters (`d*d - d/2`). -/
theorem circle_small_thresholds :
    diameterToThreshold 0 = 0 ∧ diameterToThreshold 1 = 1 ∧ diameterToThreshold 2 = 3 ∧
    diameterToThreshold 3 = 8 ∧ diameterToThreshold 4 = 14 := by decide

/-- **Band of half a pixel, all diameters** (outer edge): an included pixel's centre is strictly
inside the ideal circle. -/
theorem circle_band_outer (c : Circle) (p : Pt) (h : c.contains p = true) :
    idealDist2 c p < (c.d : Int) * (c.d : Int) := by
  have hb := contains_imp_box h
  have hd : 1 ≤ c.d := by omega
  rw [circle_contains_iff_threshold c hd] at h
  have := threshold_le_sq c.d
  have : ((diameterToThreshold c.d : Nat) : Int) ≤ (c.d : Int) * (c.d : Int) := by exact_mod_cast this
  omega
example : (⟨⟨-3, 2⟩, 3⟩ : Circle).contains ⟨-2, 3⟩ = true := by decide

/-- **Band of half a pixel, all diameters** (inner edge): every pixel whose centre is within
`radius - 1/2` of the centre (`idealDist2 <= (d-1)^2`) is included. -/
theorem circle_band_inner (c : Circle) (hd : 1 ≤ c.d) (p : Pt)
    (h : idealDist2 c p ≤ ((c.d : Int) - 1) * ((c.d : Int) - 1)) : c.contains p = true := by
  rw [circle_contains_iff_threshold c hd]
  have := inner_lt_threshold hd
  have e : (((c.d - 1) * (c.d - 1) : Nat) : Int) = ((c.d : Int) - 1) * ((c.d : Int) - 1) := by
    push_cast [Nat.cast_sub hd]; rfl
  omega
example : idealDist2 ⟨⟨-3, 2⟩, 3⟩ ⟨-2, 3⟩ ≤ ((3 : Int) - 1) * ((3 : Int) - 1) := by decide

/-- A circle of diameter 0 has no points. -/
theorem circle_zero_empty (c : Circle) (h : c.d = 0) (p : Pt) : c.contains p = false :=
  contains_false_of_zero h p
example : (⟨⟨-3, 2⟩, 0⟩ : Circle).d = 0 := rfl

/-- Mirror symmetry about the vertical centre line: `x ↦ left + right - x`. -/
theorem circle_mirror_x (c : Circle) (x y : Int) :
    c.contains ⟨c.tl.x + (c.tl.x + c.d - 1) - x, y⟩ = c.contains ⟨x, y⟩ := by
  have h := (c.scanShape.symConvex y).sym x
  rw [← contains_eq_hit, ← contains_eq_hit] at h
  rwa [show c.tl.x + (c.tl.x + c.d) - 1 - x = c.tl.x + (c.tl.x + c.d - 1) - x by omega] at h

/-- Mirror symmetry about the horizontal centre line: `y ↦ top + bottom - y`. -/
theorem circle_mirror_y (c : Circle) (x y : Int) :
    c.contains ⟨x, c.tl.y + (c.tl.y + c.d - 1) - y⟩ = c.contains ⟨x, y⟩ := by
  have h := (c.scanShape_col.symConvex x).sym y
  rw [← contains_eq_hit, ← contains_eq_hit] at h
  rwa [show c.tl.y + (c.tl.y + c.d) - 1 - y = c.tl.y + (c.tl.y + c.d - 1) - y by omega] at h

/-- Every row is one contiguous run. -/
theorem circle_rows_contiguous (c : Circle) (y x1 x x2 : Int) (h1 : c.contains ⟨x1, y⟩ = true)
    (h2 : c.contains ⟨x2, y⟩ = true) (hx1 : x1 ≤ x) (hx2 : x ≤ x2) : c.contains ⟨x, y⟩ = true :=
  contains_convex_row h1 h2 hx1 hx2
example : (⟨⟨0, 0⟩, 5⟩ : Circle).contains ⟨0, 1⟩ = true ∧ (⟨⟨0, 0⟩, 5⟩ : Circle).contains ⟨4, 1⟩ = true := by
  decide

/-- Every column is one contiguous run. -/
theorem circle_columns_contiguous (c : Circle) (x y1 y y2 : Int) (h1 : c.contains ⟨x, y1⟩ = true)
    (h2 : c.contains ⟨x, y2⟩ = true) (hy1 : y1 ≤ y) (hy2 : y ≤ y2) : c.contains ⟨x, y⟩ = true :=
  contains_convex_col h1 h2 hy1 hy2
example : (⟨⟨0, 0⟩, 5⟩ : Circle).contains ⟨1, 0⟩ = true ∧ (⟨⟨0, 0⟩, 5⟩ : Circle).contains ⟨1, 4⟩ = true := by
  decide

/-- Every row of the bounding box is a non-empty centred run `l..u` (and every other row is
empty, by `C05.circle_contains_inside_bbox`). -/
theorem circle_row_is_centred_run (c : Circle) (y : Int) (h1 : c.tl.y ≤ y) (h2 : y < c.tl.y + c.d) :
    ∃ l u, c.tl.x ≤ l ∧ l < u ∧ u ≤ c.tl.x + c.d ∧ l + u = c.tl.x + (c.tl.x + c.d) ∧
      (∀ x, c.contains ⟨x, y⟩ = true ↔ l ≤ x ∧ x < u) := by
  obtain ⟨l, u, _, h⟩ := Circle.row_hits_interval h1 h2
  exact ⟨l, u, h⟩
example : (⟨⟨0, 0⟩, 5⟩ : Circle).tl.y ≤ 2 ∧ (2 : Int) < (⟨⟨0, 0⟩, 5⟩ : Circle).tl.y + 5 := by decide

/-- Every column of the bounding box is a non-empty centred run. -/
theorem circle_column_is_centred_run (c : Circle) (x : Int) (h1 : c.tl.x ≤ x) (h2 : x < c.tl.x + c.d) :
    ∃ l u, c.tl.y ≤ l ∧ l < u ∧ u ≤ c.tl.y + c.d ∧ l + u = c.tl.y + (c.tl.y + c.d) ∧
      (∀ y, c.contains ⟨x, y⟩ = true ↔ l ≤ y ∧ y < u) :=
  Circle.column_hits_interval h1 h2
example : (⟨⟨0, 0⟩, 5⟩ : Circle).tl.x ≤ 2 ∧ (2 : Int) < (⟨⟨0, 0⟩, 5⟩ : Circle).tl.x + 5 := by decide

/-- **A circle (d >= 1) touches all four sides of its bounding box**: the top and bottom rows
and the left and right columns of the box each contain an accepted point (and no accepted point
lies outside the box, `C05.circle_contains_inside_bbox`). -/
theorem circle_touches_sides (c : Circle) (hd : 1 ≤ c.d) :
    c.contains ⟨c.tl.x + ((c.d - 1) / 2 : Nat), c.tl.y⟩ = true ∧
    c.contains ⟨c.tl.x + ((c.d - 1) / 2 : Nat), c.tl.y + c.d - 1⟩ = true ∧
    c.contains ⟨c.tl.x, c.tl.y + ((c.d - 1) / 2 : Nat)⟩ = true ∧
    c.contains ⟨c.tl.x + c.d - 1, c.tl.y + ((c.d - 1) / 2 : Nat)⟩ = true :=
  ⟨center_col_hit (by omega) (by omega), center_col_hit (by omega) (by omega),
   center_row_hit (by omega) (by omega), center_row_hit (by omega) (by omega)⟩
example : 1 ≤ (⟨⟨-3, 2⟩, 1⟩ : Circle).d := by decide

end EG.C18
