/-
  C18 (sector / arc part) — "a sector sweeping 360 degrees or more equals the circle and such an
  arc equals the circle's one-pixel inside ring. Arc and sector points lie in the circle and inside
  the swept angle up to 1.5 pixels at its radial boundaries, and every circle point further than
  that inside the sweep is included (diameters up to 128), in both the floating-point and the
  `fixed_point` build."

  Model: `EG.Model.Sector`. The plane sector (`PlaneSector::new(angle_start, angle_sweep)`: an
  operation tag and two integer normal vectors) is a parameter; `|sweep| >= 360 degrees` is the
  `EntirePlane` tag. For the default (f32, micromath) build trigonometry is not modelled: what the
  angular claim needs from it is the explicit hypothesis `NormalWithin n N eps` (the integer normal is
  within `eps` of the exact scaled normal, componentwise). For the `fixed_point` build
  `PlaneSector::new` IS modelled (`EG.Model.PlaneSectorNew`) and that hypothesis is discharged for every
  raw angle: EG/Props/C18/FixedTrig.lean (`fixed_operation_tag`, `fixed_normal_near_table`,
  `fixed_sector_angular`: table lines) and EG/Props/C18/SineTable.lean (`fixed_normal_exact` =
  `NormalWithin .. 10.32` against `Real.sin` / `Real.cos`, `fixed_sector_angular_exact`: exact lines).

  -- [V] default (f32) build: |sweep| >= 360 degrees makes `PlaneSector::new` return the `EntirePlane` tag (f32 comparison `angle_sweep.abs() >= ANGLE_360DEG`; proved for the fixed_point build at the raw level: `fixed_operation_tag`): carried by correspondence + oracle only
  -- [V] default (f32) build: SectorAngle.AngularClaim (points within 1.5 px of the radial boundaries or inside the sweep; circle points further inside are included; diameters up to 128) for the normals micromath's f32 trigonometry produces: carried by correspondence + oracle only (proved here: the error-propagation lemma, exactness of the half-plane tests beyond the error margin, the bisector test is implied for non-parallel normals, degenerate sweeps give the forward ray; for the fixed_point build the accuracy hypothesis is discharged: `fixed_normal_exact`, `fixed_sector_angular_exact`)
-/
import EG.Lemmas.SectorAngular
namespace EG.C18
open EG

/-- With the `EntirePlane` tag `Sector::contains` is `Circle::contains`. -/
theorem sector_full_contains_eq_circle (s : Sector) (h : s.ps.op = .entirePlane) (p : Pt) :
    s.contains p = s.toCircle.contains p :=
  Sector.contains_entire h p
example : PlaneSector.entire.op = .entirePlane := rfl

/-- **A sector sweeping 360 degrees or more equals the circle**: same `points()` list. -/
theorem sector_full_eq_circle (s : Sector) (h : s.ps.op = .entirePlane) (hr : s.toCircle.InRange) :
    s.points = s.toCircle.points := by
  rw [Sector.points_eq_filter, Circle.points_eq_filter hr, Sector.boundingBox_eq]
  apply List.filter_congr
  intro p _
  exact Sector.contains_entire h p
example : (⟨⟨-3, 2⟩, 7, PlaneSector.entire⟩ : Sector).ps.op = .entirePlane ∧
    (⟨⟨-3, 2⟩, 7, PlaneSector.entire⟩ : Sector).toCircle.InRange := by decide

/-- **Such an arc equals the circle's one-pixel inside ring**: `Arc::points()` is the list of the
circle's points that are not in `circle.offset(-1)`. -/
theorem arc_full_eq_ring (a : Arc) (h : a.ps.op = .entirePlane) (hr : a.toCircle.InRange) :
    a.points = a.toCircle.points.filter (fun p => !(a.toCircle.offset (-1)).contains p) := by
  rw [Arc.points_eq_filter, Circle.points_eq_filter hr, List.filter_filter, Arc.boundingBox_eq]
  apply List.filter_congr
  intro p _
  rw [Arc.accepts_entire h, Bool.and_comm]
example : (⟨⟨-3, 2⟩, 7, PlaneSector.entire⟩ : Arc).ps.op = .entirePlane ∧
    (⟨⟨-3, 2⟩, 7, PlaneSector.entire⟩ : Arc).toCircle.InRange := by decide

/-- The arc's inner threshold is the membership test of `circle.offset(-1)` (same `center_2x`,
diameter `d - 2`, empty for `d <= 2`). -/
theorem arc_inner_threshold (c : Circle) (p : Pt) :
    (c.offset (-1)).contains p = true ↔ dist2 c.center2x p < ((c.offset (-1)).threshold : Int) :=
  Arc.inner_contains_iff c p

/-- **Sector points lie in the circle.** -/
theorem sector_subset_circle (s : Sector) (p : Pt) (hp : p ∈ s.points) :
    s.toCircle.contains p = true := by
  rw [Sector.points_eq_filter, List.mem_filter] at hp
  exact Sector.contains_imp_circle hp.2
example : (⟨2, 7⟩ : Pt) ∈ (⟨⟨-3, 2⟩, 7, ⟨.intersection, ⟨-1024, 0⟩, ⟨0, 1024⟩⟩⟩ : Sector).points := by
  rw [Sector.points_eq_filter]
  exact List.mem_filter.mpr ⟨(Rect.mem_points (by decide)).mpr (by decide), by decide⟩

theorem sector_points_sublist_circle (s : Sector) (hr : s.toCircle.InRange) :
    s.points.Sublist s.toCircle.points := by
  have e : s.points = s.toCircle.points.filter s.contains := by
    rw [Sector.points_eq_filter, Circle.points_eq_filter hr, List.filter_filter, Sector.boundingBox_eq]
    apply List.filter_congr
    intro p _
    cases h : s.contains p
    · simp
    · simp [Sector.contains_imp_circle h]
  rw [e]
  exact List.filter_sublist

/-- `Arc::points()` is the bounding box filtered by "in the circle, not in `circle.offset(-1)`, in
the plane sector": each point once, row-major. -/
theorem arc_points_eq_filter (a : Arc) : a.points = a.boundingBox.points.filter a.accepts :=
  Arc.points_eq_filter a

theorem arc_points_nodup (a : Arc) : a.points.Nodup := by
  rw [arc_points_eq_filter]; exact (Rect.points_nodup _).filter _

theorem arc_points_row_major (a : Arc) : a.points.Pairwise Pt.rowMajorLt := by
  rw [arc_points_eq_filter]; exact (Rect.points_rowMajor _).filter _

/-- **Arc points lie in the circle**, on its one-pixel inside ring. -/
theorem arc_subset_circle (a : Arc) (p : Pt) (hp : p ∈ a.points) :
    a.toCircle.contains p = true ∧ (a.toCircle.offset (-1)).contains p = false := by
  rw [Arc.points_eq_filter, List.mem_filter, Arc.accepts_iff] at hp
  exact ⟨hp.2.1, hp.2.2.1⟩
example : (⟨3, 5⟩ : Pt) ∈ (⟨⟨-3, 2⟩, 7, ⟨.intersection, ⟨-1024, 0⟩, ⟨0, 1024⟩⟩⟩ : Arc).points := by
  rw [Arc.points_eq_filter]
  exact List.mem_filter.mpr ⟨(Rect.mem_points (by decide)).mpr (by decide), by decide⟩

/-- An arc's points are among the sector's points (same circle, same plane sector). -/
theorem arc_subset_sector (a : Arc) (p : Pt) (hp : p ∈ a.points) :
    (⟨a.tl, a.d, a.ps⟩ : Sector).contains p = true := by
  rw [Arc.points_eq_filter, List.mem_filter, Arc.accepts_iff] at hp
  exact (Sector.contains_iff _ p).mpr ⟨hp.2.1, hp.2.2.2⟩

section Angular
variable {K : Type} [CommRing K] [LinearOrder K] [IsStrictOrderedRing K]

/-- **Error propagation**: if the integer normal vector `n` is within `eps` (componentwise) of the
exact scaled normal `N`, the signed distance the code computes differs from the exact one by at most
`eps (|dx| + |dy|)`. (`K` any ordered commutative ring — e.g. the reals with
`N = 1024 (-sin t, cos t)`.) -/
theorem sector_distance_error (n : Pt) (N : K × K) (eps : K) (h : NormalWithin n N eps) (delta : Pt) :
    |((PlaneSector.distance n delta : Int) : K) - exactDist N delta| ≤ eps * norm1 delta := by
  have := distance_error 1 n N eps eps (.of_within h) delta
  rwa [one_mul, budget_eq_norm1] at this
example : NormalWithin (K := Int) ⟨-511, 887⟩ (-512, 886) 1 := by
  unfold NormalWithin; decide

/-- Beyond the error margin the code's half-plane tests are the exact ones. -/
theorem sector_halfplane_exact_beyond_margin (n : Pt) (N : K × K) (eps : K) (h : NormalWithin n N eps)
    (delta : Pt) :
    (eps * norm1 delta ≤ exactDist N delta → PlaneSector.checkRight n delta = true) ∧
    (exactDist N delta < -(eps * norm1 delta) → PlaneSector.checkRight n delta = false) ∧
    (exactDist N delta ≤ -(eps * norm1 delta) → PlaneSector.checkLeft n delta = true) ∧
    (eps * norm1 delta < exactDist N delta → PlaneSector.checkLeft n delta = false) :=
  checkSide_of_margin one_pos (.of_within h) delta (budget_eq_norm1 eps delta).le

/-- **The angular claim, proved part.** If both integer normals are within `eps ≤ 16` (of 1024) of
the exact scaled normals and the pixel belongs to a circle of diameter up to 128, then a pixel at
least 1.5 px (`3 * 1024` in the scale of the normals, doubled coordinates) inside the sweep —
measured from the two boundary LINES — is accepted and a pixel more than 1.5 px outside is rejected,
for `Intersection` (sweep below 180 degrees) and `Union` (from 180 degrees) alike. `hplain` excludes
only the unresolved sweeps (parallel or wrongly ordered, equally directed normals), which
`plane_sector_degenerate_is_ray` covers. What remains [V] is the accuracy `NormalWithin` of the real
trigonometry and the difference between boundary lines and boundary rays near the centre. -/
theorem sector_angular_partial (ps : PlaneSector)
    (hplain : 0 < ps.cross ∨ ps.op ≠ .intersection ∨ dotProduct ps.left ps.right ≤ 0)
    (Nl Nr : K × K) (eps : K) (hl : NormalWithin ps.left Nl eps) (hr : NormalWithin ps.right Nr eps)
    (he : eps ≤ 16) (delta : Pt) (hd : delta.x * delta.x + delta.y * delta.y < 128 * 128) :
    (ps.op = .intersection →
      (exactDist Nl delta ≤ -3072 ∧ 3072 ≤ exactDist Nr delta → ps.contains delta = true) ∧
      (3072 < exactDist Nl delta ∨ exactDist Nr delta < -3072 → ps.contains delta = false)) ∧
    (ps.op = .union →
      (exactDist Nl delta ≤ -3072 ∨ 3072 ≤ exactDist Nr delta → ps.contains delta = true) ∧
      (3072 < exactDist Nl delta ∧ exactDist Nr delta < -3072 → ps.contains delta = false)) := by
  have hm := budget_le_3072 he delta hd
  exact (containsPlain_margin ps one_pos (.of_within hl) (.of_within hr) delta hm hm).contains ps delta
    fun hi _ _ => hplain.imp_right fun h => h.resolve_left (not_not_intro hi)
example : 0 < (⟨.intersection, ⟨-989, 264⟩, ⟨-511, 887⟩⟩ : PlaneSector).cross ∧
    NormalWithin (K := Int) ⟨-989, 264⟩ (-989, 265) 1 ∧ NormalWithin (K := Int) ⟨-511, 887⟩ (-512, 886) 1 ∧
    (1 : Int) ≤ 16 ∧ ((40 : Int) * 40 + 37 * 37 < 128 * 128) := by
  unfold NormalWithin; decide

end Angular

/-- The bisector test of the (repaired) `PlaneSector::contains` is implied by the two half-plane
tests whenever the normals are not parallel and correctly oriented: `contains` is then exactly the
intersection / union of the two half planes. -/
theorem plane_sector_bisector_implied (ps : PlaneSector) (hc : 0 < ps.cross) (p : Pt) :
    ps.contains p = ps.op.execute (PlaneSector.checkLeft ps.left p) (PlaneSector.checkRight ps.right p) :=
  PlaneSector.contains_eq_plain_of_cross_pos ps hc p
example : 0 < (⟨.intersection, ⟨-989, 264⟩, ⟨-511, 887⟩⟩ : PlaneSector).cross := by decide

/-- A degenerate sweep (0, or too small to be resolved: equal normals) is the forward RAY: on the
common boundary line and not behind the centre. (Before the repair in `PlaneSector::contains` it
was the whole line: witness `sector.points 0 0 5 0 0 ..` in corpus/C18.ops.) -/
theorem plane_sector_degenerate_is_ray (ps : PlaneSector) (hop : ps.op = .intersection)
    (hpar : ps.left = ps.right) (hnz : ps.left ≠ ⟨0, 0⟩) (p : Pt) :
    ps.contains p = true ↔ dotProduct p ps.left = 0 ∧ 0 ≤ dotProduct p ⟨ps.left.y, -ps.left.x⟩ :=
  PlaneSector.contains_parallel_iff ps hop hpar hnz p
example : (⟨.intersection, ⟨0, 1024⟩, ⟨0, 1024⟩⟩ : PlaneSector).contains ⟨4, 0⟩ = true ∧
    (⟨.intersection, ⟨0, 1024⟩, ⟨0, 1024⟩⟩ : PlaneSector).contains ⟨-4, 0⟩ = false := by decide

namespace SectorAngle   -- (sub-namespace: keeps the short geometric names out of `EG.C18`)
section Claim
variable (K : Type) [CommRing K] [LinearOrder K] [IsStrictOrderedRing K]

/-- Exact geometry of a sweep of less than a full turn, in screen coordinates (x right, y down):
the operation `PlaneSector::new` chooses (`Intersection` below 180 degrees, `Union` from 180) and the
unit direction vectors of the two boundary rays — `ur` the ray whose RIGHT side is swept (the start
ray of a positive sweep), `ul` the ray whose LEFT side is swept. -/
structure ExactSweep where
  op : PlaneOp
  ur : K × K
  ul : K × K

variable {K}

def crossK (a b : K × K) : K := a.1 * b.2 - a.2 * b.1
def dotK (delta : Pt) (u : K × K) : K := (delta.x : K) * u.1 + (delta.y : K) * u.2
/-- `rotate_90` -/
def rot90 (u : K × K) : K × K := (-u.2, u.1)

/-- Unit vectors; `cross(ur, ul) = sin(sweep)` has the sign the operation implies, and vanishes only
for sweep 0 (`ul = ur`) resp. 180 degrees (`ul = -ur`). -/
def ExactSweep.Valid (E : ExactSweep K) : Prop :=
  E.ur.1 * E.ur.1 + E.ur.2 * E.ur.2 = 1 ∧ E.ul.1 * E.ul.1 + E.ul.2 * E.ul.2 = 1 ∧
  (E.op = .intersection ∧ 0 ≤ crossK E.ur E.ul ∧ (crossK E.ur E.ul = 0 → E.ul = E.ur) ∨
   E.op = .union ∧ crossK E.ur E.ul ≤ 0 ∧ (crossK E.ur E.ul = 0 → E.ul = (-E.ur.1, -E.ur.2)))

/-- The pixel centre `delta` (doubled coordinates relative to the centre) is inside the sweep. -/
def ExactSweep.inside (E : ExactSweep K) (delta : Pt) : Prop :=
  match E.op with
  | .intersection =>
    dotK delta (rot90 E.ul) ≤ 0 ∧ 0 ≤ dotK delta (rot90 E.ur) ∧ 0 ≤ dotK delta (E.ul.1 + E.ur.1, E.ul.2 + E.ur.2)
  | .union => dotK delta (rot90 E.ul) ≤ 0 ∨ 0 ≤ dotK delta (rot90 E.ur)
  | .entirePlane => True

/-- `delta` is within `tol` (half-pixel units) of the boundary RAY with unit direction `u`. -/
def nearRay (u : K × K) (tol : K) (delta : Pt) : Prop :=
  (0 ≤ dotK delta u ∧ |dotK delta (rot90 u)| ≤ tol) ∨
    (delta.x : K) * (delta.x : K) + (delta.y : K) * (delta.y : K) ≤ tol * tol

/-- **The angular claim of C18**, with the accuracy of the trigonometry as the explicit hypothesis
`NormalWithin`: for normals within `eps` of the exact scaled normals `1024 * rotate_90(u)` and every
pixel of a circle of diameter up to 128 (`|delta|^2 < 128^2`), a pixel the plane sector accepts is
inside the sweep or within `tol` of a boundary ray, and a pixel inside the sweep and further than
`tol` from both boundary rays is accepted. `tol = 3` is the property's 1.5 px. Not proved: [V]. -/
def AngularClaim (eps tol : K) : Prop :=
  ∀ (E : ExactSweep K), E.Valid → ∀ (ps : PlaneSector), ps.op = E.op →
    NormalWithin ps.left (1024 * (rot90 E.ul).1, 1024 * (rot90 E.ul).2) eps →
    NormalWithin ps.right (1024 * (rot90 E.ur).1, 1024 * (rot90 E.ur).2) eps →
    ∀ (delta : Pt), delta.x * delta.x + delta.y * delta.y < 128 * 128 →
      (ps.contains delta = true → E.inside delta ∨ nearRay E.ul tol delta ∨ nearRay E.ur tol delta) ∧
      (E.inside delta → ¬ nearRay E.ul tol delta → ¬ nearRay E.ur tol delta → ps.contains delta = true)

end Claim
end SectorAngle

end EG.C18
