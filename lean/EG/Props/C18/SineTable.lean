/-
  C18 (`fixed_point` build against the EXACT geometry) — "Arc and sector points lie in the circle and
  inside the swept angle up to 1.5 pixels at its radial boundaries, and every circle point further
  than that inside the sweep is included (diameters up to 128), in both the floating-point and the
  `fixed_point` build."

  EG/Props/C18/FixedTrig.lean proves the angular claim relative to the TABLE rays. This file closes the
  gap to the real sine and cosine (`Real.sin`, `Real.cos`, π of Mathlib; the only Props file that
  imports Mathlib's analysis library, through EG.Lemmas.SineTable and EG.Lemmas.FixedTrigExact):

  * every one of the 91 table entries is the correctly rounded value of `65536 sin (k degrees)`
    (`fixed_sine_table_accurate`, deviation at most 1/2 unit of 2^-16, by certified interval
    arithmetic), and so is the table sine / cosine of EVERY integer degree after the quadrant folding
    (`fixed_sinT_accurate`, `fixed_cosT_accurate`);
  * the whole degree `k` the code rounds a raw angle `a` to is within 0.0091 rad (0.5214 degrees) of
    the exact angle `a / 65536` rad (`fixed_angle_error`);
  * hence, for EVERY raw angle on which `with_angle` does not panic, the integer normal is within
    10.32 (of 1024) of the exact `1024 (-sin, cos)` (`fixed_normal_exact`) — the hypothesis
    `NormalWithin .. eps`, `eps <= 16`, of `sector_angular_partial`;
  * hence the angular claim relative to the EXACT boundary lines of the two raw angles, tolerance
    1.5 px, every raw angle pair, no hypothesis left (`fixed_sector_angular_exact`,
    `fixed_sector_contains_exact`): a pixel of a circle of diameter up to 128 at least 1.5 px inside
    both exact boundary lines is accepted, one more than 1.5 px outside is rejected. (The error bound
    itself is `10.32 * (|dx| + |dy|) / 2048 <= 0.92 px`; the oracle measures 0.55 px.)

  What remains outside: `Angle::from_degrees` (f32 -> raw bits) and the difference between boundary
  LINES and boundary RAYS near the centre (the [V] lines of FixedTrig.lean); the default f32 build.
-/
import EG.Lemmas.FixedTrigExact
import EG.Props.C18.FixedTrig
namespace EG.C18
open EG EG.Generated Real

/-- **Each `SIN[k]`, `k = 0..90`, is `65536 * sin (k π / 180)` rounded to the nearest integer.** -/
theorem fixed_sine_table_accurate (k : Nat) (hk : k ≤ 90) :
    ∃ v : Int, sinTable[k]? = some v ∧ |(v : ℝ) - 65536 * Real.sin ((k : ℝ) * π / 180)| ≤ 1 / 2 :=
  ⟨sinTable.getD k 0, Fx.tab_get k hk, SineTable.sine_table_accurate k hk⟩
example : sinTable[30]? = some 32768 ∧ sinTable[90]? = some 65536 ∧ sinTable[83]? = some 65048 := by decide +kernel

/-- **The table sine of every integer degree** (what `sin` returns for any angle that rounds to `k`
degrees, after `rem_euclid(360)` and the quadrant folding) **is the correctly rounded real sine.** -/
theorem fixed_sinT_accurate (k : Int) :
    |(Fx.sinT k : ℝ) - 65536 * Real.sin ((k : ℝ) * π / 180)| ≤ 1 / 2 :=
  Fx.sinT_accurate k

/-- The table cosine likewise (`cosT k = sinT (k + 90)`, `cos x = sin (x + π/2)`). -/
theorem fixed_cosT_accurate (k : Int) :
    |(Fx.cosT k : ℝ) - 65536 * Real.cos ((k : ℝ) * π / 180)| ≤ 1 / 2 := by
  have h := Fx.sinT_accurate (k + 90)
  unfold Fx.sinR at h
  rwa [show ((k + 90 : Int) : ℝ) * π / 180 = (k : ℝ) * π / 180 + π / 2 by push_cast; ring,
    Real.sin_add_pi_div_two] at h

/-- **Whole-degree rounding against the exact angle.** The raw angle `a` is `a / 65536` radians; the
degree `k` the code computes differs from it by at most 0.0091 rad = 0.5214 degrees (half a degree,
the 2^-16 degree of the truncating division, and the code's `PI` = 205887 bits against π over the up
to 29 turns for which `180 * a` does not overflow). -/
theorem fixed_angle_error (a k : Int) (h : Fx.degreeOf a = some k) :
    |(a : ℝ) / 65536 - (k : ℝ) * π / 180| ≤ 0.0091 := by
  obtain ⟨hf, rfl⟩ := Fx.degreeOf_eq_some.mp h
  exact Fx.angle_error a hf
example : Fx.degreeOf 34315 = some 30 := by decide +kernel

/-- **The normal vector against the exact normal, every raw angle**: within 10.32 of 1024,
componentwise, of `1024 (-sin t, cos t)`, `t = a / 65536` rad. -/
theorem fixed_normal_exact (a : Int) (n : Pt) (h : Fx.withAngle a = some n) :
    NormalWithin (K := ℝ) n (1024 * -Real.sin ((a : ℝ) / 65536), 1024 * Real.cos ((a : ℝ) / 65536)) 10.32 := by
  obtain ⟨hf, rfl⟩ := Fx.withAngle_eq_some.mp h
  exact Fx.normalOf_exact hf
example : Fx.withAngle 34315 = some ⟨-512, 886⟩ := by decide +kernel

/-- **The angular claim of C18 for the fixed_point build, against the exact boundary lines.**
`PlaneSector::new(start, sweep)` for ANY raw angles on which it does not panic, sweep below a full
turn; `Fx.exactLineDist t delta` = the exact signed distance (scale 1024, half pixels: 1.5 px = 3072)
of the pixel centre `delta` from the line through the centre at the exact angle `t` rad; the two
boundary angles are the raw angles `/ 65536`. A pixel of a circle of diameter up to 128 at least
1.5 px inside both exact boundary lines is accepted, one more than 1.5 px outside is rejected. -/
theorem fixed_sector_angular_exact (start sweep : Int) (ps : PlaneSector)
    (h : Fx.planeSectorNew start sweep = some ps) (hne : ps.op ≠ .entirePlane)
    (delta : Pt) (hd : delta.x * delta.x + delta.y * delta.y < 128 * 128) :
    (ps.op = .intersection →
      (Fx.exactLineDist (((Fx.boundaryAngles start sweep).2 : ℝ) / 65536) delta ≤ -3072 ∧
        3072 ≤ Fx.exactLineDist (((Fx.boundaryAngles start sweep).1 : ℝ) / 65536) delta →
          ps.contains delta = true) ∧
      (3072 < Fx.exactLineDist (((Fx.boundaryAngles start sweep).2 : ℝ) / 65536) delta ∨
        Fx.exactLineDist (((Fx.boundaryAngles start sweep).1 : ℝ) / 65536) delta < -3072 →
          ps.contains delta = false)) ∧
    (ps.op = .union →
      (Fx.exactLineDist (((Fx.boundaryAngles start sweep).2 : ℝ) / 65536) delta ≤ -3072 ∨
        3072 ≤ Fx.exactLineDist (((Fx.boundaryAngles start sweep).1 : ℝ) / 65536) delta →
          ps.contains delta = true) ∧
      (3072 < Fx.exactLineDist (((Fx.boundaryAngles start sweep).2 : ℝ) / 65536) delta ∧
        Fx.exactLineDist (((Fx.boundaryAngles start sweep).1 : ℝ) / 65536) delta < -3072 →
          ps.contains delta = false)) := by
  obtain ⟨r, w, hb, -, hw0, -, hr, hl, rfl⟩ := Fx.planeSectorNew_partial h hne
  rw [hb]
  exact Fx.sectorOf_exact_margin hw0 hr hl delta hd
example : Fx.planeSectorNew 17158 51472 = some ⟨.intersection, ⟨-886, 512⟩, ⟨-265, 989⟩⟩ ∧
    Fx.boundaryAngles 17158 51472 = (17158, 68630) ∧ ((40 : Int) * 40 + 37 * 37 < 128 * 128) :=
  ⟨fixed_plane_sector_15_60, by decide +kernel⟩

/-- **Sector level**: `Sector::contains` of a sector of diameter up to 128 whose plane sector the
fixed_point code computed, on a circle point `p`, against the exact boundary lines. -/
theorem fixed_sector_contains_exact (tl : Pt) (d : Nat) (start sweep : Int) (ps : PlaneSector)
    (h : Fx.planeSectorNew start sweep = some ps) (hne : ps.op ≠ .entirePlane) (hd : d ≤ 128)
    (p : Pt) (hc : (⟨tl, d⟩ : Circle).contains p = true) :
    (ps.op = .intersection →
      (Fx.exactLineDist (((Fx.boundaryAngles start sweep).2 : ℝ) / 65536)
          ((⟨p.x * 2, p.y * 2⟩ : Pt) - (⟨tl, d⟩ : Circle).center2x) ≤ -3072 ∧
        3072 ≤ Fx.exactLineDist (((Fx.boundaryAngles start sweep).1 : ℝ) / 65536)
          ((⟨p.x * 2, p.y * 2⟩ : Pt) - (⟨tl, d⟩ : Circle).center2x) →
          (⟨tl, d, ps⟩ : Sector).contains p = true) ∧
      (3072 < Fx.exactLineDist (((Fx.boundaryAngles start sweep).2 : ℝ) / 65536)
          ((⟨p.x * 2, p.y * 2⟩ : Pt) - (⟨tl, d⟩ : Circle).center2x) ∨
        Fx.exactLineDist (((Fx.boundaryAngles start sweep).1 : ℝ) / 65536)
          ((⟨p.x * 2, p.y * 2⟩ : Pt) - (⟨tl, d⟩ : Circle).center2x) < -3072 →
          (⟨tl, d, ps⟩ : Sector).contains p = false)) ∧
    (ps.op = .union →
      (Fx.exactLineDist (((Fx.boundaryAngles start sweep).2 : ℝ) / 65536)
          ((⟨p.x * 2, p.y * 2⟩ : Pt) - (⟨tl, d⟩ : Circle).center2x) ≤ -3072 ∨
        3072 ≤ Fx.exactLineDist (((Fx.boundaryAngles start sweep).1 : ℝ) / 65536)
          ((⟨p.x * 2, p.y * 2⟩ : Pt) - (⟨tl, d⟩ : Circle).center2x) →
          (⟨tl, d, ps⟩ : Sector).contains p = true) ∧
      (3072 < Fx.exactLineDist (((Fx.boundaryAngles start sweep).2 : ℝ) / 65536)
          ((⟨p.x * 2, p.y * 2⟩ : Pt) - (⟨tl, d⟩ : Circle).center2x) ∧
        Fx.exactLineDist (((Fx.boundaryAngles start sweep).1 : ℝ) / 65536)
          ((⟨p.x * 2, p.y * 2⟩ : Pt) - (⟨tl, d⟩ : Circle).center2x) < -3072 →
          (⟨tl, d, ps⟩ : Sector).contains p = false)) := by
  rw [Sector.contains_of_circle (s := ⟨tl, d, ps⟩) hc]
  exact fixed_sector_angular_exact start sweep ps h hne _ (circle_delta_small ⟨tl, d⟩ hd p hc)
example : Fx.planeSectorNew 17158 51472 = some ⟨.intersection, ⟨-886, 512⟩, ⟨-265, 989⟩⟩ ∧
    (⟨⟨0, 0⟩, 100⟩ : Circle).contains ⟨70, 68⟩ = true := ⟨fixed_plane_sector_15_60, by decide +kernel⟩

end EG.C18
