/-
  C18 (ellipse part) — an ellipse with unequal axes includes a point iff the pixel's centre is
  strictly inside the ideal curve; with equal axes an included pixel's centre is inside it, and
  the rest is the circle's band of half a pixel; it is mirror-symmetric about its centre lines; every row and column is one contiguous
  run; an ellipse with equal axes is the circle of that diameter.

  Doubled coordinates: pixel `p` has centre `p + (1/2, 1/2)`, the ideal ellipse has centre
  `top_left + (w/2, h/2)` and half-axes `w/2`, `h/2`; with `dx = 2 p.x + 1 - (2 left + w)`,
  `dy = 2 p.y + 1 - (2 top + h)` "strictly inside the ideal ellipse" `(dx/w)^2 + (dy/h)^2 < 1` is
  `h^2 dx^2 + w^2 dy^2 < w^2 h^2`.
-/
import EG.Lemmas.EllipsePoints
import EG.Lemmas.CirclePoints
namespace EG.C18
open EG EG.Ellipse

def ellipseDx (e : Ellipse) (p : Pt) : Int := p.x * 2 + 1 - (e.tl.x * 2 + e.size.w)
def ellipseDy (e : Ellipse) (p : Pt) : Int := p.y * 2 + 1 - (e.tl.y * 2 + e.size.h)

/-- With a non-empty side the offsets from the ideal centre are the doubled coordinates relative
to `center_2x`. -/
theorem ellipseDx_eq (e : Ellipse) (p : Pt) (hw : 1 ≤ e.size.w) :
    ellipseDx e p = p.x * 2 - e.center2x.x := by
  unfold ellipseDx; rw [center2x_x]; omega
theorem ellipseDy_eq (e : Ellipse) (p : Pt) (hh : 1 ≤ e.size.h) :
    ellipseDy e p = p.y * 2 - e.center2x.y := by
  unfold ellipseDy; rw [center2x_y]; omega

/-- **For unequal axes membership is exactly "pixel centre strictly inside the ideal ellipse".** -/
theorem ellipse_contains_iff_ideal (e : Ellipse) (hne : e.size.w ≠ e.size.h)
    (hw : 1 ≤ e.size.w) (hh : 1 ≤ e.size.h) (p : Pt) :
    e.contains p = true ↔
      ((e.size.h * e.size.h : Nat) : Int) * (ellipseDx e p * ellipseDx e p) +
      ((e.size.w * e.size.w : Nat) : Int) * (ellipseDy e p * ellipseDy e p) <
        ((e.size.h * e.size.h * (e.size.w * e.size.w) : Nat) : Int) := by
  obtain ⟨h1, h2, h3⟩ := EllipseContains.new_ellipse hne
  rw [Ellipse.contains_iff, ellipseDx_eq e p hw, ellipseDy_eq e p hh, EllipseContains.wdist, h1, h2, h3]
example : (⟨⟨-3, 2⟩, ⟨7, 4⟩⟩ : Ellipse).size.w ≠ (⟨⟨-3, 2⟩, ⟨7, 4⟩⟩ : Ellipse).size.h := by decide

/-- In every case (also equal axes with the circle's special small thresholds) an included pixel's
centre is strictly inside the ideal ellipse. -/
theorem ellipse_contains_imp_ideal (e : Ellipse) (p : Pt) (h : e.contains p = true) :
    ((e.size.h * e.size.h : Nat) : Int) * (ellipseDx e p * ellipseDx e p) +
      ((e.size.w * e.size.w : Nat) : Int) * (ellipseDy e p * ellipseDy e p) <
        ((e.size.h * e.size.h * (e.size.w * e.size.w) : Nat) : Int) := by
  have hb := contains_imp_box h
  rw [ellipseDx_eq e p (by omega), ellipseDy_eq e p (by omega)]
  exact EllipseContains.ideal_of_contains (s := e.size)
    (p := ⟨p.x * 2 - e.center2x.x, p.y * 2 - e.center2x.y⟩) h
example : (⟨⟨-3, 2⟩, ⟨3, 3⟩⟩ : Ellipse).contains ⟨-2, 3⟩ = true := by decide

/-- **`circle_eq_ellipse_equal_axes`**: an ellipse with equal axes accepts exactly the points of the
circle with that diameter (including the special thresholds of diameters <= 4) ... -/
theorem circle_eq_ellipse_equal_axes (tl : Pt) (d : Nat) (p : Pt) :
    (⟨tl, ⟨d, d⟩⟩ : Ellipse).contains p = (⟨tl, d⟩ : Circle).contains p :=
  Circle.contains_toEllipse ⟨tl, d⟩ p

/-- ... and `points()` yields the same list. -/
theorem circle_points_eq_ellipse_equal_axes (tl : Pt) (d : Nat) (h : (⟨tl, d⟩ : Circle).InRange) :
    (⟨tl, ⟨d, d⟩⟩ : Ellipse).points = (⟨tl, d⟩ : Circle).points := by
  rw [Ellipse.points_eq_filter (e := ⟨tl, ⟨d, d⟩⟩) h, Circle.points_eq_filter h]
  have : (⟨tl, ⟨d, d⟩⟩ : Ellipse).contains = (⟨tl, d⟩ : Circle).contains := by
    funext p; exact circle_eq_ellipse_equal_axes tl d p
  rw [this]; rfl
example : (⟨⟨-3, 2⟩, 7⟩ : Circle).InRange := by decide

/-- An ellipse with a zero side has no points. -/
theorem ellipse_zero_empty (e : Ellipse) (h : e.size.w = 0 ∨ e.size.h = 0) (p : Pt) :
    e.contains p = false := contains_false_of_zero h p
example : (⟨⟨-3, 2⟩, ⟨0, 5⟩⟩ : Ellipse).size.w = 0 ∨ (⟨⟨-3, 2⟩, ⟨0, 5⟩⟩ : Ellipse).size.h = 0 := by decide

/-- Mirror symmetry about the vertical centre line: `x ↦ left + right - x`. -/
theorem ellipse_mirror_x (e : Ellipse) (x y : Int) :
    e.contains ⟨e.tl.x + (e.tl.x + e.size.w - 1) - x, y⟩ = e.contains ⟨x, y⟩ := by
  have h := (e.scanShape.symConvex y).sym x
  rwa [show e.tl.x + (e.tl.x + e.size.w) - 1 - x = e.tl.x + (e.tl.x + e.size.w - 1) - x by omega] at h

/-- Mirror symmetry about the horizontal centre line: `y ↦ top + bottom - y`. -/
theorem ellipse_mirror_y (e : Ellipse) (x y : Int) :
    e.contains ⟨x, e.tl.y + (e.tl.y + e.size.h - 1) - y⟩ = e.contains ⟨x, y⟩ := by
  by_cases hd : e.size.h = 0
  · rw [contains_false_of_zero (Or.inr hd), contains_false_of_zero (Or.inr hd)]
  · rw [← contains_mirror_y e x y]
    congr 2
    rw [center2x_y]; omega

/-- Every row is one contiguous run. -/
theorem ellipse_rows_contiguous (e : Ellipse) (y x1 x x2 : Int) (h1 : e.contains ⟨x1, y⟩ = true)
    (h2 : e.contains ⟨x2, y⟩ = true) (hx1 : x1 ≤ x) (hx2 : x ≤ x2) : e.contains ⟨x, y⟩ = true :=
  contains_convex_row h1 h2 hx1 hx2
example : (⟨⟨0, 0⟩, ⟨5, 3⟩⟩ : Ellipse).contains ⟨0, 1⟩ = true ∧
    (⟨⟨0, 0⟩, ⟨5, 3⟩⟩ : Ellipse).contains ⟨4, 1⟩ = true := by decide

/-- Every column is one contiguous run. -/
theorem ellipse_columns_contiguous (e : Ellipse) (x y1 y y2 : Int) (h1 : e.contains ⟨x, y1⟩ = true)
    (h2 : e.contains ⟨x, y2⟩ = true) (hy1 : y1 ≤ y) (hy2 : y ≤ y2) : e.contains ⟨x, y⟩ = true :=
  contains_convex_col h1 h2 hy1 hy2
example : (⟨⟨0, 0⟩, ⟨3, 5⟩⟩ : Ellipse).contains ⟨1, 0⟩ = true ∧
    (⟨⟨0, 0⟩, ⟨3, 5⟩⟩ : Ellipse).contains ⟨1, 4⟩ = true := by decide

end EG.C18
