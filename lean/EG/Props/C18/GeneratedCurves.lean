/-
  C18 — "a circle is an ellipse with equal axes", over the functions REGENERATED from the Rust text.

  `EG/Generated/CurveSrc.lean` (tools/tr_curve.py) is tied to the hand models in `Props/C05/GeneratedCircle.lean` and
  `Props/C05/GeneratedEllipse.lean`. Here C18's statements about circles and ellipses are restated about the
  regenerated `contains` / `points` themselves: the special small-diameter thresholds of `diameter_to_threshold`
  (used by both `Circle::threshold` and `EllipseContains::new`'s equal-axes arm) make the two agree on every point.
-/
import EG.Props.C05.GeneratedEllipse
import EG.Props.C18.Ellipse
import EG.Props.C18.Circle
namespace EG.C18.Src
open EG EG.Generated EG.C05.Src

/-- **An ellipse with equal axes accepts exactly the points of the circle of that diameter** (regenerated `contains` of
both; includes the special thresholds of diameters <= 4). -/
theorem src_circle_eq_ellipse_equal_axes (tl : Pt) (d : Nat) (h : DiamFitsI32 d) (p : Pt) :
    CurveSrc.Ellipse_ContainsPoint_contains ⟨tl, ⟨d, d⟩⟩ p = CurveSrc.Circle_ContainsPoint_contains ⟨tl, d⟩ p := by
  rw [Ellipse_contains_src_eq_model ⟨tl, ⟨d, d⟩⟩ p ⟨h, h⟩, Circle_contains_src_eq_model _ p h]
  exact circle_eq_ellipse_equal_axes tl d p
example : DiamFitsI32 3 := by decide
example : CurveSrc.Ellipse_ContainsPoint_contains ⟨⟨0, 0⟩, ⟨3, 3⟩⟩ ⟨0, 0⟩ = false := by decide

/-- ... and its regenerated `points()` iterator yields the same list as the circle's. -/
theorem src_circle_points_eq_ellipse_equal_axes (tl : Pt) (d : Nat) (h : (⟨tl, d⟩ : Circle).InRange) :
    srcEllipsePoints ⟨tl, ⟨d, d⟩⟩ = srcCirclePoints ⟨tl, d⟩ := by
  have hd : DiamFitsI32 d := .of_inRange h
  rw [ellipse_points_src_eq_model ⟨tl, ⟨d, d⟩⟩ ⟨hd, hd⟩, circle_points_src_eq_model _ hd]
  exact circle_points_eq_ellipse_equal_axes tl d h
example : (⟨⟨-3, 2⟩, 7⟩ : Circle).InRange := by decide

/-- The regenerated `diameter_to_threshold` at the diameters 0 to 4 (its arm `d * d - d / 2`). -/
theorem src_circle_small_thresholds :
    CurveSrc.diameter_to_threshold 0 = 0 ∧ CurveSrc.diameter_to_threshold 1 = 1 ∧ CurveSrc.diameter_to_threshold 2 = 3 ∧
    CurveSrc.diameter_to_threshold 3 = 8 ∧ CurveSrc.diameter_to_threshold 4 = 14 := by decide

/-- Membership (regenerated `contains`) is the threshold test on the ideal distance, every diameter >= 1. -/
theorem src_circle_contains_iff_threshold (c : CurveSrc.Circle) (hd : 1 ≤ c.diameter) (hf : DiamFitsI32 c.diameter)
    (p : Pt) :
    CurveSrc.Circle_ContainsPoint_contains c p = true ↔
      idealDist2 (circleOf c) p < (CurveSrc.diameter_to_threshold c.diameter : Int) := by
  rw [Circle_contains_src_eq_model c p hf, diameter_to_threshold_src_eq_model]
  exact circle_contains_iff_threshold (circleOf c) hd p
example : 1 ≤ (⟨⟨-3, 2⟩, 7⟩ : CurveSrc.Circle).diameter ∧ DiamFitsI32 (⟨⟨-3, 2⟩, 7⟩ : CurveSrc.Circle).diameter := by decide

/-- A regenerated circle of diameter 0 has no points. -/
theorem src_circle_zero_empty (c : CurveSrc.Circle) (h : c.diameter = 0) (p : Pt) :
    CurveSrc.Circle_ContainsPoint_contains c p = false := by
  rw [Circle_contains_src_eq_model c p (by unfold DiamFitsI32; omega)]
  exact circle_zero_empty (circleOf c) h p
example : (⟨⟨-3, 2⟩, 0⟩ : CurveSrc.Circle).diameter = 0 := rfl

end EG.C18.Src
