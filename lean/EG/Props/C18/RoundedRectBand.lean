/-
  C18 (rounded rectangle part, the band of half a pixel) — "corners include a point iff its centre is
  inside the ideal curve, up to a band of half a pixel", in exact integer form, derived from the exact
  ideal-ellipse theorems of Props/C18/RoundedRect.lean.

  Doubled coordinates as there: pixel `p` has centre `p + (1/2, 1/2)`; the ideal corner ellipse is
  centred at the inner corner of the corner box with semi-axes `rw`, `rh` (doubled: `2 rw`, `2 rh`);
  `dx2` / `dy2` are the squared doubled offsets between the two centres. The ellipse grown / shrunk
  by half a pixel has doubled semi-axes `2 rw ± 1`, `2 rh ± 1`; "centre strictly inside the ellipse
  with doubled semi-axes a, b" is `b² dx2 + a² dy2 < b² a²`. This is the band metric the oracle
  (`m_rrect::ideal_band`, class `C18:rrect-corner-outside-half-pixel-band`) evaluates on the real code.

  For every corner (all radii >= 1, elliptic, circular, and the small circular corners of radius 1
  and 2 with their special thresholds):
    centre inside or on the shrunk ellipse  ⟹  included  ⟹  centre strictly inside the IDEAL
    ellipse  ⟹  centre strictly inside the grown ellipse,
  i.e. a pixel whose centre is not strictly inside the grown ellipse is excluded. And for the whole
  shape (any radii, `confine` applied): membership = inside the rectangle and accepted by each corner
  whose box contains the point; hence the same band, corner by corner.
-/
import EG.Lemmas.Glue2RRectBand
namespace EG.C18.RRectBand
open EG EG.RoundedRect EG.EllipseQuadrant

/-- An included pixel's centre is strictly inside the ideal quarter ellipse (all radii >= 1; for
elliptic corners and circular corners of radius > 2 this is an equivalence:
`C18.corner_contains_iff_ideal_ellipse`, `C18.corner_contains_iff_ideal_circle`). -/
theorem corner_contains_imp_ideal (tl : Pt) (r : Sz) (k : Quadrant) (hw : 1 ≤ r.w) (hh : 1 ≤ r.h)
    (p : Pt) (h : (EllipseQuadrant.new tl r k).contains p = true) :
    (r.h * 2) ^ 2 * dx2 tl r k p + (r.w * 2) ^ 2 * dy2 tl r k p < (r.h * 2) ^ 2 * (r.w * 2) ^ 2 := by
  -- the corner test is the ellipse test of the doubled radii about the inner corner
  rw [contains_eq tl r k hw hh] at h
  have hi := EllipseContains.ideal_of_contains h
  dsimp only at hi
  have sq : ∀ z : Int, ((z ^ 2).toNat : Int) = z * z := fun z => by
    rw [Int.pow_succ, Int.pow_succ, Int.pow_zero, Int.one_mul, Int.toNat_of_nonneg (mul_self_nonneg z)]
  unfold dx2 dy2
  rw [Nat.pow_two, Nat.pow_two]
  zify
  rw [sq, sq]
  exact_mod_cast hi
example : (1 : Nat) ≤ (⟨2, 2⟩ : Sz).w ∧ (1 : Nat) ≤ (⟨2, 2⟩ : Sz).h ∧
    (EllipseQuadrant.new ⟨0, 0⟩ ⟨2, 2⟩ .topLeft).contains ⟨1, 0⟩ = true := by decide

/-- **Outer edge of the band**: an included pixel's centre is strictly inside the quarter ellipse
grown by half a pixel. -/
theorem corner_band_outer (tl : Pt) (r : Sz) (k : Quadrant) (hw : 1 ≤ r.w) (hh : 1 ≤ r.h)
    (p : Pt) (h : (EllipseQuadrant.new tl r k).contains p = true) :
    (r.h * 2 + 1) ^ 2 * dx2 tl r k p + (r.w * 2 + 1) ^ 2 * dy2 tl r k p <
      (r.h * 2 + 1) ^ 2 * (r.w * 2 + 1) ^ 2 :=
  Glue2.inside_grow (Nat.pow_le_pow_left (by omega) 2) (Nat.pow_le_pow_left (by omega) 2)
    (corner_contains_imp_ideal tl r k hw hh p h)
example : (1 : Nat) ≤ (⟨3, 5⟩ : Sz).w ∧ (1 : Nat) ≤ (⟨3, 5⟩ : Sz).h ∧
    (EllipseQuadrant.new ⟨0, 0⟩ ⟨3, 5⟩ .topLeft).contains ⟨1, 2⟩ = true := by decide

/-- The same, contrapositive: **a pixel whose centre is not strictly inside the grown ellipse is
excluded.** -/
theorem corner_excluded_outside_grown (tl : Pt) (r : Sz) (k : Quadrant) (hw : 1 ≤ r.w) (hh : 1 ≤ r.h)
    (p : Pt)
    (h : (r.h * 2 + 1) ^ 2 * (r.w * 2 + 1) ^ 2 ≤
      (r.h * 2 + 1) ^ 2 * dx2 tl r k p + (r.w * 2 + 1) ^ 2 * dy2 tl r k p) :
    (EllipseQuadrant.new tl r k).contains p = false :=
  Bool.eq_false_iff.mpr fun hc => by have := corner_band_outer tl r k hw hh p hc; omega
example : (7 * 2 + 1) ^ 2 * (7 * 2 + 1) ^ 2 ≤
    (7 * 2 + 1) ^ 2 * dx2 ⟨0, 0⟩ ⟨7, 7⟩ .topLeft ⟨0, 0⟩ + (7 * 2 + 1) ^ 2 * dy2 ⟨0, 0⟩ ⟨7, 7⟩ .topLeft ⟨0, 0⟩ := by
  decide

/-- **Inner edge of the band**: a pixel whose centre is inside or on the quarter ellipse shrunk by
half a pixel is included. -/
theorem corner_band_inner (tl : Pt) (r : Sz) (k : Quadrant) (hw : 1 ≤ r.w) (hh : 1 ≤ r.h)
    (p : Pt)
    (h : (r.h * 2 - 1) ^ 2 * dx2 tl r k p + (r.w * 2 - 1) ^ 2 * dy2 tl r k p ≤
      (r.h * 2 - 1) ^ 2 * (r.w * 2 - 1) ^ 2) :
    (EllipseQuadrant.new tl r k).contains p = true := by
  by_cases hne : r.w = r.h
  · -- circular corner, every radius: within `d - 1` of the centre is below the threshold of `d = 2 r`
    rw [← hne, ← Nat.mul_add] at h
    have hc := Nat.le_of_mul_le_mul_left h (Nat.pow_pos (by omega))
    have ht := inner_lt_threshold (d := r.w * 2) (by omega)
    rw [contains_iff_circle tl r k hne hw]
    rw [Nat.pow_two] at hc
    omega
  · exact (contains_iff_ideal_ellipse tl r k hw hh hne p).mpr
      (Glue2.inside_grow_of_le (Nat.pow_pos (by omega)) (Nat.pow_lt_pow_left (by omega) (by decide))
        (Nat.pow_le_pow_left (by omega) 2) (Glue2.dx2_pos tl r k p) h)
example : (5 * 2 - 1) ^ 2 * dx2 ⟨0, 0⟩ ⟨3, 5⟩ .topLeft ⟨1, 2⟩ + (3 * 2 - 1) ^ 2 * dy2 ⟨0, 0⟩ ⟨3, 5⟩ .topLeft ⟨1, 2⟩ ≤
    (5 * 2 - 1) ^ 2 * (3 * 2 - 1) ^ 2 := by decide

/-- The offsets between the centres are odd in doubled coordinates, so both squares are >= 1 (no
pixel centre lies on an axis of a corner ellipse). -/
theorem corner_offsets_pos (tl : Pt) (r : Sz) (k : Quadrant) (p : Pt) :
    1 ≤ dx2 tl r k p ∧ 1 ≤ dy2 tl r k p := ⟨Glue2.dx2_pos tl r k p, Glue2.dy2_pos tl r k p⟩

/-- The corner test of a quadrant, as a predicate. -/
def CornerTest (tl : Pt) (rad : Sz) (k : Quadrant) (p : Pt) : Prop :=
  (EllipseQuadrant.new tl rad k).contains p = true

/-- Centre strictly inside the corner ellipse grown by half a pixel. -/
def InGrown (tl : Pt) (rad : Sz) (k : Quadrant) (p : Pt) : Prop :=
  (rad.h * 2 + 1) ^ 2 * dx2 tl rad k p + (rad.w * 2 + 1) ^ 2 * dy2 tl rad k p <
    (rad.h * 2 + 1) ^ 2 * (rad.w * 2 + 1) ^ 2

/-- Centre inside or on the corner ellipse shrunk by half a pixel. -/
def InShrunk (tl : Pt) (rad : Sz) (k : Quadrant) (p : Pt) : Prop :=
  (rad.h * 2 - 1) ^ 2 * dx2 tl rad k p + (rad.w * 2 - 1) ^ 2 * dy2 tl rad k p ≤
    (rad.h * 2 - 1) ^ 2 * (rad.w * 2 - 1) ^ 2

/-- **Membership of any rounded rectangle, corner by corner** (all radii: `confine_radii()` is
applied first; `Glue2.CornerWise T r p` = `T` holds at each of the four corners whose radius-sized
box contains `p`): inside the rectangle and accepted by the quarter ellipse of every such corner. -/
theorem rrect_contains_iff_corner_wise (r : RoundedRect) (h : r.InRange) (p : Pt) :
    r.contains p = true ↔ r.rect.contains p = true ∧ Glue2.CornerWise CornerTest r.confineRadii p :=
  contains_iff_confined r h p
example : (⟨⟨⟨-3, 2⟩, ⟨7, 5⟩⟩, ⟨⟨2, 3⟩, ⟨9, 1⟩, ⟨0, 0⟩, ⟨4, 4⟩⟩⟩ : RoundedRect).InRange := by decide

/-- **Outer edge, whole shape**: an included point is, in every corner box that contains it,
strictly inside that corner's ellipse grown by half a pixel. -/
theorem rrect_band_outer (r : RoundedRect) (h : r.InRange) (p : Pt) (hc : r.contains p = true) :
    Glue2.CornerWise InGrown r.confineRadii p := by
  obtain ⟨hb, hw⟩ := (rrect_contains_iff_corner_wise r h p).mp hc
  exact Glue2.CornerWise.imp (r := r.confineRadii) hb
    (fun tl rad k h1 h2 ht => corner_band_outer tl rad k h1 h2 p ht) hw
example : (⟨⟨⟨0, 0⟩, ⟨8, 6⟩⟩, CornerRadii.new ⟨2, 2⟩⟩ : RoundedRect).InRange ∧
    (⟨⟨⟨0, 0⟩, ⟨8, 6⟩⟩, CornerRadii.new ⟨2, 2⟩⟩ : RoundedRect).contains ⟨1, 0⟩ = true := by decide

/-- **Inner edge, whole shape**: a point of the rectangle that is, in every corner box that contains
it, inside or on that corner's ellipse shrunk by half a pixel, is included (a point in no corner box
satisfies this vacuously: the straight part is full). -/
theorem rrect_band_inner (r : RoundedRect) (h : r.InRange) (p : Pt)
    (hb : r.rect.contains p = true) (hs : Glue2.CornerWise InShrunk r.confineRadii p) :
    r.contains p = true :=
  (rrect_contains_iff_corner_wise r h p).mpr ⟨hb,
    Glue2.CornerWise.imp (r := r.confineRadii) hb
      (fun tl rad k h1 h2 ht => corner_band_inner tl rad k h1 h2 p ht) hs⟩
example : let r : RoundedRect := ⟨⟨⟨0, 0⟩, ⟨16, 12⟩⟩, CornerRadii.new ⟨5, 4⟩⟩
    r.InRange ∧ r.rect.contains ⟨2, 2⟩ = true ∧ Glue2.CornerWise InShrunk r.confineRadii ⟨2, 2⟩ := by
  refine ⟨by decide, by decide, ?_⟩
  have e : (⟨⟨⟨0, 0⟩, ⟨16, 12⟩⟩, CornerRadii.new ⟨5, 4⟩⟩ : RoundedRect).confineRadii =
      ⟨⟨⟨0, 0⟩, ⟨16, 12⟩⟩, CornerRadii.new ⟨5, 4⟩⟩ := by decide
  rw [e]
  unfold Glue2.CornerWise InShrunk
  decide

/-- Contrapositive of the outer edge, whole shape: a point of some corner box whose centre is not
strictly inside that corner's grown ellipse is excluded. -/
theorem rrect_excluded_outside_grown (r : RoundedRect) (h : r.InRange) (p : Pt)
    (hn : ¬ Glue2.CornerWise InGrown r.confineRadii p) : r.contains p = false :=
  Bool.eq_false_iff.mpr fun hc => hn (rrect_band_outer r h p hc)
example : let r : RoundedRect := ⟨⟨⟨0, 0⟩, ⟨16, 12⟩⟩, CornerRadii.new ⟨5, 4⟩⟩
    r.InRange ∧ ¬ Glue2.CornerWise InGrown r.confineRadii ⟨0, 0⟩ := by
  refine ⟨by decide, ?_⟩
  have e : (⟨⟨⟨0, 0⟩, ⟨16, 12⟩⟩, CornerRadii.new ⟨5, 4⟩⟩ : RoundedRect).confineRadii =
      ⟨⟨⟨0, 0⟩, ⟨16, 12⟩⟩, CornerRadii.new ⟨5, 4⟩⟩ := by decide
  rw [e]
  unfold Glue2.CornerWise InGrown
  decide

end EG.C18.RRectBand
