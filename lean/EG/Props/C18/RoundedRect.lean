/-
  C18 (rounded rectangle part) — corners include a point iff its centre is inside the ideal curve,
  up to a band of half a pixel; every row and column is one contiguous run; radii after
  `confine_radii()` never add up to more than the side they share; the shape equals the rectangle
  for zero radii and the ellipse when the sides are even and every radius is half a side.

  Model: `EG.Model.RoundedRect`. `confine` is modelled as repaired twice (scale by the side with the
  smallest ratio; radius sums computed without saturation), so `confine_fits` holds for ALL radii.
  Doubled coordinates: pixel `p` has centre `p + (1/2, 1/2)`; the ideal corner ellipse has its centre
  at the inner corner of the corner box and semi-axes = the corner radius; `dx2`/`dy2` are the
  squared doubled offsets between the two centres.
-/
import EG.Lemmas.RoundedRectEllipse
import EG.Lemmas.EllipsePoints
namespace EG.C18
open EG EG.RoundedRect

/-- **After `confine` the two radii along each of the four sides add up to at most the side** — for
all radii and sizes (no guard: the sums are exact). -/
theorem confine_fits (c : CornerRadii) (bb : Sz) : (c.confine bb).Fits bb :=
  CornerRadii.confine_fits c bb

/-- The same for `RoundedRectangle::confine_radii`. -/
theorem confine_radii_fits (r : RoundedRect) : r.confineRadii.corners.Fits r.rect.size := by
  dsimp only [RoundedRect.confineRadii]
  exact CornerRadii.confine_fits r.corners r.rect.size

/-- Radii that already fit are unchanged. -/
theorem confine_noop (c : CornerRadii) (bb : Sz) (h : c.Fits bb) : c.confine bb = c :=
  CornerRadii.confine_noop c bb h
example : (⟨⟨10, 15⟩, ⟨10, 15⟩, ⟨10, 15⟩, ⟨10, 15⟩⟩ : CornerRadii).Fits ⟨20, 30⟩ := by decide

/-- No radius grows. -/
theorem confine_le (c : CornerRadii) (bb : Sz) :
    (c.confine bb).tl.w ≤ c.tl.w ∧ (c.confine bb).tl.h ≤ c.tl.h ∧
    (c.confine bb).tr.w ≤ c.tr.w ∧ (c.confine bb).tr.h ≤ c.tr.h ∧
    (c.confine bb).br.w ≤ c.br.w ∧ (c.confine bb).br.h ≤ c.br.h ∧
    (c.confine bb).bl.w ≤ c.bl.w ∧ (c.confine bb).bl.h ≤ c.bl.h := by
  obtain ⟨_, hle, _⟩ := CornerRadii.factor_spec c bb
  unfold CornerRadii.confine
  by_cases hlt : (c.factor bb).1 < (c.factor bb).2
  · simp only [hlt, ↓reduceIte, CornerRadii.scaleSz]
    exact ⟨CornerRadii.scaleLength_le hle _, CornerRadii.scaleLength_le hle _,
      CornerRadii.scaleLength_le hle _, CornerRadii.scaleLength_le hle _,
      CornerRadii.scaleLength_le hle _, CornerRadii.scaleLength_le hle _,
      CornerRadii.scaleLength_le hle _, CornerRadii.scaleLength_le hle _⟩
  · simp only [hlt, ↓reduceIte]
    exact ⟨Nat.le_refl _, Nat.le_refl _, Nat.le_refl _, Nat.le_refl _, Nat.le_refl _, Nat.le_refl _,
      Nat.le_refl _, Nat.le_refl _⟩

/-- `confine` is idempotent. -/
theorem confine_idempotent (c : CornerRadii) (bb : Sz) : (c.confine bb).confine bb = c.confine bb :=
  CornerRadii.confine_confine c bb

/-- The witnesses of the two repaired defects (largest absolute overlap; radius sums above
`u32::MAX`) and the unit test of corner_radii.rs, evaluated on the model. -/
theorem confine_witnesses :
    (⟨⟨60, 12⟩, ⟨60, 0⟩, ⟨0, 0⟩, ⟨0, 13⟩⟩ : CornerRadii).confine ⟨100, 10⟩ =
      ⟨⟨24, 4⟩, ⟨24, 0⟩, ⟨0, 0⟩, ⟨0, 5⟩⟩ ∧
    (CornerRadii.new ⟨4294967295, 4294967295⟩).confine ⟨100, 100⟩ = CornerRadii.new ⟨50, 50⟩ ∧
    (⟨⟨10, 20⟩, ⟨10, 15⟩, ⟨18, 15⟩, ⟨10, 15⟩⟩ : CornerRadii).confine ⟨20, 30⟩ =
      ⟨⟨7, 14⟩, ⟨7, 10⟩, ⟨12, 10⟩, ⟨7, 10⟩⟩ := by decide

/-- **With all radii zero the rounded rectangle is the rectangle**: same `contains`, same
`points()`. -/
theorem zero_radii_eq_rectangle (rect : Rect) (h : rect.InRange) :
    (∀ p, (⟨rect, CornerRadii.zero⟩ : RoundedRect).contains p = rect.contains p) ∧
    (⟨rect, CornerRadii.zero⟩ : RoundedRect).points = rect.points :=
  ⟨RoundedRect.zero_contains rect h, RoundedRect.zero_points rect h⟩
example : (⟨⟨-3, 2⟩, ⟨7, 5⟩⟩ : Rect).InRange := by decide

/-- A point of the bounding box outside the corner boxes of its row is inside the shape. -/
theorem rrect_straight_part_full (r : RoundedRect) (h : r.InRange) (p : Pt)
    (hb : r.boundingBox.contains p = true)
    (hl : ∀ q, (RRContains.new r).leftCorner p.y = some q → q.colsEnd ≤ p.x)
    (hr : ∀ q, (RRContains.new r).rightCorner p.y = some q → p.x < q.colsStart) :
    r.contains p = true :=
  (RoundedRect.contains_iff_corners r h p hb).mpr
    ⟨fun q hq hx => by have := hl q hq; omega, fun q hq hx => by have := hr q hq; omega⟩
example : let r : RoundedRect := ⟨⟨⟨0, 0⟩, ⟨8, 6⟩⟩, CornerRadii.new ⟨2, 2⟩⟩
    r.InRange ∧ r.boundingBox.contains ⟨3, 0⟩ = true ∧
    (∀ q, (RRContains.new r).leftCorner 0 = some q → q.colsEnd ≤ 3) ∧
    (∀ q, (RRContains.new r).rightCorner 0 = some q → 3 < q.colsStart) := by
  exact ⟨by decide, by decide, RRContains.forall_leftCorner.mpr (by decide),
    RRContains.forall_rightCorner.mpr (by decide)⟩

/-- **In the corner boxes membership is the corner ellipse test**: a point of the bounding box is
inside iff the left corner of its row accepts it (if the point lies in that corner's columns) and
the right corner of its row accepts it (likewise) — both, when the boxes of opposite corners
overlap. -/
theorem rrect_contains_corners (r : RoundedRect) (h : r.InRange) (p : Pt)
    (hb : r.boundingBox.contains p = true) :
    r.contains p = true ↔
      (∀ q, (RRContains.new r).leftCorner p.y = some q → p.x < q.colsEnd → q.contains p = true) ∧
      (∀ q, (RRContains.new r).rightCorner p.y = some q → q.colsStart ≤ p.x → q.contains p = true) :=
  RoundedRect.contains_iff_corners r h p hb
example : (⟨⟨⟨0, 0⟩, ⟨8, 6⟩⟩, CornerRadii.new ⟨2, 2⟩⟩ : RoundedRect).boundingBox.contains ⟨0, 0⟩ = true := by
  decide

/-- **Elliptic corner (`rw ≠ rh`): included iff the pixel centre is strictly inside the ideal
quarter ellipse** with semi-axes `rw`, `rh` centred at the inner corner of the corner box. -/
theorem corner_contains_iff_ideal_ellipse (tl : Pt) (r : Sz) (k : Quadrant) (hw : 1 ≤ r.w)
    (hh : 1 ≤ r.h) (hne : r.w ≠ r.h) (p : Pt) :
    (EllipseQuadrant.new tl r k).contains p = true ↔
      (r.h * 2) ^ 2 * EllipseQuadrant.dx2 tl r k p + (r.w * 2) ^ 2 * EllipseQuadrant.dy2 tl r k p <
        (r.h * 2) ^ 2 * (r.w * 2) ^ 2 :=
  EllipseQuadrant.contains_iff_ideal_ellipse tl r k hw hh hne p
example : (1 : Nat) ≤ (⟨3, 5⟩ : Sz).w ∧ (1 : Nat) ≤ (⟨3, 5⟩ : Sz).h ∧ (⟨3, 5⟩ : Sz).w ≠ (⟨3, 5⟩ : Sz).h := by
  decide

/-- **Circular corner of radius > 2: included iff the pixel centre is strictly inside the ideal
quarter circle.** -/
theorem corner_contains_iff_ideal_circle (tl : Pt) (r : Sz) (k : Quadrant) (he : r.w = r.h)
    (h2 : 2 < r.w) (p : Pt) :
    (EllipseQuadrant.new tl r k).contains p = true ↔
      EllipseQuadrant.dx2 tl r k p + EllipseQuadrant.dy2 tl r k p < (r.w * 2) ^ 2 :=
  EllipseQuadrant.contains_iff_ideal_circle tl r k he h2 p
example : (⟨3, 3⟩ : Sz).w = (⟨3, 3⟩ : Sz).h ∧ 2 < (⟨3, 3⟩ : Sz).w := by decide

/-- **Circular corners of radius 1 and 2** use the thresholds 3 and 14 instead of the ideal 4 and
16 (the small-circle special cases). The offsets are odd, so `dx2 + dy2` is one of 2, 10, 18, 26,
..: none of them lies in `3..4` or in `14..16`, and in both cases the test accepts exactly the ideal
set (this remark is not part of the statement). -/
theorem corner_contains_iff_small_circle (tl : Pt) (r : Sz) (k : Quadrant) (he : r.w = r.h)
    (h1 : 1 ≤ r.w) (h2 : r.w ≤ 2) (p : Pt) :
    (EllipseQuadrant.new tl r k).contains p = true ↔
      EllipseQuadrant.dx2 tl r k p + EllipseQuadrant.dy2 tl r k p < (if r.w = 1 then 3 else 14) :=
  EllipseQuadrant.contains_iff_small_circle tl r k he h1 h2 p
example : (⟨2, 2⟩ : Sz).w = (⟨2, 2⟩ : Sz).h ∧ 1 ≤ (⟨2, 2⟩ : Sz).w ∧ (⟨2, 2⟩ : Sz).w ≤ 2 := by decide

/-- **Every row of a rounded rectangle is one contiguous run.** -/
theorem rrect_rows_contiguous (r : RoundedRect) (h : r.InRange) (y x1 x2 x : Int)
    (h1 : r.contains ⟨x1, y⟩ = true) (h2 : r.contains ⟨x2, y⟩ = true) (hx : x1 ≤ x ∧ x ≤ x2) :
    r.contains ⟨x, y⟩ = true :=
  RoundedRect.row_contiguous r h y x1 x2 x h1 h2 hx
example : let r : RoundedRect := ⟨⟨⟨0, 0⟩, ⟨8, 6⟩⟩, CornerRadii.new ⟨2, 2⟩⟩
    r.InRange ∧ r.contains ⟨1, 0⟩ = true ∧ r.contains ⟨6, 0⟩ = true := by decide +kernel

/-- **Every column of a rounded rectangle is one contiguous run.** -/
theorem rrect_columns_contiguous (r : RoundedRect) (h : r.InRange) (x y1 y2 y : Int)
    (h1 : r.contains ⟨x, y1⟩ = true) (h2 : r.contains ⟨x, y2⟩ = true) (hy : y1 ≤ y ∧ y ≤ y2) :
    r.contains ⟨x, y⟩ = true :=
  RoundedRect.column_contiguous r h x y1 y2 y h1 h2 hy
example : let r : RoundedRect := ⟨⟨⟨0, 0⟩, ⟨8, 6⟩⟩, CornerRadii.new ⟨2, 2⟩⟩
    r.InRange ∧ r.contains ⟨0, 1⟩ = true ∧ r.contains ⟨0, 4⟩ = true := by decide

/-- **`half_radii_eq_ellipse`**: with sides `2a x 2b` and every corner radius `(a, b)` the rounded
rectangle is the modelled `Ellipse` with the same bounding box: `contains` agrees at EVERY point
(inside the box by the corner-quadrant argument, outside it both are false), and `points()` is the
same list as `Ellipse::points()` (same points, same order). -/
theorem half_radii_eq_ellipse (tl : Pt) (a b : Nat) (h : (halfRadii tl a b).InRange) :
    (∀ p, (halfRadii tl a b).contains p = (⟨tl, ⟨a * 2, b * 2⟩⟩ : Ellipse).contains p) ∧
    (halfRadii tl a b).points = (⟨tl, ⟨a * 2, b * 2⟩⟩ : Ellipse).points :=
  ⟨half_radii_contains tl a b h, half_radii_points tl a b h⟩
example : (halfRadii ⟨-3, 2⟩ 4 3).InRange := by decide
example : (halfRadii ⟨-3, 2⟩ 4 3).points = (⟨⟨-3, 2⟩, ⟨8, 6⟩⟩ : Ellipse).points ∧
    (halfRadii ⟨-3, 2⟩ 4 3).points.length ≥ 20 :=
  ⟨(half_radii_eq_ellipse ⟨-3, 2⟩ 4 3 (by decide)).2, by decide +kernel⟩

-- (closed) the band of half a pixel stated with grown / shrunk semi-axes is proved from the exact ideal-ellipse theorems above, for every corner and for the whole shape, in Props/C18/RoundedRectBand.lean (`corner_band_outer`, `corner_band_inner`, `rrect_band_outer`, `rrect_band_inner`); the oracle evaluates the same +-1/2 band on the real code
end EG.C18
