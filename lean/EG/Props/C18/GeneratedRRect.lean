/-
  C18 (rounded rectangle part) — the REGENERATED model of `CornerRadii` / `EllipseQuadrant` / `RoundedRectangle` /
  `RoundedRectangleContains` equals the hand-written one.

  `EG/Generated/RRectSrc.lean` is written by `tools/tr_rrect.py` from /repo's Rust text on every run of a check (one
  Lean `def` per Rust function of src/primitives/rounded_rectangle/{corner_radii,mod,ellipse_quadrant,points}.rs, arm
  for arm; every Rust primitive is a function of the small trusted preludes `EG/Model/RectSrcPrelude.lean` and
  `EG/Model/RRectSrcPrelude.lean`; `Rectangle` / `Point` / `Size` calls are the regenerated `RectSrc.*`). This file
  proves, for every translated function of corner_radii.rs, ellipse_quadrant.rs and mod.rs and for the free
  `center_2x` of ellipse/mod.rs, that the generated definition equals the hand-written model function of
  `EG/Model/RoundedRect.lean` (`<name>_src_eq_model`; `<name>_src_closed_form` for the builder, which the hand model
  lacks), and restates C18's headline theorems about `confine` over the generated functions (`src_*`). The iterators
  of points.rs, `RoundedRectangle::points` and the C05 statements are in `EG/Props/C05/GeneratedRRect.lean`.

  The generated structures are the Rust declarations (`CornerRadii { top_left, .. }`, `EllipseQuadrant`, ...); the maps
  `crOf`, `qOf`, `eqOf`, `rrOf`, `rcOf` send them to the hand model's structures (field for field).

  Where the two differ (stated exactly, as hypotheses):
  * `confine` ends in `(u64 product / corner_size) as u32` (the low 32 bits); the hand model has no truncation. They
    agree when the radii are `u32` values (`RadiiU32`: the type bound that `Nat` lacks) — the quotient is then at most
    the radius because `size < corner_size`. Without the bound the cast does change the value
    (`confine_differs_without_guard`).
  * `Point + Size`, `Point - Size` cast the size with `as i32` (wrapping) behind a `debug_assert!`, `radius * 2` is a
    `u32` product, `RoundedRectangleContains::new` casts the corner box heights with `as i32`; the hand model computes
    mathematically. They agree when radius and sides are at most `2^30` (`SmallSz`: then `2 * radius - 1` and the
    sides fit `i32`): `EllipseQuadrant::new` needs it of the radius, `get_confined_corner_quadrant`,
    `RoundedRectangleContains::new` and `RoundedRectangle::contains` need `SrcGuard` = the rectangle's size is
    `SmallSz` and the radii are `u32` (confined radii are at most the sides).
  * `offset` needs `IsU32` of the rectangle's size (as `Rectangle::offset` does) and `offset` in the `i32` range.
  * `EllipseContains::{new, contains}` are not regenerated by this part (the prelude binds them to the hand model).
  Everything else (`CornerRadii::new`, the builder, `RoundedRectangle::new / with_equal_corners / bounding_box /
  translate`, `EllipseQuadrant::contains / bounding_box`, `RoundedRectangleContains::contains`) is unconditional.
-/
import EG.Generated.RRectSrc
import EG.Props.C16.Generated
import EG.Props.C16.GeneratedHelpers
import EG.Props.C18.RoundedRect
namespace EG.C18.RRSrc
open EG EG.RectSrcPrelude EG.RRectSrcPrelude EG.Generated EG.C16.Src

def crOf (c : RRectSrc.CornerRadii) : EG.CornerRadii := ⟨c.top_left, c.top_right, c.bottom_right, c.bottom_left⟩
def crTo (c : EG.CornerRadii) : RRectSrc.CornerRadii := ⟨c.tl, c.tr, c.br, c.bl⟩
def qOf : RRectSrc.Quadrant → EG.Quadrant
  | .TopLeft => .topLeft | .TopRight => .topRight | .BottomRight => .bottomRight | .BottomLeft => .bottomLeft
def eqOf (e : RRectSrc.EllipseQuadrant) : EG.EllipseQuadrant := ⟨e.bounding_box, e.center_2x, e.ellipse⟩
def rrOf (r : RRectSrc.RoundedRectangle) : EG.RoundedRect := ⟨r.rectangle, crOf r.corners⟩
def rrTo (r : EG.RoundedRect) : RRectSrc.RoundedRectangle := ⟨r.rect, crTo r.corners⟩
def rcOf (c : RRectSrc.RoundedRectangleContains) : EG.RRContains :=
  { rowsStart := c.rows.start, rowsEnd := c.rows.end_, colsStart := c.columns.start, colsEnd := c.columns.end_,
    slStart := c.straight_rows_left.start, slEnd := c.straight_rows_left.end_,
    srStart := c.straight_rows_right.start, srEnd := c.straight_rows_right.end_,
    topLeft := eqOf c.top_left, topRight := eqOf c.top_right, bottomLeft := eqOf c.bottom_left,
    bottomRight := eqOf c.bottom_right }

@[simp] theorem crOf_crTo (c : EG.CornerRadii) : crOf (crTo c) = c := rfl
@[simp] theorem rrOf_rrTo (r : EG.RoundedRect) : rrOf (rrTo r) = r := rfl

/-- every radius is a `u32` value (the type invariant of `Size`, not carried by `Nat`) -/
def RadiiU32 (c : EG.CornerRadii) : Prop := IsU32 c.tl ∧ IsU32 c.tr ∧ IsU32 c.br ∧ IsU32 c.bl
instance (c : EG.CornerRadii) : Decidable (RadiiU32 c) := by unfold RadiiU32; exact inferInstance
/-- `width, height <= 2^30`: `2 * width - 1` fits `i32`, `width * 2` fits `u32`. -/
def SmallSz (s : Sz) : Prop := s.w ≤ 1073741824 ∧ s.h ≤ 1073741824
instance (s : Sz) : Decidable (SmallSz s) := by unfold SmallSz; exact inferInstance
def SrcGuard (r : EG.RoundedRect) : Prop := SmallSz r.rect.size ∧ RadiiU32 r.corners
instance (r : EG.RoundedRect) : Decidable (SrcGuard r) := by unfold SrcGuard; exact inferInstance

example : RadiiU32 ⟨⟨60, 12⟩, ⟨60, 0⟩, ⟨0, 0⟩, ⟨4294967295, 13⟩⟩ := by decide
example : SmallSz ⟨1073741824, 7⟩ := by decide
example : SrcGuard ⟨⟨⟨-3, 2⟩, ⟨7, 5⟩⟩, ⟨⟨2, 3⟩, ⟨9, 1⟩, ⟨0, 0⟩, ⟨4294967295, 4⟩⟩⟩ := by decide

theorem SmallSz.fits {s : Sz} (h : SmallSz s) : FitsI32 s := by unfold SmallSz at h; unfold FitsI32; omega

theorem CornerRadii_new_src_eq_model (r : Sz) : crOf (RRectSrc.CornerRadii_new r) = CornerRadii.new r := rfl

/-- the body of the loop of `confine` (as `simp` normalises the generated pattern-matching `fun`) is the hand
model's `confineStep` -/
theorem confine_body_src_eq_model :
    (fun (x y : Nat × Nat) =>
      if (u128_lt (u128_mul (u128_from_u32 y.1) (u128_from_u64 x.2))
          (u128_mul (u128_from_u32 x.1) (u128_from_u64 y.2))) = true then (y.1, y.2)
      else (x.1, x.2)) = CornerRadii.confineStep := by
  funext x y
  obtain ⟨a, b⟩ := x
  obtain ⟨c, d⟩ := y
  simp only [CornerRadii.confineStep, u128_lt, u128_mul, u128_from_u32, u128_from_u64, decide_eq_true_eq]

theorem scale_no_wrap {f : Nat × Nat} (hf : f.1 < f.2) {a : Nat} (ha : a ≤ 4294967295) :
    a * f.1 / f.2 % 4294967296 = CornerRadii.scaleLength f a := by
  have : CornerRadii.scaleLength f a ≤ a := CornerRadii.scaleLength_le (Nat.le_of_lt hf) a
  unfold CornerRadii.scaleLength at this ⊢
  exact Nat.mod_eq_of_lt (by omega)

theorem CornerRadii_confine_src_eq_model (c : RRectSrc.CornerRadii) (bb : Sz) (h : RadiiU32 (crOf c)) :
    crOf (RRectSrc.CornerRadii_confine c bb) = (crOf c).confine bb := by
  obtain ⟨tl, tr, br, bl⟩ := c
  obtain ⟨⟨h1, h2⟩, ⟨h3, h4⟩, ⟨h5, h6⟩, ⟨h7, h8⟩⟩ := h
  simp only [crOf] at h1 h2 h3 h4 h5 h6 h7 h8
  unfold RRectSrc.CornerRadii_confine
  simp only [RRectSrc.CornerRadii_top_left, RRectSrc.CornerRadii_top_right, RRectSrc.CornerRadii_bottom_right,
    RRectSrc.CornerRadii_bottom_left, Size_width, Size_height, u64_add, u64_from_u32,
    confine_body_src_eq_model]
  have hf : List.foldl CornerRadii.confineStep (1, 1)
      [(bb.w, tl.w + tr.w), (bb.h, tr.h + br.h), (bb.w, bl.w + br.w), (bb.h, tl.h + bl.h)] =
      (⟨tl, tr, br, bl⟩ : EG.CornerRadii).factor bb := rfl
  rw [hf]
  generalize hfe : (⟨tl, tr, br, bl⟩ : EG.CornerRadii).factor bb = f
  obtain ⟨f1, f2⟩ := f
  simp only [CornerRadii.confine, crOf, hfe, u64_lt, decide_eq_true_eq]
  by_cases hlt : f1 < f2
  · simp only [hlt, ↓reduceIte, RRectSrc.CornerRadii_mk, RectSrc.Size_new, Size_mk,
      u64_as_u32, u64_div, u64_mul, CornerRadii.scaleSz]
    have hs : ∀ a, a ≤ 4294967295 → a * f1 / f2 % 4294967296 = CornerRadii.scaleLength (f1, f2) a :=
      fun a ha => scale_no_wrap (f := (f1, f2)) hlt ha
    rw [hs _ h1, hs _ h2, hs _ h3, hs _ h4, hs _ h5, hs _ h6, hs _ h7, hs _ h8]
  · simp only [hlt, ↓reduceIte]

/-- Without the `u32` bound on the radii the final `as u32` does change the value (the guard is needed). -/
theorem confine_differs_without_guard :
    crOf (RRectSrc.CornerRadii_confine ⟨⟨8589934592, 0⟩, ⟨8589934592, 0⟩, ⟨0, 0⟩, ⟨0, 0⟩⟩ ⟨17179869182, 10⟩) ≠
      (⟨⟨8589934592, 0⟩, ⟨8589934592, 0⟩, ⟨0, 0⟩, ⟨0, 0⟩⟩ : EG.CornerRadii).confine ⟨17179869182, 10⟩ := by
  decide

/-! ### `CornerRadiiBuilder` (closed forms: the hand model has no builder) -/

theorem CornerRadiiBuilder_new_src_closed_form :
    crOf (RRectSrc.CornerRadiiBuilder_build RRectSrc.CornerRadiiBuilder_new) = CornerRadii.new Sz.zero := rfl
theorem CornerRadiiBuilder_all_src_closed_form (b : RRectSrc.CornerRadiiBuilder) (r : Sz) :
    crOf (RRectSrc.CornerRadiiBuilder_all b r).corners = CornerRadii.new r := rfl
theorem CornerRadiiBuilder_top_src_closed_form (b : RRectSrc.CornerRadiiBuilder) (r : Sz) :
    crOf (RRectSrc.CornerRadiiBuilder_top b r).corners = { crOf b.corners with tl := r, tr := r } := rfl
theorem CornerRadiiBuilder_right_src_closed_form (b : RRectSrc.CornerRadiiBuilder) (r : Sz) :
    crOf (RRectSrc.CornerRadiiBuilder_right b r).corners = { crOf b.corners with tr := r, br := r } := rfl
theorem CornerRadiiBuilder_bottom_src_closed_form (b : RRectSrc.CornerRadiiBuilder) (r : Sz) :
    crOf (RRectSrc.CornerRadiiBuilder_bottom b r).corners = { crOf b.corners with bl := r, br := r } := rfl
theorem CornerRadiiBuilder_left_src_closed_form (b : RRectSrc.CornerRadiiBuilder) (r : Sz) :
    crOf (RRectSrc.CornerRadiiBuilder_left b r).corners = { crOf b.corners with tl := r, bl := r } := rfl
theorem CornerRadiiBuilder_top_left_src_closed_form (b : RRectSrc.CornerRadiiBuilder) (r : Sz) :
    crOf (RRectSrc.CornerRadiiBuilder_top_left b r).corners = { crOf b.corners with tl := r } := rfl
theorem CornerRadiiBuilder_top_right_src_closed_form (b : RRectSrc.CornerRadiiBuilder) (r : Sz) :
    crOf (RRectSrc.CornerRadiiBuilder_top_right b r).corners = { crOf b.corners with tr := r } := rfl
theorem CornerRadiiBuilder_bottom_right_src_closed_form (b : RRectSrc.CornerRadiiBuilder) (r : Sz) :
    crOf (RRectSrc.CornerRadiiBuilder_bottom_right b r).corners = { crOf b.corners with br := r } := rfl
theorem CornerRadiiBuilder_bottom_left_src_closed_form (b : RRectSrc.CornerRadiiBuilder) (r : Sz) :
    crOf (RRectSrc.CornerRadiiBuilder_bottom_left b r).corners = { crOf b.corners with bl := r } := rfl
theorem CornerRadiiBuilder_build_src_closed_form (b : RRectSrc.CornerRadiiBuilder) :
    RRectSrc.CornerRadiiBuilder_build b = b.corners := rfl

theorem center_2x_src_eq_model (tl : Pt) (s : Sz) (h : s.w ≤ 2147483648 ∧ s.h ≤ 2147483648) :
    RRectSrc.center_2x tl s = EllipseQuadrant.ellipseCenter2x tl s := by
  unfold RRectSrc.center_2x
  rw [Size_saturating_sub_src_eq_model, Point_mul_i32_src_closed_form,
    Point_add_Size_src_eq_model _ _ (by unfold FitsI32 Sz.satSub RectSrc.Size_new Size_mk; dsimp only; omega)]
  rfl

theorem EllipseQuadrant_new_src_eq_model (tl : Pt) (r : Sz) (q : RRectSrc.Quadrant) (h : SmallSz r) :
    eqOf (RRectSrc.EllipseQuadrant_new tl r q) = EllipseQuadrant.new tl r (qOf q) := by
  have hf : FitsI32 r := h.fits
  have hx : FitsI32 (⟨r.w, 0⟩ : Sz) := by unfold FitsI32 at hf ⊢; dsimp only; omega
  have hy : FitsI32 (⟨0, r.h⟩ : Sz) := by unfold FitsI32 at hf ⊢; dsimp only; omega
  have h2 : (⟨r.w * 2, r.h * 2⟩ : Sz).w ≤ 2147483648 ∧ (⟨r.w * 2, r.h * 2⟩ : Sz).h ≤ 2147483648 := by
    unfold SmallSz at h; dsimp only; omega
  unfold RRectSrc.EllipseQuadrant_new
  simp only [Size_mul_u32_src_closed_form, Size_x_axis_src_closed_form, Size_y_axis_src_closed_form]
  cases q <;>
    simp only [Point_sub_Size_src_eq_model _ _ hf, Point_sub_Size_src_eq_model _ _ hx,
      Point_sub_Size_src_eq_model _ _ hy, center_2x_src_eq_model _ _ h2, eqOf, qOf, EllipseQuadrant.new,
      new_src_eq_model, EllipseContains_new, Int.sub_zero, Int.natCast_zero]

theorem EllipseQuadrant_bounding_box_src_eq_model (e : RRectSrc.EllipseQuadrant) :
    RRectSrc.EllipseQuadrant_Dimensions_bounding_box e = (eqOf e).bbox := rfl

theorem EllipseQuadrant_contains_src_eq_model (e : RRectSrc.EllipseQuadrant) (p : Pt) :
    RRectSrc.EllipseQuadrant_ContainsPoint_contains e p = (eqOf e).contains p := rfl

theorem RoundedRectangle_new_src_eq_model (rect : Rect) (c : RRectSrc.CornerRadii) :
    rrOf (RRectSrc.RoundedRectangle_new rect c) = ⟨rect, crOf c⟩ := rfl

theorem RoundedRectangle_with_equal_corners_src_eq_model (rect : Rect) (r : Sz) :
    rrOf (RRectSrc.RoundedRectangle_with_equal_corners rect r) = RoundedRect.withEqualCorners rect r := rfl

theorem RoundedRectangle_confine_radii_src_eq_model (r : RRectSrc.RoundedRectangle) (h : RadiiU32 (rrOf r).corners) :
    rrOf (RRectSrc.RoundedRectangle_confine_radii r) = (rrOf r).confineRadii := by
  unfold RRectSrc.RoundedRectangle_confine_radii RoundedRect.confineRadii
  rw [RoundedRectangle_new_src_eq_model, CornerRadii_confine_src_eq_model _ _ h]
  rfl

theorem RoundedRectangle_bounding_box_src_eq_model (r : RRectSrc.RoundedRectangle) :
    RRectSrc.RoundedRectangle_Dimensions_bounding_box r = (rrOf r).boundingBox := rfl

theorem RoundedRectangle_translate_src_eq_model (r : RRectSrc.RoundedRectangle) (d : Pt) :
    rrOf (RRectSrc.RoundedRectangle_Transform_translate r d) = (rrOf r).translate d := rfl

theorem confined_small {r : EG.RoundedRect} (h : SrcGuard r) :
    SmallSz (r.corners.confine r.rect.size).tl ∧ SmallSz (r.corners.confine r.rect.size).tr ∧
    SmallSz (r.corners.confine r.rect.size).br ∧ SmallSz (r.corners.confine r.rect.size).bl :=
  (CornerRadii.confine_fits r.corners r.rect.size).all_le.imp fun _ hs =>
    ⟨Nat.le_trans hs.1 h.1.1, Nat.le_trans hs.2 h.1.2⟩

theorem get_confined_corner_quadrant_src_eq_model (r : RRectSrc.RoundedRectangle) (q : RRectSrc.Quadrant)
    (h : SrcGuard (rrOf r)) :
    eqOf (RRectSrc.RoundedRectangle_get_confined_corner_quadrant r q) = (rrOf r).cornerQuadrant (qOf q) := by
  obtain ⟨s1, s2, s3, s4⟩ := confined_small h
  have hc := CornerRadii_confine_src_eq_model r.corners r.rectangle.size h.2
  have hs : FitsI32 r.rectangle.size := h.1.fits
  have hsx : FitsI32 (⟨r.rectangle.size.w, 0⟩ : Sz) := by unfold FitsI32 at hs ⊢; dsimp only; omega
  have hsy : FitsI32 (⟨0, r.rectangle.size.h⟩ : Sz) := by unfold FitsI32 at hs ⊢; dsimp only; omega
  simp only [rrOf] at s1 s2 s3 s4
  rw [← hc] at s1 s2 s3 s4
  have fx : ∀ {s : Sz}, SmallSz s → FitsI32 (⟨s.w, 0⟩ : Sz) := by
    intro s hh; unfold SmallSz at hh; unfold FitsI32; dsimp only; omega
  have fy : ∀ {s : Sz}, SmallSz s → FitsI32 (⟨0, s.h⟩ : Sz) := by
    intro s hh; unfold SmallSz at hh; unfold FitsI32; dsimp only; omega
  unfold RRectSrc.RoundedRectangle_get_confined_corner_quadrant RoundedRect.cornerQuadrant
  have hr : (rrOf r).rect = r.rectangle := rfl
  have hcs : (rrOf r).corners = crOf r.corners := rfl
  rw [hr, hcs]
  dsimp only
  rw [← hc]
  simp only [RRectSrc.RoundedRectangle_rectangle, RRectSrc.RoundedRectangle_corners, Rectangle_top_left, Rectangle_size,
    RRectSrc.CornerRadii_top_left, RRectSrc.CornerRadii_top_right, RRectSrc.CornerRadii_bottom_right,
    RRectSrc.CornerRadii_bottom_left, Size_x_axis_src_closed_form, Size_y_axis_src_closed_form]
  generalize RRectSrc.CornerRadii_confine r.corners r.rectangle.size = c' at s1 s2 s3 s4 ⊢
  obtain ⟨ctl, ctr, cbr, cbl⟩ := c'
  simp only [crOf] at s1 s2 s3 s4 ⊢
  cases q
  · exact EllipseQuadrant_new_src_eq_model _ _ _ s1
  · simp only [qOf]
    rw [EllipseQuadrant_new_src_eq_model _ _ _ s2, Point_add_Size_src_eq_model _ _ hsx,
      Point_sub_Size_src_eq_model _ _ (fx s2)]
    simp only [qOf, Int.natCast_zero, Int.add_zero, Int.sub_zero]
  · simp only [qOf]
    rw [EllipseQuadrant_new_src_eq_model _ _ _ s3, Point_add_Size_src_eq_model _ _ hs,
      Point_sub_Size_src_eq_model _ _ s3.fits]
    simp only [qOf]
  · simp only [qOf]
    rw [EllipseQuadrant_new_src_eq_model _ _ _ s4, Point_add_Size_src_eq_model _ _ hsy,
      Point_sub_Size_src_eq_model _ _ (fy s4)]
    simp only [qOf, Int.natCast_zero, Int.add_zero, Int.sub_zero]

theorem RoundedRectangle_offset_src_eq_model (r : RRectSrc.RoundedRectangle) (o : Int) (h : IsU32 r.rectangle.size)
    (ho : -2147483648 ≤ o ∧ o ≤ 2147483647) :
    rrOf (RRectSrc.RoundedRectangle_OffsetOutline_offset r o) = (rrOf r).offset o := by
  unfold RRectSrc.RoundedRectangle_OffsetOutline_offset RoundedRect.offset
  simp only [RRectSrc.RoundedRectangle_rectangle, RRectSrc.RoundedRectangle_corners, offset_src_eq_model _ _ h,
    Size_saturating_add_src_eq_model, Size_saturating_sub_src_eq_model, Size_new_equal_src_eq_model,
    RoundedRectangle_new_src_eq_model, i32_ge, i32_as_u32, i32_neg, decide_eq_true_eq,
    RRectSrc.CornerRadii_top_left, RRectSrc.CornerRadii_top_right, RRectSrc.CornerRadii_bottom_right,
    RRectSrc.CornerRadii_bottom_left, RRectSrc.CornerRadii_mk]
  by_cases h0 : o ≥ 0
  · simp only [h0, ↓reduceIte, rrOf, crOf]
  · have h1 : 0 ≤ -o := by omega
    simp only [h0, h1, ↓reduceIte, rrOf, crOf]
example : IsU32 (⟨7, 5⟩ : Sz) ∧ (-2147483648 : Int) ≤ -3 ∧ (-3 : Int) ≤ 2147483647 := by decide

theorem RoundedRectangleContains_new_src_eq_model (r : RRectSrc.RoundedRectangle) (h : SrcGuard (rrOf r)) :
    rcOf (RRectSrc.RoundedRectangleContains_new r) = RRContains.new (rrOf r) := by
  obtain ⟨s1, s2, s3, s4⟩ := confined_small h
  have q1 := get_confined_corner_quadrant_src_eq_model r .TopLeft h
  have q2 := get_confined_corner_quadrant_src_eq_model r .TopRight h
  have q3 := get_confined_corner_quadrant_src_eq_model r .BottomLeft h
  have q4 := get_confined_corner_quadrant_src_eq_model r .BottomRight h
  have cast : ∀ {s : Sz}, SmallSz s → u32_as_i32 s.h = (s.h : Int) := by
    intro s hh; unfold SmallSz at hh; unfold u32_as_i32; rw [if_pos (by omega)]
  unfold RRectSrc.RoundedRectangleContains_new RRContains.new
  simp only [RRectSrc.RoundedRectangle_rectangle, rows_ends_src_eq_model, columns_ends_src_eq_model,
    EllipseQuadrant_bounding_box_src_eq_model, q1, q2, q3, q4, qOf, rcOf,
    RangeI32_start, RangeI32_end, i32_add, i32_sub, Rectangle_size, Size_height]
  have b1 : ((rrOf r).cornerQuadrant .topLeft).bbox.size = ((rrOf r).corners.confine (rrOf r).rect.size).tl := rfl
  have b2 : ((rrOf r).cornerQuadrant .topRight).bbox.size = ((rrOf r).corners.confine (rrOf r).rect.size).tr := rfl
  have b3 : ((rrOf r).cornerQuadrant .bottomLeft).bbox.size = ((rrOf r).corners.confine (rrOf r).rect.size).bl := rfl
  have b4 : ((rrOf r).cornerQuadrant .bottomRight).bbox.size = ((rrOf r).corners.confine (rrOf r).rect.size).br := rfl
  rw [b1, b2, b3, b4, cast s1, cast s2, cast s3, cast s4]
  rfl

theorem opt_all_map (o : Option RRectSrc.EllipseQuadrant) (g h : EG.EllipseQuadrant → Bool) :
    (Option.filter (fun c => g (eqOf c)) o).toList.all (fun c => h (eqOf c)) =
      (Option.filter g (o.map eqOf)).toList.all h := by
  cases o with
  | none => rfl
  | some x =>
    simp only [Option.map, Option.filter]
    by_cases hg : g (eqOf x) = true <;> simp [hg]

theorem corners_all_map (ol orr : Option RRectSrc.EllipseQuadrant) (g1 g2 h : EG.EllipseQuadrant → Bool) :
    ((Option.filter (fun c => g1 (eqOf c)) ol).toList ++ (Option.filter (fun c => g2 (eqOf c)) orr).toList).all
        (fun c => h (eqOf c)) =
      ((Option.filter g1 (ol.map eqOf)).toList ++ (Option.filter g2 (orr.map eqOf)).toList).all h := by
  rw [List.all_append, List.all_append, opt_all_map, opt_all_map]

theorem corner_choice_map (a b : Prop) [Decidable a] [Decidable b] (x y : RRectSrc.EllipseQuadrant) :
    (if a then some x else if b then some y else none : Option RRectSrc.EllipseQuadrant).map eqOf =
      if a then some (eqOf x) else if b then some (eqOf y) else none := by
  by_cases ha : a <;> by_cases hb : b <;> simp [ha, hb]

theorem RoundedRectangleContains_contains_src_eq_model (c : RRectSrc.RoundedRectangleContains) (p : Pt) :
    RRectSrc.RoundedRectangleContains_contains c p = (rcOf c).contains p := by
  unfold RRectSrc.RoundedRectangleContains_contains RRContains.contains RRContains.leftCorner RRContains.rightCorner
  simp only [RRectSrc.RoundedRectangleContains_rows, RRectSrc.RoundedRectangleContains_columns,
    RRectSrc.RoundedRectangleContains_straight_rows_left, RRectSrc.RoundedRectangleContains_straight_rows_right,
    RRectSrc.RoundedRectangleContains_top_left, RRectSrc.RoundedRectangleContains_top_right,
    RRectSrc.RoundedRectangleContains_bottom_left, RRectSrc.RoundedRectangleContains_bottom_right,
    range_i32_contains, bool_not, bool_and, Point_x, Point_y, RangeI32_start, RangeI32_end, i32_lt, i32_ge,
    option_filter, option_into_iter, iter_chain_option, iter_all, columns_ends_src_eq_model,
    EllipseQuadrant_bounding_box_src_eq_model, EllipseQuadrant_contains_src_eq_model, rcOf,
    EllipseQuadrant.colsEnd, EllipseQuadrant.colsStart, decide_eq_true_eq]
  have key := corners_all_map
    (if p.y < c.straight_rows_left.start then some c.top_left
      else if p.y ≥ c.straight_rows_left.end_ then some c.bottom_left else none)
    (if p.y < c.straight_rows_right.start then some c.top_right
      else if p.y ≥ c.straight_rows_right.end_ then some c.bottom_right else none)
    (fun corner => decide (p.x < corner.bbox.columnsEnd)) (fun corner => decide (p.x ≥ corner.bbox.tl.x))
    (fun corner => corner.contains p)
  rw [corner_choice_map, corner_choice_map] at key
  -- not `rw [key]`: its left side occurs in the goal only up to the `Decidable` instances of the `if`s, which mention
  -- generated terms; `exact` unifies them, `rw` does not find the pattern
  exact ite_congr rfl (fun _ => rfl) (fun _ => key)

theorem RoundedRectangle_contains_src_eq_model (r : RRectSrc.RoundedRectangle) (p : Pt) (h : SrcGuard (rrOf r)) :
    RRectSrc.RoundedRectangle_ContainsPoint_contains r p = (rrOf r).contains p := by
  unfold RRectSrc.RoundedRectangle_ContainsPoint_contains RoundedRect.contains
  rw [← RoundedRectangleContains_new_src_eq_model r h]
  exact RoundedRectangleContains_contains_src_eq_model _ p

/-- Every function of every `impl` of `CornerRadii` / `CornerRadiiBuilder` / `EllipseQuadrant` / `RoundedRectangle` /
`RoundedRectangleContains` / `Scanlines` / `Points` (rounded rectangle files) is translated, except these two: an
added override (`Iterator::fold`, `nth`, `size_hint` ...) or a new method shows up here. -/
theorem rrect_untranslated_pinned :
    RRectSrc.untranslated =
      [("impl From<&CornerRadii> for CornerRadiiBuilder", ["from"]),
       ("impl Transform for RoundedRectangle", ["translate_mut"])] := rfl

/-- The functions the generated text does not define but takes from the prelude, which binds them to the hand models of
`EllipseContains` / `Scanline` (their tie to the Rust text is the circle / ellipse part's). -/
theorem rrect_bound_functions_pinned :
    RRectSrc.boundFunctionsUsed =
      ["EllipseContains_contains", "EllipseContains_new", "Scanline_Iterator_next", "Scanline_new", "Scanline_new_empty"] := rfl

/-- **After the regenerated `confine` the two radii along each of the four sides add up to at most the side.** -/
theorem src_confine_fits (c : RRectSrc.CornerRadii) (bb : Sz) (h : RadiiU32 (crOf c)) :
    (RRectSrc.CornerRadii_confine c bb).top_left.w + (RRectSrc.CornerRadii_confine c bb).top_right.w ≤ bb.w ∧
    (RRectSrc.CornerRadii_confine c bb).top_right.h + (RRectSrc.CornerRadii_confine c bb).bottom_right.h ≤ bb.h ∧
    (RRectSrc.CornerRadii_confine c bb).bottom_left.w + (RRectSrc.CornerRadii_confine c bb).bottom_right.w ≤ bb.w ∧
    (RRectSrc.CornerRadii_confine c bb).top_left.h + (RRectSrc.CornerRadii_confine c bb).bottom_left.h ≤ bb.h := by
  have := confine_fits (crOf c) bb
  rw [← CornerRadii_confine_src_eq_model c bb h] at this
  -- as a variable: comparing the projections must not unfold the generated `confine`
  generalize RRectSrc.CornerRadii_confine c bb = d at this ⊢
  exact this

/-- The same for the regenerated `RoundedRectangle::confine_radii`. -/
theorem src_confine_radii_fits (r : RRectSrc.RoundedRectangle) (h : RadiiU32 (crOf r.corners)) :
    (crOf (RRectSrc.RoundedRectangle_confine_radii r).corners).Fits r.rectangle.size := by
  have := confine_radii_fits (rrOf r)
  rw [← RoundedRectangle_confine_radii_src_eq_model r h] at this
  exact this

/-- Radii that already fit are unchanged by the regenerated `confine`. -/
theorem src_confine_noop (c : RRectSrc.CornerRadii) (bb : Sz) (h : RadiiU32 (crOf c)) (hf : (crOf c).Fits bb) :
    RRectSrc.CornerRadii_confine c bb = c := by
  have := CornerRadii_confine_src_eq_model c bb h
  rw [confine_noop _ _ hf] at this
  obtain ⟨a1, a2, a3, a4⟩ := c
  generalize RRectSrc.CornerRadii_confine ⟨a1, a2, a3, a4⟩ bb = d at this
  obtain ⟨b1, b2, b3, b4⟩ := d
  simp only [crOf, EG.CornerRadii.mk.injEq] at this
  obtain ⟨rfl, rfl, rfl, rfl⟩ := this
  rfl
example : RadiiU32 (crOf ⟨⟨10, 15⟩, ⟨10, 15⟩, ⟨10, 15⟩, ⟨10, 15⟩⟩) ∧
    (crOf ⟨⟨10, 15⟩, ⟨10, 15⟩, ⟨10, 15⟩, ⟨10, 15⟩⟩).Fits ⟨20, 30⟩ := by decide

/-- No radius grows under the regenerated `confine`. -/
theorem src_confine_le (c : RRectSrc.CornerRadii) (bb : Sz) (h : RadiiU32 (crOf c)) :
    (RRectSrc.CornerRadii_confine c bb).top_left.w ≤ c.top_left.w ∧ (RRectSrc.CornerRadii_confine c bb).top_left.h ≤ c.top_left.h ∧
    (RRectSrc.CornerRadii_confine c bb).top_right.w ≤ c.top_right.w ∧ (RRectSrc.CornerRadii_confine c bb).top_right.h ≤ c.top_right.h ∧
    (RRectSrc.CornerRadii_confine c bb).bottom_right.w ≤ c.bottom_right.w ∧ (RRectSrc.CornerRadii_confine c bb).bottom_right.h ≤ c.bottom_right.h ∧
    (RRectSrc.CornerRadii_confine c bb).bottom_left.w ≤ c.bottom_left.w ∧ (RRectSrc.CornerRadii_confine c bb).bottom_left.h ≤ c.bottom_left.h := by
  have := confine_le (crOf c) bb
  rw [← CornerRadii_confine_src_eq_model c bb h] at this
  generalize RRectSrc.CornerRadii_confine c bb = d at this ⊢
  exact this

/-- The witnesses of the two `confine` defects of DESIGN.md 14.2 and the unit test of corner_radii.rs, evaluated on the
REGENERATED `confine` (largest absolute overlap; radius sums above `u32::MAX`, products above `u64::MAX`). -/
theorem src_confine_witnesses :
    RRectSrc.CornerRadii_confine ⟨⟨60, 12⟩, ⟨60, 0⟩, ⟨0, 0⟩, ⟨0, 13⟩⟩ ⟨100, 10⟩ = ⟨⟨24, 4⟩, ⟨24, 0⟩, ⟨0, 0⟩, ⟨0, 5⟩⟩ ∧
    RRectSrc.CornerRadii_confine (RRectSrc.CornerRadii_new ⟨4294967295, 4294967295⟩) ⟨100, 100⟩ =
      RRectSrc.CornerRadii_new ⟨50, 50⟩ ∧
    RRectSrc.CornerRadii_confine ⟨⟨10, 20⟩, ⟨10, 15⟩, ⟨18, 15⟩, ⟨10, 15⟩⟩ ⟨20, 30⟩ =
      ⟨⟨7, 14⟩, ⟨7, 10⟩, ⟨12, 10⟩, ⟨7, 10⟩⟩ := by decide

end EG.C18.RRSrc
