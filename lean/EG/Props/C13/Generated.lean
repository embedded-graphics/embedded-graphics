/-
  C13 — the REGENERATED bodies of the colour conversions equal the hand-written model.

  `EG/Generated/ColorSrc.lean` is written by `tools/tr_colorsrc.py` from the Rust text of
  core/src/pixelcolor/conversion.rs on every run of a check: `convert_channel` (fixed-point reciprocal, `SHIFT`,
  `CONST_0_5`, the `if TO_MAX != FROM_MAX` arm), `luma` (BT.601 weights, the division) and ONE function per
  conversion macro body (`impl_rgb_conversion!`, `impl_gray_conversion!`, both impls of `impl_rgb_to_and_from_gray!`,
  `impl_from_binary!` once per class of target, `impl_gray_to_binary!`, `impl_rgb_to_binary!`, `with_rgb888`),
  symbolic in the macro's type parameters (`ColorSpec` arguments), on top of the regenerated colour types
  (C12 `Generated.lean`). Every Rust primitive is a function of the trusted prelude `EG/Model/ColorSrcPrelude.lean`,
  where `u32` / `u16` arithmetic WRAPS modulo 2^32 / 2^16.

  This file proves each generated definition equal to the hand-written function of `EG/Model/Conv.lean`
  (`*_src_eq_model`), the whole dispatch (`apply_src_eq_model`: all 182 conversions of the generated table), and
  restates C13's headline theorems about the generated functions (`src_*`). Where model and source differ:
  * `convert_channel`: the model multiplies mathematically, the source in wrapping `u32`. They are EQUAL for all
    `u8` arguments and all `u8` maxima (`convert_channel_src_eq_model`; guard `IsU8`, the type bound `Nat` lacks):
    the result only keeps bits 24..31 of the sum, which a wrap modulo 2^32 does not touch. For `value <= FROM_MAX`
    nothing wraps at all (`convert_channel_src_no_wrap`: also a debug build computes the model's value). ABOVE
    `FROM_MAX` the product can exceed `u32` (`convert_channel_src_wraps_above_from_max`: 255 * ((255 << 24) / 3)):
    a debug build panics there, a release build returns the model's (meaningless, out of range) value. No caller
    reaches it: `r() g() b()` are masked with `MAX_*`, `luma()` is below `2^BITS_PER_PIXEL`, and `with_rgb888` has
    `FROM_MAX = 255`. `FROM_MAX = 0` (division by zero: a panic) does not occur: `maxima_pos`.
  * `luma`: `u16` arithmetic never wraps for `u8` channels (`luma_src_no_wrap`); equal for all colours.
  * gray sources: the bodies are equal for `luma() < 256` (`IsU8`; a gray value is below `2^BITS_PER_PIXEL`).
-/
import EG.Props.C12.Generated
import EG.Props.C13
namespace EG.C13.Src
open EG EG.Generated EG.ColorSpec EG.Conv EG.ColorSrcPrelude EG.C12.Src

/-- the `u8` type bound (not carried by `Nat`) -/
def IsU8 (v : Nat) : Prop := v < 256
instance (v : Nat) : Decidable (IsU8 v) := by unfold IsU8; exact inferInstance
example : IsU8 255 ∧ ¬ IsU8 256 := by decide

set_option linter.unusedSimpArgs false in -- which lemmas decide the test depends on how the source writes it (`!=` / `==`)
/-- for ALL `u8` maxima and ALL `u8` values (also above `FROM_MAX`, also `FROM_MAX = 0` where both divide the `Nat` way) -/
theorem convert_channel_src_eq_model (F T v : Nat) (hF : IsU8 F) (hT : IsU8 T) (hv : IsU8 v) :
    ColorSrc.convert_channel F T v = convertChannel F T v := by
  unfold IsU8 at hF hT hv
  unfold ColorSrc.convert_channel convertChannel
  -- which arm the source writes first is its choice: decide the test, then compare the arms
  by_cases h : T = F
  · simp only [color_prelude, h, ne_eq, not_true_eq_false, decide_false, decide_true, Bool.false_eq_true, ↓reduceIte]
  · simp only [color_prelude, h, ne_eq, not_false_eq_true, decide_false, decide_true, Bool.false_eq_true, ↓reduceIte,
      ccShift, Nat.shiftLeft_eq, Nat.one_mul, Nat.shiftRight_eq_div_pow]
    rw [Nat.mod_eq_of_lt (by omega : T < 2 ^ 32), Nat.mod_eq_of_lt (by omega : F < 2 ^ 32),
      Nat.mod_eq_of_lt (by omega : v < 2 ^ 32), Nat.mod_eq_of_lt (by omega : T * 2 ^ 24 < 2 ^ 32)]
    generalize v * (T * 2 ^ 24 / F) = a
    simp only [Nat.reducePow, Nat.reduceAdd, Nat.reduceSub, Nat.reduceMod]
    omega

example : IsU8 31 ∧ IsU8 255 ∧ IsU8 17 ∧ ColorSrc.convert_channel 31 255 17 = 140 := by decide

/-- `value <= FROM_MAX`: no `u32` operation of the body wraps (a debug build does not panic and computes the same).
The shift, the product and the sum are written out as the body has them; the statement does not mention
`ColorSrc.convert_channel`. -/
theorem convert_channel_src_no_wrap (F T v : Nat) (hF0 : 0 < F) (hF : IsU8 F) (hT : IsU8 T) (hv : v ≤ F) :
    int_shl 32 (int_as 32 T) 24 = T <<< 24
    ∧ int_mul 32 (int_as 32 v) (int_div (T <<< 24) (int_as 32 F)) = v * ((T <<< 24) / F)
    ∧ int_add 32 (v * ((T <<< 24) / F)) (int_shl 32 1 23) = v * ((T <<< 24) / F) + 2 ^ 23 := by
  unfold IsU8 at hF hT
  obtain ⟨h1, h2⟩ := Conv.cc_no_overflow hT hv
  simp only [ccShift, Nat.shiftLeft_eq, Nat.one_mul, Nat.reduceSub] at h1 h2
  simp only [color_prelude, Nat.shiftLeft_eq, Nat.one_mul]
  rw [Nat.mod_eq_of_lt (by omega : T < 2 ^ 32), Nat.mod_eq_of_lt (by omega : F < 2 ^ 32),
    Nat.mod_eq_of_lt (by omega : v < 2 ^ 32), Nat.mod_eq_of_lt h1]
  exact ⟨rfl, Nat.mod_eq_of_lt (by omega), by omega⟩

example : (0 : Nat) < 31 ∧ IsU8 31 ∧ IsU8 255 ∧ (17 : Nat) ≤ 31 := by decide

/-- above `FROM_MAX` the `u32` product of the body can wrap (`FROM_MAX = 3`, `TO_MAX = 255`, `value = 255`) -/
theorem convert_channel_src_wraps_above_from_max :
    int_mul 32 (int_as 32 255) (int_div (int_shl 32 (int_as 32 255) 24) (int_as 32 3)) ≠ 255 * ((255 <<< 24) / 3) := by
  decide

theorem maxima_pos : ∀ F ∈ chanMaxima, 0 < F ∧ IsU8 F := chanMaxima_u8

theorem gray_consts_src_eq_model : ∀ s ∈ colorTable, s.kind = .gray →
    ColorSrc.gray_color_MAX_LUMA s = maxLuma s ∧ ColorSrc.gray_color_GRAY_50 s = gray50 s
    ∧ ColorSrc.gray_color_BLACK s = black s ∧ ColorSrc.gray_color_WHITE s = white s := by decide +kernel

theorem rgb_consts_src_eq_model : ∀ s ∈ colorTable, s.isRgb = true →
    ColorSrc.impl_rgb_color_BLACK s = black s ∧ ColorSrc.impl_rgb_color_WHITE s = white s := by decide +kernel

/-- the types the bodies name are the ones the hand model resolves -/
theorem named_types : findSpec lumaVia = some ColorSrc.T_Rgb888 ∧ findSpec grayVia = some ColorSrc.T_Gray8
    ∧ ColorSrc.T_Rgb888 ∈ colorTable ∧ ColorSrc.T_Rgb888.isRgb = true
    ∧ ColorSrc.T_Gray8 ∈ colorTable ∧ ColorSrc.T_Gray8.kind = .gray ∧ ColorSrc.T_Gray8.rawMask = 255
    ∧ ColorSrc.impl_rgb_color_MAX_R ColorSrc.T_Rgb888 = 255 ∧ ColorSrc.impl_rgb_color_MAX_G ColorSrc.T_Rgb888 = 255
    ∧ ColorSrc.impl_rgb_color_MAX_B ColorSrc.T_Rgb888 = 255 := by decide +kernel

theorem chan_u8 (s : ColorSpec) (c : Nat) : IsU8 (s.chanR c) ∧ IsU8 (s.chanG c) ∧ IsU8 (s.chanB c) :=
  ⟨Nat.lt_succ_of_le (chan_le_255 s c).1, Nat.lt_succ_of_le (chan_le_255 s c).2.1, Nat.lt_succ_of_le (chan_le_255 s c).2.2⟩
theorem max_u8 (s : ColorSpec) : IsU8 s.maxR ∧ IsU8 s.maxG ∧ IsU8 s.maxB :=
  ⟨maxChan_lt_256 _, maxChan_lt_256 _, maxChan_lt_256 _⟩
theorem maxLuma_u8 : ∀ s ∈ colorTable, s.kind = .gray → IsU8 (maxLuma s) :=
  fun s hs hk => (Conv.maxLuma_u8 (C12.table_wellFormed s hs) hk).2

/-- the `u16` arithmetic of `luma` never wraps for `u8` channels -/
theorem luma_src_no_wrap (r g b : Nat) (hr : IsU8 r) (hg : IsU8 g) (hb : IsU8 b) :
    int_add 16 (int_add 16 (int_add 16 (int_mul 16 r 77) (int_mul 16 g 150)) (int_mul 16 b 29)) 128
      = r * 77 + g * 150 + b * 29 + 128 := by
  unfold IsU8 at hr hg hb
  simp only [color_prelude]
  omega

theorem luma_src_eq_model (c : Nat) : ColorSrc.luma c = lumaOf ColorSrc.T_Rgb888 c := by
  obtain ⟨_, _, hm, hk, _⟩ := named_types
  unfold ColorSrc.luma lumaOf
  rw [r_src_eq_model _ hm hk, g_src_eq_model _ hm hk, b_src_eq_model _ hm hk]
  obtain ⟨hr, hg, hb⟩ := chan_u8 ColorSrc.T_Rgb888 c
  simp only [int_from]
  rw [luma_src_no_wrap _ _ _ hr hg hb]
  simp only [int_as, int_div, lumaWR, lumaWG, lumaWB, lumaRound, lumaDiv]

example : IsU8 255 ∧ ColorSrc.luma 0xFFFFFF = 255 ∧ ColorSrc.luma 0x00FF00 = 149 := by decide +kernel

theorem impl_rgb_conversion_src_eq_model : ∀ a ∈ colorTable, ∀ b ∈ colorTable, a.isRgb = true → b.isRgb = true →
    ∀ c, ColorSrc.impl_rgb_conversion_From_from_type_for_to_type a b c = rgbToRgb a b c := by
  intro a ha b hb ka kb c
  obtain ⟨aR, aG, aB⟩ := max_src_eq_model a ha ka
  obtain ⟨bR, bG, bB⟩ := max_src_eq_model b hb kb
  unfold ColorSrc.impl_rgb_conversion_From_from_type_for_to_type rgbToRgb
  rw [new_src_eq_model b hb kb, aR, aG, aB, bR, bG, bB, r_src_eq_model a ha ka, g_src_eq_model a ha ka,
    b_src_eq_model a ha ka,
    convert_channel_src_eq_model _ _ _ (max_u8 _).1 (max_u8 _).1 (chan_u8 a c).1,
    convert_channel_src_eq_model _ _ _ (max_u8 _).2.1 (max_u8 _).2.1 (chan_u8 a c).2.1,
    convert_channel_src_eq_model _ _ _ (max_u8 _).2.2 (max_u8 _).2.2 (chan_u8 a c).2.2]

theorem with_rgb888_src_eq_model : ∀ s ∈ colorTable, s.isRgb = true → ∀ r g b, IsU8 r → IsU8 g → IsU8 b →
    ColorSrc.impl_rgb_conversion_with_rgb888 s r g b
      = s.rgbNew (convertChannel 255 s.maxR r) (convertChannel 255 s.maxG g) (convertChannel 255 s.maxB b) := by
  intro s hs hk r g b hr hg hb
  obtain ⟨sR, sG, sB⟩ := max_src_eq_model s hs hk
  obtain ⟨_, _, _, _, _, _, _, m1, m2, m3⟩ := named_types
  unfold ColorSrc.impl_rgb_conversion_with_rgb888
  rw [new_src_eq_model s hs hk, sR, sG, sB, m1, m2, m3,
    convert_channel_src_eq_model _ _ _ (by decide) (max_u8 _).1 hr,
    convert_channel_src_eq_model _ _ _ (by decide) (max_u8 _).2.1 hg,
    convert_channel_src_eq_model _ _ _ (by decide) (max_u8 _).2.2 hb]

example : IsU8 255 ∧ IsU8 128 ∧ IsU8 0 := by decide

theorem impl_gray_conversion_src_eq_model : ∀ a ∈ colorTable, ∀ b ∈ colorTable, a.kind = .gray → b.kind = .gray →
    ∀ c, IsU8 c → ColorSrc.impl_gray_conversion_From_from_type_for_to_type a b c = grayToGray a b c := by
  intro a ha b hb ka kb c hc
  unfold ColorSrc.impl_gray_conversion_From_from_type_for_to_type grayToGray
  rw [(gray_consts_src_eq_model a ha ka).1, (gray_consts_src_eq_model b hb kb).1, gray_new_src_eq_model,
    gray_luma_src_eq_model]
  simp only [ColorSpec.luma]
  rw [convert_channel_src_eq_model _ _ _ (maxLuma_u8 a ha ka) (maxLuma_u8 b hb kb) hc]

theorem impl_gray_to_rgb_src_eq_model : ∀ a ∈ colorTable, ∀ b ∈ colorTable, a.kind = .gray → b.isRgb = true →
    ∀ c, IsU8 c → ColorSrc.impl_rgb_to_and_from_gray_From_gray_type_for_rgb_type a b c = grayToRgb a b c := by
  intro a ha b hb ka kb c hc
  obtain ⟨bR, bG, bB⟩ := max_src_eq_model b hb kb
  unfold ColorSrc.impl_rgb_to_and_from_gray_From_gray_type_for_rgb_type grayToRgb
  rw [new_src_eq_model b hb kb, (gray_consts_src_eq_model a ha ka).1, bR, bG, bB, gray_luma_src_eq_model]
  simp only [ColorSpec.luma]
  rw [convert_channel_src_eq_model _ _ _ (maxLuma_u8 a ha ka) (max_u8 _).1 hc,
    convert_channel_src_eq_model _ _ _ (maxLuma_u8 a ha ka) (max_u8 _).2.1 hc,
    convert_channel_src_eq_model _ _ _ (maxLuma_u8 a ha ka) (max_u8 _).2.2 hc]

/-- `luma(Rgb888::from(color))` -/
theorem rgb_luma_src_eq_model : ∀ a ∈ colorTable, a.isRgb = true → ∀ c,
    ColorSrc.luma (ColorSrc.From_rgb_for_rgb a ColorSrc.T_Rgb888 c) = rgbLuma a ColorSrc.T_Rgb888 c := by
  intro a ha ka c
  obtain ⟨_, _, hm, hk, _⟩ := named_types
  unfold rgbLuma toVia ColorSrc.From_rgb_for_rgb
  rw [luma_src_eq_model, impl_rgb_conversion_src_eq_model a ha _ hm ka hk]

theorem impl_rgb_to_gray_src_eq_model : ∀ a ∈ colorTable, ∀ b ∈ colorTable, a.isRgb = true → b.kind = .gray →
    ∀ c, ColorSrc.impl_rgb_to_and_from_gray_From_rgb_type_for_gray_type b a c
      = rgbToGray a ColorSrc.T_Rgb888 ColorSrc.T_Gray8 b c := by
  intro a ha b hb ka kb c
  obtain ⟨_, _, _, _, hg, hgk, hmask, _⟩ := named_types
  unfold ColorSrc.impl_rgb_to_and_from_gray_From_rgb_type_for_gray_type rgbToGray ColorSrc.From_gray_for_gray
  rw [rgb_luma_src_eq_model a ha ka]
  dsimp only
  rw [gray_new_src_eq_model]
  have hu : IsU8 (ColorSrc.T_Gray8.grayNew (rgbLuma a ColorSrc.T_Rgb888 c)) := by
    unfold IsU8 ColorSpec.grayNew ColorSpec.rawNew
    rw [hmask]
    exact Nat.lt_of_le_of_lt Nat.and_le_right (by decide)
  rw [impl_gray_conversion_src_eq_model _ hg b hb hgk kb _ hu]
  simp only [same_type, BEq.comm (a := ColorSrc.T_Gray8.name)]

theorem impl_from_binary_rgb_src_eq_model : ∀ b ∈ colorTable, b.isRgb = true → ∀ c,
    ColorSrc.impl_from_binary_From_BinaryColor_for_type_rgb b c = fromBinary b c := by
  intro b hb kb c
  unfold ColorSrc.impl_from_binary_From_BinaryColor_for_type_rgb ColorSrc.BinaryColor_map_color fromBinary
  rw [(rgb_consts_src_eq_model b hb kb).1, (rgb_consts_src_eq_model b hb kb).2]
  simp only [color_prelude, decide_eq_true_eq]

theorem impl_from_binary_gray_src_eq_model : ∀ b ∈ colorTable, b.kind = .gray → ∀ c,
    ColorSrc.impl_from_binary_From_BinaryColor_for_type_gray b c = fromBinary b c := by
  intro b hb kb c
  unfold ColorSrc.impl_from_binary_From_BinaryColor_for_type_gray ColorSrc.BinaryColor_map_color fromBinary
  rw [(gray_consts_src_eq_model b hb kb).2.2.1, (gray_consts_src_eq_model b hb kb).2.2.2]
  simp only [color_prelude, decide_eq_true_eq]

theorem impl_gray_to_binary_src_eq_model : ∀ a ∈ colorTable, a.kind = .gray → ∀ c,
    ColorSrc.impl_gray_to_binary_From_type_for_BinaryColor a c = grayToBinary a c := by
  intro a ha ka c
  unfold ColorSrc.impl_gray_to_binary_From_type_for_BinaryColor ColorSrc.BinaryColor_From_bool grayToBinary
  rw [(gray_consts_src_eq_model a ha ka).2.1]
  simp only [gray_luma_src_eq_model]
  simp only [color_prelude, decide_eq_true_eq]

theorem impl_rgb_to_binary_src_eq_model : ∀ a ∈ colorTable, a.isRgb = true → ∀ c,
    ColorSrc.impl_rgb_to_binary_From_type_for_BinaryColor a c = rgbToBinary a ColorSrc.T_Rgb888 c := by
  intro a ha ka c
  unfold ColorSrc.impl_rgb_to_binary_From_type_for_BinaryColor ColorSrc.BinaryColor_From_bool rgbToBinary
  rw [rgb_luma_src_eq_model a ha ka]
  simp only [color_prelude, decide_eq_true_eq, rgbBinaryThreshold]
  split <;> rename_i h <;> simp [h]

/-- `B::from(c)` for a resolved conversion of the table: the regenerated body of the impl the compiler selects for
that pair of types -/
def applySrc (x : Resolved) (c : Nat) : Nat :=
  match x.kind with
  | .rgbRgb => ColorSrc.impl_rgb_conversion_From_from_type_for_to_type x.a x.b c
  | .grayGray => ColorSrc.impl_gray_conversion_From_from_type_for_to_type x.a x.b c
  | .grayRgb => ColorSrc.impl_rgb_to_and_from_gray_From_gray_type_for_rgb_type x.a x.b c
  | .rgbGray => ColorSrc.impl_rgb_to_and_from_gray_From_rgb_type_for_gray_type x.b x.a c
  | .fromBinary =>
    if x.b.isRgb then ColorSrc.impl_from_binary_From_BinaryColor_for_type_rgb x.b c
    else ColorSrc.impl_from_binary_From_BinaryColor_for_type_gray x.b c
  | .grayBinary => ColorSrc.impl_gray_to_binary_From_type_for_BinaryColor x.a c
  | .rgbBinary => ColorSrc.impl_rgb_to_binary_From_type_for_BinaryColor x.a c

theorem resolved_helpers : ∀ x ∈ resolvedTable, x.via = ColorSrc.T_Rgb888 ∧ x.g8 = ColorSrc.T_Gray8 := by
  intro x hx
  have t := resolved_typed x hx
  obtain ⟨hv, hg, _⟩ := named_types
  exact ⟨Option.some.inj (t.via.symm.trans hv), Option.some.inj (t.g8.symm.trans hg)⟩

theorem gray_valid_u8 : ∀ s ∈ colorTable, s.kind = .gray → ∀ c, s.Valid c → IsU8 c := by
  intro s hs hk c hc
  have := Nat.pow_le_pow_right (by decide : 0 < 2) (Color.wf_gray (C12.table_wellFormed s hs) hk)
  have := Color.valid_gray_lt hk hc
  unfold IsU8
  omega

/-- all 182 conversions of the generated table, every colour value of the source type -/
theorem apply_src_eq_model : ∀ x ∈ resolvedTable, ∀ c, x.a.Valid c → applySrc x c = x.apply c := by
  intro x hx c hc
  obtain ⟨hv, hg⟩ := resolved_helpers x hx
  have t := resolved_typed x hx
  have ha := t.a_mem
  have hb := t.b_mem
  unfold applySrc Resolved.apply
  cases hk : x.kind
  · obtain ⟨ka, kb⟩ := t.rgbRgb hk
    exact impl_rgb_conversion_src_eq_model _ ha _ hb ka kb c
  · obtain ⟨ka, kb⟩ := t.grayGray hk
    exact impl_gray_conversion_src_eq_model _ ha _ hb ka kb c (gray_valid_u8 _ ha ka c hc)
  · obtain ⟨ka, kb⟩ := t.grayRgb hk
    exact impl_gray_to_rgb_src_eq_model _ ha _ hb ka kb c (gray_valid_u8 _ ha ka c hc)
  · obtain ⟨ka, kb⟩ := t.rgbGray hk
    simp only [hv, hg]
    exact impl_rgb_to_gray_src_eq_model _ ha _ hb ka kb c
  · -- the target is not `BinaryColor`: an RGB type or a gray type
    have kb := (t.fromBinary hk).2
    by_cases hr : x.b.isRgb = true
    · simp only [hr, ↓reduceIte]
      exact impl_from_binary_rgb_src_eq_model _ hb hr c
    · have kg : x.b.kind = .gray := by
        unfold ColorSpec.isRgb at hr
        cases h : x.b.kind <;> simp [h] at hr kb ⊢
      simp only [hr]
      exact impl_from_binary_gray_src_eq_model _ hb kg c
  · exact impl_gray_to_binary_src_eq_model _ ha (t.grayBinary hk).1 c
  · simp only [hv]
    exact impl_rgb_to_binary_src_eq_model _ ha (t.rgbBinary hk).1 c

example : ∃ x ∈ resolvedTable, x.kind = .rgbRgb ∧ x.a.name = "Rgb565" ∧ x.b.name = "Bgr888" ∧ x.a.Valid 0xF81F
    ∧ applySrc x 0xF81F = 0xFF00FF :=
  ⟨_, get_resolve_mem (e := ⟨"Rgb565", "Bgr888", .rgbRgb⟩) (by decide +kernel), by decide +kernel⟩

/-- the regenerated `convert_channel` preserves the extremes on the table's maxima -/
theorem src_cc_extremes : ∀ F ∈ chanMaxima, ∀ T ∈ chanMaxima,
    ColorSrc.convert_channel F T 0 = 0 ∧ ColorSrc.convert_channel F T F = T := by
  intro F hF T hT
  rw [convert_channel_src_eq_model F T 0 (maxima_pos F hF).2 (maxima_pos T hT).2 (by decide),
    convert_channel_src_eq_model F T F (maxima_pos F hF).2 (maxima_pos T hT).2 (maxima_pos F hF).2]
  exact C13.cc_extremes F hF T hT

/-- the regenerated `convert_channel` returns the representable value nearest to the exactly scaled one -/
theorem src_cc_nearest : ∀ F ∈ chanMaxima, ∀ T ∈ chanMaxima, ∀ v, v ≤ F →
    Nearest F T v (ColorSrc.convert_channel F T v) := by
  intro F hF T hT v hv
  have hF8 := (maxima_pos F hF).2
  rw [convert_channel_src_eq_model F T v hF8 (maxima_pos T hT).2 (by unfold IsU8 at hF8 ⊢; omega)]
  exact C13.cc_nearest F hF T hT v hv

theorem src_cc_monotone : ∀ F ∈ chanMaxima, ∀ T ∈ chanMaxima, ∀ v w, v ≤ w → w ≤ F →
    ColorSrc.convert_channel F T v ≤ ColorSrc.convert_channel F T w := by
  intro F hF T hT v w hvw hw
  have hF8 := (maxima_pos F hF).2
  rw [convert_channel_src_eq_model F T v hF8 (maxima_pos T hT).2 (by unfold IsU8 at hF8 ⊢; omega),
    convert_channel_src_eq_model F T w hF8 (maxima_pos T hT).2 (by unfold IsU8 at hF8 ⊢; omega)]
  exact C13.cc_monotone F hF T hT v w hvw hw

example : (31 : Nat) ∈ chanMaxima ∧ (255 : Nat) ∈ chanMaxima ∧ (17 : Nat) ≤ 31 := by decide

/-- every provided conversion, through the regenerated bodies, maps black to black and white to white -/
theorem src_black_white : ∀ x ∈ resolvedTable,
    applySrc x (black x.a) = black x.b ∧ applySrc x (white x.a) = white x.b := by
  intro x hx
  have hb := black_white_valid (resolved_typed x hx).a_wf
  rw [apply_src_eq_model x hx _ hb.1, apply_src_eq_model x hx _ hb.2]
  exact C13.black_white x hx

/-- RGB -> RGB through the regenerated body: every channel is the nearest representable value -/
theorem src_rgb_nearest : ∀ x ∈ resolvedTable, x.kind = .rgbRgb → ∀ c, x.a.Valid c →
    Nearest x.a.maxR x.b.maxR (x.a.chanR c) (x.b.chanR (applySrc x c))
    ∧ Nearest x.a.maxG x.b.maxG (x.a.chanG c) (x.b.chanG (applySrc x c))
    ∧ Nearest x.a.maxB x.b.maxB (x.a.chanB c) (x.b.chanB (applySrc x c)) := by
  intro x hx hk c hc
  rw [apply_src_eq_model x hx c hc]
  exact C13.rgb_nearest x hx hk c hc

/-- widening and narrowing back is the identity; the narrowing goes through the regenerated body, the widening is the
hand model's `apply` (`apply_src_eq_model` exchanges it) -/
theorem src_rgb_widen_roundtrip : ∀ x ∈ resolvedTable, ∀ y ∈ resolvedTable, x.kind = .rgbRgb → y.kind = .rgbRgb →
    y.a = x.b → y.b = x.a → x.a.rbits ≤ x.b.rbits → x.a.gbits ≤ x.b.gbits → x.a.bbits ≤ x.b.bbits →
    ∀ c, x.a.Valid c → applySrc y (x.apply c) = c := by
  intro x hx y hy kx ky hab hba h1 h2 h3 c hc
  have hv : y.a.Valid (x.apply c) := by
    rw [hab]
    exact apply_valid x hx c
  rw [apply_src_eq_model y hy _ hv]
  exact C13.rgb_widen_roundtrip x hx y hy kx ky hab hba h1 h2 h3 c hc

/-- gray -> binary through the regenerated body is the hand model's `grayToBinary`, whose threshold is the luma of the
type's `GRAY_50` (in numbers: `C13.gray_binary_threshold`) -/
theorem src_gray_binary_threshold : ∀ x ∈ resolvedTable, x.kind = .grayBinary → ∀ c, x.a.Valid c →
    applySrc x c = x.apply c ∧ x.apply c = grayToBinary x.a c := by
  intro x hx hk c hc
  refine ⟨apply_src_eq_model x hx c hc, ?_⟩
  unfold Resolved.apply
  rw [hk]

example : ∃ x ∈ resolvedTable, x.kind = .grayBinary ∧ x.a.name = "Gray4" ∧ x.a.Valid 8 ∧ applySrc x 8 = 1
    ∧ applySrc x 7 = 0 :=
  ⟨_, get_resolve_mem (e := ⟨"Gray4", "BinaryColor", .grayBinary⟩) (by decide +kernel),
    by decide +kernel⟩

end EG.C13.Src
