/-
  C04 — Target errors stop drawing immediately and are returned unchanged.

  Static half, machine-checked. It has two parts of very different weight:

  * the TABLE part (this is where the content is): `all_sites_propagate` — every call site of a
    function returning the target's error, in the sources as they stand (table regenerated by
    tools/tr_drawsites.py on every run), is classified as handing an `Err` to its caller unchanged
    and at once (`?`, tail position, `return`, bound and `?`-ed first thing in a later statement,
    `match .. Err(e) => return Err(e)` after plain `Ok(..)` arms, `try_` adaptor) — none is
    classified `discarded` or `unknown`. The classifier's rules are syntactic and strict (the six
    forms are spelled out at the top of tools/tr_drawsites.py). Non-propagating by construction: a
    site inside a closure — with or without braces, `move` or not, bound by `let`, passed as an
    argument, written as a struct-literal field or after a label (a `|` is a closure head unless it
    directly follows the end of an operand) — other than a whole-argument closure of a propagated
    std `try_for_each`/`try_fold`; a site inside the arguments of a macro invocation `name!(..)`
    (no macro is trusted to be transparent; the sources have no such site), inside an `async` /
    `try` block, or in the body of a `macro_rules!` (unless inside a whole `fn` item of that body);
    a call as the value of a `break`; a bound result whose `x?` is not the first thing its
    statement evaluates (`c && x? == ()`); a `match` with anything but plain `Ok(..)` patterns
    before the `Err(e)` arm (`Ok(()) | _`); a `?` in a function whose error type is not EXACTLY a
    path ending in `::Error` (`Result<(), Wrap<D::Error>>`, `type Error = Wrap<T::Error>`: `?`
    converts through `From`), `type` aliases of the sources being expanded;
    `sites_match_textual_scan` — the classifier's parser saw exactly the call expressions that an
    independent line-oriented textual scan of the same files counts, file by file;
    `entry_points_seen` — the scan recognised the draw-target entry points.
  * the SKELETON part: `prefix_law_sites` — for EVERY finite sequence of target calls made through
    stacks of call sites of the generated table (loops and branches are abstracted as "any
    sequence of sites") and every `k`, the run in which the k-th call fails returns exactly that
    error, makes no further call, and the calls before the failure are the first k calls of the
    fault-free run. Its step flags are computed from the generated classifications
    (`EG.stepsOf`), and the hypothesis "every flag is true" is discharged by `all_sites_propagate`:
    if the translator classifies any site as not propagating, `all_sites_propagate` no longer
    builds and neither does `prefix_law_sites`. What it does NOT prove: that a Rust function
    behaves like the interpreter `runFaulty` (which *defines* "flag true = stop here"; the facts
    about the interpreter alone are in EG/Lemmas/DrawProg.lean and are not counted as property
    theorems), nor that the classifier's syntactic rules are sound for Rust — see the [V] lines.

  Model level between the two halves (EG/Props/C04/Adapters.lean, model EG/Model/FaultTarget.lean):
  the harness's recording roots with `fail_at` and the four adapters with their `Result` plumbing
  are transcribed as records of methods over the root's record; `adapter_call_is_one_parent_call`
  (each adapter method is the parent's method on the lowered call, result unchanged),
  `fault_through_adapters` / `fault_free_through_adapters` / `fault_log_is_prefix_of_fault_free`
  (for every adapter stack, root box, root kind, call list issued with `?` and fault position k:
  exactly `Err(k)`, `k + 1` root calls, none after the error, log = fault-free log truncated after
  `k` calls), instantiated with the call lists of the modelled drawables. Tied to the code by the
  `faults.prefix` stream (result and root record of the fault-free run and of fault positions
  0, n/2, n-1, log compared by length and digest).

  Dynamic half (harness module `faults`): for each drawable / style / adapter stack the k-th call
  of the real recording target is failed and the three conclusions are checked on the real code.
-/
import EG.Lemmas.DrawProg
namespace EG.C04
open EG EG.Generated

/-- **Every call site in the current sources propagates the target's error.** Re-decided by the
kernel on every run against the table regenerated from /repo: a site the translator classifies as
`discarded` or `unknown` breaks this theorem (and with it `prefix_law_sites`). -/
theorem all_sites_propagate : ∀ s ∈ drawSites, s.kind.propagates = true := by
  decide

/-- **Prefix law for every path through the generated call sites.** Let `es` be any sequence of
target calls, each made at a call site of the generated table through a stack of call sites of the
table. Then for every `k` below the number of calls of the fault-free run: `draw` returns exactly
error `k`, exactly `k + 1` calls are attempted (none after the failing one), and the successful
calls are the first `k` calls of the fault-free run. The flags of `stepsOf es` are computed from the
translator's classifications; `all_sites_propagate` is what makes them all true. -/
theorem prefix_law_sites (es : List Event)
    (hsites : ∀ e ∈ es, e.stack ≠ [] ∧ ∀ s ∈ e.stack, s ∈ drawSites)
    (k : Nat) (hk : k < es.length) :
    (runFaulty k (stepsOf es)).result = some k ∧
    (runFaulty k (stepsOf es)).attempted = k + 1 ∧
    (runFaulty k (stepsOf es)).log = (es.map (·.call)).take k := by
  have hclean : runClean (stepsOf es) = es.map (·.call) := by
    simp [runClean, stepsOf, Event.step, List.map_map, Function.comp_def]
  have hall : ∀ st ∈ stepsOf es, st.propagated = true := by
    intro st hst
    simp only [stepsOf, List.mem_map] at hst
    obtain ⟨e, he, rfl⟩ := hst
    obtain ⟨hne, hmem⟩ := hsites e he
    have h1 : e.stack.isEmpty = false := by
      cases hs : e.stack with
      | nil => exact absurd hs hne
      | cons _ _ => rfl
    have h2 : e.stack.all (·.kind.propagates) = true :=
      List.all_eq_true.mpr (fun s hs => all_sites_propagate s (hmem s hs))
    simp [Event.step, h1, h2]
  have h := DrawProg.interp_prefix_of_all_flags (stepsOf es) k hall (by rw [hclean]; simpa using hk)
  rw [hclean] at h
  exact h

-- the hypotheses of `prefix_law_sites` are satisfiable by a non-trivial path: three calls made
-- through stacks of 2, 1 and 3 sites of the generated table
example : ∃ es : List Event, es.length = 3 ∧
    (∀ e ∈ es, e.stack ≠ [] ∧ ∀ s ∈ e.stack, s ∈ drawSites) :=
  ⟨[⟨drawSites.take 2, .clear 1⟩, ⟨drawSites.take 1, .clear 2⟩, ⟨(drawSites.drop 5).take 3, .clear 3⟩],
    rfl, by
      intro e he
      simp only [List.mem_cons, List.not_mem_nil, or_false] at he
      rcases he with rfl | rfl | rfl
      · exact ⟨List.ne_nil_of_length_pos (by decide), fun _ => List.mem_of_mem_take⟩
      · exact ⟨List.ne_nil_of_length_pos (by decide), fun _ => List.mem_of_mem_take⟩
      · exact ⟨List.ne_nil_of_length_pos (by decide), fun _ h => List.mem_of_mem_drop (List.mem_of_mem_take h)⟩⟩

-- ... and the conclusion on it: failing the second call leaves exactly the first call in the log
example : (runFaulty 1 (stepsOf [⟨drawSites.take 2, .clear 1⟩, ⟨drawSites.take 1, .clear 2⟩,
    ⟨(drawSites.drop 5).take 3, .clear 3⟩])).log = [.clear 1] := by
  decide

-- the classification is what matters (the hypothesis discharged by `all_sites_propagate` is
-- necessary): one site on the failing call's stack that is classified `discarded` lets the next
-- call happen and loses the error
example (s t : DrawSite) (hs : s.kind = .discarded) (c1 c2 : Call) :
    (runFaulty 0 (stepsOf [⟨[t, s], c1⟩, ⟨[t], c2⟩])).attempted = 2 ∧
    (runFaulty 0 (stepsOf [⟨[t, s], c1⟩, ⟨[t], c2⟩])).result = none := by
  have h : (Event.step ⟨[t, s], c1⟩).propagated = false := by
    simp [Event.step, hs, SiteKind.propagates]
  have := DrawProg.interp_unflagged_continues c1 c2 (Event.step ⟨[t], c2⟩).propagated
  simpa [stepsOf, Event.step, hs, SiteKind.propagates] using this

/-- **The classifier saw every call expression.** File by file, the number of sites in the table
(found by the classifier's function/bracket parser) equals the number of call expressions counted
by an independent line-oriented textual scan of the same sources (`textual_scan` in
tools/tr_drawsites.py: every `NAME(` that is not a definition, outside comments, string literals
and `#[cfg(test)]` modules, also `NAME::<A<B>>(` with nested generic arguments, for every NAME whose
`fn` signature returns `Result<_, X::Error>`); the
totals agree, and both scans found the same set of error-returning function names. A call site in
a place the classifier does not look at (outside a parsed function body, e.g. in a macro
definition) breaks this theorem. -/
theorem sites_match_textual_scan :
    (∀ fc ∈ textualCallCounts, (drawSites.filter (fun s => s.file == fc.1)).length = fc.2) ∧
    drawSites.length = (textualCallCounts.map (·.2)).sum ∧
    errorReturningFns = textualErrorReturningFns := by
  decide +kernel

/-- The scan found the draw-target entry points themselves (guards against a scan that silently
stops recognising the sources). -/
theorem entry_points_seen :
    "draw_iter" ∈ errorReturningFns ∧ "fill_contiguous" ∈ errorReturningFns ∧
    "fill_solid" ∈ errorReturningFns ∧ "clear" ∈ errorReturningFns ∧ "draw" ∈ errorReturningFns ∧
    "draw_styled" ∈ errorReturningFns ∧ "draw_string" ∈ errorReturningFns ∧
    "draw_whitespace" ∈ errorReturningFns ∧
    "draw_sub_image" ∈ errorReturningFns ∧ 60 ≤ drawSites.length := by
  decide +kernel

-- [V] (for the four target adapters and the harness's recording roots the `Result` plumbing is transcribed and the prefix law proved from it, EG/Props/C04/Adapters.lean; the adapters' transcription is tied to the Rust text - one parent call per path, tail position, `Result` untouched, which call - by EG/Props/C04/GeneratedAdapters.lean; what follows is what remains for the drawables' own code and for Rust's semantics) that each built-in drawable's run is a sequence of target calls made through stacks of call sites of the table, and that a site classified q / tail / ret / bound_q / match_ret / tryclosure really returns the callee's `Err` unchanged and at once (Rust `?` / `return` / tail-expression semantics; the callee's and the caller's `X::Error` being the SAME type, so that `?` applies the identity `From` — the scan only checks that both are written as a bare `..::Error` path, it does not type-check; destructors make no target call; control flow independent of the target): not proved — `runFaulty` defines it; carried by the fault enumeration on the real code (module `faults`, which also drives `Pixel::draw`, `PixelIteratorExt::draw`, `draw_whitespace` and `clear` through every adapter) and by the translator's regression cases (tools/tests/drawsites_cases*.rs, validated against a fault-injecting target)
-- [V] call sites are found by NAME (every function whose signature returns `Result<_, X::Error>`, directly or through a `type` alias of the sources): a target call made through a function pointer / method path (`.map(Self::draw)`, `let f = D::fill_solid; f(t, ..)`), through a name that is a macro argument (`$t.$m(..)` expanded with `fill_solid`), or an error dropped by other means (mem::forget, a wrapper type, a `Drop` impl that draws) is seen by neither scan, only by the fault enumeration
-- [V] the closure rule is syntactic: a `|` counts as a closure head unless it directly follows the end of an operand (a word that is neither an expression keyword nor a label, a literal, `)`, `]`, `?`); a brace-less closure body is taken to end at the next `,` of its bracket level that is not inside `::<..>` / after an unclosed `<` (regression cases: drawsites_cases.rs `bad_braceless_closure_*`, `bad_typed_closure`, `bad_more_closures`; drawsites_cases_audit4.rs `bad_closure_*`, `ok_bars_after_operands`); when in doubt the site counts as inside a closure (alarm, e.g. a leading `|` in a match arm)
-- [V] the classifier knows these ways of delaying or conditioning the evaluation of a `?` / `return` / tail value and no others: closures, arguments of macro invocations, `async` / `try` blocks, `macro_rules!` bodies, the value of a `break`, short-circuit / loop-condition / argument positions before a bound `x?` (everything but a statement-initial `x?` is refused), non-plain patterns before the `Err(e)` arm of a `match`. A form of Rust syntax outside this list that swallows or defers an `Err` while looking like one of the six propagating forms would be classified as propagating; the regression cases (drawsites_cases_audit4.rs, each `violates` mark re-checkable with drawsites_validate_audit4.rs against a fault-injecting target) pin the known ones, the fault enumeration on the real code is what covers the rest
-- [V] `sites_match_textual_scan` compares two scans written in the same script by the same rules for what a call expression is (`NAME(`, `NAME::<..>(`); they are independent in HOW they find function bodies, comments, tests and names, not in that rule

end EG.C04
