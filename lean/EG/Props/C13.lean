/-
  C13 — Colour conversions scale to the nearest value and preserve the extremes.

  Property theorems only (helper lemmas: EG/Lemmas/ColorConv.lean, ColorConvLift.lean, ColorLuma.lean).
  Statements are about the model `EG.Model.Conv` (the bodies of the conversion macros of conversion.rs
  written once over pairs of `ColorSpec`s) and quantify over `resolvedTable`: the generated `convTable`
  (one entry per `impl From<A> for B` of the source) with the type names
  looked up in the generated `colorTable`; `table_counts` says nothing was lost on the way.

  Strength. `convert_channel` rounds exactly for all `u8` maxima (`Conv.fixed_point_nearest`), so the
  `cc_*` facts are arithmetic and the statements over `chanMaxima` are instances. Statements about whole
  colours hold for ALL colour values of the source type (`x.a.Valid c`, up to 2^24 of them): every
  conversion body is channel-wise `new` of converted channels, C12 says what `new` and the accessors do
  for any well-formed record, and both ends of a table entry are records of the colour table of the
  kinds its kind calls for (`Conv.resolved_typed`, one sweep over the table). `black_white` is decided
  over the 182 conversions; `gray_rgb_gray_roundtrip` rests on a three-step scaling identity decided
  for all pairs of widths up to 8 bits and all values (`Conv.cc_three_steps`).
  `Nearest F T v out` is `|out - v*T/F| ≤ 1/2` multiplied out: `2*F*out ≤ 2*v*T + F ∧ 2*v*T ≤ 2*F*out + F`.

  The bodies this model transcribes (`convert_channel`, `luma`, every conversion macro) are also REGENERATED
  from the Rust text (tools/tr_colorsrc.py -> EG/Generated/ColorSrc.lean) and proved equal to the model in
  EG/Props/C13/Generated.lean (`*_src_eq_model`, `apply_src_eq_model`; headline theorems restated as `src_*`).
-/
import EG.Lemmas.ColorLuma
namespace EG.C13
open EG EG.Generated EG.ColorSpec EG.Conv

/-- The table built by the translator's table parser has, in total and per kind, as many entries as
the translator's INDEPENDENT second count (`seen*`, tools/tr_color.py `census_convs`: occurrences of
`impl From<` in each macro body x lengths of the invocations' lists counted as separators + 1, no type
name parsed), and every entry resolves against the colour table. The stronger, source-independent
statement is `table_complete` below; the harness's compile-checked pair list is compared with the
table by the `conv.pairs` op. -/
theorem table_counts :
    convTable.length = seenConvImpls
    ∧ (convTable.filter (·.kind == .rgbRgb)).length = seenRgbRgb
    ∧ (convTable.filter (·.kind == .grayGray)).length = seenGrayGray
    ∧ (convTable.filter (·.kind == .grayRgb)).length = seenGrayRgb
    ∧ (convTable.filter (·.kind == .rgbGray)).length = seenRgbGray
    ∧ (convTable.filter (·.kind == .fromBinary)).length = seenFromBinary
    ∧ (convTable.filter (·.kind == .grayBinary)).length = seenGrayBinary
    ∧ (convTable.filter (·.kind == .rgbBinary)).length = seenRgbBinary
    ∧ resolvedTable.length = convTable.length := by
  rw [Conv.resolved_all]
  decide +kernel

/-- The table is the COMPLETE matrix: exactly one conversion for every ordered pair of distinct colour
types of `colorTable` (whose size `C12.table_counts` ties to the source), `n * (n - 1)` in all, each of the
kind the two types' kinds call for. Since Rust rejects a second `impl From<A> for B`, no conversion
between built-in types can exist in the source that this table lacks. -/
theorem table_complete :
    convTable.length = colorTable.length * (colorTable.length - 1)
    ∧ (∀ a ∈ colorTable, ∀ b ∈ colorTable, a.name ≠ b.name →
        ∃ e ∈ convTable, e.src = a.name ∧ e.dst = b.name ∧ some e.kind = kindFor a.kind b.kind)
    ∧ (convTable.map (fun e => (e.src, e.dst))).Nodup := by
  refine ⟨by decide +kernel, fun a ha b hb hab => entry_of_pair ha hb hab, ?_⟩
  have hnd := pairCodes.1
  rw [List.nodup_iff_pairwise_ne, List.pairwise_map] at hnd ⊢
  refine hnd.imp fun {x y} h hxy => h ?_
  obtain ⟨h1, h2⟩ := Prod.mk.inj hxy
  unfold pairCode
  rw [h1, h2]

/-- The helper conversions the RGB -> gray / binary bodies call (`Rgb888::from(other)`, `.into()`
from `Gray8`) are the named types of the colour table and are themselves generated conversions
(or the reflexive `From<T> for T`). -/
theorem helper_conversions_exist : ∀ x ∈ resolvedTable,
    x.via ∈ colorTable ∧ x.via.isRgb = true ∧ x.via.name = lumaVia ∧ x.g8 ∈ colorTable ∧ x.g8.kind = .gray ∧ x.g8.name = grayVia
    ∧ ((x.kind = .rgbGray ∨ x.kind = .rgbBinary) → x.a.name ≠ x.via.name → (⟨x.a.name, x.via.name, .rgbRgb⟩ : ConvSpec) ∈ convTable)
    ∧ (x.kind = .rgbGray → x.b.name ≠ x.g8.name → (⟨x.g8.name, x.b.name, .grayGray⟩ : ConvSpec) ∈ convTable) := by
  intro x hx
  have t := resolved_typed x hx
  have h := t.helpers
  -- the complete matrix has the entry for every pair of distinct types, of the kind their kinds call for
  have entry (a b : ColorSpec) (ha : a ∈ colorTable) (hb : b ∈ colorTable) (hn : a.name ≠ b.name) (k : ConvKind)
      (hk : kindFor a.kind b.kind = some k) : (⟨a.name, b.name, k⟩ : ConvSpec) ∈ convTable := by
    obtain ⟨e, he, h1, h2, h3⟩ := entry_of_pair ha hb hn
    rw [hk] at h3
    cases h3
    rw [← h1, ← h2]
    exact he
  refine ⟨t.via_mem, h.v_rgb, (findSpec_some t.via).2, t.g8_mem, h.g_gray, (findSpec_some t.g8).2, ?_, ?_⟩
  · intro hk hn
    have ha : x.a.isRgb = true := hk.elim (fun hk => (t.rgbGray hk).1) (fun hk => (t.rgbBinary hk).1)
    exact entry _ _ t.a_mem t.via_mem hn _ (kindFor_rgb_rgb ha h.v_rgb)
  · intro hk hn
    have hb : x.b.kind = .gray := (t.rgbGray hk).2
    refine entry _ _ t.g8_mem t.b_mem (fun e => hn e.symm) _ ?_
    rw [h.g_gray, hb]
    rfl

/-! ### every provided conversion maps black to black and white to white -/

/-- all 182 generated conversions, all seven kinds (`BinaryColor`: `Off` is black, `On` is white) -/
theorem black_white : ∀ x ∈ resolvedTable,
    x.apply (black x.a) = black x.b ∧ x.apply (white x.a) = white x.b := by decide +kernel

/-! ### `convert_channel` on the table it is used on -/

theorem cc_extremes : ∀ F ∈ chanMaxima, ∀ T ∈ chanMaxima,
    convertChannel F T 0 = 0 ∧ convertChannel F T F = T :=
  fun F hF T hT => ⟨cc_zero, cc_max (chanMaxima_u8 F hF).1 (chanMaxima_u8 F hF).2 (chanMaxima_u8 T hT).2⟩

theorem cc_range : ∀ F ∈ chanMaxima, ∀ T ∈ chanMaxima, ∀ v, v ≤ F → convertChannel F T v ≤ T :=
  fun _ _ _ _ _ hv => cc_le hv

/-- the representable value nearest to the exactly scaled one (error at most half a target step) -/
theorem cc_nearest : ∀ F ∈ chanMaxima, ∀ T ∈ chanMaxima, ∀ v, v ≤ F → Nearest F T v (convertChannel F T v) :=
  fun F hF T hT _ hv => Conv.cc_nearest (chanMaxima_u8 F hF).1 (chanMaxima_u8 F hF).2 (chanMaxima_u8 T hT).2 hv

theorem cc_monotone : ∀ F ∈ chanMaxima, ∀ T ∈ chanMaxima, ∀ v w, v ≤ w → w ≤ F →
    convertChannel F T v ≤ convertChannel F T w :=
  fun _ _ T hT _ _ hvw hw => cc_mono (chanMaxima_u8 T hT).2 hw hvw

theorem cc_widen_narrow : ∀ F ∈ chanMaxima, ∀ T ∈ chanMaxima, F ≤ T → ∀ v, v ≤ F →
    convertChannel T F (convertChannel F T v) = v :=
  fun F hF T hT h _ hv => Conv.cc_widen_narrow (chanMaxima_u8 F hF).1 h (chanMaxima_u8 T hT).2 hv

/-- the `u32` intermediates of `convert_channel` stay below 2^32 (so the mathematical model is the code) -/
theorem cc_no_overflow : ∀ F ∈ chanMaxima, ∀ T ∈ chanMaxima, ∀ v, v ≤ F →
    T <<< ccShift < 2 ^ 32 ∧ v * ((T <<< ccShift) / F) + (1 <<< (ccShift - 1)) < 2 ^ 32 :=
  fun _ _ T hT _ hv => Conv.cc_no_overflow (chanMaxima_u8 T hT).2 hv

example : (31 : Nat) ∈ chanMaxima ∧ (255 : Nat) ∈ chanMaxima ∧ (31 : Nat) ≤ 255 ∧ convertChannel 31 255 17 = 140 := by decide

/-! ### RGB -> RGB (90 conversions, every source colour) -/

theorem rgb_channelwise : ∀ x ∈ resolvedTable, x.kind = .rgbRgb → ∀ c, x.a.Valid c →
    x.b.chanR (x.apply c) = convertChannel x.a.maxR x.b.maxR (x.a.chanR c)
    ∧ x.b.chanG (x.apply c) = convertChannel x.a.maxG x.b.maxG (x.a.chanG c)
    ∧ x.b.chanB (x.apply c) = convertChannel x.a.maxB x.b.maxB (x.a.chanB c) := by
  intro x hx hk c _
  have t := resolved_typed x hx
  rw [apply_rgbRgb hk]
  exact rgbToRgb_channels t.b_wf (t.rgbRgb hk).2 c

theorem rgb_nearest : ∀ x ∈ resolvedTable, x.kind = .rgbRgb → ∀ c, x.a.Valid c →
    Nearest x.a.maxR x.b.maxR (x.a.chanR c) (x.b.chanR (x.apply c))
    ∧ Nearest x.a.maxG x.b.maxG (x.a.chanG c) (x.b.chanG (x.apply c))
    ∧ Nearest x.a.maxB x.b.maxB (x.a.chanB c) (x.b.chanB (x.apply c)) := by
  intro x hx hk c hc
  have t := resolved_typed x hx
  obtain ⟨wr, wg, wb, _⟩ := Color.wf_rgb t.a_wf (t.rgbRgb hk).1
  obtain ⟨h1, h2, h3⟩ := rgb_channelwise x hx hk c hc
  rw [h1, h2, h3]
  exact ⟨Conv.cc_nearest (maxChan_pos wr) (maxChan_lt_256 _) (maxChan_lt_256 _) (chanR_le _ c),
    Conv.cc_nearest (maxChan_pos wg) (maxChan_lt_256 _) (maxChan_lt_256 _) (chanG_le _ c),
    Conv.cc_nearest (maxChan_pos wb) (maxChan_lt_256 _) (maxChan_lt_256 _) (chanB_le _ c)⟩

theorem rgb_monotone : ∀ x ∈ resolvedTable, x.kind = .rgbRgb → ∀ c c', x.a.Valid c → x.a.Valid c' →
    (x.a.chanR c ≤ x.a.chanR c' → x.b.chanR (x.apply c) ≤ x.b.chanR (x.apply c'))
    ∧ (x.a.chanG c ≤ x.a.chanG c' → x.b.chanG (x.apply c) ≤ x.b.chanG (x.apply c'))
    ∧ (x.a.chanB c ≤ x.a.chanB c' → x.b.chanB (x.apply c) ≤ x.b.chanB (x.apply c')) := by
  intro x hx hk c c' hc hc'
  obtain ⟨h1, h2, h3⟩ := rgb_channelwise x hx hk c hc
  obtain ⟨h1', h2', h3'⟩ := rgb_channelwise x hx hk c' hc'
  rw [h1, h2, h3, h1', h2', h3']
  exact ⟨cc_mono (maxChan_lt_256 _) (chanR_le _ c'), cc_mono (maxChan_lt_256 _) (chanG_le _ c'),
    cc_mono (maxChan_lt_256 _) (chanB_le _ c')⟩

/-- RGB <-> BGR (or any pair) of equal depth in every channel keeps all channels -/
theorem rgb_same_depth : ∀ x ∈ resolvedTable, x.kind = .rgbRgb →
    x.a.rbits = x.b.rbits → x.a.gbits = x.b.gbits → x.a.bbits = x.b.bbits → ∀ c, x.a.Valid c →
    x.b.chanR (x.apply c) = x.a.chanR c ∧ x.b.chanG (x.apply c) = x.a.chanG c
    ∧ x.b.chanB (x.apply c) = x.a.chanB c := by
  intro x hx hk e1 e2 e3 c hc
  obtain ⟨h1, h2, h3⟩ := rgb_channelwise x hx hk c hc
  rw [h1, h2, h3]
  simp only [maxR, maxG, maxB, e1, e2, e3, cc_same, and_self]

/-- converting to a type with at least as many bits in every channel and back is the identity -/
theorem rgb_widen_roundtrip : ∀ x ∈ resolvedTable, ∀ y ∈ resolvedTable, x.kind = .rgbRgb → y.kind = .rgbRgb →
    y.a = x.b → y.b = x.a → x.a.rbits ≤ x.b.rbits → x.a.gbits ≤ x.b.gbits → x.a.bbits ≤ x.b.bbits →
    ∀ c, x.a.Valid c → y.apply (x.apply c) = c := by
  intro x hx y _ hk hky eya eyb w1 w2 w3 c hc
  have t := resolved_typed x hx
  rw [apply_rgbRgb hky, apply_rgbRgb hk, eya, eyb]
  exact rgbToRgb_widen_narrow t.a_wf t.b_wf (t.rgbRgb hk).1 (t.rgbRgb hk).2 w1 w2 w3 hc

/-- non-vacuity: Rgb565 -> Bgr888 and back is such a pair, `0xF81F` a colour of Rgb565; and
Rgb565 -> Bgr565 is a same-depth pair -/
example : ∃ x ∈ resolvedTable, ∃ y ∈ resolvedTable, x.kind = .rgbRgb ∧ y.kind = .rgbRgb ∧ y.a = x.b ∧ y.b = x.a
    ∧ x.a.name = "Rgb565" ∧ x.b.name = "Bgr888" ∧ x.a.rbits ≤ x.b.rbits ∧ x.a.gbits ≤ x.b.gbits ∧ x.a.bbits ≤ x.b.bbits
    ∧ x.a.Valid 0xF81F ∧ x.apply 0xF81F = 0xFF00FF :=
  ⟨_, get_resolve_mem (e := ⟨"Rgb565", "Bgr888", .rgbRgb⟩) (by decide +kernel),
    _, get_resolve_mem (e := ⟨"Bgr888", "Rgb565", .rgbRgb⟩) (by decide +kernel), by decide +kernel⟩
example : ∃ x ∈ resolvedTable, x.kind = .rgbRgb ∧ x.a.name = "Rgb565" ∧ x.b.name = "Bgr565"
    ∧ x.a.rbits = x.b.rbits ∧ x.a.gbits = x.b.gbits ∧ x.a.bbits = x.b.bbits ∧ x.a.Valid 0xF800 ∧ x.apply 0xF800 = 0x001F :=
  ⟨_, get_resolve_mem (e := ⟨"Rgb565", "Bgr565", .rgbRgb⟩) (by decide +kernel), by decide +kernel⟩

/-! ### gray -> gray (6 conversions) -/

theorem gray_channelwise : ∀ x ∈ resolvedTable, x.kind = .grayGray → ∀ c, x.a.Valid c →
    x.b.luma (x.apply c) = convertChannel (maxLuma x.a) (maxLuma x.b) (x.a.luma c) := by
  intro x hx hk c hc
  have t := resolved_typed x hx
  rw [apply_grayGray hk]
  exact grayToGray_luma t.a_wf t.b_wf (t.grayGray hk).1 (t.grayGray hk).2 hc

theorem gray_nearest : ∀ x ∈ resolvedTable, x.kind = .grayGray → ∀ c, x.a.Valid c →
    Nearest (maxLuma x.a) (maxLuma x.b) (x.a.luma c) (x.b.luma (x.apply c)) := by
  intro x hx hk c hc
  have t := resolved_typed x hx
  obtain ⟨hka, hkb⟩ := t.grayGray hk
  rw [gray_channelwise x hx hk c hc]
  exact Conv.cc_nearest (maxLuma_u8 t.a_wf hka).1 (maxLuma_u8 t.a_wf hka).2 (maxLuma_u8 t.b_wf hkb).2
    (valid_gray_le t.a_wf hka hc)

theorem gray_monotone : ∀ x ∈ resolvedTable, x.kind = .grayGray → ∀ c c', x.a.Valid c → x.a.Valid c' →
    x.a.luma c ≤ x.a.luma c' → x.b.luma (x.apply c) ≤ x.b.luma (x.apply c') := by
  intro x hx hk c c' hc hc' h
  have t := resolved_typed x hx
  obtain ⟨hka, hkb⟩ := t.grayGray hk
  rw [gray_channelwise x hx hk c hc, gray_channelwise x hx hk c' hc']
  exact cc_mono (maxLuma_u8 t.b_wf hkb).2 (valid_gray_le t.a_wf hka hc') h

theorem gray_widen_roundtrip : ∀ x ∈ resolvedTable, ∀ y ∈ resolvedTable, x.kind = .grayGray → y.kind = .grayGray →
    y.a = x.b → y.b = x.a → x.a.rawBpp ≤ x.b.rawBpp → ∀ c, x.a.Valid c → y.apply (x.apply c) = c := by
  intro x hx y _ hk hky eya eyb w c hc
  have t := resolved_typed x hx
  rw [apply_grayGray hky, apply_grayGray hk, eya, eyb]
  exact grayToGray_widen_narrow t.a_wf t.b_wf (t.grayGray hk).1 (t.grayGray hk).2 w hc

example : ∃ x ∈ resolvedTable, ∃ y ∈ resolvedTable, x.kind = .grayGray ∧ y.kind = .grayGray ∧ y.a = x.b ∧ y.b = x.a
    ∧ x.a.name = "Gray2" ∧ x.b.name = "Gray8" ∧ x.a.rawBpp ≤ x.b.rawBpp ∧ x.a.Valid 2 ∧ x.apply 2 = 170 :=
  ⟨_, get_resolve_mem (e := ⟨"Gray2", "Gray8", .grayGray⟩) (by decide +kernel),
    _, get_resolve_mem (e := ⟨"Gray8", "Gray2", .grayGray⟩) (by decide +kernel), by decide +kernel⟩

/-! ### gray -> RGB gives equally scaled channels, and back -/

/-- every channel is `convert_channel` of the luma to that channel's width, i.e. the value nearest
to the luma scaled to that width -/
theorem gray_rgb_equal_scaling : ∀ x ∈ resolvedTable, x.kind = .grayRgb → ∀ c, x.a.Valid c →
    (x.b.chanR (x.apply c) = convertChannel (maxLuma x.a) x.b.maxR (x.a.luma c)
     ∧ x.b.chanG (x.apply c) = convertChannel (maxLuma x.a) x.b.maxG (x.a.luma c)
     ∧ x.b.chanB (x.apply c) = convertChannel (maxLuma x.a) x.b.maxB (x.a.luma c))
    ∧ Nearest (maxLuma x.a) x.b.maxR (x.a.luma c) (x.b.chanR (x.apply c))
    ∧ Nearest (maxLuma x.a) x.b.maxG (x.a.luma c) (x.b.chanG (x.apply c))
    ∧ Nearest (maxLuma x.a) x.b.maxB (x.a.luma c) (x.b.chanB (x.apply c)) := by
  intro x hx hk c hc
  have t := resolved_typed x hx
  obtain ⟨hka, hkb⟩ := t.grayRgb hk
  obtain ⟨m0, m8⟩ := maxLuma_u8 t.a_wf hka
  have hv := valid_gray_le t.a_wf hka hc
  rw [apply_grayRgb hk]
  obtain ⟨h1, h2, h3⟩ := grayToRgb_channels t.a_wf t.b_wf hka hkb hc
  refine ⟨⟨h1, h2, h3⟩, ?_, ?_, ?_⟩
  · rw [h1]; exact Conv.cc_nearest m0 m8 (maxChan_lt_256 _) hv
  · rw [h2]; exact Conv.cc_nearest m0 m8 (maxChan_lt_256 _) hv
  · rw [h3]; exact Conv.cc_nearest m0 m8 (maxChan_lt_256 _) hv

theorem gray_rgb_monotone : ∀ x ∈ resolvedTable, x.kind = .grayRgb → ∀ c c', x.a.Valid c → x.a.Valid c' →
    x.a.luma c ≤ x.a.luma c' →
    x.b.chanR (x.apply c) ≤ x.b.chanR (x.apply c') ∧ x.b.chanG (x.apply c) ≤ x.b.chanG (x.apply c')
    ∧ x.b.chanB (x.apply c) ≤ x.b.chanB (x.apply c') := by
  intro x hx hk c c' hc hc' h
  have t := resolved_typed x hx
  have hv := valid_gray_le t.a_wf (t.grayRgb hk).1 hc'
  obtain ⟨⟨h1, h2, h3⟩, _⟩ := gray_rgb_equal_scaling x hx hk c hc
  obtain ⟨⟨h1', h2', h3'⟩, _⟩ := gray_rgb_equal_scaling x hx hk c' hc'
  rw [h1, h2, h3, h1', h2', h3']
  exact ⟨cc_mono (maxChan_lt_256 _) hv h, cc_mono (maxChan_lt_256 _) hv h, cc_mono (maxChan_lt_256 _) hv h⟩

/-- converting back returns the original gray whenever every RGB channel has at least as many bits
as the gray type -/
theorem gray_rgb_gray_roundtrip : ∀ x ∈ resolvedTable, ∀ y ∈ resolvedTable,
    x.kind = .grayRgb → y.kind = .rgbGray → y.a = x.b → y.b = x.a →
    x.a.rawBpp ≤ x.b.rbits → x.a.rawBpp ≤ x.b.gbits → x.a.rawBpp ≤ x.b.bbits →
    ∀ c, x.a.Valid c → y.apply (x.apply c) = c := by
  intro x hx y hy hk hky e1 e2 w1 w2 w3 c hc
  have t := resolved_typed x hx
  have ty := resolved_typed y hy
  obtain ⟨hka, hkb⟩ := t.grayRgb hk
  rw [apply_rgbGray hky, apply_grayRgb hk]
  have hv := ty.a_via
  have hg := ty.b_g8
  rw [e1] at hv
  rw [e2] at hg
  rw [e1, e2]
  exact gray_rgb_gray ty.helpers t.a_wf t.b_wf hka hkb hv hg w1 w2 w3 hc

example : ∃ x ∈ resolvedTable, ∃ y ∈ resolvedTable, x.kind = .grayRgb ∧ y.kind = .rgbGray ∧ y.a = x.b ∧ y.b = x.a
    ∧ x.a.name = "Gray4" ∧ x.b.name = "Rgb565" ∧ x.a.rawBpp ≤ x.b.rbits ∧ x.a.rawBpp ≤ x.b.gbits ∧ x.a.rawBpp ≤ x.b.bbits
    ∧ x.a.Valid 9 ∧ x.apply 9 = 0x9CD3 ∧ y.apply 0x9CD3 = 9 :=
  ⟨_, get_resolve_mem (e := ⟨"Gray4", "Rgb565", .grayRgb⟩) (by decide +kernel),
    _, get_resolve_mem (e := ⟨"Rgb565", "Gray4", .rgbGray⟩) (by decide +kernel), by decide +kernel⟩

/-! ### RGB -> gray, RGB -> binary: monotone in every channel; the luma -/

theorem rgb_gray_monotone : ∀ y ∈ resolvedTable, y.kind = .rgbGray → ∀ c c', y.a.Valid c → y.a.Valid c' →
    y.a.chanR c ≤ y.a.chanR c' → y.a.chanG c ≤ y.a.chanG c' → y.a.chanB c ≤ y.a.chanB c' →
    y.b.luma (y.apply c) ≤ y.b.luma (y.apply c') := by
  intro y hy hk c c' _ _ h1 h2 h3
  have t := resolved_typed y hy
  have h := t.helpers
  rw [apply_rgbGray hk, apply_rgbGray hk, rgbToGray_luma h t.b_wf (t.rgbGray hk).2 t.b_g8,
    rgbToGray_luma h t.b_wf (t.rgbGray hk).2 t.b_g8]
  exact cc_mono (maxLuma_u8 t.b_wf (t.rgbGray hk).2).2 (rgbLuma_le _ _ _)
    (rgbLuma_mono h.v_wf h.v_rgb t.a_via c c' h1 h2 h3)

theorem rgb_binary_monotone : ∀ y ∈ resolvedTable, y.kind = .rgbBinary → ∀ c c', y.a.Valid c → y.a.Valid c' →
    y.a.chanR c ≤ y.a.chanR c' → y.a.chanG c ≤ y.a.chanG c' → y.a.chanB c ≤ y.a.chanB c' →
    y.apply c ≤ y.apply c' := by
  intro y hy hk c c' _ _ h1 h2 h3
  have t := resolved_typed y hy
  have hl := rgbLuma_mono t.helpers.v_wf t.helpers.v_rgb t.a_via c c' h1 h2 h3
  rw [apply_rgbBinary hk, apply_rgbBinary hk]
  unfold rgbToBinary
  -- two threshold tests `luma ≥ 128`, the second on the larger luma
  split <;> split <;> omega

/-- the luma of an RGB colour (`luma(Rgb888::from(c))`) is what its conversion to the 8-bit gray type returns -/
theorem rgb_gray8_is_luma : ∀ y ∈ resolvedTable, y.kind = .rgbGray → y.b = y.g8 → ∀ c,
    y.b.luma (y.apply c) = rgbLuma y.a y.via c := by
  intro y hy hk e c
  have t := resolved_typed y hy
  rw [apply_rgbGray hk, rgbToGray_luma t.helpers t.b_wf (t.rgbGray hk).2 t.b_g8, e, t.helpers.g_max, cc_same]

/-! ### conversions to `BinaryColor`: `On` exactly for the upper half of the luma range -/

/-- gray types: luma range `0..=MAX_LUMA`, `On` iff `luma ≥ (MAX_LUMA+1)/2` -/
theorem gray_binary_threshold : ∀ x ∈ resolvedTable, x.kind = .grayBinary → ∀ c, x.a.Valid c →
    (x.apply c = 1 ↔ maxLuma x.a + 1 ≤ 2 * x.a.luma c) ∧ (x.apply c = 0 ∨ x.apply c = 1) := by
  intro x hx hk c _
  have t := resolved_typed x hx
  rw [apply_grayBinary hk]
  exact grayToBinary_iff t.a_wf (t.grayBinary hk).1 c

/-- RGB types: luma range `0..=255` (`rgb_gray8_is_luma`), `On` iff `luma ≥ 128` -/
theorem rgb_binary_threshold : ∀ x ∈ resolvedTable, x.kind = .rgbBinary → ∀ c,
    (x.apply c = 1 ↔ 255 + 1 ≤ 2 * rgbLuma x.a x.via c) ∧ (x.apply c = 0 ∨ x.apply c = 1)
    ∧ rgbLuma x.a x.via c ≤ 255 := by
  intro x _ hk c
  obtain ⟨h1, h2⟩ := rgbToBinary_iff x.a x.via c
  rw [apply_rgbBinary hk]
  exact ⟨by rw [h1]; omega, h2, rgbLuma_le _ _ _⟩

example : ∃ x ∈ resolvedTable, x.kind = .grayBinary ∧ x.a.name = "Gray4" ∧ x.a.Valid 8 ∧ x.apply 8 = 1 ∧ x.apply 7 = 0 :=
  ⟨_, get_resolve_mem (e := ⟨"Gray4", "BinaryColor", .grayBinary⟩) (by decide +kernel), by decide +kernel⟩
example : ∃ x ∈ resolvedTable, x.kind = .rgbBinary ∧ x.a.name = "Rgb565" ∧ x.a.Valid 0x07E0 ∧ x.apply 0x07E0 = 1
    ∧ x.apply 0xF81F = 0 :=
  ⟨_, get_resolve_mem (e := ⟨"Rgb565", "BinaryColor", .rgbBinary⟩) (by decide +kernel), by decide +kernel⟩
example : ∃ y ∈ resolvedTable, y.kind = .rgbGray ∧ y.b = y.g8 ∧ y.a.name = "Bgr555" ∧ y.a.Valid 0x7C00 ∧ y.apply 0x7C00 = 29 :=
  ⟨_, get_resolve_mem (e := ⟨"Bgr555", "Gray8", .rgbGray⟩) (by decide +kernel), by decide +kernel⟩

/-! ### the luma is the ITU-R BT.601 luma `0.299 R + 0.587 G + 0.114 B`, to within one 8-bit step

Stated in integers (`256000 * L` against `256 * (299 R + 587 G + 114 B)`; `244280 / 256000 = 0.95422`). -/

/-- The weights regenerated from conversion.rs ARE the BT.601 coefficients in 1/256 units: each is the
integer nearest to `coefficient * 256` (which determines 77, 150, 29), they sum to the divisor 256 and
half the divisor is added before dividing (round half up). Exchanging or changing weights in the
source makes this false. -/
theorem luma_weights_bt601 :
    lumaDiv = 256 ∧ 2 * lumaRound = lumaDiv
    ∧ (1000 * lumaWR ≤ 299 * lumaDiv + 500 ∧ 299 * lumaDiv ≤ 1000 * lumaWR + 500)
    ∧ (1000 * lumaWG ≤ 587 * lumaDiv + 500 ∧ 587 * lumaDiv ≤ 1000 * lumaWG + 500)
    ∧ (1000 * lumaWB ≤ 114 * lumaDiv + 500 ∧ 114 * lumaDiv ≤ 1000 * lumaWB + 500)
    ∧ lumaWR + lumaWG + lumaWB = lumaDiv := by decide

/-- For ALL 8-bit `r, g, b`: the luma expression of the code differs from the exact
`0.299 r + 0.587 g + 0.114 b` by at most `0.95422` (< 1), stays a `u8`, and reproduces a gray input. -/
theorem luma_close_bt601 (r g b : Nat) (hr : r ≤ 255) (hg : g ≤ 255) (hb : b ≤ 255) :
    256000 * lumaFormula r g b ≤ 256 * (299 * r + 587 * g + 114 * b) + 244280
    ∧ 256 * (299 * r + 587 * g + 114 * b) ≤ 256000 * lumaFormula r g b + 244280
    ∧ lumaFormula r g b ≤ 255
    ∧ (r = g → g = b → lumaFormula r g b = r) := Conv.lumaFormula_close r g b hr hg hb

/-- ... and `lumaFormula` on the colour's channels is what the model's `luma` computes (definitional) -/
theorem luma_is_formula (v : ColorSpec) (z : Nat) :
    lumaOf v z = lumaFormula (v.chanR z) (v.chanG z) (v.chanB z) := rfl

example : lumaFormula 255 0 0 = 77 ∧ lumaFormula 0 255 0 = 149 ∧ lumaFormula 0 0 255 = 29
    ∧ lumaFormula 200 100 50 = 124 := by decide

/-- RGB -> gray, all 30 conversions, every source colour: with `r8 g8 b8` the source channels scaled to
8 bits (each the nearest value) and `L` an 8-bit luma within `0.95422` of their exact BT.601 luma, the
result is the value nearest to `L` scaled to the target's luma range (`L` itself for `Gray8`). -/
theorem rgb_gray_close : ∀ y ∈ resolvedTable, y.kind = .rgbGray → ∀ c, y.a.Valid c →
    ∃ r8 g8 b8 L,
      Nearest y.a.maxR 255 (y.a.chanR c) r8 ∧ Nearest y.a.maxG 255 (y.a.chanG c) g8
      ∧ Nearest y.a.maxB 255 (y.a.chanB c) b8
      ∧ r8 ≤ 255 ∧ g8 ≤ 255 ∧ b8 ≤ 255
      ∧ 256000 * L ≤ 256 * (299 * r8 + 587 * g8 + 114 * b8) + 244280
      ∧ 256 * (299 * r8 + 587 * g8 + 114 * b8) ≤ 256000 * L + 244280
      ∧ L ≤ 255
      ∧ Nearest 255 (maxLuma y.b) L (y.b.luma (y.apply c)) := Conv.rgb_gray_close

/-- The same in the form the harness oracle evaluates on the real results (`C13:tie-hypothesis:rgb-gray-luma-is-bt601`):
`|out - Y * T/255| ≤ 1/2 + T/255` with `Y = (299 r8 + 587 g8 + 114 b8)/1000`, `T = MAX_LUMA` of the
target, multiplied out by 510000; for the 8-bit gray type `|out - Y| ≤ 1`. -/
theorem rgb_gray_within : ∀ y ∈ resolvedTable, y.kind = .rgbGray → ∀ c, y.a.Valid c →
    ∃ r8 g8 b8,
      Nearest y.a.maxR 255 (y.a.chanR c) r8 ∧ Nearest y.a.maxG 255 (y.a.chanG c) g8
      ∧ Nearest y.a.maxB 255 (y.a.chanB c) b8
      ∧ 510000 * y.b.luma (y.apply c)
          ≤ 2 * maxLuma y.b * (299 * r8 + 587 * g8 + 114 * b8) + 255000 + 2000 * maxLuma y.b
      ∧ 2 * maxLuma y.b * (299 * r8 + 587 * g8 + 114 * b8)
          ≤ 510000 * y.b.luma (y.apply c) + 255000 + 2000 * maxLuma y.b
      ∧ (maxLuma y.b = 255 →
          1000 * y.b.luma (y.apply c) ≤ 299 * r8 + 587 * g8 + 114 * b8 + 1000
          ∧ 299 * r8 + 587 * g8 + 114 * b8 ≤ 1000 * y.b.luma (y.apply c) + 1000) := Conv.rgb_gray_within

/-- RGB -> binary, every source colour: `On` iff that 8-bit luma (within `0.95422` of the exact BT.601
luma of the 8-bit channels) is in the upper half `128..=255` of its range. -/
theorem rgb_binary_close : ∀ x ∈ resolvedTable, x.kind = .rgbBinary → ∀ c, x.a.Valid c →
    ∃ r8 g8 b8 L,
      Nearest x.a.maxR 255 (x.a.chanR c) r8 ∧ Nearest x.a.maxG 255 (x.a.chanG c) g8
      ∧ Nearest x.a.maxB 255 (x.a.chanB c) b8
      ∧ r8 ≤ 255 ∧ g8 ≤ 255 ∧ b8 ≤ 255
      ∧ 256000 * L ≤ 256 * (299 * r8 + 587 * g8 + 114 * b8) + 244280
      ∧ 256 * (299 * r8 + 587 * g8 + 114 * b8) ≤ 256000 * L + 244280
      ∧ (x.apply c = 1 ↔ 128 ≤ L) ∧ (x.apply c = 0 ∨ x.apply c = 1) := Conv.rgb_binary_close

/-- non-vacuity: Rgb565 -> Gray4 is such a conversion, `0x07E0` (pure green) a colour of Rgb565;
green scales to 255, `L = 149` (exact 149.685), nearest of `149 * 15 / 255 = 8.76` is 9 -/
example : ∃ y ∈ resolvedTable, y.kind = .rgbGray ∧ y.a.name = "Rgb565" ∧ y.b.name = "Gray4" ∧ y.a.Valid 0x07E0
    ∧ y.apply 0x07E0 = 9 ∧ maxLuma y.b = 15 :=
  ⟨_, get_resolve_mem (e := ⟨"Rgb565", "Gray4", .rgbGray⟩) (by decide +kernel), by decide +kernel⟩

-- RGB -> gray relative to the luma of the EXACTLY scaled channels (`r * 255 / MAX_R` as a rational instead of
-- the nearest 8-bit `r8`): the 8-bit rounding of the channels adds at most `1/2` (the weights sum to 1), i.e.
-- `|L - Y_exact| ≤ 1.45422`; this composition of `rgb_gray_close` with `Nearest` is left to the reader (it needs
-- the three channel maxima as common denominator), the oracle checks the `r8` form that is proved.

end EG.C13
