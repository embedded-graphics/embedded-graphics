/-
  C16 — Rectangle operations agree with the set of points they describe.

  Property theorems only (helper lemmas live in EG/Lemmas). All statements are about the model
  `EG.Model.Rect` (a literal transcription of core/src/primitives/rectangle/{mod,points}.rs) and
  hold for every rectangle / pair of rectangles; where the Rust code would saturate or panic
  (`u32 -> i32` conversion, `i32` overflow of `top_left + size`) the statements carry the explicit
  decidable range guard `Rect.InRange`.
-/
import EG.Lemmas.RectOps
import EG.Lemmas.RectPoints
namespace EG.C16
open EG EG.Rect

/-! ### `contains`, `bottom_right`: top-left plus size as a set of points -/

theorem contains_iff_topleft_size (r : Rect) (p : Pt) :
    r.contains p = true ↔
      r.tl.x ≤ p.x ∧ p.x < r.tl.x + r.size.w ∧ r.tl.y ≤ p.y ∧ p.y < r.tl.y + r.size.h :=
  Rect.contains_iff

/-- (Definitional: `rfl`, restates the model's text of `bottom_right`; the content is in
`bottom_right_is_max` / `bottom_right_none_iff_empty`.) -/
theorem bottom_right_spec (r : Rect) :
    r.bottomRight = if 0 < r.size.w ∧ 0 < r.size.h
      then some ⟨r.tl.x + r.size.w - 1, r.tl.y + r.size.h - 1⟩ else none := rfl

/-- `bottom_right` is the last point `contains` accepts. -/
theorem bottom_right_is_max (r : Rect) (br : Pt) (h : r.bottomRight = some br) :
    r.contains br = true ∧ ∀ p, r.contains p = true → p.x ≤ br.x ∧ p.y ≤ br.y := by
  obtain ⟨hpos, hx, hy⟩ := Rect.bottomRight_eq h
  refine ⟨by rw [Rect.contains_iff]; omega, ?_⟩
  intro p hp; rw [Rect.contains_iff] at hp; omega

theorem bottom_right_none_iff_empty (r : Rect) :
    r.bottomRight = none ↔ ∀ p, r.contains p = false := by
  rw [Rect.bottomRight_eq_none_iff]
  constructor
  · intro h p; exact Rect.contains_false_of_zero h
  · intro h
    cases hz : r.isZeroSized with
    | true => exact Rect.isZeroSized_iff.mp hz
    | false => have := h r.tl; rw [Rect.contains_tl hz] at this; cases this

/-- `intersection` returns exactly the common points of both rectangles. -/
theorem mem_intersection (a b : Rect) (p : Pt) :
    (a.intersection b).contains p = true ↔ (a.contains p = true ∧ b.contains p = true) :=
  Rect.mem_intersection a b p

/-- The same point set in either argument order. -/
theorem intersection_comm_points (a b : Rect) (p : Pt) :
    (a.intersection b).contains p = (b.intersection a).contains p := by
  rw [Bool.eq_iff_iff, mem_intersection, mem_intersection, and_comm]

/-- Contained in both operands. -/
theorem intersection_subset (a b : Rect) (p : Pt) (h : (a.intersection b).contains p = true) :
    a.contains p = true ∧ b.contains p = true := (mem_intersection a b p).mp h

/-- Zero sized if there is no common point. -/
theorem intersection_zero_of_disjoint (a b : Rect)
    (h : ∀ p, ¬ (a.contains p = true ∧ b.contains p = true)) :
    (a.intersection b).isZeroSized = true := Rect.intersection_zero_of_disjoint a b h

/-- With `points()`: the points of the intersection are the points of `a` that lie in `b`. -/
theorem points_intersection (a b : Rect) (hi : (a.intersection b).InRange) (ha : a.InRange) (p : Pt) :
    p ∈ (a.intersection b).points ↔ (p ∈ a.points ∧ b.contains p = true) := by
  rw [Rect.mem_points hi, Rect.mem_points ha, mem_intersection]

/-! ### `envelope` — the smallest rectangle containing both (operands treated as at least 1x1,
the documented convention)

`envelope_contains` / `envelope_least` are about `atLeastOne` operands: a zero width or height counts as
1. For non-empty operands `atLeastOne` is the identity and the statement is the property's. For empty
operands the result is NOT the smallest rectangle containing both point sets; `envelope_zero_sized`
states what the code returns there. -/

theorem envelope_contains (a b : Rect) (ha : a.size.w ≤ 2147483647 ∧ a.size.h ≤ 2147483647)
    (hb : b.size.w ≤ 2147483647 ∧ b.size.h ≤ 2147483647) (p : Pt)
    (hp : a.atLeastOne.contains p = true ∨ b.atLeastOne.contains p = true) :
    (a.envelope b).contains p = true := by
  rw [envelope_eq a b ha hb, contains_iff_axes]
  rw [contains_atLeastOne, contains_atLeastOne] at hp
  rcases hp with h | h
  · exact ⟨mem_hull_axis (Or.inl h.1), mem_hull_axis (Or.inl h.2)⟩
  · exact ⟨mem_hull_axis (Or.inr h.1), mem_hull_axis (Or.inr h.2)⟩

theorem envelope_least (a b c : Rect) (ha : a.size.w ≤ 2147483647 ∧ a.size.h ≤ 2147483647)
    (hb : b.size.w ≤ 2147483647 ∧ b.size.h ≤ 2147483647)
    (hc : ∀ p, (a.atLeastOne.contains p = true ∨ b.atLeastOne.contains p = true) → c.contains p = true)
    (p : Pt) (hp : (a.envelope b).contains p = true) : c.contains p = true :=
  Rect.envelope_least a b c ha hb hc p hp

/-- What the code returns, for all operands whose sizes fit `i32`, without `atLeastOne`: the corners are the component-wise
minimum of the top-left points and the maximum of `top_left + max(size, 1)` (one past the bottom-right
anchor points). -/
theorem envelope_closed_form (a b : Rect) (ha : a.size.w ≤ 2147483647 ∧ a.size.h ≤ 2147483647)
    (hb : b.size.w ≤ 2147483647 ∧ b.size.h ≤ 2147483647) :
    a.envelope b =
      ⟨⟨min a.tl.x b.tl.x, min a.tl.y b.tl.y⟩,
       ⟨(max (a.tl.x + max (a.size.w : Int) 1) (b.tl.x + max (b.size.w : Int) 1) - min a.tl.x b.tl.x).toNat,
        (max (a.tl.y + max (a.size.h : Int) 1) (b.tl.y + max (b.size.h : Int) 1) - min a.tl.y b.tl.y).toNat⟩⟩ :=
  Rect.envelope_eq a b ha hb

/-- **Zero sized operands** (the case the two theorems above cover only through `atLeastOne`): the
envelope of two rectangles of size 0x0 — two EMPTY point sets — is not empty. The code returns the
rectangle spanned by the two top-left points inclusive, `|dx|+1` by `|dy|+1` (1x1 when they coincide):
it is not "the smallest rectangle containing both" point sets (the empty rectangle would be), it is the
smallest one containing both top-left points. -/
theorem envelope_zero_sized (a b : Rect) (ha : a.size = ⟨0, 0⟩) (hb : b.size = ⟨0, 0⟩) :
    a.envelope b = Rect.withCorners a.tl b.tl ∧
    (a.envelope b).size = ⟨(a.tl.x - b.tl.x).natAbs + 1, (a.tl.y - b.tl.y).natAbs + 1⟩ ∧
    (a.envelope b).contains a.tl = true ∧ (a.envelope b).contains b.tl = true ∧
    (∀ c : Rect, c.contains a.tl = true → c.contains b.tl = true →
      ∀ p, (a.envelope b).contains p = true → c.contains p = true) := by
  -- the bottom right anchor point of a 0x0 rectangle is its top left corner
  have he : a.envelope b = Rect.withCorners a.tl b.tl := by
    unfold envelope
    rw [Rect.anchorPoint_of_size_zero ha, Rect.anchorPoint_of_size_zero hb]
    exact Rect.withCorners_min_max a.tl b.tl
  rw [he]
  have hca : (Rect.withCorners a.tl b.tl).contains a.tl = true :=
    Rect.contains_withCorners.mpr
      ⟨Int.min_le_left _ _, Int.le_max_left _ _, Int.min_le_left _ _, Int.le_max_left _ _⟩
  have hcb : (Rect.withCorners a.tl b.tl).contains b.tl = true :=
    Rect.contains_withCorners.mpr
      ⟨Int.min_le_right _ _, Int.le_max_right _ _, Int.min_le_right _ _, Int.le_max_right _ _⟩
  exact ⟨rfl, rfl, hca, hcb, fun c h1 h2 p hp => Rect.contains_of_withCorners h1 h2 hp⟩

/-- For every pair (zero sized or not, sizes within `i32`) the envelope contains both top-left points. -/
theorem envelope_contains_top_lefts (a b : Rect) (ha : a.size.w ≤ 2147483647 ∧ a.size.h ≤ 2147483647)
    (hb : b.size.w ≤ 2147483647 ∧ b.size.h ≤ 2147483647) :
    (a.envelope b).contains a.tl = true ∧ (a.envelope b).contains b.tl = true := by
  exact ⟨envelope_contains a b ha hb a.tl (Or.inl (contains_atLeastOne.mpr (by omega))),
    envelope_contains a b ha hb b.tl (Or.inr (contains_atLeastOne.mpr (by omega)))⟩

example : (⟨⟨5, 5⟩, ⟨0, 0⟩⟩ : Rect).size = ⟨0, 0⟩ ∧ (⟨⟨20, 20⟩, ⟨0, 0⟩⟩ : Rect).size = ⟨0, 0⟩ := ⟨rfl, rfl⟩
example : (⟨⟨-7, 3⟩, ⟨320, 0⟩⟩ : Rect).size.w ≤ 2147483647 ∧ (⟨⟨-7, 3⟩, ⟨320, 0⟩⟩ : Rect).size.h ≤ 2147483647 := by decide
-- two empty rectangles 15 apart: a 16x16 envelope; an empty operand far from a non-empty one enlarges the result
example : (⟨⟨5, 5⟩, ⟨0, 0⟩⟩ : Rect).envelope ⟨⟨20, 20⟩, ⟨0, 0⟩⟩ = ⟨⟨5, 5⟩, ⟨16, 16⟩⟩ := by decide
example : (⟨⟨5, 5⟩, ⟨0, 0⟩⟩ : Rect).envelope ⟨⟨5, 5⟩, ⟨0, 0⟩⟩ = ⟨⟨5, 5⟩, ⟨1, 1⟩⟩ := by decide
example : (⟨⟨0, 0⟩, ⟨0, 0⟩⟩ : Rect).envelope ⟨⟨10, 10⟩, ⟨2, 2⟩⟩ = ⟨⟨0, 0⟩, ⟨12, 12⟩⟩ := by decide

/-- `points()` yields exactly the points `contains()` accepts ... -/
theorem mem_points_iff_contains (r : Rect) (h : r.InRange) (p : Pt) :
    p ∈ r.points ↔ r.contains p = true := Rect.mem_points h

/-- ... in row-major order (strictly increasing, so each exactly once) ... -/
theorem points_row_major (r : Rect) : r.points.Pairwise Pt.rowMajorLt := Rect.points_rowMajor r

theorem points_nodup (r : Rect) : r.points.Nodup := Rect.points_nodup r

/-- ... `width * height` of them. -/
theorem points_length (r : Rect) (h : r.InRange) : r.points.length = r.size.w * r.size.h :=
  Rect.points_length h

/-- The iterator state machine equals the product of `rows()` and `columns()`. -/
theorem points_eq_rows_columns (r : Rect) :
    r.points = if r.isZeroSized then [] else r.rows.flatMap (fun y => r.columns.map (fun x => ⟨x, y⟩)) :=
  Rect.points_eq_spec r

theorem mem_rows (r : Rect) (h : r.InRange) (y : Int) :
    y ∈ r.rows ↔ r.tl.y ≤ y ∧ y < r.tl.y + r.size.h := by
  have := Rect.rowsEnd_eq h
  unfold rowsEnd at this
  unfold rows; rw [mem_irange, this]

theorem mem_columns (r : Rect) (h : r.InRange) (x : Int) :
    x ∈ r.columns ↔ r.tl.x ≤ x ∧ x < r.tl.x + r.size.w := by
  have := Rect.columnsEnd_eq h
  unfold columnsEnd at this
  unfold columns; rw [mem_irange, this]

/-- `with_center(center(), size)` is the identity. -/
theorem with_center_center (r : Rect) : Rect.withCenter r.center r.size = r := by
  cases r with | mk tl size =>
  cases tl; cases size
  simp only [withCenter, center, centerOffset, Rect.mk.injEq, Pt.mk.injEq, and_true]
  omega

/-- The centre of `with_center(c, s)` is `c`. -/
theorem center_with_center (c : Pt) (s : Sz) : (Rect.withCenter c s).center = c := by
  cases c
  simp only [withCenter, center, centerOffset, Pt.mk.injEq]
  omega

/-- The centre is the middle point: equally far from both sides, the extra pixel of even sizes
on the right / bottom. -/
theorem center_is_middle (r : Rect) (h : 0 < r.size.w ∧ 0 < r.size.h) :
    let c := r.center
    (c.x - r.tl.x = (r.tl.x + r.size.w - 1) - c.x ∨ c.x - r.tl.x + 1 = (r.tl.x + r.size.w - 1) - c.x) ∧
    (c.y - r.tl.y = (r.tl.y + r.size.h - 1) - c.y ∨ c.y - r.tl.y + 1 = (r.tl.y + r.size.h - 1) - c.y) := by
  simp only [center, centerOffset]
  omega

/-- `with_corners` is the rectangle spanned by the two corners (in any order). -/
theorem with_corners_spec (a b : Pt) (p : Pt) :
    (Rect.withCorners a b).contains p = true ↔
      min a.x b.x ≤ p.x ∧ p.x ≤ max a.x b.x ∧ min a.y b.y ≤ p.y ∧ p.y ≤ max a.y b.y :=
  Rect.contains_withCorners

theorem with_corners_comm (a b : Pt) : Rect.withCorners a b = Rect.withCorners b a := by
  simp only [withCorners, Rect.mk.injEq, Pt.mk.injEq, Sz.mk.injEq]
  omega

theorem with_corners_top_left_bottom_right (r : Rect) (br : Pt) (h : r.bottomRight = some br) :
    Rect.withCorners r.tl br = r := by
  obtain ⟨hpos, hx, hy⟩ := Rect.bottomRight_eq h
  cases r with | mk tl size =>
  cases tl; cases size; cases br
  simp only [withCorners, Rect.mk.injEq, Pt.mk.injEq, Sz.mk.injEq] at *
  omega

/-- Anchor points of a rectangle (size treated as at least 1): left/top is the top-left
coordinate, right/bottom the bottom-right one, centre the middle rounded down. -/
theorem anchor_point_spec (r : Rect) (h : r.size.w ≤ 2147483647 ∧ r.size.h ≤ 2147483647) (a : Anchor) :
    (r.anchorPoint a).x = (match a.ax with
      | .left => r.tl.x
      | .center => r.tl.x + (max (r.size.w : Int) 1 - 1) / 2
      | .right => r.tl.x + max (r.size.w : Int) 1 - 1) ∧
    (r.anchorPoint a).y = (match a.ay with
      | .top => r.tl.y
      | .center => r.tl.y + (max (r.size.h : Int) 1 - 1) / 2
      | .bottom => r.tl.y + max (r.size.h : Int) 1 - 1) := by
  unfold anchorPoint
  constructor
  · cases a.ax
    · exact Rect.anchorX_left r
    · exact Rect.anchorX_center h.1
    · exact Rect.anchorX_right h.1
  · cases a.ay
    · exact Rect.anchorY_top r
    · exact Rect.anchorY_center h.2
    · exact Rect.anchorY_bottom h.2

/-- Resizing sets the size and keeps an edge or corner anchor fixed exactly and a centre anchor
within one pixel (per axis). -/
theorem resized_keeps_anchor (r : Rect) (s : Sz) (a : Anchor)
    (hr : r.size.w ≤ 2147483647 ∧ r.size.h ≤ 2147483647) (hs : s.w ≤ 2147483647 ∧ s.h ≤ 2147483647) :
    (r.resized s a).size = s ∧
    (a.ax ≠ .center → ((r.resized s a).anchorPoint a).x = (r.anchorPoint a).x) ∧
    (a.ay ≠ .center → ((r.resized s a).anchorPoint a).y = (r.anchorPoint a).y) ∧
    (((r.resized s a).anchorPoint a).x - (r.anchorPoint a).x).natAbs ≤ 1 ∧
    (((r.resized s a).anchorPoint a).y - (r.anchorPoint a).y).natAbs ≤ 1 := by
  have hx := Rect.anchorX_resizedWidth hr.1 hs.1 a.ax
  have hy := Rect.anchorY_resizedHeight (r := r.resizedWidth s.w a.ax) hr.2 hs.2 a.ay
  exact ⟨rfl, hx.1, hy.1, hx.2, hy.2⟩

/-- `resized_width` / `resized_height` are the two axes of `resized`. (Definitional: `simp` on the
model's text, where `resized` is written as the composition of the two; the content about resizing is
`resized_keeps_anchor`. The tie of the three Rust methods to each other is the oracle class
`resized-axis-mix` + the correspondence.) -/
theorem resized_axes (r : Rect) (s : Sz) (a : Anchor) :
    (r.resized s a).tl.x = (r.resizedWidth s.w a.ax).tl.x ∧
    (r.resized s a).tl.y = (r.resizedHeight s.h a.ay).tl.y := by
  simp [resized, resizedWidth, resizedHeight]

/-- Offsetting by `n ≥ 0` moves every side by `n` — also for rectangles with a zero width and/or
height (repaired in /repo: the old code grew a zero sized side about its top left corner). -/
theorem offset_grow_moves_sides (r : Rect) (n : Int) (hn : 0 ≤ n)
    (hb : (r.size.w : Int) + 2 * n ≤ 4294967295 ∧ (r.size.h : Int) + 2 * n ≤ 4294967295) :
    (r.offset n).tl.x = r.tl.x - n ∧ (r.offset n).tl.y = r.tl.y - n ∧
    ((r.offset n).size.w : Int) = r.size.w + 2 * n ∧ ((r.offset n).size.h : Int) = r.size.h + 2 * n := by
  have hx := Rect.offset_axis (r.offset_x n).1 (r.offset_x n).2 (Or.inl hn) hb.1
  have hy := Rect.offset_axis (r.offset_y n).1 (r.offset_y n).2 (Or.inl hn) hb.2
  exact ⟨hx.1, hy.1, hx.2, hy.2⟩

/-- The two axes are independent: `offset(n)` moves the left and right side by `n` whenever the resulting WIDTH
is positive (and, for `n < 0`, the width was positive), whatever happens on the other axis - e.g.
`(5,5) 10x1 .offset(-1)` collapses vertically but still becomes 8 wide starting at x = 6. -/
theorem offset_moves_sides_x (r : Rect) (n : Int)
    (hr : 0 ≤ n ∨ 0 < r.size.w) (hn : 0 < (r.size.w : Int) + 2 * n) (hb : (r.size.w : Int) + 2 * n ≤ 4294967295) :
    (r.offset n).tl.x = r.tl.x - n ∧ ((r.offset n).size.w : Int) = r.size.w + 2 * n :=
  Rect.offset_axis (r.offset_x n).1 (r.offset_x n).2 (hr.imp id fun h => ⟨h, hn⟩) hb

/-- The same for the top and bottom side. -/
theorem offset_moves_sides_y (r : Rect) (n : Int)
    (hr : 0 ≤ n ∨ 0 < r.size.h) (hn : 0 < (r.size.h : Int) + 2 * n) (hb : (r.size.h : Int) + 2 * n ≤ 4294967295) :
    (r.offset n).tl.y = r.tl.y - n ∧ ((r.offset n).size.h : Int) = r.size.h + 2 * n :=
  Rect.offset_axis (r.offset_y n).1 (r.offset_y n).2 (hr.imp id fun h => ⟨h, hn⟩) hb

example : (⟨⟨5, 5⟩, ⟨10, 1⟩⟩ : Rect).offset (-1) = ⟨⟨6, 5⟩, ⟨8, 0⟩⟩ := by decide

/-- Offsetting by `n` moves every side by `n`, whenever the result has a positive size on both
axes (for `n < 0` a rectangle that is too small has no such result: `offset_collapse`). A zero sized
input side is only excluded for `n < 0`, where nothing can be removed from it. -/
theorem offset_moves_sides (r : Rect) (n : Int)
    (hr : 0 ≤ n ∨ (0 < r.size.w ∧ 0 < r.size.h))
    (hn : 0 < (r.size.w : Int) + 2 * n ∧ 0 < (r.size.h : Int) + 2 * n)
    (hb : (r.size.w : Int) + 2 * n ≤ 4294967295 ∧ (r.size.h : Int) + 2 * n ≤ 4294967295) :
    (r.offset n).tl.x = r.tl.x - n ∧ (r.offset n).tl.y = r.tl.y - n ∧
    ((r.offset n).size.w : Int) = r.size.w + 2 * n ∧ ((r.offset n).size.h : Int) = r.size.h + 2 * n :=
  have hx := offset_moves_sides_x r n (hr.imp id And.left) hn.1 hb.1
  have hy := offset_moves_sides_y r n (hr.imp id And.right) hn.2 hb.2
  ⟨hx.1, hy.1, hx.2, hy.2⟩

/-- A negative offset larger than the rectangle collapses it to zero size along that axis
(saturating), it never wraps. (Definitional: unfolds the model's `saturating_sub`, `Nat` subtraction;
it says nothing about where the collapsed rectangle sits. The content about `offset` is
`offset_moves_sides` / `offset_grow_moves_sides`.) -/
theorem offset_collapse (r : Rect) (n : Int) (hn : n < 0) :
    (r.offset n).size.w = r.size.w - (-n).toNat * 2 ∧ (r.offset n).size.h = r.size.h - (-n).toNat * 2 := by
  exact ⟨by rw [(r.offset_x n).2, if_neg (by omega)], by rw [(r.offset_y n).2, if_neg (by omega)]⟩

/-! ### Concrete instances -/

example : (⟨⟨-2, 3⟩, ⟨5, 4⟩⟩ : Rect).InRange := by decide
example : (⟨⟨-2, 3⟩, ⟨5, 4⟩⟩ : Rect).points.length = 20 := by decide
example : ((⟨⟨0, 0⟩, ⟨7, 8⟩⟩ : Rect).intersection ⟨⟨2, 3⟩, ⟨10, 7⟩⟩) = ⟨⟨2, 3⟩, ⟨5, 5⟩⟩ := by decide
example : ((⟨⟨0, 0⟩, ⟨7, 8⟩⟩ : Rect).envelope ⟨⟨2, 3⟩, ⟨10, 7⟩⟩) = ⟨⟨0, 0⟩, ⟨12, 10⟩⟩ := by decide
example : (⟨⟨20, 20⟩, ⟨10, 20⟩⟩ : Rect).resized ⟨20, 10⟩ ⟨.center, .center⟩ = ⟨⟨15, 25⟩, ⟨20, 10⟩⟩ := by decide
example : (⟨⟨5, 5⟩, ⟨4, 6⟩⟩ : Rect).offset (-1) = ⟨⟨6, 6⟩, ⟨2, 4⟩⟩ := by decide
-- the zero sized cases the old `with_center(center(), size)` form got wrong: (5,5) 2x2 / (5,4) 2x5
example : (⟨⟨5, 5⟩, ⟨0, 0⟩⟩ : Rect).offset 1 = ⟨⟨4, 4⟩, ⟨2, 2⟩⟩ := by decide
example : (⟨⟨5, 5⟩, ⟨0, 3⟩⟩ : Rect).offset 1 = ⟨⟨4, 4⟩, ⟨2, 5⟩⟩ := by decide

end EG.C16
