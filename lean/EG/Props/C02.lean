/-
  C02 — bounding boxes contain everything that is drawn; a completely transparent style draws nothing.
  This root file holds no theorem of its own: the property theorems are in the files of `EG/Props/C02/`:
    Rectangle.lean, Curved.lean, RoundedRect.lean, Arc.lean, Line.lean, Image.lean, Text.lean
                      per drawable: every write of `draw()` and every pixel of `pixels()` lies inside
                      `bounding_box()`
    ThickLine.lean    stroked lines of any width
    Joins.lean, JoinsBBox.lean, JoinsBBoxAlign.lean
                      thick segments; stroked polylines and styled triangles of width > 1, under the
                      decidable guards named there
    JoinsTotal.lean   the models of stroked lines, polylines and triangles are total
    GuardBits.lean    the guard bits the model driver prints are those guards
    Generated.lean    the rectangle part over the functions regenerated from the Rust text
  Sub-claims that are not proved are the `-- [V]` lines of those files.
-/
import EG.Basic.Core
namespace EG.C02
end EG.C02
