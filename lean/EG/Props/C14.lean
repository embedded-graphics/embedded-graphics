/-
  C14 — Text drawn with a MonoTextStyle places, for the i-th character of a line, the glyph bitmap
  that the font's glyph mapping designates for it in the cell at x offset i x (character width +
  spacing) ... (properties.jsonl, C14).

  Property theorems only (helper lemmas: EG/Lemmas/Font*.lean; the vocabulary of the statements that is not in the
  model — `Style.mode`, `Mode.colourOf`, `textWidth`: FontPixels.lean; `TextInRange`, `DecoInRange`, `NotDecorated`:
  FontText.lean; `FontOK`, `FontDecoOK`: FontTables.lean). Statements are about the model
  `EG.Model.Font` (src/mono_font/{mod,mapping,mono_text_style,draw_target}.rs arm for arm) and the
  tables `EG.Generated.FontTable` that tools/tr_fonts.py rewrites from the sources on every run.

  Strength: [P] = proved for all inputs; [F] = decided by kernel evaluation on the generated tables
  (292 fonts, 14 mappings) and lifted to all characters by [P] lemmas.
-/
import EG.Lemmas.FontTables
import EG.Lemmas.FontText
namespace EG.C14
open EG EG.Font EG.Generated

/-! ### The glyph a mapping designates ([P], every mapping string) -/

/-- `index c` is the first position of `c` in the list of mapped characters (`chars()`), or the
replacement index if `c` is not mapped. -/
theorem index_spec (m : StrMapping) (c : Nat) :
    m.index c = if c ∈ expand m.data then (expand m.data).idxOf c else m.replacement :=
  index_eq m c

/-- A mapped character designates a glyph below the glyph count, the character listed there is the
character itself, and no earlier position lists it. -/
theorem index_of_mapped (m : StrMapping) (c : Nat) (h : c ∈ expand m.data) :
    ∃ hlt : m.index c < (expand m.data).length,
      (expand m.data)[m.index c] = c ∧ ∀ k (hk : k < m.index c), (expand m.data)[k]'(by omega) ≠ c := by
  have e : m.index c = (expand m.data).idxOf c := by rw [index_eq, if_pos h]
  simp only [e]
  refine ⟨List.idxOf_lt_length_of_mem h, List.getElem_idxOf _, fun k hk heq => ?_⟩
  have := List.not_of_lt_findIdx (show k < (expand m.data).findIdx (· == c) from hk)
  simp [heq] at this

example : (⟨[0, 97, 102, 0, 49, 52], 0⟩ : StrMapping).index 50 = 7 := by decide

/-- Characters missing from the mapping (control characters, non-BMP, anything) get the replacement index. -/
theorem index_of_unmapped (m : StrMapping) (c : Nat) (h : c ∉ expand m.data) :
    m.index c = m.replacement := by
  rw [index_eq, if_neg h]

example : (⟨[0, 97, 102, 0, 49, 52], 3⟩ : StrMapping).index 0x1F600 = 3 := by decide

/-- Each mapped character has its own index: two different mapped characters never share one. -/
theorem mapped_chars_own_index (m : StrMapping) (c₁ c₂ : Nat) (h₁ : c₁ ∈ expand m.data)
    (h₂ : c₂ ∈ expand m.data) (h : m.index c₁ = m.index c₂) : c₁ = c₂ := by
  obtain ⟨l1, g1, _⟩ := index_of_mapped m c₁ h₁
  obtain ⟨l2, g2, _⟩ := index_of_mapped m c₂ h₂
  rw [← g1, ← g2]
  congr 1

/-- A `\0 s e` range that does not cross the surrogate gap stands for the characters `s..=e` in
order: position `k` of the range holds `s + k` (consecutive characters, consecutive indices). -/
theorem range_is_interval (s e : Nat) (h : s ≤ e) (hg : e ≤ 0xD7FF ∨ 0xD7FF < s) :
    charRange s e = List.range' s (e + 1 - s) := by
  rw [charRange_eq, if_neg (by omega)]

example : charRange 0x20 0x7f = List.range' 0x20 96 := range_is_interval _ _ (by decide) (by decide)

/-! ### The 14 built-in mappings ([F] on the generated strings) -/

/-- The translated tables have exactly the sizes counted in the source. -/
theorem tables_complete : fontTable.length = fontsSeen ∧ mappingTable.length = mappingsSeen :=
  ⟨fontTable_length, mappingTable_length⟩

/-- Every built-in mapping lists no character twice: glyph indices `0 .. count-1` and mapped characters
correspond one to one. -/
theorem builtin_mappings_nodup : ∀ m ∈ mappingTable, (expand m.data).Nodup := fun m hm =>
  (mappingTable_ok m hm).1

theorem builtin_index_bijective : ∀ m ∈ mappingTable, ∀ k (hk : k < (expand m.data).length),
    (mappingOfRec m).index ((expand m.data)[k]) = k := fun m hm k hk =>
  index_getElem_of_nodup (mappingOfRec m) (builtin_mappings_nodup m hm) k hk

/-- The replacement index of every built-in mapping designates an existing glyph, the glyph of `?`. -/
theorem builtin_replacement_is_question_mark : ∀ m ∈ mappingTable,
    m.replacement < (expand m.data).length ∧ (expand m.data)[m.replacement]? = some 63 := fun m hm =>
  ⟨(mappingTable_ok m hm).2.1, (mappingTable_ok m hm).2.2.1⟩

/-! ### The 292 built-in fonts ([F] on the generated table, lifted by [P] lemmas) -/

/-- Glyph count = glyphs per row x rows (equality, not only `<=`: a mapping range that is one character
short or an atlas with a surplus row fails here; see `FontOK`), positive character size, atlas file
length = bytes per row (rows padded to whole bytes) x height. -/
theorem builtin_fonts_atlas_fits : ∀ r ∈ fontTable, FontOK r := fontTable_ok

/-- [P] For every font: a glyph index below `glyphs_per_row * rows` has its cell completely inside
the font image. -/
theorem cell_inside_image (f : MonoFont) (gi : Nat) (hcw : 0 < f.cw) (hch : 0 < f.ch)
    (h : gi < (f.imgW / f.cw) * (f.imgH / f.ch)) : f.areaDrawable (f.glyphAreaOfIndex gi) = true :=
  cell_inside_of_lt f gi h

example : (⟨64, 36, 4, 6, 0, 4, 6, 1, 3, 1, fun _ => 0⟩ : MonoFont).areaDrawable
    ((⟨64, 36, 4, 6, 0, 4, 6, 1, 3, 1, fun _ => 0⟩ : MonoFont).glyphAreaOfIndex 95) = true := by decide

/-- [P] Different glyph indices have different cells. -/
theorem cells_distinct (f : MonoFont) (i j : Nat) (hcw : 0 < f.cw) (hch : 0 < f.ch) (hw : f.cw ≤ f.imgW)
    (h : f.glyphAreaOfIndex i = f.glyphAreaOfIndex j) : i = j := by
  rw [glyphAreaOfIndex_eq f i hcw hw, glyphAreaOfIndex_eq f j hcw hw] at h
  simp only [Rect.mk.injEq, Pt.mk.injEq, Int.natCast_inj, and_true] at h
  rw [← Nat.div_add_mod i (f.imgW / f.cw), ← Nat.div_add_mod j (f.imgW / f.cw),
    Nat.eq_of_mul_eq_mul_right hcw h.1, Nat.eq_of_mul_eq_mul_right hch h.2]

/-- For every built-in font and every character whatsoever (mapped, control, non-BMP) the cell of the
designated glyph lies completely inside the font image. -/
theorem builtin_cells_inside (r : FontRec) (hr : r ∈ fontTable) (c : Nat) :
    (fontOfRec r).areaDrawable ((fontOfRec r).glyphArea c) = true :=
  builtin_glyph_drawable r hr c

/-- Characters missing from the mapping render the replacement glyph: their cell is the cell of the
replacement index (for every mapping string and font geometry). -/
theorem unmapped_renders_replacement (f : MonoFont) (m : StrMapping) (hf : f.index = m.index) (c : Nat)
    (h : c ∉ expand m.data) : f.glyphArea c = f.glyphAreaOfIndex m.replacement := by
  unfold MonoFont.glyphArea; rw [hf, index_of_unmapped m c h]

example : (27 : Nat) ∉ expand [0, 32, 127] := by
  rw [expand_range, expand, List.append_nil, mem_charRange]
  omega

/-! ### Layout ([P], every font, string, spacing, position) -/

/-- `line_elements`: item `2i` is the `i`-th character at x offset `i * (cw + spacing)`, item `2i+1`
the spacing element directly after that cell (not after the last character), and `Done` sits at the
end of the last cell: text width `n*cw + (n-1)*spacing` (this is the position `draw_string` returns). -/
theorem line_elements_pos (f : MonoFont) (pos : Pt) (text : List Nat) :
    (∀ i (h : i < text.length), (lineElements f pos text)[2 * i]? =
        some (⟨pos.x + ((i * (f.cw + f.spacing) : Nat) : Int), pos.y⟩, .char text[i])) ∧
    (∀ i, i + 1 < text.length → (lineElements f pos text)[2 * i + 1]? =
        some (⟨pos.x + ((i * (f.cw + f.spacing) : Nat) : Int) + (f.cw : Int), pos.y⟩, .spacing)) ∧
    (lineElements f pos text).length = (if text.length = 0 then 1 else 2 * text.length) ∧
    (lineElements f pos text).find? (fun e => e.2 == Elem.done) =
        some (⟨pos.x + (textWidth f text.length : Int), pos.y⟩, .done) := by
  rw [lineElements_eq_lineSpec]
  refine ⟨fun i h => lineSpec_char f text pos i h, fun i h => lineSpec_spacing f text pos i h,
    lineSpec_length f text pos, ?_⟩
  rw [lineSpec_done, TextLayout.endPos_eq, textWidth_eq_bbWidth]

/-! ### Pixels ([P]) -/

/-- One glyph, any colour variant: drawing the cell `a` of the atlas at `p` writes, for every pixel
`(dx, dy)` of the cell in row-major order, `p + (dx, dy)` with the text colour if the atlas bit is on
and the background colour if it is off — and nothing where the variant has no such colour. -/
theorem glyph_call_writes (B : Rect) (m : Mode) (atlas : Pt → Bool) (p : Pt) (a : Rect)
    (h : (⟨p, a.size⟩ : Rect).InRange) :
    (m.lower (BCall.fillContiguous ⟨p, a.size⟩ (cellBits atlas a))).flatMap (Call.lowerDefault B) =
      cellWrites m atlas p a :=
  glyph_lowerDefault B m atlas p a h

example : (⟨⟨-3, 7⟩, (⟨⟨8, 16⟩, ⟨4, 6⟩⟩ : Rect).size⟩ : Rect).InRange := by decide

/-- The draw_iter-only target and the native-fill target end with the same pixel map, for every
call list (so everything below holds for both). -/
theorem r1_eq_r2 (B : Rect) (calls : List Call) : runDefault B calls = runNative B calls :=
  Tgt.runDefault_eq_runNative B calls

section DrawnString
variable (B : Rect) (f : MonoFont) (atlas : Pt → Bool) (st : Style) (m : Mode) (hm : st.mode = some m)
  (text : List Nat) (position : Pt) (bl : Baseline)
  (hd : ∀ c ∈ text, f.areaDrawable (f.glyphArea c) = true)
  (hr : TextInRange f ⟨position.x, position.y - f.baselineOffset bl⟩ text.length)
  (hdr : DecoInRange f ⟨position.x, position.y - f.baselineOffset bl⟩ (textWidth f text.length))
include hm hd hr hdr

/-- **glyph_cell_pixels.** In the final pixel map of `draw_string`, pixel `(dx, dy)` of the cell of the
`i`-th character `c` — at x offset `i * (cw + spacing)`, y = position minus the baseline offset — is what
the colour rule makes of the atlas bit `(dx, dy)` of the glyph cell designated for `c`: on -> text colour,
off -> background colour, `none` (untouched) when that colour is not set; wherever no drawn decoration
covers the pixel. (For an unmapped `c` the designated cell is the replacement glyph's.) -/
theorem glyph_cell_pixels (i c dx dy : Nat) (hi : text[i]? = some c) (hdx : dx < f.cw) (hdy : dy < f.ch)
    (hB : B.contains ⟨position.x + ((i * (f.cw + f.spacing) : Nat) : Int) + (dx : Int),
                      position.y - f.baselineOffset bl + (dy : Int)⟩ = true)
    (hnd : NotDecorated f st (textWidth f text.length) ⟨position.x, position.y - f.baselineOffset bl⟩
            ⟨position.x + ((i * (f.cw + f.spacing) : Nat) : Int) + (dx : Int),
             position.y - f.baselineOffset bl + (dy : Int)⟩) :
    runDefault B (f.drawString atlas st text position bl).1
        ⟨position.x + ((i * (f.cw + f.spacing) : Nat) : Int) + (dx : Int),
         position.y - f.baselineOffset bl + (dy : Int)⟩ =
      m.colourOf (atlas ⟨(f.glyphArea c).tl.x + (dx : Int), (f.glyphArea c).tl.y + (dy : Int)⟩) := by
  refine (slot_pixel B f atlas st m hm text position bl hd hr hdr _ i dx dy (by omega) hdy rfl hB hnd).trans ?_
  exact slotColour_glyph atlas m dy hdx hi

/-- **Spacing.** The `spacing` columns after every character but the last get the background colour if
one is set and are otherwise untouched. -/
theorem spacing_pixels (i dx dy : Nat) (hi : i + 1 < text.length) (hdx : dx < f.spacing) (hdy : dy < f.ch)
    (hB : B.contains ⟨position.x + ((i * (f.cw + f.spacing) : Nat) : Int) + (f.cw : Int) + (dx : Int),
                      position.y - f.baselineOffset bl + (dy : Int)⟩ = true)
    (hnd : NotDecorated f st (textWidth f text.length) ⟨position.x, position.y - f.baselineOffset bl⟩
            ⟨position.x + ((i * (f.cw + f.spacing) : Nat) : Int) + (f.cw : Int) + (dx : Int),
             position.y - f.baselineOffset bl + (dy : Int)⟩) :
    runDefault B (f.drawString atlas st text position bl).1
        ⟨position.x + ((i * (f.cw + f.spacing) : Nat) : Int) + (f.cw : Int) + (dx : Int),
         position.y - f.baselineOffset bl + (dy : Int)⟩ = m.bgColour := by
  refine (slot_pixel B f atlas st m hm text position bl hd hr hdr _ i (f.cw + dx) dy (by omega) hdy ?_ hB hnd).trans ?_
  · rw [cellX, Int.natCast_add, Int.add_assoc]
  · exact slotColour_gap atlas m dy (by omega) hi

/-- Nothing outside the box `text width x character height` is touched, except by decorations. -/
theorem outside_untouched (q : Pt)
    (h : q.y < position.y - f.baselineOffset bl ∨ position.y - f.baselineOffset bl + (f.ch : Int) ≤ q.y ∨
         q.x < position.x ∨ position.x + (textWidth f text.length : Int) ≤ q.x)
    (hnd : NotDecorated f st (textWidth f text.length) ⟨position.x, position.y - f.baselineOffset bl⟩ q) :
    runDefault B (f.drawString atlas st text position bl).1 q = none := by
  by_cases hB : B.contains q = true
  · rw [undecorated_pixel B f atlas st m hm text position bl hd hr hdr q hB hnd]
    refine Tgt.lastWrite_eq_of_mem_iff fun col => ⟨fun hmem => ?_, nofun⟩
    have := textWrites_box f atlas m text _ (fun c hc => glyphArea_size_of_drawable f c (hd c hc)) q col hmem
    dsimp only at this
    omega
  · rw [runDefault_apply, if_neg hB]

/-- **decorations_cover (underline).** Every pixel of the rectangle (text width) x (underline height) at
the font's underline offset has the underline colour in the final map. -/
theorem underline_covers (c : Color) (hu : st.underline.effective st.textColor = some c)
    (q : Pt) (hB : B.contains q = true)
    (hq : (decoRect f.ulOff f.ulH ⟨position.x, position.y - f.baselineOffset bl⟩ (textWidth f text.length)).contains q = true) :
    runDefault B (f.drawString atlas st text position bl).1 q = some c := by
  rw [drawString_pixel B f atlas st m hm text position bl hd hr hdr q hB, if_pos hq, hu]
  rfl

/-- **decorations_cover (strikethrough).** Likewise at the strikethrough offset (where the underline, drawn
after it, does not cover the same pixel). -/
theorem strikethrough_covers (c : Color) (hst : st.strikethrough.effective st.textColor = some c)
    (q : Pt) (hB : B.contains q = true)
    (hq : (decoRect f.stOff f.stH ⟨position.x, position.y - f.baselineOffset bl⟩ (textWidth f text.length)).contains q = true)
    (hnu : st.underline.effective st.textColor = none ∨
      (decoRect f.ulOff f.ulH ⟨position.x, position.y - f.baselineOffset bl⟩ (textWidth f text.length)).contains q = false) :
    runDefault B (f.drawString atlas st text position bl).1 q = some c := by
  rw [drawString_pixel B f atlas st m hm text position bl hd hr hdr q hB, deco_none hnu, if_pos hq, hst]
  rfl

end DrawnString

/-! Non-vacuity: a font with spacing 1 and an atlas of 4 glyphs per row, two characters, text colour
only, strikethrough in a custom colour, underline in the text colour, alphabetic baseline. -/
section Example
private def exFont : MonoFont := ⟨16, 8, 4, 4, 1, 3, 5, 1, 2, 1, fun c => c % 8⟩
private def exStyle : Style := ⟨some 7, none, .textColor, .custom 9⟩
private def exBox : Rect := ⟨⟨0, 0⟩, ⟨100, 100⟩⟩
private def exAtlas : Pt → Bool := fun p => p.x % 2 == 0


/-- second character (i = 1), cell pixel (2, 1): an on bit gets the text colour -/
example : runDefault exBox (exFont.drawString exAtlas exStyle [5, 2] ⟨3, 20⟩ .alphabetic).1 ⟨10, 18⟩ = some 7 :=
  glyph_cell_pixels exBox exFont exAtlas exStyle (.fg 7) (by decide) [5, 2] ⟨3, 20⟩ .alphabetic (by decide) (by decide) (by decide)
    1 2 2 1 (by decide) (by decide) (by decide) (by decide) (by decide)

/-- the gap column between the two characters stays untouched (no background colour) -/
example : runDefault exBox (exFont.drawString exAtlas exStyle [5, 2] ⟨3, 20⟩ .alphabetic).1 ⟨7, 18⟩ = none :=
  spacing_pixels exBox exFont exAtlas exStyle (.fg 7) (by decide) [5, 2] ⟨3, 20⟩ .alphabetic (by decide) (by decide) (by decide)
    0 0 1 (by decide) (by decide) (by decide) (by decide) (by decide)

/-- the underline (text colour) covers the last column of the text width, the strikethrough the first -/
example : runDefault exBox (exFont.drawString exAtlas exStyle [5, 2] ⟨3, 20⟩ .alphabetic).1 ⟨11, 22⟩ = some 7 :=
  underline_covers exBox exFont exAtlas exStyle (.fg 7) (by decide) [5, 2] ⟨3, 20⟩ .alphabetic (by decide) (by decide) (by decide)
    7 (by decide) ⟨11, 22⟩ (by decide) (by decide)
example : runDefault exBox (exFont.drawString exAtlas exStyle [5, 2] ⟨3, 20⟩ .alphabetic).1 ⟨3, 19⟩ = some 9 :=
  strikethrough_covers exBox exFont exAtlas exStyle (.fg 7) (by decide) [5, 2] ⟨3, 20⟩ .alphabetic (by decide) (by decide) (by decide)
    9 (by decide) ⟨3, 19⟩ (by decide) (by decide) (by decide)
example : runDefault exBox (exFont.drawString exAtlas exStyle [5, 2] ⟨3, 20⟩ .alphabetic).1 ⟨12, 18⟩ = none :=
  outside_untouched exBox exFont exAtlas exStyle (.fg 7) (by decide) [5, 2] ⟨3, 20⟩ .alphabetic (by decide) (by decide) (by decide)
    ⟨12, 18⟩ (by decide) (by decide)
end Example

/-- Built-in fonts: the drawability hypothesis of the pixel theorems holds for every string. -/
theorem builtin_text_drawable (r : FontRec) (hr : r ∈ fontTable) (text : List Nat) :
    ∀ c ∈ text, (fontOfRec r).areaDrawable ((fontOfRec r).glyphArea c) = true :=
  fun c _ => builtin_glyph_drawable r hr c

/-- With neither text nor background colour only decorations are drawn, over `n * (cw + spacing)`
(for the built-in fonts, whose spacing is 0, that is the text width). -/
theorem transparent_text_only_decorations (f : MonoFont) (atlas : Pt → Bool) (st : Style) (hm : st.mode = none)
    (text : List Nat) (position : Pt) (bl : Baseline) :
    (f.drawString atlas st text position bl).1 =
      if 0 < (f.cw + f.spacing) * text.length
      then f.drawDecorations st ((f.cw + f.spacing) * text.length) ⟨position.x, position.y - f.baselineOffset bl⟩
      else [] := by
  have hc := (Style.mode_eq_none_iff st).mp hm
  unfold MonoFont.drawString
  simp only [hc.1, hc.2, List.nil_append, drawDecorations_guard]

example : (⟨none, none, .custom 3, .none⟩ : Style).mode = none := by decide

/-- All five decoration facts of the table at once (`FontDecoOK`); `spacing = 0` is the last of them. -/
theorem builtin_spacing_zero : ∀ r ∈ fontTable, FontDecoOK r := fontTable_deco_ok

-- [V] the atlas bitmap content itself (which bits are on in which cell of the 292 raw files) is a parameter of the theorems; the correspondence feeds the real bits read with `font.image.pixel()`: carried by correspondence + oracle only
-- ranges of a mapping string that cross the surrogate gap (none in the 14 built-in strings; `range_is_interval` excludes them) are characterised in Props/C14/Surrogate.lean (`range_crossing_surrogate_gap`, `range_crossing_position`, `range_members`, `range_no_duplicates`: any range between two `char`s); tied by the `font.indexs` custom-string ops (a `\0 U+D7FE U+E001` range among them)
-- [V] `as u32` / `as i32` truncation of glyph indices and cell coordinates beyond 2^31 and i32 overflow of the running x position (theorems assume `TextInRange`): carried by correspondence + oracle only

end EG.C14
