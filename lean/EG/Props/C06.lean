/-
  C06 — stroke and fill of closed shapes follow `fill_area()` / `stroke_area()`. This root file holds
  no theorem of its own: the property theorems are in the files of `EG/Props/C06/`:
    Rectangle.lean, Circle.lean, Ellipse.lean, RoundedRect.lean
                      per shape: the split of the stroke width, the two areas as offsets of the shape,
                      and the pixel map of `draw()`: fill colour on `fill_area()`, stroke colour on
                      `stroke_area()` outside it, nothing elsewhere
    RoundedRectFillInStroke.lean
                      when the fill area of a rounded rectangle lies in its stroke area (the hypothesis
                      of RoundedRect.lean): proved where `confine` changes neither area's radii, false
                      in general (kernel-decided witness, known finding)
    CanonPix.lean     the driver's canonical picture text is a function of the pixel map
    Generated.lean, GeneratedStyled.lean, GeneratedDraw.lean
                      the functions regenerated from the Rust text equal the hand-written models
  Sub-claims that are not proved are the `-- [V]` lines of those files.
-/
import EG.Basic.Core
namespace EG.C06
end EG.C06
