/-
  C02 — bounding boxes contain everything that is drawn: thick segments (the building block of
  stroked polylines and triangles). Models: EG.Model.{ThickSegment, ThickPolyline, ThickTriangle};
  lemmas: EG.Lemmas.JoinsBox.

  `styled_bounding_box` of a polyline / triangle is the fold of `ThickSegment::edges_bounding_box`
  over its segments. Proved here: the segment box contains the end points of the edges it is made
  of (for a skeleton segment the edge that is DRAWN - the defect repaired by /repo a55c264), every
  pixel of a skeleton segment lies in its box, the scanline of any segment stays inside the column
  hull of its outline lines, and transparent styles draw nothing.
-/
import EG.Lemmas.JoinsBox
import EG.Lemmas.JoinsTransparent
import EG.Model.ThickPolyline
import EG.Model.ThickTriangle
namespace EG.C02.Joins
open EG EG.Joins

/-- The box of a skeleton segment contains both end points of the one edge that is drawn. -/
theorem thick_segment_edges_bounding_box_skeleton (s : ThickSegment) (h : s.isSkeleton = true) :
    s.edgesBoundingBox.contains s.edges.1.start = true ∧
    s.edgesBoundingBox.contains s.edges.1.stop = true :=
  edgesBoundingBox_skeleton s h

/-- The box of a thick (non-skeleton) segment contains the end points of both edges. -/
theorem thick_segment_edges_bounding_box (s : ThickSegment) (h : s.isSkeleton = false) :
    s.edgesBoundingBox.contains s.edges.1.start = true ∧
    s.edgesBoundingBox.contains s.edges.1.stop = true ∧
    s.edgesBoundingBox.contains s.edges.2.start = true ∧
    s.edgesBoundingBox.contains s.edges.2.stop = true :=
  edgesBoundingBox_thick s h

/-- The last segment of the polyline `[(-5,-4),(-1,5),(3,2),(7,-4)]`, width 2: the segment whose box lost a
drawn point before the repair /repo a55c264. -/
def witnessSegment : Option ThickSegment := do
  let a ← LineJoin.fromPoints ⟨-1, 5⟩ ⟨3, 2⟩ ⟨7, -4⟩ 2 .none
  let b ← LineJoin.stop ⟨3, 2⟩ ⟨7, -4⟩ 2 .none
  pure ⟨a, b⟩

-- (`decide +kernel` here and below: evaluating the stroke model is several times slower in the elaborator
-- than in the kernel)
-- it is a skeleton segment (start join: a rounded miter whose corners coincide) ...
example : witnessSegment.map (·.isSkeleton) = some true := by decide +kernel
-- ... whose two edges end in different points, (7,-4) and (6,-4): boxing the undrawn edge lost the drawn end point
example : witnessSegment.map (fun s => s.edges.1.stop != s.edges.2.start) = some true := by decide +kernel

/-- A skeleton segment's scanline is the Bresenham intersection of the drawn edge only. -/
theorem skeleton_segment_intersection (s : ThickSegment) (h : s.isSkeleton = true) (y : Int) :
    s.intersection y = bint (Scanline.newEmpty y) s.edges.1 :=
  intersection_skeleton s h y

/-- Every pixel painted for a skeleton segment (any row) lies inside its `edges_bounding_box`. -/
theorem skeleton_segment_pixels_in_box (s : ThickSegment) (h : s.isSkeleton = true) (y : Int) (p : Pt)
    (hp : p ∈ (s.intersection y).points) : s.edgesBoundingBox.contains p = true :=
  skeleton_pixels_in_box s h y p hp

example : witnessSegment.map (fun s => (s.intersection (-4)).points) = some [⟨7, -4⟩] := by decide +kernel

/-- The scanline of ANY thick segment is empty or lies between the smallest and largest x of the
end points of its outline lines (caps, filler half-lines, both edges), in the row asked for. -/
theorem thick_segment_scanline_within_outline_hull (s : ThickSegment) (y lo hi : Int)
    (hl : ∀ l ∈ s.outline, lo ≤ l.start.x ∧ lo ≤ l.stop.x ∧ l.start.x ≤ hi ∧ l.stop.x ≤ hi) :
    Within (s.intersection y) lo hi ∧ (s.intersection y).y = y :=
  intersection_within_outline s y lo hi hl

example : witnessSegment.map (fun s => decide (∀ l ∈ s.outline,
    (3:Int) ≤ l.start.x ∧ (3:Int) ≤ l.stop.x ∧ l.start.x ≤ 7 ∧ l.stop.x ≤ 7)) = some true := by decide +kernel

/-- A polyline style of width 0 draws nothing (`draw` makes no call, `pixels()` is empty). -/
theorem polyline_width0_draws_nothing (pl : Polyline) :
    (match drawStyled pl 0 with | some .nothing => True | _ => False) ∧ pixels pl 0 = some [] :=
  ⟨trivial, rfl⟩

/-- A transparent style (no fill colour, no stroke colour or width 0) makes `draw` of a triangle
issue no call. -/
theorem triangle_transparent_draws_nothing (t : Tri) (style : TriStyle)
    (h : style.isTransparent = true) : triDraw t style = some [] := by
  unfold triDraw; simp only [h, ↓reduceIte]

example : (⟨none, some 1, 0, .center⟩ : TriStyle).isTransparent = true := by decide

/-- ... and `pixels()` yields nothing (the scanline iterator is walked, every scanline skipped). -/
theorem triangle_transparent_no_pixels (t : Tri) (style : TriStyle)
    (h : style.isTransparent = true) (ps : List (Pt × Nat)) (hps : triPixels t style = some ps) :
    ps = [] :=
  triPixels_transparent t style h ps hps

example : triPixels ⟨⟨0, 0⟩, ⟨4, 1⟩, ⟨2, 5⟩⟩ ⟨none, some 1, 0, .center⟩ = some [] := by decide +kernel

-- (stroked polylines / triangles of width > 1 against bounding_box(): EG/Props/C02/JoinsBBox.lean)

end EG.C02.Joins
