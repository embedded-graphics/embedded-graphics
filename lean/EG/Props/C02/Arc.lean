/-
  C02 (Arc, Sector) — bounding boxes contain everything that is drawn: styled arcs and sectors.

  Both pixel iterators walk the bounding box of the stroke's OUTER circle
  (`circle.offset(outside_stroke_width)`) and `styled_bounding_box` is
  `bounding_box().offset(outside_stroke_width)`: the two boxes are the same rectangle, so every
  pixel lies in `bounding_box()` of the styled shape — for every plane sector (all angles), bevel,
  diameter, stroke width, alignment and colour option. A transparent style iterates
  `DistanceIterator::empty()` and draws nothing.
  Guard: the styled bounding box does not leave the `i32` range (`Rect.InRange`, decidable; where it
  does the real code saturates / panics in a checked build: C08's topic).
  Models: EG.Model.StyledArc, EG.Model.StyledSector (streams `sector.sarc`, `sector.ssector`).
-/
import EG.Lemmas.StyledArcSector
import EG.Lemmas.Style
namespace EG.C02.Arc
open EG EG.Tgt

/-- The styled bounding box of an arc is the bounding box of the stroke's outer edge circle — the
box its pixel iterator walks. -/
theorem arc_styled_bbox_eq (st : Style) (a : Arc) :
    a.styledBoundingBox st = (a.outsideEdge st).boundingBox := Arc.styledBoundingBox_eq st a

/-- Every item of `pixels()` of a styled arc lies inside `bounding_box()`; moreover it lies in the
ring between the two edge circles and in the plane sector, and carries the stroke colour. -/
theorem styled_arc_pixels_in_bbox (st : Style) (a : Arc) (h : (a.styledBoundingBox st).InRange)
    (w : Pt × Color) (hw : w ∈ a.styledPixels st) :
    (a.styledBoundingBox st).contains w.1 = true ∧ a.strokeAccepts st w.1 = true ∧
      st.stroke = some w.2 := by
  obtain ⟨hp, hf⟩ := (Arc.boxPixels st a).mem_imp hw
  obtain ⟨hacc, hc, -⟩ := (Arc.pixelAt_eq_some st a w.1 w).mp hf
  exact ⟨(Rect.mem_points h).mp hp, hacc, hc⟩

/-- Every point painted by `draw()` of a styled arc (on any target box, either kind of target) lies
inside `bounding_box()`. -/
theorem styled_arc_drawn_in_bbox (st : Style) (a : Arc) (B : Rect)
    (h : (a.styledBoundingBox st).InRange) (p : Pt)
    (hp : runNative B (a.drawStyled st) p ≠ none) : (a.styledBoundingBox st).contains p = true :=
  (Arc.boxPixels st a).drawn_in_box h B p hp

/-- The same on a draw_iter-only target. -/
theorem styled_arc_drawn_in_bbox_default (st : Style) (a : Arc) (B : Rect)
    (h : (a.styledBoundingBox st).InRange) (p : Pt)
    (hp : runDefault B (a.drawStyled st) p ≠ none) : (a.styledBoundingBox st).contains p = true := by
  rw [runDefault_eq_runNative] at hp
  exact styled_arc_drawn_in_bbox st a B h p hp

/-- A completely transparent style: `pixels()` is empty and `draw()` paints nothing. -/
theorem styled_arc_transparent (st : Style) (a : Arc) (B : Rect) (h : st.isTransparent = true) (p : Pt) :
    a.styledPixels st = [] ∧ runNative B (a.drawStyled st) p = none :=
  (Arc.boxPixels st a).transparent h B p

/-- An arc has no fill: a style without stroke colour draws nothing, whatever its fill colour. -/
theorem styled_arc_no_stroke_color (st : Style) (a : Arc) (h : st.stroke = none) :
    a.styledPixels st = [] := by
  rw [Arc.styledPixels_eq, h]

/-- The styled bounding box of a sector is the bounding box of its stroke area's circle — the box
its pixel iterator walks. -/
theorem sector_styled_bbox_eq (st : Style) (s : Sector) :
    s.styledBoundingBox st = (s.strokeArea st).toCircle.boundingBox := Sector.styledBoundingBox_eq st s

/-- Every item of `pixels()` of a styled sector lies inside `bounding_box()`. -/
theorem styled_sector_pixels_in_bbox (st : Style) (s : Sector) (bevel : SectorBevel)
    (h : (s.styledBoundingBox st).InRange) (w : Pt × Color) (hw : w ∈ s.styledPixels st bevel) :
    (s.styledBoundingBox st).contains w.1 = true :=
  (Rect.mem_points h).mp ((Sector.boxPixels st s bevel).mem_imp hw).1

/-- Every point painted by `draw()` of a styled sector lies inside `bounding_box()`. -/
theorem styled_sector_drawn_in_bbox (st : Style) (s : Sector) (bevel : SectorBevel) (B : Rect)
    (h : (s.styledBoundingBox st).InRange) (p : Pt)
    (hp : runNative B (s.drawStyled st bevel) p ≠ none) : (s.styledBoundingBox st).contains p = true :=
  (Sector.boxPixels st s bevel).drawn_in_box h B p hp

/-- The same on a draw_iter-only target. -/
theorem styled_sector_drawn_in_bbox_default (st : Style) (s : Sector) (bevel : SectorBevel) (B : Rect)
    (h : (s.styledBoundingBox st).InRange) (p : Pt)
    (hp : runDefault B (s.drawStyled st bevel) p ≠ none) : (s.styledBoundingBox st).contains p = true := by
  rw [runDefault_eq_runNative] at hp
  exact styled_sector_drawn_in_bbox st s bevel B h p hp

/-- A completely transparent style: `pixels()` is empty and `draw()` paints nothing. -/
theorem styled_sector_transparent (st : Style) (s : Sector) (bevel : SectorBevel) (B : Rect)
    (h : st.isTransparent = true) (p : Pt) :
    s.styledPixels st bevel = [] ∧ runNative B (s.drawStyled st bevel) p = none :=
  (Sector.boxPixels st s bevel).transparent h B p

/-- `is_transparent` in terms of the style's fields (the hypothesis of the two theorems above). -/
theorem is_transparent_iff (st : Style) :
    st.isTransparent = true ↔ (st.stroke = none ∨ st.width = 0) ∧ st.fill = none :=
  st.isTransparent_iff

example : (Arc.styledBoundingBox ⟨some 1, some 2, 9, .center⟩
    ⟨⟨-3, 2⟩, 7, ⟨.intersection, ⟨-1024, 0⟩, ⟨0, 1024⟩⟩⟩).InRange := by decide
example : (Sector.styledBoundingBox ⟨some 1, some 2, 5, .outside⟩
    ⟨⟨-30, 2⟩, 12, ⟨.union, ⟨724, 724⟩, ⟨0, 1024⟩⟩⟩).InRange := by decide
example : (⟨none, some 2, 0, .center⟩ : Style).isTransparent = true := by decide

-- [V] arc / sector: the plane sector and the sector's bevel handed to the model equal what the real trigonometric code computes (hooks `verif_hooks::plane_sector`, `StyledPixelsIterator::verif_bevel`); the theorems hold for EVERY plane sector and bevel, so this only matters for the tie: carried by correspondence + oracle only
-- [V] arc / sector: styled bounding boxes that leave the `i32` range (guard `Rect.InRange` false; the real code saturates or panics on overflow there, C08's topic): carried by correspondence + oracle only
-- [V] arc / sector: `i32` overflow of `delta.length_squared()` and of the half-plane dot products at coordinates beyond the display range (the model uses unbounded integers; C08's topic): carried by correspondence + oracle only

end EG.C02.Arc
