/-
  C02 (Text) — "Every pixel drawn by a built-in drawable lies inside the rectangle returned by its
  bounding_box(), and a drawable whose style is completely transparent draws nothing. This holds for ...
  text with every built-in font, decoration, baseline, alignment and line count."

  Models: EG.Model.TextLayout (`Text::{draw, bounding_box}`, `measure_string` with the repaired
  underline rule `max(char height, underline offset + height)`), EG.Model.Font (`draw_string`).
  Helper lemmas: EG/Lemmas/TextLayoutBox.lean.

  [P] per line and for the whole text, for every font record satisfying
  `FontBoxOK f := strikethrough.offset + strikethrough.height <= char_height`;
  [F] `FontBoxOK` and `spacing = 0` hold for all 292 generated font records (kernel evaluation).

  -- [V] text: `i32` overflow / saturation of cell coordinates far outside the display range (the theorems assume the box's corner is not below i32::MIN, which every real `Point` satisfies; sums are unbounded integers): carried by correspondence + oracle only
  -- [V] text: observation outside the quantifier (custom font with spacing > 0, neither text nor background colour, custom-coloured decoration): the decoration is `spacing` columns wider than the box (`transparent_spacing_decoration_outside`, witness in corpus/C15.ops): checked on the real code by the oracle, not a claim of the property
-/
import EG.Lemmas.TextLayoutBox
import EG.Lemmas.FontTables
namespace EG.C02.Text
open EG EG.Font EG.TextLayout EG.Generated

/-- **Per line**: every call `draw_string` makes on the target — glyph cells (whatever the colour adapter
turns them into: `fill_contiguous`, or `draw_iter` over the on / off pixels), spacing cells, strikethrough
and underline rectangles — lies inside the box `measure_string` reports for the same arguments. -/
theorem text_line_in_box (f : MonoFont) (atlas : Pt → Bool) (st : Style) (text : List Nat) (p : Pt)
    (bl : Baseline) (hok : FontBoxOK f)
    (hadv : st.textColor ≠ none ∨ st.bgColor ≠ none ∨ f.spacing = 0)
    (hb : LowerBound (measureString f st text p bl).bbox) :
    ∀ c ∈ (f.drawString atlas st text p bl).1, CallIn (measureString f st text p bl).bbox c :=
  drawString_in_box f atlas st text p bl hok hadv hb

/-- Every line box lies inside `bounding_box()` (the union skips only zero-sized boxes, which contain
no pixel). -/
theorem text_line_boxes_in_bbox (f : MonoFont) (t : TextLayout.Text) :
    ∀ lp ∈ lines f t, RectIn (measureString f t.style lp.1 lp.2 t.ts.baseline).bbox (boundingBox f t) :=
  lineBox_in_boundingBox f t

/-- **Whole text** (any number of lines, alignment, baseline, line height): every call of `Text::draw`
lies inside `Text::bounding_box()`. -/
theorem text_in_bbox (f : MonoFont) (atlas : Pt → Bool) (t : TextLayout.Text) (hok : FontBoxOK f)
    (hadv : t.style.textColor ≠ none ∨ t.style.bgColor ≠ none ∨ f.spacing = 0)
    (hb : LowerBound (boundingBox f t)) :
    ∀ c ∈ (draw f atlas t).1, CallIn (boundingBox f t) c :=
  draw_in_boundingBox f atlas t hok hadv hb

/-- Pixel form, for a draw_iter-only target (trait defaults) and for a native-fill target: every write
of every call goes to a point the bounding box contains. -/
theorem text_pixels_in_bbox (f : MonoFont) (atlas : Pt → Bool) (t : TextLayout.Text) (hok : FontBoxOK f)
    (hadv : t.style.textColor ≠ none ∨ t.style.bgColor ≠ none ∨ f.spacing = 0)
    (hb : LowerBound (boundingBox f t)) (B : Rect) (c : Call) (hc : c ∈ (draw f atlas t).1)
    (w : Pt × Color) (hw : w ∈ c.lowerDefault B ∨ w ∈ c.lowerNative B) :
    (boundingBox f t).contains w.1 = true := by
  have hin := draw_in_boundingBox f atlas t hok hadv hb c hc
  rcases hw with hw | hw
  · exact CallIn.writes hb B hin w hw
  · exact CallIn.writesNative hb B hin w hw

/-- [F] All 292 built-in fonts: the strikethrough lies inside the character cell and the character
spacing is 0 (decided on the table `tools/tr_fonts.py` regenerates from the sources). -/
theorem builtin_fonts_box_ok : ∀ r ∈ fontTable, FontBoxOK (fontOfRec r) ∧ (fontOfRec r).spacing = 0 := by
  intro r hr
  obtain ⟨h1, _, _, _, h5⟩ := fontTable_deco_ok r hr
  exact ⟨h1, h5⟩

/-- **Every built-in font**, every style, string, alignment, baseline, line height, position:
everything `Text::draw` draws lies inside `bounding_box()`. -/
theorem builtin_text_in_bbox (r : FontRec) (hr : r ∈ fontTable) (atlas : Pt → Bool) (t : TextLayout.Text)
    (hb : LowerBound (boundingBox (fontOfRec r) t)) (B : Rect) (c : Call)
    (hc : c ∈ (draw (fontOfRec r) atlas t).1) (w : Pt × Color) (hw : w ∈ c.lowerDefault B ∨ w ∈ c.lowerNative B) :
    (boundingBox (fontOfRec r) t).contains w.1 = true :=
  text_pixels_in_bbox (fontOfRec r) atlas t (builtin_fonts_box_ok r hr).1
    (Or.inr (Or.inr (builtin_fonts_box_ok r hr).2)) hb B c hc w hw

/-- A completely transparent style (`is_transparent()`: no text, background, underline, strikethrough
colour) makes no call at all, for any font. -/
theorem text_transparent_draws_nothing (f : MonoFont) (atlas : Pt → Bool) (t : TextLayout.Text)
    (h : styleTransparent t.style = true) : (draw f atlas t).1 = [] := by
  rw [draw_calls]
  simp [drawString_transparent f atlas t.style _ _ _ h]

/-- The repaired underline rule: the box height is the character height, or with an underline colour
(anything but `DecorationColor::None`) the larger of character height and underline bottom. -/
theorem bbox_height_rule (f : MonoFont) (st : Style) (text : List Nat) (p : Pt) (bl : Baseline) :
    (measureString f st text p bl).bbox.size.h =
      if st.underline ≠ DecoColor.none then max (f.ulH + f.ulOff) f.ch else f.ch := rfl

example : FontBoxOK ⟨144, 90, 9, 15, 0, 11, 13, 1, 7, 1, fun _ => 0⟩ := by decide
example : LowerBound (boundingBox ⟨144, 90, 9, 15, 0, 11, 13, 1, 7, 1, fun _ => 0⟩
    ⟨[65, 66, 10, 67], ⟨-30, 4⟩, ⟨some 1, none, .textColor, .none⟩, ⟨.right, .alphabetic, .pixels 20⟩⟩) := by
  decide
example : styleTransparent ⟨none, none, .none, .none⟩ = true := by decide
/-- FONT_9X15 (underline at row 13 of 15, inside the cell): underlined box height is 15, not 14. -/
example : (measureString ⟨144, 90, 9, 15, 0, 11, 13, 1, 7, 1, fun _ => 0⟩ ⟨some 1, none, .textColor, .none⟩
    [65] ⟨0, 0⟩ .top).bbox = ⟨⟨0, 0⟩, ⟨9, 15⟩⟩ := by decide

/-- Observation (outside the property's quantifier: custom font with spacing 1, decorations only):
the underline call is 12 columns wide, the box 11. The hypothesis `hadv` of `text_in_bbox` excludes
exactly this combination. -/
theorem transparent_spacing_decoration_outside :
    let f : MonoFont := ⟨80, 42, 5, 7, 1, 5, 8, 1, 3, 1, fun _ => 0⟩
    let t : TextLayout.Text := ⟨[65, 66], ⟨0, 0⟩, ⟨none, none, .custom 9, .none⟩, ⟨.left, .top, .percent 100⟩⟩
    (draw f (fun _ => false) t).1 = [Call.fillSolid ⟨⟨0, 8⟩, ⟨12, 1⟩⟩ 9] ∧ boundingBox f t = ⟨⟨0, 0⟩, ⟨11, 9⟩⟩ := by
  decide

end EG.C02.Text
