/-
  C02 — the bounding-box theorems for stroked lines, polylines and triangles are not vacuous: the
  models they speak about are TOTAL.

  The theorems of Props/C02/ThickLine.lean and JoinsBBox.lean have the form "if `bounding_box()` is
  `some bb` and `draw` / `pixels()` is `some ..`, then everything drawn lies in `bb`", and the guards
  `PolyBBoxGuard` / `TriStrokeGuard` / `TriOutlineGuard` are `True` by definition when a model
  function returns `none` (= "a loop bound of the model was exceeded"). Here: `none` never occurs.
  `Line::extents` is total for every line, width and stroke offset (Lemmas/ExtentsTotal.lean), the
  styled polyline and triangle models return `some` for every input (Lemmas/JoinsTotalPoly.lean,
  JoinsTotalTri.lean). So each theorem can be read "there IS a box, there ARE calls / pixels, and
  they lie in the box" (`*_some` below), and the guards always speak about the actual segments.
-/
import EG.Lemmas.JoinsTotalPoly
import EG.Lemmas.JoinsTotalTri
import EG.Props.C02.ThickLine
import EG.Props.C02.JoinsBBox
namespace EG.C02.JoinsTotal
open EG EG.Joins EG.C02.JoinsBBox

/-- `bounding_box()` of a stroked line is total (`Line::extents(w, StrokeOffset::None)`). -/
theorem thick_line_bounding_box_is_some (l : Line) (w : Nat) : (Thick.styledBoundingBox l w).isSome = true := by
  obtain ⟨r, h⟩ := thick_styledBoundingBox_total l w
  rw [h]; rfl

/-- **A stroked line (any width, direction, zero length included) HAS a bounding box and a pixel
list, and every pixel lies inside the box.** -/
theorem thick_line_pixels_in_bounding_box_some (l : Line) (w : Nat) :
    ∃ bb ps, Thick.styledBoundingBox l w = some bb ∧ Thick.thickPoints l w = some ps ∧
      ∀ p ∈ ps, bb.contains p = true := by
  obtain ⟨bb, h1⟩ := thick_styledBoundingBox_total l w
  obtain ⟨ps, h2⟩ := Thick.thickPoints_total l w
  exact ⟨bb, ps, h1, h2, EG.C02.ThickLine.thick_line_pixels_in_bounding_box l w ps h2 bb h1⟩

/-- `bounding_box()`, `draw` and `pixels()` of a stroked polyline are total (every vertex list,
`translate` and stroke width). -/
theorem polyline_models_are_some (pl : Polyline) (w : Nat) :
    (styledBoundingBox pl w).isSome = true ∧ (drawStyled pl w).isSome = true ∧
      (pixels pl w).isSome = true := by
  obtain ⟨a, h1⟩ := styledBoundingBox_total pl w
  obtain ⟨b, h2⟩ := drawStyled_total pl w
  obtain ⟨c, h3⟩ := pixels_total pl w
  rw [h1, h2, h3]; exact ⟨rfl, rfl, rfl⟩

/-- **The guard `PolyBBoxGuard` is never the vacuous `True`**: it always is the statement about the
actual box and the actual segments. -/
theorem poly_bbox_guard_never_vacuous (pl : Polyline) (w : Nat) :
    PolyBBoxGuard pl w ↔
      ∃ ubb segs, untranslatedBoundingBox pl w = some ubb ∧ polySegments pl.vertices w = some segs ∧
        -2147483648 ≤ ubb.tl.y ∧ chainOK ubb segs = true := by
  obtain ⟨ubb, h1⟩ := untranslatedBoundingBox_total pl w
  obtain ⟨segs, h2⟩ := polySegments_total pl.vertices w
  unfold PolyBBoxGuard
  rw [h1, h2]
  constructor
  · intro h; exact ⟨ubb, segs, rfl, rfl, h.1, h.2⟩
  · rintro ⟨a, b, ha, hb, h⟩
    simp only [Option.some.injEq] at ha hb
    subst ha; subst hb
    exact h

/-- For a stroke wider than one pixel `draw` is a list of `fill_solid` rectangles. -/
theorem polyline_draw_fill_solids (pl : Polyline) (w : Nat) (hw : 2 ≤ w) :
    ∃ rs, drawStyled pl w = some (.fillSolids rs) := by
  obtain ⟨L, hL⟩ := C01Thick.polyScanlineRun_total pl w
  exact ⟨_, by rw [C01Thick.drawStyled_eq_map pl w hw, hL]; rfl⟩
example : (2 : Nat) ≤ 5 := by decide

/-- **A stroked polyline (stroke width > 1) HAS a bounding box, `draw` issues some `fill_solid`
rectangles and `pixels()` yields some points, and all of them lie inside the box** (guard
`PolyBBoxGuard`, see Props/C02/JoinsBBox.lean). -/
theorem polyline_in_bounding_box_some (pl : Polyline) (w : Nat) (hw : 2 ≤ w) (hg : PolyBBoxGuard pl w) :
    ∃ bb rs ps, styledBoundingBox pl w = some bb ∧ drawStyled pl w = some (.fillSolids rs) ∧
      pixels pl w = some ps ∧ (∀ r ∈ rs, ∀ p, r.contains p = true → bb.contains p = true) ∧
      (∀ p ∈ ps, bb.contains p = true) := by
  obtain ⟨bb, h1⟩ := styledBoundingBox_total pl w
  obtain ⟨rs, h2⟩ := polyline_draw_fill_solids pl w hw
  obtain ⟨ps, h3⟩ := pixels_total pl w
  exact ⟨bb, rs, ps, h1, h2, h3, polyline_draw_in_bounding_box_partial pl w hw hg bb h1 rs h2,
    polyline_pixels_in_bounding_box_partial pl w hw hg bb h1 ps h3⟩
example : (2 : Nat) ≤ 5 ∧ PolyBBoxGuard ⟨⟨-7, -9⟩, [⟨0, 0⟩, ⟨9, 1⟩, ⟨0, 2⟩, ⟨0, 2⟩, ⟨4, -6⟩]⟩ 5 :=
  JoinsBBox.wide_polyline_guard

/-- **Stroke width 1: the polyline HAS a bounding box and it contains `points()`, which is what
`draw` and `pixels()` produce** (`i32` vertices). -/
theorem polyline_width1_in_bounding_box_some (pl : Polyline) (hi : AllI32 pl.vertices) :
    ∃ bb, styledBoundingBox pl 1 = some bb ∧ drawStyled pl 1 = some (.drawIter (Polyline.points pl)) ∧
      pixels pl 1 = some (Polyline.points pl) ∧ ∀ p ∈ Polyline.points pl, bb.contains p = true := by
  obtain ⟨bb, h1⟩ := styledBoundingBox_total pl 1
  exact ⟨bb, h1, rfl, rfl, (polyline_width1_in_bounding_box pl hi bb h1).2 _ rfl⟩
example : AllI32 [⟨-5, -4⟩, ⟨-1, 5⟩, ⟨3, 2⟩, ⟨7, -4⟩] := by decide

/-- `bounding_box()`, `draw` and `pixels()` of a styled triangle are total (every stroke width,
alignment and fill). -/
theorem triangle_models_are_some (t : Tri) (style : TriStyle) :
    (triStyledBoundingBox t style).isSome = true ∧ (triDraw t style).isSome = true ∧
      (triPixels t style).isSome = true := by
  obtain ⟨a, h1⟩ := triStyledBoundingBox_total t style
  obtain ⟨b, h2⟩ := triDraw_total t style
  obtain ⟨c, h3⟩ := triPixels_total t style
  rw [h1, h2, h3]; exact ⟨rfl, rfl, rfl⟩

/-- The three closed segments of a triangle's stroke always exist (the `some [a, b, c]` arm of
`TriStrokeGuard` / `TriOutlineGuard` is the one that applies). -/
theorem triangle_segments_are_some (t : Tri) (w : Nat) (off : Thick.StrokeOffset) :
    ∃ a b c, closedSegments3 t w off = some [a, b, c] := by
  obtain ⟨j0, h0⟩ := fromPoints_total t.v3 t.v1 t.v2 w off
  obtain ⟨j1, h1⟩ := fromPoints_total t.v1 t.v2 t.v3 w off
  obtain ⟨j2, h2⟩ := fromPoints_total t.v2 t.v3 t.v1 w off
  exact ⟨⟨j0, j1⟩, ⟨j1, j2⟩, ⟨j2, j0⟩, closedSegments3_of_joins h0 h1 h2⟩

/-- A reduction of this file: whenever one of the triangle theorems of Props/C02/JoinsBBox.lean
applies (it gives the two implications for the box `bb`), the triangle HAS that box, `draw` issues
some calls, `pixels()` yields some pixels, and they all lie in the box. -/
theorem triangle_in_bounding_box_some_of (t : Tri) (style : TriStyle)
    (h : ∀ bb, triStyledBoundingBox t style = some bb →
      (∀ calls, triDraw t style = some calls →
        ∀ rc ∈ calls, ∀ p, rc.1.contains p = true → bb.contains p = true) ∧
      (∀ px, triPixels t style = some px → ∀ pc ∈ px, bb.contains pc.1 = true)) :
    ∃ bb calls px, triStyledBoundingBox t style = some bb ∧ triDraw t style = some calls ∧
      triPixels t style = some px ∧
      (∀ rc ∈ calls, ∀ p, rc.1.contains p = true → bb.contains p = true) ∧
      (∀ pc ∈ px, bb.contains pc.1 = true) := by
  obtain ⟨bb, h1⟩ := triStyledBoundingBox_total t style
  obtain ⟨calls, h2⟩ := triDraw_total t style
  obtain ⟨px, h3⟩ := triPixels_total t style
  exact ⟨bb, calls, px, h1, h2, h3, (h bb h1).1 calls h2, (h bb h1).2 px h3⟩

/-- **Center / Outside stroke of width > 1 (with or without fill): the triangle HAS a bounding box,
`draw` issues some `fill_solid` calls, `pixels()` yields some pixels, all inside the box** (guard
`TriStrokeGuard`). -/
theorem triangle_stroke_in_bounding_box_some (t : Tri) (style : TriStyle) (hw : 2 ≤ style.strokeWidth)
    (hal : style.strokeAlignment ≠ .inside) (hg : TriStrokeGuard t style) :
    ∃ bb calls px, triStyledBoundingBox t style = some bb ∧ triDraw t style = some calls ∧
      triPixels t style = some px ∧
      (∀ rc ∈ calls, ∀ p, rc.1.contains p = true → bb.contains p = true) ∧
      (∀ pc ∈ px, bb.contains pc.1 = true) :=
  triangle_in_bounding_box_some_of t style (fun bb hbb =>
    ⟨fun calls hd => triangle_stroke_draw_in_bounding_box_partial t style hw hal hg bb hbb calls hd,
     fun px hpx => triangle_stroke_pixels_in_bounding_box_partial t style hw hal hg bb hbb px hpx⟩)
example : 2 ≤ (⟨some 1, some 2, 3, .center⟩ : TriStyle).strokeWidth ∧
    (⟨some 1, some 2, 3, .center⟩ : TriStyle).strokeAlignment ≠ .inside ∧
    TriStrokeGuard ⟨⟨0, 0⟩, ⟨9, 1⟩, ⟨2, 7⟩⟩ ⟨some 1, some 2, 3, .center⟩ := by decide +kernel

/-- **Fill only, stroke width 1, collapsed Inside stroke, or the outline guard: the triangle HAS a
box, calls and pixels, all inside the box** - the four remaining theorems of
Props/C02/JoinsBBox.lean with totality. -/
theorem triangle_fill_in_bounding_box_some (t : Tri) (style : TriStyle) (hw : style.strokeWidth = 0)
    (hg : TriTopGuard t) :
    ∃ bb calls px, triStyledBoundingBox t style = some bb ∧ triDraw t style = some calls ∧
      triPixels t style = some px ∧
      (∀ rc ∈ calls, ∀ p, rc.1.contains p = true → bb.contains p = true) ∧
      (∀ pc ∈ px, bb.contains pc.1 = true) :=
  triangle_in_bounding_box_some_of t style (fun bb hbb => triangle_fill_in_bounding_box t style hw hg bb hbb)
example : (⟨some 1, none, 0, .center⟩ : TriStyle).strokeWidth = 0 ∧ TriTopGuard ⟨⟨0, 0⟩, ⟨9, 1⟩, ⟨2, 7⟩⟩ := by
  decide

theorem triangle_width1_in_bounding_box_some (t : Tri) (style : TriStyle) (hw : style.strokeWidth = 1)
    (hi : TriI32 t) (hg : TriTopGuard t) :
    ∃ bb calls px, triStyledBoundingBox t style = some bb ∧ triDraw t style = some calls ∧
      triPixels t style = some px ∧
      (∀ rc ∈ calls, ∀ p, rc.1.contains p = true → bb.contains p = true) ∧
      (∀ pc ∈ px, bb.contains pc.1 = true) :=
  triangle_in_bounding_box_some_of t style (fun bb hbb => triangle_width1_in_bounding_box t style hw hi hg bb hbb)
example : (⟨some 1, some 2, 1, .outside⟩ : TriStyle).strokeWidth = 1 ∧ TriI32 ⟨⟨0, 0⟩, ⟨9, 1⟩, ⟨2, 7⟩⟩ ∧
    TriTopGuard ⟨⟨0, 0⟩, ⟨9, 1⟩, ⟨2, 7⟩⟩ := by decide

theorem triangle_collapsed_inside_in_bounding_box_some (t : Tri) (style : TriStyle)
    (hal : style.strokeAlignment = .inside)
    (hc : t.sortedClockwise.isCollapsed style.strokeWidth .right = some true) (hg : TriTopGuard t) :
    ∃ bb calls px, triStyledBoundingBox t style = some bb ∧ triDraw t style = some calls ∧
      triPixels t style = some px ∧
      (∀ rc ∈ calls, ∀ p, rc.1.contains p = true → bb.contains p = true) ∧
      (∀ pc ∈ px, bb.contains pc.1 = true) :=
  triangle_in_bounding_box_some_of t style
    (fun bb hbb => triangle_collapsed_inside_in_bounding_box t style hal hc hg bb hbb)
example : (⟨some 1, some 2, 4, .inside⟩ : TriStyle).strokeAlignment = .inside ∧
    (⟨⟨0, 0⟩, ⟨9, 1⟩, ⟨2, 7⟩⟩ : Tri).sortedClockwise.isCollapsed 4 .right = some true ∧
    TriTopGuard ⟨⟨0, 0⟩, ⟨9, 1⟩, ⟨2, 7⟩⟩ := ⟨rfl, Joins.inside_stroke_collapsed, by decide⟩

theorem triangle_in_bounding_box_of_outline_some (t : Tri) (style : TriStyle) (hg : TriOutlineGuard t style) :
    ∃ bb calls px, triStyledBoundingBox t style = some bb ∧ triDraw t style = some calls ∧
      triPixels t style = some px ∧
      (∀ rc ∈ calls, ∀ p, rc.1.contains p = true → bb.contains p = true) ∧
      (∀ pc ∈ px, bb.contains pc.1 = true) :=
  triangle_in_bounding_box_some_of t style (fun bb hbb => triangle_in_bounding_box_of_outline t style hg bb hbb)
example : TriOutlineGuard ⟨⟨0, 0⟩, ⟨20, 3⟩, ⟨6, 18⟩⟩ ⟨some 1, some 2, 3, .inside⟩ :=
  JoinsBBox.inside_stroke_outline_guard

end EG.C02.JoinsTotal
