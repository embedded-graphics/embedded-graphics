/-
  C02 — bounding boxes contain everything that is drawn: styled circles and ellipses.
  Both are styled pictures (`Circle.styledPicture`, `Ellipse.styledPicture`): a painted point lies
  in the stroke area, hence in its box, and `styled_bounding_box` is the box of the stroke area. A
  completely transparent style paints nothing.
-/
import EG.Lemmas.CircleStyled
namespace EG.C02.Curved
open EG

/-- The styled bounding box of a circle is the bounding box of its stroke area. -/
theorem circle_styled_bbox_eq (st : PrimStyle) (c : Circle) :
    c.styledBoundingBox st = (c.strokeArea st).boundingBox :=
  (Circle.offset_boundingBox_of_nonneg c _ (satAsI32_nonneg _)).symm

/-- Every point a styled circle paints lies inside its `bounding_box()`. -/
theorem styled_circle_drawn_in_bbox (st : PrimStyle) (c : Circle) (B : Rect)
    (hS : (c.strokeArea st).InRange) (hF : (c.fillArea st).InRange) (p : Pt)
    (hp : runNative B (c.drawStyled st) p ≠ none) : (c.styledBoundingBox st).contains p = true := by
  rw [circle_styled_bbox_eq]
  exact (Circle.styledPicture hS hF).drawn_in_box hp

/-- A completely transparent style paints nothing (circle). -/
theorem styled_circle_transparent (st : PrimStyle) (c : Circle) (B : Rect)
    (hS : (c.strokeArea st).InRange) (hF : (c.fillArea st).InRange)
    (hf : st.fillColor = none) (hs : st.strokeColor = none ∨ st.strokeWidth = 0) (p : Pt) :
    runNative B (c.drawStyled st) p = none :=
  (Circle.styledPicture hS hF).transparent hf hs B p

/-- The styled bounding box of an ellipse is the bounding box of its stroke area. -/
theorem ellipse_styled_bbox_eq (st : PrimStyle) (e : Ellipse) :
    e.styledBoundingBox st = (e.strokeArea st).boundingBox :=
  (Ellipse.offset_boundingBox_of_nonneg e _ (satAsI32_nonneg _)).symm

/-- Every point a styled ellipse paints lies inside its `bounding_box()`. -/
theorem styled_ellipse_drawn_in_bbox (st : PrimStyle) (e : Ellipse) (B : Rect)
    (hS : (e.strokeArea st).InRange) (hF : (e.fillArea st).InRange) (p : Pt)
    (hp : runNative B (e.drawStyled st) p ≠ none) : (e.styledBoundingBox st).contains p = true := by
  rw [ellipse_styled_bbox_eq]
  exact (Ellipse.styledPicture hS hF).drawn_in_box hp

/-- A completely transparent style paints nothing (ellipse). -/
theorem styled_ellipse_transparent (st : PrimStyle) (e : Ellipse) (B : Rect)
    (hS : (e.strokeArea st).InRange) (hF : (e.fillArea st).InRange)
    (hf : st.fillColor = none) (hs : st.strokeColor = none ∨ st.strokeWidth = 0) (p : Pt) :
    runNative B (e.drawStyled st) p = none :=
  (Ellipse.styledPicture hS hF).transparent hf hs B p

example : (Circle.strokeArea ⟨some 1, some 2, 9, .center⟩ ⟨⟨-3, 2⟩, 7⟩).InRange ∧
    (Circle.fillArea ⟨some 1, some 2, 9, .center⟩ ⟨⟨-3, 2⟩, 7⟩).InRange := by decide

end EG.C02.Curved
