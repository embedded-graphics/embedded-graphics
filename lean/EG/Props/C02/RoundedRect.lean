/-
  C02 — bounding boxes contain everything that is drawn: styled rounded rectangles.

  For every styled `RoundedRectangle` — all corner radii (equal, unequal, larger than the rectangle,
  overlapping corner boxes), stroke widths, alignments, colour options — every point that `draw()`
  paints, on a native-fill target (`runNative` = R2) and on a `draw_iter`-only target (`runDefault` =
  R1), and every pixel `pixels()` yields lies inside `bounding_box()` of the styled shape
  (`styledBoundingBox`); a completely transparent style paints nothing.

  Route: the scanline-level theorems of C06 (`styled_rrect_lines_exact`: the styled scanlines colour
  only points of the stroke area; `styled_rrect_fill_only_exact`: the fill-only path paints the fill
  area) hold for ALL inputs — `FillInStroke` is not needed here: where the fill area is not inside the
  stroke area (the known `confine` defect recorded for C06) its escaping points are still inside the
  fill area's BOX, which lies in the stroke area's box. `RoundedRect.contains ⊆ boundingBox` is
  `RoundedRect.contains_imp_bbox`; `styled_bounding_box()` is the stroke area's box by definition.
  Guards (decidable): the boxes of the two areas do not saturate / overflow `i32`.
-/
import EG.Lemmas.GlueRRectNested
import EG.Lemmas.Target
namespace EG.C02.RRect
open EG EG.RoundedRect

/-- The styled bounding box of a rounded rectangle is the bounding box of its stroke area. -/
theorem rrect_styled_bbox_eq (st : Style) (r : RoundedRect) :
    r.styledBoundingBox st = (r.strokeArea st).boundingBox :=
  styledBoundingBox_eq st r

/-- The box of the fill area lies inside the styled bounding box (also when the fill AREA is not
inside the stroke AREA). -/
theorem rrect_fill_area_box_in_bbox (st : Style) (r : RoundedRect) (hS : (r.strokeArea st).InRange)
    (p : Pt) (hp : (r.fillArea st).boundingBox.contains p = true) :
    (r.styledBoundingBox st).contains p = true := by
  show (r.strokeArea st).boundingBox.contains p = true
  rw [Glue.strokeArea_eq] at hS ⊢
  rw [Glue.fillArea_eq] at hp
  exact Glue.rect_shrunk_in_grown r.rect _ _ hS p hp
example : let st : Style := ⟨some 1, some 2, 5, .center⟩
    let r : RoundedRect := ⟨⟨⟨-3, 2⟩, ⟨9, 7⟩⟩, CornerRadii.new ⟨3, 2⟩⟩
    (r.strokeArea st).InRange ∧ (r.fillArea st).boundingBox.contains ⟨0, 5⟩ = true := by decide

/-- **Every point a styled rounded rectangle paints lies inside its `bounding_box()`** — native-fill
target (R2), any target box `B`. -/
theorem styled_rrect_drawn_in_bbox (st : Style) (r : RoundedRect) (B : Rect)
    (hS : (r.strokeArea st).InRange) (hF : (r.fillArea st).InRange) (p : Pt)
    (hp : runNative B (r.drawStyled st) p ≠ none) : (r.styledBoundingBox st).contains p = true := by
  -- painted points lie in the stroke area or in the fill area, whose box lies in the stroke area's
  rcases (styledLines hS hF).drawn_in_areas st.effectiveStrokeColor st.fill B p hp with hs | hf
  · exact contains_imp_bbox _ hS hs
  · exact rrect_fill_area_box_in_bbox st r hS p (contains_imp_bbox _ hF hf)
example : let st : Style := ⟨some 1, some 2, 3, .center⟩
    let r : RoundedRect := ⟨⟨⟨-3, 2⟩, ⟨9, 7⟩⟩, ⟨⟨3, 2⟩, ⟨0, 0⟩, ⟨9, 9⟩, ⟨1, 4⟩⟩⟩
    (r.strokeArea st).InRange ∧ (r.fillArea st).InRange ∧
      (r.drawStyled st).flatMap (Call.lowerNative ⟨⟨-20, -20⟩, ⟨60, 60⟩⟩) ≠ [] := by decide

/-- The same on a `draw_iter`-only target (R1, trait defaults). -/
theorem styled_rrect_drawn_in_bbox_default (st : Style) (r : RoundedRect) (B : Rect)
    (hS : (r.strokeArea st).InRange) (hF : (r.fillArea st).InRange) (p : Pt)
    (hp : runDefault B (r.drawStyled st) p ≠ none) : (r.styledBoundingBox st).contains p = true := by
  rw [Tgt.runDefault_eq_runNative] at hp
  exact styled_rrect_drawn_in_bbox st r B hS hF p hp

/-- Every pixel of `pixels()` lies inside `bounding_box()`. -/
theorem styled_rrect_pixels_in_bbox (st : Style) (r : RoundedRect)
    (hS : (r.strokeArea st).InRange) (hF : (r.fillArea st).InRange) (p : Pt) (col : Color)
    (hp : (p, col) ∈ r.styledPixels st) : (r.styledBoundingBox st).contains p = true := by
  rcases ((styledLines hS hF).mem_pixels_all st.stroke st.fill p col).mp hp with ⟨hs, _⟩ | ⟨hs, _⟩ <;>
    exact contains_imp_bbox _ hS hs
example : let st : Style := ⟨some 1, some 2, 3, .outside⟩
    let r : RoundedRect := ⟨⟨⟨-3, 2⟩, ⟨9, 7⟩⟩, ⟨⟨3, 2⟩, ⟨0, 0⟩, ⟨9, 9⟩, ⟨1, 4⟩⟩⟩
    (r.strokeArea st).InRange ∧ (r.fillArea st).InRange ∧ r.styledPixels st ≠ [] := by decide +kernel

/-- The known-defect shape of C06 (`C06.RoundedRectFillInStroke.not_fill_in_stroke_all`: `confine`
rescales the fill area's radii, `fill_area ⊄ stroke_area`), drawn with a fill colour only: the point
(1, 2) is painted although the stroke area does not contain it — and it is inside the bounding box
all the same, as is every other written point. C02 is not affected by that finding. -/
theorem styled_rrect_drawn_in_bbox_confined_witness :
    let st : Style := ⟨some 7, none, 1, .inside⟩
    let r : RoundedRect := ⟨⟨⟨0, 0⟩, ⟨3, 20⟩⟩, ⟨⟨3, 20⟩, ⟨0, 0⟩, ⟨0, 0⟩, ⟨0, 0⟩⟩⟩
    (r.strokeArea st).InRange ∧ (r.fillArea st).InRange ∧
      ((⟨1, 2⟩, 7) : Pt × Color) ∈ (r.drawStyled st).flatMap (Call.lowerNative ⟨⟨-8, -8⟩, ⟨64, 64⟩⟩) ∧
      (r.strokeArea st).contains ⟨1, 2⟩ = false ∧
      ∀ w ∈ (r.drawStyled st).flatMap (Call.lowerNative ⟨⟨-8, -8⟩, ⟨64, 64⟩⟩),
        (r.styledBoundingBox st).contains w.1 = true := by decide +kernel

/-- **A completely transparent style paints nothing** (no fill colour, and no stroke colour or a zero
stroke width) — no guard: `draw()` makes no call at all. -/
theorem styled_rrect_transparent_no_call (st : Style) (r : RoundedRect)
    (hf : st.fill = none) (hs : st.stroke = none ∨ st.width = 0) : r.drawStyled st = [] := by
  unfold drawStyled
  rw [Style.effectiveStrokeColor_eq_none hs, hf]
example : (⟨none, some 2, 0, .center⟩ : Style).fill = none ∧
    ((⟨none, some 2, 0, .center⟩ : Style).stroke = none ∨ (⟨none, some 2, 0, .center⟩ : Style).width = 0) := by
  decide

/-- Hence both pixel maps are empty. -/
theorem styled_rrect_transparent (st : Style) (r : RoundedRect) (B : Rect)
    (hf : st.fill = none) (hs : st.stroke = none ∨ st.width = 0) (p : Pt) :
    runNative B (r.drawStyled st) p = none ∧ runDefault B (r.drawStyled st) p = none := by
  rw [styled_rrect_transparent_no_call st r hf hs]
  exact ⟨rfl, rfl⟩

/-- `pixels()` of a transparent style yields nothing either (it looks at `stroke_color`, not at the
effective stroke colour: with a stroke colour and width 0 the two areas coincide, so every point of
the stroke area is a fill point, and there is no fill colour). -/
theorem styled_rrect_transparent_pixels (st : Style) (r : RoundedRect)
    (hS : (r.strokeArea st).InRange) (hF : (r.fillArea st).InRange)
    (hf : st.fill = none) (hs : st.stroke = none ∨ st.width = 0) : r.styledPixels st = [] := by
  apply List.eq_nil_iff_forall_not_mem.mpr
  rintro ⟨p, col⟩ hm
  have hm := ((styledLines hS hF).mem_pixels_all st.stroke st.fill p col).mp hm
  rw [hf] at hm
  rcases hm with ⟨_, _, h⟩ | ⟨h1, h2, h3⟩
  · cases h
  · rcases hs with hs | hs
    · rw [hs] at h3; cases h3
    · rw [areas_eq_of_zero_width st r hs] at h1
      rw [h1] at h2; cases h2
example : let st : Style := ⟨none, some 2, 0, .center⟩
    let r : RoundedRect := ⟨⟨⟨-3, 2⟩, ⟨9, 7⟩⟩, CornerRadii.new ⟨3, 2⟩⟩
    (r.strokeArea st).InRange ∧ (r.fillArea st).InRange := by decide

/-- The transparent styles are exactly those of `is_transparent()`. -/
theorem styled_rrect_is_transparent_paints_nothing (st : Style) (r : RoundedRect) (B : Rect)
    (ht : st.isTransparent = true) (p : Pt) :
    runNative B (r.drawStyled st) p = none ∧ runDefault B (r.drawStyled st) p = none := by
  rw [Style.isTransparent_iff] at ht
  exact styled_rrect_transparent st r B ht.2 ht.1 p
example : (⟨none, none, 7, .inside⟩ : Style).isTransparent = true := by decide

-- [V] styled rounded rectangles whose stroke / fill area boxes leave the `i32` range (guards false; the real code saturates or panics on overflow there, C08's topic): carried by correspondence + oracle only
end EG.C02.RRect
