/-
  C02 — bounding boxes contain everything that is drawn: STROKED POLYLINES AND TRIANGLES of stroke
  width > 1 (the headline of the "lines / triangles / polylines" mechanism: the box is computed from
  the thick-segment edge corners, `ThickSegment::edges_bounding_box` folded over all segments).
  Models: EG.Model.{ThickSegment, ThickPolyline, ThickTriangle} (tied op by op to the real code by
  the streams `thick.polyline` / `thick.triangle`); lemmas: EG.Lemmas.JoinsBBox{Cover, PolyMain, Tri,
  TriMain, Width1, Pixels}.

  The argument. A segment paints, row by row, the hull of the Bresenham intersections of its
  OUTLINE lines: its two edges, the start cap of its start join and the end cap of its end join.
  The edges end in the segment's own four corners (inside its own box). A cap of a bevel /
  degenerate join is split at the midpoint of the join's filler line, which runs from a corner of the
  segment BEFORE the join to a corner of the segment AFTER it - so the midpoint lies in the envelope
  of the boxes of the two neighbours ("other segments expand the box", thick_segment.rs). Hence
  every outline line ends inside the fold of all segment boxes (`*_outline_in_bounding_box`), the
  scanline of every segment stays in the box's columns (`thick_segment_scanline_within_outline_hull`),
  merging scanlines (`try_extend`) and the fill between two stroke scanlines stay there too, and the
  rows iterated are the rows of the box.

  Guards (all decidable, `example`s below):
  * `adjOK` (in `PolyBBoxGuard` / `TriStrokeGuard`): a SKELETON segment (`is_skeleton`, possible only
    for width 2: about 3 of 1000 random small polylines have one) is boxed by its right edge only
    (/repo a55c264); when it meets a non-skeleton segment in a join whose filler line is on the
    LEFT side, the far end of the filler is a corner no box is guaranteed to hold, and the guard
    asks for the midpoint of that filler line to be in the box directly. No input violating it has
    been found (exhaustive 3- and 4-vertex lattices, 6 * 10^6 random polylines / triangles: it
    held in all ~3000 such configurations met).
  * the top row of the box is at least `i32::MIN` (`Rectangle::rows` saturates there; the model's
    coordinates are unbounded integers);
  * filled triangles: the three vertices lie in the stroke box (used only for rows that no stroke
    scanline reaches, where the plain triangle scanline is filled; the vertices can be outside the
    box of a thin sliver - 16 of 117128 lattice triangles - but then every row has stroke scanlines).
    EG/Props/C02/JoinsBBoxAlign.lean removes this clause for OUTSIDE strokes (the vertices are the right
    corners of the joins, always boxed) and weakens it to the COLUMNS of the box for Center strokes; for
    Inside strokes it reduces `TriOutlineGuard` to the inner corners of the three joins.
-/
import EG.Lemmas.JoinsBBoxPolyMain
import EG.Lemmas.JoinsBBoxTriMain
import EG.Lemmas.JoinsBBoxWidth1
import EG.Lemmas.JoinsBBoxPixels
namespace EG.C02.JoinsBBox
open EG EG.Joins

/-- The full claim for stroked polylines: `draw` writes inside `bounding_box()`. -/
def PolylineDrawInBoundingBox : Prop :=
  ∀ (pl : Polyline) (w : Nat) (bb : Rect) (rs : List Rect), styledBoundingBox pl w = some bb →
    drawStyled pl w = some (.fillSolids rs) → ∀ r ∈ rs, ∀ p, r.contains p = true → bb.contains p = true

/-- The full claim for stroked polylines: `pixels()` lies inside `bounding_box()`. -/
def PolylinePixelsInBoundingBox : Prop :=
  ∀ (pl : Polyline) (w : Nat) (bb : Rect) (ps : List Pt), styledBoundingBox pl w = some bb →
    pixels pl w = some ps → ∀ p ∈ ps, bb.contains p = true

/-- Every outline line (edge, cap line, filler half-line) of every segment of a stroked polyline
with at least two vertices ends inside the fold of the segment boxes (the untranslated bounding
box). -/
theorem polyline_outline_in_bounding_box (vs : List Pt) (w : Nat) (hn : 2 ≤ vs.length)
    (segs : List ThickSegment) (hs : polySegments vs w = some segs)
    (hg : chainOK (foldEdgeBoxes segs) segs = true) :
    ∀ s ∈ segs, ∀ l ∈ s.outline,
      (foldEdgeBoxes segs).contains l.start = true ∧ (foldEdgeBoxes segs).contains l.stop = true := by
  rw [polySegments_eq_chain] at hs
  exact polyChain_outline_covered hs hg

/-- **Every `fill_solid` rectangle that `draw` of a stroked polyline (any vertex list, any
`translate`, stroke width > 1) issues lies inside its `bounding_box()`.** -/
theorem polyline_draw_in_bounding_box_partial (pl : Polyline) (w : Nat) (hw : 2 ≤ w)
    (hg : PolyBBoxGuard pl w) (bb : Rect) (hbb : styledBoundingBox pl w = some bb) (rs : List Rect)
    (hd : drawStyled pl w = some (.fillSolids rs)) :
    ∀ r ∈ rs, ∀ p, r.contains p = true → bb.contains p = true :=
  drawStyled_in_bbox pl w hw hg bb hbb rs hd

/-- **Every point of `pixels()` of a stroked polyline (stroke width > 1) lies inside its
`bounding_box()`.** -/
theorem polyline_pixels_in_bounding_box_partial (pl : Polyline) (w : Nat) (hw : 2 ≤ w)
    (hg : PolyBBoxGuard pl w) (bb : Rect) (hbb : styledBoundingBox pl w = some bb) (ps : List Pt)
    (hps : pixels pl w = some ps) : ∀ p ∈ ps, bb.contains p = true :=
  pixels_in_bbox pl w hw hg bb hbb ps hps

/-- The guards of the stroked-polyline theorems on a polyline with wide strokes, sharp and degenerate joins and a
repeated vertex. (Stated with the width bound: a term whose type is `PolyBBoxGuard ..` itself makes the elaborator
normalise that type, i.e. run the stroke model.) -/
theorem wide_polyline_guard :
    (2 : Nat) ≤ 5 ∧ PolyBBoxGuard ⟨⟨-7, -9⟩, [⟨0, 0⟩, ⟨9, 1⟩, ⟨0, 2⟩, ⟨0, 2⟩, ⟨4, -6⟩]⟩ 5 := by decide +kernel

-- the polyline whose last segment is a skeleton segment (the one that lost a drawn point before the repair /repo a55c264), translated
-- (`+kernel`: the guards run the whole stroke model, which the kernel evaluates much faster than the elaborator)
example : PolyBBoxGuard ⟨⟨5, 3⟩, [⟨-5, -4⟩, ⟨-1, 5⟩, ⟨3, 2⟩, ⟨7, -4⟩]⟩ 2 := by decide +kernel
-- a polyline where the guard's midpoint test is what holds: its middle segment is a skeleton
-- segment followed by a bevel join with the filler on the left
example : PolyBBoxGuard ⟨⟨0, 0⟩, [⟨6, -5⟩, ⟨0, 0⟩, ⟨-5, 6⟩, ⟨-4, 2⟩]⟩ 2 := by decide +kernel
example : (polySegments [⟨6, -5⟩, ⟨0, 0⟩, ⟨-5, 6⟩, ⟨-4, 2⟩] 2).map (·.map (·.isSkeleton)) =
    some [false, true, false] := by decide +kernel
-- wide strokes, sharp and degenerate joins, a repeated vertex
example : PolyBBoxGuard ⟨⟨-7, -9⟩, [⟨0, 0⟩, ⟨9, 1⟩, ⟨0, 2⟩, ⟨0, 2⟩, ⟨4, -6⟩]⟩ 5 := by decide +kernel
example : (pixels ⟨⟨5, 3⟩, [⟨-5, -4⟩, ⟨-1, 5⟩, ⟨3, 2⟩, ⟨7, -4⟩]⟩ 2).map (·.length) = some 30 := by
  -- the kernel runs the closed form of the rows, not the pixel iterator
  rw [C01Thick.pixels_length _ _ (by decide), polyScanlineRun_eq_map _ _ (by decide)]
  decide +kernel

/-- **Stroke width 1: `draw` (one `draw_iter` call with `points()`) and `pixels()` stay inside
`bounding_box()`** - the fold over the boxes of the width-1 segments, whose corners are the vertices
themselves. Hypothesis: the vertices are `i32` values (the rounding division of the join
intersections saturates to `i32`). -/
theorem polyline_width1_in_bounding_box (pl : Polyline) (hi : AllI32 pl.vertices) (bb : Rect)
    (hbb : styledBoundingBox pl 1 = some bb) :
    (∀ pts, drawStyled pl 1 = some (.drawIter pts) → ∀ p ∈ pts, bb.contains p = true) ∧
    (∀ ps, pixels pl 1 = some ps → ∀ p ∈ ps, bb.contains p = true) := by
  constructor
  · intro pts h
    simp only [drawStyled, Option.some.injEq, PolyDraw.drawIter.injEq] at h
    subst h
    exact points_in_bbox_width1 pl hi bb hbb
  · intro ps h
    simp only [pixels, Option.some.injEq] at h
    subst h
    exact points_in_bbox_width1 pl hi bb hbb

example : AllI32 [⟨-5, -4⟩, ⟨-1, 5⟩, ⟨3, 2⟩, ⟨7, -4⟩] := by decide

/-- The full claim for styled triangles: `draw` writes inside `bounding_box()`. -/
def TriangleDrawInBoundingBox : Prop :=
  ∀ (t : Tri) (style : TriStyle) (bb : Rect) (calls : List (Rect × Nat)),
    triStyledBoundingBox t style = some bb → triDraw t style = some calls →
    ∀ rc ∈ calls, ∀ p, rc.1.contains p = true → bb.contains p = true

/-- The full claim for styled triangles: `pixels()` lies inside `bounding_box()`. -/
def TrianglePixelsInBoundingBox : Prop :=
  ∀ (t : Tri) (style : TriStyle) (bb : Rect) (px : List (Pt × Nat)),
    triStyledBoundingBox t style = some bb → triPixels t style = some px →
    ∀ pc ∈ px, bb.contains pc.1 = true

/-- Every outline line of the three closed segments of a triangle's stroke ends inside the fold of
their boxes (`styled_bounding_box` for Center / Outside strokes of width > 1). -/
theorem triangle_outline_in_bounding_box (t : Tri) (w : Nat) (off : Thick.StrokeOffset)
    (a b c : ThickSegment) (hs : closedSegments3 t w off = some [a, b, c])
    (g1 : adjOK (foldEdgeBoxes [a, b, c]) a b = true) (g2 : adjOK (foldEdgeBoxes [a, b, c]) b c = true)
    (g3 : adjOK (foldEdgeBoxes [a, b, c]) c a = true) :
    ∀ s ∈ [a, b, c], ∀ l ∈ s.outline,
      (foldEdgeBoxes [a, b, c]).contains l.start = true ∧
      (foldEdgeBoxes [a, b, c]).contains l.stop = true := by
  obtain ⟨j0, j1, j2, -, -, -, e⟩ := closedSegments3_eq_some hs
  simp only [List.cons.injEq, and_true] at e
  obtain ⟨rfl, rfl, rfl⟩ := e
  exact closed3_outline_covered _ _ _ rfl rfl rfl g1 g2 g3

/-- **Center / Outside stroke of width > 1 (with or without fill): every `fill_solid` rectangle of
`draw` lies inside `bounding_box()`.** -/
theorem triangle_stroke_draw_in_bounding_box_partial (t : Tri) (style : TriStyle)
    (hw : 2 ≤ style.strokeWidth) (hal : style.strokeAlignment ≠ .inside) (hg : TriStrokeGuard t style)
    (bb : Rect) (hbb : triStyledBoundingBox t style = some bb) (calls : List (Rect × Nat))
    (hd : triDraw t style = some calls) :
    ∀ rc ∈ calls, ∀ p, rc.1.contains p = true → bb.contains p = true := by
  obtain ⟨hmin, ctx⟩ := triCtx_stroke t style hw hal hg bb hbb
  exact triDraw_in_box t style bb hbb hmin (fun c _ => ctx c) calls hd

/-- **Center / Outside stroke of width > 1: every point of `pixels()` lies inside
`bounding_box()`.** -/
theorem triangle_stroke_pixels_in_bounding_box_partial (t : Tri) (style : TriStyle)
    (hw : 2 ≤ style.strokeWidth) (hal : style.strokeAlignment ≠ .inside) (hg : TriStrokeGuard t style)
    (bb : Rect) (hbb : triStyledBoundingBox t style = some bb) (px : List (Pt × Nat))
    (hpx : triPixels t style = some px) : ∀ pc ∈ px, bb.contains pc.1 = true := by
  obtain ⟨hmin, ctx⟩ := triCtx_stroke t style hw hal hg bb hbb
  exact triPixels_in_box t style bb hbb hmin (fun c _ => ctx c) px hpx

example : TriStrokeGuard ⟨⟨0, 0⟩, ⟨9, 1⟩, ⟨2, 7⟩⟩ ⟨some 1, some 2, 3, .center⟩ := by decide +kernel
-- a triangle with a skeleton segment beside a left-side filler (the guard's midpoint test)
example : TriStrokeGuard ⟨⟨0, 0⟩, ⟨-5, 3⟩, ⟨5, 3⟩⟩ ⟨some 1, some 2, 2, .outside⟩ := by decide +kernel
-- a sliver whose vertices are not all in the stroke box: covered without fill colour
example : TriStrokeGuard ⟨⟨0, 0⟩, ⟨-5, -5⟩, ⟨2, 3⟩⟩ ⟨none, some 2, 3, .center⟩ := by decide +kernel
example : ¬ TriStrokeGuard ⟨⟨0, 0⟩, ⟨-5, -5⟩, ⟨2, 3⟩⟩ ⟨some 1, some 2, 3, .center⟩ := by decide +kernel
example : (triDraw ⟨⟨0, 0⟩, ⟨9, 1⟩, ⟨2, 7⟩⟩ ⟨some 1, some 2, 3, .center⟩).map (·.length) = some 17 := by
  decide +kernel

/-- The plain vertex box of a triangle with `i32` rows. -/
def TriTopGuard (t : Tri) : Prop := -2147483648 ≤ t.boundingBox.tl.y

instance (t : Tri) : Decidable (TriTopGuard t) := by unfold TriTopGuard; exact inferInstance

/-- **Fill only (stroke width 0, any alignment): `draw` and `pixels()` stay inside
`bounding_box()`** (the plain vertex box). -/
theorem triangle_fill_in_bounding_box (t : Tri) (style : TriStyle) (hw : style.strokeWidth = 0)
    (hg : TriTopGuard t) (bb : Rect) (hbb : triStyledBoundingBox t style = some bb) :
    (∀ calls, triDraw t style = some calls →
      ∀ rc ∈ calls, ∀ p, rc.1.contains p = true → bb.contains p = true) ∧
    (∀ px, triPixels t style = some px → ∀ pc ∈ px, bb.contains pc.1 = true) := by
  obtain rfl := triStyledBoundingBox_vertexBox (Or.inl (by omega)) hbb
  have ctx : StyledCtx t style t.boundingBox := fun c _ => triCtx_vertexBox t _ _ _ _ (Or.inl hw)
  exact tri_in_box t style _ hbb hg ctx

example : TriTopGuard ⟨⟨0, 0⟩, ⟨9, 1⟩, ⟨2, 7⟩⟩ := by decide

/-- **Stroke width 1 (any alignment, with or without fill): `draw` and `pixels()` stay inside
`bounding_box()`** (the plain vertex box). Every corner of a width-1 join is the vertex itself
(`Line::extents(1, _)` returns the line twice for every stroke offset), so the edge segments are
skeleton segments running between the vertices. Hypothesis: `i32` vertices. -/
theorem triangle_width1_in_bounding_box (t : Tri) (style : TriStyle) (hw : style.strokeWidth = 1)
    (hi : TriI32 t) (hg : TriTopGuard t) (bb : Rect) (hbb : triStyledBoundingBox t style = some bb) :
    (∀ calls, triDraw t style = some calls →
      ∀ rc ∈ calls, ∀ p, rc.1.contains p = true → bb.contains p = true) ∧
    (∀ px, triPixels t style = some px → ∀ pc ∈ px, bb.contains pc.1 = true) := by
  obtain rfl := triStyledBoundingBox_vertexBox (Or.inl (by omega)) hbb
  have ctx : StyledCtx t style t.boundingBox := by
    intro c _
    rw [hw]
    exact triCtx_width1 t _ hi _ _
  exact tri_in_box t style _ hbb hg ctx

example : TriI32 ⟨⟨0, 0⟩, ⟨9, 1⟩, ⟨2, 7⟩⟩ := by decide

/-- **Inside stroke (any width) that is collapsed (`is_collapsed`: the inner edges cross, the whole
triangle is painted in the stroke colour): `draw` and `pixels()` stay inside `bounding_box()`**
(the plain vertex box). -/
theorem triangle_collapsed_inside_in_bounding_box (t : Tri) (style : TriStyle)
    (hal : style.strokeAlignment = .inside)
    (hc : t.sortedClockwise.isCollapsed style.strokeWidth .right = some true)
    (hg : TriTopGuard t) (bb : Rect) (hbb : triStyledBoundingBox t style = some bb) :
    (∀ calls, triDraw t style = some calls →
      ∀ rc ∈ calls, ∀ p, rc.1.contains p = true → bb.contains p = true) ∧
    (∀ px, triPixels t style = some px → ∀ pc ∈ px, bb.contains pc.1 = true) := by
  obtain rfl := triStyledBoundingBox_vertexBox (Or.inr hal) hbb
  have hoff : style.strokeAlignment.toOffset = .right := by rw [hal]; rfl
  have ctx : StyledCtx t style t.boundingBox := by
    intro c hc'
    rw [hoff] at hc' ⊢
    rw [hc] at hc'
    cases hc'
    exact triCtx_vertexBox t _ _ _ _ (Or.inr rfl)
  exact tri_in_box t style _ hbb hg ctx

example : (⟨⟨0, 0⟩, ⟨9, 1⟩, ⟨2, 7⟩⟩ : Tri).sortedClockwise.isCollapsed 4 .right = some true := inside_stroke_collapsed

/-- **Any stroke width, any alignment, with or without fill: if the end points of the outline lines
of the three stroke segments (at most 24 points) and the three vertices lie in `bounding_box()`,
then everything `draw` fills and every point of `pixels()` does** (the reduction used above, with
the geometric part left as the decidable hypothesis `TriOutlineGuard`; it covers the case the
theorems above do not: Inside strokes of width > 1 that are not collapsed). -/
theorem triangle_in_bounding_box_of_outline (t : Tri) (style : TriStyle)
    (hg : TriOutlineGuard t style) (bb : Rect) (hbb : triStyledBoundingBox t style = some bb) :
    (∀ calls, triDraw t style = some calls →
      ∀ rc ∈ calls, ∀ p, rc.1.contains p = true → bb.contains p = true) ∧
    (∀ px, triPixels t style = some px → ∀ pc ∈ px, bb.contains pc.1 = true) := by
  obtain ⟨hmin, ctx⟩ := triCtx_outline t style hg bb hbb
  exact tri_in_box t style bb hbb hmin ctx

-- an Inside stroke of width 3 that is not collapsed
theorem inside_stroke_outline_guard :
    TriOutlineGuard ⟨⟨0, 0⟩, ⟨20, 3⟩, ⟨6, 18⟩⟩ ⟨some 1, some 2, 3, .inside⟩ := by decide +kernel
example : TriOutlineGuard ⟨⟨0, 0⟩, ⟨20, 3⟩, ⟨6, 18⟩⟩ ⟨some 1, some 2, 3, .inside⟩ := inside_stroke_outline_guard
example : (⟨⟨0, 0⟩, ⟨20, 3⟩, ⟨6, 18⟩⟩ : Tri).sortedClockwise.isCollapsed 3 .right = some false := by decide +kernel
example : TriOutlineGuard ⟨⟨-3, 2⟩, ⟨15, -9⟩, ⟨8, 14⟩⟩ ⟨none, some 2, 2, .inside⟩ := by decide +kernel

-- [V] stroked polyline / triangle (width > 1) with a skeleton segment beside a join whose filler line is on the left side, when the midpoint of that filler line is NOT in the box (guard `adjOK`; no such input is known: none among 1.06 * 10^6 four-vertex lattice polylines of widths 2 and 3, 2.1 * 10^6 lattice triangles of widths 2..14 in all alignments, and every join found to make a skeleton segment - 516 of 6.7 * 10^5 lattice joins (Center and Outside) of widths 2..5 - is a width-2 MITER join with all corners on the vertex, which has no filler line): carried by correspondence + oracle only
-- [V] filled triangle with a CENTER stroke of width > 1 with a vertex whose x coordinate is outside the columns of the stroke box (thin slivers; guard `TriStrokeColumnsGuard`, Props/C02/JoinsBBoxAlign.lean; 12 of the 114 920 Center-stroke ops of the lattice v1 = 0, v2, v3 in [-6, 6]^2, widths 2..9; Outside strokes are proved: their vertices always lie in the stroke box): the plain triangle scanline of a row without stroke scanlines stays in the box: carried by correspondence + oracle only
-- [V] triangle with an Inside stroke of width > 1 that is not collapsed: the inner (right) corners of the three joins (at most six points, rounded intersections of the inner edge lines; hypothesis `TriInsideGuard` of `triangle_inside_in_bounding_box_of_inner_corners`, Props/C02/JoinsBBoxAlign.lean - everything else `TriOutlineGuard` asked for is proved; `TriOutlineGuard` held on all 49 331 non-collapsed Inside strokes among 160 000 random triangles with vertices within +-80 and widths 2..8, and on all 5 760 of the lattice v2, v3 in [-6, 6]^2) lie inside the plain vertex box: carried by correspondence + oracle only

end EG.C02.JoinsBBox
