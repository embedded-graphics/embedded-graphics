/-
  C02 (Rectangle) — everything a styled rectangle draws lies inside its `bounding_box()`
  (`styled_bounding_box` = the rectangle offset by the outside stroke width = the stroke area),
  and a completely transparent style draws nothing.
  Models: EG.Model.StyledRect. Helper lemmas: EG/Lemmas/StyledRectDraw.lean.
-/
import EG.Lemmas.StyledRectDraw
namespace EG.C02.Rectangle
open EG.Tgt
open EG EG.Rect EG.StyledRect

/-- `styled_bounding_box` is the stroke area. -/
theorem styled_bounding_box_eq_stroke_area (s : Style) (r : Rect) :
    styledBoundingBox s r = strokeArea s r := rfl

/-- Every pixel offered by any call of `draw()` (before the target clips it) lies inside the
bounding box. -/
theorem styled_rect_calls_inside_bbox (s : Style) (r : Rect) (h : Guard s r) (B : Rect)
    (c : Call) (hc : c ∈ drawCalls s r) (w : Pt × Color) (hw : w ∈ c.lowerNative B) :
    (styledBoundingBox s r).contains w.1 = true :=
  mem_drawCalls_lowerNative h B hc hw

/-- The same for a draw_iter-only target. -/
theorem styled_rect_calls_inside_bbox_default (s : Style) (r : Rect) (h : Guard s r) (B : Rect)
    (c : Call) (hc : c ∈ drawCalls s r) (w : Pt × Color) (hw : w ∈ c.lowerDefault B) :
    (styledBoundingBox s r).contains w.1 = true := by
  rw [Call.lowerDefault_eq_lowerNative] at hw
  exact mem_drawCalls_lowerNative h B hc hw

/-- Every pixel left on a target by `draw()` lies inside the bounding box. -/
theorem styled_rect_drawn_inside_bbox (s : Style) (r : Rect) (h : Guard s r) (B : Rect) (p : Pt)
    (hp : runNative B (drawCalls s r) p ≠ none) : (styledBoundingBox s r).contains p = true :=
  (styledPicture h).drawn_in_box hp

/-- Every pixel yielded by `pixels()` lies inside the bounding box. -/
theorem styled_rect_pixels_inside_bbox (s : Style) (r : Rect) (h : Guard s r)
    (w : Pt × Color) (hw : w ∈ pixelsList s r) : (styledBoundingBox s r).contains w.1 = true := by
  obtain ⟨p, c⟩ := w
  exact ((mem_pixelsList h).mp hw).2.1

/-- A completely transparent style makes no target call at all ... -/
theorem styled_rect_transparent_draws_nothing (s : Style) (r : Rect) (h : s.isTransparent = true) :
    drawCalls s r = [] := by
  rw [Style.isTransparent_iff] at h
  unfold drawCalls fillCalls
  rw [h.2, Style.effectiveStrokeColor_eq_none h.1]
  rfl

/-- ... and `pixels()` is empty. -/
theorem styled_rect_transparent_no_pixels (s : Style) (r : Rect) (h : s.isTransparent = true) :
    pixelsList s r = [] := by
  rw [pixelsList_eq_spec]
  unfold pixelsSpec
  simp [h]

/-- `is_transparent` means: no fill colour, and no stroke colour or zero stroke width. -/
theorem is_transparent_iff (s : Style) :
    s.isTransparent = true ↔ (s.stroke = none ∨ s.width = 0) ∧ s.fill = none :=
  s.isTransparent_iff

/-! Non-vacuity -/
example : Guard ⟨some 7, some 9, 5, .outside⟩ ⟨⟨-2, -1⟩, ⟨4, 0⟩⟩ := by decide
example : (⟨none, some 9, 0, .center⟩ : Style).isTransparent = true := by decide
example : (⟨none, none, 4, .inside⟩ : Style).isTransparent = true := by decide
example : styledBoundingBox ⟨some 7, some 9, 5, .outside⟩ ⟨⟨-2, -1⟩, ⟨4, 3⟩⟩ = ⟨⟨-7, -6⟩, ⟨14, 13⟩⟩ := by decide

end EG.C02.Rectangle
