/-
  EG.Props.C02.GuardBits — the guard bits the model driver prints for `thick.polyline` / `thick.triangle`
  ops (field ` g=..`, EG/Driver/Thick.lean, computed by the Mathlib-free functions of
  EG/Model/JoinGuards.lean) ARE the decidable guards of the C02 join theorems
  (EG/Props/C02/JoinsBBox.lean): each Bool function is `true` exactly when the guard holds.
  With these, `coverage.guard_bits` of the evidence reports on how many ops of a run the hypotheses
  `PolyBBoxGuard` / `TriStrokeGuard` / `TriOutlineGuard` / `TriTopGuard` of those theorems hold.
-/
import EG.Model.JoinGuards
import EG.Props.C02.JoinsBBox
import EG.Props.C02.JoinsBBoxAlign
namespace EG.C02.GuardBitsSpec
open EG EG.Joins EG.C02.JoinsBBox

theorem guardBits_fillerSide (j : LineJoin) : GuardBits.fillerSide j = fillerSide j := rfl

theorem guardBits_adjOK (U : Rect) (s s' : ThickSegment) : GuardBits.adjOK U s s' = adjOK U s s' := rfl

theorem guardBits_chainOK (U : Rect) (segs : List ThickSegment) :
    GuardBits.chainOK U segs = chainOK U segs := by
  induction segs with
  | nil => rfl
  | cons s rest ih =>
    cases rest with
    | nil => rfl
    | cons s' rest' =>
      simp only [GuardBits.chainOK, chainOK, guardBits_adjOK]
      rw [ih]

theorem guardBits_closedSegments3 (t : Tri) (w : Nat) (off : Thick.StrokeOffset) :
    GuardBits.closedSegments3 t w off = closedSegments3 t w off := rfl

/-- The driver's bit for `PolyBBoxGuard`. -/
theorem polyBBoxGuard_bit_iff (pl : Polyline) (w : Nat) :
    GuardBits.polyBBoxGuard pl w = true ↔ PolyBBoxGuard pl w := by
  unfold GuardBits.polyBBoxGuard PolyBBoxGuard polySegments
  cases untranslatedBoundingBox pl w with
  | none => simp
  | some ubb =>
    cases (ThickSegmentIter.new pl.vertices w).bind ThickSegmentIter.toList with
    | none => simp
    | some segs => simp [guardBits_chainOK]

/-- The driver's bit for the `chainOK` conjunct of `PolyBBoxGuard`. -/
theorem polyChainOK_bit_iff (pl : Polyline) (w : Nat) :
    GuardBits.polyChainOK pl w = true ↔
      match untranslatedBoundingBox pl w, polySegments pl.vertices w with
      | some ubb, some segs => chainOK ubb segs = true
      | _, _ => True := by
  unfold GuardBits.polyChainOK polySegments
  cases untranslatedBoundingBox pl w with
  | none => simp
  | some ubb =>
    cases (ThickSegmentIter.new pl.vertices w).bind ThickSegmentIter.toList with
    | none => simp
    | some segs => simp [guardBits_chainOK]

/-- The driver's bit for `TriStrokeGuard`. -/
theorem triStrokeGuard_bit_iff (t : Tri) (style : TriStyle) :
    GuardBits.triStrokeGuard t style = true ↔ TriStrokeGuard t style := by
  unfold GuardBits.triStrokeGuard TriStrokeGuard
  rw [guardBits_closedSegments3]
  cases hs : closedSegments3 t.sortedClockwise style.strokeWidth style.strokeAlignment.toOffset with
  | none => simp
  | some segs =>
    obtain ⟨j0, j1, j2, -, -, -, rfl⟩ := closedSegments3_eq_some hs
    -- `&&`, `||`, `!` against `∧`, `→`
    simp only [guardBits_adjOK, Bool.and_eq_true, decide_eq_true_eq, Bool.or_eq_true,
      Bool.not_eq_true', and_assoc, Decidable.imp_iff_not_or, Bool.not_eq_true]

/-- The driver's bit for the three `adjOK` conjuncts of `TriStrokeGuard`. -/
theorem triAdjOK_bit_iff (t : Tri) (style : TriStyle) :
    GuardBits.triAdjOK t style = true ↔
      match closedSegments3 t.sortedClockwise style.strokeWidth style.strokeAlignment.toOffset with
      | some [a, b, c] =>
        adjOK (foldEdgeBoxes [a, b, c]) a b = true ∧ adjOK (foldEdgeBoxes [a, b, c]) b c = true ∧
          adjOK (foldEdgeBoxes [a, b, c]) c a = true
      | _ => True := by
  unfold GuardBits.triAdjOK
  rw [guardBits_closedSegments3]
  cases hs : closedSegments3 t.sortedClockwise style.strokeWidth style.strokeAlignment.toOffset with
  | none => simp
  | some segs =>
    obtain ⟨j0, j1, j2, -, -, -, rfl⟩ := closedSegments3_eq_some hs
    simp only [guardBits_adjOK, Bool.and_eq_true, and_assoc]

/-- The driver's bit for `TriOutlineGuard`. -/
theorem triOutlineGuard_bit_iff (t : Tri) (style : TriStyle) :
    GuardBits.triOutlineGuard t style = true ↔ TriOutlineGuard t style := by
  unfold GuardBits.triOutlineGuard TriOutlineGuard
  rw [guardBits_closedSegments3]
  generalize closedSegments3 t.sortedClockwise style.strokeWidth style.strokeAlignment.toOffset = o
  cases triStyledBoundingBox t style with
  | none => simp
  | some bb =>
    cases o with
    | none => simp
    | some segs =>
      simp only [Bool.and_eq_true, decide_eq_true_eq, List.all_eq_true, and_assoc]

/-- The driver's bit for `TriTopGuard`. -/
theorem triTopGuard_bit_iff (t : Tri) : GuardBits.triTopGuard t = true ↔ TriTopGuard t := by
  unfold GuardBits.triTopGuard TriTopGuard
  simp

/-- For an Outside stroke (`i32` vertices) the driver's bit for `TriStrokeGuard` is the guard
`TriOutsideStrokeGuard` of `triangle_outside_stroke_in_bounding_box_partial`
(EG/Props/C02/JoinsBBoxAlign.lean): the vertex clause holds by proof. -/
theorem triOutsideStrokeGuard_bit_iff (t : Tri) (style : TriStyle)
    (hal : style.strokeAlignment = .outside) (hi : TriI32 t) :
    GuardBits.triStrokeGuard t style = true ↔ TriOutsideStrokeGuard t style :=
  (triStrokeGuard_bit_iff t style).trans (triStrokeGuard_outside_iff t style hal hi)

/-- Where the driver's bit for `TriOutlineGuard` is set on an Inside stroke, the weaker guard
`TriInsideGuard` of `triangle_inside_in_bounding_box_of_inner_corners` holds. -/
theorem triInsideGuard_of_bit (t : Tri) (style : TriStyle) (hal : style.strokeAlignment = .inside)
    (h : GuardBits.triOutlineGuard t style = true) : TriInsideGuard t style.strokeWidth :=
  triInsideGuard_of_outline t style hal ((triOutlineGuard_bit_iff t style).mp h)

/-- The driver's sixth bit of a `thick.triangle` op (`bit 5` in the evidence) is `TriStrokeColumnsGuard`,
the guard of `triangle_stroke_in_bounding_box_of_columns_partial`. -/
theorem triStrokeColumnsGuard_bit_iff (t : Tri) (style : TriStyle) :
    GuardBits.triStrokeColumnsGuard t style = true ↔ TriStrokeColumnsGuard t style := by
  unfold GuardBits.triStrokeColumnsGuard TriStrokeColumnsGuard
  rw [guardBits_closedSegments3]
  cases hs : closedSegments3 t.sortedClockwise style.strokeWidth style.strokeAlignment.toOffset with
  | none => simp
  | some segs =>
    obtain ⟨j0, j1, j2, -, -, -, rfl⟩ := closedSegments3_eq_some hs
    simp only [guardBits_adjOK, Bool.and_eq_true, decide_eq_true_eq, Bool.or_eq_true,
      Bool.not_eq_true', and_assoc, Decidable.imp_iff_not_or, Bool.not_eq_true]

end EG.C02.GuardBitsSpec
