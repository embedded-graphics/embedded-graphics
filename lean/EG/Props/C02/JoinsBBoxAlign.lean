/-
  C02 — bounding boxes contain everything that is drawn: styled triangles, what the stroke ALIGNMENT
  settles by proof (lemmas: EG.Lemmas.JoinsBBoxTriAlign; the guarded theorems these strengthen are in
  EG/Props/C02/JoinsBBox.lean).

  * OUTSIDE strokes of width > 1: the right edge line of every side of the (clockwise) triangle is the
    side itself, the right corners of the three joins are the vertices exactly, and the right edge is
    what `edges_bounding_box` holds for every segment (skeleton or not). So the three vertices ALWAYS lie
    in the stroke box, and the vertex clause of `TriStrokeGuard` - the one that fails on thin slivers
    with a Center stroke - is not needed: `triangle_outside_stroke_in_bounding_box_partial` keeps only
    the `adjOK` midpoint test and the `i32` top row.
  * INSIDE strokes of width > 1 that are not collapsed: the left corners of the joins are the vertices,
    the box is the vertex box; of the up to 24 outline end points of `TriOutlineGuard` only the inner
    (right) corners of the three joins - rounded intersections of the inner edge lines - remain a
    hypothesis: `triangle_inside_in_bounding_box_of_inner_corners`.
  Hypothesis of both: the vertices are `i32` values (the rounding division of `intersection()` saturates).
-/
import EG.Lemmas.JoinsBBoxTriAlign
import EG.Props.C02.JoinsBBox
namespace EG.C02.JoinsBBoxAlign
open EG EG.Joins

/-- **Outside stroke (any width): the three vertices of the triangle lie in the fold of the boxes of
the three stroke segments** (`styled_bounding_box` for widths > 1). -/
theorem triangle_outside_vertices_in_stroke_box (t : Tri) (w : Nat) (hi : TriI32 t)
    (a b c : ThickSegment) (hs : closedSegments3 t.sortedClockwise w .left = some [a, b, c]) :
    (foldEdgeBoxes [a, b, c]).contains t.v1 = true ∧ (foldEdgeBoxes [a, b, c]).contains t.v2 = true ∧
      (foldEdgeBoxes [a, b, c]).contains t.v3 = true :=
  outside_vertices_in_stroke_box t w hi a b c hs

/-- **Outside stroke of width > 1, with or without fill: every `fill_solid` rectangle of `draw` and
every point of `pixels()` lies inside `bounding_box()`** - no hypothesis on where the vertices are
(guard: the `adjOK` midpoint test for skeleton segments, the top row of the box is an `i32`). -/
theorem triangle_outside_stroke_in_bounding_box_partial (t : Tri) (style : TriStyle)
    (hw : 2 ≤ style.strokeWidth) (hal : style.strokeAlignment = .outside) (hi : TriI32 t)
    (hg : TriOutsideStrokeGuard t style) (bb : Rect) (hbb : triStyledBoundingBox t style = some bb) :
    (∀ calls, triDraw t style = some calls →
      ∀ rc ∈ calls, ∀ p, rc.1.contains p = true → bb.contains p = true) ∧
    (∀ px, triPixels t style = some px → ∀ pc ∈ px, bb.contains pc.1 = true) := by
  have hg' := triStrokeGuard_of_outside t style hal hi hg
  have hal' : style.strokeAlignment ≠ .inside := by rw [hal]; decide
  exact ⟨fun calls hd => JoinsBBox.triangle_stroke_draw_in_bounding_box_partial t style hw hal' hg' bb hbb calls hd,
    fun px hpx => JoinsBBox.triangle_stroke_pixels_in_bounding_box_partial t style hw hal' hg' bb hbb px hpx⟩

-- a filled sliver with an Outside stroke; the Center stroke of the same sliver fails `TriStrokeGuard`
example : TriOutsideStrokeGuard ⟨⟨0, 0⟩, ⟨-5, -5⟩, ⟨2, 3⟩⟩ ⟨some 1, some 2, 3, .outside⟩ := by decide +kernel
example : TriI32 ⟨⟨0, 0⟩, ⟨-5, -5⟩, ⟨2, 3⟩⟩ := by decide
-- a triangle with a skeleton segment beside a left-side filler (the guard's midpoint test)
example : TriOutsideStrokeGuard ⟨⟨0, 0⟩, ⟨-5, 3⟩, ⟨5, 3⟩⟩ ⟨some 1, some 2, 2, .outside⟩ := by decide +kernel

/-- **Inside stroke (any width, collapsed or not), with or without fill: if the inner (right) corners
of the three joins - at most six points - lie in the plain vertex box `bounding_box()`, then everything
`draw` fills and every point of `pixels()` does.** -/
theorem triangle_inside_in_bounding_box_of_inner_corners (t : Tri) (style : TriStyle)
    (hal : style.strokeAlignment = .inside) (hi : TriI32 t) (hg : TriInsideGuard t style.strokeWidth)
    (bb : Rect) (hbb : triStyledBoundingBox t style = some bb) :
    (∀ calls, triDraw t style = some calls →
      ∀ rc ∈ calls, ∀ p, rc.1.contains p = true → bb.contains p = true) ∧
    (∀ px, triPixels t style = some px → ∀ pc ∈ px, bb.contains pc.1 = true) :=
  JoinsBBox.triangle_in_bounding_box_of_outline t style (triOutlineGuard_of_inside t style hal hi hg) bb hbb

-- an Inside stroke of width 3 that is not collapsed
example : TriInsideGuard ⟨⟨0, 0⟩, ⟨20, 3⟩, ⟨6, 18⟩⟩ 3 := by decide +kernel
example : TriInsideGuard ⟨⟨-3, 2⟩, ⟨15, -9⟩, ⟨8, 14⟩⟩ 2 := by decide +kernel

/-- **Center / Outside stroke of width > 1 (with or without fill): `draw` and `pixels()` stay inside
`bounding_box()` when the x coordinates of the vertices lie in the COLUMNS of the stroke box** - the
vertex clause of `TriStrokeGuard` weakened to what is used (a vertex above or below the box is
harmless: only the rows of the box are iterated). `TriStrokeColumnsGuard` holds wherever
`TriStrokeGuard` does (`triStrokeColumnsGuard_of_guard`) and on half of the slivers where it fails. -/
theorem triangle_stroke_in_bounding_box_of_columns_partial (t : Tri) (style : TriStyle)
    (hw : 2 ≤ style.strokeWidth) (hal : style.strokeAlignment ≠ .inside)
    (hg : TriStrokeColumnsGuard t style) (bb : Rect) (hbb : triStyledBoundingBox t style = some bb) :
    (∀ calls, triDraw t style = some calls →
      ∀ rc ∈ calls, ∀ p, rc.1.contains p = true → bb.contains p = true) ∧
    (∀ px, triPixels t style = some px → ∀ pc ∈ px, bb.contains pc.1 = true) := by
  obtain ⟨hmin, ctx⟩ := triCtx_stroke_columns t style hw hal hg bb hbb
  exact tri_in_box t style bb hbb hmin (fun c _ => ctx c)

-- a filled sliver on which `TriStrokeGuard` fails: its vertex (2, 3) lies BELOW the
-- stroke box (rows -6 ..= 2), inside its columns
example : TriStrokeColumnsGuard ⟨⟨0, 0⟩, ⟨-5, -5⟩, ⟨2, 3⟩⟩ ⟨some 1, some 2, 3, .center⟩ := by decide +kernel
example : triStyledBoundingBox ⟨⟨0, 0⟩, ⟨-5, -5⟩, ⟨2, 3⟩⟩ ⟨some 1, some 2, 3, .center⟩ =
    some ⟨⟨-6, -6⟩, ⟨10, 9⟩⟩ := by decide +kernel
-- a sliver with a vertex left of the stroke box (columns -5 ..= 6): still outside the proof
example : ¬ TriStrokeColumnsGuard ⟨⟨0, 0⟩, ⟨-6, 4⟩, ⟨5, -5⟩⟩ ⟨some 1, some 2, 3, .center⟩ := by decide +kernel

end EG.C02.JoinsBBoxAlign
