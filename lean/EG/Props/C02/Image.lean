/-
  C02 (image part) — everything an `Image` draws lies inside its `bounding_box()`.
-/
import EG.Lemmas.ImageRawImage
namespace EG.C02
open EG EG.Img

/-- Every pixel left on the target (any target box, native or default semantics) lies inside the
image's bounding box. -/
theorem image_draw_in_bbox (i : Image) (hg : i.drawable.Good) (hr : i.boundingBox.InRange) (B : Rect)
    (q : Pt) (h : runNative B i.draw q ≠ none) : i.boundingBox.contains q = true :=
  (Image.drawn_in_boundingBox i hg hr B q h).1
example : (Image.new ((Drawable.raw exIm).subImage ⟨⟨6, 1⟩, ⟨9, 9⟩⟩) ⟨5, -1⟩).boundingBox.InRange := by decide

theorem image_draw_in_bbox_default (i : Image) (hg : i.drawable.Good) (hr : i.boundingBox.InRange)
    (B : Rect) (q : Pt) (h : runDefault B i.draw q ≠ none) : i.boundingBox.contains q = true := by
  rw [Tgt.runDefault_eq_runNative] at h
  exact (Image.drawn_in_boundingBox i hg hr B q h).1

/-- Before clipping: the only call is a `fill_contiguous` whose area is the bounding box itself. -/
theorem image_fill_area_is_bbox (i : Image) (hg : i.drawable.Good) :
    (∃ cs, i.draw = [Call.fillContiguous i.boundingBox cs] ∧
        cs.length = i.drawable.size.w * i.drawable.size.h) ∨ i.draw = [] :=
  Image.calls_are_bbox_fills i hg

end EG.C02
