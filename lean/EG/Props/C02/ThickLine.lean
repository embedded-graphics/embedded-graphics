/-
  C02 — bounding boxes contain everything that is drawn: STROKED LINES of any width.
  `Line::styled_bounding_box` (src/primitives/line/styled.rs:72) is the box spanned by the four end
  points of the two lines `Line::extents(width, StrokeOffset::None)` returns: the last parallel the
  `ParallelsIterator` yields on the left and on the right side, each from its start to
  `start + delta` (minus `major + minor` step for an "extra" parallel). `draw` is one `draw_iter`
  call with the points of `pixels()` (`ThickPoints`: the points of every parallel of the same
  iterator). Models: EG.Model.ThickLine (`Thick.thickPoints`, `Thick.styledBoundingBox`; streams
  `thick.points`, `thick.bbox`); lemmas: EG.Lemmas.ThickClosed, ThickBBox{Frame, Bres, Run, Final}.

  The proof, for ALL lines and widths (no guard): in the quadrant order spanned by the two steps of
  the perpendicular walk, the start points of the parallels of one side move monotonically away
  from the centre line, and so do their shortened end points (this is where `mirror_extra_points`
  and the shortening by `major + minor` fit together); hence starts and ends of all parallels lie in
  the box of the two last ones. The initial error of a parallel is at most the threshold, of an
  extra parallel at most `2 dmin - dmaj` (it has just wrapped), which bounds the number of minor
  steps of the parallel by `dmin` resp. `dmin - 1`: every point of a parallel lies between its
  start and its shortened end.
-/
import EG.Lemmas.ThickBBoxFinal
namespace EG.C02.ThickLine
open EG

/-- **Every pixel of a stroked line (any width, any direction, zero length included) lies inside
its `bounding_box()`.** -/
theorem thick_line_pixels_in_bounding_box (l : Line) (w : Nat) (ps : List Pt)
    (hps : Thick.thickPoints l w = some ps) (bb : Rect) (hbb : Thick.styledBoundingBox l w = some bb) :
    ∀ p ∈ ps, bb.contains p = true :=
  Thick.thickPoints_in_bbox l w ps hps bb hbb

example : Thick.styledBoundingBox ⟨⟨2, -3⟩, ⟨9, 1⟩⟩ 5 = some ⟨⟨1, -5⟩, ⟨10, 8⟩⟩ := by decide +kernel
example : (Thick.thickPoints ⟨⟨2, -3⟩, ⟨9, 1⟩⟩ 5).map (·.length) = some 46 := by decide +kernel

/-- Every parallel of a stroked line starts, and ends (shortened by `major + minor` if it is an
extra parallel), between the last right and the last left parallel of the run, in the quadrant
order of the perpendicular walk; its initial error is bounded (the order theorem behind the box). -/
theorem parallels_between_last_parallels (l : Line) (t : Int) (F : Nat) :
    ∃ it, Thick.ParallelsIterator.new l t .none = some it ∧
      ∀ x ∈ Thick.runPar F it,
        let fin := Thick.lasts (Thick.runPar F it) ((l.start, .normal), (l.start, .normal))
        Thick.Cone (Thick.ctxOf l).M' (Thick.ctxOf l).m' (fin.1.1 - x.2.1.point) ∧
        Thick.Cone (Thick.ctxOf l).M' (Thick.ctxOf l).m' (x.2.1.point - fin.2.1) ∧
        Thick.Cone (Thick.ctxOf l).M' (Thick.ctxOf l).m'
          (Thick.adj (Thick.ctxOf l) fin.1 - Thick.adj (Thick.ctxOf l) (x.2.1.point, x.2.2)) ∧
        Thick.Cone (Thick.ctxOf l).M' (Thick.ctxOf l).m'
          (Thick.adj (Thick.ctxOf l) (x.2.1.point, x.2.2) - Thick.adj (Thick.ctxOf l) fin.2) ∧
        Thick.ErrOK (Thick.ctxOf l) x.2.1 x.2.2 := by
  obtain ⟨it, h1, _, hg⟩ := Thick.new_ginv l t
  exact ⟨it, h1, (Thick.run_order (Thick.ctxOf l) (Thick.ctxOf_valid l) l.start F it _ _ hg).2.2.2.2⟩

end EG.C02.ThickLine
