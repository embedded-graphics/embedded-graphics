/-
  C04 through the target adapters — the MODEL level between the static half (call-site table,
  EG/Props/C04.lean) and the dynamic half (fault enumeration on the real code, harness module `faults`).

  Model: EG/Model/FaultTarget.lean. A target is the record of its four methods, each a function of the
  root's record to a `Result` and the record afterwards; the recording roots `R1` / `R2` of the harness
  with `fail_at` (transcribed from harness/src/common.rs: a failing call logs nothing and sets
  `errored`, a later call is counted in `calls_after_error` and logged); the four adapters built FROM
  THEIR PARENT TARGET the way clipped.rs / cropped.rs / translated.rs / color_converted.rs build them
  (every parent call is the tail expression of the method; `Clipped` and `Cropped` inherit the
  trait's `clear -> self.fill_solid(&self.bounding_box(), ..)`, `Cropped` forwards through the
  `Translated` it holds); a drawable = the call list of its model issued with `?` after each call.

  Proved here, for EVERY adapter stack (any depth, any mix of the four adapters, any boxes /
  offsets / colour maps), every root box, both roots, every call list and every fault position:
    * `adapter_call_is_one_parent_call`, `stack_call_is_one_root_call` — a method of an adapter
      (of a stack) IS the parent's (root's) method applied to `Adapter.lower` (`lowerStack`) of the
      call, as functions of the record: same `Result`, same record afterwards, whatever the parent
      does. This is the C03 claim "error propagation through the adapters" at model level, and it
      ties the error-aware model to the call-to-call model C03's theorems are about.
    * `fault_through_adapters` — the run in which root call `k` fails returns exactly `Err(k)`;
      the root counted `k + 1` calls, none after the error; its log is the first `k` entries of
      the lowered call list.
    * `fault_free_through_adapters` — no fault position inside the run: `Ok(())`, every call
      reached the root once, the log is the whole lowered call list.
    * `fault_log_is_prefix_of_fault_free` — the property's text: result, no further call, and the
      log of the faulty run = the log of the fault-free run truncated after `k` calls.
    * corollaries for the modelled drawables (styled rectangle, circle, ellipse, rounded
      rectangle, sector, arc, image incl. sub-images, mono-font text, `draw_whitespace`).
  The `faults.prefix` correspondence stream compares `faultRun` with the real code on sampled fault
  positions (result, number of root calls, length and digest of the root's log), through the
  adapter stacks of the `faults.*` ops, on both recording roots.
-/
import EG.Lemmas.FaultTarget
import EG.Model.StyledRect
import EG.Model.Circle
import EG.Model.Ellipse
import EG.Model.RoundedRect
import EG.Model.StyledSector
import EG.Model.ImageRaw
import EG.Model.TextLayout
namespace EG.C04
open EG

/-- What the root logs in the fault-free run of the call list `cs` issued on top of stack `s`:
each call lowered through the stack (`lowerStack`, the map C03's theorems are about), as the root
records it (`R2`: the call; `R1`: the `draw_iter` the trait defaults make of it). -/
def rootLog (native : Bool) (B : Rect) (s : Stack) (cs : List Call) : List Call :=
  (cs.map (lowerStack B s)).map (rootLogged native B)

/-- **One adapter call is exactly one parent call, and its `Result` is the parent's.** For every
parent target `P` (of any behaviour: failing, logging, itself an adapter), each of the four
adapters and each call: the adapter's method is the function `P`'s method is on the lowered call —
equal as functions from the root's record to (`Result`, record afterwards). Proved from the
transcription of the four Rust files (one `match` arm per method, two for
`Clipped::fill_contiguous`), not assumed. The reported box is `Adapter.bbox` of the parent's. -/
theorem adapter_call_is_one_parent_call (P : FTarget) (a : Adapter) (c : Call) :
    (P.wrap a).call c = P.call (a.lower P.bbox c) ∧ (P.wrap a).bbox = a.bbox P.bbox :=
  ⟨FTarget.wrap_call P a c, FTarget.wrap_bbox P a⟩

/-- ... hence a call on top of a stack of any depth is one call on the bottom target. -/
theorem stack_call_is_one_root_call (P : FTarget) (s : Stack) (c : Call) :
    (P.stack s).call c = P.call (lowerStack P.bbox s c) ∧ (P.stack s).bbox = stackBox P.bbox s :=
  ⟨FTarget.stack_call P s c, FTarget.stack_bbox P s⟩

/-- The recording roots: each of the four methods (on `R1` three of them are trait defaults
chained by tail calls) is one `enter()?` and one log entry. -/
theorem recording_root_call (native : Bool) (B : Rect) (c : Call) :
    (FTarget.root native B).call c = RootState.record (rootLogged native B c) :=
  FTarget.root_call native B c

/-- **Target error through any adapter stack.** Call list `cs` issued (with `?`) on top of stack
`s` over a recording root whose call number `k` fails, `k` below the length of `cs`: `draw`
returns exactly `Err(TErr(k))`; the root's record afterwards has counted `k + 1` calls (the
failing one is the last), `calls_after_error = 0`, and its log is the first `k` entries of the
fault-free root log. The conclusion is an equation for the whole outcome. -/
theorem fault_through_adapters (native : Bool) (B : Rect) (s : Stack) (cs : List Call) (k : Nat)
    (hk : k < cs.length) :
    faultRun native B s (some k) cs =
      (.error k, { failAt := some k, calls := k + 1, callsAfterError := 0, errored := true,
                   log := (rootLog native B s cs).take k }) := by
  have h := FTarget.runCalls_record_fail ((FTarget.root native B).stack s) _
    (FTarget.root_stack_call native B s) k cs (RootState.init (some k)) rfl rfl (Nat.zero_le _)
    (by simpa [RootState.init] using hk)
  simpa [faultRun, rootLog, RootState.init, List.map_map] using h

/-- **The fault-free run** (no fault position, or one the run never reaches): `Ok(())`, the root
counted one call per call of the drawable, none failed, and the log is the lowering of all of them. -/
theorem fault_free_through_adapters (native : Bool) (B : Rect) (s : Stack) (cs : List Call)
    (failAt : Option Nat) (hno : ∀ k, failAt = some k → cs.length ≤ k) :
    faultRun native B s failAt cs =
      (.ok (), { failAt := failAt, calls := cs.length, callsAfterError := 0, errored := false,
                 log := rootLog native B s cs }) := by
  have h := FTarget.runCalls_record_ok ((FTarget.root native B).stack s) _
    (FTarget.root_stack_call native B s) cs (RootState.init failAt) rfl
    (by intro k hk; right; simpa [RootState.init] using hno k hk)
  simpa [faultRun, rootLog, RootState.init, List.map_map] using h

/-- **C04 through the adapters, in the property's words.** If root call `k` of the run fails,
then `draw` returns exactly that error, no call reaches the root afterwards (`k + 1` calls counted,
none after the error), and the calls made before the failure are those of the fault-free run:
the faulty log is the fault-free log truncated after `k` successful calls. -/
theorem fault_log_is_prefix_of_fault_free (native : Bool) (B : Rect) (s : Stack) (cs : List Call)
    (k : Nat) (hk : k < cs.length) :
    (faultRun native B s (some k) cs).1 = .error k ∧
    (faultRun native B s (some k) cs).2.calls = k + 1 ∧
    (faultRun native B s (some k) cs).2.callsAfterError = 0 ∧
    (faultRun native B s (some k) cs).2.log = (faultRun native B s none cs).2.log.take k ∧
    (faultRun native B s none cs).1 = .ok () ∧
    (faultRun native B s none cs).2.calls = cs.length := by
  rw [fault_through_adapters native B s cs k hk,
    fault_free_through_adapters native B s cs none (by intro k h; cases h)]
  exact ⟨rfl, rfl, rfl, rfl, rfl, rfl⟩

/-- The number of calls the root sees does not depend on the stack or on the kind of root (the
`n` of the `faults.*` streams). -/
theorem root_calls_independent_of_stack (native : Bool) (B : Rect) (s : Stack) (cs : List Call) :
    (faultRun native B s none cs).2.calls = cs.length ∧ (rootLog native B s cs).length = cs.length := by
  rw [fault_free_through_adapters native B s cs none (by intro k h; cases h)]
  exact ⟨rfl, by simp [rootLog]⟩

/-! ### Examples (stack 5 of the `faults.*` streams: `translated(cropped(clipped(root)))`) -/

private def exB : Rect := ⟨⟨-40, -40⟩, ⟨120, 120⟩⟩
private def exStack : Stack :=
  [.clipped ⟨⟨-3, -2⟩, ⟨30, 25⟩⟩, .cropped ⟨⟨1, 1⟩, ⟨20, 20⟩⟩, .translated ⟨-2, 5⟩]
private def exRect : List Call := StyledRect.drawCalls ⟨some 7, some 9, 1, .inside⟩ ⟨⟨-5, -4⟩, ⟨10, 8⟩⟩

-- the hypothesis of `fault_through_adapters` on a filled and stroked rectangle (5 calls), k = 2
example : 2 < exRect.length := by decide

-- ... and what the theorem then says, computed: the two calls the native root logged are the
-- fill and the top edge, cut by the clip box and shifted by the crop and the translation
example : (faultRun true exB exStack (some 2) exRect).2.log =
    [.fillSolid ⟨⟨-3, 3⟩, ⟨6, 6⟩⟩ 7, .fillSolid ⟨⟨-3, 2⟩, ⟨7, 1⟩⟩ 9] ∧
    (faultRun true exB exStack (some 2) exRect).2.calls = 3 := by decide

-- on the draw_iter-only root the same calls arrive as `draw_iter`s of the areas' points
example : (faultRun false exB exStack (some 1)
      (StyledRect.drawCalls ⟨some 7, some 9, 1, .inside⟩ ⟨⟨3, 4⟩, ⟨3, 3⟩⟩)).2.log =
    [.drawIter [(⟨3, 11⟩, 7)]] := by decide

-- the fault-free run: five root calls; the left edge lies outside the clip box and arrives as an
-- empty fill (`intersection` of disjoint rectangles), still one call
example : (faultRun true exB exStack none exRect).2.log =
    [.fillSolid ⟨⟨-3, 3⟩, ⟨6, 6⟩⟩ 7, .fillSolid ⟨⟨-3, 2⟩, ⟨7, 1⟩⟩ 9, .fillSolid ⟨⟨-3, 9⟩, ⟨7, 1⟩⟩ 9,
     .fillSolid ⟨⟨0, 0⟩, ⟨0, 0⟩⟩ 9, .fillSolid ⟨⟨3, 3⟩, ⟨1, 6⟩⟩ 9] := by decide

-- a fault position the run never reaches satisfies the hypothesis of `fault_free_through_adapters`
example : ∀ k, (some 5 : Option Nat) = some k → exRect.length ≤ k := by
  intro k h; cases h; decide

-- the root model is not blind: a caller that DROPPED the error (`let _ = ..`) would leave
-- `calls_after_error = 2` and the later calls in the log — the record the harness inspects
example : (((FTarget.root true exB).stack exStack).runCallsIgnoring exRect (RootState.init (some 2))).2.callsAfterError = 2 ∧
    (((FTarget.root true exB).stack exStack).runCallsIgnoring exRect (RootState.init (some 2))).2.log.length = 4 := by
  decide

/-! ### The modelled drawables

Each `draw` below is the call list the project's model of the drawable produces (the lists the
`faults.*` and the drawable's own correspondence streams compare with the real code). -/

/-- `Styled<Rectangle, PrimitiveStyle>::draw` through any adapter stack. -/
theorem rectangle_fault_through_adapters (native : Bool) (B : Rect) (s : Stack) (st : Style) (r : Rect)
    (k : Nat) (hk : k < (StyledRect.drawCalls st r).length) :
    faultRun native B s (some k) (StyledRect.drawCalls st r) =
      (.error k, ⟨some k, k + 1, 0, true, (rootLog native B s (StyledRect.drawCalls st r)).take k⟩) :=
  fault_through_adapters native B s _ k hk

example : 4 < (StyledRect.drawCalls ⟨some 7, some 9, 1, .inside⟩ ⟨⟨-5, -4⟩, ⟨10, 8⟩⟩).length := by decide

/-- `Styled<Circle, _>::draw`. -/
theorem circle_fault_through_adapters (native : Bool) (B : Rect) (s : Stack) (st : PrimStyle) (c : Circle)
    (k : Nat) (hk : k < (c.drawStyled st).length) :
    faultRun native B s (some k) (c.drawStyled st) =
      (.error k, ⟨some k, k + 1, 0, true, (rootLog native B s (c.drawStyled st)).take k⟩) :=
  fault_through_adapters native B s _ k hk

example : 3 < ((⟨⟨1, 2⟩, 7⟩ : Circle).drawStyled ⟨some 3, some 5, 2, .center⟩).length := by decide

/-- `Styled<Ellipse, _>::draw`. -/
theorem ellipse_fault_through_adapters (native : Bool) (B : Rect) (s : Stack) (st : PrimStyle) (e : Ellipse)
    (k : Nat) (hk : k < (e.drawStyled st).length) :
    faultRun native B s (some k) (e.drawStyled st) =
      (.error k, ⟨some k, k + 1, 0, true, (rootLog native B s (e.drawStyled st)).take k⟩) :=
  fault_through_adapters native B s _ k hk

example : 3 < ((⟨⟨1, 2⟩, ⟨9, 6⟩⟩ : Ellipse).drawStyled ⟨some 3, some 5, 1, .inside⟩).length := by decide

/-- `Styled<RoundedRectangle, _>::draw`. -/
theorem rounded_rectangle_fault_through_adapters (native : Bool) (B : Rect) (s : Stack) (st : Style)
    (r : RoundedRect) (k : Nat) (hk : k < (r.drawStyled st).length) :
    faultRun native B s (some k) (r.drawStyled st) =
      (.error k, ⟨some k, k + 1, 0, true, (rootLog native B s (r.drawStyled st)).take k⟩) :=
  fault_through_adapters native B s _ k hk

example : 3 < ((⟨⟨⟨0, 0⟩, ⟨9, 7⟩⟩, ⟨⟨2, 2⟩, ⟨3, 1⟩, ⟨0, 0⟩, ⟨4, 4⟩⟩⟩ : RoundedRect).drawStyled
    ⟨some 3, some 5, 1, .inside⟩).length := by decide

/-- `Image<T>::draw` for raw images and (nested) sub-images. -/
theorem image_fault_through_adapters (native : Bool) (B : Rect) (s : Stack) (i : Img.Image)
    (k : Nat) (hk : k < i.draw.length) :
    faultRun native B s (some k) i.draw =
      (.error k, ⟨some k, k + 1, 0, true, (rootLog native B s i.draw).take k⟩) :=
  fault_through_adapters native B s _ k hk

/-- `Text<MonoTextStyle>::draw` (font `f`, glyph atlas `atlas`). -/
theorem text_fault_through_adapters (native : Bool) (B : Rect) (s : Stack) (f : Font.MonoFont)
    (atlas : Pt → Bool) (t : TextLayout.Text) (k : Nat) (hk : k < (TextLayout.draw f atlas t).1.length) :
    faultRun native B s (some k) (TextLayout.draw f atlas t).1 =
      (.error k, ⟨some k, k + 1, 0, true, (rootLog native B s (TextLayout.draw f atlas t).1).take k⟩) :=
  fault_through_adapters native B s _ k hk

/-- `MonoTextStyle::draw_whitespace`. -/
theorem whitespace_fault_through_adapters (native : Bool) (B : Rect) (s : Stack) (f : Font.MonoFont)
    (st : Font.Style) (width : Nat) (pos : Pt) (bl : Font.Baseline) (k : Nat)
    (hk : k < (f.drawWhitespace st width pos bl).1.length) :
    faultRun native B s (some k) (f.drawWhitespace st width pos bl).1 =
      (.error k, ⟨some k, k + 1, 0, true, (rootLog native B s (f.drawWhitespace st width pos bl).1).take k⟩) :=
  fault_through_adapters native B s _ k hk

/-- `Styled<Sector, _>::draw` and `Styled<Arc, _>::draw`. -/
theorem sector_arc_fault_through_adapters (native : Bool) (B : Rect) (s : Stack) (st : Style)
    (sec : Sector) (bevel : SectorBevel) (a : Arc) :
    (∀ k, k < (sec.drawStyled st bevel).length →
      faultRun native B s (some k) (sec.drawStyled st bevel) =
        (.error k, ⟨some k, k + 1, 0, true, (rootLog native B s (sec.drawStyled st bevel)).take k⟩)) ∧
    (∀ k, k < (a.drawStyled st).length →
      faultRun native B s (some k) (a.drawStyled st) =
        (.error k, ⟨some k, k + 1, 0, true, (rootLog native B s (a.drawStyled st)).take k⟩)) :=
  ⟨fun k hk => fault_through_adapters native B s _ k hk,
   fun k hk => fault_through_adapters native B s _ k hk⟩

-- that the real adapters ARE these four records of functions (`Clipped` / `Cropped` not overriding `clear`; every method one parent call in tail position, `Result` untouched; no `Drop` impl): EG/Props/C04/GeneratedAdapters.lean (`src_adapter_methods_return_parent_result`, `src_adapter_call_is_one_parent_call`) over the bodies tools/tr_adapt.py regenerates from the Rust text; the remaining trust (Rust's tail-expression semantics, the translator's parser, iterator side effects) is the [V] line there; the `faults.prefix` stream and the fault enumeration compare the transcription with the running code
-- [V] that a drawable's `draw` issues exactly the calls of its model's call list and puts `?` after each (the premise of `runCalls`): the call lists are compared with the real code by each drawable's own correspondence streams and, on faulty runs, by `faults.prefix` for the kinds it models (styled rectangle / circle / ellipse / rounded rectangle, `draw_whitespace`, 1/8/16-bpp images and nested sub-images [the only drawables that reach `Clipped::fill_contiguous` and its cropping iterator], `Pixel::draw`, `PixelIteratorExt::draw`, `clear`); text, sector, arc and the remaining primitives are covered on faulty runs by the fault enumeration only
-- [V] how many colours / pixels a failing parent pulled from a lazy iterator before the error (the model's streams are finite lists, a failing root call records nothing): outside the model

end EG.C04
