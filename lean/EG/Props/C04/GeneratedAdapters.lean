/-
  C04 through the target adapters, over the REGENERATED adapter methods.

  EG/Props/C04/Adapters.lean proves the prefix law through every adapter stack from the error-aware transcription
  EG/Model/FaultTarget.lean, whose premise is that each adapter method is exactly one parent call in tail
  position, the parent's `Result` returned unchanged. This file ties that premise to the Rust text:
    * `tools/tr_adapt.py` checks, on the syntax tree of every `Result`-returning method of the four adapters and of
      the three default methods of `DrawTarget`, that on every control-flow path there is exactly one parent call,
      that it is the TAIL expression of the function and that nothing is applied to its `Result` (no `?`, `.ok()`,
      `.unwrap..()`, `.map_err(..)`, `Ok(..?)`, no `let` binding), and writes the findings into the generated table
      `adapterMethodShapes`; `src_adapter_methods_return_parent_result` decides it (a restatement of
      `EG.C03.GenAdapters.all_adapter_methods_are_tail_calls` in C04's terms, with who-overrides-what and the
      absence of untranslated functions such as a `Drop` impl).
    * WHICH parent call is made is the generated function (`EG.C03.GenAdapters.srcLower`), proved equal to
      `Adapter.lower` for all inputs; so `src_adapter_call_is_one_parent_call`: a method of the error-aware adapter is
      the parent's method on the call THE GENERATED CODE computes — same `Result`, same record afterwards — and
      `src_stack_call_is_one_root_call`, `src_fault_through_adapters`, `src_fault_free_through_adapters`: the
      prefix law with the root's log expressed through the generated functions.
    * the trait defaults of the error-aware model (`FTarget.defaultFillContiguous / defaultFillSolid / defaultClear`)
      are the target's own method on the call the generated default computes (`src_default_*`).
-/
import EG.Props.C03.GeneratedAdapters
import EG.Props.C04.Adapters
namespace EG.C04.GenAdapters
open EG EG.Generated EG.C03.GenAdapters

/-- **Shape of the real methods** (decided on the table the translator derives from the Rust syntax trees): all 16
adapter methods and the 3 trait defaults make one parent call per path, as the tail expression, and return its
`Result` untouched; `Clipped` and `Cropped` do not override `clear`; no function of any `impl` of the adapter types
(a `Drop` impl would be one) is outside the translation. -/
theorem src_adapter_methods_return_parent_result :
    (∀ s ∈ AdaptSrc.adapterMethodShapes, s.tail = true ∧ s.bare = true ∧ s.paths ≥ 1) ∧
    AdaptSrc.adapterMethodShapes.length = 19 ∧
    (AdaptSrc.adapterMethodShapes.filter (fun s => !s.overridden)).map (fun s => (s.owner, s.method)) =
      [("DrawTarget", "fill_contiguous"), ("DrawTarget", "fill_solid"), ("DrawTarget", "clear"),
       ("Clipped", "clear"), ("Cropped", "clear")] ∧
    AdaptSrc.untranslated = [] :=
  ⟨all_adapter_methods_are_tail_calls.1, rfl, adapter_overrides_pinned, adapt_untranslated_pinned⟩

/-- **One adapter call is exactly one parent call — the one the generated code computes.** -/
theorem src_adapter_call_is_one_parent_call (P : FTarget) (a : Adapter) (c : Call) :
    (P.wrap a).call c = P.call (srcLower a P.bbox c) ∧ (P.wrap a).bbox = srcBbox a P.bbox := by
  rw [src_lower_eq_model, src_bbox_eq_model]; exact EG.C04.adapter_call_is_one_parent_call P a c

/-- ... through a stack of any depth. -/
theorem src_stack_call_is_one_root_call (P : FTarget) (s : Stack) (c : Call) :
    (P.stack s).call c = P.call (srcLowerStack P.bbox s c) := by
  rw [src_lower_stack_eq_model]; exact (EG.C04.stack_call_is_one_root_call P s c).1

def srcRootLog (native : Bool) (B : Rect) (s : Stack) (cs : List Call) : List Call :=
  (cs.map (srcLowerStack B s)).map (rootLogged native B)

theorem src_root_log_eq (native : Bool) (B : Rect) (s : Stack) (cs : List Call) :
    srcRootLog native B s cs = rootLog native B s cs := by
  simp only [srcRootLog, rootLog, List.map_map]
  exact List.map_congr_left (fun c _ => by simp only [Function.comp, src_lower_stack_eq_model])

/-- **Target error through any adapter stack, over the generated lowering**: the run in which root call `k` fails
returns `Err(k)`, the root counted `k + 1` calls, none after the error, and logged the first `k` calls the GENERATED
adapter code computes. -/
theorem src_fault_through_adapters (native : Bool) (B : Rect) (s : Stack) (cs : List Call) (k : Nat)
    (hk : k < cs.length) :
    faultRun native B s (some k) cs =
      (.error k, { failAt := some k, calls := k + 1, callsAfterError := 0, errored := true,
                   log := (srcRootLog native B s cs).take k }) := by
  rw [src_root_log_eq]; exact EG.C04.fault_through_adapters native B s cs k hk

example : (1 : Nat) < [Call.clear 3, Call.fillSolid ⟨⟨0, 0⟩, ⟨2, 2⟩⟩ 1].length := by decide

/-- The fault-free run logs exactly the calls the generated adapter code computes. -/
theorem src_fault_free_through_adapters (native : Bool) (B : Rect) (s : Stack) (cs : List Call) :
    faultRun native B s none cs =
      (.ok (), { failAt := none, calls := cs.length, callsAfterError := 0, errored := false,
                 log := srcRootLog native B s cs }) := by
  rw [src_root_log_eq]; exact EG.C04.fault_free_through_adapters native B s cs none (by intro k h; cases h)

/-- The trait defaults of the error-aware model are the target's own methods applied to the call the GENERATED
default body computes. -/
theorem src_default_fill_contiguous (t : FTarget) (area : Rect) (cs : List Color) :
    FTarget.defaultFillContiguous t.drawIter area cs = t.call (AdaptSrc.DrawTarget_fill_contiguous t.bbox area cs) := by
  rw [fill_contiguous_default_src_eq_model]; rfl

/-- Fuel = the number of points of the area, the model's convention. -/
theorem src_default_fill_solid (t : FTarget) (area : Rect) (c : Color) :
    FTarget.defaultFillSolid t.fillContiguous area c
      = t.call (AdaptSrc.DrawTarget_fill_solid area.points.length t.bbox area c) := rfl

theorem src_default_clear (t : FTarget) (c : Color) :
    FTarget.defaultClear t.bbox t.fillSolid c = t.call (AdaptSrc.DrawTarget_clear t.bbox c) := rfl

-- [V] what `src_adapter_methods_return_parent_result` rests on outside Lean: the shape check is made by tools/tr_adapt.py on its own parse of the Rust text (tail position = last expression of the function body / of both arms of a tail `if`; wrappers looked for: `?`, `.ok()`, `.err()`, `.unwrap*()`, `.expect()`, `.map_err()`, `.map()`, `.or*()`, `.and*()`, `.is_ok()`, `.is_err()`, `Ok(..)` / `Err(..)` / `Some(..)` around the call, `let` bindings, a call in statement position; a parent call used as an argument / receiver / operand, two calls on one path or a path without a call make the translation FAIL) and on Rust's semantics of a tail expression (its value is the function's value; destructors of the locals - iterator adapters and rectangles, none with a `Drop` impl in these files: `adapt_untranslated_pinned` - make no target call); side effects of a caller-supplied iterator are outside the model

end EG.C04.GenAdapters
