/-
  C05 (sector part) — `Sector::points()` yields exactly the integer points for which
  `Sector::contains()` is true: each once, in row-major order, all inside `bounding_box()`;
  `contains()` is false for every other point, in particular outside the bounding box.
  For all positions, diameters and ALL start/sweep angles: the plane sector
  (`PlaneSector::new(angle_start, angle_sweep)`: operation tag + two integer normal vectors) is an
  arbitrary parameter of the model, so nothing here depends on trigonometry.

  Model: `EG.Model.Sector` (src/primitives/sector/{mod,points}.rs, common/{plane_sector,
  linear_equation, distance_iterator}.rs arm for arm). `points()` iterates `bounding_box().points()`
  through `DistanceIterator` and `find`s the items passing the circle threshold and
  `plane_sector.contains(delta)`; `contains()` is `circle.contains(p) && plane_sector.contains(2p -
  center_2x)`. `Circle.InRange` = the bounding box does not saturate / overflow `i32`.

  -- [V] the plane sector handed to the model equals what `PlaneSector::new` computes from the two angles (f32 / fixed-point trigonometry is not modelled; the five integers come from the hook `verif_hooks::plane_sector`): carried by correspondence + oracle only
-/
import EG.Lemmas.Sector
namespace EG.C05
open EG

/-- **`points()` is `bounding_box().points()` filtered by `contains()`**, as lists: same points,
same (row-major) order, same multiplicity — every sector, every plane sector, no side condition. -/
theorem sector_points_eq_filter_contains (s : Sector) :
    s.points = s.boundingBox.points.filter s.contains :=
  Sector.points_eq_filter s

/-- `contains()` is false for every point outside the bounding box. -/
theorem sector_contains_inside_bbox (s : Sector) (p : Pt) (h : s.contains p = true) :
    s.boundingBox.contains p = true :=
  Sector.contains_imp_bbox h
example : (⟨⟨-3, 2⟩, 7, ⟨.intersection, ⟨-1024, 0⟩, ⟨0, 1024⟩⟩⟩ : Sector).contains ⟨2, 7⟩ = true := by decide

theorem sector_contains_false_outside_bbox (s : Sector) (p : Pt)
    (h : s.boundingBox.contains p = false) : s.contains p = false := by
  cases hc : s.contains p with
  | false => rfl
  | true => rw [sector_contains_inside_bbox s p hc] at h; cases h
example : (⟨⟨-3, 2⟩, 7, ⟨.union, ⟨-1024, 0⟩, ⟨0, 1024⟩⟩⟩ : Sector).boundingBox.contains ⟨4, 5⟩ = false := by
  decide

/-- `points()` yields exactly the points `contains()` accepts. -/
theorem sector_mem_points_iff (s : Sector) (h : s.toCircle.InRange) (p : Pt) :
    p ∈ s.points ↔ s.contains p = true :=
  Sector.mem_points h
example : (⟨⟨-3, 2⟩, 7, ⟨.intersection, ⟨-1024, 0⟩, ⟨0, 1024⟩⟩⟩ : Sector).toCircle.InRange := by decide

/-- each point once -/
theorem sector_points_nodup (s : Sector) : s.points.Nodup := by
  rw [sector_points_eq_filter_contains s]
  exact (Rect.points_nodup _).filter _

/-- in row-major order -/
theorem sector_points_row_major (s : Sector) : s.points.Pairwise Pt.rowMajorLt := by
  rw [sector_points_eq_filter_contains s]
  exact (Rect.points_rowMajor _).filter _

/-- all inside `bounding_box()`, and all accepted by `contains()` -/
theorem sector_points_inside_bbox (s : Sector) (p : Pt) (hp : p ∈ s.points) :
    s.contains p = true ∧ s.boundingBox.contains p = true := by
  rw [sector_points_eq_filter_contains s, List.mem_filter] at hp
  exact ⟨hp.2, sector_contains_inside_bbox s p hp.2⟩
example : (⟨2, 7⟩ : Pt) ∈ (⟨⟨-3, 2⟩, 7, ⟨.intersection, ⟨-1024, 0⟩, ⟨0, 1024⟩⟩⟩ : Sector).points :=
  (sector_mem_points_iff _ (by decide) _).mpr (by decide)

end EG.C05
