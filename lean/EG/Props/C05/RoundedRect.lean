/-
  C05 (rounded rectangle part) — `points()` yields exactly the integer points for which `contains()`
  is true: each once, in row-major order, all inside `bounding_box()`; `contains()` is false for
  every other point, in particular outside the bounding box. All corner radii: equal, unequal,
  larger than the rectangle (they are confined first), opposite corner boxes overlapping.

  Model: `EG.Model.RoundedRect` (src/primitives/rounded_rectangle/{mod,corner_radii,ellipse_quadrant,
  points}.rs arm for arm, as repaired: empty corner rows give empty scanlines, `Points` skips empty
  scanlines, `contains` checks the left and the right corner independently).
  `RoundedRect.InRange` = the bounding box does not saturate / overflow `i32` (decidable guard).
-/
import EG.Lemmas.RoundedRectShape
namespace EG.C05
open EG EG.RoundedRect

/-- **`points()` is `bounding_box().points()` filtered by `contains()`**, as lists: same points,
same (row-major) order, same multiplicity — for all radii. -/
theorem rrect_points_eq_filter_contains (r : RoundedRect) (h : r.InRange) :
    r.points = r.boundingBox.points.filter r.contains :=
  RoundedRect.points_eq_filter r h
example : (⟨⟨⟨-3, 2⟩, ⟨7, 5⟩⟩, ⟨⟨2, 3⟩, ⟨9, 1⟩, ⟨0, 0⟩, ⟨4, 4⟩⟩⟩ : RoundedRect).InRange := by decide

/-- `contains()` is false for every point outside the bounding box. -/
theorem rrect_contains_inside_bbox (r : RoundedRect) (h : r.InRange) (p : Pt)
    (hc : r.contains p = true) : r.boundingBox.contains p = true :=
  RoundedRect.contains_imp_bbox r h hc
example : (⟨⟨⟨-3, 2⟩, ⟨7, 5⟩⟩, ⟨⟨2, 3⟩, ⟨9, 1⟩, ⟨0, 0⟩, ⟨4, 4⟩⟩⟩ : RoundedRect).contains ⟨0, 4⟩ = true := by
  decide

theorem rrect_contains_false_outside_bbox (r : RoundedRect) (h : r.InRange) (p : Pt)
    (hb : r.boundingBox.contains p = false) : r.contains p = false :=
  Bool.eq_false_iff.mpr fun hc =>
    Bool.false_ne_true (hb.symm.trans (rrect_contains_inside_bbox r h p hc))
example : (⟨⟨⟨-3, 2⟩, ⟨7, 5⟩⟩, ⟨⟨2, 3⟩, ⟨9, 1⟩, ⟨0, 0⟩, ⟨4, 4⟩⟩⟩ : RoundedRect).boundingBox.contains ⟨4, 4⟩
    = false := by decide

/-- `points()` yields exactly the points `contains()` accepts. -/
theorem rrect_mem_points_iff (r : RoundedRect) (h : r.InRange) (p : Pt) :
    p ∈ r.points ↔ r.contains p = true := by
  rw [rrect_points_eq_filter_contains r h]
  exact Rect.mem_filter_points h (rrect_contains_inside_bbox r h)

/-- each point once -/
theorem rrect_points_nodup (r : RoundedRect) (h : r.InRange) : r.points.Nodup := by
  rw [rrect_points_eq_filter_contains r h]
  exact (Rect.points_nodup _).filter _

/-- in row-major order -/
theorem rrect_points_row_major (r : RoundedRect) (h : r.InRange) :
    r.points.Pairwise Pt.rowMajorLt := by
  rw [rrect_points_eq_filter_contains r h]
  exact (Rect.points_rowMajor _).filter _

/-- all inside `bounding_box()` -/
theorem rrect_points_inside_bbox (r : RoundedRect) (h : r.InRange) (p : Pt) (hp : p ∈ r.points) :
    r.boundingBox.contains p = true :=
  rrect_contains_inside_bbox r h p ((rrect_mem_points_iff r h p).mp hp)
example : (⟨1, 0⟩ : Pt) ∈ (⟨⟨⟨0, 0⟩, ⟨4, 3⟩⟩, CornerRadii.new ⟨1, 1⟩⟩ : RoundedRect).points :=
  (rrect_mem_points_iff _ (by decide) _).mpr (by decide)

/-- In every row `contains` accepts exactly the scanline `x_start .. x_end` of the `Scanlines`
iterator (the first hit of the left corner of the row, or the inner edge of its box if it has no
hit; one past the last hit of the right corner, or the inner edge of its box) — also when the
boxes of opposite corners overlap and `x_start > x_end`. -/
theorem rrect_row_is_scanline (r : RoundedRect) (h : r.InRange) (x y : Int) :
    r.contains ⟨x, y⟩ = true ↔
      (r.rect.tl.y ≤ y ∧ y < r.rect.tl.y + r.rect.size.h) ∧
        (r.scanlines.row y).xs ≤ x ∧ x < (r.scanlines.row y).xe :=
  RoundedRect.contains_iff_row r h x y

/-- The scanline iterator yields one scanline for every row of the bounding box, in order (it
never ends early; empty rows give empty scanlines, which `Points` skips). -/
theorem rrect_scanlines_cover_all_rows (r : RoundedRect) (h : r.InRange) :
    r.scanlines.toList.map (·.y) = irange r.rect.tl.y (r.rect.tl.y + r.rect.size.h) := by
  unfold scanlines
  rw [RRContains.toList_eq, (new_rows r h).1, (new_rows r h).2, List.map_map]
  have : ∀ y ∈ irange r.rect.tl.y (r.rect.tl.y + r.rect.size.h),
      ((fun s : Scanline => s.y) ∘ (RRContains.new r).row) y = id y := fun _ _ => rfl
  rw [List.map_congr_left this, List.map_id]

-- [V] rounded rectangles whose bounding box leaves the i32 range (guard `RoundedRect.InRange` false; the real code saturates or panics on overflow there, C08's topic): carried by correspondence + oracle only
end EG.C05
