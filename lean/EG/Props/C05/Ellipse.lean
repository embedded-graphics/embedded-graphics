/-
  C05 (ellipse part) — `points()` yields exactly the integer points for which `contains()` is true:
  each once, in row-major order, all inside `bounding_box()`; `contains()` is false for every other
  point, in particular outside the bounding box — for ALL sizes, including thin ellipses whose
  outer rows contain no point (the repaired `Scanlines::next` skips them with `rows.find_map`).

  Model: `EG.Model.Ellipse` (src/primitives/ellipse/{mod,points}.rs arm for arm) on the shared
  `EllipseContains`, unbounded naturals (the `u32` range of the products is C08's topic).
-/
import EG.Lemmas.EllipsePoints
namespace EG.C05
open EG EG.Ellipse

/-- Row interval lemma: a row either has no accepted point at all (then the scanline closure
returns `None` and the row is skipped), or the scanline "first hit .. mirrored" is non-empty,
inside the columns, centred and exactly the set of accepted `x` of that row. -/
theorem ellipse_row_hits_interval (e : Ellipse) (y : Int) :
    (mirroredRange (hit e.center2x (EllipseContains.new e.size) y) e.tl.x (e.tl.x + e.size.w) = none ∧
      ∀ x, e.contains ⟨x, y⟩ = false) ∨
    (∃ l u, mirroredRange (hit e.center2x (EllipseContains.new e.size) y) e.tl.x (e.tl.x + e.size.w) =
        some (l, u) ∧ e.tl.x ≤ l ∧ l < u ∧ u ≤ e.tl.x + e.size.w ∧
        l + u = e.tl.x + (e.tl.x + e.size.w) ∧ (∀ x, e.contains ⟨x, y⟩ = true ↔ l ≤ x ∧ x < u)) :=
  (Ellipse.scanShape e).row_spec y

/-- **`points()` is `bounding_box().points()` filtered by `contains()`**, as lists. -/
theorem ellipse_points_eq_filter_contains (e : Ellipse) (h : e.InRange) :
    e.points = e.boundingBox.points.filter e.contains :=
  Ellipse.points_eq_filter h
example : (⟨⟨-3, 2⟩, ⟨2, 10⟩⟩ : Ellipse).InRange := by decide
/-- the thin 2x10 ellipse (empty first and last row) really has points -/
example : (⟨⟨0, 0⟩, ⟨2, 10⟩⟩ : Ellipse).points.length = 16 := by decide

/-- `contains()` is false for every point outside the bounding box. -/
theorem ellipse_contains_inside_bbox (e : Ellipse) (p : Pt) (h : e.contains p = true) :
    e.boundingBox.contains p = true :=
  Ellipse.contains_imp_bbox h
example : (⟨⟨-3, 2⟩, ⟨7, 4⟩⟩ : Ellipse).contains ⟨0, 4⟩ = true := by decide

theorem ellipse_contains_false_outside_bbox (e : Ellipse) (p : Pt)
    (h : e.boundingBox.contains p = false) : e.contains p = false :=
  Bool.eq_false_iff.mpr fun hc => Bool.false_ne_true (h.symm.trans (ellipse_contains_inside_bbox e p hc))
example : (⟨⟨-3, 2⟩, ⟨7, 4⟩⟩ : Ellipse).boundingBox.contains ⟨4, 5⟩ = false := by decide

/-- `points()` yields exactly the points `contains()` accepts. -/
theorem ellipse_mem_points_iff (e : Ellipse) (h : e.InRange) (p : Pt) :
    p ∈ e.points ↔ e.contains p = true := by
  rw [ellipse_points_eq_filter_contains e h]
  exact Rect.mem_filter_points h (ellipse_contains_inside_bbox e)

/-- each point once -/
theorem ellipse_points_nodup (e : Ellipse) (h : e.InRange) : e.points.Nodup := by
  rw [ellipse_points_eq_filter_contains e h]
  exact (Rect.points_nodup _).filter _

/-- in row-major order -/
theorem ellipse_points_row_major (e : Ellipse) (h : e.InRange) : e.points.Pairwise Pt.rowMajorLt := by
  rw [ellipse_points_eq_filter_contains e h]
  exact (Rect.points_rowMajor _).filter _

/-- all inside `bounding_box()` -/
theorem ellipse_points_inside_bbox (e : Ellipse) (h : e.InRange) (p : Pt) (hp : p ∈ e.points) :
    e.boundingBox.contains p = true :=
  ellipse_contains_inside_bbox e p ((ellipse_mem_points_iff e h p).mp hp)
example : (⟨0, 1⟩ : Pt) ∈ (⟨⟨0, 0⟩, ⟨2, 10⟩⟩ : Ellipse).points :=
  (ellipse_mem_points_iff _ (by decide) _).mpr (by decide)

-- [V] ellipses whose bounding box leaves the i32 range (guard `Ellipse.InRange` false) or whose `EllipseContains` products leave the u32 range (C08's topic; the model uses unbounded naturals): carried by correspondence + oracle only
end EG.C05
