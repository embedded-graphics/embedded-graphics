/-
  C05 (rounded rectangle part) — the REGENERATED `points()` iterator of `RoundedRectangle` equals the hand-written
  state machine, and C05's statements hold of the regenerated functions.

  `tools/tr_rrect.py` translates src/primitives/rounded_rectangle/points.rs (`Scanlines::new`, `Scanlines::next` with
  its `rows.next()?`, the two corner searches `find` / `rfind(..).map(|x| x + 1)` and their `unwrap_or`s;
  `Points::new`, `Points::next` with its `loop`, `if let` and `self.scanlines.next()?`) into
  `EG.Generated.RRectSrc.RRectScanlines_* / RRectPoints_*`. This file proves
  * one regenerated `Scanlines::next` = one `RRContains.next` of the hand model (same scanline, same successor state,
    `None` together), for every state;
  * one regenerated `Points::next`, whose `loop` runs on explicit fuel, with more fuel than there are rows left = one
    `PointsIt.next` of the hand model;
  * `Points::new` / `Scanlines::new` build the model's initial states (under `SrcGuard`, see
    `EG/Props/C18/GeneratedRRect.lean`: sides at most `2^30`, radii `u32` values), hence the list a `for` loop collects
    from the regenerated iterator is `RoundedRect.points`;
  and restates C05: the regenerated `contains` is false outside the regenerated bounding box, and the regenerated
  `points()` are the bounding box's points filtered by the regenerated `contains`.
  `Scanline::{new, new_empty, next}` are not regenerated by this part (the prelude binds them to `EG.Scanline`).
-/
import EG.Props.C18.GeneratedRRect
import EG.Props.C16.GeneratedPoints
import EG.Props.C05.RoundedRect
import EG.Lemmas.RectSrcPrelude
import EG.Lemmas.SrcIter
namespace EG.C05.RRSrc
open EG EG.RoundedRect EG.RectSrcPrelude EG.RRectSrcPrelude EG.Generated EG.C16.Src EG.C18.RRSrc

/-- The regenerated `Scanlines` state as the hand model's (`RoundedRectangleContains`, whose `rows` it consumes). -/
def slOf (s : RRectSrc.RRectScanlines) : RRContains := rcOf s.rounded_rectangle
def ptsOf (it : RRectSrc.RRectPoints) : PointsIt := ⟨slOf it.scanlines, it.current_scanline⟩

theorem RRectScanlines_new_src_eq_model (r : RRectSrc.RoundedRectangle) (h : SrcGuard (rrOf r)) :
    slOf (RRectSrc.RRectScanlines_new r) = (rrOf r).scanlines :=
  RoundedRectangleContains_new_src_eq_model r h

theorem opt_map_eqOf {β : Type} (o : Option RRectSrc.EllipseQuadrant) (F : EG.EllipseQuadrant → β) :
    Option.map (fun c => F (eqOf c)) o = Option.map F (o.map eqOf) := by
  cases o <;> rfl

/-- **One regenerated `Scanlines::next` = one `RRContains.next` of the hand model**, for every state. -/
theorem RRectScanlines_next_src_eq_model (s : RRectSrc.RRectScanlines) :
    SrcIter.stepView slOf (RRectSrc.RRectScanlines_Iterator_next s) = (slOf s).next := by
  obtain ⟨⟨⟨rs, re⟩, cols, sl, sr, qtl, qtr, qbl, qbr⟩⟩ := s
  unfold RRectSrc.RRectScanlines_Iterator_next RRContains.next
  simp only [RRectSrc.RRectScanlines_rounded_rectangle, RRectSrc.RoundedRectangleContains_rows, range_i32_next,
    slOf, rcOf]
  by_cases hr : rs < re
  · have kl := corner_choice_map (rs < sl.start) (rs ≥ sl.end_) qtl qbl
    have kr := corner_choice_map (rs < sr.start) (rs ≥ sr.end_) qtr qbr
    simp only [hr, ↓reduceIte, SrcIter.stepView, Option.map_some, RRectSrc.RRectScanlines_set_rounded_rectangle,
      RRectSrc.RoundedRectangleContains_set_rows,
      RRectSrc.RoundedRectangleContains_straight_rows_left, RRectSrc.RoundedRectangleContains_straight_rows_right,
      RRectSrc.RoundedRectangleContains_top_left, RRectSrc.RoundedRectangleContains_top_right,
      RRectSrc.RoundedRectangleContains_bottom_left, RRectSrc.RoundedRectangleContains_bottom_right,
      RRectSrc.RoundedRectangleContains_columns, range_i32_clone, RangeI32_start, RangeI32_end, i32_lt, i32_ge, i32_add,
      option_unwrap_or, option_map, range_i32_find, range_i32_rfind, columns_ends_src_eq_model,
      EllipseQuadrant_bounding_box_src_eq_model, EllipseQuadrant_contains_src_eq_model, Point_new_src_eq_model,
      Scanline_new, decide_eq_true_eq, RRContains.row, RRContains.xStart, RRContains.xEnd,
      RRContains.leftCorner, RRContains.rightCorner, rangeFind, rangeRFind, EllipseQuadrant.colsStart,
      EllipseQuadrant.colsEnd, ← kl, ← kr]
    simp only [Option.map_map]
    rfl
  · simp only [hr, ↓reduceIte, SrcIter.stepView, Option.map_none]

/-- When `Scanlines::next` returns `None` the state is unchanged (the iterator is fused). -/
theorem RRectScanlines_next_none_src (s : RRectSrc.RRectScanlines)
    (h : (RRectSrc.RRectScanlines_Iterator_next s).1 = none) : (RRectSrc.RRectScanlines_Iterator_next s).2 = s := by
  obtain ⟨⟨⟨rs, re⟩, cols, sl, sr, qtl, qtr, qbl, qbr⟩⟩ := s
  unfold RRectSrc.RRectScanlines_Iterator_next at h ⊢
  simp only [RRectSrc.RRectScanlines_rounded_rectangle, RRectSrc.RoundedRectangleContains_rows, range_i32_next] at h ⊢
  by_cases hr : rs < re
  · simp only [hr, ↓reduceIte] at h
    cases h
  · simp only [hr, ↓reduceIte]

theorem RRectPoints_new_src_eq_model (r : RRectSrc.RoundedRectangle) (h : SrcGuard (rrOf r)) :
    ptsOf (RRectSrc.RRectPoints_new r) = (rrOf r).pointsIt := by
  unfold RRectSrc.RRectPoints_new RoundedRect.pointsIt ptsOf
  simp only [RRectScanlines_new_src_eq_model r h, Scanline_new_empty]

theorem PointsIter_points_src_eq_model (r : RRectSrc.RoundedRectangle) :
    RRectSrc.RoundedRectangle_PointsIter_points r = RRectSrc.RRectPoints_new r := rfl

def rowsLeft (it : RRectSrc.RRectPoints) : Nat :=
  (it.scanlines.rounded_rectangle.rows.end_ - it.scanlines.rounded_rectangle.rows.start).toNat

theorem rowsLeft_eq (it : RRectSrc.RRectPoints) :
    rowsLeft it = ((ptsOf it).scanlines.rowsEnd - (ptsOf it).scanlines.rowsStart).toNat := rfl

/-- One call of the regenerated `Points::next`, on `fuel` turns of its `loop`, is one `nextFuel fuel` of the hand
model. -/
theorem RRectPoints_next_fuel_src_eq_model : ∀ (fuel : Nat) (it : RRectSrc.RRectPoints), rowsLeft it < fuel →
    (RRectSrc.RRectPoints_Iterator_next fuel it).map (SrcIter.stepView ptsOf) = some ((ptsOf it).nextFuel fuel) := by
  intro fuel
  induction fuel with
  | zero => intro it h; omega
  | succ n ih =>
    intro ⟨sl, cur⟩ h
    rw [PointsIt.nextFuel, RRectSrc.RRectPoints_Iterator_next]
    dsimp only [ptsOf]
    cases hc : Scanline.next cur with
    | some v =>
      -- a point of the current scanline is yielded
      rw [while_loop_return n rfl (by simp only [Scanline_Iterator_next, RRectSrc.RRectPoints_current_scanline, hc]; rfl)]
      rfl
    | none =>
      have hs := RRectScanlines_next_src_eq_model sl
      rcases hq : RRectSrc.RRectScanlines_Iterator_next sl with ⟨_ | line, sl'⟩
      · -- no scanline left
        rw [hq] at hs
        rw [while_loop_return n rfl (by
          simp only [Scanline_Iterator_next, RRectSrc.RRectPoints_current_scanline, RRectSrc.RRectPoints_scanlines,
            RRectSrc.RRectPoints_set_current_scanline, hc, hq]; rfl), ← hs]
        rfl
      · -- the next scanline becomes the current one, loop again
        rw [hq] at hs
        rw [while_loop_continue (s' := ⟨sl', line⟩) n rfl (by
          simp only [Scanline_Iterator_next, RRectSrc.RRectPoints_current_scanline, RRectSrc.RRectPoints_scanlines,
            RRectSrc.RRectPoints_set_current_scanline, hc, hq]), ← hs]
        -- a yielded scanline consumed a row
        have hrows : rowsLeft ⟨sl', line⟩ < n := by
          have hs' := hs
          unfold RRContains.next at hs'
          by_cases hy : (slOf sl).rowsStart < (slOf sl).rowsEnd
          · simp only [hy, ↓reduceIte, SrcIter.stepView, Option.map_some, Option.some.injEq, Prod.mk.injEq] at hs'
            have h2 := congrArg RRContains.rowsStart hs'.2
            have h3 := congrArg RRContains.rowsEnd hs'.2
            simp only at h2 h3
            rw [rowsLeft_eq] at h ⊢
            simp only [ptsOf] at h ⊢
            omega
          · simp only [hy, ↓reduceIte, SrcIter.stepView, Option.map_some] at hs'
            cases hs'
        exact ih ⟨sl', line⟩ hrows

/-- **`Points::next` (regenerated) = `PointsIt.next` (hand model)** whenever the fuel exceeds the rows left. -/
theorem RRectPoints_next_src_eq_model (it : RRectSrc.RRectPoints) (fuel : Nat) (h : rowsLeft it < fuel) :
    (RRectSrc.RRectPoints_Iterator_next fuel it).map (SrcIter.stepView ptsOf) = some (ptsOf it).next := by
  rw [RRectPoints_next_fuel_src_eq_model fuel it h]
  unfold PointsIt.next
  congr 1
  exact PointsIt.nextFuel_stable _ _ _ (by rw [← rowsLeft_eq]; exact h) (by omega)

/-- What a `for` loop collects from the regenerated iterator (`steps` calls of `next` at most, each with the fuel
that `RRectPoints_next_src_eq_model` asks for). -/
def srcCollect : Nat → RRectSrc.RRectPoints → List Pt
  | 0, _ => []
  | steps + 1, it =>
    match RRectSrc.RRectPoints_Iterator_next (rowsLeft it + 1) it with
    | some (some pt, it') => pt :: srcCollect steps it'
    | _ => []

theorem srcCollect_drains :
    Drains (SrcIter.ofFuelled fun it => RRectSrc.RRectPoints_Iterator_next (rowsLeft it + 1) it) srcCollect :=
  ⟨fun _ => rfl, fun n it => by
    rw [srcCollect, SrcIter.ofFuelled]
    rcases RRectSrc.RRectPoints_Iterator_next _ it with _ | ⟨_ | _, _⟩ <;> rfl⟩

theorem srcCollect_src_eq_model : ∀ (steps : Nat) (it : RRectSrc.RRectPoints),
    srcCollect steps it = (ptsOf it).toListFuel steps :=
  srcCollect_drains.view PointsIt.drains ptsOf
    fun it => SrcIter.ofFuelled_view (RRectPoints_next_src_eq_model it _ (Nat.lt_succ_self _))

/-- `rounded_rectangle.points()` collected from the regenerated `Points::new` + `next`. -/
def srcPoints (r : RRectSrc.RoundedRectangle) : List Pt :=
  let it := RRectSrc.RoundedRectangle_PointsIter_points r
  srcCollect ((ptsOf it).budget + 1) it

/-- **The regenerated iterator yields the hand model's `points`.** -/
theorem points_src_eq_model (r : RRectSrc.RoundedRectangle) (h : SrcGuard (rrOf r)) :
    srcPoints r = (rrOf r).points := by
  unfold srcPoints RoundedRect.points
  simp only [PointsIter_points_src_eq_model, srcCollect_src_eq_model, RRectPoints_new_src_eq_model r h]

/-- **`points()` = `bounding_box().points()` filtered by `contains()`**, every function regenerated from the Rust text
(`Rectangle::points` collected by C16's `srcPoints`). -/
theorem src_points_eq_filter_contains (r : RRectSrc.RoundedRectangle) (h : SrcGuard (rrOf r)) (hr : (rrOf r).InRange) :
    srcPoints r = (EG.C16.Src.srcPoints (RRectSrc.RoundedRectangle_Dimensions_bounding_box r)).filter
      (RRectSrc.RoundedRectangle_ContainsPoint_contains r) := by
  rw [points_src_eq_model r h, EG.C16.Src.points_src_eq_model, RoundedRectangle_bounding_box_src_eq_model,
    EG.C05.rrect_points_eq_filter_contains _ hr]
  congr 1
  funext p
  exact (RoundedRectangle_contains_src_eq_model r p h).symm
example : SrcGuard (rrOf ⟨⟨⟨-3, 2⟩, ⟨7, 5⟩⟩, ⟨⟨2, 3⟩, ⟨9, 1⟩, ⟨0, 0⟩, ⟨4, 4⟩⟩⟩) ∧
    (rrOf ⟨⟨⟨-3, 2⟩, ⟨7, 5⟩⟩, ⟨⟨2, 3⟩, ⟨9, 1⟩, ⟨0, 0⟩, ⟨4, 4⟩⟩⟩).InRange := by decide

/-- **The regenerated `contains()` is false for every point outside the regenerated bounding box.** -/
theorem src_contains_false_outside_bbox (r : RRectSrc.RoundedRectangle) (h : SrcGuard (rrOf r)) (hr : (rrOf r).InRange)
    (p : Pt) (hb : RectSrc.ContainsPoint_contains (RRectSrc.RoundedRectangle_Dimensions_bounding_box r) p = false) :
    RRectSrc.RoundedRectangle_ContainsPoint_contains r p = false := by
  rw [RoundedRectangle_contains_src_eq_model r p h]
  rw [RoundedRectangle_bounding_box_src_eq_model,
    ContainsPoint_contains_src_eq_model (rrOf r).boundingBox p h.1.fits] at hb
  exact EG.C05.rrect_contains_false_outside_bbox _ hr p hb
example : RectSrc.ContainsPoint_contains (RRectSrc.RoundedRectangle_Dimensions_bounding_box
    ⟨⟨⟨-3, 2⟩, ⟨7, 5⟩⟩, ⟨⟨2, 3⟩, ⟨9, 1⟩, ⟨0, 0⟩, ⟨4, 4⟩⟩⟩) ⟨4, 4⟩ = false := by decide

/-- `points()` (regenerated) yields exactly the points the regenerated `contains()` accepts. -/
theorem src_mem_points_iff_contains (r : RRectSrc.RoundedRectangle) (h : SrcGuard (rrOf r)) (hr : (rrOf r).InRange)
    (p : Pt) : p ∈ srcPoints r ↔ RRectSrc.RoundedRectangle_ContainsPoint_contains r p = true := by
  rw [points_src_eq_model r h, RoundedRectangle_contains_src_eq_model r p h]
  exact EG.C05.rrect_mem_points_iff _ hr p

example : srcPoints ⟨⟨⟨0, 0⟩, ⟨6, 5⟩⟩, RRectSrc.CornerRadii_new ⟨2, 2⟩⟩ =
    [⟨1, 0⟩, ⟨2, 0⟩, ⟨3, 0⟩, ⟨4, 0⟩, ⟨0, 1⟩, ⟨1, 1⟩, ⟨2, 1⟩, ⟨3, 1⟩, ⟨4, 1⟩, ⟨5, 1⟩, ⟨0, 2⟩, ⟨1, 2⟩, ⟨2, 2⟩, ⟨3, 2⟩, ⟨4, 2⟩,
     ⟨5, 2⟩, ⟨0, 3⟩, ⟨1, 3⟩, ⟨2, 3⟩, ⟨3, 3⟩, ⟨4, 3⟩, ⟨5, 3⟩, ⟨1, 4⟩, ⟨2, 4⟩, ⟨3, 4⟩, ⟨4, 4⟩] := by decide +kernel

end EG.C05.RRSrc
