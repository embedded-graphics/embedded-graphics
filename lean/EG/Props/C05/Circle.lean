/-
  C05 (circle part) — `points()` yields exactly the integer points for which `contains()` is true:
  each once, in row-major order, all inside `bounding_box()`; `contains()` is false for every other
  point, in particular outside the bounding box.

  Model: `EG.Model.Circle` (src/primitives/circle/{mod,points}.rs arm for arm; the scanline iterator
  is not fused and may return an early `None` — `row_hits_interval` shows it never does).
  `Circle.InRange` = the bounding box does not saturate / overflow `i32` (decidable guard).
-/
import EG.Lemmas.CirclePoints
namespace EG.C05
open EG EG.Circle

/-- `row_hits_interval`: in every row of the bounding box the scanline iterator finds a hit (so its
early `None` never fires); the scanline "first hit .. mirrored" is non-empty, inside the columns,
centred (the first hit's mirror is the last hit), and is exactly the set of `x` that `contains`
accepts in that row — for all `x`, also outside the box. -/
theorem circle_row_hits_interval (c : Circle) (y : Int) (h1 : c.tl.y ≤ y) (h2 : y < c.tl.y + c.d) :
    ∃ l u, mirroredRange (hit c.center2x c.threshold y) c.tl.x (c.tl.x + c.d) = some (l, u) ∧
      c.tl.x ≤ l ∧ l < u ∧ u ≤ c.tl.x + c.d ∧ l + u = c.tl.x + (c.tl.x + c.d) ∧
      (∀ x, c.contains ⟨x, y⟩ = true ↔ l ≤ x ∧ x < u) :=
  Circle.row_hits_interval h1 h2
example : (⟨⟨-3, 2⟩, 7⟩ : Circle).tl.y ≤ 4 ∧ (4 : Int) < (⟨⟨-3, 2⟩, 7⟩ : Circle).tl.y + 7 := by decide

/-- **`points()` is `bounding_box().points()` filtered by `contains()`**, as lists: same points,
same (row-major) order, same multiplicity. -/
theorem circle_points_eq_filter_contains (c : Circle) (h : c.InRange) :
    c.points = c.boundingBox.points.filter c.contains :=
  Circle.points_eq_filter h
example : (⟨⟨-3, 2⟩, 7⟩ : Circle).InRange := by decide

/-- `contains()` is false for every point outside the bounding box. -/
theorem circle_contains_inside_bbox (c : Circle) (p : Pt) (h : c.contains p = true) :
    c.boundingBox.contains p = true :=
  Circle.contains_imp_bbox h
example : (⟨⟨-3, 2⟩, 7⟩ : Circle).contains ⟨0, 5⟩ = true := by decide

theorem circle_contains_false_outside_bbox (c : Circle) (p : Pt)
    (h : c.boundingBox.contains p = false) : c.contains p = false :=
  Bool.eq_false_iff.mpr fun hc => Bool.false_ne_true (h.symm.trans (circle_contains_inside_bbox c p hc))
example : (⟨⟨-3, 2⟩, 7⟩ : Circle).boundingBox.contains ⟨4, 5⟩ = false := by decide

/-- `points()` yields exactly the points `contains()` accepts. -/
theorem circle_mem_points_iff (c : Circle) (h : c.InRange) (p : Pt) :
    p ∈ c.points ↔ c.contains p = true := by
  rw [circle_points_eq_filter_contains c h]
  exact Rect.mem_filter_points h (circle_contains_inside_bbox c)

/-- each point once -/
theorem circle_points_nodup (c : Circle) (h : c.InRange) : c.points.Nodup := by
  rw [circle_points_eq_filter_contains c h]
  exact (Rect.points_nodup _).filter _

/-- in row-major order -/
theorem circle_points_row_major (c : Circle) (h : c.InRange) : c.points.Pairwise Pt.rowMajorLt := by
  rw [circle_points_eq_filter_contains c h]
  exact (Rect.points_rowMajor _).filter _

/-- all inside `bounding_box()` -/
theorem circle_points_inside_bbox (c : Circle) (h : c.InRange) (p : Pt) (hp : p ∈ c.points) :
    c.boundingBox.contains p = true :=
  circle_contains_inside_bbox c p ((circle_mem_points_iff c h p).mp hp)
example : (⟨0, 1⟩ : Pt) ∈ (⟨⟨0, 0⟩, 3⟩ : Circle).points := (circle_mem_points_iff _ (by decide) _).mpr (by decide)

/-- The (non-fused) scanline iterator never returns its early `None`: a `for` loop over it sees
one scanline for every row of the bounding box, in order. -/
theorem circle_scanlines_cover_all_rows (c : Circle) (h : c.InRange) :
    c.scanlines.toList.map (·.y) = irange c.tl.y (c.tl.y + c.d) := by
  rw [Circle.scanlines_toList_eq h]
  unfold rowLines
  rw [List.map_filterMap]
  have : ∀ y ∈ irange c.tl.y (c.tl.y + c.d),
      (scanRow (hit c.center2x c.threshold) c.tl.x (c.tl.x + c.d) y).map (·.y) = some y := by
    intro y hy
    rw [mem_irange] at hy
    obtain ⟨l, u, hm, _⟩ := Circle.row_hits_interval hy.1 hy.2
    unfold scanRow
    rw [hm]
    rfl
  rw [filterMap_congr' _ this, List.filterMap_some]

-- [V] circles whose bounding box leaves the i32 range (guard `Circle.InRange` false; the real code saturates or panics on overflow there, C08's topic): carried by correspondence + oracle only
end EG.C05
