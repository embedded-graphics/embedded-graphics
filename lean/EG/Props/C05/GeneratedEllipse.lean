/-
  C05 / C18 / C06 — the REGENERATED model of `Ellipse` and `EllipseContains` equals the hand-written one.

  Second half of the tie of `tools/tr_curve.py` (see `GeneratedCircle.lean` for the setting): every function of
  src/primitives/ellipse/{mod,points}.rs that was translated into `EG/Generated/CurveSrc.lean` is proved equal to the
  hand model `EG/Model/{Ellipse,EllipseContains}.lean` FOR ALL inputs (`<name>_src_eq_model`), then C05's ellipse
  headline is restated over the generated functions (`src_ellipse_*`).

  Where the two differ (stated exactly):
  * `EllipseContains::{new, contains}` compute in `u64` (`b as u64 * a as u64`, `x = point.x.pow(2) as
    u64`): the prelude's `u64` operations are mathematical (like the hand model's `Nat`), `i32 as u64` sign-extends;
    the hand model writes `(p.x ^ 2).toNat`. Equal unconditionally, because a square is not negative.
  * the free `center_2x(top_left, size)` adds a `Size` to a `Point` (cast `as i32` behind a `debug_assert!`): equal to
    the hand model's mathematical sum when `width - 1, height - 1 <= i32::MAX` (guard `AxesFitI32`; needed by `center_2x`,
    `contains`, `Scanlines::new`, `Points::new`); `with_center`, `center`, `offset` need only the `u32` type bound of
    the size (`IsU32`).
  * `Scanlines::next` is `rows.find_map(..)`: the prelude's `range_i32_find_map` recurses on the number of rows left, the
    hand model's `ScanlinesIt.nextFuel` on explicit fuel (`rows left + 1`): `ellipse_find_map_loop_eq_nextFuel`.
-/
import EG.Props.C05.GeneratedCircle
import EG.Props.C05.Ellipse
namespace EG.C05.Src
open EG EG.RectSrcPrelude EG.CurveSrcPrelude EG.Generated EG.C16.Src

def ellipseOf (e : CurveSrc.Ellipse) : EG.Ellipse := ⟨e.top_left, e.size⟩
def ecOf (e : CurveSrc.EllipseContains) : EG.EllipseContains := ⟨e.a, e.b, e.threshold⟩
/-- The regenerated `ellipse::points::Scanlines { rows, columns, center_2x, ellipse_contains }`. -/
def ellipseScanlinesItOf (s : CurveSrc.EllipseScanlines) : Ellipse.ScanlinesIt :=
  ⟨s.rows.start, s.rows.end_, s.columns.start, s.columns.end_, s.center_2x, ecOf s.ellipse_contains⟩
def ellipsePointsItOf (p : CurveSrc.EllipsePoints) : Ellipse.PointsIt :=
  ⟨ellipseScanlinesItOf p.scanlines, scanlineOf p.current_scanline⟩

/-- `width - 1, height - 1 <= i32::MAX`: the `debug_assert!`s of `Point + Size` in `center_2x` hold. -/
def AxesFitI32 (s : Sz) : Prop := s.w ≤ 2147483648 ∧ s.h ≤ 2147483648
instance (s : Sz) : Decidable (AxesFitI32 s) := by unfold AxesFitI32; exact inferInstance
example : AxesFitI32 ⟨7, 2147483648⟩ := by decide

theorem EllipseContains_new_src_eq_model (s : Sz) :
    ecOf (CurveSrc.EllipseContains_new s) = EllipseContains.new s := by
  unfold CurveSrc.EllipseContains_new EllipseContains.new
  simp only [diameter_to_threshold_src_eq_model, u32_eq, decide_eq_true_eq]
  rfl

/-- `v.pow(2) as u64` for `v : i32`: the sign-extending cast of a square is its `toNat`. -/
theorem i32_sq_as_u64 (a : Int) : i32_as_u64 (i32_pow a 2) = (a ^ 2).toNat := if_pos (Int.sq_nonneg a)

theorem EllipseContains_contains_src_eq_model (e : CurveSrc.EllipseContains) (p : Pt) :
    CurveSrc.EllipseContains_contains e p = (ecOf e).contains p := by
  unfold CurveSrc.EllipseContains_contains EllipseContains.contains
  simp only [i32_sq_as_u64, u32_eq, decide_eq_true_eq]
  rfl

theorem center_2x_src_eq_model (tl : Pt) (s : Sz) (h : AxesFitI32 s) :
    CurveSrc.center_2x tl s = Ellipse.center2xOf tl s := by
  unfold CurveSrc.center_2x
  dsimp only
  rw [Point_add_Size_src_eq_model _ _ ⟨Nat.sub_le_of_le_add h.1, Nat.sub_le_of_le_add h.2⟩]
  rfl

theorem Ellipse_new_src_eq_model (tl : Pt) (s : Sz) : ellipseOf (CurveSrc.Ellipse_new tl s) = ⟨tl, s⟩ := rfl

theorem Ellipse_with_center_src_eq_model (c : Pt) (s : Sz) (h : IsU32 s) :
    ellipseOf (CurveSrc.Ellipse_with_center c s) = Ellipse.withCenter c s := by
  unfold CurveSrc.Ellipse_with_center
  rw [with_center_src_eq_model c s h]
  rfl

theorem Ellipse_bounding_box_src_eq_model (e : CurveSrc.Ellipse) :
    CurveSrc.Ellipse_Dimensions_bounding_box e = (ellipseOf e).boundingBox := rfl

theorem Ellipse_center_src_eq_model (e : CurveSrc.Ellipse) (h : IsU32 e.size) :
    CurveSrc.Ellipse_center e = (ellipseOf e).center := by
  unfold CurveSrc.Ellipse_center
  rw [Ellipse_bounding_box_src_eq_model, center_src_eq_model _ (show IsU32 (ellipseOf e).boundingBox.size from h)]
  rfl

theorem Ellipse_center_2x_src_eq_model (e : CurveSrc.Ellipse) (h : AxesFitI32 e.size) :
    CurveSrc.Ellipse_center_2x e = (ellipseOf e).center2x :=
  center_2x_src_eq_model _ _ h

theorem Ellipse_contains_src_eq_model (e : CurveSrc.Ellipse) (p : Pt) (h : AxesFitI32 e.size) :
    CurveSrc.Ellipse_ContainsPoint_contains e p = (ellipseOf e).contains p := by
  unfold CurveSrc.Ellipse_ContainsPoint_contains Ellipse.contains
  simp only [EllipseContains_contains_src_eq_model, Ellipse_center_2x_src_eq_model e h,
    EllipseContains_new_src_eq_model]
  rfl

theorem Ellipse_offset_src_eq_model (e : CurveSrc.Ellipse) (o : Int) (h : IsU32 e.size) :
    ellipseOf (CurveSrc.Ellipse_OffsetOutline_offset e o) = (ellipseOf e).offset o := by
  unfold CurveSrc.Ellipse_OffsetOutline_offset Ellipse.offset
  by_cases ho : o ≥ 0
  · rw [if_pos (decide_eq_true ho), if_pos ho, i32_as_u32_of_nonneg ho]
    rfl
  · have hn : 0 ≤ i32_neg o := Int.neg_nonneg_of_nonpos (Int.le_of_lt (Int.not_le.mp ho))
    rw [if_neg (mt of_decide_eq_true ho), if_neg ho, i32_as_u32_of_nonneg hn]
    dsimp only
    rw [Ellipse_with_center_src_eq_model _ _ ⟨Nat.le_trans (Nat.sub_le _ _) h.1, Nat.le_trans (Nat.sub_le _ _) h.2⟩,
      Ellipse_center_src_eq_model e h]
    rfl

theorem Ellipse_translate_src_eq_model (e : CurveSrc.Ellipse) (d : Pt) :
    ellipseOf (CurveSrc.Ellipse_Transform_translate e d) = (ellipseOf e).translate d := rfl

theorem EllipseScanlines_new_src_eq_model (e : CurveSrc.Ellipse) (h : AxesFitI32 e.size) :
    ellipseScanlinesItOf (CurveSrc.EllipseScanlines_new e) = (ellipseOf e).scanlines := by
  unfold CurveSrc.EllipseScanlines_new Ellipse.scanlines
  simp only [rows_ends_src_eq_model, columns_ends_src_eq_model, Ellipse_center_2x_src_eq_model e h,
    Ellipse_bounding_box_src_eq_model, ellipseScanlinesItOf, EllipseContains_new_src_eq_model]
  rfl

/-- The closure that `Scanlines::next` hands to `find_map`, copied from the generated text:
`EllipseScanlines_Iterator_next_src_eq_model` unifies it with the closure printed there, up to unfolding. -/
def ellipseRowSrc (s : CurveSrc.EllipseScanlines) (y : Int) : Option CurveSrc.Scanline :=
  let scaled_y := i32_sub (i32_mul y 2) (Point_y (CurveSrc.EllipseScanlines_center_2x s))
  option_map (range_i32_find (range_i32_clone (CurveSrc.EllipseScanlines_columns s)) (fun x =>
      CurveSrc.EllipseContains_contains (CurveSrc.EllipseScanlines_ellipse_contains s)
        (RectSrc.Point_new (i32_sub (i32_mul x 2) (Point_x (CurveSrc.EllipseScanlines_center_2x s))) scaled_y)))
    (fun x => CurveSrc.Scanline_new y (range_i32_new x (i32_sub (RangeI32_end (CurveSrc.EllipseScanlines_columns s))
      (i32_sub x (RangeI32_start (CurveSrc.EllipseScanlines_columns s))))))

theorem ellipse_row_closure_src_eq_model (s : CurveSrc.EllipseScanlines) (y : Int) :
    (ellipseRowSrc s y).map scanlineOf = (ellipseScanlinesItOf s).row y := by
  unfold ellipseRowSrc Ellipse.ScanlinesIt.row
  simp only [EllipseContains_contains_src_eq_model, mirroredRange, rangeFind, option_map, range_i32_find, Option.map_map]
  rfl

/-- The row state of the scanline iterator does not influence `row`. -/
theorem ellipse_row_indep (ys ys' ye xs xe : Int) (c2x : Pt) (ec : EllipseContains) (y : Int) :
    (⟨ys, ye, xs, xe, c2x, ec⟩ : Ellipse.ScanlinesIt).row y = (⟨ys', ye, xs, xe, c2x, ec⟩ : Ellipse.ScanlinesIt).row y := rfl

/-- `find_map` is its loop over the rows left, also on an empty range (no row left: the range stays as it is). -/
theorem range_i32_find_map_eq_loop {β : Type} (r : RangeI32) (f : Int → Option β) :
    range_i32_find_map r f = range_i32_find_map_loop f (r.end_ - r.start).toNat r.start r.end_ := by
  unfold range_i32_find_map
  split
  · rfl
  · next h =>
    rw [Int.toNat_eq_zero.mpr (Int.sub_nonpos_of_le (Int.not_lt.mp h))]
    rfl

/-- `find_map` over the rows left from `ys` on = the hand model's `nextFuel` on any fuel above their number, when the
closure is the model's `row` (which does not look at the row state). -/
theorem ellipse_find_map_loop_eq_nextFuel (f : Int → Option CurveSrc.Scanline) (it : Ellipse.ScanlinesIt)
    (hf : ∀ y, (f y).map scanlineOf = it.row y) :
    ∀ (fuel : Nat) (ys : Int), (it.yEnd - ys).toNat < fuel →
      ((range_i32_find_map_loop f (it.yEnd - ys).toNat ys it.yEnd).1.map scanlineOf,
        ({ it with y := (range_i32_find_map_loop f (it.yEnd - ys).toNat ys it.yEnd).2.start,
                   yEnd := (range_i32_find_map_loop f (it.yEnd - ys).toNat ys it.yEnd).2.end_ } : Ellipse.ScanlinesIt))
        = Ellipse.ScanlinesIt.nextFuel fuel { it with y := ys } := by
  intro fuel
  induction fuel with
  | zero => exact fun ys h => absurd h (Nat.not_lt_zero _)
  | succ m ih =>
    intro ys h
    rw [Ellipse.ScanlinesIt.nextFuel]
    by_cases hlt : ys < it.yEnd
    · have hn : (it.yEnd - ys).toNat = (it.yEnd - (ys + 1)).toNat + 1 := by omega
      have hrow : ({ it with y := ys } : Ellipse.ScanlinesIt).row ys = (f ys).map scanlineOf := (hf ys).symm
      rw [hn] at h ⊢
      rw [if_pos hlt, range_i32_find_map_loop, hrow]
      cases f ys with
      | some v => rfl
      | none => exact ih (ys + 1) (Nat.lt_of_succ_lt_succ h)
    · rw [if_neg hlt, Int.toNat_eq_zero.mpr (Int.sub_nonpos_of_le (Int.not_lt.mp hlt))]
      rfl

/-- **One regenerated `Scanlines::next` (`rows.find_map(..)`) = one `ScanlinesIt.next` of the hand model.** -/
theorem EllipseScanlines_Iterator_next_src_eq_model (s : CurveSrc.EllipseScanlines) :
    ((CurveSrc.EllipseScanlines_Iterator_next s).1.map scanlineOf,
      ellipseScanlinesItOf (CurveSrc.EllipseScanlines_Iterator_next s).2) = (ellipseScanlinesItOf s).next := by
  unfold CurveSrc.EllipseScanlines_Iterator_next Ellipse.ScanlinesIt.next
  rw [range_i32_find_map_eq_loop]
  exact ellipse_find_map_loop_eq_nextFuel _ (ellipseScanlinesItOf s) (ellipse_row_closure_src_eq_model s) _ _
    (Nat.lt_succ_self _)

theorem EllipsePoints_new_src_eq_model (e : CurveSrc.Ellipse) (h : AxesFitI32 e.size) :
    ellipsePointsItOf (CurveSrc.EllipsePoints_new e) = (ellipseOf e).pointsIt := by
  unfold CurveSrc.EllipsePoints_new Ellipse.pointsIt ellipsePointsItOf
  rw [← EllipseScanlines_new_src_eq_model e h]
  rfl

theorem Ellipse_points_src_eq_model (e : CurveSrc.Ellipse) :
    CurveSrc.Ellipse_PointsIter_points e = CurveSrc.EllipsePoints_new e := rfl

/-- **One regenerated `Points::next` = one `PointsIt.next` of the hand model.** -/
theorem EllipsePoints_Iterator_next_src_eq_model (p : CurveSrc.EllipsePoints) :
    SrcIter.stepView ellipsePointsItOf (CurveSrc.EllipsePoints_Iterator_next p) = (ellipsePointsItOf p).next := by
  obtain ⟨sl, cur⟩ := p
  -- the model's three `next`s rewritten into the regenerated ones; then both sides branch alike
  simp only [CurveSrc.EllipsePoints_Iterator_next, Ellipse.PointsIt.next, SrcIter.stepView, ellipsePointsItOf,
    ← Scanline_Iterator_next_src_eq_model, ← EllipseScanlines_Iterator_next_src_eq_model]
  cases (CurveSrc.Scanline_Iterator_next cur).1 with
  | some pt => rfl
  | none =>
    cases (CurveSrc.EllipseScanlines_Iterator_next sl).1 with
    | none => rfl
    | some s' =>
      simp only [Option.map_none, Option.map_some, ← Scanline_Iterator_next_src_eq_model s']
      cases (CurveSrc.Scanline_Iterator_next s').1 <;> rfl

def srcEllipseCollect : Nat → CurveSrc.EllipsePoints → List Pt
  | 0, _ => []
  | steps + 1, p =>
    match CurveSrc.EllipsePoints_Iterator_next p with
    | (some pt, p') => pt :: srcEllipseCollect steps p'
    | (none, _) => []

theorem srcEllipseCollect_drains : Drains (ofPair CurveSrc.EllipsePoints_Iterator_next) srcEllipseCollect :=
  ⟨fun _ => rfl, fun n p => by
    rw [srcEllipseCollect, ofPair]
    rcases CurveSrc.EllipsePoints_Iterator_next p with ⟨_ | _, _⟩ <;> rfl⟩

theorem srcEllipseCollect_src_eq_model : ∀ (steps : Nat) (p : CurveSrc.EllipsePoints),
    srcEllipseCollect steps p = (ellipsePointsItOf p).toListFuel steps :=
  srcEllipseCollect_drains.view Ellipse.PointsIt.drains ellipsePointsItOf
    fun p => SrcIter.ofPair_view (EllipsePoints_Iterator_next_src_eq_model p)

/-- `ellipse.points()` collected from the regenerated `PointsIter::points` + `next`. -/
def srcEllipsePoints (e : CurveSrc.Ellipse) : List Pt :=
  let it := CurveSrc.Ellipse_PointsIter_points e
  srcEllipseCollect ((ellipsePointsItOf it).budget + 1) it

/-- **The regenerated iterator yields the hand model's `Ellipse.points`.** -/
theorem ellipse_points_src_eq_model (e : CurveSrc.Ellipse) (h : AxesFitI32 e.size) :
    srcEllipsePoints e = (ellipseOf e).points := by
  unfold srcEllipsePoints Ellipse.points
  simp only [srcEllipseCollect_src_eq_model, Ellipse_points_src_eq_model, EllipsePoints_new_src_eq_model e h]

theorem AxesFitI32.of_inRange {a : EG.Ellipse} (h : a.InRange) : AxesFitI32 a.size := by
  obtain ⟨_, _, hw, hh, _⟩ := h
  exact ⟨Nat.le_succ_of_le hw, Nat.le_succ_of_le hh⟩

theorem axesFit_of_inRange {e : CurveSrc.Ellipse} (h : (ellipseOf e).InRange) : AxesFitI32 e.size := .of_inRange h

/-- **`points()` is `bounding_box().points()` filtered by `contains()`**, all three regenerated. -/
theorem src_ellipse_points_eq_filter_contains (e : CurveSrc.Ellipse) (h : (ellipseOf e).InRange) :
    srcEllipsePoints e = (srcPoints (CurveSrc.Ellipse_Dimensions_bounding_box e)).filter
      (CurveSrc.Ellipse_ContainsPoint_contains e) := by
  have hd := axesFit_of_inRange h
  rw [ellipse_points_src_eq_model e hd, points_src_eq_model, funext fun p => Ellipse_contains_src_eq_model e p hd]
  exact ellipse_points_eq_filter_contains _ h
example : (ellipseOf ⟨⟨-3, 2⟩, ⟨2, 10⟩⟩).InRange := by decide
example : srcEllipsePoints ⟨⟨-1, 2⟩, ⟨3, 2⟩⟩ = [⟨-1, 2⟩, ⟨0, 2⟩, ⟨1, 2⟩, ⟨-1, 3⟩, ⟨0, 3⟩, ⟨1, 3⟩] := by decide +kernel
/-- the thin 2x10 ellipse (empty first and last row: `find_map` skips them) through the regenerated iterator -/
example : (srcEllipsePoints ⟨⟨0, 0⟩, ⟨2, 10⟩⟩).length = 16 := by decide +kernel

theorem src_ellipse_mem_points_iff (e : CurveSrc.Ellipse) (h : (ellipseOf e).InRange) (p : Pt) :
    p ∈ srcEllipsePoints e ↔ CurveSrc.Ellipse_ContainsPoint_contains e p = true := by
  rw [ellipse_points_src_eq_model e (axesFit_of_inRange h), Ellipse_contains_src_eq_model e p (axesFit_of_inRange h)]
  exact ellipse_mem_points_iff _ h p

theorem src_ellipse_points_nodup (e : CurveSrc.Ellipse) (h : (ellipseOf e).InRange) : (srcEllipsePoints e).Nodup := by
  rw [ellipse_points_src_eq_model e (axesFit_of_inRange h)]; exact ellipse_points_nodup _ h

theorem src_ellipse_points_row_major (e : CurveSrc.Ellipse) (h : (ellipseOf e).InRange) :
    (srcEllipsePoints e).Pairwise Pt.rowMajorLt := by
  rw [ellipse_points_src_eq_model e (axesFit_of_inRange h)]; exact ellipse_points_row_major _ h

theorem src_ellipse_contains_inside_bbox (e : CurveSrc.Ellipse) (p : Pt) (hd : AxesFitI32 e.size)
    (h : CurveSrc.Ellipse_ContainsPoint_contains e p = true) :
    (CurveSrc.Ellipse_Dimensions_bounding_box e).contains p = true :=
  ellipse_contains_inside_bbox (ellipseOf e) p ((Ellipse_contains_src_eq_model e p hd).symm.trans h)
example : CurveSrc.Ellipse_ContainsPoint_contains ⟨⟨-3, 2⟩, ⟨7, 4⟩⟩ ⟨0, 4⟩ = true := by decide

end EG.C05.Src
