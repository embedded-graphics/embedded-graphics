/-
  C05 / C18 / C06 — the REGENERATED model of `Circle` (and of `Scanline`'s iterator part) equals the hand-written one.

  `EG/Generated/CurveSrc.lean` is written by `tools/tr_curve.py` from /repo's Rust text on every run of a check
  (src/primitives/circle/{mod,points}.rs, src/primitives/common/scanline.rs, `PointExt::length_squared`; one Lean
  `def` per Rust function, arm for arm, one `structure` per Rust `struct`; Rust primitives are functions of the
  trusted preludes `EG/Model/RectSrcPrelude.lean` + `EG/Model/CurveSrcPrelude.lean`; `Rectangle` / `Point` / `Size`
  functions are the regenerated `RectSrc.*`, tied to `EG/Model/Rect.lean` in `Props/C16/Generated.lean`). This file
  proves `<name>_src_eq_model` for every translated circle function: generated definition = hand model
  (`EG/Model/Circle.lean`, `EG/Model/Scanline.lean`) FOR ALL inputs, then restates C05's circle headline over the
  generated functions (`src_circle_*`).

  Where the two differ (stated exactly):
  * the Rust structs are regenerated as Lean structures of their own (`CurveSrc.Circle`, `CurveSrc.Scanline` with its
    `Range<i32>` field, `CurveSrc.CircleScanlines` with two ranges, `CurveSrc.CirclePoints`); `circleOf`, `scanlineOf`,
    `scanlinesItOf`, `circlePointsItOf` are the (field by field) views as the hand model's records.
  * `center_2x` adds `Size::new(radius, radius)` to a `Point`: that `+` casts with `as i32` behind a `debug_assert!`;
    the hand model adds mathematically. They agree when `diameter - 1 <= i32::MAX` (guard `DiamFitsI32`, needed by
    `center_2x`, `contains`, `Scanlines::new`, `Points::new`); `with_center`, `center`, `offset` need the `u32` type
    bound only (`DiamIsU32`); everything else is unconditional.
  * `(delta.length_squared() as u32)`: the hand model writes `.toNat`, the generated text the wrapping cast
    `i32_as_u32`; equal because a sum of two squares is not negative (no guard).
  * a call of `next` returns (value, updated iterator); the hand model's `Scanline.next` / `PointsIt.next` return
    `Option (value × state)`: `*_next_src_eq_model` compare through `Option.map`.

  The preludes are `abbrev`s: once the case distinctions inside them are decided (`i32_as_u32_of_nonneg`,
  `range_i32_next_of_lt` / `_of_not_lt` of EG/Lemmas/RectSrcPrelude.lean) and earlier `_src_eq_model` equations are
  rewritten, the goals close by `rfl`.
-/
import EG.Generated.CurveSrc
import EG.Props.C16.GeneratedPoints
import EG.Props.C05.Circle
namespace EG.C05.Src
open EG EG.RectSrcPrelude EG.CurveSrcPrelude EG.Generated EG.C16.Src

/-- The regenerated `struct Circle { top_left, diameter }` as the hand model's record. -/
def circleOf (c : CurveSrc.Circle) : EG.Circle := ⟨c.top_left, c.diameter⟩
/-- The regenerated `struct Scanline { y, x: Range<i32> }` as the hand model's flat record. -/
def scanlineOf (s : CurveSrc.Scanline) : EG.Scanline := ⟨s.y, s.x.start, s.x.end_⟩
/-- The regenerated `circle::points::Scanlines { rows, columns, center_2x, threshold }`. -/
def scanlinesItOf (s : CurveSrc.CircleScanlines) : Circle.ScanlinesIt :=
  ⟨s.rows.start, s.rows.end_, s.columns.start, s.columns.end_, s.center_2x, s.threshold⟩
/-- The regenerated `circle::Points { scanlines, current_scanline }`. -/
def circlePointsItOf (p : CurveSrc.CirclePoints) : Circle.PointsIt :=
  ⟨scanlinesItOf p.scanlines, scanlineOf p.current_scanline⟩

/-- `diameter - 1 <= i32::MAX`: the `debug_assert!` of `Point + Size` in `center_2x` holds. -/
def DiamFitsI32 (d : Nat) : Prop := d ≤ 2147483648
/-- `diameter <= u32::MAX`: the type bound that `Nat` lacks. -/
def DiamIsU32 (d : Nat) : Prop := d ≤ 4294967295
instance (d : Nat) : Decidable (DiamFitsI32 d) := by unfold DiamFitsI32; exact inferInstance
instance (d : Nat) : Decidable (DiamIsU32 d) := by unfold DiamIsU32; exact inferInstance
theorem DiamFitsI32.isU32 {d : Nat} (h : DiamFitsI32 d) : DiamIsU32 d :=
  Nat.le_trans h (by decide : 2147483648 ≤ 4294967295)
example : DiamFitsI32 7 := by decide
example : DiamIsU32 4000000000 := by decide

/-- The prelude's `iter_collect` drains its `next`: once for every `for` loop of the translated curve code. -/
theorem iter_collect_drains {σ α : Type} (next : σ → Option α × σ) : Drains (ofPair next) (iter_collect next) :=
  ⟨fun _ => rfl, fun n s => by
    rw [iter_collect, ofPair]
    rcases next s with ⟨_ | _, _⟩ <;> rfl⟩

theorem diameter_to_threshold_src_eq_model (d : Nat) : CurveSrc.diameter_to_threshold d = diameterToThreshold d := by
  unfold CurveSrc.diameter_to_threshold diameterToThreshold
  simp only [u32_le, u32_pow, u32_sub, u32_div, Nat.pow_two, decide_eq_true_eq]

theorem length_squared_src_eq_model (p : Pt) : CurveSrc.Point_PointExt_length_squared p = lengthSquared p := by
  unfold CurveSrc.Point_PointExt_length_squared lengthSquared
  simp only [i32_add, i32_pow, Point_x, Point_y, Int.pow_succ, Int.pow_zero, Int.one_mul]

theorem int_mul_self_nonneg (a : Int) : 0 ≤ a * a := EG.int_mul_self_nonneg a

/-- `(length_squared() as u32)`: the wrapping cast of a sum of squares is its `toNat`. -/
theorem length_squared_as_u32 (p : Pt) : i32_as_u32 (lengthSquared p) = (lengthSquared p).toNat :=
  i32_as_u32_of_nonneg (Int.add_nonneg (int_mul_self_nonneg p.x) (int_mul_self_nonneg p.y))

theorem Scanline_new_src_eq_model (y a b : Int) : scanlineOf (CurveSrc.Scanline_new y ⟨a, b⟩) = ⟨y, a, b⟩ := rfl
theorem Scanline_new_empty_src_eq_model (y : Int) :
    scanlineOf (CurveSrc.Scanline_new_empty y) = Scanline.newEmpty y := rfl
theorem Scanline_is_empty_src_eq_model (s : CurveSrc.Scanline) :
    CurveSrc.Scanline_is_empty s = (scanlineOf s).isEmpty := rfl

theorem Scanline_Iterator_next_src_eq_model (s : CurveSrc.Scanline) :
    (CurveSrc.Scanline_Iterator_next s).1.map (fun p => (p, scanlineOf (CurveSrc.Scanline_Iterator_next s).2))
      = (scanlineOf s).next := by
  unfold CurveSrc.Scanline_Iterator_next Scanline.next
  by_cases h : s.x.start < s.x.end_
  · rw [range_i32_next_of_lt h]
    exact (if_pos h).symm
  · rw [range_i32_next_of_not_lt h]
    exact (if_neg h).symm

theorem Scanline_Iterator_next_none (s : CurveSrc.Scanline) (h : (CurveSrc.Scanline_Iterator_next s).1 = none) :
    (CurveSrc.Scanline_Iterator_next s).2 = s := by
  unfold CurveSrc.Scanline_Iterator_next at h ⊢
  by_cases hab : s.x.start < s.x.end_
  · rw [range_i32_next_of_lt hab] at h
    cases h
  · rw [range_i32_next_of_not_lt hab]
example : (CurveSrc.Scanline_Iterator_next ⟨3, ⟨5, 5⟩⟩).1 = none := by decide

theorem Circle_new_src_eq_model (tl : Pt) (d : Nat) : circleOf (CurveSrc.Circle_new tl d) = ⟨tl, d⟩ := rfl

theorem Circle_with_center_src_eq_model (c : Pt) (d : Nat) (h : DiamIsU32 d) :
    circleOf (CurveSrc.Circle_with_center c d) = Circle.withCenter c d := by
  unfold CurveSrc.Circle_with_center
  rw [Size_new_equal_src_eq_model, with_center_src_eq_model c (Sz.newEqual d) ⟨h, h⟩]
  rfl

theorem Circle_bounding_box_src_eq_model (c : CurveSrc.Circle) :
    CurveSrc.Circle_Dimensions_bounding_box c = (circleOf c).boundingBox := rfl

theorem Circle_center_src_eq_model (c : CurveSrc.Circle) (h : DiamIsU32 c.diameter) :
    CurveSrc.Circle_center c = (circleOf c).center := by
  unfold CurveSrc.Circle_center
  rw [Circle_bounding_box_src_eq_model, center_src_eq_model _ (show IsU32 (circleOf c).boundingBox.size from ⟨h, h⟩)]
  rfl

theorem Circle_center_2x_src_eq_model (c : CurveSrc.Circle) (h : DiamFitsI32 c.diameter) :
    CurveSrc.Circle_center_2x c = (circleOf c).center2x := by
  unfold CurveSrc.Circle_center_2x
  have hr : c.diameter - 1 ≤ 2147483647 := Nat.sub_le_of_le_add h
  rw [Point_add_Size_src_eq_model _ _ ⟨hr, hr⟩]
  rfl

theorem Circle_threshold_src_eq_model (c : CurveSrc.Circle) :
    CurveSrc.Circle_threshold c = (circleOf c).threshold :=
  diameter_to_threshold_src_eq_model _

theorem Circle_contains_src_eq_model (c : CurveSrc.Circle) (p : Pt) (h : DiamFitsI32 c.diameter) :
    CurveSrc.Circle_ContainsPoint_contains c p = (circleOf c).contains p := by
  unfold CurveSrc.Circle_ContainsPoint_contains Circle.contains
  simp only [Circle_center_2x_src_eq_model c h, length_squared_src_eq_model, Circle_threshold_src_eq_model,
    length_squared_as_u32]
  rfl

theorem Circle_offset_src_eq_model (c : CurveSrc.Circle) (o : Int) (h : DiamIsU32 c.diameter) :
    circleOf (CurveSrc.Circle_OffsetOutline_offset c o) = (circleOf c).offset o := by
  unfold CurveSrc.Circle_OffsetOutline_offset Circle.offset
  by_cases ho : o ≥ 0
  · rw [if_pos (decide_eq_true ho), if_pos ho, i32_as_u32_of_nonneg ho]
    rfl
  · have hn : 0 ≤ i32_neg o := Int.neg_nonneg_of_nonpos (Int.le_of_lt (Int.not_le.mp ho))
    rw [if_neg (mt of_decide_eq_true ho), if_neg ho, i32_as_u32_of_nonneg hn,
      Circle_with_center_src_eq_model _ _ (Nat.le_trans (Nat.sub_le _ _) h), Circle_center_src_eq_model c h]
    rfl

theorem Circle_translate_src_eq_model (c : CurveSrc.Circle) (d : Pt) :
    circleOf (CurveSrc.Circle_Transform_translate c d) = (circleOf c).translate d := rfl

theorem CircleScanlines_new_src_eq_model (c : CurveSrc.Circle) (h : DiamFitsI32 c.diameter) :
    scanlinesItOf (CurveSrc.CircleScanlines_new c) = (circleOf c).scanlines := by
  unfold CurveSrc.CircleScanlines_new Circle.scanlines
  simp only [rows_ends_src_eq_model, columns_ends_src_eq_model, Circle_center_2x_src_eq_model c h,
    Circle_threshold_src_eq_model, Circle_bounding_box_src_eq_model]
  rfl

/-- The predicate of `find` in `Scanlines::next` is the hand model's `hit`. -/
theorem circle_find_closure_src_eq_model (c2x : Pt) (thr : Nat) (y : Int) :
    (fun x => u32_lt (i32_as_u32 (CurveSrc.Point_PointExt_length_squared
      (RectSrc.Point_op_sub_Point (RectSrc.Point_op_mul_i32 (RectSrc.Point_new x y) 2) c2x))) thr)
      = Circle.hit c2x thr y := by
  funext x
  rw [length_squared_src_eq_model, length_squared_as_u32]
  rfl

/-- **One regenerated `Scanlines::next` = one `ScanlinesIt.next` of the hand model** (same scanline or the same early
`None`, same successor state). -/
theorem CircleScanlines_Iterator_next_src_eq_model (s : CurveSrc.CircleScanlines) :
    ((CurveSrc.CircleScanlines_Iterator_next s).1.map scanlineOf,
      scanlinesItOf (CurveSrc.CircleScanlines_Iterator_next s).2) = (scanlinesItOf s).next := by
  unfold CurveSrc.CircleScanlines_Iterator_next Circle.ScanlinesIt.next
  by_cases h : s.rows.start < s.rows.end_
  · rw [range_i32_next_of_lt h]
    refine Eq.trans ?_ (if_pos h).symm
    simp only [CurveSrc.CircleScanlines_set_rows, CurveSrc.CircleScanlines_center_2x, CurveSrc.CircleScanlines_threshold,
      circle_find_closure_src_eq_model, Circle.ScanlinesIt.row, mirroredRange, rangeFind, option_map, range_i32_find,
      Option.map_map]
    rfl
  · rw [range_i32_next_of_not_lt h]
    exact (if_neg h).symm

theorem CirclePoints_new_src_eq_model (c : CurveSrc.Circle) (h : DiamFitsI32 c.diameter) :
    circlePointsItOf (CurveSrc.CirclePoints_new c) = (circleOf c).pointsIt := by
  unfold CurveSrc.CirclePoints_new Circle.pointsIt circlePointsItOf
  rw [← CircleScanlines_new_src_eq_model c h]
  rfl

theorem Circle_points_src_eq_model (c : CurveSrc.Circle) :
    CurveSrc.Circle_PointsIter_points c = CurveSrc.CirclePoints_new c := rfl

/-- **One regenerated `Points::next` = one `PointsIt.next` of the hand model** (same point, same successor state;
`None` together). -/
theorem CirclePoints_Iterator_next_src_eq_model (p : CurveSrc.CirclePoints) :
    SrcIter.stepView circlePointsItOf (CurveSrc.CirclePoints_Iterator_next p) = (circlePointsItOf p).next := by
  obtain ⟨sl, cur⟩ := p
  -- the model's three `next`s rewritten into the regenerated ones; then both sides branch alike
  simp only [CurveSrc.CirclePoints_Iterator_next, Circle.PointsIt.next, SrcIter.stepView, circlePointsItOf,
    ← Scanline_Iterator_next_src_eq_model, ← CircleScanlines_Iterator_next_src_eq_model]
  cases (CurveSrc.Scanline_Iterator_next cur).1 with
  | some pt => rfl
  | none =>
    cases (CurveSrc.CircleScanlines_Iterator_next sl).1 with
    | none => rfl
    | some s' =>
      simp only [Option.map_none, Option.map_some, ← Scanline_Iterator_next_src_eq_model s']
      cases (CurveSrc.Scanline_Iterator_next s').1 <;> rfl

/-- What a `for` loop collects from the regenerated iterator (`steps` calls of `next` at most). -/
def srcCircleCollect : Nat → CurveSrc.CirclePoints → List Pt
  | 0, _ => []
  | steps + 1, p =>
    match CurveSrc.CirclePoints_Iterator_next p with
    | (some pt, p') => pt :: srcCircleCollect steps p'
    | (none, _) => []

theorem srcCircleCollect_drains : Drains (ofPair CurveSrc.CirclePoints_Iterator_next) srcCircleCollect :=
  ⟨fun _ => rfl, fun n p => by
    rw [srcCircleCollect, ofPair]
    rcases CurveSrc.CirclePoints_Iterator_next p with ⟨_ | _, _⟩ <;> rfl⟩

theorem srcCircleCollect_src_eq_model : ∀ (steps : Nat) (p : CurveSrc.CirclePoints),
    srcCircleCollect steps p = (circlePointsItOf p).toListFuel steps :=
  srcCircleCollect_drains.view Circle.PointsIt.drains circlePointsItOf
    fun p => SrcIter.ofPair_view (CirclePoints_Iterator_next_src_eq_model p)

/-- `circle.points()` collected from the regenerated `PointsIter::points` + `next`, on the hand model's step budget. -/
def srcCirclePoints (c : CurveSrc.Circle) : List Pt :=
  let it := CurveSrc.Circle_PointsIter_points c
  srcCircleCollect ((circlePointsItOf it).budget + 1) it

/-- **The regenerated iterator yields the hand model's `Circle.points`.** -/
theorem circle_points_src_eq_model (c : CurveSrc.Circle) (h : DiamFitsI32 c.diameter) :
    srcCirclePoints c = (circleOf c).points := by
  unfold srcCirclePoints Circle.points
  simp only [srcCircleCollect_src_eq_model, Circle_points_src_eq_model, CirclePoints_new_src_eq_model c h]

theorem DiamFitsI32.of_inRange {a : EG.Circle} (h : a.InRange) : DiamFitsI32 a.d := by
  obtain ⟨_, _, hw, _⟩ := h
  exact Nat.le_succ_of_le hw

theorem diamFits_of_inRange {c : CurveSrc.Circle} (h : (circleOf c).InRange) : DiamFitsI32 c.diameter := .of_inRange h

/-- **`points()` is `bounding_box().points()` filtered by `contains()`** (same points, row-major, same multiplicity):
the regenerated circle iterator against the regenerated rectangle iterator and the regenerated `contains`. -/
theorem src_circle_points_eq_filter_contains (c : CurveSrc.Circle) (h : (circleOf c).InRange) :
    srcCirclePoints c = (srcPoints (CurveSrc.Circle_Dimensions_bounding_box c)).filter
      (CurveSrc.Circle_ContainsPoint_contains c) := by
  have hd := diamFits_of_inRange h
  rw [circle_points_src_eq_model c hd, points_src_eq_model, funext fun p => Circle_contains_src_eq_model c p hd]
  exact circle_points_eq_filter_contains _ h
example : (circleOf ⟨⟨-3, 2⟩, 7⟩).InRange := by decide
example : srcCirclePoints ⟨⟨-1, 2⟩, 3⟩ = [⟨0, 2⟩, ⟨-1, 3⟩, ⟨0, 3⟩, ⟨1, 3⟩, ⟨0, 4⟩] := by decide +kernel

theorem src_circle_mem_points_iff (c : CurveSrc.Circle) (h : (circleOf c).InRange) (p : Pt) :
    p ∈ srcCirclePoints c ↔ CurveSrc.Circle_ContainsPoint_contains c p = true := by
  rw [circle_points_src_eq_model c (diamFits_of_inRange h), Circle_contains_src_eq_model c p (diamFits_of_inRange h)]
  exact circle_mem_points_iff _ h p

theorem src_circle_points_nodup (c : CurveSrc.Circle) (h : (circleOf c).InRange) : (srcCirclePoints c).Nodup := by
  rw [circle_points_src_eq_model c (diamFits_of_inRange h)]; exact circle_points_nodup _ h

theorem src_circle_points_row_major (c : CurveSrc.Circle) (h : (circleOf c).InRange) :
    (srcCirclePoints c).Pairwise Pt.rowMajorLt := by
  rw [circle_points_src_eq_model c (diamFits_of_inRange h)]; exact circle_points_row_major _ h

/-- `contains()` (regenerated) is false outside the (regenerated) bounding box. -/
theorem src_circle_contains_inside_bbox (c : CurveSrc.Circle) (p : Pt) (hd : DiamFitsI32 c.diameter)
    (h : CurveSrc.Circle_ContainsPoint_contains c p = true) :
    (CurveSrc.Circle_Dimensions_bounding_box c).contains p = true :=
  circle_contains_inside_bbox (circleOf c) p ((Circle_contains_src_eq_model c p hd).symm.trans h)
example : CurveSrc.Circle_ContainsPoint_contains ⟨⟨-3, 2⟩, 7⟩ ⟨0, 5⟩ = true := by decide

/-- Every function of every `impl` of `Circle`, `circle::Points`, `circle::Scanlines` (and of `Scanline`, the ellipse
types) in the parsed files that is NOT translated. An added function (an override of `Iterator::nth` / `fold` for
`Points`, a second `contains`) shows up here and breaks this theorem. The pixel path (`StyledPixelsIterator::{new, next}`,
`StyledPixels::pixels`) is listed here: it is NOT regenerated (tied by the `styled.*` streams). -/
theorem curve_untranslated_pinned :
    CurveSrc.untranslated =
      [("impl Circle", ["distances"]),
       ("impl StyledPixels<PrimitiveStyle> for Circle", ["pixels"]),
       ("impl Transform for Circle", ["translate_mut"]),
       ("impl CircleStyledPixelsIterator", ["new"]),
       ("impl Iterator for CircleStyledPixelsIterator", ["next"]),
       ("impl StyledPixels<PrimitiveStyle> for Ellipse", ["pixels"]),
       ("impl Transform for Ellipse", ["translate_mut"]),
       ("impl EllipseStyledPixelsIterator", ["new"]),
       ("impl Iterator for EllipseStyledPixelsIterator", ["next"]),
       ("impl PrimitiveStyle", ["const_default", "is_transparent", "new", "with_fill", "with_stroke"]),
       ("impl Default for PrimitiveStyle", ["default"]),
       ("impl Scanline", ["bresenham_intersection", "extend", "to_rectangle", "touches", "try_extend", "try_take"])] := by rfl

end EG.C05.Src
