/-
  C05 — the REGENERATED `ContainsPoint::contains` of `Triangle` equals the hand-written model, and C05's triangle
  theorems hold of the regenerated `contains` / `points()`.

  `EG.Generated.TriSrc.Triangle_ContainsPoint_contains` is written by `tools/tr_trisrc.py` from the Rust text of
  src/primitives/triangle/mod.rs on every check (bounding-box shortcut, the barycentric block with its early
  `return false` for zero area and its explicit sign checks, the shortcut for interior points,
  and the chained Bresenham lines of the three edges of `sorted_yx()` searched with `any`).

  Where the two differ (stated exactly):
  * the bounding-box shortcut calls `Rectangle::contains` (regenerated by tr_rect.py), which goes through
    `Point + Size` with its wrapping `as i32` cast behind a `debug_assert!`: equal to the hand model when the size of
    the bounding box fits `i32` (`FitsI32`, C16's guard; true of every triangle whose coordinates span less than
    2^31, in particular under `Rect.InRange` of the bounding box);
  * the hand model evaluates the edge lines as one list (`edgePoints`), the code chains three `line::Points`
    iterators (`line::Points` is not regenerated here: the prelude binds it to the hand model of the line).
-/
import EG.Props.C19.Generated
import EG.Props.C05.Triangle
namespace EG.C05.Src
open EG EG.Triangle EG.RectSrcPrelude EG.TriSrcPrelude EG.Generated EG.C16.Src EG.C19.Src

/-- The size of the triangle's bounding box fits `i32` (the condition of the `debug_assert!` in `Point + Size`). -/
def BBoxFits (t : Triangle) : Prop := FitsI32 t.boundingBox.size
instance (t : Triangle) : Decidable (BBoxFits t) := by unfold BBoxFits; exact inferInstance

/-- **The regenerated `contains` is the hand model's `Triangle.contains`** (bounding box within `i32`). -/
theorem Triangle_contains_src_eq_model (t : Triangle) (p : Pt) (h : BBoxFits t) :
    TriSrc.Triangle_ContainsPoint_contains t p = t.contains p := by
  unfold TriSrc.Triangle_ContainsPoint_contains Triangle.contains containsWith
  rw [Triangle_bounding_box_src_eq_model, contains_src_eq_model _ _ h, Triangle_area_doubled_src_eq_model,
    Triangle_sorted_yx_src_eq_model]
  cases hb : t.boundingBox.contains p with
  | false => rfl
  | true =>
    by_cases ha : t.areaDoubled = 0
    · tri_simp [ha, decide_true, ↓reduceIte, Bool.not_true, Bool.false_eq_true]
    · have hin : (if decide (t.areaDoubled < 0) = true then
            (decide (t.baryS p ≤ 0) && decide (t.baryT p ≤ 0)) && decide (t.baryS p + t.baryT p ≥ t.areaDoubled)
          else (decide (t.baryS p ≥ 0) && decide (t.baryT p ≥ 0)) && decide (t.baryS p + t.baryT p ≤ t.areaDoubled))
          = t.isInside p := by
        unfold isInside
        by_cases hn : t.areaDoubled < 0
        · simp only [hn, decide_true, ↓reduceIte, Bool.decide_and, Bool.and_assoc]
        · simp only [hn, decide_false, Bool.false_eq_true, ↓reduceIte, Bool.decide_and, Bool.and_assoc]
      tri_simp [ha, decide_false, ↓reduceIte, Bool.not_true, Bool.false_eq_true]
      simp only [baryS, baryT] at hin
      have he : t.edgePoints =
          (Line.pointsIt ⟨t.sortedYx.v1, t.sortedYx.v2⟩).toList ++ (Line.pointsIt ⟨t.sortedYx.v1, t.sortedYx.v3⟩).toList
            ++ (Line.pointsIt ⟨t.sortedYx.v2, t.sortedYx.v3⟩).toList := by
        unfold edgePoints edgeLines
        simp only [List.flatMap_cons, List.flatMap_nil, List.append_nil, List.append_assoc, Line.points]
      have key : ∀ (x y a b : Bool), x = y → a = b →
          (if x = true then true else a) = (if y = true then true else b) := by
        intro x y a b h1 h2; subst h1; subst h2; rfl
      exact key _ _ _ _ hin (by rw [he]; rfl)
example : BBoxFits ⟨⟨0, 0⟩, ⟨5, 1⟩, ⟨4, 6⟩⟩ := by decide

/-- `Rect.InRange` of the bounding box (the guard of C05's / C19's theorems about `points()`) implies `BBoxFits`. -/
theorem bboxFits_of_inRange (t : Triangle) (h : t.boundingBox.InRange) : BBoxFits t := by
  unfold BBoxFits FitsI32
  unfold Rect.InRange at h
  omega
example : (⟨⟨0, 0⟩, ⟨5, 1⟩, ⟨4, 6⟩⟩ : Triangle).boundingBox.InRange := by decide

/-- What the regenerated `contains()` accepts: inside the bounding box, non-zero (regenerated) area, and inside the
closed barycentric block or a pixel of one of the three Bresenham edge lines of the sorted triangle. -/
theorem src_triangle_contains_iff (t : Triangle) (p : Pt) (h : BBoxFits t) :
    TriSrc.Triangle_ContainsPoint_contains t p = true ↔
      (TriSrc.Triangle_Dimensions_bounding_box t).contains p = true ∧ TriSrc.Triangle_area_doubled t ≠ 0 ∧
        (t.isInside p = true ∨ p ∈ t.edgePoints) := by
  rw [Triangle_contains_src_eq_model t p h, Triangle_bounding_box_src_eq_model, Triangle_area_doubled_src_eq_model]
  exact triangle_contains_iff t p
example : BBoxFits ⟨⟨0, 0⟩, ⟨5, 1⟩, ⟨4, 6⟩⟩ := by decide

/-- **The regenerated `contains()` gives the same verdict for all six vertex orders.** -/
theorem src_triangle_contains_order_independent (t t' : Triangle) (h : t' ∈ orders t) (p : Pt) (hf : BBoxFits t) :
    TriSrc.Triangle_ContainsPoint_contains t' p = TriSrc.Triangle_ContainsPoint_contains t p := by
  have hf' : BBoxFits t' := by unfold BBoxFits; rw [C19.bounding_box_perm t t' h]; exact hf
  rw [Triangle_contains_src_eq_model t p hf, Triangle_contains_src_eq_model t' p hf']
  exact triangle_contains_order_independent t t' h p
example : (⟨⟨3, 1⟩, ⟨0, 0⟩, ⟨5, 7⟩⟩ : Triangle) ∈ orders ⟨⟨0, 0⟩, ⟨5, 7⟩, ⟨3, 1⟩⟩ ∧
    BBoxFits ⟨⟨0, 0⟩, ⟨5, 7⟩, ⟨3, 1⟩⟩ := by decide

/-- A colinear triangle: the regenerated `contains()` rejects every point. -/
theorem src_triangle_contains_colinear_false (t : Triangle) (p : Pt) (hf : BBoxFits t)
    (h : TriSrc.Triangle_area_doubled t = 0) : TriSrc.Triangle_ContainsPoint_contains t p = false := by
  rw [Triangle_contains_src_eq_model t p hf]
  exact triangle_contains_colinear_false t p h
example : TriSrc.Triangle_area_doubled ⟨⟨5, 10⟩, ⟨15, 20⟩, ⟨10, 15⟩⟩ = 0 ∧
    BBoxFits ⟨⟨5, 10⟩, ⟨15, 20⟩, ⟨10, 15⟩⟩ := by decide

/-- **The regenerated `points()` is `bounding_box().points()` filtered by the regenerated `contains()`**, as lists,
for every triangle of non-zero area whose bounding box is within the `i32` range. The bounding box is the regenerated
one; its points are the hand model's `Rect.points` (C16's `points_src_eq_model` ties those to the source). -/
theorem src_triangle_points_eq_filter_contains (t : Triangle) (h : t.boundingBox.InRange)
    (ha : TriSrc.Triangle_area_doubled t ≠ 0) :
    srcPoints t =
      (TriSrc.Triangle_Dimensions_bounding_box t).points.filter (TriSrc.Triangle_ContainsPoint_contains t) := by
  have hc : TriSrc.Triangle_ContainsPoint_contains t = t.contains := by
    funext p; exact Triangle_contains_src_eq_model t p (bboxFits_of_inRange t h)
  rw [src_points_eq_model, Triangle_bounding_box_src_eq_model, hc]
  exact triangle_points_eq_filter_contains t h ha
example : (⟨⟨-4, 3⟩, ⟨5, -1⟩, ⟨2, 9⟩⟩ : Triangle).boundingBox.InRange ∧
    TriSrc.Triangle_area_doubled ⟨⟨-4, 3⟩, ⟨5, -1⟩, ⟨2, 9⟩⟩ ≠ 0 := by decide

end EG.C05.Src
