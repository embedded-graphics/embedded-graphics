/-
  C05 (rectangle part) — `points()` yields exactly the integer points for which `contains()` is
  true: each once, in row-major order, all inside `bounding_box()`; `contains()` is false for
  every other point, in particular outside the bounding box.

  The rectangle is the one primitive of C05 whose theorems are those of C16 (Props/C16.lean:
  `mem_points_iff_contains`, `points_row_major`, `points_nodup`, about `EG.Model.Rect`, the
  transcription of core/src/primitives/rectangle/{mod,points}.rs; `Rect.points` is the `Points`
  iterator state machine drained, `Rect.contains` the four comparisons of `contains()`). They are
  restated here in C05's words as corollaries citing the C16 theorems, so that the check of C05
  audits them. `Rectangle::bounding_box()` returns `*self` (rectangle/mod.rs:58-62), so "inside
  `bounding_box()`" is "inside the rectangle itself"; it is stated with an explicit
  `boundingBox` so that the sentence reads as in the property.
  `Rect.InRange` = `top_left + size` does not overflow `i32` (decidable guard, holds for every
  display-scale rectangle, zero sizes and negative positions included).
-/
import EG.Props.C16
namespace EG.C05
open EG EG.Rect

/-- `impl Dimensions for Rectangle { fn bounding_box(&self) -> Rectangle { *self } }`. -/
def rectBoundingBox (r : Rect) : Rect := r

/-- `points()` yields exactly the points `contains()` accepts (C16 `mem_points_iff_contains`). -/
theorem rect_mem_points_iff (r : Rect) (h : r.InRange) (p : Pt) :
    p ∈ r.points ↔ r.contains p = true :=
  C16.mem_points_iff_contains r h p
example : (⟨⟨-3, 2⟩, ⟨4, 0⟩⟩ : Rect).InRange ∧ (⟨⟨-3, 2⟩, ⟨4, 5⟩⟩ : Rect).InRange := by decide

/-- each point once (C16 `points_nodup`) -/
theorem rect_points_nodup (r : Rect) : r.points.Nodup := C16.points_nodup r

/-- in row-major order: strictly increasing in (y, x) (C16 `points_row_major`) -/
theorem rect_points_row_major (r : Rect) : r.points.Pairwise Pt.rowMajorLt := C16.points_row_major r

/-- all inside `bounding_box()` -/
theorem rect_points_inside_bbox (r : Rect) (h : r.InRange) (p : Pt) (hp : p ∈ r.points) :
    (rectBoundingBox r).contains p = true :=
  (rect_mem_points_iff r h p).mp hp
example : (⟨-2, 3⟩ : Pt) ∈ (⟨⟨-3, 2⟩, ⟨4, 5⟩⟩ : Rect).points :=
  (rect_mem_points_iff _ (by decide) _).mpr (by decide)

/-- `contains()` is false for every other point (a point `points()` does not yield) ... -/
theorem rect_contains_false_of_not_mem (r : Rect) (h : r.InRange) (p : Pt) (hp : p ∉ r.points) :
    r.contains p = false := by
  cases hc : r.contains p with
  | false => rfl
  | true => exact absurd ((rect_mem_points_iff r h p).mpr hc) hp
example : (⟨1, 3⟩ : Pt) ∉ (⟨⟨-3, 2⟩, ⟨4, 5⟩⟩ : Rect).points :=
  fun h => absurd ((rect_mem_points_iff _ (by decide) _).mp h) (by decide)

/-- ... in particular for every point outside the bounding box (definitional for a rectangle: its
bounding box is the rectangle itself; stated only so that the sentence is complete). -/
theorem rect_contains_false_outside_bbox (r : Rect) (p : Pt)
    (h : (rectBoundingBox r).contains p = false) : r.contains p = false := h
example : (rectBoundingBox ⟨⟨-3, 2⟩, ⟨4, 5⟩⟩).contains ⟨1, 3⟩ = false := by decide

/-- The whole sentence in one statement: as lists, `points()` is the row-major enumeration of the
bounding box filtered by `contains()` (the form the other five shapes are stated in). -/
theorem rect_points_eq_filter_contains (r : Rect) (h : r.InRange) :
    r.points = (rectBoundingBox r).points.filter r.contains := by
  unfold rectBoundingBox
  symm
  rw [List.filter_eq_self]
  intro p hp
  exact (rect_mem_points_iff r h p).mp hp
example : (⟨⟨2147483000, -5⟩, ⟨647, 9⟩⟩ : Rect).InRange := by decide

end EG.C05
