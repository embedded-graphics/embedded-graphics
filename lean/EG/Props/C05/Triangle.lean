/-
  C05 (triangle part) — "For ... Triangle with non-zero area, points() yields exactly the integer
  points for which contains() is true: each once, in row-major order, all inside bounding_box().
  contains() is false for every other point, in particular for every point outside the bounding
  box."
  Model: `EG.Triangle.contains`, `EG.Triangle.points` (EG/Model/Triangle.lean =
  src/primitives/triangle/{mod,points,scanline_iterator,scanline_intersections}.rs, with the
  counter-clockwise sign test of `contains` repaired: defect #8). Helper lemmas:
  EG/Lemmas/Triangle{Contains,Points,Span,Cover,Exact}.lean.

  Everything is proved, for all vertex triples (unbounded integers): what `contains()` accepts
  (bounding box, non-zero area, closed three-half-plane test or a pixel of one of the three
  Bresenham edge lines of the sorted triangle), that it rejects everything outside the bounding box
  and everything when the area is zero, that it does not depend on the vertex order; and, for
  non-zero area and a bounding box within the `i32` range (`Rect.InRange`: `Rectangle::rows()` /
  `columns()` do not saturate), `points() = bounding_box().points().filter(contains)` as lists —
  hence each point once, in row-major order, all inside `bounding_box()`.
  No sub-claim of the triangle part is left to correspondence + oracle alone.
-/
import EG.Lemmas.TriangleContains
import EG.Lemmas.TrianglePoints
import EG.Lemmas.RectPoints
import EG.Lemmas.TriangleSpan
import EG.Lemmas.TriangleCover
import EG.Lemmas.TriangleExact
namespace EG.C05
open EG EG.Triangle

/-- `contains()` accepts exactly: inside the bounding box, non-zero area, and (the closed barycentric
test with its explicit sign checks, or the point is a pixel of one of the three Bresenham edge
lines `p1 p2`, `p1 p3`, `p2 p3` of the `(y, x)`-sorted triangle). -/
theorem triangle_contains_iff (t : Triangle) (p : Pt) :
    t.contains p = true ↔
      t.boundingBox.contains p = true ∧ t.areaDoubled ≠ 0 ∧
        (t.isInside p = true ∨ p ∈ t.edgePoints) :=
  Triangle.contains_iff t p

/-- The barycentric block is the closed mathematical triangle: the three edge functions
`(b - a) × (p - a)` of `v1 v2`, `v2 v3`, `v3 v1` are all `≥ 0` (positive orientation) or all `≤ 0`
(negative orientation) — no point on the extension of an edge slips through (defect #8, repaired). -/
theorem triangle_inside_iff_half_planes (t : Triangle) (p : Pt) (h : t.areaDoubled ≠ 0) :
    t.isInside p = true ↔
      (0 ≤ edgeFn t.v1 t.v2 p ∧ 0 ≤ edgeFn t.v2 t.v3 p ∧ 0 ≤ edgeFn t.v3 t.v1 p ∧
        0 < edgeFn t.v1 t.v2 t.v3) ∨
      (edgeFn t.v1 t.v2 p ≤ 0 ∧ edgeFn t.v2 t.v3 p ≤ 0 ∧ edgeFn t.v3 t.v1 p ≤ 0 ∧
        edgeFn t.v1 t.v2 t.v3 < 0) :=
  isInside_iff_half_planes t p h

example : (⟨⟨5, 5⟩, ⟨20, 6⟩, ⟨0, 0⟩⟩ : Triangle).areaDoubled ≠ 0 := by decide

/-- The witness of defect #8 (repaired) is rejected. -/
theorem triangle_contains_witness8 :
    (⟨⟨5, 5⟩, ⟨20, 6⟩, ⟨0, 0⟩⟩ : Triangle).contains ⟨6, 6⟩ = false := by decide

/-- `contains()` is false for every point outside the bounding box. -/
theorem triangle_contains_in_bbox (t : Triangle) (p : Pt) (h : t.contains p = true) :
    t.boundingBox.contains p = true :=
  Triangle.contains_in_bbox t p h

example : (⟨⟨0, 0⟩, ⟨5, 1⟩, ⟨4, 6⟩⟩ : Triangle).contains ⟨3, 2⟩ = true := by decide

theorem triangle_contains_false_outside_bbox (t : Triangle) (p : Pt)
    (h : t.boundingBox.contains p = false) : t.contains p = false := by
  cases hc : t.contains p with
  | false => rfl
  | true => rw [Triangle.contains_in_bbox t p hc] at h; cases h

example : (⟨⟨0, 0⟩, ⟨5, 1⟩, ⟨4, 6⟩⟩ : Triangle).boundingBox.contains ⟨6, 2⟩ = false := by decide

/-- A triangle with zero area (colinear or coincident vertices) contains no point: the code returns
`false` before the edge-line clause is looked at (while `points()` still yields the line `p1 p3`;
this is why the property is stated for non-zero area). -/
theorem triangle_contains_colinear_false (t : Triangle) (p : Pt) (h : t.areaDoubled = 0) :
    t.contains p = false :=
  Triangle.contains_colinear_false t p h

example : (⟨⟨5, 10⟩, ⟨15, 20⟩, ⟨10, 15⟩⟩ : Triangle).areaDoubled = 0 := by decide

/-- `contains()` gives the same verdict for all six vertex orders. -/
theorem triangle_contains_order_independent (t t' : Triangle) (h : t' ∈ orders t) (p : Pt) :
    t'.contains p = t.contains p :=
  contains_of_mem_orders h p

example : (⟨⟨3, 1⟩, ⟨0, 0⟩, ⟨5, 7⟩⟩ : Triangle) ∈ orders ⟨⟨0, 0⟩, ⟨5, 7⟩, ⟨3, 1⟩⟩ := by decide

/-- Every point of `points()` lies inside `bounding_box()`. -/
theorem triangle_points_in_bbox (t : Triangle) (h : t.boundingBox.InRange) (p : Pt)
    (hp : p ∈ t.points) : t.boundingBox.contains p = true :=
  points_in_bbox t h p hp

example : (⟨⟨0, 0⟩, ⟨5, 1⟩, ⟨4, 6⟩⟩ : Triangle).boundingBox.InRange ∧
    (⟨3, 2⟩ : Pt) ∈ (⟨⟨0, 0⟩, ⟨5, 1⟩, ⟨4, 6⟩⟩ : Triangle).points :=
  have h : (⟨⟨0, 0⟩, ⟨5, 1⟩, ⟨4, 6⟩⟩ : Triangle).boundingBox.InRange := by decide
  ⟨h, mem_points_of_contains _ h _ (by decide)⟩

/-- `points()` is strictly increasing in row-major order: each point once, rows top to bottom,
columns left to right. -/
theorem triangle_points_row_major_once (t : Triangle) (h : t.boundingBox.InRange) :
    t.points.Pairwise Pt.rowMajorLt ∧ t.points.Nodup :=
  ⟨points_rowMajor t h, points_nodup t h⟩
example : (⟨⟨0, 0⟩, ⟨5, 1⟩, ⟨4, 6⟩⟩ : Triangle).boundingBox.InRange := by decide

/-- The edge-line half of the equation: for non-zero area a pixel of one of the three Bresenham
edge lines is accepted by `contains()` AND yielded by `points()`. -/
theorem triangle_edge_pixels_in_both (t : Triangle) (h : t.boundingBox.InRange)
    (a : t.areaDoubled ≠ 0) (p : Pt) (hp : p ∈ t.edgePoints) :
    t.contains p = true ∧ p ∈ t.points := by
  have hmem : p ∈ t.points := by
    unfold edgePoints at hp
    obtain ⟨l, hl, hpl⟩ := List.mem_flatMap.mp hp
    exact edge_pixel_mem_points t h (by rw [usedLines_of_nonzero a]; exact hl) hpl
  exact ⟨(Triangle.contains_iff t p).mpr ⟨points_in_bbox t h p hmem, a, Or.inr hp⟩, hmem⟩

example : (⟨⟨0, 0⟩, ⟨5, 1⟩, ⟨4, 6⟩⟩ : Triangle).boundingBox.InRange ∧
    (⟨⟨0, 0⟩, ⟨5, 1⟩, ⟨4, 6⟩⟩ : Triangle).areaDoubled ≠ 0 ∧
    (⟨5, 1⟩ : Pt) ∈ (⟨⟨0, 0⟩, ⟨5, 1⟩, ⟨4, 6⟩⟩ : Triangle).edgePoints := by decide

/-- **Everything `contains()` accepts is yielded by `points()`** (bounding box within the `i32`
range): a point passing the closed barycentric test lies on or between two Bresenham edge lines in
its row, a point of an edge line is covered anyway. -/
theorem triangle_contains_imp_points (t : Triangle) (h : t.boundingBox.InRange) (p : Pt)
    (hc : t.contains p = true) : p ∈ t.points :=
  mem_points_of_contains t h p hc

example : (⟨⟨0, 0⟩, ⟨5, 1⟩, ⟨4, 6⟩⟩ : Triangle).boundingBox.InRange ∧
    (⟨⟨0, 0⟩, ⟨5, 1⟩, ⟨4, 6⟩⟩ : Triangle).contains ⟨3, 2⟩ = true := by decide

/-- Hence the points of the bounding box that `contains()` accepts are all points of `points()` —
nothing that `contains()` accepts is missing. -/
theorem triangle_filter_contains_subset_points (t : Triangle) (h : t.boundingBox.InRange) (p : Pt)
    (hp : p ∈ t.boundingBox.points.filter t.contains) : p ∈ t.points :=
  triangle_contains_imp_points t h p (List.mem_filter.mp hp).2
example : (⟨3, 2⟩ : Pt) ∈ (⟨⟨0, 0⟩, ⟨5, 1⟩, ⟨4, 6⟩⟩ : Triangle).boundingBox.points.filter
    (⟨⟨0, 0⟩, ⟨5, 1⟩, ⟨4, 6⟩⟩ : Triangle).contains :=
  List.mem_filter.mpr ⟨(Rect.mem_points (by decide)).mpr (by decide), by decide⟩

/-- Every point yielded by `points()` is accepted by `contains()`: a point between two edge
pixels of its row that is not itself an edge pixel passes the closed barycentric test. -/
theorem triangle_points_imp_contains (t : Triangle) (h : t.boundingBox.InRange)
    (ha : t.areaDoubled ≠ 0) (p : Pt) (hp : p ∈ t.points) : t.contains p = true :=
  contains_of_mem_points t h ha p hp

example : (⟨⟨0, 0⟩, ⟨5, 1⟩, ⟨4, 6⟩⟩ : Triangle).boundingBox.InRange ∧
    (⟨⟨0, 0⟩, ⟨5, 1⟩, ⟨4, 6⟩⟩ : Triangle).areaDoubled ≠ 0 ∧
    (⟨3, 2⟩ : Pt) ∈ (⟨⟨0, 0⟩, ⟨5, 1⟩, ⟨4, 6⟩⟩ : Triangle).points :=
  have h : (⟨⟨0, 0⟩, ⟨5, 1⟩, ⟨4, 6⟩⟩ : Triangle).boundingBox.InRange := by decide
  ⟨h, by decide, triangle_contains_imp_points _ h _ (by decide)⟩

/-- **`points()` is `bounding_box().points()` filtered by `contains()`**, as lists: same points,
same (row-major) order, same multiplicity — for every triangle with non-zero area. -/
theorem triangle_points_eq_filter_contains (t : Triangle) (h : t.boundingBox.InRange)
    (ha : t.areaDoubled ≠ 0) : t.points = t.boundingBox.points.filter t.contains :=
  points_eq_filter_contains t h ha

example : (⟨⟨-4, 3⟩, ⟨5, -1⟩, ⟨2, 9⟩⟩ : Triangle).boundingBox.InRange ∧
    (⟨⟨-4, 3⟩, ⟨5, -1⟩, ⟨2, 9⟩⟩ : Triangle).areaDoubled ≠ 0 := by decide

/-- The exclusion "with non-zero area" is needed: a colinear triangle yields its line `p1 p3` while
`contains()` rejects every point. -/
theorem triangle_zero_area_points_not_contained :
    (⟨⟨2, 2⟩, ⟨4, 2⟩, ⟨4, 2⟩⟩ : Triangle).points = [⟨2, 2⟩, ⟨3, 2⟩, ⟨4, 2⟩] ∧
    (⟨⟨2, 2⟩, ⟨4, 2⟩, ⟨4, 2⟩⟩ : Triangle).contains ⟨3, 2⟩ = false := by decide

end EG.C05
