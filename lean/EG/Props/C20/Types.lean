/-
  C20 / colour types — the model's list of `ColorMapping` types is the source's list.

  `EG.Model.MockDisplay` (`CT`, `charToColor`, `colorToChar`), `allCT` (the finite table the [F] theorems
  `char_color_roundtrip` / `color_char_roundtrip` / `pattern_debug_roundtrip` range over) and the harness
  (`TYPES` of m_mock.rs) name the colour types by hand. tools/tr_mock.py reads every
  `impl ColorMapping for` of /repo (written out or produced by `impl_gray_color_mapping!` /
  `impl_rgb_color_mapping!`) into `EG.Generated.MockTypes` on every run; the theorems below fail to build when
  a type is added or removed, a gray radix changes, or a pattern character of the RGB / binary tables is
  renamed — changes the correspondence streams could not notice, because they only run the types listed
  by hand.
-/
import EG.Generated.MockTypes
import EG.Model.MockTypes
import EG.Lemmas.MockPattern
namespace EG.C20.Types
open EG EG.Mock EG.Generated.MockTypes

/-- Every implementing type of the source is a colour type of the model, in the same order, and the
model has no other: "all twelve `ColorMapping` types" of the [F] theorems is the source's count. -/
theorem color_mapping_types_complete :
    mappingTypes.map (fun e => ctOfRustName e.1) = allCT.map some ∧
    mappingTypes.length = implsSeen ∧ allCT.length = implsSeen := by decide +kernel

/-- The radices handed to `impl_gray_color_mapping!` are the ones the model's digit readers implement
(`Gray2`: `to_digit(4)`, `Gray4`: `to_digit(16)`); every other type is written out or uses the RGB macro. -/
theorem gray_radices :
    (mappingTypes.filter (fun e => e.2.1 == "impl_gray_color_mapping")).map
        (fun e => ((ctOfRustName e.1).bind grayRadix, e.2.2)) = [(some 4, 4), (some 16, 16)] ∧
    (mappingTypes.filter (fun e => e.2.1 == "impl")).map (fun e => e.1) = ["BinaryColor", "Gray8"] ∧
    (mappingTypes.filter (fun e => e.2.1 == "impl_rgb_color_mapping")).map (fun e => ctOfRustName e.1) =
      [some .rgb332, some .rgb444, some .rgb555, some .bgr555, some .rgb565, some .bgr565, some .rgb888,
       some .bgr888] := by decide +kernel

/-- The pattern characters of the source's tables are the model's: `K R G B Y M C W` in the order of
`RgbLayout.named` (black, the primaries, the mixtures, white), `.` / `#` for `BinaryColor`. -/
theorem pattern_characters :
    rgbChars = [('K', "BLACK"), ('R', "RED"), ('G', "GREEN"), ('B', "BLUE"), ('Y', "YELLOW"),
                ('M', "MAGENTA"), ('C', "CYAN"), ('W', "WHITE")] ∧
    rgbChars.map (·.1) = charset .rgb565 ∧
    rgbChars.map (·.1) = ((⟨5, 6, 5, false⟩ : RgbLayout).named).map (·.1) ∧
    binaryChars = [('.', "Off"), ('#', "On")] ∧ binaryChars.map (·.1) = charset .binary := by decide +kernel

end EG.C20.Types
