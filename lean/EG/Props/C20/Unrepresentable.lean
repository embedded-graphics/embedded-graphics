/-
  C20 (observation made precise) — colours outside a type's colour set.

  `ColorMapping::color_to_char` prints a colour that is not in the type's colour set as '?'
  (`Gray8`: a luma whose two hex digits differ; RGB types: a colour that is none of the eight named
  constants), and `char_to_color('?')` panics for every colour type. So the `{:?}` text of a
  display holding such a colour cannot be read back by `from_pattern`: this is outside the property's
  quantifier ("patterns over each colour type's character set"), the harness only counts it
  (`obs:debug-unrepresentable:rt-*`). Here the mechanism is proved on the model:
  `color_to_char_question_iff` (exactly the colours outside the colour set print as '?', for every
  colour type and every raw value), `question_mark_is_rejected`, `pattern_with_question_mark_panics`.
-/
import EG.Props.C20.PatternText
namespace EG.C20.Unrepresentable
open EG EG.Mock

/-- **`char_to_color('?')` panics for every colour type.** -/
theorem question_mark_is_rejected : ∀ ct ∈ allCT, charToColor ct '?' = none := by decide +kernel

/-- The RGB arm of `color_to_char`: the result is '?' iff the colour is none of the named ones. -/
theorem named_find_question (named : List (Char × Color)) (k : Color) (hq : ∀ e ∈ named, e.1 ≠ '?') :
    (match named.find? (fun e => e.2 == k) with
      | some e => e.1
      | none => '?') = '?' ↔ k ∉ named.map (·.2) := by
  cases h : named.find? (fun e => e.2 == k) with
  | none =>
    simp only [true_iff]
    intro hm
    obtain ⟨e, he, rfl⟩ := List.mem_map.mp hm
    have := List.find?_eq_none.mp h e he
    simp at this
  | some e =>
    have hmem := List.mem_of_find?_eq_some h
    have hk : e.2 = k := by simpa using List.find?_some h
    constructor
    · intro hq'; exact absurd hq' (hq e hmem)
    · intro hn; exact absurd (List.mem_map.mpr ⟨e, hmem, hk⟩) hn

/-- The grey arms, decided over the masked raw values. -/
theorem gray_question_table :
    (∀ k, k < 2 → (colorToChar .binary k = '?' ↔ k ∉ palette .binary)) ∧
    (∀ k, k < 4 → (colorToChar .gray2 k = '?' ↔ k ∉ palette .gray2)) ∧
    (∀ k, k < 16 → (colorToChar .gray4 k = '?' ↔ k ∉ palette .gray4)) ∧
    (∀ k, k < 256 → (colorToChar .gray8 k = '?' ↔ k ∉ palette .gray8)) := by decide +kernel

/-- `color_to_char` reads the raw value modulo the type's width (the constructors mask it). -/
theorem color_to_char_masked (ct : CT) (c : Color) :
    colorToChar ct c = colorToChar ct (c % 2 ^ ct.bits) := by
  -- every arm of `colorToChar` starts by reducing `c` modulo `2 ^ bits`
  cases ct <;> simp [colorToChar, CT.bits, CT.rgb, Nat.mod_mod]

/-- The named colours of the RGB types are their colour set, and none is printed as '?'. -/
theorem rgb_named_table : ∀ ct ∈ allCT, ∀ l, ct.rgb = some l →
    palette ct = l.named.map (·.2) ∧ ∀ e ∈ l.named, e.1 ≠ '?' := by decide +kernel

/-- **Exactly the colours outside the type's colour set print as '?'** - every colour type, every
raw value (`Gray8`: the values that are not multiples of 0x11; RGB types: everything but the eight
named colours; `BinaryColor`, `Gray2`, `Gray4`: never). -/
theorem color_to_char_question_iff (ct : CT) (c : Color) :
    colorToChar ct c = '?' ↔ c % 2 ^ ct.bits ∉ palette ct := by
  rw [color_to_char_masked]
  have hlt : c % 2 ^ ct.bits < 2 ^ ct.bits := Nat.mod_lt _ (Nat.pos_of_ne_zero (by simp))
  generalize c % 2 ^ ct.bits = k at hlt ⊢
  obtain ⟨h1, h2, h3, h4⟩ := gray_question_table
  have hrgb : ∀ l, ct.rgb = some l →
      (colorToChar ct k = match l.named.find? (fun e => e.2 == k % 2 ^ ct.bits) with
        | some e => e.1
        | none => '?') := by
    intro l hl
    cases ct <;> simp [CT.rgb] at hl <;> subst hl <;> rfl
  have hk : k % 2 ^ ct.bits = k := Nat.mod_eq_of_lt hlt
  cases hct : ct.rgb with
  | none =>
    -- `rgb = none`: the four non-RGB types, in the order of `CT`
    cases ct <;> simp [CT.rgb] at hct
    · exact h1 k hlt
    · exact h2 k hlt
    · exact h3 k hlt
    · exact h4 k hlt
  | some l =>
    obtain ⟨hp, hq⟩ := rgb_named_table ct (mem_allCT ct) l hct
    rw [hrgb l hct, hk, hp]
    exact named_find_question l.named k hq

example : colorToChar .gray8 0x12 = '?' ∧ colorToChar .gray8 0x33 = '3' ∧
    colorToChar .rgb565 0x1234 = '?' ∧ colorToChar .rgb565 0xF800 = 'R' := by decide

/-- **A pattern containing '?' is rejected by `from_pattern`** (if it gets past the three shape
checks it panics in `char_to_color`; it is never accepted). -/
theorem pattern_with_question_mark_panics (ct : CT) (pattern : List (List Char))
    (h : ∃ r ∈ pattern, '?' ∈ r) : ∀ d, fromPattern ct pattern ≠ .ok d := by
  intro d hok
  obtain ⟨-, -, -, rows, hrows, -⟩ := ((PatternText.from_pattern_decision ct pattern).2.2.2.2 d).mp hok
  obtain ⟨r, hr, hq⟩ := h
  have : convRows ct pattern = none :=
    (convRows_none_iff ct pattern).mpr ⟨r, hr, '?', hq, by decide,
      question_mark_is_rejected ct (mem_allCT ct)⟩
  rw [this] at hrows
  cases hrows
example : ∃ r ∈ [['#', '?'], ['.', '.']], '?' ∈ r := ⟨_, List.mem_cons_self, by decide⟩

/-- With the right shape (at most 64 rows, all rows as wide as the first, at most 64 bytes) the
outcome is exactly the `char_to_color` panic. -/
theorem well_shaped_pattern_with_question_mark (ct : CT) (pattern : List (List Char))
    (hw : patWidth pattern ≤ 64) (hh : pattern.length ≤ 64)
    (hr : ∀ r ∈ pattern, rowLen r = patWidth pattern) (h : ∃ r ∈ pattern, '?' ∈ r) :
    fromPattern ct pattern = .panicChar := by
  obtain ⟨r, hrm, hq⟩ := h
  exact ((PatternText.from_pattern_decision ct pattern).2.2.2.1).mpr
    ⟨hw, hh, hr, r, hrm, '?', hq, by decide, question_mark_is_rejected ct (mem_allCT ct)⟩
example : patWidth [['#', '?'], ['.', '.']] ≤ 64 ∧ [['#', '?'], ['.', '.']].length ≤ 64 ∧
    (∀ r ∈ [['#', '?'], ['.', '.']], rowLen r = patWidth [['#', '?'], ['.', '.']]) := by decide

end EG.C20.Unrepresentable
