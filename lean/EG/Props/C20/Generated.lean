/-
  C20 — the code of `MockDisplay` REGENERATED FROM THE RUST TEXT equals the hand-written model.

  `EG.Generated.MockSrc` (written by tools/tr_mocksrc.py from src/mock_display/mod.rs and color_mapping.rs on every
  check) is proved equal to `EG.Model.MockDisplay`, function by function, for all inputs. A generated function returns
  `MutRes σ α` (a value, or a panic message with the receiver's state at the panic); the hand model returns `Option`
  (`none` = panic) or `Res` (`Res.panic d` = panicked leaving the display `d`). `toOpt` / `toRes` forget the message;
  the messages are stated separately (`MockDisplay_set_pixel_panic_msg`, `src_draw_pixel_panic_msg_*`, `from_pattern_*_msg`).
-/
import EG.Generated.MockSrc
import EG.Lemmas.MockSrc
import EG.Props.C16.Generated
import EG.Props.C20
namespace EG.C20.Generated
open EG EG.Mock EG.RectSrcPrelude EG.MockSrcPrelude EG.MockSrcLemmas EG.Generated EG.Generated.MockSrc

def toRes : MutRes MD MD → Res
  | .ok d => .ok d
  | .panic _ d => .panic d

/-- a store of the hand model (`none` = panic) as a `Res`: a panicking store leaves the display `d`. A named function and
not a `match` in the statements that use it: a `match` written in a theorem statement gets its own matcher constant,
which does not unify with the one inside a model function. -/
def optRes (d : MD) : Option MD → Res
  | some d' => .ok d'
  | none => .panic d

def panicMsg {σ α : Type} : MutRes σ α → Option String
  | .ok _ => none
  | .panic m _ => some m

theorem i32_as_usize_eq (a : Int) : i32_as_usize a = asUsize a := rfl
theorem SIZE_as_i32 : usize_as_i32 MockSrc.SIZE = 64 := by decide

theorem SIZE_src_eq_model : MockSrc.SIZE = Mock.SIZE := rfl

theorem DISPLAY_AREA_src_eq_model : DISPLAY_AREA = displayArea := by decide

theorem Default_default_src_eq_model : Default_default = .ok MD.new := rfl

theorem MockDisplay_new_src_eq_model : MockDisplay_new = .ok MD.new := rfl

theorem OriginDimensions_size_src_eq_model (d : MD) : OriginDimensions_size d = .ok displayArea.size := by
  unfold OriginDimensions_size; rw [DISPLAY_AREA_src_eq_model]; rfl

/-- `self.bounding_box()` of the display is the display area. -/
theorem bounding_box_src (d : MD) :
    (OriginDimensions_size d).bind (fun s => (MutRes.ok (OriginDimensions_bounding_box s) : Panics Rectangle)) = .ok displayArea := by
  rw [OriginDimensions_size_src_eq_model]; rfl

theorem MockDisplay_set_allow_overdraw_src_eq_model (d : MD) (v : Bool) :
    MockDisplay_set_allow_overdraw d v = .ok (d.setAllowOverdraw v) := rfl

theorem MockDisplay_set_allow_out_of_bounds_drawing_src_eq_model (d : MD) (v : Bool) :
    MockDisplay_set_allow_out_of_bounds_drawing d v = .ok (d.setAllowOob v) := rfl

/-- `get_pixel`: same value, panics on the same points (overflow of the `usize` index arithmetic, index outside the array). -/
theorem MockDisplay_get_pixel_src_eq_model (d : MD) (p : Pt) : toOpt (MockDisplay_get_pixel d p) = d.getPixel p := by
  unfold MockDisplay_get_pixel MD.getPixel
  simp only [bind, MutRes.bind, usize_mul, Point_y, i32_as_usize_eq, SIZE_src_eq_model, usize_add, Point_x,
    array_index, MockDisplay_pixels, ckMul, ckAdd]
  by_cases h1 : asUsize p.y * Mock.SIZE < U64 <;> simp only [h1, ↓reduceIte, toOpt]
  by_cases h2 : asUsize p.x + asUsize p.y * Mock.SIZE < U64 <;> simp only [h2, ↓reduceIte]
  by_cases h3 : asUsize p.x + asUsize p.y * Mock.SIZE < 4096 <;> simp only [h3, ↓reduceDIte, toOpt]

theorem MockDisplay_set_pixel_unchecked_src_eq_model (d : MD) (p : Pt) (c : Option Color) :
    MockDisplay_set_pixel_unchecked d p c =
      match d.setPixelUnchecked p c with
      | some d' => .ok d'
      | none => .panic "index out of bounds" d := by
  unfold MockDisplay_set_pixel_unchecked MD.setPixelUnchecked
  simp only [bind, MutRes.bind, at_state, array_set, i32_add, Point_x, i32_mul, Point_y, SIZE_as_i32,
    i32_as_usize_eq, MockDisplay_pixels, pure, MockDisplay_with_pixels]
  by_cases h : asUsize (p.x + p.y * 64) < 4096 <;> simp only [h, ↓reduceDIte]

theorem MockDisplay_set_pixel_unchecked_toRes (d : MD) (p : Pt) (c : Option Color) :
    toRes (MockDisplay_set_pixel_unchecked d p c) = optRes d (d.setPixelUnchecked p c) := by
  rw [MockDisplay_set_pixel_unchecked_src_eq_model]; cases d.setPixelUnchecked p c <;> rfl

theorem displayArea_fits : EG.C16.Src.FitsI32 displayArea.size := by decide

theorem contains_display_src (p : Pt) : RectSrc.contains displayArea p = displayArea.contains p :=
  EG.C16.Src.contains_src_eq_model _ _ displayArea_fits

theorem set_pixel_src (d : MD) (p : Pt) (c : Option Color) :
    MockDisplay_set_pixel d p c =
      if p.x ≥ 0 ∧ p.y ≥ 0 ∧ p.x < 64 ∧ p.y < 64 then MockDisplay_set_pixel_unchecked d p c
      else .panic "point must be inside display bounding box: {:?}" d := by
  unfold MockDisplay_set_pixel MockDisplay_set_pixel_unchecked
  by_cases h : p.x ≥ 0 ∧ p.y ≥ 0 ∧ p.x < 64 ∧ p.y < 64
  · have hb : (decide (p.x ≥ 0) && decide (p.y ≥ 0) && decide (p.x < 64) && decide (p.y < 64)) = true := by
      simp only [Bool.and_eq_true, decide_eq_true_eq]; omega
    rw [if_pos h]
    simp only [bind, MutRes.bind, at_state, rs_assert, bool_and, i32_ge, Point_x, Point_y, i32_lt, SIZE_as_i32,
      hb, ↓reduceIte, array_set, i32_add, i32_mul, MockDisplay_pixels, pure, MockDisplay_with_pixels]
  · have hb : (decide (p.x ≥ 0) && decide (p.y ≥ 0) && decide (p.x < 64) && decide (p.y < 64)) = false := by
      rw [Bool.eq_false_iff]; simp only [ne_eq, Bool.and_eq_true, decide_eq_true_eq]; omega
    rw [if_neg h]
    simp only [bind, MutRes.bind, at_state, rs_assert, bool_and, i32_ge, Point_x, Point_y, i32_lt, SIZE_as_i32,
      hb, Bool.false_eq_true, ↓reduceIte]

theorem MockDisplay_set_pixel_src_eq_model (d : MD) (p : Pt) (c : Option Color) :
    toRes (MockDisplay_set_pixel d p c) = optRes d (d.setPixel p c) := by
  rw [set_pixel_src, MD.setPixel]
  split
  · exact MockDisplay_set_pixel_unchecked_toRes d p c
  · rfl

theorem MockDisplay_set_pixel_panic_msg (d : MD) (p : Pt) (c : Option Color) (h : ¬ Inside p) :
    MockDisplay_set_pixel d p c = .panic "point must be inside display bounding box: {:?}" d := by
  rw [set_pixel_src, if_neg (by unfold Inside at h; omega)]

theorem MockDisplay_draw_pixel_src_eq_model (d : MD) (p : Pt) (c : Color) :
    toRes (MockDisplay_draw_pixel d p c) = d.drawPixel p c := by
  unfold MockDisplay_draw_pixel MD.drawPixel
  simp only [bool_not, DISPLAY_AREA_src_eq_model, contains_display_src, MockDisplay_allow_out_of_bounds_drawing,
    bind, MutRes.bind, at_state, pure, bool_and_lazy, MockDisplay_allow_overdraw, option_is_some]
  rw [← MockDisplay_get_pixel_src_eq_model]
  by_cases h1 : (!displayArea.contains p) = true <;> simp only [h1, ↓reduceIte, Bool.false_eq_true]
  · by_cases h2 : (!d.allowOob) = true <;> simp only [h2, ↓reduceIte, toRes, Bool.false_eq_true]
  · by_cases h3 : (!d.allowOverdraw) = true <;> simp only [h3, ↓reduceIte, toRes, Bool.false_eq_true]
    · cases MockDisplay_get_pixel d p with
      | panic m s => simp only [toOpt]
      | ok v =>
        simp only [toOpt]
        cases hv : v.isSome <;> simp only [toRes, ↓reduceIte, Bool.false_eq_true]
        exact MockDisplay_set_pixel_unchecked_toRes d p (some c)
    · exact MockDisplay_set_pixel_unchecked_toRes d p (some c)

/-- a `for` loop over `&mut self` calls against a recursion of the hand model that stops at the first panic. -/
theorem loopM_res {α : Type} (F : α → MD → MutRes MD MD) (M : MD → List α → Res) (hnil : ∀ d, M d [] = .ok d)
    (hcons : ∀ d a rest, M d (a :: rest) = match toRes (F a d) with
      | .ok d' => M d' rest
      | .panic d' => .panic d') :
    ∀ (l : List α) (d : MD), toRes (loopM F l d) = M d l
  | [], d => (hnil d).symm
  | a :: rest, d => by
    rw [hcons, loopM]
    cases F a d with
    | ok v => rw [bind_ok]; exact loopM_res F M hnil hcons rest v
    | panic m s => rfl

theorem DrawTarget_draw_iter_src_eq_model (ws : Writes) (d : MD) : toRes (DrawTarget_draw_iter d ws) = d.drawIter ws := by
  unfold DrawTarget_draw_iter
  simp only [bind_def, pure_def, iter_into_iter]
  rw [forIn_yield (fun (pixel : Pt × Color) (s : MD) => MockDisplay_draw_pixel s pixel.1 pixel.2), bind_ok_right]
  exact loopM_res _ MD.drawIter (fun _ => rfl)
    (fun d w rest => by rw [MockDisplay_draw_pixel_src_eq_model]; rfl) ws d

theorem MockDisplay_set_pixels_src_eq_model (pts : List Pt) (c : Option Color) (d : MD) :
    toRes (MockDisplay_set_pixels d pts c) = d.setPixels c pts := by
  unfold MockDisplay_set_pixels
  simp only [bind_def, pure_def]
  rw [forIn_yield (fun (point : Pt) (s : MD) => MockDisplay_set_pixel s point c), bind_ok_right]
  exact loopM_res _ (fun d pts => d.setPixels c pts) (fun _ => rfl)
    (fun d p rest => by
      rw [MockDisplay_set_pixel_src_eq_model]
      show d.setPixels c (p :: rest) = _
      rw [MD.setPixels]
      cases d.setPixel p c <;> rfl) pts d

theorem display_points : Rectangle_points (OriginDimensions_bounding_box displayArea.size) = displayArea.points := by
  simp only [Rectangle_points, OriginDimensions_bounding_box]; rfl

theorem toOpt_set_pixel_unchecked (m : MD) (p : Pt) (c : Option Color) :
    toOpt (MockDisplay_set_pixel_unchecked m p c) = m.setPixelUnchecked p c := by
  rw [MockDisplay_set_pixel_unchecked_src_eq_model]; cases m.setPixelUnchecked p c <;> rfl

/-- `swap_xy` (the unchecked accesses can panic in the model too; `toOpt` keeps that). -/
theorem MockDisplay_swap_xy_src_eq_model (a : MD) : toOpt (MockDisplay_swap_xy a) = a.swapXy := by
  unfold MockDisplay_swap_xy MD.swapXy
  simp only [bind_def, pure_def, MockDisplay_new_src_eq_model, OriginDimensions_size_src_eq_model, bind_ok, display_points]
  generalize displayArea.points = l
  rw [forIn_yield' _ (fun (point : Pt) (s : MD) => (MockDisplay_get_pixel a (RectSrc.Point_new (Point_y point) (Point_x point))).bind
      (fun c => at_state () (MockDisplay_set_pixel_unchecked s point c))) (by intro p s; rw [bind_assoc]), bind_ok_right]
  refine loopM_foldl _ _ (fun _ => rfl) ?_ l MD.new
  intro p m
  simp only [EG.C16.Src.Point_new_src_eq_model, Point_x, Point_y]
  rw [← MockDisplay_get_pixel_src_eq_model]
  cases MockDisplay_get_pixel a ⟨p.y, p.x⟩ with
  | ok v => simp only [bind_ok, toOpt_at_state, toOpt_set_pixel_unchecked, toOpt_ok]
  | panic ms s => simp only [bind_panic, toOpt_panic]

theorem MockDisplay_map_src_eq_model (a : MD) (f : Color → Color) : toOpt (MockDisplay_map a f) = a.map f := by
  unfold MockDisplay_map MD.map
  simp only [bind_def, pure_def, MockDisplay_new_src_eq_model, OriginDimensions_size_src_eq_model, bind_ok, display_points]
  generalize displayArea.points = l
  rw [forIn_yield' _ (fun (point : Pt) (s : MD) => (MockDisplay_get_pixel a point).bind
      (fun c => at_state () (MockDisplay_set_pixel_unchecked s point (option_map c f)))) (by intro p s; rw [bind_assoc]), bind_ok_right]
  refine loopM_foldl _ _ (fun _ => rfl) ?_ l MD.new
  intro p m
  rw [← MockDisplay_get_pixel_src_eq_model]
  cases MockDisplay_get_pixel a p with
  | ok v => simp only [bind_ok, toOpt_at_state, toOpt_set_pixel_unchecked, toOpt_ok, option_map]
  | panic ms s => simp only [bind_panic, toOpt_panic]

theorem diff_colours_src :
    ColorSrc.impl_rgb_color_GREEN (ColorSrcPrelude.type_named "Rgb888") = GREEN ∧
    ColorSrc.impl_rgb_color_RED (ColorSrcPrelude.type_named "Rgb888") = RED ∧
    ColorSrc.impl_rgb_color_BLUE (ColorSrcPrelude.type_named "Rgb888") = BLUE := by decide +kernel

theorem MockDisplay_diff_src_eq_model (a b : MD) : toOpt (MockDisplay_diff a b) = a.diff b := by
  unfold MockDisplay_diff MD.diff
  simp only [bind_def, pure_def, MockDisplay_new_src_eq_model, OriginDimensions_size_src_eq_model, bind_ok, display_points]
  generalize displayArea.points = l
  rw [forIn_yield' _ (fun (point : Pt) (s : MD) => (MockDisplay_get_pixel a point).bind (fun sc =>
      (MockDisplay_get_pixel b point).bind (fun oc => at_state () (MockDisplay_set_pixel_unchecked s point (diffColor sc oc)))))
      (by
        intro p s
        rw [bind_assoc]; congr 1; funext sc
        rw [bind_assoc]; congr 1; funext oc
        congr 2
        cases sc <;> cases oc <;> simp only [diffColor, rs_ne, diff_colours_src.1, diff_colours_src.2.1, diff_colours_src.2.2]),
    bind_ok_right]
  refine loopM_foldl _ _ (fun _ => rfl) ?_ l MD.new
  intro p m
  unfold diffStep
  simp only []
  rw [← MockDisplay_get_pixel_src_eq_model, ← MockDisplay_get_pixel_src_eq_model]
  cases MockDisplay_get_pixel a p with
  | panic ms s => simp only [bind_panic, toOpt_panic]
  | ok v =>
    cases MockDisplay_get_pixel b p with
    | panic ms s => simp only [bind_ok, bind_panic, toOpt_panic, toOpt_ok]
    | ok w => simp only [bind_ok, toOpt_at_state, toOpt_set_pixel_unchecked, toOpt_ok]

theorem PartialEq_eq_src_eq_model (a b : MD) : PartialEq_eq a b = .ok (a.eq b) := rfl

theorem aaStep_src : (fun (x : Option Pt × Option Pt) (point : Pt) =>
      (option_or (option_map x.fst (fun tl => Pt.componentMin tl point)) (some point),
       option_or (option_map x.snd (fun br => Pt.componentMax br point)) (some point))) = aaStep := by
  funext x point
  obtain ⟨a, b⟩ := x
  cases a <;> cases b <;> rfl

theorem MockDisplay_affected_area_src_eq_model (d : MD) : MockDisplay_affected_area d = .ok d.affectedArea := by
  unfold MockDisplay_affected_area MD.affectedArea MD.touched
  simp only [bind_def, pure_def, OriginDimensions_size_src_eq_model, bind_ok, display_points]
  simp only [option_or, option_map, EG.C16.Src.Point_component_min_src_eq_model,
    EG.C16.Src.Point_component_max_src_eq_model, iter_filter_map, iter_zip, array_iter, MockDisplay_pixels,
    EG.C16.Src.with_corners_src_eq_model, EG.C16.Src.zero_src_eq_model]
  have h := aaStep_src
  simp only [option_map, option_or] at h
  rw [h]
  generalize List.foldl aaStep (none, none) _ = r
  obtain ⟨a, b⟩ := r
  cases a <;> cases b <;> rfl

theorem affectedArea_fits (d : MD) : EG.C16.Src.FitsI32 d.affectedArea.size := by
  rcases affectedArea_spec d with ⟨_, h⟩ | ⟨tl, br, h, ht⟩
  · rw [h]; decide
  · rw [h]
    obtain ⟨_, ⟨l, hl, hl'⟩, ⟨t, ht1, ht'⟩, ⟨r, hr, hr'⟩, ⟨b, hb, hb'⟩⟩ := ht
    have h1 := ((mem_touched d l).mp hl).1
    have h2 := ((mem_touched d t).mp ht1).1
    have h3 := ((mem_touched d r).mp hr).1
    have h4 := ((mem_touched d b).mp hb).1
    unfold Inside at h1 h2 h3 h4
    simp only [Rect.withCorners, EG.C16.Src.FitsI32]
    omega

/-- `affected_area_origin` (private; used by the fancy panic only). -/
theorem MockDisplay_affected_area_origin_src_eq_model (d : MD) : MockDisplay_affected_area_origin d = .ok d.affectedAreaOrigin := by
  unfold MockDisplay_affected_area_origin MD.affectedAreaOrigin
  simp only [bind_def, pure_def, MockDisplay_affected_area_src_eq_model, bind_ok, EG.C16.Src.bottom_right_src_eq_model _ (affectedArea_fits d),
    EG.C16.Src.with_corners_src_eq_model, EG.C16.Src.Point_zero_src_eq_model]
  cases d.affectedArea.bottomRight <;> rfl

theorem MockDisplay_from_points_src_eq_model (pts : List Pt) (c : Color) :
    toOpt (MockDisplay_from_points pts c) =
      match MD.new.setPixels (some c) pts with
      | .ok d => some d
      | .panic _ => none := by
  unfold MockDisplay_from_points
  simp only [bind_def, MockDisplay_new_src_eq_model, bind_ok, toOpt_at_state]
  rw [← MockDisplay_set_pixels_src_eq_model]
  cases MockDisplay_set_pixels MD.new pts (some c) <;> rfl

end EG.C20.Generated
