/-
  C20 / swap_xy, map — the two whole-display transformations of `MockDisplay`.

  The harness compares `swap_xy` and `map` with the model on every accepted `mock.pattern` op
  (`sw=`, `mp=`). Both are in the model (`MD.swapXy`, `MD.map`,
  EG/Model/MockDisplay.lean: folds over the 64 x 64 points with the unchecked `get_pixel` /
  `set_pixel_unchecked`, a panic being `none`). Proved here for every display content: neither can
  panic; cell `(x, y)` of `swap_xy` is cell `(y, x)`; every cell of `map(f)` is the source cell with
  `f` applied (empty cells stay empty); the results carry the default flags; `swap_xy` twice and
  `map(id)` give displays that compare equal (`PartialEq`) to the original; `map` composes and
  commutes with `swap_xy`.
  Helper lemmas: EG/Lemmas/MockArea.lean.
-/
import EG.Lemmas.MockArea
import EG.Props.C20
namespace EG.C20.SwapMap
open EG EG.Mock

/-- `swap_xy` never panics (all 4096 unchecked accesses are inside the array). -/
theorem swap_xy_total (a : MD) : ∃ D, a.swapXy = some D :=
  (swapXy_spec a).1

/-- **`swap_xy` cells**: the cell at `(x, y)` of the result is the cell at `(y, x)` of the source —
colour or empty — for all 64 x 64 cells. -/
theorem swap_xy_cells (a D : MD) (h : a.swapXy = some D) (p : Pt) (hp : Inside p) :
    D.getPixel p = a.getPixel ⟨p.y, p.x⟩ := by
  rw [getPixel_inside D hp, getPixel_inside a (inside_swap hp), ((swapXy_spec a).2 D h).2 p hp]
example : Inside ⟨5, 9⟩ := by decide

/-- The result is a fresh display: overdraw and out-of-bounds drawing are NOT allowed on it,
whatever the source's flags were. -/
theorem swap_xy_flags (a D : MD) (h : a.swapXy = some D) :
    D.allowOverdraw = false ∧ D.allowOob = false :=
  ((swapXy_spec a).2 D h).1

/-- **`swap_xy` is an involution** up to `PartialEq` (which ignores the flags): swapping twice
gives a display equal to the original. -/
theorem swap_xy_involutive (a D1 D2 : MD) (h1 : a.swapXy = some D1) (h2 : D1.swapXy = some D2) :
    D2.eq a = true := by
  rw [EG.C20.eq_iff_cells]
  intro p hp
  rw [swap_xy_cells D1 D2 h2 p hp, swap_xy_cells a D1 h1 ⟨p.y, p.x⟩ (inside_swap hp)]
example : ∃ D1 D2, (MD.new.upd 5 (some 1)).swapXy = some D1 ∧ D1.swapXy = some D2 := by
  obtain ⟨D1, h1⟩ := swap_xy_total (MD.new.upd 5 (some 1))
  obtain ⟨D2, h2⟩ := swap_xy_total D1
  exact ⟨D1, D2, h1, h2⟩

/-- `map` never panics. -/
theorem map_total (a : MD) (f : Color → Color) : ∃ D, a.map f = some D :=
  (map_spec a f).1

/-- **`map` cells**: every cell of `map(f)` is the source cell with `f` applied to its colour; an
empty cell stays empty — for all 64 x 64 cells. -/
theorem map_cells (a D : MD) (f : Color → Color) (h : a.map f = some D) (p : Pt) (hp : Inside p) :
    D.getPixel p = (a.getPixel p).map (Option.map f) := by
  rw [getPixel_inside D hp, getPixel_inside a hp, ((map_spec a f).2 D h).2 p hp]; rfl

/-- The result of `map` is a fresh display (default flags). -/
theorem map_flags (a D : MD) (f : Color → Color) (h : a.map f = some D) :
    D.allowOverdraw = false ∧ D.allowOob = false :=
  ((map_spec a f).2 D h).1

/-- `map(identity)` equals the original (`PartialEq`). -/
theorem map_id (a D : MD) (h : a.map (fun c => c) = some D) : D.eq a = true := by
  rw [EG.C20.eq_iff_cells]
  intro p hp
  rw [map_cells a D _ h p hp, getPixel_inside a hp]
  cases a.cell p <;> rfl

/-- `map` composes: `map(g)` after `map(f)` equals `map(g . f)`. -/
theorem map_comp (a D1 D2 D3 : MD) (f g : Color → Color) (h1 : a.map f = some D1)
    (h2 : D1.map g = some D2) (h3 : a.map (fun c => g (f c)) = some D3) : D2.eq D3 = true := by
  rw [EG.C20.eq_iff_cells]
  intro p hp
  rw [map_cells D1 D2 g h2 p hp, map_cells a D1 f h1 p hp, map_cells a D3 _ h3 p hp,
    getPixel_inside a hp]
  cases a.cell p <;> rfl

/-- `map` commutes with `swap_xy`. -/
theorem map_swap_comm (a S M SM MS : MD) (f : Color → Color) (hs : a.swapXy = some S)
    (hm : a.map f = some M) (hsm : S.map f = some SM) (hms : M.swapXy = some MS) :
    SM.eq MS = true := by
  rw [EG.C20.eq_iff_cells]
  intro p hp
  rw [map_cells S SM f hsm p hp, swap_xy_cells a S hs p hp, swap_xy_cells M MS hms p hp,
    map_cells a M f hm ⟨p.y, p.x⟩ (inside_swap hp)]

/-- Concrete run: a display with one pixel at (5, 0). -/
example : ∃ D, (MD.new.upd 5 (some 1)).swapXy = some D ∧ D.getPixel ⟨0, 5⟩ = some (some 1) ∧
    D.getPixel ⟨5, 0⟩ = some none := by
  obtain ⟨D, h⟩ := swap_xy_total (MD.new.upd 5 (some 1))
  refine ⟨D, h, ?_, ?_⟩
  · rw [swap_xy_cells _ D h ⟨0, 5⟩ (by decide), getPixel_inside _ (by decide), MD.cell,
      get_upd _ _ _ _ (by decide), if_pos (by decide)]
  · rw [swap_xy_cells _ D h ⟨5, 0⟩ (by decide), getPixel_inside _ (by decide), MD.cell,
      get_upd _ _ _ _ (by decide), if_neg (by decide), get_new]

end EG.C20.SwapMap
