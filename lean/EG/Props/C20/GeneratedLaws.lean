/-
  C20 — the headline theorems restated over the code REGENERATED FROM THE RUST TEXT (EG/Generated/MockSrc.lean).

  `srcRun` replays a history with the generated functions (`MockDisplay_draw_pixel`, `DrawTarget_draw_iter`,
  `MockDisplay_set_pixel`, the two flag setters; `fill_contiguous` / `fill_solid` / `clear` are the trait defaults, i.e.
  `draw_iter` of `Call.lowerDefault`: tied to the source by Props/C03/GeneratedAdapters.lean). By `src_run_eq_model` it
  is the hand model's `MD.run`, so every theorem of Props/C20.lean carries over: the statements below mention only
  generated functions and the vocabulary of the property text (`Inside`, `lastTo`, `Touched`).
-/
import EG.Props.C20.GeneratedColors
import EG.Props.C20.Types
namespace EG.C20.GeneratedLaws
open EG EG.Mock EG.RectSrcPrelude EG.MockSrcPrelude EG.MockSrcLemmas EG.Generated EG.Generated.MockSrc EG.C20.Generated

def srcStep (d : MD) : Op → MutRes MD MD
  | .drawPixel p c => MockDisplay_draw_pixel d p c
  | .call c => DrawTarget_draw_iter d (c.lowerDefault displayArea)
  | .setPixel p c => MockDisplay_set_pixel d p c
  | .setOverdraw v => MockDisplay_set_allow_overdraw d v
  | .setOob v => MockDisplay_set_allow_out_of_bounds_drawing d v

def srcRun (d : MD) : List Op → MutRes MD MD
  | [] => .ok d
  | o :: rest => (srcStep d o).bind (fun d' => srcRun d' rest)

theorem src_step_eq_model (d : MD) (o : Op) : toRes (srcStep d o) = d.step o := by
  cases o with
  | drawPixel p c => exact MockDisplay_draw_pixel_src_eq_model d p c
  | call c => exact DrawTarget_draw_iter_src_eq_model _ d
  | setPixel p c =>
    simp only [srcStep, MD.step]
    rw [MockDisplay_set_pixel_src_eq_model]
    cases d.setPixel p c <;> rfl
  | setOverdraw v => rfl
  | setOob v => rfl

theorem src_run_eq_model (ops : List Op) (d : MD) : toRes (srcRun d ops) = d.run ops := by
  induction ops generalizing d with
  | nil => rfl
  | cons o rest ih =>
    have hs := src_step_eq_model d o
    simp only [srcRun, MD.run]
    rw [← hs]
    cases srcStep d o with
    | ok v => rw [bind_ok]; simp only [toRes]; exact ih v
    | panic m s => rw [bind_panic]; rfl

theorem src_run_ok {d0 d : MD} {ops : List Op} (h : srcRun d0 ops = .ok d) : d0.run ops = .ok d := by
  rw [← src_run_eq_model, h]; rfl

theorem src_get_pixel_inside (d : MD) {p : Pt} (hp : Inside p) : MockDisplay_get_pixel d p = .ok (d.cell p) :=
  toOpt_eq_some (by rw [MockDisplay_get_pixel_src_eq_model, getPixel_inside d hp])

/-- HEADLINE over generated code: after any non-panicking history (generated `draw_pixel` / `draw_iter` / `set_pixel` / flag
setters) from a fresh display, the generated `get_pixel` returns, for every cell, the colour last drawn to it and `None`
if it was never written. -/
theorem src_get_pixel_last_drawn (d0 d : MD) (ops : List Op) (hnew : d0.pixels = MD.new.pixels)
    (h : srcRun d0 ops = .ok d) (p : Pt) (hp : Inside p) :
    MockDisplay_get_pixel d p = .ok (lastTo (ops.flatMap Op.writes) p none) := by
  have hm := history_refines_map_new d0 d ops hnew (src_run_ok h) p hp
  rw [getPixel_inside d hp, Option.some.injEq] at hm
  rw [src_get_pixel_inside d hp, hm]

example : ∃ d, srcRun (MD.new.setAllowOob true)
    [.drawPixel ⟨1, 2⟩ 5, .drawPixel ⟨-1, 70⟩ 9, .call (.fillSolid ⟨⟨3, 3⟩, ⟨2, 1⟩⟩ 7)] = .ok d ∧ Inside ⟨1, 2⟩ := by
  obtain ⟨d, hd⟩ : ∃ d, (MD.new.setAllowOob true).run
      [.drawPixel ⟨1, 2⟩ 5, .drawPixel ⟨-1, 70⟩ 9, .call (.fillSolid ⟨⟨3, 3⟩, ⟨2, 1⟩⟩ 7)] = .ok d := ⟨_, rfl⟩
  rw [← src_run_eq_model] at hd
  cases hr : srcRun (MD.new.setAllowOob true)
      [.drawPixel ⟨1, 2⟩ 5, .drawPixel ⟨-1, 70⟩ 9, .call (.fillSolid ⟨⟨3, 3⟩, ⟨2, 1⟩⟩ 7)] with
  | ok v => exact ⟨v, rfl, by decide⟩
  | panic m s => rw [hr] at hd; cases hd

/-- histories of `DrawTarget` calls: the generated `get_pixel` is the pixel map of the other properties' recording targets. -/
theorem src_drawing_history_last_write (d0 d : MD) (calls : List Call) (hnew : d0.pixels = MD.new.pixels)
    (h : srcRun d0 (calls.map Op.call) = .ok d) (p : Pt) (hp : Inside p) :
    MockDisplay_get_pixel d p = .ok (lastWrite (calls.flatMap (Call.lowerDefault displayArea)) p) := by
  have hm := drawing_history_last_write d0 d calls hnew (src_run_ok h) p hp
  rw [getPixel_inside d hp, Option.some.injEq] at hm
  rw [src_get_pixel_inside d hp, hm]

theorem toRes_isOk_false_iff (r : MutRes MD MD) : (toRes r).isOk = false ↔ ∃ m s, r = .panic m s := by
  cases r with
  | ok v => simp [toRes, Res.isOk]
  | panic m s => simp [toRes, Res.isOk]

/-- HEADLINE over generated code: the generated `draw_pixel` panics exactly when the point is outside while the bounds
check is on, or inside on a cell already drawn while the overdraw check is on. -/
theorem src_draw_pixel_panics_iff (d : MD) (p : Pt) (c : Color) :
    (∃ m s, MockDisplay_draw_pixel d p c = .panic m s) ↔
      (¬ Inside p ∧ d.allowOob = false) ∨
      (Inside p ∧ d.allowOverdraw = false ∧ ∃ old, MockDisplay_get_pixel d p = .ok (some old)) := by
  rw [← toRes_isOk_false_iff, MockDisplay_draw_pixel_src_eq_model, panics_iff]
  have hg : (∃ old, d.getPixel p = some (some old)) ↔ ∃ old, MockDisplay_get_pixel d p = .ok (some old) := by
    rw [← MockDisplay_get_pixel_src_eq_model]
    cases MockDisplay_get_pixel d p with
    | ok v => simp [toOpt]
    | panic m s => simp [toOpt]
  rw [hg]

/-- ... and a panicking generated `draw_pixel` leaves the display as it was. -/
theorem src_draw_pixel_panic_state (d s : MD) (p : Pt) (c : Color) (m : String)
    (h : MockDisplay_draw_pixel d p c = .panic m s) : s = d := by
  have := MockDisplay_draw_pixel_src_eq_model d p c
  rw [h] at this
  exact panic_leaves_display d s p c this.symm

/-- the two panic messages of `draw_pixel`, and which one fires. -/
theorem src_draw_pixel_panic_msg_outside (d : MD) (p : Pt) (c : Color) (h : ¬ Inside p) (ha : d.allowOob = false) :
    MockDisplay_draw_pixel d p c = .panic "tried to draw pixel outside the display area (x: {}, y: {})" d := by
  have hc : displayArea.contains p = false := by
    rw [Bool.eq_false_iff]; intro h'; exact h (contains_iff_inside.mp h')
  unfold MockDisplay_draw_pixel
  simp only [bool_not, DISPLAY_AREA_src_eq_model, contains_display_src, hc, Bool.not_false, ↓reduceIte,
    MockDisplay_allow_out_of_bounds_drawing, ha, bind, MutRes.bind, at_state]

example : ¬ Inside ⟨64, 0⟩ ∧ MD.new.allowOob = false := by decide

theorem src_draw_pixel_panic_msg_twice (d : MD) (p : Pt) (c old : Color) (h : Inside p) (ha : d.allowOverdraw = false)
    (hg : MockDisplay_get_pixel d p = .ok (some old)) :
    MockDisplay_draw_pixel d p c = .panic "tried to draw pixel twice (x: {}, y: {})" d := by
  have hc : displayArea.contains p = true := contains_iff_inside.mpr h
  unfold MockDisplay_draw_pixel
  simp only [bool_not, DISPLAY_AREA_src_eq_model, contains_display_src, hc, Bool.not_true, Bool.false_eq_true,
    ↓reduceIte, bind, MutRes.bind, at_state, bool_and_lazy, MockDisplay_allow_overdraw, ha, Bool.not_false, hg, pure,
    option_is_some, Option.isSome]

/-- generated `draw_iter` (hence the inherited `fill_contiguous` / `fill_solid` / `clear`) panics exactly when one of its
pixels is outside with the bounds check on, or hits a cell the display held or an earlier pixel of the call drew with the
overdraw check on. -/
theorem src_draw_iter_panics_iff (d : MD) (ws : Writes) :
    (∃ m s, DrawTarget_draw_iter d ws = .panic m s) ↔
      ∃ pre w post, ws = pre ++ w :: post ∧
        ((¬ Inside w.1 ∧ d.allowOob = false) ∨
         (Inside w.1 ∧ d.allowOverdraw = false ∧ (lastTo (drawWrites pre) w.1 (d.cell w.1)).isSome = true)) := by
  rw [← toRes_isOk_false_iff, DrawTarget_draw_iter_src_eq_model, draw_iter_panics_iff]

/-- what a panicking generated `draw_iter` leaves behind: exactly the pixels before the offending one are drawn. -/
theorem src_draw_iter_panic_state (d s : MD) (ws : Writes) (m : String) (h : DrawTarget_draw_iter d ws = .panic m s) :
    ∃ pre w post, ws = pre ++ w :: post ∧ toRes (DrawTarget_draw_iter d pre) = .ok s ∧
      ∃ m' s', MockDisplay_draw_pixel s w.1 w.2 = .panic m' s' := by
  have hm := DrawTarget_draw_iter_src_eq_model ws d
  rw [h] at hm
  obtain ⟨pre, w, post, e, hpre, hw⟩ := draw_iter_panic_state d s ws hm.symm
  refine ⟨pre, w, post, e, ?_, ?_⟩
  · rw [DrawTarget_draw_iter_src_eq_model]; exact hpre
  · rw [← toRes_isOk_false_iff, MockDisplay_draw_pixel_src_eq_model]; exact hw

example : ∃ m s, DrawTarget_draw_iter MD.new [(⟨0, 0⟩, 1), (⟨0, 0⟩, 2)] = .panic m s := by
  rw [← toRes_isOk_false_iff, DrawTarget_draw_iter_src_eq_model]; rfl

/-- generated `set_pixel` panics exactly outside the display, whatever the flags. -/
theorem src_set_pixel_panics_iff (d : MD) (p : Pt) (c : Option Color) :
    (∃ m s, MockDisplay_set_pixel d p c = .panic m s) ↔ ¬ Inside p := by
  rw [← toRes_isOk_false_iff, MockDisplay_set_pixel_src_eq_model, ← set_pixel_panics_iff d p c]
  cases d.setPixel p c <;> simp [optRes, Res.isOk]

/-- generated `eq` never panics and is true exactly when all 64 x 64 cells (read by the generated `get_pixel`) agree. -/
theorem src_eq_iff_cells (a b : MD) :
    PartialEq_eq a b = .ok true ↔ ∀ p, Inside p → MockDisplay_get_pixel a p = MockDisplay_get_pixel b p := by
  rw [PartialEq_eq_src_eq_model, MutRes.ok.injEq, eq_iff_cells]
  refine forall_congr' fun p => forall_congr' fun hp => ?_
  rw [src_get_pixel_inside a hp, src_get_pixel_inside b hp, getPixel_inside a hp, getPixel_inside b hp,
    MutRes.ok.injEq, Option.some.injEq]

/-- generated `diff` never panics, and its result compares equal to a fresh display exactly when the two displays
compare equal. -/
theorem src_diff_empty_iff_eq (a b : MD) :
    ∃ D, MockDisplay_diff a b = .ok D ∧ (PartialEq_eq D MD.new = .ok true ↔ PartialEq_eq a b = .ok true) := by
  obtain ⟨D, hD⟩ := diff_total a b
  refine ⟨D, toOpt_eq_some ((MockDisplay_diff_src_eq_model a b).trans hD), ?_⟩
  rw [PartialEq_eq_src_eq_model, PartialEq_eq_src_eq_model, MutRes.ok.injEq, MutRes.ok.injEq]
  exact diff_empty_iff_eq a b D hD

/-- generated `affected_area` never panics and is the tight bounding box of the touched cells: it contains each of
them, and any rectangle containing them all contains it; zero-sized when nothing is touched. -/
theorem src_affected_area_tight (d : MD) :
    ∃ r, MockDisplay_affected_area d = .ok r ∧
      (∀ p, Touched d p → r.contains p = true) ∧
      (∀ r' : Rect, (∀ p, Touched d p → r'.contains p = true) → ∀ q, r.contains q = true → r'.contains q = true) ∧
      ((¬ ∃ p, Touched d p) → r = Rect.zero) :=
  ⟨d.affectedArea, MockDisplay_affected_area_src_eq_model d, affected_area_contains d, affected_area_least d,
    affected_area_zero_of_untouched d⟩

/-- every function of every `impl` of `MockDisplay` is translated except the four formatting-only assertion helpers
(an added function, e.g. a `fill_solid` override of `DrawTarget`, would be translated and appear in `translated`). -/
theorem mock_untranslated_pinned :
    MockSrc.untranslated = ["assert_eq", "assert_eq_with_message", "assert_pattern", "assert_pattern_with_message"] ∧
    MockSrc.translated.length = 46 ∧
    "DrawTarget_draw_iter" ∈ MockSrc.translated.map (·.1) ∧
    "DrawTarget_fill_solid" ∉ MockSrc.translated.map (·.1) ∧ "DrawTarget_fill_contiguous" ∉ MockSrc.translated.map (·.1) ∧
    "DrawTarget_clear" ∉ MockSrc.translated.map (·.1) := by decide +kernel

/-- the colour types with a regenerated `ColorMapping` impl are the model's `allCT` (and the list tr_mock.py reads). -/
theorem mock_mapping_types_pinned :
    MockSrc.mappingTypes.map ctOfRustName = allCT.map some ∧
    MockSrc.mappingTypes = EG.Generated.MockTypes.mappingTypes.map (·.1) := by decide +kernel

end EG.C20.GeneratedLaws
