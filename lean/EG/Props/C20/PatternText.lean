/-
  C20 / from_pattern's assertions and the framing of the `{:?}` text.

  * `from_pattern` makes four checks in a fixed order (first row at most 64 bytes wide; at most 64
    rows; every row as wide as the first, in bytes; every character a space or one `char_to_color`
    accepts). The model `fromPattern` transcribes them arm for arm; `from_pattern_decision` is the
    decision table: each of the five outcomes characterised by the input alone, so "which assertion
    fires first" is a theorem about the model (the tie model <-> code is the `err=` field of every
    `mock.pattern` op).
  * The `{:?}` text is modelled completely (`MD.debugText`: "MockDisplay[", the rows,
    "(n empty rows skipped)", "]") and compared with the real text through the hash `dh=` on every
    `mock.hist` op. `debug_text_is_frame_of_rows`: the whole text is a function of the printed rows
    (`frameText`): the header, one line per printed row of exactly 64 characters, the skipped-rows line
    with `n = 64 - number of printed rows` exactly when `n > 0`, the closing line. Hence the round-trip
    theorems of Props/C20.lean, which speak about the rows, carry over to the complete text.
-/
import EG.Lemmas.MockPatternText
import EG.Props.C20
namespace EG.C20.PatternText
open EG EG.Mock

/-- **Which assertion of `from_pattern` fires**: `panicWidth` iff the first row is wider than 64
bytes (whatever else is wrong); else `panicHeight` iff there are more than 64 rows; else `panicRow` iff
some row's byte width differs from the first row's; else `panicChar` iff some character is neither a
space nor accepted by `char_to_color`; else the display built from the converted rows. -/
theorem from_pattern_decision (ct : CT) (pattern : List (List Char)) :
    (fromPattern ct pattern = .panicWidth ↔ 64 < patWidth pattern) ∧
    (fromPattern ct pattern = .panicHeight ↔ patWidth pattern ≤ 64 ∧ 64 < pattern.length) ∧
    (fromPattern ct pattern = .panicRow ↔ patWidth pattern ≤ 64 ∧ pattern.length ≤ 64 ∧
      ∃ r ∈ pattern, rowLen r ≠ patWidth pattern) ∧
    (fromPattern ct pattern = .panicChar ↔ patWidth pattern ≤ 64 ∧ pattern.length ≤ 64 ∧
      (∀ r ∈ pattern, rowLen r = patWidth pattern) ∧
      ∃ r ∈ pattern, ∃ c ∈ r, c ≠ ' ' ∧ charToColor ct c = none) ∧
    (∀ d, fromPattern ct pattern = .ok d ↔ patWidth pattern ≤ 64 ∧ pattern.length ≤ 64 ∧
      (∀ r ∈ pattern, rowLen r = patWidth pattern) ∧
      ∃ rows, convRows ct pattern = some rows ∧ d = ⟨cellsOfPattern rows, false, false⟩) := by
  refine ⟨?_, ?_, ?_, ?_, fromPattern_ok_iff ct pattern⟩
  all_goals
    -- the four tests of the `if` chain, in order; each row of the table is then read off
    rw [fromPattern_unfold]
    by_cases hw : patWidth pattern ≤ 64
    · have hw' := Nat.not_lt.mpr hw
      by_cases hh : pattern.length ≤ 64
      · have hh' := Nat.not_lt.mpr hh
        by_cases hr : ∀ r ∈ pattern, rowLen r = patWidth pattern
        · have hr' := (all_rows_iff pattern _).mpr hr
          have hr'' : ¬ ∃ r ∈ pattern, rowLen r ≠ patWidth pattern := fun ⟨r, hm, hne⟩ => hne (hr r hm)
          cases hc : convRows ct pattern with
          | none => simp [hw, hw', hh, hh', eq_true hr, hr', hr'', eq_true ((convRows_none_iff ct pattern).mp hc)]
          | some rows =>
            have hx : ¬ ∃ r ∈ pattern, ∃ c ∈ r, c ≠ ' ' ∧ charToColor ct c = none := by
              rw [← convRows_none_iff, hc]; simp
            simp [hw, hw', hh, hh', eq_true hr, hr', hr'', hx]
        · have hr' : ¬ pattern.all (fun r => rowLen r == patWidth pattern) = true :=
            fun h => hr ((all_rows_iff pattern _).mp h)
          have hr'' : ∃ r ∈ pattern, rowLen r ≠ patWidth pattern := by simpa using hr
          simp [hw, hw', hh, hh', hr, hr', eq_true hr'']
      · simp [hw, hw', hh, Nat.lt_of_not_le hh]
    · simp [hw, Nat.lt_of_not_le hw]

/-- `pattern.first().map_or(0, |row| row.len())`: 0 for the empty pattern, else the BYTE length of the
first row. -/
theorem pat_width_eq (r : List Char) (rest : List (List Char)) :
    patWidth [] = 0 ∧ patWidth (r :: rest) = rowLen r := ⟨rfl, rfl⟩

/-- The order matters: an over-wide first row wins over everything else, an over-tall pattern over a
ragged one, a ragged one over an unknown character (kernel-evaluated instances). -/
theorem from_pattern_precedence :
    fromPattern .binary (List.replicate 65 (List.replicate 65 'x')) = .panicWidth ∧
    fromPattern .binary (['#'] :: List.replicate 64 ['x', 'x']) = .panicHeight ∧
    fromPattern .binary [['#'], ['x', 'x']] = .panicRow ∧
    fromPattern .binary [['#'], ['x']] = .panicChar :=
  ⟨((from_pattern_decision _ _).1).mpr (by decide), ((from_pattern_decision _ _).2.1).mpr (by decide),
    ((from_pattern_decision _ _).2.2.1).mpr (by decide), ((from_pattern_decision _ _).2.2.2.1).mpr (by decide)⟩

/-- The width check is on BYTES (`str::len`): a row of 33 two-byte characters is rejected as too wide
although it has fewer than 64 characters. -/
theorem from_pattern_width_in_bytes :
    (List.replicate 33 'é').length = 33 ∧ fromPattern .binary [List.replicate 33 'é'] = .panicWidth :=
  ⟨by decide, ((from_pattern_decision _ _).1).mpr (by decide)⟩

/-- The printed rows: `64 - empty_rows` of them, each of exactly 64 characters; `empty_rows <= 64`. -/
theorem debug_rows_shape (ct : CT) (d : MD) :
    (d.debugRows ct).length = 64 - d.emptyRows ∧ d.emptyRows ≤ 64 ∧ ∀ r ∈ d.debugRows ct, r.length = 64 :=
  ⟨debugRows_length ct d, emptyRows_le d, debugRows_row_length ct d⟩

/-- **The complete `{:?}` text is the frame around the printed rows**: "MockDisplay[\n", each printed
row followed by "\n", "(n empty rows skipped)\n" with `n = 64 - number of printed rows` iff `n > 0`,
"]\n" — a function of the printed rows alone. -/
theorem debug_text_is_frame_of_rows (ct : CT) (d : MD) : d.debugText ct = frameText (d.debugRows ct) := by
  have hl := debugRows_length ct d
  have he := emptyRows_le d
  have hn : 64 - (d.debugRows ct).length = d.emptyRows := by omega
  unfold MD.debugText frameText
  simp only [hn]

theorem frame_text_eq (rows : List (List Char)) :
    frameText rows = "MockDisplay[\n" ++ String.join (rows.map (fun r => String.ofList r ++ "\n")) ++
      (if 64 - rows.length > 0 then "(" ++ toString (64 - rows.length) ++ " empty rows skipped)\n" else "") ++
      "]\n" := rfl

/-- Evaluated: the empty display, and a display with one pixel in row 2. -/
theorem debug_text_examples :
    MD.new.debugText .binary = "MockDisplay[\n(64 empty rows skipped)\n]\n" ∧
    (MD.new.upd (2 * 64 + 1) (some 1)).debugText .binary =
      "MockDisplay[\n" ++ String.ofList (List.replicate 64 ' ') ++ "\n" ++
      String.ofList (List.replicate 64 ' ') ++ "\n" ++
      String.ofList (' ' :: '#' :: List.replicate 62 ' ') ++ "\n(61 empty rows skipped)\n]\n" := by
  constructor <;> decide +kernel

/-- Two displays that print the same rows print the same text. -/
theorem debug_text_congr (ct : CT) (d d' : MD) (h : d.debugRows ct = d'.debugRows ct) :
    d.debugText ct = d'.debugText ct := by
  rw [debug_text_is_frame_of_rows, debug_text_is_frame_of_rows, h]
example : (MD.new.upd 5 (some 1)).debugRows .binary =
    (⟨(MD.new.upd 5 (some 1)).pixels, false, false⟩ : MD).debugRows .binary := rfl

/-- **display -> text -> display -> text, on the complete text**: for every display over its type's
colour set, `from_pattern` of the printed rows is a display that prints the very same `{:?}` text. -/
theorem debug_text_roundtrip (ct : CT) (d : MD)
    (hpal : ∀ p, Inside p → ∀ c, d.getPixel p = some (some c) → c ∈ palette ct) :
    ∃ d', fromPattern ct (d.debugRows ct) = .ok d' ∧ d'.debugText ct = d.debugText ct :=
  ⟨⟨d.pixels, false, false⟩, fromPattern_debugRows ct d (good_of_getPixel ct d hpal), rfl⟩
example : ∀ p, Inside p → ∀ c, (MD.new.upd 5 (some 1)).getPixel p = some (some c) → c ∈ palette .binary := by
  intro p hp c hc
  rw [getPixel_inside _ hp, MD.cell, get_upd _ _ _ _ (by decide), get_new] at hc
  split at hc
  · cases hc; decide
  · cases hc

/-- **text -> display -> text, on the complete text**: for every accepted pattern the `{:?}` text of
`from_pattern(pattern)` is the frame around the pattern's normal form (canonical characters, rows
padded to 64 columns, trailing blank rows dropped and counted in the skipped-rows line). -/
theorem pattern_debug_text (ct : CT) (pat : List (List Char)) (d : MD) (h : fromPattern ct pat = .ok d) :
    d.debugText ct = frameText (dropTrailing blankRow (pat.map (normRow ct))) := by
  rw [debug_text_is_frame_of_rows, C20.debug_pattern_roundtrip ct pat d h]
example : ∃ d, fromPattern .gray4 [['a', ' ', '3'], [' ', ' ', ' ']] = .ok d :=
  ⟨_, fromPattern_ok .gray4 _ [[some 10, none, some 3], [none, none, none]] 3 (by omega)
    (by decide) (by decide) (by decide)⟩

end EG.C20.PatternText
