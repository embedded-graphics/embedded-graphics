/-
  C20 — the `ColorMapping` impls REGENERATED FROM THE RUST TEXT (color_mapping.rs; the two macros expanded per
  invocation) equal the hand model's `charToColor` / `colorToChar`.

  `char_to_color`: for EVERY `char` (the panic of the source is `none`). `color_to_char`: for every VALID colour value of the
  type (`c < 2 ^ bits`: a colour is its raw value here, and `Nat` lacks the type bound; the hand model reduces modulo the
  width instead, which is the same on valid values). The colour constants are the regenerated ones of ColorSrc.lean
  (`Self::RED` = `impl_rgb_color_RED (type_named "Rgb565")`), so this also ties `RgbLayout.named` to the colour layer.
-/
import EG.Props.C20.Generated
namespace EG.C20.GeneratedColors
open EG EG.Mock EG.RectSrcPrelude EG.MockSrcPrelude EG.MockSrcLemmas EG.Generated EG.Generated.MockSrc EG.C20.Generated
open EG.ColorSrcPrelude (type_named)

/-- a valid colour value of the type (`Nat` lacks the bound). -/
def ValidColor (ct : CT) (c : Color) : Prop := c < 2 ^ ct.bits
instance (ct : CT) (c : Color) : Decidable (ValidColor ct c) := by unfold ValidColor; exact inferInstance
example : ValidColor .rgb565 0xF800 := by decide

theorem char_to_digit_4 (ch : Char) : char_to_digit ch 4 = toDigit4 ch := by
  simp only [char_to_digit, toDigit4]
  generalize ch.toNat = n
  by_cases h1 : 48 ≤ n ∧ n ≤ 57
  · simp only [h1, and_self, ↓reduceIte]
    by_cases h2 : n ≤ 51
    · have : n - 48 < 4 := by omega
      simp only [this, ↓reduceIte, h2, and_self]
    · have : ¬ n - 48 < 4 := by omega
      have h3 : ¬ (48 ≤ n ∧ n ≤ 51) := by omega
      simp [this, h2]
  · have h3 : ¬ (48 ≤ n ∧ n ≤ 51) := by omega
    simp only [h1, ↓reduceIte, h3]
    by_cases h4 : 97 ≤ n ∧ n ≤ 102
    · have : ¬ n - 87 < 4 := by omega
      simp only [h4, and_self, ↓reduceIte, this]
    · simp only [h4, ↓reduceIte]
      by_cases h5 : 65 ≤ n ∧ n ≤ 70
      · have : ¬ n - 55 < 4 := by omega
        simp only [h5, and_self, ↓reduceIte, this]
      · simp only [h5, ↓reduceIte]

theorem char_to_digit_eq (ch : Char) (r : Nat) :
    char_to_digit ch r = (toDigit16 ch).bind (fun v => if v < r then some v else none) := by
  change (match toDigit16 ch with | some v => if v < r then some v else none | none => none) = _
  cases toDigit16 ch <;> rfl

theorem char_to_digit_16 (ch : Char) : char_to_digit ch 16 = toDigit16 ch := by
  rw [char_to_digit_eq]
  cases h : toDigit16 ch with
  | none => rfl
  | some d => exact if_pos (toDigit16_lt h)

theorem BinaryColor_char_to_color_src_eq_model (ch : Char) :
    toOpt (BinaryColor_char_to_color ch) = charToColor .binary ch := by
  unfold BinaryColor_char_to_color
  simp only [charToColor]
  split
  · rfl
  · rfl
  · rename_i h1 h2
    have e1 : ¬ ch = '.' := fun h => h1 h
    have e2 : ¬ ch = '#' := fun h => h2 h
    simp only [e1, e2, ↓reduceIte]; rfl

theorem BinaryColor_color_to_char_src_eq_model : ∀ c < 2, toOpt (BinaryColor_color_to_char c) = some (colorToChar .binary c) := by
  decide +kernel

theorem gray_new_small :
    (∀ d < 4, ColorSrc.gray_color_new (type_named "Gray2") (u32_as_u8 d) = d) ∧
    (∀ d < 16, ColorSrc.gray_color_new (type_named "Gray4") (u32_as_u8 d) = d) ∧
    (∀ d < 16, toOpt ((u8_mul (u32_as_u8 d) 17).bind
        (fun v => (MutRes.ok (ColorSrc.gray_color_new (type_named "Gray8") v) : Panics Nat))) = some (d * 17)) := by decide +kernel

theorem Gray2_char_to_color_src_eq_model (ch : Char) : toOpt (Gray2_char_to_color ch) = charToColor .gray2 ch := by
  unfold Gray2_char_to_color
  simp only [charToColor, char_to_digit_4, pure_def]
  cases h : toDigit4 ch with
  | none => rfl
  | some d => simp only [toOpt]; rw [gray_new_small.1 d (toDigit4_lt h)]

theorem Gray4_char_to_color_src_eq_model (ch : Char) : toOpt (Gray4_char_to_color ch) = charToColor .gray4 ch := by
  unfold Gray4_char_to_color
  simp only [charToColor, char_to_digit_16, pure_def]
  cases h : toDigit16 ch with
  | none => rfl
  | some d => simp only [toOpt]; rw [gray_new_small.2.1 d (toDigit16_lt h)]

theorem Gray8_char_to_color_src_eq_model (ch : Char) : toOpt (Gray8_char_to_color ch) = charToColor .gray8 ch := by
  unfold Gray8_char_to_color
  simp only [charToColor, char_to_digit_16, pure_def, bind_def]
  cases h : toDigit16 ch with
  | none => rfl
  | some d => exact gray_new_small.2.2 d (toDigit16_lt h)

theorem Gray2_color_to_char_src_eq_model : ∀ c < 4, toOpt (Gray2_color_to_char c) = some (colorToChar .gray2 c) := by
  decide +kernel
theorem Gray4_color_to_char_src_eq_model : ∀ c < 16, toOpt (Gray4_color_to_char c) = some (colorToChar .gray4 c) := by
  decide +kernel
theorem Gray8_color_to_char_src_eq_model : ∀ c < 256, toOpt (Gray8_color_to_char c) = some (colorToChar .gray8 c) := by
  decide +kernel

/-! ### the eight RGB types (`impl_rgb_color_mapping!`, expanded per invocation)

Every expansion is the same `match` / the same `if` chain over the eight named constants of its type; the two lemmas
below are about that shape with the constants as variables, and a type enters only through its table `namedSrc`. -/

/-- `char_to_color` of the macro: a `match` on the eight characters is a `lookup` in the table. -/
theorem named_match_src {k r g b y m c w : Color} {l : RgbLayout}
    (hn : [('K', k), ('R', r), ('G', g), ('B', b), ('Y', y), ('M', m), ('C', c), ('W', w)] = l.named)
    (msg : String) (ch : Char) :
    toOpt (match ch with
      | 'K' => pure k | 'R' => pure r | 'G' => pure g | 'B' => pure b
      | 'Y' => pure y | 'M' => pure m | 'C' => pure c | 'W' => pure w
      | _ => rs_panic msg : Panics Color) = l.named.lookup ch := by
  rw [← hn]
  split
  -- the eight characters of the table evaluate on both sides; for any other one every key comparison fails
  iterate 8 rfl
  rename_i h1 h2 h3 h4 h5 h6 h7 h8
  simp only [List.lookup, beq_false_of_ne h1, beq_false_of_ne h2, beq_false_of_ne h3, beq_false_of_ne h4,
    beq_false_of_ne h5, beq_false_of_ne h6, beq_false_of_ne h7, beq_false_of_ne h8]
  rfl

def namedChar (t : List (Char × Color)) (x : Color) : Char :=
  match t.find? (fun e => e.2 == x) with
  | some e => e.1
  | none => '?'

/-- one `if color == Self::V { ch } else ..` of `color_to_char` is one step of `find?` through the table. -/
theorem named_if_step (ch : Char) (v x : Color) (rest : Panics Char) (t : List (Char × Color))
    (h : toOpt rest = some (namedChar t x)) :
    toOpt (if rs_eq x v then pure ch else rest) = some (namedChar ((ch, v) :: t) x) := by
  unfold namedChar
  by_cases hv : x = v
  · subst hv
    simp only [rs_eq, beq_self_eq_true, if_true, List.find?_cons_of_pos]
    rfl
  · have hv' : ¬ ((v == x) = true) := fun e => hv (eq_of_beq e).symm
    rw [List.find?_cons_of_neg (p := fun e : Char × Color => e.2 == x) (a := (ch, v)) hv',
      if_neg (fun e => hv (eq_of_beq e))]
    exact h

/-- `color_to_char` of the macro on a valid value `x < n` (the model reduces modulo `n = 2 ^ bits`). -/
theorem named_ifs_src {k r g b y m c w : Color} {l : RgbLayout}
    (hn : [('K', k), ('R', r), ('G', g), ('B', b), ('Y', y), ('M', m), ('C', c), ('W', w)] = l.named)
    {x n : Nat} (hx : x < n) :
    toOpt (if rs_eq x k then pure 'K' else if rs_eq x r then pure 'R' else if rs_eq x g then pure 'G'
      else if rs_eq x b then pure 'B' else if rs_eq x y then pure 'Y' else if rs_eq x m then pure 'M'
      else if rs_eq x c then pure 'C' else if rs_eq x w then pure 'W' else pure '?' : Panics Char)
    = some (namedChar l.named (x % n)) := by
  rw [← hn, Nat.mod_eq_of_lt hx]
  iterate 8 apply named_if_step
  rfl

/-- the table of the eight `(char, Self::CONST)` pairs of the macro, for the colour type `t` of ColorSrc.lean. -/
def namedSrc (t : ColorSpec) : List (Char × Color) :=
  [('K', ColorSrc.impl_rgb_color_BLACK t), ('R', ColorSrc.impl_rgb_color_RED t), ('G', ColorSrc.impl_rgb_color_GREEN t),
   ('B', ColorSrc.impl_rgb_color_BLUE t), ('Y', ColorSrc.impl_rgb_color_YELLOW t), ('M', ColorSrc.impl_rgb_color_MAGENTA t),
   ('C', ColorSrc.impl_rgb_color_CYAN t), ('W', ColorSrc.impl_rgb_color_WHITE t)]

theorem Rgb332_named_src : namedSrc (type_named "Rgb332") = (⟨3, 3, 2, false⟩ : RgbLayout).named := by decide +kernel

theorem Rgb332_char_to_color_src_eq_model (ch : Char) : toOpt (Rgb332_char_to_color ch) = charToColor .rgb332 ch :=
  named_match_src Rgb332_named_src _ ch

theorem Rgb332_color_to_char_src_eq_model (c : Color) (h : ValidColor .rgb332 c) :
    toOpt (Rgb332_color_to_char c) = some (colorToChar .rgb332 c) :=
  named_ifs_src Rgb332_named_src h

theorem Rgb444_named_src : namedSrc (type_named "Rgb444") = (⟨4, 4, 4, false⟩ : RgbLayout).named := by decide +kernel

theorem Rgb444_char_to_color_src_eq_model (ch : Char) : toOpt (Rgb444_char_to_color ch) = charToColor .rgb444 ch :=
  named_match_src Rgb444_named_src _ ch

theorem Rgb444_color_to_char_src_eq_model (c : Color) (h : ValidColor .rgb444 c) :
    toOpt (Rgb444_color_to_char c) = some (colorToChar .rgb444 c) :=
  named_ifs_src Rgb444_named_src h

theorem Rgb555_named_src : namedSrc (type_named "Rgb555") = (⟨5, 5, 5, false⟩ : RgbLayout).named := by decide +kernel

theorem Rgb555_char_to_color_src_eq_model (ch : Char) : toOpt (Rgb555_char_to_color ch) = charToColor .rgb555 ch :=
  named_match_src Rgb555_named_src _ ch

theorem Rgb555_color_to_char_src_eq_model (c : Color) (h : ValidColor .rgb555 c) :
    toOpt (Rgb555_color_to_char c) = some (colorToChar .rgb555 c) :=
  named_ifs_src Rgb555_named_src h

theorem Bgr555_named_src : namedSrc (type_named "Bgr555") = (⟨5, 5, 5, true⟩ : RgbLayout).named := by decide +kernel

theorem Bgr555_char_to_color_src_eq_model (ch : Char) : toOpt (Bgr555_char_to_color ch) = charToColor .bgr555 ch :=
  named_match_src Bgr555_named_src _ ch

theorem Bgr555_color_to_char_src_eq_model (c : Color) (h : ValidColor .bgr555 c) :
    toOpt (Bgr555_color_to_char c) = some (colorToChar .bgr555 c) :=
  named_ifs_src Bgr555_named_src h

theorem Rgb565_named_src : namedSrc (type_named "Rgb565") = (⟨5, 6, 5, false⟩ : RgbLayout).named := by decide +kernel

theorem Rgb565_char_to_color_src_eq_model (ch : Char) : toOpt (Rgb565_char_to_color ch) = charToColor .rgb565 ch :=
  named_match_src Rgb565_named_src _ ch

theorem Rgb565_color_to_char_src_eq_model (c : Color) (h : ValidColor .rgb565 c) :
    toOpt (Rgb565_color_to_char c) = some (colorToChar .rgb565 c) :=
  named_ifs_src Rgb565_named_src h

theorem Bgr565_named_src : namedSrc (type_named "Bgr565") = (⟨5, 6, 5, true⟩ : RgbLayout).named := by decide +kernel

theorem Bgr565_char_to_color_src_eq_model (ch : Char) : toOpt (Bgr565_char_to_color ch) = charToColor .bgr565 ch :=
  named_match_src Bgr565_named_src _ ch

theorem Bgr565_color_to_char_src_eq_model (c : Color) (h : ValidColor .bgr565 c) :
    toOpt (Bgr565_color_to_char c) = some (colorToChar .bgr565 c) :=
  named_ifs_src Bgr565_named_src h

theorem Rgb888_named_src : namedSrc (type_named "Rgb888") = (⟨8, 8, 8, false⟩ : RgbLayout).named := by decide +kernel

theorem Rgb888_char_to_color_src_eq_model (ch : Char) : toOpt (Rgb888_char_to_color ch) = charToColor .rgb888 ch :=
  named_match_src Rgb888_named_src _ ch

theorem Rgb888_color_to_char_src_eq_model (c : Color) (h : ValidColor .rgb888 c) :
    toOpt (Rgb888_color_to_char c) = some (colorToChar .rgb888 c) :=
  named_ifs_src Rgb888_named_src h

theorem Bgr888_named_src : namedSrc (type_named "Bgr888") = (⟨8, 8, 8, true⟩ : RgbLayout).named := by decide +kernel

theorem Bgr888_char_to_color_src_eq_model (ch : Char) : toOpt (Bgr888_char_to_color ch) = charToColor .bgr888 ch :=
  named_match_src Bgr888_named_src _ ch

theorem Bgr888_color_to_char_src_eq_model (c : Color) (h : ValidColor .bgr888 c) :
    toOpt (Bgr888_color_to_char c) = some (colorToChar .bgr888 c) :=
  named_ifs_src Bgr888_named_src h

theorem ColorMapping_char_to_color_src_eq_model (C : CT) (ch : Char) :
    toOpt (ColorMapping_char_to_color C ch) = charToColor C ch := by
  cases C
  · exact BinaryColor_char_to_color_src_eq_model ch
  · exact Gray2_char_to_color_src_eq_model ch
  · exact Gray4_char_to_color_src_eq_model ch
  · exact Gray8_char_to_color_src_eq_model ch
  · exact Rgb332_char_to_color_src_eq_model ch
  · exact Rgb444_char_to_color_src_eq_model ch
  · exact Rgb555_char_to_color_src_eq_model ch
  · exact Bgr555_char_to_color_src_eq_model ch
  · exact Rgb565_char_to_color_src_eq_model ch
  · exact Bgr565_char_to_color_src_eq_model ch
  · exact Rgb888_char_to_color_src_eq_model ch
  · exact Bgr888_char_to_color_src_eq_model ch

theorem ColorMapping_color_to_char_src_eq_model (C : CT) (c : Color) (h : ValidColor C c) :
    toOpt (ColorMapping_color_to_char C c) = some (colorToChar C c) := by
  cases C
  · exact BinaryColor_color_to_char_src_eq_model c h
  · exact Gray2_color_to_char_src_eq_model c h
  · exact Gray4_color_to_char_src_eq_model c h
  · exact Gray8_color_to_char_src_eq_model c h
  · exact Rgb332_color_to_char_src_eq_model c h
  · exact Rgb444_color_to_char_src_eq_model c h
  · exact Rgb555_color_to_char_src_eq_model c h
  · exact Bgr555_color_to_char_src_eq_model c h
  · exact Rgb565_color_to_char_src_eq_model c h
  · exact Bgr565_color_to_char_src_eq_model c h
  · exact Rgb888_color_to_char_src_eq_model c h
  · exact Bgr888_color_to_char_src_eq_model c h

/-- outside the valid range the regenerated gray `color_to_char` PANICS (`from_digit(..).unwrap()`) where the hand model
reduces modulo the width: the guard is needed (no Rust value of the type is outside the range). -/
theorem color_to_char_differs_without_guard :
    toOpt (ColorMapping_color_to_char .gray2 4) = none ∧ colorToChar .gray2 4 = '0' := by decide +kernel

end EG.C20.GeneratedColors
