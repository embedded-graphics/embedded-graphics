/-
  C20 — the `Debug` impl and `from_pattern` REGENERATED FROM THE RUST TEXT against the hand model.

  `Debug::fmt` is proved to write, for EVERY display whose cells hold valid colour values of the type: the header line, then
  exactly the model's `MD.debugRows` (one line per row, `chunks(64).take(64 - empty_rows)`, a space for `None`, the type's
  character otherwise), then the "(n empty rows skipped)" line exactly when the model's `MD.emptyRows` (`rchunks(64)
  .take_while(all None).count()`) is positive, with that number, then "]" (`renderDebug`, which only sequences the
  prelude's two write primitives), and that these writes concatenate to the `String` `MD.debugText`
  (`Debug_fmt_text_src_eq_model`). `from_pattern`: for every pattern, a panic exactly where the model's `fromPattern`
  rejects, the model's display otherwise.
-/
import EG.Props.C20.GeneratedColors
namespace EG.C20.GeneratedPattern
open EG EG.Mock EG.RectSrcPrelude EG.MockSrcPrelude EG.MockSrcLemmas EG.Generated EG.Generated.MockSrc EG.C20.Generated
open EG.C20.GeneratedColors

def renderDebug (f : Formatter) (rows : List (List Char)) (e : Nat) : Formatter :=
  let f1 := fmt_writeln f "MockDisplay[" []
  let f2 := rows.foldl (fun s row => fmt_writeln (row.foldl fmt_write_char s) "" []) f1
  let f3 := if e > 0 then fmt_writeln f2 "({} empty rows skipped)" [usize_display e] else f2
  fmt_writeln f3 "]" []

/-- every cell of the display holds a valid colour value of the type (`Nat` lacks the type bound). -/
def CellsValid (C : CT) (d : MD) : Prop := ∀ c ∈ d.pixels.toList, ∀ col, c = some col → ValidColor C col

example : CellsValid .rgb565 MD.new := by
  intro c hc col h
  have : c = none := by
    simp only [MD.new, Vector.toList_replicate, List.mem_replicate] at hc
    exact hc.2
  rw [this] at h; cases h

theorem array_chunks_src (d : MD) : array_chunks (MockDisplay_pixels d) MockSrc.SIZE = d.rows := by
  show chunksFuel 64 d.pixels.toList.length d.pixels.toList = chunks64 d.pixels.toList 64
  exact chunksFuel_eq_chunks64 64 _ _ (pixels_length d) (by rw [pixels_length]; omega)

theorem array_rchunks_src (d : MD) : array_rchunks (MockDisplay_pixels d) MockSrc.SIZE = d.rows.reverse := by
  show rchunksFuel 64 d.pixels.toList.length d.pixels.toList = (chunks64 d.pixels.toList 64).reverse
  exact rchunksFuel_eq_chunks64 64 _ _ (pixels_length d) (by rw [pixels_length]; omega)

theorem empty_rows_src (d : MD) :
    iter_count (iter_take_while (array_rchunks (MockDisplay_pixels d) MockSrc.SIZE)
      (fun row => iter_all (slice_iter row) (fun x => option_is_none x))) = d.emptyRows := by
  rw [array_rchunks_src]; rfl

/-- the body of the inner loop of `Debug::fmt`: one cell. -/
def cellStepSrc (C : CT) (color : Option Color) (s : Formatter) : Panics Formatter :=
  (option_map_or_p color ' ' (fun x => ColorMapping_color_to_char C x)).bind fun ch => MutRes.ok (fmt_write_char s ch)

/-- the body of the outer loop: one row, then the line end. -/
def rowStepSrc (C : CT) (row : List (Option Color)) (s : Formatter) : Panics Formatter :=
  (loopM (cellStepSrc C) row s).bind fun s' => MutRes.ok (fmt_writeln s' "" [])

theorem row_loop_src (C : CT) : ∀ (row : List (Option Color)) (s : Formatter),
    (∀ c ∈ row, ∀ col, c = some col → ValidColor C col) →
    toOpt (loopM (cellStepSrc C) row s) = some ((row.map (showCell C)).foldl fmt_write_char s)
  | [], s, _ => rfl
  | c :: rest, s, hv => by
    have hrest : ∀ c' ∈ rest, ∀ col, c' = some col → ValidColor C col :=
      fun c' hc' => hv c' (List.mem_cons_of_mem _ hc')
    simp only [loopM, cellStepSrc, List.map_cons, List.foldl_cons]
    cases c with
    | none =>
      simp only [option_map_or_p, bind_ok, showCell]
      exact row_loop_src C rest _ hrest
    | some col =>
      have hc := ColorMapping_color_to_char_src_eq_model C col (hv (some col) (List.mem_cons_self) col rfl)
      simp only [option_map_or_p, toOpt_eq_some hc, bind_ok, showCell]
      exact row_loop_src C rest _ hrest

theorem rows_loop_src (C : CT) : ∀ (rows : List (List (Option Color))) (s : Formatter),
    (∀ row ∈ rows, ∀ c ∈ row, ∀ col, c = some col → ValidColor C col) →
    toOpt (loopM (rowStepSrc C) rows s)
      = some ((rows.map (fun row => row.map (showCell C))).foldl
          (fun s row => fmt_writeln (row.foldl fmt_write_char s) "" []) s)
  | [], s, _ => rfl
  | row :: rest, s, hv => by
    have hok := toOpt_eq_some (row_loop_src C row s (hv row List.mem_cons_self))
    simp only [loopM, rowStepSrc, List.map_cons, List.foldl_cons, hok, bind_ok]
    exact rows_loop_src C rest _ (fun r hr' => hv r (List.mem_cons_of_mem _ hr'))

theorem Debug_fmt_src_eq_model (C : CT) (d : MD) (f : Formatter) (hv : CellsValid C d) :
    toOpt (Debug_fmt C d f) = some (renderDebug f (d.debugRows C) d.emptyRows) := by
  unfold Debug_fmt
  simp only [bind_def, pure_def, empty_rows_src, array_chunks_src]
  have hsub : usize_sub MockSrc.SIZE d.emptyRows = .ok (64 - d.emptyRows) := by
    simp only [usize_sub, SIZE_src_eq_model, Mock.SIZE, emptyRows_le d, ↓reduceIte]
  rw [hsub, bind_ok]
  have hvalid : ∀ row ∈ List.take (64 - d.emptyRows) d.rows, ∀ c ∈ row, ∀ col, c = some col → ValidColor C col := by
    intro row hrow c hc col hcol
    refine hv c ?_ col hcol
    rw [← rows_flatten]
    exact List.mem_flatten.mpr ⟨row, List.mem_of_mem_take hrow, hc⟩
  have hok := toOpt_eq_some
    (rows_loop_src C (List.take (64 - d.emptyRows) d.rows) (fmt_writeln f "MockDisplay[" []) hvalid)
  rw [forIn_yield' _ (rowStepSrc C) (by
    intro row s
    rw [forIn_yield' _ (cellStepSrc C) (by intro c s'; unfold cellStepSrc; rw [bind_assoc]; rfl)]
    unfold rowStepSrc
    rw [bind_assoc]
    congr 1)]
  simp only [iter_take, hok, bind_ok, renderDebug, debugRows_eq, usize_gt]
  by_cases he : d.emptyRows > 0
  · simp only [he, decide_true, ↓reduceIte, toOpt]
  · simp only [he, decide_false, Bool.false_eq_true, ↓reduceIte, toOpt]

theorem fmtSubst_skipped (a : String) :
    fmtSubst "({} empty rows skipped)".toList [a] = "(".toList ++ a.toList ++ " empty rows skipped)".toList := by
  -- the literal is cut at its one placeholder; the kernel decodes the pieces
  rw [show "({} empty rows skipped)" = "(" ++ "{}" ++ " empty rows skipped)" from by decide +kernel,
    String.toList_append, String.toList_append,
    show "(".toList = ['('] from by decide +kernel, show "{}".toList = ['{', '}'] from by decide +kernel]
  show fmtSubst ('(' :: '{' :: '}' :: _) [a] = _
  rw [fmtSubst.eq_2 _ _ _ (fun _ _ _ _ h => absurd h (by decide)), fmtSubst.eq_1, fmtSubst_nil]
  rfl

theorem renderDebug_eq_debugText (C : CT) (d : MD) (f : String) :
    renderDebug f (d.debugRows C) d.emptyRows = f ++ d.debugText C := by
  apply String.ext
  unfold renderDebug MD.debugText
  have l1 : "MockDisplay[\n".toList = "MockDisplay[".toList ++ ['\n'] := by decide +kernel
  have l2 : " empty rows skipped)\n".toList = " empty rows skipped)".toList ++ ['\n'] := by decide +kernel
  have l3 : "]\n".toList = "]".toList ++ ['\n'] := by decide +kernel
  have l4 : "\n".toList = ['\n'] := by decide +kernel
  have l5 : "".toList = [] := String.toList_empty
  -- both sides flatten to: header line, the rows each with its '\n', the skipped-rows line if any, "]\n";
  -- without a skipped-rows line an empty string is left to remove (`l5`)
  by_cases he : d.emptyRows > 0
  · simp only [he, ↓reduceIte, fmt_writeln, String.toList_append, rows_fold_toList, String.toList_ofList,
      fmtSubst_nil "MockDisplay[".toList, fmtSubst_nil "]".toList, fmtSubst_skipped, usize_display, String.toList_join, List.flatMap_map,
      l1, l2, l3, l4, List.append_assoc, List.append_nil]
  · simp only [he, ↓reduceIte, fmt_writeln, String.toList_append, rows_fold_toList, String.toList_ofList,
      fmtSubst_nil "MockDisplay[".toList, fmtSubst_nil "]".toList, fmtSubst_skipped, usize_display, String.toList_join, List.flatMap_map,
      l1, l2, l3, l4, List.append_assoc, List.append_nil]
    simp only [l5, List.nil_append, List.append_nil]

theorem Debug_fmt_text_src_eq_model (C : CT) (d : MD) (f : Formatter) (hv : CellsValid C d) :
    toOpt (Debug_fmt C d f) = some (f ++ d.debugText C) := by
  rw [Debug_fmt_src_eq_model C d f hv, renderDebug_eq_debugText]

/-! ### `from_pattern`

`pattern_colors` is a LAZY iterator (`List (Panics (Option Color))`: the `map` closure calls `C::char_to_color`, which can
panic); the final `for` loop pulls its 4096 elements one by one and stores them. `seqO` (EG/Lemmas/MockPattern.lean) is "pull
everything, `none` at the first panic". The width / height / row assertions come first, so when the loop runs every row has
at most 64 chars (`length_le_rowLen`: chars ≤ UTF-8 bytes) and there are at most 64 rows: no `take` cuts a converted char. -/

/-- `xs.chain(repeat(e)).take(n)` for a lazy iterator `xs` (`fuel` is what `iter::repeat` runs on). -/
def padLZ {α : Type} (xs : List (Panics α)) (fuel : Nat) (e : α) (n : Nat) : List (Panics α) :=
  iter_take (iter_chain xs (iter_lift (iter_repeat fuel e))) n

theorem padLZ_length {α : Type} (xs : List (Panics α)) {fuel n : Nat} (hf : n ≤ fuel) (e : α) :
    (padLZ xs fuel e n).length = n := by
  simp only [padLZ, iter_take, iter_chain, iter_lift, iter_repeat, List.length_take, List.length_append, List.length_map,
    List.length_replicate]
  omega

/-- pulled to its end, `xs` of at most `n` elements gives its values padded with `e` to `n`. -/
theorem padLZ_opt {α : Type} (xs : List (Panics α)) {fuel n : Nat} (hf : n ≤ fuel) (hx : xs.length ≤ n) (e : α) :
    seqO ((padLZ xs fuel e n).map toOpt) = (seqO (xs.map toOpt)).map (fun vs => vs ++ List.replicate (n - xs.length) e) := by
  have hmap : (padLZ xs fuel e n).map toOpt = xs.map toOpt ++ (List.replicate (n - xs.length) e).map some := by
    simp only [padLZ, iter_take, iter_chain, iter_lift, iter_repeat]
    rw [List.take_append, List.take_of_length_le hx, List.map_append, ← List.map_take, List.map_map, List.take_replicate,
      Nat.min_eq_left (by omega), List.map_replicate, List.map_replicate]
    rfl
  rw [hmap, seqO_append, seqO_some]
  cases seqO (xs.map toOpt) <;> rfl

/-- the conversion closure of `from_pattern`. -/
def convSrc (C : CT) (c : Char) : Panics (Option Color) :=
  match c with
  | ' ' => MutRes.ok none
  | _ => MutRes.bind (ColorMapping_char_to_color C c) fun v => MutRes.ok (some v)

theorem convSrc_eq (C : CT) (c : Char) : toOpt (convSrc C c) = convChar C c := by
  unfold convSrc convChar
  split
  · rfl
  · rename_i h
    have hne : ¬ c = ' ' := fun e => h e
    simp only [hne, ↓reduceIte]
    rw [← ColorMapping_char_to_color_src_eq_model]
    cases ColorMapping_char_to_color C c <;> rfl

/-- the row closure of `from_pattern`: a lazy iterator of 64 cells. -/
def rowLZ (C : CT) (fuel : Nat) (row : List Char) : List (Panics (Option Color)) :=
  padLZ (iter_map_lazy (str_chars row) (convSrc C)) fuel none 64

theorem rowLZ_opt (C : CT) (fuel : Nat) (hf : 64 ≤ fuel) (row : List Char) (hr : row.length ≤ 64) :
    seqO ((rowLZ C fuel row).map toOpt) = (convRow C row).map padRow := by
  have hconv : (iter_map_lazy (str_chars row) (convSrc C)).map toOpt = row.map (convChar C) := by
    rw [List.map_map]
    exact List.map_congr_left (fun c _ => convSrc_eq C c)
  rw [rowLZ, padLZ_opt _ hf (by rw [List.length_map]; exact hr), hconv, ← convRow_eq_seqO, List.length_map]
  cases hc : convRow C row with
  | none => rfl
  | some cs =>
    have hl := convRow_length C hc
    show some _ = some (padRow cs)
    rw [padRow, take_append_replicate cs none (by omega), hl]

theorem flatLZ_opt (C : CT) (fuel : Nat) (hf : 64 ≤ fuel) : ∀ (pat : List (List Char)), (∀ row ∈ pat, row.length ≤ 64) →
    seqO ((pat.flatMap (rowLZ C fuel)).map toOpt) = (convRows C pat).map (fun rows => rows.flatMap padRow)
  | [], _ => rfl
  | r :: rest, h => by
    have ih := flatLZ_opt C fuel hf rest (fun row hr => h row (List.mem_cons_of_mem _ hr))
    rw [List.flatMap_cons, List.map_append, seqO_append, rowLZ_opt C fuel hf r (h r List.mem_cons_self), ih]
    simp only [convRows]
    cases convRow C r <;> cases convRows C rest <;> simp

theorem flatLZ_length (C : CT) (fuel : Nat) (hf : 64 ≤ fuel) : ∀ (pat : List (List Char)),
    (pat.flatMap (rowLZ C fuel)).length = 64 * pat.length
  | [] => rfl
  | r :: rest => by
    rw [List.flatMap_cons, List.length_append, rowLZ, padLZ_length _ hf, flatLZ_length C fuel hf rest, List.length_cons]
    omega

/-- the whole lazy iterator `pattern_colors`. -/
def allLZ (C : CT) (fuel : Nat) (pat : List (List Char)) : List (Panics (Option Color)) :=
  padLZ (iter_flat_map (slice_iter pat) (rowLZ C fuel)) fuel none 4096

theorem allLZ_opt (C : CT) (fuel : Nat) (hf : 4096 ≤ fuel) (pat : List (List Char)) (hp : pat.length ≤ 64)
    (hr : ∀ row ∈ pat, row.length ≤ 64) :
    seqO ((allLZ C fuel pat).map toOpt) = (convRows C pat).map patternColors := by
  have hlen := flatLZ_length C fuel (by omega) pat
  rw [allLZ, padLZ_opt _ hf (by rw [iter_flat_map, hlen]; omega), iter_flat_map, slice_iter,
    flatLZ_opt C fuel (by omega) pat hr, hlen]
  cases hc : convRows C pat with
  | none => rfl
  | some rows =>
    have hfl := flatMap_padRow_length rows
    show some _ = some (patternColors rows)
    rw [patternColors, take_append_replicate _ none (by rw [hfl, convRows_length C pat rows hc]; omega), hfl,
      convRows_length C pat rows hc]

/-- the body of the copy loop of `from_pattern`: pull the element (run its computation), store it. -/
def storeLZ (x : Nat × Panics (Option Color)) (s : MD) : Panics MD :=
  x.2.bind fun c => (array_set (MockDisplay_pixels s) x.1 c).bind fun v => MutRes.ok (MockDisplay_with_pixels s v)

/-- the copy loop from slot `k` on, for a display with the default flags whose first `k` cells are `pre`: if every pulled
computation yields a value the display ends up holding `pre` followed by those values, and the loop panics exactly when
one of them panics. -/
theorem storeLZ_loop : ∀ (LZ : List (Panics (Option Color))) (k : Nat) (d : MD), k + LZ.length = 4096 →
    ∀ pre : List (Option Color), d.pixels.toList.take k = pre → d.allowOverdraw = false → d.allowOob = false →
    toOpt (loopM storeLZ ((List.range' k LZ.length).zip LZ) d)
      = (seqO (LZ.map toOpt)).bind (fun L => if h : (pre ++ L).length = 4096
          then some ⟨⟨(pre ++ L).toArray, by simpa using h⟩, false, false⟩ else none)
  | [], k, d, h, pre, hpre, ho, hb => by
    have hk : k = 4096 := by simpa using h
    have hl : pre = d.pixels.toList := by rw [← hpre, List.take_of_length_le (by simp; omega)]
    simp only [List.length_nil, List.range'_zero, List.zip_nil_left, loopM, toOpt, List.map_nil, seqO, Option.bind_some,
      List.append_nil]
    have hlen : pre.length = 4096 := by rw [hl]; simp
    simp only [hlen, ↓reduceDIte, Option.some.injEq]
    obtain ⟨px, o, b⟩ := d
    simp only at ho hb hl
    subst ho hb
    congr 1
    apply Vector.toList_inj.mp
    simp [hl]
  | a :: rest, k, d, h, pre, hpre, ho, hb => by
    have hk : k < 4096 := by simp at h; omega
    rw [List.length_cons, List.range'_succ, List.zip_cons_cons]
    cases a with
    | panic m s => simp only [loopM, storeLZ, bind_panic, toOpt, List.map_cons, seqO, Option.bind_none]
    | ok v =>
      have ih := storeLZ_loop rest (k + 1) { d with pixels := d.pixels.set k v hk } (by simp at h ⊢; omega) (pre ++ [v])
        (by
          simp only [Vector.toList_set]
          rw [List.take_succ_eq_append_getElem (by simp; omega), List.take_set_of_le (Nat.le_refl k), List.getElem_set_self,
            hpre]) ho hb
      simp only [loopM, storeLZ, bind_ok, array_set, MockDisplay_pixels, hk, ↓reduceDIte, MockDisplay_with_pixels]
      rw [ih]
      simp only [List.map_cons, toOpt, seqO, Option.bind_some]
      cases seqO (rest.map toOpt) with
      | none => rfl
      | some L => simp only [Option.bind_some, List.append_assoc, List.singleton_append]

/-- forgets which panic of `from_pattern` fired. A named function for the reason given at `optRes`
(EG/Props/C20/Generated.lean). -/
def patOpt : PatRes → Option MD
  | .ok d => some d
  | _ => none

/-- the body of the loop over the rows: the `assert_eq!` of one row's width. -/
def rowAssertSrc (W : Nat) (x : Nat × List Char) (u : PUnit) : Panics PUnit :=
  (rs_assert (rs_eq (str_len x.snd) W)
    "Row #{} is {} characters wide (must be {} characters to match previous rows)").bind fun _ => MutRes.ok PUnit.unit

theorem row_assert_loop (W : Nat) : ∀ (l : List (Nat × List Char)),
    toOpt (loopM (rowAssertSrc W) l PUnit.unit) = if (l.map Prod.snd).all (fun r => rowLen r == W) then some PUnit.unit else none
  | [] => rfl
  | x :: rest => by
    have ih := row_assert_loop W rest
    simp only [loopM, rowAssertSrc, List.map_cons, List.all_cons, rs_assert, rs_eq, str_len, rowLen] at ih ⊢
    by_cases h : ((List.map Char.utf8Size x.snd).sum == W) = true
    · simp only [h, ↓reduceIte, bind_ok, Bool.true_and]
      exact ih
    · simp only [h, Bool.false_eq_true, ↓reduceIte, bind_panic, toOpt, Bool.false_and]

theorem width_src (pat : List (List Char)) :
    option_map_or (slice_first pat) 0 (fun row => str_len row) = patWidth pat := by
  cases pat <;> rfl

/-- `from_pattern`: panics on exactly the patterns the model rejects (width in bytes of the first row, height, ragged
rows, a character the type does not accept), and otherwise builds the model's display (`fuel` is what `iter::repeat` runs
on: any value from 4096 on). -/
theorem MockDisplay_from_pattern_src_eq_model (C : CT) (fuel : Nat) (pat : List (List Char)) (hf : 4096 ≤ fuel) :
    toOpt (MockDisplay_from_pattern C fuel pat) = patOpt (fromPattern C pat) := by
  unfold MockDisplay_from_pattern
  simp only [bind_def, pure_def, MockDisplay_new_src_eq_model, bind_ok]
  rw [width_src, fromPattern_unfold]
  generalize patWidth pat = W
  by_cases h1 : W ≤ 64
  case neg =>
    simp only [rs_assert, usize_le, SIZE_src_eq_model, Mock.SIZE, h1, decide_false, Bool.false_eq_true, ↓reduceIte, bind_panic,
      toOpt, not_false_eq_true, patOpt]
  by_cases h2 : pat.length ≤ 64
  case neg =>
    simp only [rs_assert, usize_le, SIZE_src_eq_model, Mock.SIZE, h1, h2, slice_len, decide_true, decide_false,
      Bool.false_eq_true, ↓reduceIte, bind_ok, bind_panic, toOpt, not_false_eq_true, not_true_eq_false, patOpt]
  simp only [rs_assert, usize_le, SIZE_src_eq_model, Mock.SIZE, h1, h2, slice_len, decide_true, ↓reduceIte, bind_ok,
    not_true_eq_false]
  rw [forIn_yield' _ (rowAssertSrc W) (by
    intro x u
    unfold rowAssertSrc
    rw [bind_assoc]; congr 1)]
  have hrows := row_assert_loop W (iter_enumerate (slice_iter pat))
  have hsnd : (iter_enumerate (slice_iter pat)).map Prod.snd = pat := by
    simp only [iter_enumerate, slice_iter]
    exact List.map_snd_zip (by simp)
  rw [hsnd] at hrows
  by_cases h3 : pat.all (fun r => rowLen r == W) = true
  case neg =>
    rw [if_neg h3] at hrows
    obtain ⟨m, s, hp⟩ := toOpt_eq_none hrows
    simp only [hp, bind_panic, toOpt, h3, Bool.false_eq_true, not_false_eq_true, ↓reduceIte, patOpt]
  rw [if_pos h3] at hrows
  simp only [toOpt_eq_some hrows, bind_ok, h3, not_true_eq_false, ↓reduceIte]
  have hmul : usize_mul 64 64 = .ok 4096 := by simp [usize_mul, U64]
  simp only [hmul, bind_ok]
  show toOpt (MutRes.bind (forIn (iter_enumerate (allLZ C fuel pat)) MD.new _) _) = _
  rw [forIn_yield' _ storeLZ (by
    intro x s
    unfold storeLZ
    rw [bind_assoc]; congr 1; funext c
    rw [bind_assoc]; congr 1)]
  have hrl : ∀ row ∈ pat, row.length ≤ 64 := by
    intro row hrow
    have hw : rowLen row = W := by simpa using (List.all_eq_true.mp h3) row hrow
    have := length_le_rowLen row
    omega
  have henum : iter_enumerate (allLZ C fuel pat)
      = (List.range' 0 (allLZ C fuel pat).length).zip (allLZ C fuel pat) := by
    simp only [iter_enumerate, List.range_eq_range']
  rw [henum, bind_ok_right,
    storeLZ_loop (allLZ C fuel pat) 0 MD.new (by rw [allLZ, padLZ_length _ hf]) [] (by simp) rfl rfl,
    allLZ_opt C fuel hf pat h2 hrl]
  cases hc : convRows C pat with
  | none => rfl
  | some rows =>
    have hlen := patternColors_length rows
    simp only [Option.map_some, Option.bind_some, List.nil_append, hlen, ↓reduceDIte, patOpt]
    rfl

example : (4096 : Nat) ≤ 4096 := Nat.le_refl _

/-- which assertion fires first, with its message: the width (in BYTES of the first row), then the height. -/
theorem from_pattern_width_msg (C : CT) (fuel : Nat) (r : List Char) (rest : List (List Char)) (h : ¬ rowLen r ≤ 64) :
    MockDisplay_from_pattern C fuel (r :: rest) = .panic "Test pattern must not be wider than {} columns" () := by
  unfold MockDisplay_from_pattern
  simp only [bind_def, pure_def, MockDisplay_new_src_eq_model, bind_ok]
  have hw : option_map_or (slice_first (r :: rest)) 0 (fun row => str_len row) = rowLen r := rfl
  simp only [hw, rs_assert, usize_le, SIZE_src_eq_model, Mock.SIZE, h, decide_false, Bool.false_eq_true, ↓reduceIte, bind_panic]

example : ¬ rowLen (List.replicate 65 'a') ≤ 64 := by decide

theorem from_pattern_height_msg (C : CT) (fuel : Nat) (r : List Char) (rest : List (List Char)) (h : rowLen r ≤ 64)
    (hh : ¬ (r :: rest).length ≤ 64) :
    MockDisplay_from_pattern C fuel (r :: rest) = .panic "Test pattern must not be taller than {} rows" () := by
  unfold MockDisplay_from_pattern
  simp only [bind_def, pure_def, MockDisplay_new_src_eq_model, bind_ok]
  have hw : option_map_or (slice_first (r :: rest)) 0 (fun row => str_len row) = rowLen r := rfl
  simp only [hw, rs_assert, usize_le, SIZE_src_eq_model, Mock.SIZE, h, hh, slice_len, decide_true, decide_false,
    Bool.false_eq_true, ↓reduceIte, bind_ok, bind_panic]

example : rowLen [] ≤ 64 ∧ ¬ (([] : List Char) :: List.replicate 64 []).length ≤ 64 := by decide

end EG.C20.GeneratedPattern
