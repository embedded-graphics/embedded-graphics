/-
  C15 — the REGENERATED `<Text as Drawable>::draw` equals the hand-written model, and the multi-line headline of
  C15 over the regenerated functions.

  `TextSrc.Text_Drawable_draw` is the translation of the `for (line, position) in self.lines() { next_position =
  draw_string(..)? }` loop of src/text/text.rs (tools/tr_textsrc.py): a fold over the regenerated `Text::lines()`
  with `(next_position, target)` as accumulator, calling the regenerated `draw_string`. With
  `Text_lines_src_eq_model` (Props/C15/Generated.lean) and `draw_string_src_eq_model` (Props/C14/Generated.lean) it
  equals the hand model's `TextLayout.draw`: returned position and calls appended to the target.
  Guard: `TextFits` = `LineFits` (measuring) and `DrawFits` (drawing) for the whole text, both monotone in the
  length so that they cover every line, with `AdvanceFits` (the font) and `GlyphsFit` (every character of the text).
-/
import EG.Props.C14.Generated
import EG.Props.C15.Generated
namespace EG.C15.Src
open EG EG.Font EG.TextLayout EG.RectSrcPrelude EG.TextSrcPrelude EG.Generated EG.C16.Src EG.C14.Src

/-- the casts of measuring and of drawing do not wrap for a text of this length (hence for each of its lines) -/
def TextFits (t : TextSrcPrelude.Text) : Prop :=
  LineFits t.character_style.font.f t.character_style.st t.text.length ∧ DrawFits t.character_style.font.f t.text.length
    ∧ AdvanceFits t.character_style.font.f ∧ GlyphsFit t.character_style.font.f t.text
instance (t : TextSrcPrelude.Text) : Decidable (TextFits t) := by unfold TextFits; exact inferInstance

example : TextFits ⟨[72, 105, 10, 33], ⟨3, 4⟩,
    ⟨⟨some 1, none, .none, .none⟩, ⟨⟨96, 54, 6, 9, 0, 6, 10, 1, 4, 1, fun c => c - 32⟩, fun _ => false⟩⟩,
    ⟨.center, .alphabetic, .percent 100⟩⟩ := by decide

/-- the body of the `for` loop of `draw` as the translator writes it -/
def drawStep (fuel : Nat) (t : TextSrcPrelude.Text) : Pt × List Call → List Nat × Pt → Pt × List Call :=
  fun (next_position, target) (line, position) =>
      let (next_position, target) := TextSrc.MonoTextStyle_TextRenderer_draw_string fuel (Text_character_style t) line position
        (TextStyle_baseline (Text_text_style t)) target
      (next_position, target)

theorem Text_draw_unfold (fuel : Nat) (t : TextSrcPrelude.Text) (target : List Call) :
    TextSrc.Text_Drawable_draw fuel t target =
      for_in (TextSrc.Text_lines t) (Text_position t, target) (drawStep fuel t) := rfl

/-- what `draw_string` needs of one line: enough fuel for its `2 * len + 1` line elements, no wrapping cast -/
def LineOK (fuel : Nat) (f : Font.MonoFont) (l : List Nat) : Prop :=
  2 * l.length + 1 ≤ fuel ∧ DrawFits f l.length ∧ GlyphsFit f l

theorem draw_fold_src_eq_model (fuel : Nat) (t : TextSrcPrelude.Text) (ls : List (List Nat × Pt)) (next : Pt)
    (target : List Call) (ha : AdvanceFits t.character_style.font.f)
    (h : ∀ l ∈ ls, LineOK fuel t.character_style.font.f l.1) :
    for_in ls (next, target) (drawStep fuel t) =
      ((drawLines t.character_style.font.f t.character_style.font.atlas t.character_style.st t.text_style.baseline ls next).2,
       target ++ (drawLines t.character_style.font.f t.character_style.font.atlas t.character_style.st
         t.text_style.baseline ls next).1) := by
  induction ls generalizing next target with
  | nil => simp [for_in, drawLines]
  | cons lp rest ih =>
    obtain ⟨hf1, hf2, hf3⟩ := h lp List.mem_cons_self
    have hstep : drawStep fuel t (next, target) lp = _ :=
      draw_string_src_eq_model fuel t.character_style lp.1 lp.2 t.text_style.baseline target hf1 hf2 ha hf3
    simp only [for_in, List.foldl_cons, drawLines, hstep, ← List.append_assoc]
    exact ih _ _ (fun l hl => h l (List.mem_cons_of_mem _ hl))

theorem lines_ok (fuel : Nat) (t : TextSrcPrelude.Text) (hf : 2 * t.text.length + 1 ≤ fuel)
    (hd : DrawFits t.character_style.font.f t.text.length) (hg : GlyphsFit t.character_style.font.f t.text) :
    ∀ lp ∈ lines t.character_style.font.f t.toModel, LineOK fuel t.character_style.font.f lp.1 := by
  intro lp hlp
  have hsub : lp.1.Sublist t.text := lines_line_sublist _ t.toModel lp hlp
  have hlen := hsub.length_le
  exact ⟨by omega, hd.mono hlen, fun c hc => hg c (hsub.subset hc)⟩

/-- `fuel` covers the `2 * len + 1` line elements of the whole text, hence of every line. -/
theorem Text_draw_src_eq_model (fuel : Nat) (t : TextSrcPrelude.Text) (target : List Call) (h : TextFits t)
    (hf : 2 * t.text.length + 1 ≤ fuel) :
    TextSrc.Text_Drawable_draw fuel t target =
      ((draw t.character_style.font.f t.character_style.font.atlas t.toModel).2,
       target ++ (draw t.character_style.font.f t.character_style.font.atlas t.toModel).1) := by
  obtain ⟨hl, hd, ha, hg⟩ := h
  rw [Text_draw_unfold, Text_lines_src_eq_model t hl]
  unfold draw
  exact draw_fold_src_eq_model fuel t _ _ _ ha (lines_ok fuel t hf hd hg)

/-- **A text containing `\n` = its lines drawn separately `line_height` apart** (regenerated `Text::draw`, on a
fresh target): the calls are, in order, the calls of drawing the i-th segment as a text of its own at
`(x, y + i * line_height)`. The segments are drawn by the hand model's `draw`; `src_multiline_step` has the regenerated
`draw` on both sides. -/
theorem src_multiline_eq_lines (fuel : Nat) (t : TextSrcPrelude.Text) (h : TextFits t)
    (hf : 2 * t.text.length + 1 ≤ fuel) :
    (TextSrc.Text_Drawable_draw fuel t []).2 = ((splitNL t.text).mapIdx (fun i seg =>
      (draw t.character_style.font.f t.character_style.font.atlas
        ⟨seg, ⟨t.position.x, t.position.y + (i : Int) * TextSrc.Text_line_height t⟩, t.character_style.st,
          t.text_style⟩).1)).flatten := by
  rw [Text_draw_src_eq_model fuel t [] h hf, Text_line_height_src_eq_model]
  simp only [List.nil_append]
  exact C15.multiline_eq_lines _ _ _

/-- ... and the returned position is the hand model's (that of the last line's `draw_string`: `C15.text_draw_returns_last_line`). -/
theorem src_draw_returns (fuel : Nat) (t : TextSrcPrelude.Text) (target : List Call) (h : TextFits t)
    (hf : 2 * t.text.length + 1 ≤ fuel) :
    (TextSrc.Text_Drawable_draw fuel t target).1 =
      (draw t.character_style.font.f t.character_style.font.atlas t.toModel).2 := by
  rw [Text_draw_src_eq_model fuel t target h hf]

/-- recursive form with the returned position: `seg ++ "\n" ++ rest` = `seg` at `p`, then `rest` one `line_height`
lower; the returned position is the one of the last part (regenerated `draw` on both sides; the line height is the hand model's). -/
theorem src_multiline_step (fuel : Nat) (cs : MonoTextStyle) (seg rest : List Nat) (p : Pt) (ts : TextLayout.TextStyle)
    (hf : 2 * (seg ++ 10 :: rest).length + 1 ≤ fuel) (h10 : 10 ∉ seg)
    (h : TextFits ⟨seg ++ 10 :: rest, p, cs, ts⟩) (h1 : TextFits ⟨seg, p, cs, ts⟩)
    (h2 : TextFits ⟨rest, ⟨p.x, p.y + lineHeight cs.font.f ts⟩, cs, ts⟩) :
    TextSrc.Text_Drawable_draw fuel ⟨seg ++ 10 :: rest, p, cs, ts⟩ [] =
      ((TextSrc.Text_Drawable_draw fuel ⟨rest, ⟨p.x, p.y + lineHeight cs.font.f ts⟩, cs, ts⟩ []).1,
       (TextSrc.Text_Drawable_draw fuel ⟨seg, p, cs, ts⟩ []).2 ++
         (TextSrc.Text_Drawable_draw fuel ⟨rest, ⟨p.x, p.y + lineHeight cs.font.f ts⟩, cs, ts⟩ []).2) := by
  have hl : (seg ++ 10 :: rest).length = seg.length + (rest.length + 1) := by
    rw [List.length_append, List.length_cons]
  rw [Text_draw_src_eq_model fuel _ [] h hf, Text_draw_src_eq_model fuel _ [] h1 (by simp only; omega),
    Text_draw_src_eq_model fuel _ [] h2 (by simp only; omega)]
  simp only [List.nil_append, Text.toModel]
  rw [C15.multiline_step cs.font.f cs.font.atlas seg rest p cs.st ts h10]

end EG.C15.Src
