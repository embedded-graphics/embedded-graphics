/-
  C15 — the DRAWN extent of a line is its line box (when a text and a background colour are set).

  The alignment theorems of Props/C15.lean are about the line box `measure_string` reports (and
  `draw_string` is given): "its box starts at / ends at / is centred on x". What is PAINTED could be
  narrower: without a background colour a glyph bitmap may leave columns of its cell empty. With a
  text colour AND a background colour every pixel of the box `text width x character height` at the
  line's position gets a colour (glyph cells: text or background colour by the atlas bit; gaps of a
  spaced font: background colour; or the colour of a decoration drawn over it) and - C14
  `outside_untouched` - nothing beside that box is touched except by decorations. So for such a style
  the painted columns are exactly `x .. x + width` of the measured box, and the alignment statements
  are statements about the picture. (`bbox.size.w = text width`, `bbox.tl = position - baseline`:
  `measured_box_is_cell_box`.) Model: EG.Model.Font `drawString`; pixel-map lemmas EG/Lemmas/FontText.lean.
-/
import EG.Props.C14
import EG.Model.TextLayout
namespace EG.C15.DrawnExtent
open EG EG.Font EG.TextLayout

/-- A column `k` of `n` cells of width `cw` with `n - 1` gaps of width `sp` between them is column
`a` of a slot `i` (a cell and the gap after it), inside the cell unless the slot has a gap. -/
theorem column_split (cw sp n k : Nat) (hk : k < n * cw + (n - 1) * sp) :
    ∃ i a, i < n ∧ a < cw + sp ∧ k = i * (cw + sp) + a ∧ (a < cw ∨ i + 1 < n) := by
  obtain ⟨m, rfl⟩ : ∃ m, n = m + 1 := ⟨n - 1, by
    have : n ≠ 0 := by intro h; subst h; simp at hk
    omega⟩
  have hk' : k < m * (cw + sp) + cw := by
    rw [Nat.add_sub_cancel, Nat.succ_mul] at hk
    rw [Nat.mul_add]; omega
  have hs : 0 < cw + sp := by
    rcases Nat.eq_zero_or_pos (cw + sp) with h | h
    · rw [h] at hk'; omega
    · exact h
  have hdm : k = k / (cw + sp) * (cw + sp) + k % (cw + sp) := by
    rw [Nat.mul_comm]; exact (Nat.div_add_mod k (cw + sp)).symm
  refine ⟨k / (cw + sp), k % (cw + sp), ?_, Nat.mod_lt k hs, hdm, ?_⟩
  · -- a slot from number `m + 1` on starts right of the last cell
    apply Nat.lt_of_not_le
    intro h
    have := Nat.mul_le_mul_right (cw + sp) h
    rw [Nat.succ_mul] at this
    omega
  · rcases Nat.lt_or_ge (k / (cw + sp)) m with h | h
    · exact Or.inr (by omega)
    · have := Nat.mul_le_mul_right (cw + sp) h
      exact Or.inl (by omega)

/-- The box `measure_string` reports starts at the (baseline-adjusted) position and is as wide as
the cells and gaps of the line. -/
theorem measured_box_is_cell_box (f : MonoFont) (st : Style) (text : List Nat) (position : Pt) (bl : Baseline) :
    (measureString f st text position bl).bbox.tl = ⟨position.x, position.y - f.baselineOffset bl⟩ ∧
    (measureString f st text position bl).bbox.size.w = textWidth f text.length :=
  ⟨rfl, (textWidth_eq_bbWidth f text.length).symm⟩

section Painted
variable (B : Rect) (f : MonoFont) (atlas : Pt → Bool) (st : Style) (tc bc : Color)
  (hm : st.mode = some (.both tc bc))
  (text : List Nat) (position : Pt) (bl : Baseline)
  (hd : ∀ c ∈ text, f.areaDrawable (f.glyphArea c) = true)
  (hr : TextInRange f ⟨position.x, position.y - f.baselineOffset bl⟩ text.length)
  (hdr : DecoInRange f ⟨position.x, position.y - f.baselineOffset bl⟩ (textWidth f text.length))
include hm hd hr hdr

/-- **With a text and a background colour every pixel of the line's box is painted**: each point of
`[x, x + text width) x [y - baseline offset, + character height)` on the target has a colour in
the final pixel map of `draw_string`. -/
theorem line_box_fully_painted (q : Pt) (hB : B.contains q = true)
    (hx : position.x ≤ q.x ∧ q.x < position.x + (textWidth f text.length : Int))
    (hy : position.y - f.baselineOffset bl ≤ q.y ∧ q.y < position.y - f.baselineOffset bl + (f.ch : Int)) :
    (runDefault B (f.drawString atlas st text position bl).1 q).isSome = true := by
  rw [drawString_pixel B f atlas st (.both tc bc) hm text position bl hd hr hdr q hB]
  -- whatever the decorations do, the characters and gaps have already painted the point
  suffices h : (lastWrite (textWrites f atlas (.both tc bc) ⟨position.x, position.y - f.baselineOffset bl⟩ text)
      q).isSome = true by
    simp only [Option.isSome_or, h, Bool.or_true]
  obtain ⟨i, a, hi, ha, hk, hcell⟩ := column_split f.cw f.spacing text.length (q.x - position.x).toNat
    (by unfold textWidth at hx; omega)
  rw [lastWrite_textWrites f atlas _ text _ (fun c hc => glyphArea_size_of_drawable f c (hd c hc)) q i a
    (q.y - (position.y - f.baselineOffset bl)).toNat ha (by omega)
    (by rw [Pt.ext_iff', cellX]; dsimp only; omega)]
  unfold slotColour
  split
  · rw [List.getElem?_eq_getElem hi, Option.bind_some]
    cases atlas _ <;> rfl
  · rw [if_pos (by omega)]; rfl

/-- **The painted columns are exactly the columns of the measured box** (rows of the character
cells, no decoration outside them considered): a point in a character row is painted iff its x lies
in `[box.x, box.x + box.width)` of the box `measure_string` reports for the line. -/
theorem drawn_columns_eq_measured_box (q : Pt) (hB : B.contains q = true)
    (hy : position.y - f.baselineOffset bl ≤ q.y ∧ q.y < position.y - f.baselineOffset bl + (f.ch : Int))
    (hnd : NotDecorated f st (textWidth f text.length) ⟨position.x, position.y - f.baselineOffset bl⟩ q) :
    (runDefault B (f.drawString atlas st text position bl).1 q).isSome = true ↔
      (measureString f st text position bl).bbox.tl.x ≤ q.x ∧
      q.x < (measureString f st text position bl).bbox.tl.x + ((measureString f st text position bl).bbox.size.w : Int) := by
  obtain ⟨e1, e2⟩ := measured_box_is_cell_box f st text position bl
  rw [e1, e2]
  constructor
  · intro h
    by_cases hx : position.x ≤ q.x ∧ q.x < position.x + (textWidth f text.length : Int)
    · exact hx
    · have := EG.C14.outside_untouched B f atlas st (.both tc bc) hm text position bl hd hr hdr q
        (by omega) hnd
      rw [this] at h; cases h
  · intro hx
    exact line_box_fully_painted B f atlas st tc bc hm text position bl hd hr hdr q hB hx hy

end Painted

section Example
private def exFont : MonoFont := ⟨16, 8, 4, 4, 1, 3, 5, 1, 2, 1, fun c => c % 8⟩
private def exStyle : Style := ⟨some 7, some 2, .none, .none⟩
private def exBox : Rect := ⟨⟨0, 0⟩, ⟨100, 100⟩⟩
private def exAtlas : Pt → Bool := fun p => p.x % 2 == 0

/-- the gap column between two characters of a spaced font is painted (background colour) -/
example : (runDefault exBox (exFont.drawString exAtlas exStyle [5, 2] ⟨3, 20⟩ .alphabetic).1 ⟨7, 18⟩).isSome = true :=
  line_box_fully_painted exBox exFont exAtlas exStyle 7 2 (by decide) [5, 2] ⟨3, 20⟩ .alphabetic
    (by decide) (by decide) (by decide) ⟨7, 18⟩ (by decide) (by decide) (by decide)
end Example

end EG.C15.DrawnExtent
