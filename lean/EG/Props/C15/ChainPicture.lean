/-
  C15 / chain picture — "drawing s1 and then s2 at the returned position EQUALS drawing s1 + s2 for
  fonts without spacing", as PICTURES.

  `EG/Props/C15.lean` proves the call-list level (`chaining_cells`: same glyph calls,
  `chaining_next`: same returned position, `chaining_decorations`: the decoration rectangle of the
  whole is the union of the parts). The pixel-map equality is derived here (helper lemmas: EG/Lemmas/GlueChainPicture.lean, on top of the picture
  lemmas of EG/Lemmas/FontText.lean (`lw`, `decoAt`) and the box lemmas of EG/Lemmas/TextLayoutBox.lean):
  the call list of the chained drawing, `glyphs(s1), deco(s1), glyphs(s2), deco(s2)`, and the call
  list of the whole text, `glyphs(s1 ++ s2), deco(s1 ++ s2)`, leave the same colour at EVERY point
  of every target box, on native-fill and draw_iter-only targets — for every font without spacing
  (any metrics, any atlas, any glyph mapping), every style (all colour / decoration combinations),
  every baseline, all strings.

  Hypotheses (besides `spacing = 0`, which is the property's own): the top-left corner of the text's
  glyph row is a real `Point` (not below `i32::MIN`), and the decoration rectangles over the whole
  width fit into `i32` coordinates (`DecoInRange`, the guard C14 uses: beyond it `Rectangle::points`
  saturates; C08's topic).

  -- [V] `i32` overflow / saturation of positions and decoration rectangles beyond the `i32` range (hypotheses `DecoInRange`, corner >= i32::MIN): carried by correspondence + oracle only
-/
import EG.Lemmas.GlueChainPicture
import EG.Props.C15
namespace EG.C15.ChainPicture
open EG EG.Tgt EG.Font EG.TextLayout EG.Glue

/-- Two adjacent solid rectangles of the same colour paint exactly what the one rectangle over both
widths paints (as pixel maps on any target box): the decoration of `s1` followed by the decoration
of `s2` started at the returned position, against the decoration of `s1 ++ s2`. -/
theorem chaining_decoration_picture (B : Rect) (off hgt : Nat) (pos : Pt) (W1 W2 : Nat) (c : Color)
    (hr : (decoRect off hgt pos (W1 + W2)).InRange) (q : Pt) :
    runNative B [Call.fillSolid (decoRect off hgt pos W1) c,
        Call.fillSolid (decoRect off hgt ⟨pos.x + (W1 : Int), pos.y⟩ W2) c] q =
      runNative B [Call.fillSolid (decoRect off hgt pos (W1 + W2)) c] q := by
  obtain ⟨hr1, hr2⟩ := decoRect_inRange_split hr
  rw [runNative_eq_lw, runNative_eq_lw, ← List.singleton_append, lw_append, lw_fillSolid _ _ _ hr1,
    lw_fillSolid _ _ _ hr2, lw_fillSolid _ _ _ hr]
  by_cases hq : q.x < pos.x + (W1 : Int)
  · obtain ⟨h, h'⟩ := decoAt_split_left B (some c) off hgt pos W1 W2 hq
    rw [h, h']; rfl
  · obtain ⟨h, h'⟩ := decoAt_split_right B (some c) off hgt pos W1 W2 (Int.not_lt.mp hq)
    rw [h, h', Option.or_none]
example : (decoRect 7 1 ⟨-5, 3⟩ (12 + 8)).InRange := by decide

/-- **`chaining_picture`** (`draw_string`, native-fill target): for a font without spacing, drawing
`s1` at `p` and then `s2` at the returned position leaves the same pixel map as drawing `s1 ++ s2`
at `p` — glyph cells, background, strikethrough and underline included, last write wins. -/
theorem chaining_picture (f : MonoFont) (h : f.spacing = 0) (atlas : Pt → Bool) (st : Style)
    (s1 s2 : List Nat) (p : Pt) (bl : Baseline)
    (hx : -2147483648 ≤ p.x) (hy : -2147483648 ≤ p.y - f.baselineOffset bl)
    (hd : DecoInRange f ⟨p.x, p.y - f.baselineOffset bl⟩ (bbWidth f (s1 ++ s2).length))
    (B : Rect) (q : Pt) :
    runNative B ((f.drawString atlas st s1 p bl).1 ++
        (f.drawString atlas st s2 (f.drawString atlas st s1 p bl).2 bl).1) q =
      runNative B (f.drawString atlas st (s1 ++ s2) p bl).1 q := by
  rw [List.length_append, bbWidth_add f h] at hd
  rw [runNative_eq_lw, runNative_eq_lw, drawString_next]
  simp only [drawString_calls, decoPartCalls, drawAdvance_eq_bbWidth f st _ (Or.inr (Or.inr (Or.inl h))),
    List.length_append, bbWidth_add f h, glyphPartCalls_append f h]
  -- the glyphs of `s2` write nothing left of the seam, so they commute with the decorations of `s1`
  exact chain_lw B f st _ _ ⟨p.x, p.y - f.baselineOffset bl⟩ _ _ hd q
    (lw_glyphPart_left B f atlas st s2 ⟨p.x + (bbWidth f s1.length : Nat), p.y - f.baselineOffset bl⟩
      (by simp only; omega) hy q)
example : (⟨64, 36, 4, 6, 0, 4, 6, 1, 3, 1, fun _ => 0⟩ : MonoFont).spacing = 0 ∧
    DecoInRange (⟨64, 36, 4, 6, 0, 4, 6, 1, 3, 1, fun _ => 0⟩ : MonoFont) ⟨-3, 10 - 4⟩
      (bbWidth (⟨64, 36, 4, 6, 0, 4, 6, 1, 3, 1, fun _ => 0⟩ : MonoFont) ([72, 105] ++ [33]).length) := by
  decide

/-- The same on a target that implements `draw_iter` only (trait defaults). -/
theorem chaining_picture_default (f : MonoFont) (h : f.spacing = 0) (atlas : Pt → Bool) (st : Style)
    (s1 s2 : List Nat) (p : Pt) (bl : Baseline)
    (hx : -2147483648 ≤ p.x) (hy : -2147483648 ≤ p.y - f.baselineOffset bl)
    (hd : DecoInRange f ⟨p.x, p.y - f.baselineOffset bl⟩ (bbWidth f (s1 ++ s2).length))
    (B : Rect) (q : Pt) :
    runDefault B ((f.drawString atlas st s1 p bl).1 ++
        (f.drawString atlas st s2 (f.drawString atlas st s1 p bl).2 bl).1) q =
      runDefault B (f.drawString atlas st (s1 ++ s2) p bl).1 q := by
  rw [Tgt.runDefault_eq_runNative, Tgt.runDefault_eq_runNative]
  exact chaining_picture f h atlas st s1 s2 p bl hx hy hd B q

/-- As equality of pixel maps (functions), both kinds of target. -/
theorem chaining_picture_maps (f : MonoFont) (h : f.spacing = 0) (atlas : Pt → Bool) (st : Style)
    (s1 s2 : List Nat) (p : Pt) (bl : Baseline)
    (hx : -2147483648 ≤ p.x) (hy : -2147483648 ≤ p.y - f.baselineOffset bl)
    (hd : DecoInRange f ⟨p.x, p.y - f.baselineOffset bl⟩ (bbWidth f (s1 ++ s2).length)) (B : Rect) :
    runNative B ((f.drawString atlas st s1 p bl).1 ++
        (f.drawString atlas st s2 (f.drawString atlas st s1 p bl).2 bl).1) =
      runNative B (f.drawString atlas st (s1 ++ s2) p bl).1 ∧
    runDefault B ((f.drawString atlas st s1 p bl).1 ++
        (f.drawString atlas st s2 (f.drawString atlas st s1 p bl).2 bl).1) =
      runDefault B (f.drawString atlas st (s1 ++ s2) p bl).1 :=
  ⟨funext (chaining_picture f h atlas st s1 s2 p bl hx hy hd B),
   funext (chaining_picture_default f h atlas st s1 s2 p bl hx hy hd B)⟩

/-- **`Text` level** (one line, left aligned; `s1` must not end in `\r`, see `chaining_text`):
`Text(s1).draw` followed by `Text(s2).draw` at the returned position paints what `Text(s1 ++ s2).draw`
paints. -/
theorem chaining_text_picture (f : MonoFont) (h : f.spacing = 0) (atlas : Pt → Bool) (st : Style)
    (ts : TextStyle) (hal : ts.alignment = .left) (s1 s2 : List Nat) (p : Pt) (h1 : 10 ∉ s1) (h2 : 10 ∉ s2)
    (hcr : s1.getLast? ≠ some 13)
    (hx : -2147483648 ≤ p.x) (hy : -2147483648 ≤ p.y - f.baselineOffset ts.baseline)
    (hd : DecoInRange f ⟨p.x, p.y - f.baselineOffset ts.baseline⟩ (bbWidth f (s1 ++ stripCR s2).length))
    (B : Rect) (q : Pt) :
    runNative B ((draw f atlas ⟨s1, p, st, ts⟩).1 ++
        (draw f atlas ⟨s2, (draw f atlas ⟨s1, p, st, ts⟩).2, st, ts⟩).1) q =
      runNative B (draw f atlas ⟨s1 ++ s2, p, st, ts⟩).1 q := by
  have h12 : 10 ∉ s1 ++ s2 := by simp [h1, h2]
  rw [draw_single f atlas ⟨s1 ++ s2, p, st, ts⟩ h12, draw_single f atlas ⟨s2, _, st, ts⟩ h2,
    draw_single f atlas ⟨s1, p, st, ts⟩ h1]
  simp only [alignedPos_left f st ts _ _ hal, stripCR_append_of_not_cr s1 s2 hcr, stripCR_of_not_cr s1 hcr]
  exact chaining_picture f h atlas st s1 (stripCR s2) p ts.baseline hx hy hd B q
example : (10 : Nat) ∉ [72, 105] ∧ (10 : Nat) ∉ [33, 13] ∧ ([72, 105] : List Nat).getLast? ≠ some 13 ∧
    stripCR [33, 13] = [33] := by decide

/-- A concrete chained drawing through the model (4x6 font, underlined and struck through, both
colours): seam columns of the decorations and glyph pixels of `s2` agree in both pictures. -/
def exFont : MonoFont := ⟨8, 6, 4, 6, 0, 4, 6, 1, 3, 1, fun c => c % 2⟩
def exAtlas : Pt → Bool := fun p => (p.x + p.y) % 2 == 0
def exStyle : Style := ⟨some 5, some 2, .textColor, .custom 9⟩
example : ([⟨8, 10⟩, ⟨7, 10⟩, ⟨9, 5⟩, ⟨8, 7⟩, ⟨11, 10⟩, ⟨12, 10⟩] : List Pt).map (fun q =>
    (runNative ⟨⟨0, 0⟩, ⟨64, 64⟩⟩ ((exFont.drawString exAtlas exStyle [0, 1] ⟨0, 8⟩ .alphabetic).1 ++
        (exFont.drawString exAtlas exStyle [1]
          (exFont.drawString exAtlas exStyle [0, 1] ⟨0, 8⟩ .alphabetic).2 .alphabetic).1) q : Option Nat)) =
    ([⟨8, 10⟩, ⟨7, 10⟩, ⟨9, 5⟩, ⟨8, 7⟩, ⟨11, 10⟩, ⟨12, 10⟩] : List Pt).map (fun q =>
      (runNative ⟨⟨0, 0⟩, ⟨64, 64⟩⟩
        (exFont.drawString exAtlas exStyle ([0, 1] ++ [1]) ⟨0, 8⟩ .alphabetic).1 q : Option Nat)) :=
  List.map_congr_left fun q _ => chaining_picture exFont rfl exAtlas exStyle [0, 1] [1] ⟨0, 8⟩ .alphabetic
    (by decide) (by decide) (by decide) _ q
example : runNative ⟨⟨0, 0⟩, ⟨64, 64⟩⟩ (exFont.drawString exAtlas exStyle ([0, 1] ++ [1]) ⟨0, 8⟩ .alphabetic).1
    ⟨8, 10⟩ = some 5 := by decide +kernel

end EG.C15.ChainPicture
