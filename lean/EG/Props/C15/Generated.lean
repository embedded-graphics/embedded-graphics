/-
  C15 — the REGENERATED text layout code equals the hand-written model.

  `EG/Generated/TextSrc.lean` is written by `tools/tr_textsrc.py` from /repo's Rust text on every run of a check (one
  Lean `def` per Rust function, arm for arm; every Rust primitive is a function of the trusted prelude
  `EG/Model/TextSrcPrelude.lean`, the `Point` / `Size` / `Rectangle` helpers are the regenerated functions of
  `EG/Generated/RectSrc.lean`). This file proves `<name>_src_eq_model` for the functions C15 rests on —
  `LineHeight::to_absolute`, `MonoTextStyle::{baseline_offset, line_height, measure_string}`,
  `Text::{line_height, lines, bounding_box, translate}`, `update_min_max` — against `EG/Model/TextLayout.lean`, and restates
  the headline theorems of C15 over the generated functions (`src_*`). A semantic change of one of these Rust
  bodies changes the generated definition and breaks a theorem here.

  Where source and hand model differ (stated exactly, as the decidable guard `LineFits`):
  * `text.chars().count() as u32` truncates, `Point + Size` casts the size with `as i32` behind a
    `debug_assert!`, `Rectangle::bottom_right` likewise; the hand model computes in `Nat` / `Int`. They agree when
    the character count fits `u32` and the line box (width `n * (cw + spacing)`, height `bb_height`) fits `i32`:
    `LineFits f st n`, monotone in `n` (`LineFits.mono`), so ONE hypothesis on the whole text covers all its lines.
  * `draw_string` is tied in `EG/Props/C14/Generated.lean`; `Text::draw` in `EG/Props/C15/GeneratedDraw.lean`
    (`Text_draw_src_eq_model`), which takes the `draw_string` equality as proved there.
-/
import EG.Generated.TextSrc
import EG.Props.C16.Generated
import EG.Props.C15
namespace EG.C15.Src
open EG EG.Font EG.TextLayout EG.RectSrcPrelude EG.TextSrcPrelude EG.Generated EG.C16.Src

/-- A line of `n` characters is measured without a cast wrapping: `n` fits `u32`, the advance `n * (cw + spacing)`
and the box height fit `i32`. -/
def LineFits (f : Font.MonoFont) (st : Style) (n : Nat) : Prop :=
  n < 4294967296 ∧ n * (f.cw + f.spacing) ≤ 2147483647 ∧ bbHeight f st ≤ 2147483647
instance (f : Font.MonoFont) (st : Style) (n : Nat) : Decidable (LineFits f st n) := by
  unfold LineFits; exact inferInstance

theorem LineFits.mono {f : Font.MonoFont} {st : Style} {n m : Nat} (h : LineFits f st n) (hm : m ≤ n) :
    LineFits f st m := by
  obtain ⟨h1, h2, h3⟩ := h
  refine ⟨by omega, ?_, h3⟩
  exact Nat.le_trans (Nat.mul_le_mul_right _ hm) h2

/-- a 6x9 font, a 1000-character line -/
example : LineFits ⟨96, 54, 6, 9, 0, 6, 10, 1, 4, 1, fun _ => 0⟩ ⟨some 1, none, .none, .none⟩ 1000 := by decide

theorem bbWidth_le (f : Font.MonoFont) (n : Nat) : bbWidth f n ≤ n * (f.cw + f.spacing) := by
  unfold bbWidth; omega

attribute [text_prelude] str_chars iter_count usize_as_u32 option_unwrap_or str_strip_suffix option_is_some
  TextStyle_alignment TextStyle_baseline TextStyle_line_height TextMetrics_mk
  TextMetrics_bounding_box TextMetrics_next_position DecorationDimensions_offset DecorationDimensions_height
  ImageRawBinary_size MonoFont_image MonoFont_character_size MonoFont_character_spacing MonoFont_baseline
  MonoFont_strikethrough MonoFont_underline MonoFont_glyph_mapping DynGlyphMapping_index SubImage_new_unchecked
  MonoTextStyle_text_color MonoTextStyle_background_color MonoTextStyle_underline_color
  MonoTextStyle_strikethrough_color MonoTextStyle_font Text_text Text_position Text_character_style Text_text_style
  StrGlyphMapping_data StrGlyphMapping_replacement_index DecorationColor_ne DecorationColor.None DrawTargetD_fill_solid
  Both Foreground Background MonoFontDrawTarget_new MonoFontDrawTarget_into_parent

theorem LineHeight_to_absolute_src_eq_model (lh : TextLayout.LineHeight) (b : Nat) :
    TextSrc.LineHeight_to_absolute lh b = lh.toAbsolute b := by
  cases lh <;> rfl

theorem baseline_offset_src_eq_model (s : MonoTextStyle) (bl : Font.Baseline) :
    TextSrc.MonoTextStyle_baseline_offset s bl = s.font.f.baselineOffset bl := by
  cases bl <;> rfl

theorem TextRenderer_line_height_src_eq_model (s : MonoTextStyle) :
    TextSrc.MonoTextStyle_TextRenderer_line_height s = fontLineHeight s.font.f := rfl

theorem Text_line_height_src_eq_model (t : TextSrcPrelude.Text) :
    TextSrc.Text_line_height t = lineHeight t.character_style.font.f t.text_style := by
  unfold TextSrc.Text_line_height lineHeight
  rw [LineHeight_to_absolute_src_eq_model]
  rfl

theorem measure_string_src_eq_model (s : MonoTextStyle) (text : List Nat) (p : Pt) (bl : Font.Baseline)
    (h : LineFits s.font.f s.st text.length) :
    TextSrc.MonoTextStyle_TextRenderer_measure_string s text p bl = measureString s.font.f s.st text p bl := by
  obtain ⟨h1, h2, h3⟩ := h
  unfold TextSrc.MonoTextStyle_TextRenderer_measure_string measureString bbWidth bbHeight
  simp only [text_prelude, rect_prelude, baseline_offset_src_eq_model, Nat.mod_eq_of_lt h1, decide_eq_true_eq,
    RectSrc.new, RectSrc.Size_new, RectSrc.Size_x_axis, RectSrc.Point_op_sub_Point, RectSrc.Point_new, Int.sub_zero]
  rw [Point_add_Size_src_eq_model _ _ (by unfold FitsI32; simp only; omega)]
  simp only [Int.natCast_zero, Int.add_zero]

theorem str_split_nl_eq (t : List Nat) : str_split t 10 = splitNL t := by
  induction t with
  | nil => rfl
  | cons c cs ih => simp only [str_split, splitNL, ih]; rfl

theorem strip_cr_eq (l : List Nat) : option_unwrap_or (str_strip_suffix l 13) l = stripCR l := by
  unfold stripCR
  simp only [text_prelude]
  by_cases h : l.getLast? = some 13 <;> simp [h]

/-- the `match self.text_style.alignment` of the closure of `lines()` as the translator writes it -/
def alignedSrc (t : TextSrcPrelude.Text) (line : List Nat) (position : Pt) : Pt :=
  match TextStyle_alignment (Text_text_style t) with
  | Alignment.Left => position
  | Alignment.Right =>
    let metrics := TextSrc.MonoTextStyle_TextRenderer_measure_string (Text_character_style t) line RectSrc.Point_zero
      (TextStyle_baseline (Text_text_style t))
    RectSrc.Point_op_sub_Point position
      (RectSrc.Point_op_sub_Point (TextMetrics_next_position metrics) (RectSrc.Point_new (1 : Int) (0 : Int)))
  | Alignment.Center =>
    let metrics := TextSrc.MonoTextStyle_TextRenderer_measure_string (Text_character_style t) line RectSrc.Point_zero
      (TextStyle_baseline (Text_text_style t))
    RectSrc.Point_op_sub_Point position
      (RectSrc.Point_op_div_i32 (RectSrc.Point_op_sub_Point (TextMetrics_next_position metrics)
        (RectSrc.Point_new (1 : Int) (0 : Int))) (2 : Int))

theorem aligned_src_eq_model (t : TextSrcPrelude.Text) (line : List Nat) (position : Pt)
    (h : LineFits t.character_style.font.f t.character_style.st line.length) :
    alignedSrc t line position =
      alignedPos t.character_style.font.f t.character_style.st t.text_style line position := by
  unfold alignedSrc alignedPos
  simp only [text_prelude]
  rw [measure_string_src_eq_model _ _ _ _ h]
  cases t.text_style.alignment
  · rfl
  · simp only [text_prelude, rect_prelude, RectSrc.Point_op_sub_Point, RectSrc.Point_op_div_i32, RectSrc.Point_new,
      tdiv_two, RectSrc.Point_zero]
    rfl
  · simp only [text_prelude, rect_prelude, RectSrc.Point_op_sub_Point, RectSrc.Point_new, RectSrc.Point_zero]
    rfl

theorem stripCR_length_le (l : List Nat) : (stripCR l).length ≤ l.length :=
  (stripCR_sublist l).length_le

theorem splitNL_length_le (t : List Nat) : ∀ l ∈ splitNL t, l.length ≤ t.length :=
  fun l hl => (splitNL_sublist t l hl).length_le

/-- the closure of `lines()` as the translator writes it (`Text_lines_unfold`: by `rfl`) -/
def linesStep (t : TextSrcPrelude.Text) : Pt → List Nat → (List Nat × Pt) × Pt := fun position line =>
      let line := option_unwrap_or (str_strip_suffix line (13 : Nat)) line
      let p := alignedSrc t line position
      let position := Point_set_y position (i32_add (Point_y position) (TextSrc.Text_line_height t))
      ((line, p), position)

theorem Text_lines_unfold (t : TextSrcPrelude.Text) :
    TextSrc.Text_lines t = iter_map_mut (str_split (Text_text t) 10) (Text_position t) (linesStep t) := rfl

theorem linesStep_eq (t : TextSrcPrelude.Text) (position : Pt) (raw : List Nat)
    (h : LineFits t.character_style.font.f t.character_style.st raw.length) :
    linesStep t position raw =
      ((stripCR raw, alignedPos t.character_style.font.f t.character_style.st t.text_style (stripCR raw) position),
       ⟨position.x, position.y + lineHeight t.character_style.font.f t.text_style⟩) := by
  have hl : LineFits t.character_style.font.f t.character_style.st (stripCR raw).length :=
    h.mono (stripCR_length_le raw)
  have ha := aligned_src_eq_model t (stripCR raw) position hl
  unfold linesStep
  simp only [strip_cr_eq, Text_line_height_src_eq_model]
  exact Prod.ext (Prod.ext rfl ha) rfl

theorem lines_go_src_eq_model (t : TextSrcPrelude.Text) (raws : List (List Nat)) (position : Pt)
    (h : ∀ l ∈ raws, LineFits t.character_style.font.f t.character_style.st l.length) :
    iter_map_mut raws position (linesStep t)
      = linesGo t.character_style.font.f t.character_style.st t.text_style position raws := by
  induction raws generalizing position with
  | nil => rfl
  | cons raw rest ih =>
    have hr := ih ⟨position.x, position.y + lineHeight t.character_style.font.f t.text_style⟩
      (fun l hl' => h l (List.mem_cons_of_mem _ hl'))
    unfold iter_map_mut linesGo
    rw [linesStep_eq t position raw (h raw List.mem_cons_self)]
    exact congrArg (List.cons _) hr

theorem Text_lines_src_eq_model (t : TextSrcPrelude.Text)
    (h : LineFits t.character_style.font.f t.character_style.st t.text.length) :
    TextSrc.Text_lines t = lines t.character_style.font.f t.toModel := by
  rw [Text_lines_unfold]
  unfold lines
  simp only [text_prelude, str_split_nl_eq]
  exact lines_go_src_eq_model t _ _ (fun l hl => h.mono (splitNL_length_le _ l hl))

theorem update_min_max_src_eq_model (mm : Option (Pt × Pt)) (m : Metrics) (h : FitsI32 m.bbox.size) :
    TextSrc.update_min_max mm m = updateMinMax mm m := by
  unfold TextSrc.update_min_max updateMinMax
  simp only [text_prelude]
  rw [bottom_right_src_eq_model _ h]
  cases m.bbox.bottomRight with
  | none => rfl
  | some br =>
    cases mm with
    | none => rfl
    | some mm => obtain ⟨mn, mx⟩ := mm; rfl

theorem measure_box_fits (f : Font.MonoFont) (st : Style) (line : List Nat) (p : Pt) (bl : Font.Baseline)
    (h : LineFits f st line.length) : FitsI32 (measureString f st line p bl).bbox.size := by
  obtain ⟨_, h2, h3⟩ := h
  have hw := bbWidth_le f line.length
  unfold measureString FitsI32
  simp only
  omega

/-- the body of the `for` loop of `bounding_box` as the translator writes it -/
def bboxStep (t : TextSrcPrelude.Text) : Option (Pt × Pt) → List Nat × Pt → Option (Pt × Pt) :=
  fun min_max (line, position) =>
      let metrics := TextSrc.MonoTextStyle_TextRenderer_measure_string (Text_character_style t) line position
        (TextStyle_baseline (Text_text_style t))
      let min_max := TextSrc.update_min_max min_max metrics
      min_max

theorem bbox_fold_src_eq_model (t : TextSrcPrelude.Text) (ls : List (List Nat × Pt)) (mm : Option (Pt × Pt))
    (h : ∀ lp ∈ ls, LineFits t.character_style.font.f t.character_style.st lp.1.length) :
    for_in ls mm (bboxStep t)
      = minMaxGo t.character_style.font.f t.character_style.st t.text_style.baseline mm ls := by
  induction ls generalizing mm with
  | nil => rfl
  | cons lp rest ih =>
    have hl := h lp List.mem_cons_self
    have hstep : bboxStep t mm lp = updateMinMax mm
        (measureString t.character_style.font.f t.character_style.st lp.1 lp.2 t.text_style.baseline) := by
      unfold bboxStep
      simp only [text_prelude]
      rw [measure_string_src_eq_model _ _ _ _ hl, update_min_max_src_eq_model _ _ (measure_box_fits _ _ _ _ _ hl)]
    simp only [for_in, List.foldl_cons, minMaxGo, hstep]
    exact ih _ (fun l hl' => h l (List.mem_cons_of_mem _ hl'))

theorem Text_bounding_box_src_eq_model (t : TextSrcPrelude.Text)
    (h : LineFits t.character_style.font.f t.character_style.st t.text.length) :
    TextSrc.Text_Dimensions_bounding_box t = boundingBox t.character_style.font.f t.toModel := by
  -- by `rfl` against the text the translator writes: the loop with `bboxStep` as its body, then `if let .. else` as a
  -- `match` whose second arm is `| _ =>`, repeated here arm for arm
  have hfold : TextSrc.Text_Dimensions_bounding_box t =
      (match for_in (TextSrc.Text_lines t) (Option.none : Option (Pt × Pt)) (bboxStep t) with
        | Option.some (mn, mx) => RectSrc.with_corners mn mx
        | _ => RectSrc.new (Text_position t) RectSrc.Size_zero) := rfl
  rw [hfold, Text_lines_src_eq_model t h, bbox_fold_src_eq_model t _ _
    (fun lp hlp => h.mono (lines_line_sublist _ t.toModel lp hlp).length_le)]
  unfold boundingBox
  cases minMaxGo t.character_style.font.f t.toModel.style t.toModel.ts.baseline none
      (lines t.character_style.font.f t.toModel) with
  | none => rfl
  | some mm => obtain ⟨mn, mx⟩ := mm; exact with_corners_src_eq_model mn mx

theorem Text_translate_src_eq_model (t : TextSrcPrelude.Text) (d : Pt) :
    TextSrc.Text_Transform_translate t d = { t with position := t.position + d } ∧
    (TextSrc.Text_Transform_translate t d).toModel = t.toModel.translate d := ⟨rfl, rfl⟩

/-- **The i-th line** (segment between `\n`s, one trailing `\r` stripped) of the REGENERATED `Text::lines()` is laid
out at `(x, y + i * line_height)` and then aligned (`lines_positions` over the source). -/
theorem src_lines_positions (t : TextSrcPrelude.Text)
    (h : LineFits t.character_style.font.f t.character_style.st t.text.length) :
    TextSrc.Text_lines t = (splitNL t.text).mapIdx (fun i seg =>
      (stripCR seg, alignedPos t.character_style.font.f t.character_style.st t.text_style (stripCR seg)
        ⟨t.position.x, t.position.y + (i : Int) * TextSrc.Text_line_height t⟩)) := by
  rw [Text_lines_src_eq_model t h, Text_line_height_src_eq_model]
  exact C15.lines_positions _ _

/-- `line_height` of the regenerated code: `Pixels(p)` is `p`, `Percent(q)` is `ch * q / 100`, saturated to `i32`. -/
theorem src_line_height_value (t : TextSrcPrelude.Text) :
    TextSrc.Text_line_height t = satAsI32 (match t.text_style.lineHeight with
      | .pixels px => px
      | .percent pc => t.character_style.font.f.ch * pc / 100) := by
  rw [Text_line_height_src_eq_model]; exact C15.line_height_value _ _

/-- the regenerated `measure_string`: the box starts `baseline_offset` above the position, is `bb_width` wide, and the
next position is `bb_width` to the right (what `draw_next_eq_measure` and the alignment theorems are about). -/
theorem src_measure_string_value (s : MonoTextStyle) (text : List Nat) (p : Pt) (bl : Font.Baseline)
    (h : LineFits s.font.f s.st text.length) :
    TextSrc.MonoTextStyle_TextRenderer_measure_string s text p bl =
      { bbox := ⟨⟨p.x, p.y - s.font.f.baselineOffset bl⟩, ⟨bbWidth s.font.f text.length, bbHeight s.font.f s.st⟩⟩,
        next := ⟨p.x + (bbWidth s.font.f text.length : Int), p.y⟩ } :=
  measure_string_src_eq_model s text p bl h

/-- Without the guard the two DO differ: a (custom) font 2^31 pixels wide makes `Point + Size` wrap. -/
theorem measure_string_differs_without_guard :
    TextSrc.MonoTextStyle_TextRenderer_measure_string
        ⟨⟨some 1, none, .none, .none⟩, ⟨⟨0, 0, 2147483648, 1, 0, 0, 0, 0, 0, 0, fun _ => 0⟩, fun _ => false⟩⟩ [65] ⟨0, 0⟩ .top
      ≠ measureString ⟨0, 0, 2147483648, 1, 0, 0, 0, 0, 0, 0, fun _ => 0⟩ ⟨some 1, none, .none, .none⟩ [65] ⟨0, 0⟩ .top := by
  decide

end EG.C15.Src
