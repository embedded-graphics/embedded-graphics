/-
  C16 — the REGENERATED model of `Rectangle` equals the hand-written one.

  `EG/Generated/RectSrc.lean` is written by `tools/tr_rect.py` from /repo's Rust text on every run of a check
  (one Lean `def` per Rust function, arm for arm; every Rust primitive is a function of the small trusted prelude
  `EG/Model/RectSrcPrelude.lean`). This file proves, for every translated function of `Rectangle`, that the
  generated definition equals the hand-written model function of `EG/Model/Rect.lean` for all inputs,
  under the guards listed below where the two differ (`<name>_src_eq_model`), and restates the headline theorems of
  C16 about the generated functions directly (`src_*`). A semantic change of a Rust body therefore changes the generated definition and breaks a theorem here.

  Where the two differ (stated exactly, as hypotheses):
  * `Point + Size` / `Point::sub_size` cast the size with `as i32` (wrapping) behind a `debug_assert!(.. >= 0)`;
    the hand model adds the size mathematically. They agree when the cast does not wrap:
      - `bottom_right`, `contains`, `intersection` (and the `ContainsPoint` impl): guard `FitsI32` on the size(s)
        (`width, height <= i32::MAX`: exactly the condition of the `debug_assert!`s);
      - `center`, `with_center`, `offset`: guard `IsU32` only (the type invariant `width, height <= u32::MAX`,
        which `Nat` does not carry): `(size - 1) / 2` of a `u32` always fits `i32`.
  * `AnchorPoint` is a 9-variant enum in Rust and a pair `⟨AnchorX, AnchorY⟩` in the hand model (`apOf`).
  * `rows()` / `columns()` return a `Range<i32>` (its two ends) in Rust and the list of values in the hand model:
    `range_i32_to_list (RectSrc.rows r) = r.rows`, and the ends are `⟨tl.y, rowsEnd⟩` (`rows_ends_src_eq_model`).
  * everything else (`with_corners`, `envelope`, `anchor_*`, `resized*`, `is_zero_sized`, `overlaps`,
    `center_offset`, `translate`, constructors) is equal unconditionally.
  The `Points` iterator is in `GeneratedPoints.lean`.
-/
import EG.Generated.RectSrc
import EG.Lemmas.SrcSimpAttr
import EG.Lemmas.RectSrcPrelude
import EG.Lemmas.RectPoints
import EG.Props.C16
namespace EG.C16.Src
open EG EG.Rect EG.RectSrcPrelude EG.Generated

/-- `width, height <= i32::MAX`: the condition of the `debug_assert!`s in `Point + Size`. -/
def FitsI32 (s : Sz) : Prop := s.w ≤ 2147483647 ∧ s.h ≤ 2147483647
/-- `width, height <= u32::MAX`: the type invariant of `Size` (not carried by `Nat`). -/
def IsU32 (s : Sz) : Prop := s.w ≤ 4294967295 ∧ s.h ≤ 4294967295
instance (s : Sz) : Decidable (FitsI32 s) := by unfold FitsI32; exact inferInstance
instance (s : Sz) : Decidable (IsU32 s) := by unfold IsU32; exact inferInstance
theorem FitsI32.isU32 {s : Sz} (h : FitsI32 s) : IsU32 s := by unfold FitsI32 at h; unfold IsU32; omega

def axOf : RectSrc.AnchorX → EG.AnchorX
  | .Left => .left | .Center => .center | .Right => .right
def ayOf : RectSrc.AnchorY → EG.AnchorY
  | .Top => .top | .Center => .center | .Bottom => .bottom
/-- The Rust enum `AnchorPoint` as the hand model's pair. -/
def apOf : RectSrc.AnchorPoint → EG.Anchor
  | .TopLeft => ⟨.left, .top⟩ | .TopCenter => ⟨.center, .top⟩ | .TopRight => ⟨.right, .top⟩
  | .CenterLeft => ⟨.left, .center⟩ | .Center => ⟨.center, .center⟩ | .CenterRight => ⟨.right, .center⟩
  | .BottomLeft => ⟨.left, .bottom⟩ | .BottomCenter => ⟨.center, .bottom⟩ | .BottomRight => ⟨.right, .bottom⟩

attribute [rect_prelude] Point_mk Point_x Point_y Point_set_x Point_set_y Size_mk Size_width Size_height
  Size_set_width Size_set_height Rectangle_mk Rectangle_top_left Rectangle_size Rectangle_set_top_left
  Rectangle_set_size i32_add i32_sub i32_mul i32_div i32_neg i32_min i32_max i32_abs i32_unsigned_abs
  i32_eq i32_ne i32_lt i32_le i32_gt i32_ge i32_saturating_add i32_saturating_sub i32_as_u32
  u32_add u32_sub u32_mul u32_div u32_min u32_max u32_eq u32_ne u32_lt u32_le u32_gt u32_ge
  u32_saturating_add u32_saturating_sub u32_saturating_as_i32 u32_as_i32 bool_and bool_or bool_not
  option_is_some_and range_i32_new rangeinclusive_i32_new rangeinclusive_i32_start rangeinclusive_i32_end
  rangeinclusive_i32_contains debug_assert RangeI32_start RangeI32_end RangeI32_set_start RangeI32_set_end
  range_i32_is_empty range_i32_next

/-- unfold every prelude primitive (and the listed generated definitions) -/
macro "prelude_simp" "[" ls:Lean.Parser.Tactic.simpLemma,* "]" loc:(Lean.Parser.Tactic.location)? : tactic =>
  `(tactic| simp only [rect_prelude, $ls,*] $[$loc]?)

theorem tdiv_two (a : Int) : Int.tdiv a 2 = tdiv2 a := i32_div_two a

theorem Point_new_src_eq_model (x y : Int) : RectSrc.Point_new x y = (⟨x, y⟩ : Pt) := rfl
theorem Point_new_equal_src_eq_model (v : Int) : RectSrc.Point_new_equal v = (⟨v, v⟩ : Pt) := rfl
theorem Point_zero_src_eq_model : RectSrc.Point_zero = Pt.zero := rfl
theorem Size_new_src_eq_model (w h : Nat) : RectSrc.Size_new w h = (⟨w, h⟩ : Sz) := rfl
theorem Size_new_equal_src_eq_model (v : Nat) : RectSrc.Size_new_equal v = Sz.newEqual v := rfl
theorem Size_zero_src_eq_model : RectSrc.Size_zero = Sz.zero := rfl
theorem Point_component_min_src_eq_model (a b : Pt) : RectSrc.Point_component_min a b = a.componentMin b := rfl
theorem Point_component_max_src_eq_model (a b : Pt) : RectSrc.Point_component_max a b = a.componentMax b := rfl
theorem Point_add_src_eq_model (a b : Pt) : RectSrc.Point_op_add_Point a b = a + b := rfl
theorem Point_sub_src_eq_model (a b : Pt) : RectSrc.Point_op_sub_Point a b = a - b := rfl
theorem Point_neg_src_eq_model (a : Pt) : RectSrc.Point_op_neg a = -a := rfl
theorem Size_saturating_sub_src_eq_model (a b : Sz) : RectSrc.Size_saturating_sub a b = a.satSub b := rfl
theorem Size_saturating_add_src_eq_model (a b : Sz) : RectSrc.Size_saturating_add a b = a.satAdd b := rfl

/-- `Point + Size` is the mathematical sum when the `debug_assert!`s hold. -/
theorem Point_add_Size_src_eq_model (p : Pt) (s : Sz) (h : FitsI32 s) :
    RectSrc.Point_op_add_Size p s = ⟨p.x + s.w, p.y + s.h⟩ := by
  obtain ⟨h1, h2⟩ := h
  prelude_simp [RectSrc.Point_op_add_Size, RectSrc.Point_new]
  simp only [h1, h2, ↓reduceIte]

theorem Point_sub_size_src_eq_model (p : Pt) (s : Sz) (h : FitsI32 s) :
    RectSrc.Point_sub_size p s = ⟨p.x - s.w, p.y - s.h⟩ := by
  obtain ⟨h1, h2⟩ := h
  prelude_simp [RectSrc.Point_sub_size, RectSrc.Point_new]
  simp only [h1, h2, ↓reduceIte]

theorem new_src_eq_model (tl : Pt) (s : Sz) : RectSrc.new tl s = (⟨tl, s⟩ : Rect) := rfl
theorem new_at_origin_src_eq_model (s : Sz) : RectSrc.new_at_origin s = (⟨Pt.zero, s⟩ : Rect) := rfl
theorem zero_src_eq_model : RectSrc.zero = Rect.zero := rfl

theorem center_offset_src_eq_model (s : Sz) : RectSrc.center_offset s = Rect.centerOffset s := rfl

theorem overlaps_src_eq_model (f0 f1 s0 s1 : Int) :
    RectSrc.overlaps ⟨f0, f1⟩ ⟨s0, s1⟩ = Rect.overlaps f0 f1 s0 s1 := by
  prelude_simp [RectSrc.overlaps, Rect.overlaps]
  rw [Bool.eq_iff_iff]
  simp only [Bool.or_eq_true, Bool.and_eq_true, decide_eq_true_eq]
  omega

theorem with_corners_src_eq_model (a b : Pt) : RectSrc.with_corners a b = Rect.withCorners a b := rfl

theorem centerOffset_fits {s : Sz} (h : IsU32 s) : FitsI32 (Rect.centerOffset s) := by
  unfold IsU32 at h; unfold FitsI32 Rect.centerOffset; dsimp only; omega

theorem with_center_src_eq_model (c : Pt) (s : Sz) (h : IsU32 s) :
    RectSrc.with_center c s = Rect.withCenter c s := by
  unfold RectSrc.with_center
  rw [center_offset_src_eq_model, Point_sub_size_src_eq_model _ _ (centerOffset_fits h)]
  rfl

theorem center_src_eq_model (r : Rect) (h : IsU32 r.size) : RectSrc.center r = r.center := by
  unfold RectSrc.center
  prelude_simp []
  rw [center_offset_src_eq_model, Point_add_Size_src_eq_model _ _ (centerOffset_fits h)]
  rfl

theorem bottom_right_src_eq_model (r : Rect) (h : FitsI32 r.size) : RectSrc.bottom_right r = r.bottomRight := by
  unfold RectSrc.bottom_right
  prelude_simp []
  rw [Point_add_Size_src_eq_model _ _ h]
  prelude_simp [RectSrc.Point_op_sub_Point, RectSrc.Point_new, Rect.bottomRight]
  simp only [Bool.and_eq_true, decide_eq_true_eq]

theorem contains_src_eq_model (r : Rect) (p : Pt) (h : FitsI32 r.size) : RectSrc.contains r p = r.contains p := by
  unfold RectSrc.contains
  rw [bottom_right_src_eq_model r h]
  prelude_simp [Rect.contains]
  simp only [Bool.and_eq_true, decide_eq_true_eq]
  cases r.bottomRight <;> simp

theorem ContainsPoint_contains_src_eq_model (r : Rect) (p : Pt) (h : FitsI32 r.size) :
    RectSrc.ContainsPoint_contains r p = r.contains p := by
  rw [← contains_src_eq_model r p h]; rfl

theorem intersection_src_eq_model (a b : Rect) (ha : FitsI32 a.size) (hb : FitsI32 b.size) :
    RectSrc.intersection a b = a.intersection b := by
  unfold RectSrc.intersection Rect.intersection
  rw [bottom_right_src_eq_model a ha, bottom_right_src_eq_model b hb]
  cases hbr : b.bottomRight <;> cases har : a.bottomRight <;>
    simp only [contains_src_eq_model _ _ ha, contains_src_eq_model _ _ hb, zero_src_eq_model, Rectangle_top_left]
  prelude_simp [overlaps_src_eq_model, with_corners_src_eq_model, Point_component_max_src_eq_model,
    Point_component_min_src_eq_model]

theorem AnchorPoint_x_src_eq_model (a : RectSrc.AnchorPoint) : axOf (RectSrc.AnchorPoint_x a) = (apOf a).ax := by
  cases a <;> rfl
theorem AnchorPoint_y_src_eq_model (a : RectSrc.AnchorPoint) : ayOf (RectSrc.AnchorPoint_y a) = (apOf a).ay := by
  cases a <;> rfl
theorem AnchorPoint_from_xy_src_eq_model (x : RectSrc.AnchorX) (y : RectSrc.AnchorY) :
    apOf (RectSrc.AnchorPoint_from_xy x y) = ⟨axOf x, ayOf y⟩ := by
  cases x <;> cases y <;> rfl

theorem anchor_x_src_eq_model (r : Rect) (a : RectSrc.AnchorX) : RectSrc.anchor_x r a = r.anchorX (axOf a) := by
  cases a <;> prelude_simp [RectSrc.anchor_x, Rect.anchorX, axOf, satAsI32, tdiv_two]

theorem anchor_y_src_eq_model (r : Rect) (a : RectSrc.AnchorY) : RectSrc.anchor_y r a = r.anchorY (ayOf a) := by
  cases a <;> prelude_simp [RectSrc.anchor_y, Rect.anchorY, ayOf, satAsI32, tdiv_two]

theorem anchor_point_src_eq_model (r : Rect) (a : RectSrc.AnchorPoint) :
    RectSrc.anchor_point r a = r.anchorPoint (apOf a) := by
  unfold RectSrc.anchor_point Rect.anchorPoint
  rw [anchor_x_src_eq_model, anchor_y_src_eq_model, AnchorPoint_x_src_eq_model, AnchorPoint_y_src_eq_model]
  rfl

theorem envelope_src_eq_model (a b : Rect) : RectSrc.envelope a b = a.envelope b := rfl

theorem resize_width_mut_src_eq_model (r : Rect) (w : Nat) (a : RectSrc.AnchorX) :
    RectSrc.resize_width_mut r w a = r.resizedWidth w (axOf a) := by
  cases a <;> prelude_simp [RectSrc.resize_width_mut, Rect.resizedWidth, axOf, satAsI32, tdiv_two]

theorem resize_height_mut_src_eq_model (r : Rect) (h : Nat) (a : RectSrc.AnchorY) :
    RectSrc.resize_height_mut r h a = r.resizedHeight h (ayOf a) := by
  cases a <;> prelude_simp [RectSrc.resize_height_mut, Rect.resizedHeight, ayOf, satAsI32, tdiv_two]

theorem resized_width_src_eq_model (r : Rect) (w : Nat) (a : RectSrc.AnchorX) :
    RectSrc.resized_width r w a = r.resizedWidth w (axOf a) := by
  unfold RectSrc.resized_width; exact resize_width_mut_src_eq_model r w a

theorem resized_height_src_eq_model (r : Rect) (h : Nat) (a : RectSrc.AnchorY) :
    RectSrc.resized_height r h a = r.resizedHeight h (ayOf a) := by
  unfold RectSrc.resized_height; exact resize_height_mut_src_eq_model r h a

theorem resized_src_eq_model (r : Rect) (s : Sz) (a : RectSrc.AnchorPoint) :
    RectSrc.resized r s a = r.resized s (apOf a) := by
  unfold RectSrc.resized Rect.resized
  simp only [resize_width_mut_src_eq_model, resize_height_mut_src_eq_model, AnchorPoint_x_src_eq_model,
    AnchorPoint_y_src_eq_model, Size_width, Size_height]

theorem offset_src_eq_model (r : Rect) (o : Int) (h : IsU32 r.size) : RectSrc.offset r o = r.offset o := by
  unfold RectSrc.offset Rect.offset
  by_cases ho : o ≥ 0
  · have h1 : i32_ge o 0 = true := by simp [i32_ge, ho]
    have h2 : i32_as_u32 o = o.toNat := i32_as_u32_of_nonneg ho
    simp only [h1, ho, ↓reduceIte, h2, u32_mul, Size_new_equal_src_eq_model, Size_saturating_add_src_eq_model,
      Point_new_equal_src_eq_model, Point_sub_src_eq_model, new_src_eq_model, Rectangle_top_left, Rectangle_size]
  · have h1 : i32_ge o 0 = false := by simp [i32_ge, ho]
    have h2 : i32_as_u32 (i32_neg o) = (-o).toNat := i32_as_u32_of_nonneg (a := -o) (by omega)
    have h3 : IsU32 (r.size.satSub (Sz.newEqual ((-o).toNat * 2))) := by
      unfold IsU32 at h ⊢; unfold Sz.satSub Sz.newEqual; dsimp only; omega
    simp only [h1, ho, ↓reduceIte, h2, u32_mul, Size_new_equal_src_eq_model, Size_saturating_sub_src_eq_model,
      Rectangle_size, center_src_eq_model r h, Bool.false_eq_true]
    exact with_center_src_eq_model _ _ h3

theorem OffsetOutline_offset_src_eq_model (r : Rect) (o : Int) (h : IsU32 r.size) :
    RectSrc.OffsetOutline_offset r o = r.offset o := by
  unfold RectSrc.OffsetOutline_offset; exact offset_src_eq_model r o h

theorem rows_src_eq_model (r : Rect) : range_i32_to_list (RectSrc.rows r) = r.rows := rfl

theorem columns_src_eq_model (r : Rect) : range_i32_to_list (RectSrc.columns r) = r.columns := rfl

theorem rows_ends_src_eq_model (r : Rect) : RectSrc.rows r = ⟨r.tl.y, r.rowsEnd⟩ := rfl
theorem columns_ends_src_eq_model (r : Rect) : RectSrc.columns r = ⟨r.tl.x, r.columnsEnd⟩ := rfl

theorem is_zero_sized_src_eq_model (r : Rect) : RectSrc.is_zero_sized r = r.isZeroSized := rfl

theorem Transform_translate_src_eq_model (r : Rect) (d : Pt) : RectSrc.Transform_translate r d = r.translate d := rfl
theorem Dimensions_bounding_box_src_eq_model (r : Rect) : RectSrc.Dimensions_bounding_box r = r := rfl
theorem PointsIter_points_src_eq_model (r : Rect) : RectSrc.PointsIter_points r = RectSrc.Points_new r := rfl

/-- **Inventory**: every function of every `impl` of `Rectangle` and of `Points` in the parsed files is translated,
except the ones listed here: `translate_mut` returns `&mut Self`
(outside the translator's subset; the model has no in-place variant). A function ADDED to one of these impls (for
instance an override of `Iterator::fold` / `nth` / `size_hint` for `Points`, which changes what callers see without
touching a translated body) appears in `RectSrc.untranslated` and breaks this theorem. -/
theorem untranslated_pinned :
    RectSrc.untranslated = [("impl Transform for Rectangle", ["translate_mut"])] := rfl

/-- sizes of an intersection are bounded by the operands' (so the guards propagate) -/
theorem intersection_fits (a b : Rect) (ha : FitsI32 a.size) (hb : FitsI32 b.size) :
    FitsI32 (a.intersection b).size := by
  rcases Rect.intersection_cases a b with h | ⟨-, h | ⟨h, -, -⟩ | ⟨h, -, -⟩⟩
  · rw [h]
    exact ⟨Nat.le_trans Rect.common_axis_le_left ha.1, Nat.le_trans Rect.common_axis_le_left ha.2⟩
  · rw [h]
    exact ⟨Nat.zero_le _, Nat.zero_le _⟩
  · rw [h]
    exact ha
  · rw [h]
    exact hb

/-- `intersection` (regenerated from source) returns exactly the common points. -/
theorem src_mem_intersection (a b : Rect) (ha : FitsI32 a.size) (hb : FitsI32 b.size) (p : Pt) :
    RectSrc.contains (RectSrc.intersection a b) p = true ↔
      (RectSrc.contains a p = true ∧ RectSrc.contains b p = true) := by
  rw [intersection_src_eq_model a b ha hb, contains_src_eq_model _ _ (intersection_fits a b ha hb),
    contains_src_eq_model _ _ ha, contains_src_eq_model _ _ hb]
  exact Rect.mem_intersection a b p

example : FitsI32 (⟨⟨0, 0⟩, ⟨7, 8⟩⟩ : Rect).size ∧ FitsI32 (⟨⟨2, 3⟩, ⟨10, 7⟩⟩ : Rect).size := by decide
example : RectSrc.intersection ⟨⟨0, 0⟩, ⟨7, 8⟩⟩ ⟨⟨2, 3⟩, ⟨10, 7⟩⟩ = ⟨⟨2, 3⟩, ⟨5, 5⟩⟩ := by decide

/-- `contains` (regenerated) is top-left plus size as a set of points. -/
theorem src_contains_iff (r : Rect) (h : FitsI32 r.size) (p : Pt) :
    RectSrc.contains r p = true ↔
      r.tl.x ≤ p.x ∧ p.x < r.tl.x + r.size.w ∧ r.tl.y ≤ p.y ∧ p.y < r.tl.y + r.size.h := by
  rw [contains_src_eq_model r p h]; exact Rect.contains_iff

/-- `envelope` (regenerated) contains both operands (sizes read as at least 1), when its own size
fits `i32` (`he`: the regenerated `contains` casts it) ... -/
theorem src_envelope_contains (a b : Rect) (ha : FitsI32 a.size) (hb : FitsI32 b.size)
    (he : FitsI32 (RectSrc.envelope a b).size) (p : Pt)
    (hp : RectSrc.contains a.atLeastOne p = true ∨ RectSrc.contains b.atLeastOne p = true) :
    RectSrc.contains (RectSrc.envelope a b) p = true := by
  have ha1 : FitsI32 a.atLeastOne.size := by unfold FitsI32 at *; simp only [Rect.atLeastOne]; omega
  have hb1 : FitsI32 b.atLeastOne.size := by unfold FitsI32 at *; simp only [Rect.atLeastOne]; omega
  rw [contains_src_eq_model _ _ ha1, contains_src_eq_model _ _ hb1] at hp
  rw [contains_src_eq_model _ _ he, envelope_src_eq_model]
  exact EG.C16.envelope_contains a b ha hb p hp

/-- ... and is the smallest such rectangle. -/
theorem src_envelope_least (a b c : Rect) (ha : FitsI32 a.size) (hb : FitsI32 b.size)
    (he : FitsI32 (RectSrc.envelope a b).size) (hc : FitsI32 c.size)
    (hall : ∀ p, (RectSrc.contains a.atLeastOne p = true ∨ RectSrc.contains b.atLeastOne p = true) →
      RectSrc.contains c p = true)
    (p : Pt) (hp : RectSrc.contains (RectSrc.envelope a b) p = true) : RectSrc.contains c p = true := by
  have ha1 : FitsI32 a.atLeastOne.size := by unfold FitsI32 at *; simp only [Rect.atLeastOne]; omega
  have hb1 : FitsI32 b.atLeastOne.size := by unfold FitsI32 at *; simp only [Rect.atLeastOne]; omega
  rw [contains_src_eq_model _ _ he, envelope_src_eq_model] at hp
  rw [contains_src_eq_model _ _ hc]
  refine Rect.envelope_least a b c ha hb ?_ p hp
  intro q hq
  have := hall q (by rw [contains_src_eq_model _ _ ha1, contains_src_eq_model _ _ hb1]; exact hq)
  rwa [contains_src_eq_model _ _ hc] at this

example : FitsI32 (RectSrc.envelope ⟨⟨0, 0⟩, ⟨7, 8⟩⟩ ⟨⟨2, 3⟩, ⟨10, 7⟩⟩).size := by decide
example : RectSrc.envelope ⟨⟨0, 0⟩, ⟨7, 8⟩⟩ ⟨⟨2, 3⟩, ⟨10, 7⟩⟩ = ⟨⟨0, 0⟩, ⟨12, 10⟩⟩ := by decide

/-- `with_center(center(), size)` (regenerated) is the identity. -/
theorem src_with_center_center (r : Rect) (h : IsU32 r.size) :
    RectSrc.with_center (RectSrc.center r) r.size = r := by
  rw [center_src_eq_model r h, with_center_src_eq_model _ _ h]
  exact EG.C16.with_center_center r

example : IsU32 (⟨⟨5, 5⟩, ⟨4, 6⟩⟩ : Rect).size := by decide

/-- `offset(n)` (regenerated) moves every side by `n` whenever the result has a positive size. -/
theorem src_offset_moves_sides (r : Rect) (n : Int)
    (hr : 0 ≤ n ∨ (0 < r.size.w ∧ 0 < r.size.h))
    (hn : 0 < (r.size.w : Int) + 2 * n ∧ 0 < (r.size.h : Int) + 2 * n)
    (hb : (r.size.w : Int) + 2 * n ≤ 4294967295 ∧ (r.size.h : Int) + 2 * n ≤ 4294967295)
    (hu : IsU32 r.size) :
    (RectSrc.offset r n).tl.x = r.tl.x - n ∧ (RectSrc.offset r n).tl.y = r.tl.y - n ∧
    ((RectSrc.offset r n).size.w : Int) = r.size.w + 2 * n ∧ ((RectSrc.offset r n).size.h : Int) = r.size.h + 2 * n := by
  rw [offset_src_eq_model r n hu]
  exact EG.C16.offset_moves_sides r n hr hn hb

example : RectSrc.offset ⟨⟨5, 5⟩, ⟨4, 6⟩⟩ (-1) = ⟨⟨6, 6⟩, ⟨2, 4⟩⟩ := by decide
example : RectSrc.offset ⟨⟨5, 5⟩, ⟨0, 3⟩⟩ 1 = ⟨⟨4, 4⟩, ⟨2, 5⟩⟩ := by decide

/-- Where the guard is needed: a width above `i32::MAX` wraps in `Point + Size` (a checked build stops at the
`debug_assert!`), so the regenerated `bottom_right` and the mathematical model differ there. -/
theorem bottom_right_differs_without_guard :
    RectSrc.bottom_right ⟨⟨0, 0⟩, ⟨2147483648, 1⟩⟩ = some ⟨-2147483649, 0⟩ ∧
    (⟨⟨0, 0⟩, ⟨2147483648, 1⟩⟩ : Rect).bottomRight = some ⟨2147483647, 0⟩ := by decide

/-- C03's clipping (`Adapter.clipped*`, `C03.clipped_exact`) is stated with `Rect.intersection`; by this equality it
is a statement about the regenerated `intersection` for every pair of `i32`-sized rectangles. -/
theorem clip_area_src (clip B : Rect) (h1 : FitsI32 clip.size) (h2 : FitsI32 B.size) :
    clip.intersection B = RectSrc.intersection clip B := (intersection_src_eq_model clip B h1 h2).symm

end EG.C16.Src
