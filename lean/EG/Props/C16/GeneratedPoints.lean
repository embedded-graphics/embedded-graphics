/-
  C16 — the REGENERATED `rectangle::Points` iterator equals the hand-written state machine.

  `tools/tr_rect.py` also translates core/src/primitives/rectangle/points.rs (`Points::new`, `Points::empty`,
  `Iterator::next` with its `while` loop, `if let` and the calls of `Range::next` that mutate `self.x` / `self.y`)
  into `EG.Generated.RectSrc.Points_new / Points_empty / Iterator_next`. The `while` loop runs on explicit fuel
  (`RectSrcPrelude.while_loop`); this file proves that with more fuel than there are rows left
  (`(y.end - y.start) + 1` suffices) one call of the regenerated `next` is exactly one call of the hand model's
  `Rect.PointsIt.next` (same point, same successor state; `None` together), that `Points::new` builds the model's
  initial state, and hence that the list a `for` loop collects from the regenerated iterator is `Rect.points`
  (about which C16 / C05 prove: exactly the points `contains` accepts, row-major, each once).
-/
import EG.Props.C16.Generated
import EG.Lemmas.RectSrcPrelude
import EG.Lemmas.SrcIter
namespace EG.C16.Src
open EG EG.Rect EG.RectSrcPrelude EG.Generated

/-- The regenerated iterator state (`x: Range<i32>, y: Range<i32>, x_start`) as the hand model's flat record. -/
def pointsItOf (p : RectSrc.Points) : Rect.PointsIt := ⟨p.x.start, p.x.end_, p.y.start, p.y.end_, p.x_start⟩

/-- What one call of `next` shows to the caller, in the hand model's vocabulary. -/
def nextView (r : Option Pt × RectSrc.Points) : Option (Pt × Rect.PointsIt) :=
  r.1.map (fun pt => (pt, pointsItOf r.2))

theorem Points_empty_src_eq_model : pointsItOf RectSrc.Points_empty = PointsIt.empty := rfl

theorem Points_new_src_eq_model (r : Rect) : pointsItOf (RectSrc.Points_new r) = r.pointsIt := by
  unfold RectSrc.Points_new Rect.pointsIt
  rw [is_zero_sized_src_eq_model]
  cases h : r.isZeroSized
  · simp only [Bool.false_eq_true, ↓reduceIte, columns_ends_src_eq_model, rows_ends_src_eq_model]; rfl
  · simp only [↓reduceIte]; rfl

/-- One call of the regenerated `next`, on `fuel` loop iterations, is one `nextFuel fuel` of the hand model. -/
theorem Iterator_next_fuel_src_eq_model : ∀ (fuel : Nat) (p : RectSrc.Points),
    (p.y.end_ - p.y.start).toNat < fuel →
    (RectSrc.Iterator_next fuel p).map nextView = some ((pointsItOf p).nextFuel fuel) := by
  intro fuel
  induction fuel with
  | zero => intro p h; omega
  | succ n ih =>
    intro ⟨⟨xs, xe⟩, ⟨ys, ye⟩, x0⟩ h
    rw [PointsIt.nextFuel]
    dsimp only [pointsItOf]
    by_cases hy : ys < ye
    · simp only [hy, ↓reduceIte]
      by_cases hx : xs < xe
      · -- a point of the current row is yielded
        simp only [hx, ↓reduceIte]
        rw [RectSrc.Iterator_next,
          while_loop_return n (by simp [hy]) (by simp only [range_i32_next, RectSrc.Points_x, if_pos hx]; rfl)]
        rfl
      · -- row exhausted: restart `x`, go to row `y + 1`, loop again
        simp only [hx, ↓reduceIte]
        rw [RectSrc.Iterator_next,
          while_loop_continue (s' := ⟨⟨x0, xe⟩, ⟨ys + 1, ye⟩, x0⟩) n (by simp [hy])
            (by simp only [range_i32_next, RectSrc.Points_x, RectSrc.Points_y, RectSrc.Points_set_x, if_neg hx, if_pos hy])]
        exact ih ⟨⟨x0, xe⟩, ⟨ys + 1, ye⟩, x0⟩ (by dsimp only at h ⊢; omega)
    · -- no row left
      simp only [hy, ↓reduceIte]
      rw [RectSrc.Iterator_next, while_loop_exit n (by simp [hy])]
      rfl

/-- **`Iterator::next` (regenerated) = `PointsIt.next` (hand model)** whenever the fuel exceeds the rows left. -/
theorem Iterator_next_src_eq_model (p : RectSrc.Points) (fuel : Nat) (h : (p.y.end_ - p.y.start).toNat < fuel) :
    (RectSrc.Iterator_next fuel p).map nextView = some (pointsItOf p).next := by
  rw [Iterator_next_fuel_src_eq_model fuel p h]
  unfold PointsIt.next
  congr 1
  exact PointsIt.nextFuel_stable _ _ _ (by simpa [pointsItOf] using h) (by omega)

example : ((⟨⟨0, 3⟩, ⟨5, 7⟩, 0⟩ : RectSrc.Points).y.end_ - (⟨⟨0, 3⟩, ⟨5, 7⟩, 0⟩ : RectSrc.Points).y.start).toNat < 3 := by decide
example : RectSrc.Iterator_next 3 ⟨⟨3, 3⟩, ⟨5, 7⟩, 0⟩ = some (some ⟨0, 6⟩, ⟨⟨1, 3⟩, ⟨6, 7⟩, 0⟩) := by decide

/-- What a `for` loop collects from the regenerated iterator (`steps` calls of `next` at most, each with the fuel
that `Iterator_next_src_eq_model` asks for). -/
def srcCollect : Nat → RectSrc.Points → List Pt
  | 0, _ => []
  | steps + 1, p =>
    match RectSrc.Iterator_next ((p.y.end_ - p.y.start).toNat + 1) p with
    | some (some pt, p') => pt :: srcCollect steps p'
    | _ => []

theorem srcCollect_drains :
    Drains (SrcIter.ofFuelled fun p => RectSrc.Iterator_next ((p.y.end_ - p.y.start).toNat + 1) p) srcCollect :=
  ⟨fun _ => rfl, fun n p => by
    rw [srcCollect, SrcIter.ofFuelled]
    rcases RectSrc.Iterator_next _ p with _ | ⟨_ | _, _⟩ <;> rfl⟩

theorem srcCollect_src_eq_model : ∀ (steps : Nat) (p : RectSrc.Points),
    srcCollect steps p = (pointsItOf p).toListFuel steps :=
  srcCollect_drains.view PointsIt.drains pointsItOf
    fun p => SrcIter.ofFuelled_view (Iterator_next_src_eq_model p _ (Nat.lt_succ_self _))

/-- `rect.points()` collected from the regenerated `Points::new` + `next`. -/
def srcPoints (r : Rect) : List Pt :=
  let it := RectSrc.Points_new r
  srcCollect ((it.y.end_ - it.y.start).toNat * (it.x.end_ - it.x_start).toNat + 1) it

/-- **The regenerated iterator yields the hand model's `points`** ... -/
theorem points_src_eq_model (r : Rect) : srcPoints r = r.points := by
  unfold srcPoints Rect.points
  simp only [srcCollect_src_eq_model, Points_new_src_eq_model]
  have := Points_new_src_eq_model r
  simp only [pointsItOf] at this
  rw [← this]

/-- ... hence exactly the points the regenerated `contains` accepts (C16 / C05's statement, both sides regenerated). -/
theorem src_mem_points_iff_contains (r : Rect) (h : r.InRange) (p : Pt) :
    p ∈ srcPoints r ↔ RectSrc.contains r p = true := by
  rw [points_src_eq_model, contains_src_eq_model r p ⟨h.w_le, h.h_le⟩]
  exact Rect.mem_points h

theorem src_points_row_major (r : Rect) : (srcPoints r).Pairwise Pt.rowMajorLt := by
  rw [points_src_eq_model]; exact Rect.points_rowMajor r

example : (⟨⟨-2, 3⟩, ⟨5, 4⟩⟩ : Rect).InRange := by decide
example : srcPoints ⟨⟨-1, 2⟩, ⟨2, 2⟩⟩ = [⟨-1, 2⟩, ⟨0, 2⟩, ⟨-1, 3⟩, ⟨0, 3⟩] := by decide

end EG.C16.Src
