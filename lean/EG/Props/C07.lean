/-
  C07 — rendering commutes with translation. This root file holds no theorem of its own: the
  property theorems are in the files of `EG/Props/C07/`:
    Rectangle.lean, Curved.lean, CurvedDraw.lean, RoundedRect.lean, Arc.lean, ArcAngles.lean,
    Line.lean, Triangle.lean, Image.lean, Text.lean
                      per drawable: geometry, `points()`, bounding box, the calls of `draw()`, the
                      pixels of `pixels()` and the picture move with the object
    ThickLine.lean    stroked lines of any width
    Joins.lean        the join code behind stroked polylines and styled triangles, up to their
                      bounding box, `fill_solid` calls and pixels, under saturation guards
    JoinsDisplayScale.lean  those guards hold at display scale
    JoinsTotal.lean   the models these theorems speak about are total
    TranslateMut.lean `translate_mut` leaves the value `translate` returns
  Sub-claims that are not proved are the `-- [V]` lines of those files.
-/
import EG.Basic.Core
namespace EG.C07
end EG.C07
