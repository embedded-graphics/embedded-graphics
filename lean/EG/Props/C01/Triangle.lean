/-
  C01 (styled Triangle, every style) — one image per drawing path.

  triangle/styled.rs (model EG/Model/ThickTriangle.lean, `Joins.triDraw` / `Joins.triPixels`, every
  stroke width — 0 and 1 included —, three alignments, fill and/or stroke colour, collapsed inside
  strokes, zero-area triangles; tied by the stream `thick.triangle`):
  * `draw_styled` runs a `for` loop over `ScanlineIterator::new(..)`, whose items are
    (scanline, kind); a scanline whose kind has a colour (`Stroke` -> `effective_stroke_color()`,
    `Fill` -> `fill_color`) becomes ONE `fill_solid` of its 1-px-high rectangle, the others are
    skipped; nothing at all for a transparent style;
  * `StyledPixelsIterator` (`pixels()`) holds the same `ScanlineIterator`, walks every coloured
    scanline point by point and skips the scanlines without a colour (/repo 7cb80e4).
  Scanlines of one row can OVERLAP WITH DIFFERENT COLOURS (the iterator yields the fill line of a row
  before the two stroke lines; a wide stroke covers part of the fill), so the order of the calls
  decides the picture. Here: both paths visit the same typed scanlines IN THE SAME ORDER
  (`styled_triangle_same_scanlines`), every rectangle is written left to right like its scanline,
  so the WRITE SEQUENCE of `draw()` on a native-fill target — and, by the trait defaults, on a
  draw_iter-only target — is exactly the pixel sequence of `pixels()` clipped to the target box:
  same points, same colours, same order. Hence the three paths leave the same pixel map, and "last
  write wins" picks the same colour on each.
  Helper lemmas: EG/Lemmas/Stream.lean, C01ThickTri.lean, JoinsTriRows.lean,
  TriRowScan.lean, TriTopRow.lean.

  THE SCANLINE ITERATOR IS NOT FUSED, and the model keeps that (`TriScanlines.next` returns the
  successor state with `None` too): a row of the styled bounding box without any intersection makes
  `next()` return `None`, the following call goes on with the row after it. `draw_styled`'s `for`
  loop stops at the first `None`; `StyledPixelsIterator::new` calls `next()` once, FORGIVES a `None`
  and keeps the advanced iterator, `StyledPixelsIterator::next` stops at the first `None` it sees
  itself. The two renderers therefore differ exactly if the first call returns `None` and the second
  does not — if the first two rows of the box have no scanline and a later row has a coloured one.
  `styled_triangle_first_none_final`: this never happens, because the TOP ROW of the box always has a
  scanline unless no row has one (the top row is the row of an end point of a drawn edge / of the
  topmost vertex, and a Bresenham line contains its end points). An empty row FURTHER DOWN would stop
  both renderers alike (no such row was ever seen: harness counters `triangle:scanlines:*`).

  Guards (decidable, `True` on every op of the `thick.triangle` stream):
  * `TriRectsInRange t style` — no `fill_solid` rectangle saturates `i32` (`Rect.InRange`);
  * `TriNeedsI32 t style → TriI32 t` — the vertices are `i32`s (true of every real `Triangle`; the
    model's coordinates are integers), asked only for stroke width 1 and for non-collapsed Inside
    strokes of width > 1, where the proof of the top-row fact uses that the join corners at a vertex
    are computed exactly.
  No fuel guard: the model drains `pixels()` with the total length of the scanline run as fuel, which
  is PROVED sufficient (`styled_triangle_pixels_complete`), like the fuels of the scanline `for` loop
  and of the `loop` inside `StyledPixelsIterator::next` (at most three scanlines per row).
-/
import EG.Lemmas.TriTopRow
import EG.Lemmas.JoinsTransparent
import EG.Lemmas.JoinsRectsInRange
namespace EG.C01.Triangle
open EG EG.Tgt EG.Joins EG.C01Thick

/-- The full claim for one styled triangle: the three paths leave the same pixel map on every
target box. -/
def StyledTrianglePathsAgree (t : Tri) (style : TriStyle) : Prop :=
  ∀ calls px, triDraw t style = some calls → triPixels t style = some px →
    ∀ (B : Rect) (p : Pt),
      runNative B (solidCalls calls) p = runDefault B [Call.drawIter px] p ∧
      runDefault B (solidCalls calls) p = runDefault B [Call.drawIter px] p

/-- The model of a styled triangle is total: `draw()` and `pixels()` always return. -/
theorem styled_triangle_total (t : Tri) (style : TriStyle) :
    (∃ calls, triDraw t style = some calls) ∧ (∃ px, triPixels t style = some px) :=
  ⟨triDraw_total t style, triPixels_total t style⟩

/-- **A first `None` of the (non-fused) scanline iterator is final.** If the first `next()` call on the
`ScanlineIterator` of a styled triangle returns `None`, so does the call after it, made on the iterator
as the first call left it (`li'`): `StyledPixelsIterator::new`, which forgives one `None`, and the `for`
loop of `draw_styled`, which stops at it, see the same scanlines. Every triangle, stroke width,
alignment and fill option; `i32` vertices where `TriNeedsI32` (width 1, non-collapsed Inside strokes
of width > 1). -/
theorem styled_triangle_first_none_final (t : Tri) (style : TriStyle) (hi : TriNeedsI32 t style → TriI32 t) :
    ∀ li li', triScanlines t style = some li → li.next = some (none, li') → li'.nextLoop = some none :=
  triFirstNoneFinal t style hi
example : TriNeedsI32 ⟨⟨-3, 1⟩, ⟨6, -2⟩, ⟨2, 7⟩⟩ ⟨some 9, some 5, 3, .inside⟩ ∧ TriI32 ⟨⟨-3, 1⟩, ⟨6, -2⟩, ⟨2, 7⟩⟩ := by
  decide +kernel
-- the premise `li.next = some (none, li')` is not vacuous, and `li'` is NOT `li` (the iterator is not fused):
-- stroke width 0 without fill — the first call returns `None` and leaves the iterator on the second row
example : (do
    let li ← triScanlines ⟨⟨-3, 1⟩, ⟨6, -2⟩, ⟨2, 7⟩⟩ ⟨none, some 5, 0, .center⟩
    let (r, li') ← li.next
    pure (r.isNone && li'.rowsStart == li.rowsStart + 1 && li'.scanlineY == li.scanlineY + 1)) = some true := by
  decide +kernel

-- WHY the top-row fact is needed (and that the model really is not fused): give the same triangle's
-- `ScanlineIterator` a box that starts TWO rows above the topmost vertex (not the styled bounding box).
-- The first call returns `None` (rows -4 and -3 have no intersection), the second call returns the first
-- scanline of row -2: the `for` loop of `draw_styled` would see no scanline at all, `StyledPixelsIterator`
-- (one forgiven `None`) all of them. With the real box — or a box starting ONE row above — no call before
-- the last row returns `None`.
example : (do
    let li ← TriScanlines.new ⟨⟨-3, 1⟩, ⟨6, -2⟩, ⟨2, 7⟩⟩ 1 .none false ⟨⟨-3, -4⟩, ⟨10, 12⟩⟩
    let l ← li.toList
    let (r1, li1) ← li.next
    let (r2, _) ← li1.next
    pure (l.length, r1.isNone, r2.map (·.1.y))) = some (0, true, some (-2)) := by decide +kernel
example : (do
    let li ← TriScanlines.new ⟨⟨-3, 1⟩, ⟨6, -2⟩, ⟨2, 7⟩⟩ 1 .none false ⟨⟨-3, -3⟩, ⟨10, 11⟩⟩
    let l ← li.toList
    let (r1, _) ← li.next
    pure (l.length, r1.map (·.1.y))) = some (17, some (-2)) := by decide +kernel

/-- **The top row of the styled bounding box has a scanline** (the line configuration
`ScanlineIntersections::new` computes for it yields one), unless the style has stroke width 0 and no
fill colour — then no row has one. -/
theorem styled_triangle_top_row_has_scanline (t : Tri) (style : TriStyle) (bb : Rect)
    (hbb : triStyledBoundingBox t style = some bb) (hlt : bb.tl.y < 2147483647)
    (hi : TriNeedsI32 t style → TriI32 t) (ints0 : TriIntersections)
    (hnew : TriIntersections.new t.sortedClockwise style.strokeWidth style.strokeAlignment.toOffset
      style.fillColor.isSome bb.tl.y = some ints0) :
    ints0.next.isSome = true ∨
      (ints0.strokeWidth = 0 ∧ ints0.hasFill = false ∧ ints0.isCollapsed = false) :=
  triIntersections_new_top t style bb hbb hlt hi ints0 hnew
example : ∃ bb, triStyledBoundingBox ⟨⟨-3, 1⟩, ⟨6, -2⟩, ⟨2, 7⟩⟩ ⟨some 9, some 5, 3, .outside⟩ = some bb ∧
    bb.tl.y < 2147483647 ∧
    (TriIntersections.new (⟨⟨-3, 1⟩, ⟨6, -2⟩, ⟨2, 7⟩⟩ : Tri).sortedClockwise 3 .left true bb.tl.y).isSome = true := by
  obtain ⟨bb, hb⟩ := triStyledBoundingBox_total ⟨⟨-3, 1⟩, ⟨6, -2⟩, ⟨2, 7⟩⟩ ⟨some 9, some 5, 3, .outside⟩
  -- a display-scale triangle: the box lies within 2^27 + 4096 of the origin
  have hn := @triStyledBoundingBox_near ⟨⟨-3, 1⟩, ⟨6, -2⟩, ⟨2, 7⟩⟩ (by decide) (by decide) (by decide)
    ⟨some 9, some 5, 3, .outside⟩ (by decide) bb hb
  obtain ⟨it, hit⟩ := TriIntersections.new_total (⟨⟨-3, 1⟩, ⟨6, -2⟩, ⟨2, 7⟩⟩ : Tri).sortedClockwise 3 .left true bb.tl.y
  refine ⟨bb, hb, ?_, by rw [hit]; rfl⟩
  have h2 := hn.1
  unfold PtNear at h2
  omega

/-- **`pixels()` of the model is complete, and both paths walk the same scanlines in the same order.**
One list `L` of typed, non-empty scanlines — the run of the `ScanlineIterator` up to its first `None`
— gives both the `fill_solid` calls of `draw()` (the coloured scanlines as rectangles, in the order of
`L`) and the pixels of `pixels()` (the coloured scanlines point by point, in the order of `L`; ALL of
them: the fuel of the model's drain is never used up). -/
theorem styled_triangle_same_scanlines (t : Tri) (style : TriStyle) (hi : TriNeedsI32 t style → TriI32 t) :
    ∃ L : List (Scanline × Joins.PointType), (∀ x ∈ L, x.1.isEmpty = false) ∧
      triDraw t style = some (if style.isTransparent then [] else L.filterMap (triCall style)) ∧
      triPixels t style = some (L.flatMap (typedPixels style.fillColor style.effectiveStrokeColor)) :=
  tri_same_scanlines t style (triFirstNoneFinal t style hi)
example : ¬ TriNeedsI32 ⟨⟨-3, 1⟩, ⟨6, -2⟩, ⟨2, 7⟩⟩ ⟨some 9, some 5, 3, .center⟩ := by decide +kernel

/-- The model's `pixels()` is the complete run of the pixel iterator (no fuel guard): with ANY larger
fuel the drain returns the same list. -/
theorem styled_triangle_pixels_complete (t : Tri) (style : TriStyle) (hi : TriNeedsI32 t style → TriI32 t)
    (px : Writes) (hpx : triPixels t style = some px) :
    ∃ it, TriPixels.new t style = some it ∧ ∀ fuel, px.length < fuel → it.toListFuel fuel = some px := by
  have hf := triFirstNoneFinal t style hi
  obtain ⟨li, hli⟩ := triScanlines_total t style
  obtain ⟨L, hL, hrun, -⟩ := triLines li
  obtain ⟨it, hit, hpix⟩ := triPix_new t style hf li hli L hrun
  have hLr : triScanlineRun t style = some L := by unfold triScanlineRun; rw [hli]; exact hL
  rw [triPixels_eq_map t style hf, hLr] at hpx
  cases hpx
  exact ⟨it, hit, fun fuel hfuel => by rw [triPixels_toListFuel_eq]; exact hpix.listFuel fuel hfuel⟩
example : TriI32 ⟨⟨-3, 1⟩, ⟨6, -2⟩, ⟨2, 7⟩⟩ := by decide

/-- **Write sequences.** For every triangle, style and target box: the writes of `draw()` — natively
(R2) and through the trait defaults (R1) — are exactly the pixels of `pixels()` clipped to the box:
same points, same colours, same order (so a stroke pixel written over a fill pixel is written over
it on every path). -/
theorem styled_triangle_writes_agree (t : Tri) (style : TriStyle)
    (hr : TriRectsInRange t style) (hi : TriNeedsI32 t style → TriI32 t) (calls : List (Rect × Nat))
    (px : Writes) (hd : triDraw t style = some calls) (hpx : triPixels t style = some px) (B : Rect) :
    (solidCalls calls).flatMap (Call.writesNative B) = clipWrites B px ∧
    (solidCalls calls).flatMap (Call.writesDefault B) = clipWrites B px :=
  writes_eq_of_lowerNative (triStyled_writes t style (triFirstNoneFinal t style hi) B hr calls px hd hpx)
example : TriRectsInRange ⟨⟨-3, 1⟩, ⟨6, -2⟩, ⟨2, 7⟩⟩ ⟨some 9, some 5, 3, .center⟩ := by
  -- `@`: elaborating a term against the guard as expected type reduces it to see whether it binds implicit
  -- arguments, which evaluates `triDraw`
  refine @triRectsInRange_display_scale _ _ ?_ ?_ ?_ ?_ <;> decide

/-- **Styled triangle: `draw()` on R1 = `draw()` on R2 = `draw_iter(pixels())`**, as pixel maps, for
every triangle (also zero-area), stroke width (0, 1 and wider), alignment, fill / stroke colour option
(also none: nothing is drawn on any path) and target box. Guards: `i32` ranges only. -/
theorem styled_triangle_paths_agree (t : Tri) (style : TriStyle)
    (hr : TriRectsInRange t style) (hi : TriNeedsI32 t style → TriI32 t) : StyledTrianglePathsAgree t style := by
  intro calls px hd hpx B p
  obtain ⟨h1, h2⟩ := runs_eq_of_writes (styled_triangle_writes_agree t style hr hi calls px hd hpx B)
  rw [runDefault_drawIter, h1, h2]
  exact ⟨rfl, rfl⟩
-- a stroke that covers part of the fill (inside alignment), a fill-only style, a collapsed inside stroke
example : TriRectsInRange ⟨⟨-3, 1⟩, ⟨6, -2⟩, ⟨2, 7⟩⟩ ⟨some 9, some 5, 2, .inside⟩ ∧
    TriI32 ⟨⟨-3, 1⟩, ⟨6, -2⟩, ⟨2, 7⟩⟩ := by
  refine ⟨?_, by decide +kernel⟩
  refine @triRectsInRange_display_scale _ _ ?_ ?_ ?_ ?_ <;> decide
example : TriRectsInRange ⟨⟨-3, 1⟩, ⟨6, -2⟩, ⟨2, 7⟩⟩ ⟨some 9, none, 4, .outside⟩ ∧
    ¬ TriNeedsI32 ⟨⟨-3, 1⟩, ⟨6, -2⟩, ⟨2, 7⟩⟩ ⟨some 9, none, 4, .outside⟩ := by
  refine ⟨?_, by decide +kernel⟩
  refine @triRectsInRange_display_scale _ _ ?_ ?_ ?_ ?_ <;> decide
example : TriRectsInRange ⟨⟨0, 0⟩, ⟨8, 1⟩, ⟨3, 4⟩⟩ ⟨some 9, some 5, 6, .inside⟩ ∧
    ¬ TriNeedsI32 ⟨⟨0, 0⟩, ⟨8, 1⟩, ⟨3, 4⟩⟩ ⟨some 9, some 5, 6, .inside⟩ := by
  refine ⟨?_, by decide +kernel⟩
  refine @triRectsInRange_display_scale _ _ ?_ ?_ ?_ ?_ <;> decide

/-- **Fill only (stroke width 0, any alignment, any colour option): the three paths agree** — guard:
no rectangle saturates. -/
theorem styled_triangle_paths_agree_width0 (t : Tri) (style : TriStyle) (hw : style.strokeWidth = 0)
    (hr : TriRectsInRange t style) : StyledTrianglePathsAgree t style := by
  apply styled_triangle_paths_agree t style hr
  intro h
  unfold TriNeedsI32 at h
  omega
example : TriRectsInRange ⟨⟨-3, 1⟩, ⟨6, -2⟩, ⟨2, 7⟩⟩ ⟨some 9, some 5, 0, .center⟩ := by
  refine @triRectsInRange_display_scale _ _ ?_ ?_ ?_ ?_ <;> decide

/-- **Stroke width 1 (any alignment, with or without fill / stroke colour): the three paths agree** —
guards: `i32` vertices, no rectangle saturates. -/
theorem styled_triangle_paths_agree_width1 (t : Tri) (style : TriStyle) (_hw : style.strokeWidth = 1)
    (hi : TriI32 t) (hr : TriRectsInRange t style) : StyledTrianglePathsAgree t style :=
  styled_triangle_paths_agree t style hr (fun _ => hi)
example : TriI32 ⟨⟨-3, 1⟩, ⟨6, -2⟩, ⟨2, 7⟩⟩ ∧
    TriRectsInRange ⟨⟨-3, 1⟩, ⟨6, -2⟩, ⟨2, 7⟩⟩ ⟨some 9, some 5, 1, .outside⟩ := by
  refine ⟨by decide +kernel, ?_⟩
  refine @triRectsInRange_display_scale _ _ ?_ ?_ ?_ ?_ <;> decide

/-- **Collapsed inside stroke of width > 1 (the whole triangle is painted in the stroke colour): the three
paths agree** — guard: no rectangle saturates. -/
theorem styled_triangle_paths_agree_collapsed_inside (t : Tri) (style : TriStyle) (hw : 2 ≤ style.strokeWidth)
    (hc : t.sortedClockwise.isCollapsed style.strokeWidth .right = some true)
    (hr : TriRectsInRange t style) : StyledTrianglePathsAgree t style := by
  apply styled_triangle_paths_agree t style hr
  intro h
  unfold TriNeedsI32 at h
  rcases h with h | ⟨-, -, h⟩
  · omega
  · exact absurd hc h
example : (⟨⟨0, 0⟩, ⟨9, 1⟩, ⟨2, 7⟩⟩ : Tri).sortedClockwise.isCollapsed 4 .right = some true ∧
    TriRectsInRange ⟨⟨0, 0⟩, ⟨9, 1⟩, ⟨2, 7⟩⟩ ⟨some 9, some 5, 4, .inside⟩ := by
  refine ⟨inside_stroke_collapsed, ?_⟩
  refine @triRectsInRange_display_scale _ _ ?_ ?_ ?_ ?_ <;> decide

/-- **Center / Outside stroke of width > 1 (with or without fill): the three paths agree** — guard: no
rectangle saturates (C02's `TriStrokeGuard` is not needed). -/
theorem styled_triangle_paths_agree_stroke (t : Tri) (style : TriStyle) (hw : 2 ≤ style.strokeWidth)
    (hal : style.strokeAlignment ≠ .inside) (hr : TriRectsInRange t style) :
    StyledTrianglePathsAgree t style := by
  apply styled_triangle_paths_agree t style hr
  intro h
  unfold TriNeedsI32 at h
  rcases h with h | ⟨-, h, -⟩
  · omega
  · exact absurd h hal
example : TriRectsInRange ⟨⟨0, 0⟩, ⟨9, 1⟩, ⟨2, 7⟩⟩ ⟨some 1, some 2, 3, .center⟩ := by
  refine @triRectsInRange_display_scale _ _ ?_ ?_ ?_ ?_ <;> decide

/-- `draw()` of a styled triangle: draw_iter-only target = native-fill target (no guard). -/
theorem styled_triangle_default_eq_native (t : Tri) (style : TriStyle) (B : Rect)
    (calls : List (Rect × Nat)) (_hd : triDraw t style = some calls) :
    runDefault B (solidCalls calls) = runNative B (solidCalls calls) :=
  runDefault_eq_runNative B (solidCalls calls)
example : ∃ calls, triDraw ⟨⟨-3, 1⟩, ⟨6, -2⟩, ⟨2, 7⟩⟩ ⟨some 9, some 5, 3, .center⟩ = some calls :=
  triDraw_total _ _

/-- **The image of a styled triangle, pointwise**: at a point of the target box the colour of the
LAST `fill_solid` rectangle (in the order of `draw()`, which is the order of `pixels()`) that
contains it — the stroke colour where a stroke line follows the fill line of its row —, nothing at
points no rectangle contains or outside the box; on either kind of target. -/
theorem styled_triangle_draw_map (t : Tri) (style : TriStyle) (hr : TriRectsInRange t style)
    (calls : List (Rect × Nat)) (hd : triDraw t style = some calls) (B : Rect) (p : Pt) :
    runNative B (solidCalls calls) p = (if B.contains p = true then lastSolid calls p else none) ∧
    runDefault B (solidCalls calls) p = (if B.contains p = true then lastSolid calls p else none) := by
  have hin : ∀ rc ∈ calls, rc.1.InRange := (TriRectsInRange.iff_of_eq hd).mp hr
  rw [runDefault_eq_runNative]
  exact ⟨runNative_solidCalls B calls hin p, runNative_solidCalls B calls hin p⟩
example : TriRectsInRange ⟨⟨-3, 1⟩, ⟨6, -2⟩, ⟨2, 7⟩⟩ ⟨some 9, some 5, 3, .center⟩ := by
  refine @triRectsInRange_display_scale _ _ ?_ ?_ ?_ ?_ <;> decide

/-- A transparent style (no fill colour and no visible stroke) draws nothing on any path (no guard). -/
theorem styled_triangle_transparent (t : Tri) (style : TriStyle) (h : style.isTransparent = true) :
    triDraw t style = some [] ∧ triPixels t style = some [] := by
  have hd : triDraw t style = some [] := by rw [triDraw_eq]; simp only [h, ↓reduceIte]
  obtain ⟨px, hpx⟩ := triPixels_total t style
  rw [hpx, triPixels_transparent t style h px hpx]
  exact ⟨hd, rfl⟩
example : (⟨none, some 5, 0, .center⟩ : TriStyle).isTransparent = true := by decide

-- [V] styled triangle: that `draw()` issues the same `fill_solid` list whatever the target type (Rust parametricity of `draw_styled` in `D: DrawTarget`): carried by correspondence + oracle only (stream `thick.triangle`: R2 call log `draw=`, pixel sequence `px=`, class `C01:pixels-vs-draw:thick-triangle`)

end EG.C01.Triangle
