/-
  C01 (rounded rectangle, fill colour only) — `draw()` and `pixels()` agree EXACTLY when the fill
  area lies inside the stroke area.

  With a fill colour and no stroke colour `draw_styled` walks `Scanlines(fill_area)` (the whole fill
  area is painted) while `StyledPixelsIterator` walks the FILL PARTS of
  `StyledScanlines(stroke_area, fill_area)` (only the points of the fill area that the stroke area
  contains). Here both pixel maps are computed for every style of that kind, shape and target box
  (`fill_only_draw_map`, `fill_only_pixels_map`), and hence: the two renderers leave the same map
  on every target IFF `FillInStroke` (`fill_only_paths_agree_iff`). `FillInStroke` is proved whenever
  `confine` rescales no radius (Props/C06/RoundedRectFillInStroke.lean) and is FALSE for some
  confined shapes (the C06 known finding, class `rrect-paths-differ:draw-pixels:confined-radii`):
  with this theorem those shapes are exactly where the paths differ, at exactly the points of
  `fill_area \ stroke_area`.
-/
import EG.Lemmas.RoundedRectStyled
namespace EG.C01.RoundedRectFillOnly
open EG EG.RoundedRect

section
variable (st : Style) (r : RoundedRect) (hS : (r.strokeArea st).InRange) (hF : (r.fillArea st).InRange)
  (hst : st.stroke = none) (fc : Color) (hf : st.fill = some fc)
include hF hst hf

/-- `draw()` (fill colour only) paints every point of `fill_area()` on the target, nothing else. -/
theorem fill_only_draw_map (B : Rect) (p : Pt) :
    runNative B (r.drawStyled st) p =
      if B.contains p = true ∧ (r.fillArea st).contains p = true then some fc else none := by
  have hd : r.drawStyled st = drawFillLines fc (r.fillArea st).scanlines.toList := by
    unfold RoundedRect.drawStyled
    rw [Style.effectiveStrokeColor_eq, hst, hf]
    simp
  unfold runNative
  rw [flatMap_writesNative, hd, drawFillLines_lowerNative fc _ (scanline_wf hF)]
  apply Scan.apply_eq_of_mem_iff
  intro q col
  rw [mem_clipWrites, mem_fill_lines_iff hF]
  by_cases hb : B.contains q = true <;> by_cases hc : (r.fillArea st).contains q = true <;>
    simp [hb, hc]

include hS
/-- `pixels()` (fill colour only) yields the points of `fill_area()` that `stroke_area()` contains. -/
theorem fill_only_pixels_map (B : Rect) (p : Pt) :
    PMap.empty.apply (clipWrites B (r.styledPixels st)) p =
      if B.contains p = true ∧ (r.strokeArea st).contains p = true ∧ (r.fillArea st).contains p = true
      then some fc else none := by
  apply Scan.apply_eq_of_mem_iff
  intro q col
  unfold RoundedRect.styledPixels RoundedRect.styledPixelsIt
  rw [mem_clipWrites, StyledPixelsIt.toList_new, (styledLines hS hF).mem_lines, hst, hf]
  by_cases hb : B.contains q = true <;> by_cases hs : (r.strokeArea st).contains q = true <;>
    by_cases hc : (r.fillArea st).contains q = true <;> simp [hb, hs, hc]

/-- **Fill colour only: `draw()` and `draw_iter(pixels())` leave the same pixel map on every target
IFF the fill area lies inside the stroke area.** Where it does not, they differ exactly at the
points of `fill_area \ stroke_area` (painted by `draw()`, not by `pixels()`). -/
theorem fill_only_paths_agree_iff :
    (∀ B, runNative B (r.drawStyled st) = PMap.empty.apply (clipWrites B (r.styledPixels st))) ↔
      FillInStroke st r := by
  constructor
  · intro h p hp
    have hB : (⟨p, ⟨1, 1⟩⟩ : Rect).contains p = true := by
      rw [Rect.contains_iff]; simp only; omega
    have := congrFun (h ⟨p, ⟨1, 1⟩⟩) p
    rw [fill_only_draw_map st r hF hst fc hf, fill_only_pixels_map st r hS hF hst fc hf] at this
    simp only [hB, hp, and_self, ↓reduceIte, true_and, and_true] at this
    by_cases hs : (r.strokeArea st).contains p = true
    · exact hs
    · simp [hs] at this
  · intro hI B
    funext p
    rw [fill_only_draw_map st r hF hst fc hf, fill_only_pixels_map st r hS hF hst fc hf]
    by_cases hc : (r.fillArea st).contains p = true
    · simp [hc, hI p hc]
    · simp [hc]

end

-- non-vacuity: the known-finding witness (3x20, top-left radius (3,20), width 1 Inside, fill only)
example : let st : Style := ⟨some 7, none, 1, .inside⟩
    let r : RoundedRect := ⟨⟨⟨0, 0⟩, ⟨3, 20⟩⟩, ⟨⟨3, 20⟩, ⟨0, 0⟩, ⟨0, 0⟩, ⟨0, 0⟩⟩⟩
    (r.strokeArea st).InRange ∧ (r.fillArea st).InRange ∧ st.stroke = none ∧ st.fill = some 7 := by decide

end EG.C01.RoundedRectFillOnly
