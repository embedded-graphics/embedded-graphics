/-
  C01 (scanline-based styled shapes: circle, ellipse, rounded rectangle) — one image whichever
  drawing path: `draw()` (a `fill_solid` rectangle per scanline part), on a `draw_iter`-only target
  (R1, trait defaults) or on a native-fill target (R2), and `draw_iter(pixels())`.

  `scanline_paths_agree` is generic: it holds for EVERY list of styled scanlines (whatever shape
  produced them) and both colour options, not only as pixel maps but as write sequences.
  `Scanline.WF` / `StyledScanline.WF`: the scanline's 1-px-high rectangle does not saturate `i32`.
-/
import EG.Lemmas.CircleStyled
namespace EG.C01
open EG

/-- **`scanline_paths_agree` (write sequences).** For every list of styled scanlines, stroke colour
and optional fill colour, the writes of the draw path — natively (`R2`) and through the trait
defaults (`R1`) — are exactly the pixels the `StyledPixelsIterator` yields, clipped to the target:
same points, same colours, same order. -/
theorem scanline_paths_agree_writes (lines : List StyledScanline) (h : ∀ l ∈ lines, l.WF)
    (sc : Color) (fc : Option Color) (B : Rect) :
    (drawLines sc fc lines).flatMap (Call.writesNative B) =
        clipWrites B (StyledPixelsIt.new lines (some sc) fc).toList ∧
    (drawLines sc fc lines).flatMap (Call.writesDefault B) =
        clipWrites B (StyledPixelsIt.new lines (some sc) fc).toList :=
  writes_eq_of_lowerNative
    ((drawLines_lowerNative sc fc lines h B).trans (StyledPixelsIt.toList_new lines (some sc) fc).symm)
example : ∀ l ∈ [(⟨3, -2, 5, 0, 3⟩ : StyledScanline), ⟨4, -1, 4, 4, 4⟩], l.WF := by decide

/-- **`scanline_paths_agree`.** The `fill_solid` rectangles of the draw path (on R2 and on R1) and
the flattened `pixels()` path give the same pixel map. -/
theorem scanline_paths_agree (lines : List StyledScanline) (h : ∀ l ∈ lines, l.WF)
    (sc : Color) (fc : Option Color) (B : Rect) :
    runNative B (drawLines sc fc lines) =
        PMap.empty.apply (clipWrites B (StyledPixelsIt.new lines (some sc) fc).toList) ∧
    runDefault B (drawLines sc fc lines) =
        PMap.empty.apply (clipWrites B (StyledPixelsIt.new lines (some sc) fc).toList) :=
  runs_eq_of_writes (scanline_paths_agree_writes lines h sc fc B)

/-- Fill-only arm: drawing the fill parts as plain scanlines writes what `pixels()` yields when
only the fill colour is set. -/
theorem scanline_fill_paths_agree (lines : List StyledScanline) (h : ∀ l ∈ lines, l.fill.WF)
    (fc : Color) (B : Rect) :
    runNative B (drawFillLines fc (lines.map (·.fill))) =
        PMap.empty.apply (clipWrites B (StyledPixelsIt.new lines none (some fc)).toList) ∧
    runDefault B (drawFillLines fc (lines.map (·.fill))) =
        PMap.empty.apply (clipWrites B (StyledPixelsIt.new lines none (some fc)).toList) := by
  refine runs_eq_of_writes (writes_eq_of_lowerNative ?_)
  rw [drawFillLines_lowerNative fc _ (List.forall_mem_map.mpr h) B, StyledPixelsIt.toList_new,
    List.flatMap_map]
  rfl
example : ∀ l ∈ [(⟨3, -2, 5, 0, 3⟩ : StyledScanline), ⟨4, -1, 4, 4, 4⟩], l.fill.WF := by decide

/-- What a `for` loop over a `StyledPixelsIterator` sees, for every list of styled scanlines and
all four colour options (closed form of the state machine). -/
theorem styled_pixels_iterator_spec (lines : List StyledScanline) (scol fcol : Option Color) :
    (StyledPixelsIt.new lines scol fcol).toList = pixelsSpec scol fcol lines :=
  StyledPixelsIt.toList_new lines scol fcol

/-- The pixel map of `draw()` on `R2` at every point. -/
theorem styled_circle_draw_map (st : PrimStyle) (c : Circle) (B : Rect)
    (hS : (c.strokeArea st).InRange) (hF : (c.fillArea st).InRange) (p : Pt) :
    runNative B (c.drawStyled st) p =
      if B.contains p = true then Circle.styledExpected st c p else none :=
  (Circle.styledPicture hS hF).draw B p
example : (Circle.strokeArea ⟨some 1, some 2, 3, .center⟩ ⟨⟨-3, 2⟩, 7⟩).InRange ∧
    (Circle.fillArea ⟨some 1, some 2, 3, .center⟩ ⟨⟨-3, 2⟩, 7⟩).InRange := by decide

theorem circle_draw_default_eq_native (st : PrimStyle) (c : Circle) (B : Rect) :
    runDefault B (c.drawStyled st) = runNative B (c.drawStyled st) :=
  Tgt.runDefault_eq_runNative B _

/-- **Circle: `draw()` on R1 = `draw()` on R2 = `draw_iter(pixels())`**, for all diameters,
stroke widths, alignments and colour options (the fill-only arms use different scanline sources —
`Scanlines(fill_area)` vs `StyledScanlines(stroke_area, fill_area).fill()`; `pixels()` uses
`stroke_color`, `draw()` uses `effective_stroke_color()`). -/
theorem styled_circle_pixels_eq_draw (st : PrimStyle) (c : Circle) (B : Rect)
    (hS : (c.strokeArea st).InRange) (hF : (c.fillArea st).InRange) :
    runNative B (c.drawStyled st) = PMap.empty.apply (clipWrites B (c.styledPixels st)) ∧
    runDefault B (c.drawStyled st) = PMap.empty.apply (clipWrites B (c.styledPixels st)) :=
  (Circle.styledPicture hS hF).pixels_eq_draw (Circle.mem_styledPixels_iff hS hF) B
example : (Circle.strokeArea ⟨some 1, some 2, 0, .inside⟩ ⟨⟨-3, 2⟩, 4⟩).InRange ∧
    (Circle.fillArea ⟨some 1, some 2, 0, .inside⟩ ⟨⟨-3, 2⟩, 4⟩).InRange := by decide

-- [V] that `draw()` issues the same call list whatever the target type (Rust parametricity of `draw_styled` in `D: DrawTarget`): carried by correspondence + oracle only (R1 and R2 logs/maps compared per op)
-- rounded rectangle: the fill-only scanline sources (`Scanlines(fill_area)` vs `StyledScanlines(..).fill()`) give the same picture iff `FillInStroke`: Props/C01/RoundedRectFillOnly.lean (`fill_only_paths_agree_iff`); `scanline_paths_agree` applies to it as is
end EG.C01
