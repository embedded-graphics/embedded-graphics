/-
  C01 (ellipse part) — `draw()` on a `draw_iter`-only target (R1), `draw()` on a native-fill target
  (R2) and `draw_iter(pixels())` give the same pixel map, for all sizes (also thin ellipses), stroke
  widths, alignments and colour options. All colour options go through the `StyledPicture` of the
  ellipse (EG/Lemmas/EllipseStyled.lean, EG/Lemmas/StyledPicture.lean: `pixels_eq_draw`). In the code
  the fill-only arms use different scanline sources (`Scanlines(fill_area)` vs
  `StyledScanlines(stroke_area, fill_area).fill()`), and `pixels()` uses `stroke_color` where `draw()`
  uses `effective_stroke_color()`.
-/
import EG.Lemmas.EllipseStyled
namespace EG.C01
open EG

/-- The pixel map of `draw()` on `R2` at every point. -/
theorem styled_ellipse_draw_map (st : PrimStyle) (e : Ellipse) (B : Rect)
    (hS : (e.strokeArea st).InRange) (hF : (e.fillArea st).InRange) (p : Pt) :
    runNative B (e.drawStyled st) p =
      if B.contains p = true then Ellipse.styledExpected st e p else none :=
  (Ellipse.styledPicture hS hF).draw B p
example : (Ellipse.strokeArea ⟨some 1, some 2, 3, .center⟩ ⟨⟨-3, 2⟩, ⟨2, 10⟩⟩).InRange ∧
    (Ellipse.fillArea ⟨some 1, some 2, 3, .center⟩ ⟨⟨-3, 2⟩, ⟨2, 10⟩⟩).InRange := by decide

theorem ellipse_draw_default_eq_native (st : PrimStyle) (e : Ellipse) (B : Rect) :
    runDefault B (e.drawStyled st) = runNative B (e.drawStyled st) :=
  Tgt.runDefault_eq_runNative B _

/-- **Ellipse: `draw()` on R1 = `draw()` on R2 = `draw_iter(pixels())`.** -/
theorem styled_ellipse_pixels_eq_draw (st : PrimStyle) (e : Ellipse) (B : Rect)
    (hS : (e.strokeArea st).InRange) (hF : (e.fillArea st).InRange) :
    runNative B (e.drawStyled st) = PMap.empty.apply (clipWrites B (e.styledPixels st)) ∧
    runDefault B (e.drawStyled st) = PMap.empty.apply (clipWrites B (e.styledPixels st)) :=
  (Ellipse.styledPicture hS hF).pixels_eq_draw (Ellipse.mem_styledPixels_iff hS hF) B
example : (Ellipse.strokeArea ⟨some 1, some 2, 0, .inside⟩ ⟨⟨-3, 2⟩, ⟨4, 7⟩⟩).InRange ∧
    (Ellipse.fillArea ⟨some 1, some 2, 0, .inside⟩ ⟨⟨-3, 2⟩, ⟨4, 7⟩⟩).InRange := by decide

end EG.C01
