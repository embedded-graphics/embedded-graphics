/-
  C01 (styled Line, every stroke width) — one image per drawing path.

  line/styled.rs: `draw_styled` is literally `target.draw_iter(StyledPixelsIterator::new(self, style))`
  and `pixels()` returns that same iterator. The model transcribes exactly this
  (`Thick.drawStyled l w sc = (Thick.styledPixels l w sc).map (fun px => [Call.drawIter px])`,
  EG/Lemmas/ThickTranslate.lean; `Thick.styledPixels` = `Thick.thickPoints` paired with
  `effective_stroke_color()`, nothing without a stroke colour or for width 0), so
  (a) "`draw()` = ONE `draw_iter` call of `pixels()`" is DEFINITIONAL at the model level (`rfl`): what
      carries it is the correspondence of the stream `thick.points` (the real `draw` on the recording
      target is compared with the real `pixels()` per op: class `C01:tie-hypothesis:line-draw-is-one-draw_iter`,
      a tie and not a clause of C01, whose oracle `C01:pixels-vs-draw:thick-line` compares pixel MAPS);
  (b) hence `draw()` on a draw_iter-only target, `draw()` on a native-fill target and
      `draw_iter(pixels())` leave the same map, for every line (zero length included), width, colour
      option and target box (no guard);
  (c) the map is known pointwise: the stroke colour exactly at the stroked points inside the box;
  (d) with `thick_no_pixel_twice` (Props/C17/Stroke.lean: no pixel is yielded twice) the map does not
      depend on the ORDER in which the pixels are offered: every permutation of `pixels()` leaves the
      same map on every target box.
  `Thick.drawStyled` / `Thick.styledPixels` never return `none` (`Thick.drawStyled_total`).
-/
import EG.Lemmas.C01ThickStream
import EG.Lemmas.ThickTranslate
namespace EG.C01.Line
open EG EG.Tgt

/-- (a) `draw()` of a styled line is one `draw_iter` call with the sequence of `pixels()` (definitional:
the model transcribes `target.draw_iter(StyledPixelsIterator::new(self, style))`). -/
theorem styled_line_draw_eq_pixels (l : Line) (w : Nat) (sc : Option Color) :
    Thick.drawStyled l w sc = (Thick.styledPixels l w sc).map (fun px => [Call.drawIter px]) := rfl

/-- (b) `draw()` of a styled line: draw_iter-only target = native-fill target. -/
theorem styled_line_default_eq_native (l : Line) (w : Nat) (sc : Option Color) (B : Rect)
    (calls : List Call) (_h : Thick.drawStyled l w sc = some calls) :
    runDefault B calls = runNative B calls :=
  runDefault_eq_runNative B calls
example : ∃ calls, Thick.drawStyled ⟨⟨2, 2⟩, ⟨6, 4⟩⟩ 3 (some 7) = some calls := Thick.drawStyled_total _ _ _

/-- (b) **Styled line: `draw()` on R1 = `draw()` on R2 = `draw_iter(pixels())`**, as pixel maps, for
every line, stroke width, colour option and target box. -/
theorem styled_line_three_paths (l : Line) (w : Nat) (sc : Option Color) (B : Rect) :
    ∃ calls px, Thick.drawStyled l w sc = some calls ∧ Thick.styledPixels l w sc = some px ∧
      runNative B calls = PMap.empty.apply (clipWrites B px) ∧
      runDefault B calls = PMap.empty.apply (clipWrites B px) ∧
      runDefault B [Call.drawIter px] = runDefault B calls ∧
      runNative B [Call.drawIter px] = runNative B calls := by
  obtain ⟨calls, hc⟩ := Thick.drawStyled_total l w sc
  obtain ⟨px, hp, rfl⟩ := Option.map_eq_some_iff.mp hc
  exact ⟨_, px, hc, hp, runNative_drawIter B px, runDefault_drawIter B px, rfl, rfl⟩

/-- (c) **The image of a styled line, pointwise**: inside the target box the stroke colour exactly at
the points of the stroke, nothing elsewhere — on either kind of target. -/
theorem styled_line_draw_map (l : Line) (w : Nat) (c : Color) (B : Rect) (ps : List Pt)
    (calls : List Call) (hps : Thick.thickPoints l w = some ps)
    (hc : Thick.drawStyled l w (some c) = some calls) (p : Pt) :
    runNative B calls p = (if B.contains p = true ∧ p ∈ ps then some c else none) ∧
    runDefault B calls p = (if B.contains p = true ∧ p ∈ ps then some c else none) := by
  rw [runDefault_eq_runNative]
  simp only [Thick.drawStyled, Thick.styledPixels, hps, Option.map_some, Option.some.injEq] at hc
  subst hc
  rw [runNative_drawIter, PMap.empty_apply, lastWrite_clipWrites, lastWrite_map_const]
  by_cases hb : B.contains p = true <;> by_cases hm : p ∈ ps <;> simp [hb, hm]
example : ∃ ps, Thick.thickPoints ⟨⟨2, 2⟩, ⟨6, 4⟩⟩ 3 = some ps := Thick.thickPoints_total _ _

/-- (d) **The pixel map of a styled line does not depend on the order of the pixels**: no pixel is
yielded twice (`EG.C17.Stroke.thick_no_pixel_twice` = `Thick.thickPoints_nodup`), so feeding ANY
permutation of `pixels()` to `draw_iter` leaves the map of `draw()`, on every target box. -/
theorem styled_line_order_independent (l : Line) (w : Nat) (sc : Option Color) (B : Rect)
    (px px' : Writes) (hp : Thick.styledPixels l w sc = some px) (hperm : px.Perm px') :
    runDefault B [Call.drawIter px'] = runDefault B [Call.drawIter px] ∧
    runNative B [Call.drawIter px'] = runNative B [Call.drawIter px] := by
  have hn := Thick.styledPixels_nodup hp
  rw [runDefault_drawIter, runDefault_drawIter, runNative_drawIter, runNative_drawIter]
  exact ⟨(C01Thick.apply_clip_perm B hperm hn).symm, (C01Thick.apply_clip_perm B hperm hn).symm⟩
example : (Thick.styledPixels ⟨⟨2, 2⟩, ⟨6, 4⟩⟩ 3 (some 7)).map (·.length) = some 19 := by decide +kernel

-- [V] styled line: that `draw()` issues the same single `draw_iter` call whatever the target type (Rust parametricity of `draw_styled` in `D: DrawTarget`), and that this call carries the sequence of `pixels()` (definitional in the model): carried by correspondence + a validated tie only (stream `thick.points`, class `C01:tie-hypothesis:line-draw-is-one-draw_iter`; the property's own clause, equal pixel maps, is the oracle class `C01:pixels-vs-draw:thick-line`)

end EG.C01.Line
