/-
  C01 (rectangle) over the REGENERATED code: `StyledPixelsIterator::new` and `StyledPixels::pixels` of
  src/primitives/rectangle/styled.rs as translated by tools/tr_styled.py (`EG/Generated/StyledSrc.lean`) build the hand
  model's initial iterator state `pixelsIt` (the generated state `{iter: Points, stroke_color, fill_area, fill_color}` read
  through `itOf`, its inner `Points` through C16's `pointsItOf`), and `pixels() = draw()` is restated over the generated
  `draw_styled`. The generated `next`: GeneratedNext.lean.
-/
import EG.Props.C06.Generated
import EG.Props.C16.GeneratedPoints
import EG.Props.C01.Rectangle
namespace EG.C01.Src
open EG EG.Tgt EG.Rect EG.StyledRect EG.RectSrcPrelude EG.StyledSrcPrelude EG.Generated EG.C16.Src EG.C06.Src

def itOf (it : StyledSrc.StyledPixelsIterator) : PixelsIt :=
  ⟨pointsItOf it.iter, it.stroke_color, it.fill_area, it.fill_color⟩

theorem StyledPixelsIterator_new_src_eq_model (s : Style) (r : Rect) (hu : IsU32 r.size) :
    itOf (StyledSrc.StyledPixelsIterator_new r (ofStyle s)) = pixelsIt s r := by
  unfold StyledSrc.StyledPixelsIterator_new pixelsIt itOf
  rw [is_transparent_src_eq_model, stroke_area_src_eq_model _ r hu, fill_area_src_eq_model _ r rfl hu, toStyle_ofStyle]
  cases s.isTransparent <;> simp [bool_not, PointsIter_points_src_eq_model, Points_new_src_eq_model, Points_empty_src_eq_model,
    StyledSrc.StyledPixelsIterator_mk, StyledSrc.PrimitiveStyle_stroke_color, StyledSrc.PrimitiveStyle_fill_color, ofStyle]

theorem pixels_src_eq_model (s : Style) (r : Rect) (hu : IsU32 r.size) :
    itOf (StyledSrc.Rectangle_StyledPixels_pixels r (ofStyle s)) = pixelsIt s r :=
  StyledPixelsIterator_new_src_eq_model s r hu

/-- **C01 (b) over the regenerated code.** The hand model's iterator started in the REGENERATED initial state, collected and fed
to `draw_iter`, leaves the same map as the calls of the REGENERATED `draw_styled`. -/
theorem src_styled_rect_pixels_eq_draw (s : Style) (r : Rect) (h : Guard s r) (hu : IsU32 r.size) (dotted : List Call)
    (B : Rect) (p : Pt) :
    PMap.empty.apply (clipWrites B
        ((itOf (StyledSrc.Rectangle_StyledPixels_pixels r (ofStyle s))).toListFuel
          (itOf (StyledSrc.Rectangle_StyledPixels_pixels r (ofStyle s))).iter.budget)) p =
      runNative B (StyledSrc.Rectangle_StyledDrawable_draw_styled r (ofStyle s) dotted) p := by
  rw [pixels_src_eq_model s r hu, draw_styled_src_eq_model s r (bordersFit_of_guard h hu)]
  exact C01.Rectangle.styled_rect_pixels_eq_draw s r h B p

example : Guard ⟨some 7, some 9, 3, .center⟩ ⟨⟨-2, -1⟩, ⟨4, 5⟩⟩ ∧ IsU32 (⟨⟨-2, -1⟩, ⟨4, 5⟩⟩ : Rect).size := by decide

end EG.C01.Src
