/-
  C01 (Arc, Sector) — one image per drawing path, for styled arcs and styled sectors.

  `draw_styled` of both shapes is literally `target.draw_iter(StyledPixelsIterator::new(..))` and
  `pixels()` returns that same iterator, so
  (a) `draw()` is ONE `draw_iter` call whose pixel sequence is `pixels()`;
  (b) the map left by `draw()` on a draw_iter-only target, on a native-fill target, and by
      `draw_iter(pixels())` coincide, for every diameter, plane sector (all angles), bevel, style and
      target box (no guard);
  (c) the iterator itself is specified: `pixels()` is the row-major point list of the iterated box
      (= the styled bounding box) filtered through the stroke / fill tests, every point at most once;
  (d) hence the image is known pointwise: at `p` inside the target box the map holds
      `styledExpected p` (a closed expression in the thresholds, the plane sector and the bevel),
      nothing outside — on either kind of target and for `draw_iter(pixels())` alike.
  Models: EG.Model.StyledArc, EG.Model.StyledSector (tied by the streams `sector.sarc`,
  `sector.ssector`). Helper lemmas: EG/Lemmas/StyledArc.lean, EG/Lemmas/StyledArcSector.lean.
-/
import EG.Lemmas.StyledArcSector
namespace EG.C01.Arc
open EG EG.Tgt

/-- (a) `draw()` of a styled arc is one `draw_iter` call with the sequence of `pixels()`. -/
theorem styled_arc_draw_eq_pixels (st : Style) (a : Arc) :
    a.drawStyled st = [Call.drawIter (a.styledPixels st)] := rfl

/-- (b) `draw()` of a styled arc: draw_iter-only target = native-fill target. -/
theorem arc_default_eq_native (st : Style) (a : Arc) (B : Rect) :
    runDefault B (a.drawStyled st) = runNative B (a.drawStyled st) :=
  runDefault_eq_runNative B (a.drawStyled st)

/-- (b) **Arc: `draw()` on R1 = `draw()` on R2 = `draw_iter(pixels())`**, as pixel maps, for all
diameters, plane sectors, stroke widths, alignments, colour options and target boxes. -/
theorem styled_arc_three_paths (st : Style) (a : Arc) (B : Rect) :
    runNative B (a.drawStyled st) = PMap.empty.apply (clipWrites B (a.styledPixels st)) ∧
    runDefault B (a.drawStyled st) = PMap.empty.apply (clipWrites B (a.styledPixels st)) ∧
    runDefault B [Call.drawIter (a.styledPixels st)] = runDefault B (a.drawStyled st) :=
  ⟨runNative_drawIter B _, runDefault_drawIter B _, rfl⟩

/-- (c) The iterator is its closed form: nothing without a stroke colour or with a transparent
style, else the points of the outer edge circle's bounding box that pass the ring and plane-sector
test, in row-major order, each with the stroke colour. -/
theorem styled_arc_pixels_iterator_spec (st : Style) (a : Arc) :
    a.styledPixels st =
      match st.stroke with
      | none => []
      | some c =>
        if st.isTransparent then []
        else ((a.outsideEdge st).boundingBox.points.filter (a.strokeAccepts st)).map (fun p => (p, c)) :=
  Arc.styledPixels_eq st a

/-- (c) No point is offered twice (so "last write wins" never matters for an arc), and the order is
row-major. -/
theorem styled_arc_pixels_nodup (st : Style) (a : Arc) :
    ((a.styledPixels st).map (·.1)).Nodup ∧ ((a.styledPixels st).map (·.1)).Pairwise Pt.rowMajorLt :=
  ⟨(Rect.points_nodup _).sublist (Arc.boxPixels st a).sublist,
   (Rect.points_rowMajor _).sublist (Arc.boxPixels st a).sublist⟩

/-- (d) **The image of a styled arc, pointwise**: inside the target box the stroke colour exactly at
the points of the styled bounding box that pass the ring and plane-sector test (nothing for a
transparent style), nothing elsewhere. -/
theorem styled_arc_draw_map (st : Style) (a : Arc) (B : Rect) (h : (a.styledBoundingBox st).InRange) (p : Pt) :
    runNative B (a.drawStyled st) p = (if B.contains p = true then a.styledExpected st p else none) ∧
    runDefault B (a.drawStyled st) p = (if B.contains p = true then a.styledExpected st p else none) := by
  rw [arc_default_eq_native]
  exact ⟨Arc.draw_map st a B h p, Arc.draw_map st a B h p⟩
example : (Arc.styledBoundingBox ⟨some 1, some 2, 3, .center⟩
    ⟨⟨-3, 2⟩, 7, ⟨.intersection, ⟨-1024, 0⟩, ⟨0, 1024⟩⟩⟩).InRange := by decide

/-- (a) `draw()` of a styled sector is one `draw_iter` call with the sequence of `pixels()`. -/
theorem styled_sector_draw_eq_pixels (st : Style) (s : Sector) (bevel : SectorBevel) :
    s.drawStyled st bevel = [Call.drawIter (s.styledPixels st bevel)] := rfl

/-- (b) `draw()` of a styled sector: draw_iter-only target = native-fill target. -/
theorem sector_default_eq_native (st : Style) (s : Sector) (bevel : SectorBevel) (B : Rect) :
    runDefault B (s.drawStyled st bevel) = runNative B (s.drawStyled st bevel) :=
  runDefault_eq_runNative B (s.drawStyled st bevel)

/-- (b) **Sector: `draw()` on R1 = `draw()` on R2 = `draw_iter(pixels())`**, as pixel maps, for all
diameters, plane sectors, bevels, stroke widths, alignments, colour options and target boxes. -/
theorem styled_sector_three_paths (st : Style) (s : Sector) (bevel : SectorBevel) (B : Rect) :
    runNative B (s.drawStyled st bevel) = PMap.empty.apply (clipWrites B (s.styledPixels st bevel)) ∧
    runDefault B (s.drawStyled st bevel) = PMap.empty.apply (clipWrites B (s.styledPixels st bevel)) ∧
    runDefault B [Call.drawIter (s.styledPixels st bevel)] = runDefault B (s.drawStyled st bevel) :=
  ⟨runNative_drawIter B _, runDefault_drawIter B _, rfl⟩

/-- (c) The iterator (a `loop` with `continue`s around `find`) is its closed form: nothing for a
transparent style, else the points of the stroke area circle's bounding box mapped through
`pixelAt` (circle test, point type by the plane sector, bevel, circular stroke, colour), points
without a pixel dropped, in row-major order. -/
theorem styled_sector_pixels_iterator_spec (st : Style) (s : Sector) (bevel : SectorBevel) :
    s.styledPixels st bevel =
      if st.isTransparent then []
      else (s.strokeCircle st).boundingBox.points.filterMap (s.pixelAt st bevel) :=
  Sector.styledPixels_eq st s bevel

/-- (c) No point is offered twice (fill and stroke never overlap: every point gets ONE point type),
and the order is row-major. -/
theorem styled_sector_pixels_nodup (st : Style) (s : Sector) (bevel : SectorBevel) :
    ((s.styledPixels st bevel).map (·.1)).Nodup ∧
      ((s.styledPixels st bevel).map (·.1)).Pairwise Pt.rowMajorLt :=
  ⟨(Rect.points_nodup _).sublist (Sector.boxPixels st s bevel).sublist,
   (Rect.points_rowMajor _).sublist (Sector.boxPixels st s bevel).sublist⟩

/-- (d) **The image of a styled sector, pointwise**: inside the target box, at the points of the
styled bounding box, the colour `pixelAt` assigns (fill colour, stroke colour or nothing, by the
circle test, the plane sector's point type, the bevel and the circular stroke); nothing elsewhere
and nothing at all for a transparent style. -/
theorem styled_sector_draw_map (st : Style) (s : Sector) (bevel : SectorBevel) (B : Rect)
    (h : (s.styledBoundingBox st).InRange) (p : Pt) :
    runNative B (s.drawStyled st bevel) p =
      (if B.contains p = true then s.styledExpected st bevel p else none) ∧
    runDefault B (s.drawStyled st bevel) p =
      (if B.contains p = true then s.styledExpected st bevel p else none) := by
  rw [sector_default_eq_native]
  exact ⟨Sector.draw_map st s bevel B h p, Sector.draw_map st s bevel B h p⟩
example : (Sector.styledBoundingBox ⟨some 1, some 2, 5, .outside⟩
    ⟨⟨-30, 2⟩, 12, ⟨.union, ⟨724, 724⟩, ⟨0, 1024⟩⟩⟩).InRange := by decide

-- [V] arc / sector: the plane sector (operation tag + two integer normals) handed to the model equals what `PlaneSector::new(angle_start, angle_sweep)` computes, and the sector's bevel (kind + normal vector) equals what the trigonometric part of `sector::StyledPixelsIterator::new` computes (f32 / fixed-point trigonometry is not modelled; the values come from the hooks `verif_hooks::plane_sector` and `StyledPixelsIterator::verif_bevel` into the op line): carried by correspondence + oracle only
-- [V] arc / sector: that `draw()` issues the same single `draw_iter` call whatever the target type (Rust parametricity of `draw_styled` in `D: DrawTarget`): carried by correspondence + oracle only (R1 map, R2 map and R2 call log are compared per op)

end EG.C01.Arc
