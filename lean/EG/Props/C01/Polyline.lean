/-
  C01 (styled Polyline, every stroke width) — one image per drawing path.

  polyline/styled.rs (model EG/Model/ThickPolyline.lean, tied by the stream `thick.polyline`):
  * no stroke colour, or width 0: `draw_styled` makes no call and `pixels()` yields nothing;
  * width 1: `draw_styled` is one `draw_iter` call with `points()` and `pixels()` is `points()`;
  * width > 1: `draw_thick` issues one `fill_solid` of a 1-px-high rectangle per scanline of the
    `ScanlineIterator` (on `target.translated(translate)`), `StyledPixelsIterator` walks the same
    scanlines point by point (adding `translate`).
  Here: the WRITE SEQUENCE of `draw()` on a native-fill target (every `fill_solid` rectangle written
  row-major) — and, by the trait defaults, on a draw_iter-only target — is exactly the pixel sequence
  of `pixels()`, clipped to the target box: same points, same order. Hence the three paths leave the
  same pixel map. Scanlines of one row may overlap (segments of a polyline crossing each other);
  since the two paths write the same sequence no argument about the order is needed.
  Helper lemmas: EG/Lemmas/Stream.lean (fuel-free runs of the model iterators),
  EG/Lemmas/JoinsTotalPoly.lean (the scanline run and the pixel run), EG/Lemmas/C01ThickPoly.lean.

  Guard (decidable, `True` on every op of the `thick.polyline` stream):
  * `PolyRectsInRange pl w` — no `fill_solid` rectangle saturates `i32` (`Rect.InRange`).
  No fuel guard: the model drains `pixels()` with the total length of the scanline run as fuel, which
  is PROVED sufficient (`styled_polyline_same_scanlines`: the model's pixel list is the complete run),
  like `toList`'s fuel `stepBudget` on the scanline side.
  (The polyline's `ScanlineIterator::next` is a `loop` over the rows: it returns `None` only after
  the last row and keeps returning `None` then, so the `None` that `StyledPixelsIterator::new`
  forgives is final; unlike the triangle's iterator — Props/C01/Triangle.lean — it is fused in effect.)
-/
import EG.Lemmas.C01ThickPoly
import EG.Lemmas.JoinsBBoxPolyMain
import EG.Lemmas.JoinsRectsInRange
namespace EG.C01.Polyline
open EG EG.Tgt EG.Joins EG.C01Thick

/-- The full claim for one styled polyline: the three paths leave the same pixel map on every
target box. -/
def StyledPolylinePathsAgree (pl : Polyline) (w : Nat) (sc : Option Color) : Prop :=
  ∀ calls px, polyStyledCalls pl w sc = some calls → polyStyledPixels pl w sc = some px →
    ∀ (B : Rect) (p : Pt),
      runNative B calls p = runDefault B [Call.drawIter px] p ∧
      runDefault B calls p = runDefault B [Call.drawIter px] p

/-- The model of a styled polyline is total: `draw()` and `pixels()` always return. -/
theorem styled_polyline_total (pl : Polyline) (w : Nat) (sc : Option Color) :
    (∃ calls, polyStyledCalls pl w sc = some calls) ∧ (∃ px, polyStyledPixels pl w sc = some px) := by
  cases sc with
  | none => exact ⟨⟨_, rfl⟩, ⟨_, rfl⟩⟩
  | some c =>
    obtain ⟨d, hd⟩ := drawStyled_total pl w
    obtain ⟨ps, hps⟩ := pixels_total pl w
    exact ⟨⟨polyCalls c d, by simp only [polyStyledCalls, hd, Option.map_some]⟩,
      ⟨ps.map (fun p => (p, c)), by simp only [polyStyledPixels, hps, Option.map_some]⟩⟩

/-- No stroke colour, or stroke width 0: `draw()` makes no call and `pixels()` yields nothing — all
three paths leave the target untouched (no guard). -/
theorem styled_polyline_nothing (pl : Polyline) (w : Nat) (sc : Option Color) (h : sc = none ∨ w = 0) :
    polyStyledCalls pl w sc = some [] ∧ polyStyledPixels pl w sc = some [] := by
  cases sc with
  | none => exact ⟨rfl, rfl⟩
  | some c =>
    rcases h with h | rfl
    · cases h
    · exact ⟨rfl, rfl⟩
example : (some 3 : Option Color) = none ∨ 0 = 0 := Or.inr rfl

/-- Stroke width 1: `draw()` is ONE `draw_iter` call with the pixel sequence of `pixels()`
(= `points()` with the stroke colour), so the three paths agree definitionally (no guard). -/
theorem styled_polyline_width1 (pl : Polyline) (c : Color) :
    polyStyledPixels pl 1 (some c) = some ((Polyline.points pl).map (fun p => (p, c))) ∧
    polyStyledCalls pl 1 (some c) = some [Call.drawIter ((Polyline.points pl).map (fun p => (p, c)))] :=
  ⟨rfl, rfl⟩

/-- Stroke width > 1: `draw()` issues one `fill_solid` per scanline of the scanline run `L` (all
non-empty), `pixels()` yields the points of the same scanlines in the same order — ALL of them: the
model's pixel list is complete (the fuel of its drain is never used up; no guard). -/
theorem styled_polyline_same_scanlines (pl : Polyline) (w : Nat) (hw : 2 ≤ w) :
    ∃ L : List Scanline, (∀ s ∈ L, s.isEmpty = false) ∧
      drawStyled pl w = some (.fillSolids (L.map (fun s => (moveS s pl.translate).toRectangle))) ∧
      pixels pl w = some (L.flatMap (fun s => (moveS s pl.translate).points)) := by
  obtain ⟨L, hL, hp⟩ := pixels_eq_run pl w hw
  exact ⟨L, polyScanlineRun_nonempty hL, by rw [drawStyled_eq_map pl w hw, hL]; rfl, hp⟩
example : (pixels ⟨⟨1, -2⟩, [⟨0, 0⟩, ⟨6, 3⟩, ⟨2, 7⟩]⟩ 4).map List.length = some 54 := by
  -- the kernel runs the closed form of the rows, not the pixel iterator
  rw [pixels_length _ _ (by decide), polyScanlineRun_eq_map _ _ (by decide)]
  decide +kernel

/-- **Write sequences.** For every stroked polyline, width, colour option and target box: the writes
of `draw()` — natively (R2) and through the trait defaults (R1) — are exactly the pixels of
`pixels()` clipped to the box: same points, same colour, same order. -/
theorem styled_polyline_writes_agree (pl : Polyline) (w : Nat) (sc : Option Color)
    (hr : PolyRectsInRange pl w) (calls : List Call) (px : Writes)
    (hc : polyStyledCalls pl w sc = some calls) (hp : polyStyledPixels pl w sc = some px) (B : Rect) :
    calls.flatMap (Call.writesNative B) = clipWrites B px ∧
    calls.flatMap (Call.writesDefault B) = clipWrites B px :=
  writes_eq_of_lowerNative (polyStyled_writes pl w sc B hr calls px hc hp)
example : PolyRectsInRange ⟨⟨1, -2⟩, [⟨0, 0⟩, ⟨6, 3⟩, ⟨2, 7⟩]⟩ 4 := by
  -- `@`: elaborating a term against the guard as expected type reduces it to see whether it binds implicit
  -- arguments, which evaluates `drawStyled`
  refine @polyRectsInRange_display_scale _ _ ?_ ?_ ?_ <;> decide

/-- **Styled polyline: `draw()` on R1 = `draw()` on R2 = `draw_iter(pixels())`**, as pixel maps, for
every vertex list, `translate`, stroke width, colour option and target box. Guard: no rectangle
saturates `i32`. -/
theorem styled_polyline_paths_agree (pl : Polyline) (w : Nat) (sc : Option Color)
    (hr : PolyRectsInRange pl w) : StyledPolylinePathsAgree pl w sc := by
  intro calls px hc hp B p
  obtain ⟨h1, h2⟩ := runs_eq_of_writes (styled_polyline_writes_agree pl w sc hr calls px hc hp B)
  rw [runDefault_drawIter, h1, h2]
  exact ⟨rfl, rfl⟩
-- a closed polyline whose segments cross; a polyline with a repeated vertex and a sharp turn, moved by `translate`
example : PolyRectsInRange ⟨⟨0, 0⟩, [⟨-4, 1⟩, ⟨0, -2⟩, ⟨2, -5⟩, ⟨-4, 1⟩]⟩ 2 := by
  refine @polyRectsInRange_display_scale _ _ ?_ ?_ ?_ <;> decide
example : PolyRectsInRange ⟨⟨-7, -9⟩, [⟨0, 0⟩, ⟨9, 1⟩, ⟨0, 2⟩, ⟨0, 2⟩, ⟨4, -6⟩]⟩ 5 := by
  refine @polyRectsInRange_display_scale _ _ ?_ ?_ ?_ <;> decide

/-- `draw()` of a styled polyline: draw_iter-only target = native-fill target (no guard). -/
theorem styled_polyline_default_eq_native (pl : Polyline) (w : Nat) (sc : Option Color) (B : Rect)
    (calls : List Call) (_hc : polyStyledCalls pl w sc = some calls) :
    runDefault B calls = runNative B calls :=
  runDefault_eq_runNative B calls
example : ∃ calls, polyStyledCalls ⟨⟨1, -2⟩, [⟨0, 0⟩, ⟨6, 3⟩, ⟨2, 7⟩]⟩ 4 (some 1) = some calls :=
  (styled_polyline_total _ _ _).1

/-- **The image of a stroked polyline of width > 1, pointwise**: one colour everywhere, so it is the
stroke colour exactly at the points of the box covered by some scanline rectangle (overlapping
scanlines do not matter). -/
theorem styled_polyline_draw_map (pl : Polyline) (w : Nat) (c : Color) (hr : PolyRectsInRange pl w)
    (rs : List Rect) (hd : drawStyled pl w = some (.fillSolids rs)) (B : Rect) (p : Pt) :
    runNative B (polyCalls c (.fillSolids rs)) p =
      if B.contains p = true ∧ ∃ r ∈ rs, r.contains p = true then some c else none := by
  have hin : ∀ r ∈ rs, r.InRange := (PolyRectsInRange.iff_of_eq hd).mp hr
  rw [runNative_eq_paint (by
    intro k hk
    obtain ⟨r, hr', rfl⟩ := List.mem_map.mp hk
    exact Or.inr (hin r hr'))]
  show (if _ then paint B (rs.map fun r => Call.fillSolid r c) p else none) = _
  rw [paint_solids, ← ite_and]
example : (drawStyled ⟨⟨1, -2⟩, [⟨0, 0⟩, ⟨6, 3⟩, ⟨2, 7⟩]⟩ 4).map (fun d => (polyRects d).length) = some 11 ∧
    PolyRectsInRange ⟨⟨1, -2⟩, [⟨0, 0⟩, ⟨6, 3⟩, ⟨2, 7⟩]⟩ 4 := by
  refine ⟨by rw [drawStyled_eq_map _ _ (by decide), polyScanlineRun_eq_map _ _ (by decide)]; decide +kernel, ?_⟩
  refine @polyRectsInRange_display_scale _ _ ?_ ?_ ?_ <;> decide

-- [V] styled polyline: that `draw()` issues the same call list whatever the target type (Rust parametricity of `draw_styled` in `D: DrawTarget`; `Translated::fill_solid` moving the rectangle by `translate`): carried by correspondence + oracle only (stream `thick.polyline`: R2 call log `draw=`, pixel sequence `px=`, class `C01:pixels-vs-draw:thick-polyline`)

end EG.C01.Polyline
