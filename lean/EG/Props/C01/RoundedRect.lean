/-
  C01 (rounded rectangle part) — `draw()` gives the same pixel map on a `draw_iter`-only target (R1,
  trait defaults) and on a native-fill target (R2), and `draw_iter(pixels())` gives that same map.

  Model: `EG.Model.RoundedRect` (`drawStyled` = the `fill_solid` calls of `draw_styled`,
  `styledPixels` = the `StyledPixelsIterator`; `pixels()` uses `stroke_color`, `draw()` uses
  `effective_stroke_color()`; the fill-only arm of `draw()` takes its scanlines from
  `Scanlines(fill_area)`, `pixels()` always from `StyledScanlines(stroke_area, fill_area)`).
-/
import EG.Lemmas.RoundedRectStyled
namespace EG.C01
open EG EG.RoundedRect

/-- `draw()` on R1 = `draw()` on R2, for every style, shape and target box. -/
theorem rrect_draw_default_eq_native (st : Style) (r : RoundedRect) (B : Rect) :
    runDefault B (r.drawStyled st) = runNative B (r.drawStyled st) :=
  Tgt.runDefault_eq_runNative B _

/-- **With an effective stroke (colour set, width > 0): `draw()` on R2 and on R1 write exactly the
pixels of `pixels()`** (clipped to the target) — same points, same colours, same order; for all
sizes, radii, widths, alignments, with and without fill colour. -/
theorem styled_rrect_pixels_eq_draw_stroked (st : Style) (r : RoundedRect) (B : Rect)
    (hS : (r.strokeArea st).InRange) (hF : (r.fillArea st).InRange) (sc : Color)
    (hsc : st.effectiveStrokeColor = some sc) :
    (r.drawStyled st).flatMap (Call.writesNative B) = clipWrites B (r.styledPixels st) ∧
    (r.drawStyled st).flatMap (Call.writesDefault B) = clipWrites B (r.styledPixels st) := by
  have hstroke : st.stroke = some sc := by
    rw [Style.effectiveStrokeColor_eq] at hsc
    by_cases hw : st.width > 0
    · simpa [hw] using hsc
    · simp [hw] at hsc
  have hd : r.drawStyled st =
      drawLines sc st.fill (styledScanlines (r.strokeArea st) (r.fillArea st)).toList := by
    unfold RoundedRect.drawStyled
    rw [hsc]
    cases st.fill <;> rfl
  rw [hd]
  refine writes_eq_of_lowerNative ?_
  unfold RoundedRect.styledPixels RoundedRect.styledPixelsIt
  rw [drawLines_lowerNative sc st.fill _ (styledLines hS hF).wf B, StyledPixelsIt.toList_new, hstroke]
example : let st : Style := ⟨some 1, some 2, 3, .center⟩
    let r : RoundedRect := ⟨⟨⟨-3, 2⟩, ⟨9, 7⟩⟩, ⟨⟨3, 2⟩, ⟨0, 0⟩, ⟨9, 9⟩, ⟨1, 4⟩⟩⟩
    (r.strokeArea st).InRange ∧ (r.fillArea st).InRange ∧ st.effectiveStrokeColor = some 2 := by decide

/-- The full claim: for every style, shape and target box the three maps are equal. -/
def StyledRRectPixelsEqDraw : Prop :=
  ∀ (st : Style) (r : RoundedRect) (B : Rect), (r.strokeArea st).InRange → (r.fillArea st).InRange →
    runNative B (r.drawStyled st) = PMap.empty.apply (clipWrites B (r.styledPixels st)) ∧
    runDefault B (r.drawStyled st) = PMap.empty.apply (clipWrites B (r.styledPixels st))

/-- **`draw()` on R1 = `draw()` on R2 = `draw_iter(pixels())`** for all four colour options, under
`FillInStroke` (needed only where the two paths use different scanline sources: fill colour only,
`Scanlines(fill_area)` vs the fill parts of `StyledScanlines(stroke_area, fill_area)`). -/
theorem styled_rrect_pixels_eq_draw_partial (st : Style) (r : RoundedRect) (B : Rect)
    (hS : (r.strokeArea st).InRange) (hF : (r.fillArea st).InRange) (hI : FillInStroke st r) :
    runNative B (r.drawStyled st) = PMap.empty.apply (clipWrites B (r.styledPixels st)) ∧
    runDefault B (r.drawStyled st) = PMap.empty.apply (clipWrites B (r.styledPixels st)) :=
  (styledPicture hS hF hI).pixels_eq_draw (mem_styledPixels_iff hS hF hI) B
example : let st : Style := ⟨some 1, some 2, 0, .inside⟩
    let r : RoundedRect := ⟨⟨⟨-3, 2⟩, ⟨9, 7⟩⟩, CornerRadii.new ⟨3, 2⟩⟩
    (r.strokeArea st).InRange ∧ (r.fillArea st).InRange ∧ FillInStroke st r :=
  ⟨by decide, by decide, fillInStroke_of_zero_width _ _ rfl⟩

/-- Stroke width 0 (the stroke colour is set but not effective, or not set): all three maps are
equal outright. -/
theorem styled_rrect_pixels_eq_draw_zero_width (st : Style) (r : RoundedRect) (B : Rect)
    (h0 : st.width = 0) (hF : (r.fillArea st).InRange) :
    runNative B (r.drawStyled st) = PMap.empty.apply (clipWrites B (r.styledPixels st)) ∧
    runDefault B (r.drawStyled st) = PMap.empty.apply (clipWrites B (r.styledPixels st)) :=
  styled_rrect_pixels_eq_draw_partial st r B
    (by rw [areas_eq_of_zero_width st r h0]; exact hF) hF (fillInStroke_of_zero_width st r h0)
example : (⟨some 1, some 2, 0, .inside⟩ : Style).width = 0 ∧
    (RoundedRect.fillArea ⟨some 1, some 2, 0, .inside⟩ ⟨⟨⟨-3, 2⟩, ⟨9, 7⟩⟩, CornerRadii.new ⟨3, 2⟩⟩).InRange := by
  decide

-- (closed) rounded rectangle, fill colour only with a non-zero stroke width and no stroke colour: `draw()` (scanlines of `fill_area`) vs `pixels()` (fill parts of the stroke area's scanlines) agree iff `fill_area ⊆ stroke_area` (FillInStroke): proved in Props/C01/RoundedRectFillOnly.lean (`fill_only_paths_agree_iff`, with both pixel maps in closed form); where FillInStroke is false (C06 known finding, confined radii) the paths differ exactly on `fill_area \ stroke_area`
end EG.C01
