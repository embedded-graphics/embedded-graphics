/-
  C01 (Rectangle) — one image per drawing path, for the styled rectangle.

  (a) `draw()` leaves the same pixel map on a draw_iter-only target (`runDefault`: the three trait
      defaults of `DrawTarget`) and on a native-fill target (`runNative`: documented meaning);
  (b) `pixels()` fed to `draw_iter` gives that same map.
  Models: EG.Model.Target, EG.Model.StyledRect. Helper lemmas: EG/Lemmas/PMap.lean,
  EG/Lemmas/StyledRectDraw.lean. (a) needs no guard; (b) holds under `StyledRect.Guard` (stroke
  width fits `i32`, stroke area within the `i32` coordinate range).
-/
import EG.Lemmas.StyledRectDraw
namespace EG.C01.Rectangle
open EG.Tgt
open EG EG.Rect EG.StyledRect

/-- Each trait default (`fill_contiguous`, `fill_solid`, `clear` lowered to `draw_iter`) offers
exactly the writes of the documented meaning — for every call, area (also zero-sized, outside
the box or saturating) and colour stream of any length. -/
theorem default_lowering_eq_native (B : Rect) (c : Call) : c.lowerDefault B = c.lowerNative B :=
  Call.lowerDefault_eq_lowerNative B c

/-- (a) `draw()` of a styled rectangle: draw_iter-only target = native-fill target, for every
rectangle, style and target box (no guard). -/
theorem styled_rect_default_eq_native (s : Style) (r : Rect) (B : Rect) :
    runDefault B (drawCalls s r) = runNative B (drawCalls s r) :=
  runDefault_eq_runNative B (drawCalls s r)

/-- (b) `pixels()` fed to `draw_iter` leaves the same map as `draw()`, pointwise, for every
rectangle size (also collapsed fill areas), width, alignment, colour option and target box. -/
theorem styled_rect_pixels_eq_draw (s : Style) (r : Rect) (h : Guard s r) (B : Rect) (p : Pt) :
    PMap.empty.apply (clipWrites B (pixelsList s r)) p = runNative B (drawCalls s r) p :=
  (congrFun ((styledPicture h).pixels_eq_draw (mem_pixelsList_iff_expected h) B).1 p).symm

/-- (b) stated with the targets: `draw_iter(pixels())` on the draw_iter-only target vs `draw()` on
either target. -/
theorem styled_rect_three_paths (s : Style) (r : Rect) (h : Guard s r) (B : Rect) (p : Pt) :
    runDefault B [Call.drawIter (pixelsList s r)] p = runDefault B (drawCalls s r) p ∧
    runDefault B (drawCalls s r) p = runNative B (drawCalls s r) p := by
  rw [runDefault_drawIter, styled_rect_default_eq_native]
  exact ⟨styled_rect_pixels_eq_draw s r h B p, rfl⟩

/-- The `StyledPixelsIterator` state machine (inner `Points` iterator, colour choice, skipping of
colourless points) yields exactly: the points of the stroke area (none for a transparent style),
each with the fill colour inside the fill area and the stroke colour elsewhere, colourless points
dropped — for every rectangle and style (no guard). -/
theorem styled_rect_pixels_iterator_spec (s : Style) (r : Rect) :
    pixelsList s r =
      (if !s.isTransparent then (strokeArea s r).points else []).filterMap (pixelOf s r) :=
  pixelsList_eq_spec s r

/-- `pixels()` yields no point twice (so "last write wins" plays no role on that path). -/
theorem styled_rect_pixels_nodup (s : Style) (r : Rect) : ((pixelsList s r).map Prod.fst).Nodup := by
  rw [pixelsList_eq_spec]
  unfold pixelsSpec
  have hsub : ∀ l : List Pt, ((l.filterMap (pixelOf s r)).map Prod.fst).Sublist l := by
    intro l
    induction l with
    | nil => simp
    | cons a l ih =>
      rw [List.filterMap_cons]
      cases hpa : pixelOf s r a with
      | none => exact List.Sublist.cons _ ih
      | some qc =>
        obtain ⟨q, c⟩ := qc
        obtain ⟨rfl, _⟩ := pixelOf_eq_some.mp hpa
        simp only [List.map_cons]
        exact List.Sublist.cons_cons _ ih
  by_cases ht : s.isTransparent = true
  · simp [ht]
  · have ht' : s.isTransparent = false := by simpa using ht
    simp only [ht', Bool.not_false, ↓reduceIte]
    exact List.Pairwise.sublist (hsub _) (points_nodup _)

/-! Non-vacuity -/
example : Guard ⟨some 7, some 9, 3, .center⟩ ⟨⟨-2, -1⟩, ⟨4, 5⟩⟩ := by decide
example : Guard ⟨some 7, none, 2, .outside⟩ ⟨⟨-2, -1⟩, ⟨0, 3⟩⟩ := by decide
example : pixelsList ⟨some 7, some 9, 1, .inside⟩ ⟨⟨0, 0⟩, ⟨3, 3⟩⟩ =
    [(⟨0, 0⟩, 9), (⟨1, 0⟩, 9), (⟨2, 0⟩, 9), (⟨0, 1⟩, 9), (⟨1, 1⟩, 7), (⟨2, 1⟩, 9),
     (⟨0, 2⟩, 9), (⟨1, 2⟩, 9), (⟨2, 2⟩, 9)] := by decide

-- [V] Rust-level parametricity (the call list of `draw_styled` does not depend on the target type): carried by correspondence + oracle only

end EG.C01.Rectangle
