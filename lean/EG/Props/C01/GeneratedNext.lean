/-
  C01 (rectangle): the REGENERATED `Iterator::next` of `StyledPixelsIterator` (src/primitives/rectangle/styled.rs, translated by
  tools/tr_styled.py) is the hand model's `PixelsIt.next`.

  The generated function is `for point in &mut self.iter { .. return Some(Pixel(point, color)) .. } None` on explicit `fuel`
  (the prelude's `for_mut_loop`; the same `fuel` bounds the inner `Points::next`, itself a `while` loop). With more fuel than
  points left in the inner iterator (and than rows left), one generated `next` = one `PixelsIt.next` of the hand model.
  Guard: the fill area's size fits `i32` (the `debug_assert!` of `Point + Size` inside `Rectangle::contains`).
-/
import EG.Props.C01.Generated
namespace EG.C01.Src
open EG EG.Tgt EG.Rect EG.StyledRect EG.RectSrcPrelude EG.StyledSrcPrelude EG.Generated EG.C16.Src EG.C06.Src

def pixelsNextView (r : Option Pixel × StyledSrc.StyledPixelsIterator) : Option ((Pt × Color) × PixelsIt) :=
  r.1.map (fun px => (px, itOf r.2))

-- `srcNx`, `srcBody`, `srcFinish` are copies of the three pieces of the printed `StyledPixelsIterator_Iterator_next` (the
-- `next` closure handed to `for_mut_loop`, the loop body, the `match` on the loop's result), with the inner fuel `F` of
-- `srcNx` apart from the loop's own fuel so that the induction over the loop leaves it alone.
def srcNx (F : Nat) (self : StyledSrc.StyledPixelsIterator) : Option (Option Point × StyledSrc.StyledPixelsIterator) :=
  match RectSrc.Iterator_next F (StyledSrc.StyledPixelsIterator_iter self) with
  | Option.none => Option.none
  | Option.some tmp' => Option.some (tmp'.1, StyledSrc.StyledPixelsIterator_set_iter self tmp'.2)

def srcBody (point : Point) (self : StyledSrc.StyledPixelsIterator) :
    LoopStep StyledSrc.StyledPixelsIterator (Option Pixel × StyledSrc.StyledPixelsIterator) :=
  let color := (if (RectSrc.contains (StyledSrc.StyledPixelsIterator_fill_area self) point) then
      (StyledSrc.StyledPixelsIterator_fill_color self)
    else
      (StyledSrc.StyledPixelsIterator_stroke_color self));
  (match color with
    | Option.some color => (LoopStep.return_ ((Option.some (Pixel_mk point color)), self))
    | _ => (LoopStep.continue_ self))

def srcFinish (r : Option (LoopStep StyledSrc.StyledPixelsIterator (Option Pixel × StyledSrc.StyledPixelsIterator))) :
    Option (Option Pixel × StyledSrc.StyledPixelsIterator) :=
  match r with
  | Option.none => Option.none
  | Option.some (LoopStep.return_ r') => Option.some r'
  | Option.some (LoopStep.continue_ self) => (Option.some (Option.none, self))

/-- The generated `next` IS this loop (by unfolding: any change of the Rust body changes one of the three pieces). -/
theorem StyledPixelsIterator_next_src_shape (fuel : Nat) (it : StyledSrc.StyledPixelsIterator) :
    StyledSrc.StyledPixelsIterator_Iterator_next fuel it = srcFinish (for_mut_loop fuel (srcNx fuel) srcBody it) := rfl

theorem srcBody_src_eq_model (pt : Pt) (it : StyledSrc.StyledPixelsIterator) (h : FitsI32 it.fill_area.size) :
    srcBody pt it = match (itOf it).colorAt pt with
      | some c => LoopStep.return_ (some (pt, c), it)
      | none => LoopStep.continue_ it := by
  unfold srcBody
  simp only [StyledSrc.StyledPixelsIterator_fill_area, StyledSrc.StyledPixelsIterator_fill_color,
    StyledSrc.StyledPixelsIterator_stroke_color, contains_src_eq_model _ _ h, Pixel_mk]
  cases hcn : it.fill_area.contains pt
  · have : (itOf it).colorAt pt = it.stroke_color := by simp [PixelsIt.colorAt, itOf, hcn]
    rw [this]; simp only [Bool.false_eq_true, ↓reduceIte]; cases it.stroke_color <;> rfl
  · have : (itOf it).colorAt pt = it.fill_color := by simp [PixelsIt.colorAt, itOf, hcn]
    rw [this]; simp only [↓reduceIte]; cases it.fill_color <;> rfl

theorem srcLoop_src_eq_model (F : Nat) : ∀ (n : Nat) (it : StyledSrc.StyledPixelsIterator),
    (itOf it).iter.rest.length < n → (it.iter.y.end_ - it.iter.y.start).toNat < F → FitsI32 it.fill_area.size →
    (srcFinish (for_mut_loop n (srcNx F) srcBody it)).map pixelsNextView = some ((itOf it).nextFuel n) := by
  intro n
  induction n with
  | zero => intro it h; omega
  | succ n ih =>
    intro it hlen hF hfit
    have hI := Iterator_next_src_eq_model it.iter F hF
    have hsp := Rect.PointsIt.yields (pointsItOf it.iter)
    unfold for_mut_loop PixelsIt.nextFuel
    cases hN : RectSrc.Iterator_next F it.iter with
    | none => rw [hN] at hI; simp at hI
    | some tp =>
      obtain ⟨o, pts'⟩ := tp
      rw [hN] at hI
      simp only [Option.map_some, nextView, Option.some.injEq] at hI
      have hnx : srcNx F it = some (o, { it with iter := pts' }) := by
        unfold srcNx; simp only [StyledSrc.StyledPixelsIterator_iter, hN]
      rw [hnx]
      cases o with
      | none =>
        simp only [Option.map_none] at hI
        have : (itOf it).iter.next = none := hI.symm
        simp only [this, srcFinish, Option.map_some, pixelsNextView, Option.map_none]
      | some pt =>
        simp only [Option.map_some] at hI
        have hnext : (itOf it).iter.next = some (pt, pointsItOf pts') := hI.symm
        simp only [hnext]
        have hrest : (pointsItOf it.iter).rest = pt :: (pointsItOf pts').rest := by
          have := hsp; rw [show (pointsItOf it.iter).next = some (pt, pointsItOf pts') from hnext] at this; exact this
        rw [srcBody_src_eq_model pt { it with iter := pts' } hfit]
        have hcol : (itOf ({ it with iter := pts' } : StyledSrc.StyledPixelsIterator)).colorAt pt = (itOf it).colorAt pt := rfl
        rw [hcol]
        cases hc : (itOf it).colorAt pt with
        | some c => simp only [srcFinish, Option.map_some, pixelsNextView]; rfl
        | none =>
          simp only
          have hrows : (pts'.y.end_ - pts'.y.start).toNat < F := by
            have := Rect.PointsIt.nextFuel_rows_le _ _ _ _ (show (pointsItOf it.iter).nextFuel _ = some (pt, pointsItOf pts') from hnext)
            simp only [pointsItOf] at this
            omega
          have hlen' : (itOf ({ it with iter := pts' } : StyledSrc.StyledPixelsIterator)).iter.rest.length < n := by
            have : (itOf it).iter.rest = pt :: (pointsItOf pts').rest := hrest
            rw [this] at hlen
            simpa [itOf] using hlen
          exact ih { it with iter := pts' } hlen' hrows hfit

/-- **One generated `next` = one `PixelsIt.next` of the hand model**, for every fuel above the number of points (and rows) the
inner iterator still has. -/
theorem StyledPixelsIterator_next_src_eq_model (fuel : Nat) (it : StyledSrc.StyledPixelsIterator)
    (hlen : (itOf it).iter.budget ≤ fuel) (hF : (it.iter.y.end_ - it.iter.y.start).toNat < fuel)
    (hfit : FitsI32 it.fill_area.size) :
    (StyledSrc.StyledPixelsIterator_Iterator_next fuel it).map pixelsNextView = some (itOf it).next := by
  rw [StyledPixelsIterator_next_src_shape]
  have h1 : (itOf it).iter.rest.length < fuel := Nat.lt_of_lt_of_le (itOf it).iter.rest_length_lt_budget hlen
  rw [srcLoop_src_eq_model fuel fuel it h1 hF hfit]
  unfold PixelsIt.next
  congr 1
  exact PixelsIt.nextFuel_stable _ _ _ h1 (itOf it).iter.rest_length_lt_budget

example : (StyledSrc.StyledPixelsIterator_Iterator_next 20
      (StyledSrc.StyledPixelsIterator_new ⟨⟨0, 0⟩, ⟨3, 3⟩⟩ (ofStyle ⟨none, some 9, 1, .inside⟩))).map (fun r => r.1) =
    some (some (⟨0, 0⟩, 9)) := by decide
example : (itOf (StyledSrc.StyledPixelsIterator_new ⟨⟨0, 0⟩, ⟨3, 3⟩⟩ (ofStyle ⟨none, some 9, 1, .inside⟩))).iter.budget ≤ 20 := by
  decide

end EG.C01.Src
