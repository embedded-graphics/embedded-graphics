/-
  C01 (image part) — an `Image` of a raw image or of a sub-image of any nesting depth leaves the
  same pixel map on a target that implements `draw_iter` only (trait defaults, R1) and on a target
  with native fill methods (R2). Model: EG.Model.ImageRaw + EG.Model.Target.

  -- [V] image: the call list does not depend on the target type (Rust parametricity of `draw` in `D`): carried by correspondence + oracle only (R1 and R2 logs are compared)
-/
import EG.Lemmas.ImageRawImage
namespace EG.C01
open EG EG.Img

/-- Same map on the default and on the native target, for every target box. -/
theorem image_default_eq_native (i : Image) (hg : i.drawable.Good) (B : Rect) :
    runDefault B i.draw = runNative B i.draw := Tgt.runDefault_eq_runNative B i.draw
example : (Image.new ((Drawable.raw exIm).subImage ⟨⟨6, 1⟩, ⟨9, 9⟩⟩) ⟨5, -1⟩).drawable.Good :=
  Drawable.good_subImage (d := .raw exIm) exIm_wf _

/-- The reason: an image makes at most one call, a `fill_contiguous` of its bounding box with
exactly `width * height` colours, which both targets pair with the same row-major points. -/
theorem image_calls (i : Image) (hg : i.drawable.Good) :
    (∃ cs, i.draw = [Call.fillContiguous i.boundingBox cs] ∧
        cs.length = i.drawable.size.w * i.drawable.size.h) ∨ i.draw = [] :=
  Image.calls_are_bbox_fills i hg

end EG.C01
