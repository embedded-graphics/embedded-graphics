/-
  EG.Props.C01.GuardBits — the guard bits the model driver prints for `thick.polyline` / `thick.triangle`
  ops (field ` g=..`, EG/Driver/Thick.lean, computed by the Mathlib-free functions of
  EG/Model/JoinGuards.lean) ARE the decidable guards `PolyRectsInRange` / `TriRectsInRange` of the C01
  theorems on stroked polylines and styled triangles (EG/Props/C01/{Polyline,Triangle}.lean): given the
  `fill_solid` calls the driver has computed anyway, the Bool function is `true` exactly when the guard
  holds. `coverage.guard_bits` of the evidence reports on how many ops of a run they hold.
-/
import EG.Model.JoinGuards
import EG.Lemmas.C01ThickTri
namespace EG.C01.GuardBitsSpec
open EG EG.Joins EG.C01Thick

theorem rectInRange_bit_iff (r : Rect) : GuardBits.rectInRange r = true ↔ r.InRange := by
  unfold GuardBits.rectInRange Rect.InRange inI32
  simp only [Bool.and_eq_true, decide_eq_true_eq, and_assoc]

/-- The driver's bit for `PolyRectsInRange` (from the `PolyDraw` the driver prints as `draw=`). -/
theorem polyRectsInRange_bit_iff (pl : Polyline) (w : Nat) (dr : PolyDraw)
    (h : drawStyled pl w = some dr) :
    GuardBits.polyRectsInRange dr = true ↔ PolyRectsInRange pl w := by
  rw [PolyRectsInRange.iff_of_eq h]
  cases dr with
  | nothing => simp [GuardBits.polyRectsInRange, polyRects]
  | drawIter pts => simp [GuardBits.polyRectsInRange, polyRects]
  | fillSolids rs =>
    simp only [GuardBits.polyRectsInRange, polyRects, List.all_eq_true, rectInRange_bit_iff]

/-- The driver's bit for `TriRectsInRange` (from the `fill_solid` calls the driver prints as `draw=`). -/
theorem triRectsInRange_bit_iff (t : Tri) (style : TriStyle) (calls : List (Rect × Nat))
    (h : triDraw t style = some calls) :
    GuardBits.triRectsInRange calls = true ↔ TriRectsInRange t style := by
  rw [TriRectsInRange.iff_of_eq h]
  simp only [GuardBits.triRectsInRange, List.all_eq_true, rectInRange_bit_iff]

end EG.C01.GuardBitsSpec
