/-
  C01 — one image per drawable, whichever drawing path. This root file holds no theorem of its own:
  the property theorems are in the files of `EG/Props/C01/`, each built as its own module by
  `./check C01`:
    DefaultEqNative.lean  every call list: `draw_iter`-only target (trait defaults) = native-fill target
    Scanline.lean         every list of styled scanlines: `draw()` = `draw_iter(pixels())`; the circle
    Rectangle.lean, Ellipse.lean, RoundedRect.lean, RoundedRectFillOnly.lean, Arc.lean, Line.lean,
    Polyline.lean, Triangle.lean, Image.lean
                          per drawable
    GuardBits.lean        the guard bits the model driver prints are the guards of Polyline.lean / Triangle.lean
    CanonPix.lean         the driver's canonical picture text is a function of the pixel map
    Generated.lean, GeneratedNext.lean
                          the rectangle part over the functions regenerated from the Rust text
  Sub-claims that are not proved are the `-- [V]` lines of those files.
-/
import EG.Basic.Core
namespace EG.C01
end EG.C01
