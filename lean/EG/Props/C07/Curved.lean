/-
  C07 — rendering commutes with translation: circle and ellipse geometry.
  `contains`, `bounding_box` and `points()` of the translated shape are the shifted ones
  (`center_2x` moves by `2d`, so the doubled distance to the centre is unchanged).
-/
import EG.Props.C05.Circle
import EG.Props.C05.Ellipse
import EG.Lemmas.RectTranslate
namespace EG.C07.Curved
open EG

theorem circle_bounding_box_translate (c : Circle) (d : Pt) :
    (c.translate d).boundingBox = c.boundingBox.translate d := rfl

/-- `contains` of the translated circle at the shifted point. -/
theorem circle_contains_translate (c : Circle) (d p : Pt) :
    (c.translate d).contains (p + d) = c.contains p := by
  rw [Circle.translate_contains, Pt.add_sub_cancel']

/-- `points()` of the translated circle is the shifted list (same order). -/
theorem circle_points_translate (c : Circle) (d : Pt) (h : c.InRange) (h' : (c.translate d).InRange) :
    (c.translate d).points = c.points.map (· + d) := by
  rw [C05.circle_points_eq_filter_contains _ h', C05.circle_points_eq_filter_contains _ h,
    circle_bounding_box_translate]
  exact Rect.filter_points_translate h h' (circle_contains_translate c d)

theorem ellipse_bounding_box_translate (e : Ellipse) (d : Pt) :
    (e.translate d).boundingBox = e.boundingBox.translate d := rfl

/-- `contains` of the translated ellipse at the shifted point. -/
theorem ellipse_contains_translate (e : Ellipse) (d p : Pt) :
    (e.translate d).contains (p + d) = e.contains p := by
  rw [Ellipse.translate_contains, Pt.add_sub_cancel']

/-- `points()` of the translated ellipse is the shifted list (same order). -/
theorem ellipse_points_translate (e : Ellipse) (d : Pt) (h : e.InRange) (h' : (e.translate d).InRange) :
    (e.translate d).points = e.points.map (· + d) := by
  rw [C05.ellipse_points_eq_filter_contains _ h', C05.ellipse_points_eq_filter_contains _ h,
    ellipse_bounding_box_translate]
  exact Rect.filter_points_translate h h' (ellipse_contains_translate e d)

example : (⟨⟨-3, 2⟩, 7⟩ : Circle).InRange ∧ ((⟨⟨-3, 2⟩, 7⟩ : Circle).translate ⟨-9, 4⟩).InRange := by decide

-- The pictures of styled circles / ellipses under translation: EG/Props/C07/CurvedDraw.lean; styled rounded rectangles
-- (all corner radii): EG/Props/C07/RoundedRect.lean; styled arcs / sectors: EG/Props/C07/Arc.lean.

end EG.C07.Curved
