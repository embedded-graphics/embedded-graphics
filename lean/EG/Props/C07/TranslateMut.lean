/-
  C07 — `translate_mut` leaves in `*self` exactly the value `translate` returns, for every
  primitive, `Text` and `Image`, for all inputs.

  `translate` and `translate_mut` are written differently in the Rust source: `translate` builds a
  new value (`Self { top_left: self.top_left + by, ..*self }`), `translate_mut` assigns fields in
  place (`self.top_left += by`, i.e. `self.x += other.x; self.y += other.y`), the rounded rectangle
  delegates to its rectangle's `translate_mut`, the line updates two fields one after the other, the
  triangle maps over its vertex array (and its `translate` is "copy, then `translate_mut`"). The
  models of the in-place bodies are in EG/Model/TranslateMut.lean (one field update per statement).
  Every translation theorem of C07 (Props/C07/*.lean) is stated for `translate`; with the equalities
  below it holds verbatim for a value moved with `translate_mut`.
  Not proved here (Rust semantics): that an assignment through `&mut self` is the functional update
  of that field; the oracle compares both methods on the real code (`C07:translate-mut-differs`).
-/
import EG.Model.TranslateMut
import EG.Basic.Arith
namespace EG.C07.TranslateMut
open EG

/-- `Point += Point` is `Point + Point`. -/
theorem point_add_assign (p d : Pt) : Mut.ptAddAssign p d = p + d := rfl

/-- **Rectangle**: `translate_mut` = `translate`. -/
theorem rectangle_translate_mut (r : Rect) (d : Pt) : Mut.rectangle r d = r.translate d := rfl

/-- **Rounded rectangle**: `translate_mut` (delegating to the rectangle's `translate_mut`) =
`translate` (which calls the rectangle's `translate` and copies the corners). -/
theorem rounded_rectangle_translate_mut (r : RoundedRect) (d : Pt) :
    Mut.roundedRectangle r d = r.translate d := rfl

/-- **Circle**: `translate_mut` = `translate`. -/
theorem circle_translate_mut (c : Circle) (d : Pt) : Mut.circle c d = c.translate d := rfl

/-- **Ellipse**: `translate_mut` = `translate`. -/
theorem ellipse_translate_mut (e : Ellipse) (d : Pt) : Mut.ellipse e d = e.translate d := rfl

/-- **Arc**: `translate_mut` = `translate` (the angles are untouched by both). -/
theorem arc_translate_mut (a : Arc) (d : Pt) : Mut.arc a d = a.translate d := rfl

/-- **Sector**: `translate_mut` = `translate`. -/
theorem sector_translate_mut (s : Sector) (d : Pt) : Mut.sector s d = s.translate d := rfl

/-- **Line** (also the stroked line: the style is not part of the primitive): `translate_mut`
(two successive field updates) = `translate`. -/
theorem line_translate_mut (l : Line) (d : Pt) : Mut.line l d = l.translate d := rfl

/-- **Triangle**: `translate_mut` (`for_each(|v| *v += by)`) = `translate`, on both triangle types
of the models. -/
theorem triangle_translate_mut (t : Triangle) (d : Pt) : Mut.triangle t d = t.translate d := rfl
theorem styled_triangle_translate_mut (t : Joins.Tri) (d : Pt) : Mut.tri t d = t.translate d := rfl

/-- **Polyline**: `translate_mut` = `translate` (both add to the `translate` field only). -/
theorem polyline_translate_mut (pl : Polyline) (d : Pt) : Mut.polyline pl d = pl.translateBy d := rfl

/-- **Text**: `translate_mut` = `translate` (position only; string, character style and text style
are untouched by both). -/
theorem text_translate_mut (t : TextLayout.Text) (d : Pt) : Mut.text t d = t.translate d := rfl

/-- **Image**: `translate_mut` = `translate`. -/
theorem image_translate_mut_fields (i : Img.Image) (d : Pt) : Mut.image i d = i.translate d := rfl

/-- Twice `translate_mut` is one `translate` by the sum (the form in which a caller that keeps
mutating a shape meets C07): stated for the rectangle and the line. -/
theorem rectangle_translate_mut_twice (r : Rect) (d e : Pt) :
    Mut.rectangle (Mut.rectangle r d) e = r.translate (d + e) :=
  congrArg (Rect.mk · r.size) (Pt.add_assoc' r.tl d e)
theorem line_translate_mut_twice (l : Line) (d e : Pt) :
    Mut.line (Mut.line l d) e = l.translate (d + e) := by
  show (⟨l.start + d + e, l.stop + d + e⟩ : Line) = ⟨l.start + (d + e), l.stop + (d + e)⟩
  rw [Pt.add_assoc', Pt.add_assoc']

end EG.C07.TranslateMut
