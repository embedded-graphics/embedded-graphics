/-
  C07 — rendering commutes with translation: rounded rectangles and styled rounded rectangles,
  for ALL corner radii (equal or not, confined or not), sizes, stroke widths, alignments and colour
  options. The argument is at the scanline level (EG/Lemmas/RoundedRectTranslate.lean): the corner
  quadrants, `RoundedRectangleContains` and the scanline iterators of the moved shape are the moved
  ones, so it needs neither the exact pixel-map theorem of C06 nor its `FillInStroke` /
  fitting-radii guard (the known C06 finding about confined radii is a statement about WHAT is
  painted; it is painted at the shifted place all the same).

  * `contains`, `points()`, bounding box, styled bounding box, stroke / fill area move by `d`;
  * the call list of `draw()` of the moved shape is the call list of the original moved by `d`;
  * `pixels()` of the moved shape is the moved pixel sequence (same order, same colours);
  * hence the picture on both recording targets (`runNative` = R2, `runDefault` = R1) on the target
    box moved along.
  Guards (decidable): the stroke and fill area rectangles lie in the `i32` range before and after
  the move (`RoundedRect.InRange`; there `rows()` / `columns()` do not saturate).
-/
import EG.Lemmas.RoundedRectTranslate
import EG.Lemmas.CallTranslate
namespace EG.C07.RoundedRect
open EG EG.Tgt

/-- The `i32`-range guard of a styled rounded rectangle: stroke and fill area in range. -/
def Guard (st : Style) (r : RoundedRect) : Prop :=
  (r.strokeArea st).InRange ∧ (r.fillArea st).InRange
instance (st : Style) (r : RoundedRect) : Decidable (Guard st r) := by
  unfold Guard; exact inferInstance

theorem rrect_bounding_box_translate (r : RoundedRect) (d : Pt) :
    (r.translate d).boundingBox = r.boundingBox.translate d := rfl

/-- `contains` of the translated rounded rectangle at the shifted point. -/
theorem rrect_contains_translate (r : RoundedRect) (d p : Pt) (h : r.InRange)
    (h' : (r.translate d).InRange) : (r.translate d).contains (p + d) = r.contains p := by
  unfold RoundedRect.contains
  rw [RoundedRect.new_translate r d h h']
  exact RRContains.contains_shift (RoundedRect.new_colsOK r d h h') p.x p.y

/-- `points()` of the translated rounded rectangle is the shifted list (same order). -/
theorem rrect_points_translate (r : RoundedRect) (d : Pt) (h : r.InRange)
    (h' : (r.translate d).InRange) : (r.translate d).points = r.points.map (· + d) := by
  have hb : r.boundingBox.InRange := h
  have hb' : (r.boundingBox.translate d).InRange := h'
  rw [RoundedRect.points_eq_filter _ h', RoundedRect.points_eq_filter _ h,
    rrect_bounding_box_translate]
  exact Rect.filter_points_translate hb hb' (fun p => rrect_contains_translate r d p h h')

example : (⟨⟨⟨-3, 2⟩, ⟨9, 7⟩⟩, ⟨⟨3, 2⟩, ⟨1, 4⟩, ⟨0, 0⟩, ⟨9, 9⟩⟩⟩ : RoundedRect).InRange ∧
    ((⟨⟨⟨-3, 2⟩, ⟨9, 7⟩⟩, ⟨⟨3, 2⟩, ⟨1, 4⟩, ⟨0, 0⟩, ⟨9, 9⟩⟩⟩ : RoundedRect).translate ⟨-9, 4⟩).InRange := by
  decide

/-- Styled bounding box, stroke area and fill area of the moved shape are the moved ones (no guard). -/
theorem styled_rrect_areas_translate (st : Style) (r : RoundedRect) (d : Pt) :
    (r.translate d).styledBoundingBox st = (r.styledBoundingBox st).translate d ∧
    (r.translate d).strokeArea st = (r.strokeArea st).translate d ∧
    (r.translate d).fillArea st = (r.fillArea st).translate d :=
  ⟨RoundedRect.translate_styledBoundingBox st r d, RoundedRect.translate_strokeArea st r d,
    RoundedRect.translate_fillArea st r d⟩

/-- **`draw()` of the moved styled rounded rectangle makes exactly the calls of the original, moved
by `d`** — all corner radii. -/
theorem styled_rrect_calls_translate (st : Style) (r : RoundedRect) (d : Pt)
    (h : Guard st r) (h' : Guard st (r.translate d)) :
    (r.translate d).drawStyled st = (r.drawStyled st).map (Call.translate d) := by
  obtain ⟨hS, hF⟩ := h
  obtain ⟨hS', hF'⟩ := h'
  rw [RoundedRect.translate_strokeArea] at hS'
  rw [RoundedRect.translate_fillArea] at hF'
  rw [RoundedRect.drawStyled_eq, RoundedRect.drawStyled_eq, RoundedRect.translate_strokeArea,
    RoundedRect.translate_fillArea, RoundedRect.styledScanlines_toList_translate _ _ d hS hS' hF hF',
    RoundedRect.scanlines_toList_translate _ d hF hF', scanDraw_shift]

/-- **`pixels()` of the moved styled rounded rectangle = the moved `pixels()`**, same order. -/
theorem styled_rrect_pixels_translate (st : Style) (r : RoundedRect) (d : Pt)
    (h : Guard st r) (h' : Guard st (r.translate d)) :
    (r.translate d).styledPixels st = Writes.translate d (r.styledPixels st) := by
  obtain ⟨hS, hF⟩ := h
  obtain ⟨hS', hF'⟩ := h'
  rw [RoundedRect.translate_strokeArea] at hS'
  rw [RoundedRect.translate_fillArea] at hF'
  unfold RoundedRect.styledPixels RoundedRect.styledPixelsIt
  rw [RoundedRect.translate_strokeArea, RoundedRect.translate_fillArea,
    RoundedRect.styledScanlines_toList_translate _ _ d hS hS' hF hF', StyledPixelsIt.toList_new_shift]

/-- Every call of `draw()` is a `fill_solid` of a scanline rectangle inside the `i32` range. -/
theorem styled_rrect_calls_in_range (st : Style) (r : RoundedRect) (h : Guard st r) :
    ∀ c ∈ r.drawStyled st, ∃ a col, c = Call.fillSolid a col ∧ a.InRange :=
  scanDraw_in_range (RoundedRect.styledLines h.1 h.2).wf (RoundedRect.styledLines h.1 h.2).wff

/-- **The picture**: `draw()` of the moved rounded rectangle on the target box moved along leaves
the picture of the original shifted by `d`, natively (R2) and through the trait defaults (R1) —
all corner radii, widths, alignments, colour options. -/
theorem styled_rrect_map_translate (st : Style) (r : RoundedRect) (d : Pt)
    (h : Guard st r) (h' : Guard st (r.translate d)) (B : Rect) :
    runNative (B.translate d) ((r.translate d).drawStyled st) =
      PMap.shift d (runNative B (r.drawStyled st)) ∧
    runDefault (B.translate d) ((r.translate d).drawStyled st) =
      PMap.shift d (runDefault B (r.drawStyled st)) :=
  picture_translate (styled_rrect_calls_translate st r d h h')
    (ok_of_fills (styled_rrect_calls_in_range st r h) B)
    (ok_of_fills (styled_rrect_calls_in_range st _ h') _)

example : Guard ⟨some 1, some 2, 3, .center⟩ ⟨⟨⟨-3, 2⟩, ⟨9, 7⟩⟩, ⟨⟨3, 2⟩, ⟨1, 4⟩, ⟨0, 0⟩, ⟨9, 9⟩⟩⟩ ∧
    Guard ⟨some 1, some 2, 3, .center⟩
      ((⟨⟨⟨-3, 2⟩, ⟨9, 7⟩⟩, ⟨⟨3, 2⟩, ⟨1, 4⟩, ⟨0, 0⟩, ⟨9, 9⟩⟩⟩ : RoundedRect).translate ⟨64, -33⟩) := by
  decide
-- the witness of the C06 known finding (`not_fill_in_stroke_all`: `confine` rescales the fill area's
-- radii and the fill area bulges out of the stroke area) satisfies the guards: it is covered here
example : Guard ⟨some 7, some 9, 1, .inside⟩ ⟨⟨⟨0, 0⟩, ⟨3, 20⟩⟩, ⟨⟨3, 20⟩, ⟨0, 0⟩, ⟨0, 0⟩, ⟨0, 0⟩⟩⟩ ∧
    Guard ⟨some 7, some 9, 1, .inside⟩
      ((⟨⟨⟨0, 0⟩, ⟨3, 20⟩⟩, ⟨⟨3, 20⟩, ⟨0, 0⟩, ⟨0, 0⟩, ⟨0, 0⟩⟩⟩ : RoundedRect).translate ⟨-2, -11⟩) := by decide

-- [V] styled rounded rectangle: coordinates for which the stroke / fill area rectangle leaves the `i32` range (guard `Guard` false; saturation / overflow there is C08's topic): carried by correspondence + oracle only
-- [V] rounded rectangle, `translate_mut`: that Rust's `&mut self` field assignment is the functional field update of the model is language semantics, carried by the oracle only (`C07:translate-mut-differs` compares both methods on the real code); PROVED on the model of the in-place body as the source writes it (EG/Model/TranslateMut.lean), for all inputs: `rounded_rectangle_translate_mut` (Props/C07/TranslateMut.lean)

end EG.C07.RoundedRect
