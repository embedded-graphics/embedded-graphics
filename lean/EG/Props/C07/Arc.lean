/-
  C07 (Arc, Sector) — rendering commutes with translation: styled arcs and styled sectors.

  The plane sector (and the sector's bevel line) only ever see `delta = 2 p - center_2x`, the
  thresholds depend on the diameter and the style alone, and the iterated box moves with the shape:
  `pixels()` of the translated shape is the translated pixel sequence (same order, same colours),
  hence the picture on the moved target box is the moved picture, and the styled bounding box moves
  by the same vector — for every plane sector (all angles), bevel, diameter and style.
  Guard: the two iterated boxes stay inside the `i32` range (`Rect.InRange`, decidable).
  Models: EG.Model.StyledArc, EG.Model.StyledSector (streams `sector.sarc`, `sector.ssector`; the
  translated shape is run through model and code in every op with a non-zero offset).
-/
import EG.Lemmas.StyledArcSector
namespace EG.C07.Arc
open EG EG.Tgt

/-- The styled bounding box of the translated arc is the translated box (no guard). -/
theorem styled_arc_bbox_translate (st : Style) (a : Arc) (t : Pt) :
    (a.translate t).styledBoundingBox st = (a.styledBoundingBox st).translate t :=
  Arc.translate_styledBoundingBox st a t

/-- The stroke test at the moved point of the moved arc = the stroke test at the point. -/
theorem styled_arc_accepts_translate (st : Style) (a : Arc) (t p : Pt) :
    (a.translate t).strokeAccepts st (p + t) = a.strokeAccepts st p :=
  Arc.strokeAccepts_translate st a t p

/-- **`pixels()` of the translated styled arc = the translated `pixels()`**, same order. -/
theorem styled_arc_translate (st : Style) (a : Arc) (t : Pt)
    (h1 : (a.styledBoundingBox st).InRange) (h2 : ((a.translate t).styledBoundingBox st).InRange) :
    (a.translate t).styledPixels st = Writes.translate t (a.styledPixels st) :=
  (Arc.boxPixels st a).translate (Arc.boxPixels st (a.translate t)) (Arc.translate_styledBoundingBox st a t)
    (Arc.pixelAt_translate st a t) h1 h2

/-- The picture: `draw()` of the translated arc on the moved target box is the moved picture. -/
theorem styled_arc_draw_translate (st : Style) (a : Arc) (t : Pt) (B : Rect)
    (h1 : (a.styledBoundingBox st).InRange) (h2 : ((a.translate t).styledBoundingBox st).InRange) :
    runNative (B.translate t) ((a.translate t).drawStyled st) =
      PMap.shift t (runNative B (a.drawStyled st)) := by
  unfold Arc.drawStyled
  rw [styled_arc_translate st a t h1 h2, runNative_drawIter_translate]

/-- The styled bounding box of the translated sector is the translated box (no guard). -/
theorem styled_sector_bbox_translate (st : Style) (s : Sector) (t : Pt) :
    (s.translate t).styledBoundingBox st = (s.styledBoundingBox st).translate t :=
  Sector.translate_styledBoundingBox st s t

/-- What `pixels()` yields at the moved point of the moved sector = the moved pixel. -/
theorem styled_sector_pixel_at_translate (st : Style) (s : Sector) (bevel : SectorBevel) (t p : Pt) :
    (s.translate t).pixelAt st bevel (p + t) = (s.pixelAt st bevel p).map (fun w => (w.1 + t, w.2)) :=
  Sector.pixelAt_translate st s bevel t p

/-- **`pixels()` of the translated styled sector = the translated `pixels()`**, same order. -/
theorem styled_sector_translate (st : Style) (s : Sector) (bevel : SectorBevel) (t : Pt)
    (h1 : (s.styledBoundingBox st).InRange) (h2 : ((s.translate t).styledBoundingBox st).InRange) :
    (s.translate t).styledPixels st bevel = Writes.translate t (s.styledPixels st bevel) :=
  (Sector.boxPixels st s bevel).translate (Sector.boxPixels st (s.translate t) bevel)
    (Sector.translate_styledBoundingBox st s t) (Sector.pixelAt_translate st s bevel t) h1 h2

/-- The picture: `draw()` of the translated sector on the moved target box is the moved picture. -/
theorem styled_sector_draw_translate (st : Style) (s : Sector) (bevel : SectorBevel) (t : Pt) (B : Rect)
    (h1 : (s.styledBoundingBox st).InRange) (h2 : ((s.translate t).styledBoundingBox st).InRange) :
    runNative (B.translate t) ((s.translate t).drawStyled st bevel) =
      PMap.shift t (runNative B (s.drawStyled st bevel)) := by
  unfold Sector.drawStyled
  rw [styled_sector_translate st s bevel t h1 h2, runNative_drawIter_translate]

example : (Arc.styledBoundingBox ⟨some 1, some 2, 3, .center⟩
      ⟨⟨-3, 2⟩, 7, ⟨.intersection, ⟨-1024, 0⟩, ⟨0, 1024⟩⟩⟩).InRange ∧
    (((⟨⟨-3, 2⟩, 7, ⟨.intersection, ⟨-1024, 0⟩, ⟨0, 1024⟩⟩⟩ : Arc).translate ⟨-9, 4⟩).styledBoundingBox
      ⟨some 1, some 2, 3, .center⟩).InRange := by decide
example : (Sector.styledBoundingBox ⟨some 1, some 2, 5, .outside⟩
      ⟨⟨-30, 2⟩, 12, ⟨.union, ⟨724, 724⟩, ⟨0, 1024⟩⟩⟩).InRange ∧
    (((⟨⟨-30, 2⟩, 12, ⟨.union, ⟨724, 724⟩, ⟨0, 1024⟩⟩⟩ : Sector).translate ⟨64, -33⟩).styledBoundingBox
      ⟨some 1, some 2, 5, .outside⟩).InRange := by decide

-- [V] arc / sector, default (f32) build only: the plane sector and the bevel of the translated shape are those of the original (micromath's f32 trigonometry is not modelled; the hooks are called with the angles alone). For the `fixed_point` build this is proved on the model in Props/C07/ArcAngles.lean (`Fx.planeSectorNew` / `Fx.styledSectorTrig` take the two raw angles and nothing else; `fx_styled_arc_translate`, `fx_styled_sector_translate`: angles -> pixels commutes with translation). Both builds: that `Transform::translate` copies the two angle fields (`..*self`) is Rust-level: carried by correspondence + oracle only
-- [V] arc / sector, `translate_mut`: that Rust's `&mut self` field assignment is the functional field update of the model is language semantics, carried by the oracle only (`C07:translate-mut-differs` compares both methods on the real code); PROVED on the model of the in-place body as the source writes it (EG/Model/TranslateMut.lean), for all inputs: `arc_translate_mut`, `sector_translate_mut` (Props/C07/TranslateMut.lean)
-- [V] arc / sector: coordinates for which the iterated box leaves the `i32` range (guards `Rect.InRange` false; saturation / overflow there is C08's topic): carried by correspondence + oracle only

end EG.C07.Arc
