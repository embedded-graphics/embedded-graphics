/-
  C07 (Rectangle) — rendering commutes with translation, for `Rectangle` and the styled rectangle.

  Part 1: every `Rect` operation commutes with translation (general lemmas:
          EG/Lemmas/RectTranslate.lean).
  Part 2: the styled rectangle: areas, bounding box, the call list of `draw()`, the pixel list of
          `pixels()` and the pixel map left on a target (EG/Lemmas/StyledRectDraw.lean; the
          map from `StyledRect.styledPicture`, whose two areas move with the rectangle).
  `translate_mut` (`self.top_left += by`) is modelled as a field update in EG/Model/TranslateMut.lean
  and proved equal to `translate` in Props/C07/TranslateMut.lean; that Rust's `&mut` assignment is
  that update is carried by the oracle (`C07:translate-mut-differs`).
-/
import EG.Lemmas.StyledRectDraw
namespace EG.C07.Rectangle
open EG.Tgt
open EG EG.Rect EG.StyledRect

/-! ### Part 1: `Rectangle` -/

/-- `contains`: the moved rectangle contains the moved point iff the rectangle contains the point. -/
theorem rect_contains_translate (r : Rect) (d p : Pt) :
    (r.translate d).contains (p + d) = r.contains p := contains_translate r d p

/-- `points()`: the moved points, in the same order. -/
theorem rect_points_translate (r : Rect) (d : Pt) (h : r.InRange) (h' : (r.translate d).InRange) :
    (r.translate d).points = r.points.map (fun p => p + d) := points_translate r d h h'

theorem rect_bottom_right_translate (r : Rect) (d : Pt) :
    (r.translate d).bottomRight = r.bottomRight.map (fun p => p + d) := bottomRight_translate r d

theorem rect_center_translate (r : Rect) (d : Pt) : (r.translate d).center = r.center + d :=
  center_translate r d

theorem rect_offset_translate (r : Rect) (d : Pt) (n : Int) :
    (r.translate d).offset n = (r.offset n).translate d := offset_translate r d n

/-- `intersection`: the same point set moved; the rectangle value itself moves too, except that the
"no common point" arms return `Rectangle::zero()` (at the origin) before and after. -/
theorem rect_intersection_translate (a b : Rect) (d : Pt) :
    (∀ p, ((a.translate d).intersection (b.translate d)).contains (p + d) = (a.intersection b).contains p) ∧
    ((a.translate d).intersection (b.translate d) = (a.intersection b).translate d ∨
      ((a.translate d).intersection (b.translate d) = Rect.zero ∧ a.intersection b = Rect.zero)) :=
  ⟨fun p => by rw [Bool.eq_iff_iff, mem_intersection, mem_intersection, contains_translate, contains_translate],
    intersection_translate a b d⟩

theorem rect_translate_translate (r : Rect) (d e : Pt) :
    (r.translate d).translate e = r.translate (d + e) := translate_translate r d e

/-! ### Part 2: the styled rectangle -/

/-- `bounding_box()`, `stroke_area()`, `fill_area()` of the moved shape are the moved ones. -/
theorem styled_rect_bbox_translate (s : Style) (r : Rect) (d : Pt) :
    styledBoundingBox s (r.translate d) = (styledBoundingBox s r).translate d ∧
    strokeArea s (r.translate d) = (strokeArea s r).translate d ∧
    fillArea s (r.translate d) = (fillArea s r).translate d :=
  ⟨styledBoundingBox_translate s r d, strokeArea_translate s r d, fillArea_translate s r d⟩

/-- `draw()` of the moved rectangle makes exactly the calls of the original, moved by `d` — for
every rectangle, style and vector. -/
theorem styled_rect_calls_translate (s : Style) (r : Rect) (d : Pt) :
    drawCalls s (r.translate d) = (drawCalls s r).map (Call.translate d) :=
  drawCalls_translate s r d

/-- `pixels()` of the moved rectangle are the pixels of the original, moved by `d`. -/
theorem styled_rect_pixels_translate (s : Style) (r : Rect) (d : Pt)
    (h : (strokeArea s r).InRange) (h' : (strokeArea s (r.translate d)).InRange) :
    pixelsList s (r.translate d) = Writes.translate d (pixelsList s r) := by
  rw [pixelsList_eq_spec, pixelsList_eq_spec]
  unfold StyledRect.pixelsSpec
  rw [strokeArea_translate] at h' ⊢
  cases s.isTransparent with
  | true => rfl
  | false => exact Rect.filterMap_points_translate h h' (pixelOf_translate s r d)

/-- Hence the pixel map shifts: drawing the moved rectangle on a target with the moved box leaves
the map of the original shifted by `d`. -/
theorem styled_rect_map_translate (s : Style) (r : Rect) (d : Pt)
    (h : Guard s r) (h' : Guard s (r.translate d)) (B : Rect) :
    runNative (B.translate d) (drawCalls s (r.translate d)) =
      PMap.shift d (runNative B (drawCalls s r)) :=
  ((styledPicture h).shift_moved_box (styledPicture h')
    (fun p => by rw [strokeArea_translate, contains_translate'])
    (fun p => by rw [fillArea_translate, contains_translate']) B).1

/-- The same on one fixed target whose box contains both bounding boxes (the "unbounded" target
of the property text): the map of `x.translate(d)` is the map of `x` shifted by `d`. -/
theorem styled_rect_map_translate_fixed_box (s : Style) (r : Rect) (d : Pt)
    (h : Guard s r) (h' : Guard s (r.translate d)) (B : Rect)
    (hB : ∀ q, (styledBoundingBox s r).contains q = true → B.contains q = true)
    (hB' : ∀ q, (styledBoundingBox s (r.translate d)).contains q = true → B.contains q = true) :
    runNative B (drawCalls s (r.translate d)) = PMap.shift d (runNative B (drawCalls s r)) :=
  ((styledPicture h).shift_fixed_box (styledPicture h')
    (fun p => by rw [strokeArea_translate, contains_translate'])
    (fun p => by rw [fillArea_translate, contains_translate']) hB hB').1

/-! Non-vacuity -/
example : Guard ⟨some 7, some 9, 3, .center⟩ ⟨⟨-2, -1⟩, ⟨4, 5⟩⟩ ∧
    Guard ⟨some 7, some 9, 3, .center⟩ ((⟨⟨-2, -1⟩, ⟨4, 5⟩⟩ : Rect).translate ⟨-7, -9⟩) := by decide
example : (⟨⟨-2, -1⟩, ⟨4, 5⟩⟩ : Rect).InRange ∧ ((⟨⟨-2, -1⟩, ⟨4, 5⟩⟩ : Rect).translate ⟨64, -33⟩).InRange := by
  decide
example : drawCalls ⟨some 7, some 9, 1, .inside⟩ ((⟨⟨0, 0⟩, ⟨3, 4⟩⟩ : Rect).translate ⟨5, -3⟩) =
    [.fillSolid ⟨⟨6, -2⟩, ⟨1, 2⟩⟩ 7, .fillSolid ⟨⟨5, -3⟩, ⟨3, 1⟩⟩ 9, .fillSolid ⟨⟨5, 0⟩, ⟨3, 1⟩⟩ 9,
     .fillSolid ⟨⟨5, -2⟩, ⟨1, 2⟩⟩ 9, .fillSolid ⟨⟨7, -2⟩, ⟨1, 2⟩⟩ 9] := by decide

-- [V] rectangle, `translate_mut`: that Rust's `&mut self` field assignment is the functional field update of the model is language semantics, carried by the oracle only (`C07:translate-mut-differs` compares both methods on the real code); PROVED on the model of the in-place body as the source writes it (EG/Model/TranslateMut.lean), for all inputs: `rectangle_translate_mut` (Props/C07/TranslateMut.lean)
-- [V] Rust-level parametricity of `draw` in the target type: carried by correspondence + oracle only

end EG.C07.Rectangle
