/-
  C07 (Arc, Sector; `fixed_point` build) — the plane sector and the bevel of the translated shape are
  those of the original, and rendering from the RAW ANGLES commutes with translation.

  Props/C07/Arc.lean proves translation for every plane sector and bevel handed in as parameters. For
  the fixed_point build the computation of the two from the angles is modelled
  (`Fx.planeSectorNew start sweep`, `Fx.sectorBevel start sweep`, `Fx.styledSectorTrig`): their ONLY
  arguments are the two raw angles — neither the position, nor the diameter, nor the style enters. That
  the translated shape has the same plane sector and bevel is therefore definitional on the model
  (`fx_arc_of_angles_translate`, `fx_sector_of_angles_translate` are proved by `rfl` after a case split
  on whether the trigonometry panics); the content of this file is the composition: the pipeline
  raw angles -> pixels commutes with translation, including WHETHER the checked build panics.

  What else the bevel depends on: the bevel LINE is (kind, normal, distance) with kind and normal from
  the angles alone and `distance = -outside_stroke_width * NORMAL_VECTOR_SCALE * 4` from the style
  alone (`bevel_line_eq`): not on the circle's position, and not on its diameter either. The plane
  sector used by the styled sector iterator is the shape's own (`offset` keeps it).
-/
import EG.Lemmas.Glue2ArcAngles
import EG.Props.C07.Arc
namespace EG.C07.ArcAngles
open EG EG.Tgt EG.Glue2

/-- **Arc from raw angles, translated**: same plane sector, same panic behaviour — the translated
arc is the arc built at the translated position (definitional: `Fx.planeSectorNew` sees the angles
only). -/
theorem fx_arc_of_angles_translate (tl : Pt) (d : Nat) (start sweep : Int) (t : Pt) :
    arcOfAngles (tl + t) d start sweep = (arcOfAngles tl d start sweep).map (fun a => a.translate t) :=
  arcOfAngles_translate tl d start sweep t

/-- **Sector from raw angles, translated**: same plane sector, same bevel, same panic behaviour. -/
theorem fx_sector_of_angles_translate (tl : Pt) (d : Nat) (start sweep : Int) (t : Pt) :
    sectorOfAngles (tl + t) d start sweep =
      (sectorOfAngles tl d start sweep).map (fun x => (x.1.translate t, x.2)) :=
  sectorOfAngles_translate tl d start sweep t

/-- Whether the trigonometry of the checked build panics does not depend on the position or the
diameter (it is a property of the two angles). -/
theorem fx_trig_panic_position_free (tl tl' : Pt) (d d' : Nat) (start sweep : Int) :
    (arcOfAngles tl d start sweep).isSome = (arcOfAngles tl' d' start sweep).isSome ∧
    (sectorOfAngles tl d start sweep).isSome = (sectorOfAngles tl' d' start sweep).isSome := by
  unfold arcOfAngles sectorOfAngles
  constructor
  · cases Fx.planeSectorNew start sweep <;> rfl
  · cases Fx.styledSectorTrig start sweep <;> rfl

/-- The plane sector and the bevel of a shape built from angles are functions of the angles: two
shapes with the same angles (any positions, any diameters) carry the same ones. -/
theorem fx_trig_same_for_same_angles (tl tl' : Pt) (d d' : Nat) (start sweep : Int)
    (s s' : Sector) (b b' : SectorBevel)
    (h : sectorOfAngles tl d start sweep = some (s, b))
    (h' : sectorOfAngles tl' d' start sweep = some (s', b')) : s.ps = s'.ps ∧ b = b' := by
  unfold sectorOfAngles at h h'
  cases ht : Fx.styledSectorTrig start sweep with
  | none => rw [ht] at h; cases h
  | some x =>
    rw [ht] at h h'
    simp only [Option.map_some, Option.some.injEq, Prod.mk.injEq] at h h'
    obtain ⟨rfl, rfl⟩ := h
    obtain ⟨rfl, rfl⟩ := h'
    exact ⟨rfl, rfl⟩
example : ∃ s b s' b', sectorOfAngles ⟨-3, 2⟩ 9 34315 (-205886) = some (s, b) ∧
    sectorOfAngles ⟨40, -7⟩ 21 34315 (-205886) = some (s', b') := by
  have h : (Fx.styledSectorTrig 34315 (-205886)).isSome = true := by decide +kernel
  obtain ⟨x, hx⟩ := Option.isSome_iff_exists.mp h
  exact ⟨_, _, _, _, by unfold sectorOfAngles; rw [hx]; rfl, by unfold sectorOfAngles; rw [hx]; rfl⟩

/-- **Styled arc from raw angles: `pixels()` of the translated arc is the translated `pixels()`**
(fixed_point build, angles -> pixels inside the model). -/
theorem fx_styled_arc_translate (st : Style) (tl : Pt) (d : Nat) (start sweep : Int) (t : Pt) (a : Arc)
    (h : arcOfAngles tl d start sweep = some a)
    (h1 : (a.styledBoundingBox st).InRange) (h2 : ((a.translate t).styledBoundingBox st).InRange) :
    arcOfAngles (tl + t) d start sweep = some (a.translate t) ∧
    (a.translate t).styledPixels st = Writes.translate t (a.styledPixels st) := by
  refine ⟨?_, C07.Arc.styled_arc_translate st a t h1 h2⟩
  rw [fx_arc_of_angles_translate, h]; rfl
example : ∃ a, arcOfAngles ⟨-3, 2⟩ 7 34315 (-205886) = some a ∧
    (a.styledBoundingBox ⟨some 1, some 2, 3, .center⟩).InRange ∧
    ((a.translate ⟨-9, 4⟩).styledBoundingBox ⟨some 1, some 2, 3, .center⟩).InRange := by
  have h : Fx.planeSectorNew 34315 (-205886) = some ⟨.intersection, ⟨-512, 886⟩, ⟨512, -886⟩⟩ := by decide +kernel
  refine ⟨⟨⟨-3, 2⟩, 7, ⟨.intersection, ⟨-512, 886⟩, ⟨512, -886⟩⟩⟩, ?_, by decide, by decide⟩
  unfold arcOfAngles; rw [h]; rfl

/-- **Styled sector from raw angles: `pixels()` of the translated sector is the translated
`pixels()`**, bevel included. -/
theorem fx_styled_sector_translate (st : Style) (tl : Pt) (d : Nat) (start sweep : Int) (t : Pt)
    (s : Sector) (bevel : SectorBevel) (h : sectorOfAngles tl d start sweep = some (s, bevel))
    (h1 : (s.styledBoundingBox st).InRange) (h2 : ((s.translate t).styledBoundingBox st).InRange) :
    sectorOfAngles (tl + t) d start sweep = some (s.translate t, bevel) ∧
    (s.translate t).styledPixels st bevel = Writes.translate t (s.styledPixels st bevel) := by
  refine ⟨?_, C07.Arc.styled_sector_translate st s bevel t h1 h2⟩
  rw [fx_sector_of_angles_translate, h]; rfl

/-- ... and the pictures: `draw()` of the translated shapes on the moved target box. -/
theorem fx_styled_draw_translate (st : Style) (tl : Pt) (d : Nat) (start sweep : Int) (t : Pt) (B : Rect) :
    (∀ a, arcOfAngles tl d start sweep = some a → (a.styledBoundingBox st).InRange →
      ((a.translate t).styledBoundingBox st).InRange →
      ∃ a', arcOfAngles (tl + t) d start sweep = some a' ∧
        runNative (B.translate t) (a'.drawStyled st) = PMap.shift t (runNative B (a.drawStyled st))) ∧
    (∀ s bevel, sectorOfAngles tl d start sweep = some (s, bevel) → (s.styledBoundingBox st).InRange →
      ((s.translate t).styledBoundingBox st).InRange →
      ∃ s', sectorOfAngles (tl + t) d start sweep = some (s', bevel) ∧
        runNative (B.translate t) (s'.drawStyled st bevel) =
          PMap.shift t (runNative B (s.drawStyled st bevel))) := by
  constructor
  · intro a h h1 h2
    exact ⟨a.translate t, (fx_styled_arc_translate st tl d start sweep t a h h1 h2).1,
      C07.Arc.styled_arc_draw_translate st a t B h1 h2⟩
  · intro s bevel h h1 h2
    exact ⟨s.translate t, (fx_styled_sector_translate st tl d start sweep t s bevel h h1 h2).1,
      C07.Arc.styled_sector_draw_translate st s bevel t B h1 h2⟩

/-- **What the bevel line depends on**: kind and normal are the angle-computed bevel's, the distance
is `-outside_stroke_width * NORMAL_VECTOR_SCALE * 4` — the style only. Neither the position nor the
diameter of the circle enters; the plane sector the iterator uses is the shape's own. -/
theorem bevel_line_eq (st : Style) (s : Sector) (bevel : SectorBevel) :
    (s.styledPixelsIt st bevel).bevel =
      bevel.map (fun kn => (kn.1, ⟨kn.2, -(satAsI32 st.outsideStrokeWidth) * normalVectorScale * 4⟩)) ∧
    (s.styledPixelsIt st bevel).planeSector = s.ps := ⟨rfl, rfl⟩

/-- Hence the same line for any two sectors with the same style and angle-computed bevel. -/
theorem bevel_line_position_and_size_free (st : Style) (s s' : Sector) (bevel : SectorBevel) :
    (s.styledPixelsIt st bevel).bevel = (s'.styledPixelsIt st bevel).bevel := rfl

end EG.C07.ArcAngles
