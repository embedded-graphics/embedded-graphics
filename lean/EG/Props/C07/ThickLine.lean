/-
  C07 — rendering commutes with translation: STROKED LINES of any width.
  `ThickPoints` (the `ParallelsIterator` plus the Bresenham walker of the current parallel) keeps
  absolute coordinates only in its walker positions; everything else depends on the line's delta.
  Hence, for every line, stroke width, colour option and vector — no guard:
  * `pixels()` of the moved line is the moved pixel sequence (same order);
  * `draw()` makes the moved call (one `draw_iter`), so the picture on both recording targets is
    the shifted picture;
  * `Line::extents(w, None)` and the styled bounding box move by `d`.
  Models: EG.Model.ThickLine (`Thick.thickPoints`, `Thick.styledBoundingBox`; streams
  `thick.points`, `thick.bbox`); `Thick.styledPixels` / `Thick.drawStyled` (EG/Lemmas/
  ThickTranslate.lean) state what line/styled.rs does with the points. The model is total
  (`Thick.thickPoints_total`): the `Option` is never `none`.
-/
import EG.Lemmas.ThickTranslate
namespace EG.C07.ThickLine
open EG EG.Tgt

/-- **The pixels of a stroked line of any width move with the line**: same points, same order. -/
theorem thick_points_translate (l : Line) (w : Nat) (d : Pt) :
    Thick.thickPoints (l.translate d) w = (Thick.thickPoints l w).map (fun ps => ps.map (· + d)) :=
  Thick.thickPoints_translate l w d

/-- In the form "whatever the line yields": the moved line yields the moved list (and by
`Thick.thickPoints_total` the line always yields a list). -/
theorem thick_points_translate_some (l : Line) (w : Nat) (d : Pt) :
    ∃ ps, Thick.thickPoints l w = some ps ∧
      Thick.thickPoints (l.translate d) w = some (ps.map (· + d)) := by
  obtain ⟨ps, h⟩ := Thick.thickPoints_total l w
  exact ⟨ps, h, by rw [thick_points_translate, h]; rfl⟩

/-- `Line::extents(w, StrokeOffset::None)` of the moved line: the moved edge lines. -/
theorem line_extents_none_translate (l : Line) (w : Nat) (d : Pt) :
    Thick.extents (l.translate d) w =
      (Thick.extents l w).map (fun r => (r.1.translate d, r.2.translate d)) :=
  Thick.extents_translate l w d

/-- **The styled bounding box of the moved line is the moved box**, every line and width. -/
theorem styled_line_bbox_translate (l : Line) (w : Nat) (d : Pt) :
    Thick.styledBoundingBox (l.translate d) w = (Thick.styledBoundingBox l w).map (·.translate d) :=
  Thick.styledBoundingBox_translate l w d

/-- `pixels()` of the moved styled line = the moved `pixels()` (`sc` = the style's stroke colour). -/
theorem styled_line_pixels_translate (l : Line) (w : Nat) (sc : Option Color) (d : Pt) :
    Thick.styledPixels (l.translate d) w sc = (Thick.styledPixels l w sc).map (Writes.translate d) :=
  Thick.styledPixels_translate l w sc d

/-- **`draw()` of the moved styled line makes the moved call.** -/
theorem styled_line_calls_translate (l : Line) (w : Nat) (sc : Option Color) (d : Pt) :
    Thick.drawStyled (l.translate d) w sc =
      (Thick.drawStyled l w sc).map (fun calls => calls.map (Call.translate d)) :=
  Thick.drawStyled_translate l w sc d

/-- **The picture**: the styled line draws some call list; the moved line draws the moved list,
and on the target box moved along this leaves the picture of the original shifted by `d` —
natively (R2) and through the trait defaults (R1); every line, width, colour option, vector, box. -/
theorem styled_line_map_translate (l : Line) (w : Nat) (sc : Option Color) (d : Pt) (B : Rect) :
    ∃ calls, Thick.drawStyled l w sc = some calls ∧
      Thick.drawStyled (l.translate d) w sc = some (calls.map (Call.translate d)) ∧
      runNative (B.translate d) (calls.map (Call.translate d)) = PMap.shift d (runNative B calls) ∧
      runDefault (B.translate d) (calls.map (Call.translate d)) = PMap.shift d (runDefault B calls) := by
  obtain ⟨calls, h⟩ := Thick.drawStyled_total l w sc
  obtain ⟨px, -, rfl⟩ := Option.map_eq_some_iff.mp h
  refine ⟨_, h, by rw [styled_line_calls_translate, h]; rfl, ?_⟩
  exact picture_translate rfl (Call.ok_drawIter B px) (Call.ok_drawIter _ _)

example : Thick.thickPoints ((⟨⟨2, 2⟩, ⟨6, 4⟩⟩ : Line).translate ⟨-5, -4⟩) 3 =
    (Thick.thickPoints ⟨⟨2, 2⟩, ⟨6, 4⟩⟩ 3).map (fun ps => ps.map (· + (⟨-5, -4⟩ : Pt))) := by decide +kernel
example : Thick.styledBoundingBox ((⟨⟨2, -3⟩, ⟨9, 1⟩⟩ : Line).translate ⟨-7, 3⟩) 5 =
    some ⟨⟨-6, -2⟩, ⟨10, 8⟩⟩ := by decide +kernel

-- [V] stroked line, `translate_mut`: that Rust's `&mut self` field assignment is the functional field update of the model is language semantics, carried by the oracle only (`C07:translate-mut-differs` compares both methods on the real code); PROVED on the model of the in-place body as the source writes it (EG/Model/TranslateMut.lean), for all inputs: `line_translate_mut` (Props/C07/TranslateMut.lean)
-- [V] stroked line: coordinates / widths for which the real `i32` arithmetic overflows (`thickness_threshold`, walker positions; the model's `Int` is unbounded, C08's topic): carried by correspondence + oracle only

end EG.C07.ThickLine
