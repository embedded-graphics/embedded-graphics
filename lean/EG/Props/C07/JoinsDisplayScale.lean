/-
  C07 — the saturation guards of the join theorems (Props/C07/Joins.lean) hold at display scale.

  `intersection_translate_partial`, `join_from_points_translate_partial`,
  `polyline_segments_moved_partial`, `triangle_is_collapsed_translate_partial` carry the guards
  `NoSat` / `JoinNoSat` / `PolyNoSat` / `TriNoSat`: "the `i32` casts of a USED rounded intersection
  point do not saturate, before and after the move". Here they are discharged for every input of
  the display-scale domain of C08: vertices within +-1024 (`VDS`), stroke widths up to 128, every
  stroke offset, every move `d` within +-2^30 (`MoveDS`; the moved object may leave the display).

  This is not a consequence of the C08 range theorems alone (the checked kernel of C08 contains the
  saturating cast, which never panics): two nearly parallel edges meet arbitrarily far away. It
  follows from `nearly_colinear_has_error`, which discards exactly those points: a point that is
  used lies within 2^27 of its edge's start point (`used_intersection_point_near_edge`,
  Lagrange's identity; Lemmas/JoinsDisplayScale.lean), and the edges of `Line::extents` start
  within `16 w + 37` of their segment (Lemmas/JoinsExtentsBound.lean).

  The box guards of the picture-level theorems (`BoxGuard`, `RowsGuard`, `TriBoxGuard`,
  `TriRowsGuard`, hence `TriGuards`) hold on the same domain: every corner of a `LineJoin` is an end
  point of an edge line of `Line::extents` or a USED rounded intersection point, so it lies within
  2^27 + 4096 of the origin (`join_corners_near_display_scale`); the first segment box then absorbs
  the `i32::MAX / MIN` sentinels of the fold before and after the move and `rows()` of the moved box
  does not saturate (Lemmas/JoinsBoxDisplayScale.lean). Hence the picture theorems of
  Props/C07/Joins.lean have guard-free display-scale corollaries (`*_display_scale` below): draw
  calls, `pixels()` and bounding box of a stroked polyline with moved vertices and of a moved styled
  triangle.

  -- [V] stroked polylines / styled triangles outside the display-scale domain (a vertex beyond +-1024, a stroke wider than 128, a move beyond +-2^30): the guards `PolyNoSat` / `BoxGuard` / `RowsGuard` / `TriGuards` of Props/C07/Joins.lean are decidable per instance but not proved in general there (they are false for coordinates near the `i32` limits): carried by correspondence + oracle only

  -- [V] these theorems are about the integer MODEL: the real code's `i32` products (`dot_product`, `area_doubled`,
  -- `length_squared`) overflow once coordinates reach a few million (e.g. `thick.polyline 0 0 3 4194304 0 4194314 1000
  -- 4194330 0 4` panics in `dot_product` with overflow checks), so for the CODE the "moves within +-2^30" apply only to
  -- moves that keep every coordinate inside C08's checked range (|coordinate| <= 8192): carried by correspondence + oracle only
-/
import EG.Lemmas.JoinsBoxDisplayScale
import EG.Props.C07.Joins
namespace EG.C07.Joins
open EG EG.Joins

/-- A rounded intersection point that is used (not discarded by `nearly_colinear_has_error`) lies
within 2^27 of the start point of the first edge, for edges with start points and deltas within
+-4096 (`EdgeDS`; display-scale edges: start points within +-3109, deltas within +-2050). -/
theorem used_intersection_point_near_edge {l1 l2 : Line} (h1 : EdgeDS l1) (h2 : EdgeDS l2)
    (hnc : (IntersectionParams.fromLines l1 l2).nearlyColinearHasError = false) :
    (-134217728 ≤ (IntersectionParams.fromLines l1 l2).rawPoint.x - l1.start.x ∧
      (IntersectionParams.fromLines l1 l2).rawPoint.x - l1.start.x ≤ 134217728) ∧
    (-134217728 ≤ (IntersectionParams.fromLines l1 l2).rawPoint.y - l1.start.y ∧
      (IntersectionParams.fromLines l1 l2).rawPoint.y - l1.start.y ≤ 134217728) :=
  rawPoint_near_start h1 h2 hnc
example : EdgeDS ⟨⟨-1100, 3⟩, ⟨948, 1030⟩⟩ ∧ EdgeDS ⟨⟨940, 1040⟩, ⟨-20, -1024⟩⟩ ∧
    (IntersectionParams.fromLines ⟨⟨-1100, 3⟩, ⟨948, 1030⟩⟩ ⟨⟨940, 1040⟩, ⟨-20, -1024⟩⟩).nearlyColinearHasError = false := by
  decide

/-- The guard of `intersection_translate_partial` in the form the joins use it (`PointOK`: the
point is discarded or `NoSat` holds) for display-scale edges and moves. -/
theorem intersection_point_ok_display_scale {l1 l2 : Line} (h1 : EdgeDS l1) (h2 : EdgeDS l2) {d : Pt}
    (hd : MoveDS d) : (IntersectionParams.fromLines l1 l2).PointOK d :=
  pointOK_display_scale h1 h2 hd
example : EdgeDS ⟨⟨-1100, 3⟩, ⟨948, 1030⟩⟩ ∧ EdgeDS ⟨⟨940, 1040⟩, ⟨-20, -1024⟩⟩ ∧ MoveDS ⟨-2048, 1000000⟩ := by decide

/-- `NoSat` ALONE is false on this domain - the discarding is essential: two edges with slopes
4096/4095 and 4095/4094 meet 2.7 * 10^11 pixels away; `nearly_colinear_has_error` is true there. -/
theorem no_sat_alone_fails_for_nearly_parallel_edges :
    EdgeDS ⟨⟨-4096, 4096⟩, ⟨-1, 8192⟩⟩ ∧ EdgeDS ⟨⟨4096, -4096⟩, ⟨8190, -1⟩⟩ ∧
    ¬ (IntersectionParams.fromLines ⟨⟨-4096, 4096⟩, ⟨-1, 8192⟩⟩ ⟨⟨4096, -4096⟩, ⟨8190, -1⟩⟩).NoSat ⟨0, 0⟩ ∧
    (IntersectionParams.fromLines ⟨⟨-4096, 4096⟩, ⟨-1, 8192⟩⟩ ⟨⟨4096, -4096⟩, ⟨8190, -1⟩⟩).nearlyColinearHasError = true := by
  decide

/-- The edge lines `Line::extents` returns for a display-scale segment are in `EdgeDS`. -/
theorem extents_in_edge_domain {l : Line} (hs : VDS l.start) (he : VDS l.stop) {w : Nat} (hw : w ≤ 128)
    {off : Thick.StrokeOffset} {L R : Line} (h : extents l w off = some (L, R)) : EdgeDS L ∧ EdgeDS R :=
  extents_edgeDS hs he hw h
example : VDS ⟨-1024, 7⟩ ∧ VDS ⟨1024, -1024⟩ ∧ (128 : Nat) ≤ 128 ∧
    (extents ⟨⟨-1024, 7⟩, ⟨1024, -1024⟩⟩ 128 .none).isSome = true :=
  ⟨by decide, by decide, by decide, Option.isSome_iff_exists.mpr (extents_total _ _ _)⟩

/-- **`JoinNoSat` holds at display scale.** -/
theorem join_no_sat_display_scale {start mid stop : Pt} (h1 : VDS start) (h2 : VDS mid) (h3 : VDS stop)
    {w : Nat} (hw : w ≤ 128) (off : Thick.StrokeOffset) {d : Pt} (hd : MoveDS d) :
    JoinNoSat start mid stop w off d :=
  joinNoSat_display_scale h1 h2 h3 hw off hd
example : VDS ⟨-1024, -1024⟩ ∧ VDS ⟨1024, -1023⟩ ∧ VDS ⟨-1024, -1022⟩ ∧ MoveDS ⟨300, -2000⟩ := by decide

/-- Hence `LineJoin::from_points` moves with its points at display scale, without any guard: same
kind, corners moved by `d`. -/
theorem join_from_points_translate_display_scale {start mid stop : Pt} (h1 : VDS start) (h2 : VDS mid)
    (h3 : VDS stop) {w : Nat} (hw : w ≤ 128) (off : Thick.StrokeOffset) {d : Pt} (hd : MoveDS d) :
    LineJoin.fromPoints (start + d) (mid + d) (stop + d) w off =
      (LineJoin.fromPoints start mid stop w off).map (·.translate d) :=
  fromPoints_translate start mid stop w off d (joinNoSat_display_scale h1 h2 h3 hw off hd)
example : VDS ⟨0, 0⟩ ∧ VDS ⟨-6, -6⟩ ∧ VDS ⟨-5, 3⟩ ∧ (4 : Nat) ≤ 128 ∧ MoveDS ⟨-3, 4⟩ := by decide

/-- **`PolyNoSat` holds at display scale** (every join of the polyline). -/
theorem poly_no_sat_display_scale {w : Nat} (hw : w ≤ 128) {d : Pt} (hd : MoveDS d) (vs : List Pt)
    (hv : ∀ v ∈ vs, VDS v) : PolyNoSat w d vs :=
  polyNoSat_display_scale hw hd vs hv
example : ∀ v ∈ ([⟨0, 0⟩, ⟨-6, -6⟩, ⟨-5, 3⟩, ⟨1024, -1024⟩] : List Pt), VDS v := by decide

/-- Hence the thick segments of a display-scale polyline with moved vertices are the moved
segments, without the saturation guard. -/
theorem polyline_segments_moved_display_scale (vs : List Pt) (w : Nat) (d : Pt) (hn : 2 ≤ vs.length)
    (hw : w ≤ 128) (hd : MoveDS d) (hv : ∀ v ∈ vs, VDS v) :
    polySegments (vs.map (· + d)) w = (polySegments vs w).map (·.map (·.translate d)) :=
  segments_moved vs w d hn (polyNoSat_display_scale hw hd vs hv)
example : 2 ≤ ([⟨0, 0⟩, ⟨-6, -6⟩, ⟨-5, 3⟩] : List Pt).length := by decide

/-- **`TriNoSat` holds at display scale**, also for the clockwise-sorted triangle the styled
triangle code works on (the first component of `TriGuards`). -/
theorem tri_no_sat_display_scale {t : Tri} (h1 : VDS t.v1) (h2 : VDS t.v2) (h3 : VDS t.v3) {w : Nat}
    (hw : w ≤ 128) (off : Thick.StrokeOffset) {d : Pt} (hd : MoveDS d) :
    TriNoSat t w off d ∧ TriNoSat t.sortedClockwise w off d := by
  obtain ⟨s1, s2, s3⟩ := sortedClockwise_VDS h1 h2 h3
  exact ⟨triNoSat_display_scale h1 h2 h3 hw off hd, triNoSat_display_scale s1 s2 s3 hw off hd⟩
example : VDS (⟨⟨-5, -4⟩, ⟨-5, -1⟩, ⟨-1, -4⟩⟩ : Tri).v1 ∧ VDS (⟨⟨-5, -4⟩, ⟨-5, -1⟩, ⟨-1, -4⟩⟩ : Tri).v2 ∧
    VDS (⟨⟨-5, -4⟩, ⟨-5, -1⟩, ⟨-1, -4⟩⟩ : Tri).v3 := by decide

/-- Hence `is_collapsed` of a display-scale triangle does not depend on its position, without guard. -/
theorem triangle_is_collapsed_translate_display_scale {t : Tri} (h1 : VDS t.v1) (h2 : VDS t.v2)
    (h3 : VDS t.v3) {w : Nat} (hw : w ≤ 128) (off : Thick.StrokeOffset) {d : Pt} (hd : MoveDS d) :
    (t.translate d).isCollapsed w off = t.isCollapsed w off :=
  isCollapsed_translate t w off d (triNoSat_display_scale h1 h2 h3 hw off hd)
example : (128 : Nat) ≤ 128 ∧ MoveDS ⟨-7, -9⟩ := by decide

/-- Every corner point of a join of display-scale vertices lies within 2^27 + 4096 of the origin
(`PtNear`): it is an end point of an edge line or a used intersection point. -/
theorem join_corners_near_display_scale {start mid stop : Pt} (h1 : VDS start) (h2 : VDS mid)
    (h3 : VDS stop) {w : Nat} (hw : w ≤ 128) {off : Thick.StrokeOffset} {j : LineJoin}
    (h : LineJoin.fromPoints start mid stop w off = some j) :
    (PtNear j.firstEdgeEnd.left ∧ PtNear j.firstEdgeEnd.right) ∧
      (PtNear j.secondEdgeStart.left ∧ PtNear j.secondEdgeStart.right) :=
  have ⟨a, b, c, d⟩ := Chk.Joins.fromPoints_near h1 h2 h3 hw h
  ⟨⟨a, b⟩, c, d⟩
example : VDS ⟨0, 0⟩ ∧ VDS ⟨-6, -6⟩ ∧ VDS ⟨-5, 3⟩ ∧ (4 : Nat) ≤ 128 ∧
    (LineJoin.fromPoints ⟨0, 0⟩ ⟨-6, -6⟩ ⟨-5, 3⟩ 4 .none).isSome = true :=
  ⟨by decide, by decide, by decide, by decide, Option.isSome_iff_exists.mpr (fromPoints_total _ _ _ _ _)⟩

/-- **`BoxGuard` holds at display scale.** -/
theorem box_guard_display_scale {vs : List Pt} {w : Nat} {d : Pt} (hn : 2 ≤ vs.length)
    (hv : ∀ v ∈ vs, VDS v) (hw : w ≤ 128) (hd : MoveDS d) : BoxGuard vs w d :=
  boxGuard_display_scale hn hv hw hd

/-- **`RowsGuard` holds at display scale** (non-zero width, at least two vertices). -/
theorem rows_guard_display_scale {vs : List Pt} {w : Nat} {d : Pt} (hw0 : 0 < w) (hn : 2 ≤ vs.length)
    (hv : ∀ v ∈ vs, VDS v) (hw : w ≤ 128) (hd : MoveDS d) : RowsGuard vs w d :=
  rowsGuard_display_scale hw0 hn hv hw hd
example : 2 ≤ ([⟨0, 0⟩, ⟨-6, -6⟩, ⟨-5, 3⟩, ⟨1024, -1024⟩] : List Pt).length ∧
    (∀ v ∈ ([⟨0, 0⟩, ⟨-6, -6⟩, ⟨-5, 3⟩, ⟨1024, -1024⟩] : List Pt), VDS v) ∧ (0 : Nat) < 128 ∧
    (128 : Nat) ≤ 128 ∧ MoveDS ⟨-1073741824, 1073741824⟩ := by decide

/-- The bounding box of a display-scale stroked polyline with moved vertices is the moved box —
no guard. -/
theorem polyline_moved_vertices_box_display_scale (vs : List Pt) (w : Nat) (d : Pt) (hw0 : 0 < w)
    (hw : w ≤ 128) (hn : 2 ≤ vs.length) (hv : ∀ v ∈ vs, VDS v) (hd : MoveDS d) :
    styledBoundingBox ⟨Pt.zero, vs.map (· + d)⟩ w = (styledBoundingBox ⟨Pt.zero, vs⟩ w).map (·.translate d) :=
  polyline_moved_vertices_box_partial vs w d hw0 hn (polyNoSat_display_scale hw hd vs hv)
    (boxGuard_display_scale hn hv hw hd)

/-- **`draw` of a display-scale stroked polyline (2 <= width <= 128) with moved vertices issues the
moved `fill_solid` rectangles, in the same order — no guard.** -/
theorem polyline_moved_vertices_draw_display_scale (vs : List Pt) (w : Nat) (d : Pt) (hw2 : 2 ≤ w)
    (hw : w ≤ 128) (hn : 2 ≤ vs.length) (hv : ∀ v ∈ vs, VDS v) (hd : MoveDS d) :
    drawStyled ⟨Pt.zero, vs.map (· + d)⟩ w = (drawStyled ⟨Pt.zero, vs⟩ w).map (PolyDraw.translate · d) :=
  polyline_moved_vertices_draw_partial vs w d hw2 hn (polyNoSat_display_scale hw hd vs hv)
    (boxGuard_display_scale hn hv hw hd) (rowsGuard_display_scale (by omega) hn hv hw hd)

/-- **`pixels()` of a display-scale stroked polyline (2 <= width <= 128) with moved vertices is the
moved pixel sequence — no guard.** -/
theorem polyline_moved_vertices_pixels_display_scale (vs : List Pt) (w : Nat) (d : Pt) (hw2 : 2 ≤ w)
    (hw : w ≤ 128) (hn : 2 ≤ vs.length) (hv : ∀ v ∈ vs, VDS v) (hd : MoveDS d) :
    pixels ⟨Pt.zero, vs.map (· + d)⟩ w = (pixels ⟨Pt.zero, vs⟩ w).map (·.map (· + d)) :=
  polyline_moved_vertices_pixels_partial vs w d hw2 hn (polyNoSat_display_scale hw hd vs hv)
    (boxGuard_display_scale hn hv hw hd) (rowsGuard_display_scale (by omega) hn hv hw hd)
example : (2 : Nat) ≤ 4 ∧ (4 : Nat) ≤ 128 ∧ 2 ≤ ([⟨0, 0⟩, ⟨-6, -6⟩, ⟨-5, 3⟩] : List Pt).length ∧
    (∀ v ∈ ([⟨0, 0⟩, ⟨-6, -6⟩, ⟨-5, 3⟩] : List Pt), VDS v) ∧ MoveDS ⟨-3, 4⟩ := by decide

/-- **`TriGuards` (all guards of the triangle picture theorems) hold at display scale.** -/
theorem tri_guards_display_scale {t : Tri} (h1 : VDS t.v1) (h2 : VDS t.v2) (h3 : VDS t.v3)
    {style : TriStyle} (hw : style.strokeWidth ≤ 128) {d : Pt} (hd : MoveDS d) : TriGuards t style d :=
  triGuards_display_scale h1 h2 h3 hw hd

/-- The styled bounding box of a moved display-scale triangle is the moved box — no guard. -/
theorem triangle_box_translate_display_scale (t : Tri) (style : TriStyle) (d : Pt) (h1 : VDS t.v1)
    (h2 : VDS t.v2) (h3 : VDS t.v3) (hw : style.strokeWidth ≤ 128) (hd : MoveDS d) :
    triStyledBoundingBox (t.translate d) style = (triStyledBoundingBox t style).map (·.translate d) :=
  triangle_box_translate_partial t style d (triGuards_display_scale h1 h2 h3 hw hd).ns
    (triGuards_display_scale h1 h2 h3 hw hd).box

/-- **`draw` of a moved display-scale styled triangle (any alignment and fill, stroke width up to
128) issues the moved `fill_solid` calls, same order, same colours — no guard.** -/
theorem triangle_draw_translate_display_scale (t : Tri) (style : TriStyle) (d : Pt) (h1 : VDS t.v1)
    (h2 : VDS t.v2) (h3 : VDS t.v3) (hw : style.strokeWidth ≤ 128) (hd : MoveDS d) :
    triDraw (t.translate d) style = (triDraw t style).map (·.map (shiftCall · d)) :=
  triangle_draw_translate_partial t style d (triGuards_display_scale h1 h2 h3 hw hd)

/-- **`pixels()` of a moved display-scale styled triangle is the moved pixel sequence, with the same
colours — no guard.** -/
theorem triangle_pixels_translate_display_scale (t : Tri) (style : TriStyle) (d : Pt) (h1 : VDS t.v1)
    (h2 : VDS t.v2) (h3 : VDS t.v3) (hw : style.strokeWidth ≤ 128) (hd : MoveDS d) :
    triPixels (t.translate d) style = (triPixels t style).map (·.map (shiftPx · d)) :=
  triangle_pixels_translate_partial t style d (triGuards_display_scale h1 h2 h3 hw hd)
example : VDS (⟨⟨-5, -4⟩, ⟨-5, -1⟩, ⟨-1, -4⟩⟩ : Tri).v1 ∧ VDS (⟨⟨-5, -4⟩, ⟨-5, -1⟩, ⟨-1, -4⟩⟩ : Tri).v2 ∧
    VDS (⟨⟨-5, -4⟩, ⟨-5, -1⟩, ⟨-1, -4⟩⟩ : Tri).v3 ∧
    (⟨some 2, some 1, 3, .center⟩ : TriStyle).strokeWidth ≤ 128 ∧ MoveDS ⟨-7, -9⟩ := by decide

end EG.C07.Joins
