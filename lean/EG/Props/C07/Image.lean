/-
  C07 (image part) — `Image::translate(d)` draws the same picture shifted by `d`, the bounding box
  shifts by `d`, and `translate_mut` leaves the value `translate` returns.
  -- [V] image, `translate_mut`: that Rust's `&mut self` field assignment is the functional field update of the model is language semantics, carried by the oracle only; PROVED on the model of the in-place body as the source writes it (EG/Model/TranslateMut.lean), for all inputs: `image_translate_mut_fields` (Props/C07/TranslateMut.lean: `self.offset += by` as two coordinate updates = `translate`); oracle class `C07:image-translate-mut`
-/
import EG.Lemmas.ImageRawImage
namespace EG.C07
open EG EG.Img

/-- The translated image makes the same calls moved by `d` (every drawable, no hypothesis). -/
theorem image_translate_calls (i : Image) (d : Pt) :
    (i.translate d).draw = i.draw.map (translatedCall d) := by
  simp only [Image.draw, Image.translate, List.map_map]
  apply List.map_congr_left
  intro c _
  simp only [Function.comp, Image.translatedCall_comp]

/-- **`image_translate`**: on a target moved along, the translated image leaves at `q + d` what the
original leaves at `q`. -/
theorem image_translate (i : Image) (hg : i.drawable.Good) (d : Pt) (hr : i.boundingBox.InRange)
    (hr' : (i.translate d).boundingBox.InRange) (B : Rect) (q : Pt) :
    runNative (B.translate d) (i.translate d).draw (q + d) = runNative B i.draw q := by
  rw [Image.runNative_draw (i.translate d) hg hr', Image.runNative_draw i hg hr, Image.translate_picture,
    Rect.contains_translate]
example : ((Image.new (.raw exIm) ⟨-4, 7⟩).translate ⟨-7, 4⟩).boundingBox.InRange := by decide

theorem image_translate_bounding_box (i : Image) (d : Pt) :
    (i.translate d).boundingBox = i.boundingBox.translate d := Image.translate_boundingBox i d

/-- DEFINITIONAL (`rfl`): the model defines `Image.translateMut` and `Image.translate` by the same
expression (`offset + by`, image/mod.rs `impl Transform`), so this states how the model was written;
the in-place body as the source writes it (`self.offset += by`) is modelled in
EG/Model/TranslateMut.lean and proved equal to `translate` in Props/C07/TranslateMut.lean
(`image_translate_mut_fields`); that a Rust `&mut` assignment is that field update is carried by the
oracle on the real code (`C07:image-translate-mut`). -/
theorem image_translate_mut (i : Image) (d : Pt) : i.translateMut d = i.translate d := rfl

end EG.C07
