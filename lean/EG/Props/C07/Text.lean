/-
  C07 (Text) — rendering commutes with translation: `text.translate(d)` has the same lines at positions
  moved by `d`; `draw` returns the position moved by `d`; `bounding_box()` moves by `d` (also the
  zero-sized box of an empty text); the calls on the target are the calls of the original moved by `d`;
  `translate_mut` = `translate`.
  Models: EG.Model.TextLayout (`Transform for Text`), EG.Model.Font (`draw_string`),
  EG.Model.CallTranslate. Helper lemmas: EG/Lemmas/TextLayoutTranslate.lean,
  EG/Lemmas/CallTranslate.lean (moved calls => shifted picture).

  -- [V] text: coordinates for which the text's bounding box leaves the `i32` range while exactly one of text / background colour is set (guard `Rect.InRange` of the box false: `Rectangle::points` of a glyph cell saturates; C08's topic): carried by correspondence + oracle only; proved: positions, returned position, box, calls on the binary target for every style, target calls for every style (box in range; no guard when both or neither colour is set), picture on both targets
  -- [V] text, `translate_mut`: that Rust's `&mut self` field assignment is the functional field update of the model is language semantics, carried by the oracle only; PROVED on the model of the in-place body as the source writes it (EG/Model/TranslateMut.lean), for all inputs: `text_translate_mut` (Props/C07/TranslateMut.lean: `self.position += by` as two coordinate updates = `translate`); oracle class `C07:text-translate-mut-ne-translate`, the `mut=` field of `text.layout`
-/
import EG.Lemmas.TextLayoutTranslate
namespace EG.C07.Text
open EG EG.Font EG.TextLayout EG.Tgt

/-- `translate_mut` does what `translate` does, and only the position changes.
DEFINITIONAL (every component is `rfl`): the model defines `Text.translateMut` and `Text.translate`
by the same expression (`position += by` / `position + by`, text.rs:92-105), so this states how the
model was written, not a property of the code. The in-place body as the source writes it
(`self.position += by` = `self.x += ..; self.y += ..`) is modelled in EG/Model/TranslateMut.lean and
proved equal to `translate` in Props/C07/TranslateMut.lean (`text_translate_mut`); that a Rust `&mut`
assignment is that field update is carried by the oracle on the real code
(`C07:text-translate-mut-ne-translate`, the `mut=` field of `text.layout`), see the [V] line above. -/
theorem translate_mut_eq_translate (t : TextLayout.Text) (d : Pt) :
    t.translateMut d = t.translate d ∧ (t.translate d).position = t.position + d ∧
    (t.translate d).text = t.text ∧ (t.translate d).style = t.style ∧ (t.translate d).ts = t.ts :=
  ⟨rfl, rfl, rfl, rfl, rfl⟩

/-- Same line contents, every line position moved by `d` (every alignment, baseline, line height). -/
theorem text_translate_lines (f : MonoFont) (t : TextLayout.Text) (d : Pt) :
    lines f (t.translate d) = (lines f t).map (fun lp => (lp.1, lp.2 + d)) :=
  lines_translate f t d

/-- `draw` returns the position moved by `d`. -/
theorem text_translate_next (f : MonoFont) (atlas : Pt → Bool) (t : TextLayout.Text) (d : Pt) :
    (draw f atlas (t.translate d)).2 = (draw f atlas t).2 + d := by
  unfold draw
  rw [lines_translate, drawLines_next, drawLines_next, List.getLast?_map]
  cases (lines f t).getLast? with
  | none => rfl
  | some lp => exact drawString_next_translate f atlas t.style lp.1 lp.2 d t.ts.baseline

/-- The bounding box moves by `d` (non-empty or not). -/
theorem text_translate_bounding_box (f : MonoFont) (t : TextLayout.Text) (d : Pt) :
    boundingBox f (t.translate d) = (boundingBox f t).translate d :=
  boundingBox_translate f t d

/-- The calls `draw_string_binary` makes (glyph cells and spacing fills on the binary target) move by `d`,
for every style and font. -/
theorem text_translate_cells (f : MonoFont) (atlas : Pt → Bool) (hasBg : Bool) (text : List Nat) (p d : Pt) :
    (f.drawStringBinary atlas hasBg text (p + d)).1 =
      (f.drawStringBinary atlas hasBg text p).1.map (bcallTranslate d) := by
  simp only [drawStringBinary_closed, textBCalls_translate]

/-- The calls on the target (glyph fills, spacing fills, strikethrough and underline rectangles) of the
translated text are the calls of the original moved by `d` — when text and background colour are both
set or both unset (decorations only / nothing). -/
theorem text_translate_calls (f : MonoFont) (atlas : Pt → Bool) (t : TextLayout.Text) (d : Pt)
    (h : (t.style.textColor = none ↔ t.style.bgColor = none)) :
    (draw f atlas (t.translate d)).1 = (draw f atlas t).1.map (Call.translate d) :=
  draw_calls_translate_of_lines f atlas t d
    (fun lp _ => drawString_calls_translate f atlas t.style lp.1 lp.2 d t.ts.baseline (Or.inl h))

example : ((⟨some 1, some 2, .textColor, .none⟩ : Style).textColor = none ↔
    (⟨some 1, some 2, .textColor, .none⟩ : Style).bgColor = none) := by decide

/-- **The calls on the target of the translated text are the calls of the original moved by `d`, for
EVERY style** — in particular when exactly one of text / background colour is set, where the colour
adapter lowers each glyph cell to `draw_iter` over `area.points()` (filtered by the glyph bits):
every cell lies inside the text's bounding box, so `Rectangle::points` of the moved cell are the
moved points once the box is in the `i32` range before and after the move. -/
theorem text_translate_calls_all_styles (f : MonoFont) (atlas : Pt → Bool) (t : TextLayout.Text) (d : Pt)
    (hR : (boundingBox f t).InRange) (hR' : (boundingBox f (t.translate d)).InRange) :
    (draw f atlas (t.translate d)).1 = (draw f atlas t).1.map (Call.translate d) := by
  rw [boundingBox_translate] at hR'
  apply draw_calls_translate_of_lines
  intro lp hlp
  apply drawString_calls_translate
  right
  intro hasBg b hb
  have hin := lineBox_in_boundingBox f t lp hlp
  rw [measureString_bbox] at hin
  exact moveOK_of_rectIn
    (((textBCalls_in_strip f atlas hasBg lp.1 _ b hb).trans (strip_in_box f t.style _ _)).trans hin) hR hR'

/-- The colour adapter commutes with the move, per binary-target call and for every mode. -/
theorem text_translate_colour_adapter (m : Mode) (d : Pt) (b : BCall)
    (h : (bcallArea b).MoveOK d) :
    m.lower (bcallTranslate d b) = (m.lower b).map (Call.translate d) :=
  lower_translate m d b h

/-- **The picture**: the translated text on the target box moved along leaves the picture of the
original shifted by `d`, natively (R2) and through the trait defaults (R1), for every style.
(`FontBoxOK`: the strikethrough lies inside the character cell — true of all built-in fonts; the
colour / spacing hypothesis excludes the transparent style with a spaced font, whose decorations
span the trailing spacing and are wider than the box — observation (a) of DESIGN.md 14, outside
every property.) -/
theorem text_translate_picture (f : MonoFont) (atlas : Pt → Bool) (t : TextLayout.Text) (d : Pt) (B : Rect)
    (hok : FontBoxOK f)
    (hadv : t.style.textColor ≠ none ∨ t.style.bgColor ≠ none ∨ f.spacing = 0)
    (hR : (boundingBox f t).InRange) (hR' : (boundingBox f (t.translate d)).InRange) :
    runNative (B.translate d) (draw f atlas (t.translate d)).1 =
      PMap.shift d (runNative B (draw f atlas t).1) ∧
    runDefault (B.translate d) (draw f atlas (t.translate d)).1 =
      PMap.shift d (runDefault B (draw f atlas t).1) := by
  have hR2 := hR'
  rw [boundingBox_translate] at hR2
  have hlb : LowerBound (boundingBox f t) := by
    intro _
    unfold Rect.InRange inI32 at hR
    omega
  have hok' : ∀ c ∈ (draw f atlas t).1, c.MoveOK B d := fun c hc =>
    callIn_moveOK hR hR2 B (draw_in_boundingBox f atlas t hok hadv hlb c hc)
  rw [text_translate_calls_all_styles f atlas t d hR hR']
  exact picture_translate_of_moveOK hok'

example : boundingBox ⟨64, 36, 4, 6, 0, 4, 6, 1, 3, 1, fun _ => 0⟩
    ((⟨[65, 66, 10, 67], ⟨0, 0⟩, ⟨some 1, none, .none, .none⟩, ⟨.center, .top, .percent 100⟩⟩ : TextLayout.Text).translate ⟨-7, 3⟩) =
    ⟨⟨-10, 3⟩, ⟨8, 12⟩⟩ := by decide

-- a text with the text colour only (`Foreground` adapter), moved across both axes: the guards hold
example :
    let f : MonoFont := ⟨64, 36, 4, 6, 0, 4, 6, 1, 3, 1, fun _ => 0⟩
    let t : TextLayout.Text := ⟨[65, 66, 10, 67], ⟨3, 2⟩, ⟨some 1, none, .none, .none⟩, ⟨.center, .top, .percent 100⟩⟩
    FontBoxOK f ∧ (t.style.textColor ≠ none ∨ t.style.bgColor ≠ none ∨ f.spacing = 0) ∧
      (boundingBox f t).InRange ∧ (boundingBox f (t.translate ⟨-7, -9⟩)).InRange := by decide

end EG.C07.Text
