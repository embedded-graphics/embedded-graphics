/-
  C07 — rendering commutes with translation: thin lines and one-pixel polylines.
  Corollaries of the thin-line theorems (EG/Props/C17.lean) and the polyline theorem
  (EG/Props/C19/Polyline.lean); a one-pixel stroked line draws exactly `points()`
  (`thick_width1_eq_points`), so its picture shifts with the line.
-/
import EG.Props.C17
import EG.Props.C19.Polyline
namespace EG.C07.Line
open EG

/-- `Line::points()` of the translated line is the shifted point list (same order). -/
theorem line_points_translate (l : Line) (d : Pt) :
    Line.points (l.translate d) = (Line.points l).map (· + d) :=
  C17.line_points_translate l d

/-- A width-1 stroked line draws the shifted pixels: `pixels()` of the translated line is the
shifted `pixels()` of the line. -/
theorem thin_stroke_translate (l : Line) (d : Pt) :
    Thick.thickPoints (l.translate d) 1 = (Thick.thickPoints l 1).map (fun ps => ps.map (· + d)) := by
  rw [C17.thick_width1_eq_points, C17.thick_width1_eq_points, C17.line_points_translate]
  rfl

/-- Membership form: `p` is on the line iff `p + d` is on the translated line. -/
theorem mem_line_points_translate (l : Line) (d p : Pt) :
    p + d ∈ Line.points (l.translate d) ↔ p ∈ Line.points l :=
  Line.mem_points_translate l d p

/-- A polyline moved with `translate` (its translate field) yields the shifted points. -/
theorem polyline_points_translate (tr d : Pt) (vs : List Pt) :
    Polyline.points ((⟨tr, vs⟩ : Polyline).translateBy d) = (Polyline.points ⟨tr, vs⟩).map (· + d) :=
  C19.polyline_points_translate tr d vs

-- Stroked lines wider than one pixel: EG/Props/C07/ThickLine.lean (every width, no guard); thick polylines and stroked triangles (joins, miter/bevel classification): EG/Props/C07/Joins.lean, JoinsDisplayScale.lean.

end EG.C07.Line
