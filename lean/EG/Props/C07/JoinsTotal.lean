/-
  C07 — the join theorems are not vacuous: the models they speak about are TOTAL.

  The statements of Props/C07/Joins.lean and JoinsDisplayScale.lean are equalities between `Option`s
  (`f (moved input) = (f input).map (move)`), and the guard `JoinNoSat` is `True` by definition when
  `Line::extents` returns `none`; `none` is the model's "a loop bound of the model was exceeded"
  value, and an equality `none = none` would say nothing. Here it is proved that `none` never occurs:
  * `Line::extents` returns a pair of edge lines for EVERY line, stroke width and stroke offset
    (`line_extents_is_some`; Lemmas/ExtentsTotal.lean: the parallels iterator returns at most
    `3 min(w, i32::MAX) + 2` parallels, the bounds of the model's loops are `4 w + 8`);
  * hence `LineJoin::start / end / from_points`, the thick segments of a polyline, `is_collapsed`;
  * the styled polyline model (`styledBoundingBox`, `drawStyled`, `pixels`) and the styled triangle
    model (`triStyledBoundingBox`, `triDraw`, `triPixels`) return `some` for every input
    (Lemmas/JoinsTotalPoly.lean, JoinsTotalTri.lean: the step budgets of the scanline iterators
    suffice), no guard needed;
  * so every translation theorem can be read "the original yields a value, and the moved input
    yields the moved value" (`*_some` below), and `JoinNoSat` always speaks about actual edge lines
    (`join_no_sat_never_vacuous`).
-/
import EG.Lemmas.JoinsTotalPoly
import EG.Lemmas.JoinsTotalTri
import EG.Props.C07.JoinsDisplayScale
namespace EG.C07.JoinsTotal
open EG EG.Joins EG.C07.Joins

/-- **`Line::extents(thickness, offset)` is total**: a pair of edge lines for every line, every
stroke width (also beyond `i32::MAX`, where the thickness saturates) and every stroke offset. -/
theorem line_extents_is_some (l : Line) (w : Nat) (off : Thick.StrokeOffset) :
    (extents l w off).isSome = true :=
  Option.isSome_iff_exists.mpr (extents_total l w off)

/-- `line_extents_translate` in the form "the line has edge lines, and the moved line has the moved
edge lines". -/
theorem line_extents_translate_some (l : Line) (w : Nat) (off : Thick.StrokeOffset) (d : Pt) :
    ∃ L R, extents l w off = some (L, R) ∧
      extents (l.translate d) w off = some (L.translate d, R.translate d) := by
  obtain ⟨⟨L, R⟩, h⟩ := extents_total l w off
  exact ⟨L, R, h, by rw [extents_translate, h]; rfl⟩

/-- `LineJoin::start` is total. -/
theorem join_start_is_some (s m : Pt) (w : Nat) (off : Thick.StrokeOffset) :
    (LineJoin.start s m w off).isSome = true :=
  Option.isSome_iff_exists.mpr (start_total s m w off)

/-- `LineJoin::end` is total. -/
theorem join_end_is_some (m e : Pt) (w : Nat) (off : Thick.StrokeOffset) :
    (LineJoin.stop m e w off).isSome = true :=
  Option.isSome_iff_exists.mpr (stop_total m e w off)

/-- **`LineJoin::from_points` is total.** -/
theorem join_from_points_is_some (s m e : Pt) (w : Nat) (off : Thick.StrokeOffset) :
    (LineJoin.fromPoints s m e w off).isSome = true :=
  Option.isSome_iff_exists.mpr (fromPoints_total s m e w off)

/-- **The guard `JoinNoSat` is never the vacuous `True`**: it always is the statement
`EdgesNoSat` about the four edge lines `Line::extents` actually returns. -/
theorem join_no_sat_never_vacuous (start mid stop : Pt) (w : Nat) (off : Thick.StrokeOffset) (d : Pt) :
    JoinNoSat start mid stop w off d ↔
      ∃ fl fr sl sr, extents ⟨start, mid⟩ w off = some (fl, fr) ∧
        extents ⟨mid, stop⟩ w off = some (sl, sr) ∧ EdgesNoSat fl fr sl sr d := by
  obtain ⟨⟨fl, fr⟩, h1⟩ := extents_total ⟨start, mid⟩ w off
  obtain ⟨⟨sl, sr⟩, h2⟩ := extents_total ⟨mid, stop⟩ w off
  unfold JoinNoSat
  rw [h1, h2]
  constructor
  · intro h; exact ⟨fl, fr, sl, sr, rfl, rfl, h⟩
  · rintro ⟨a, b, c, e, ha, hc, h⟩
    simp only [Option.some.injEq, Prod.mk.injEq] at ha hc
    obtain ⟨rfl, rfl⟩ := ha
    obtain ⟨rfl, rfl⟩ := hc
    exact h

/-- `join_from_points_translate_partial` read with totality: the join exists, and the join of the
moved points is the moved join (same kind, corners moved). -/
theorem join_from_points_translate_some (start mid stop : Pt) (w : Nat) (off : Thick.StrokeOffset)
    (d : Pt) (h : JoinNoSat start mid stop w off d) :
    ∃ j, LineJoin.fromPoints start mid stop w off = some j ∧
      LineJoin.fromPoints (start + d) (mid + d) (stop + d) w off = some (j.translate d) := by
  obtain ⟨j, hj⟩ := fromPoints_total start mid stop w off
  exact ⟨j, hj, by rw [fromPoints_translate start mid stop w off d h, hj]; rfl⟩
example : JoinNoSat ⟨0, 0⟩ ⟨-6, -6⟩ ⟨-5, 3⟩ 4 .none ⟨-3, 4⟩ := by
  refine @joinNoSat_display_scale _ _ _ ?_ ?_ ?_ _ ?_ _ _ ?_ <;> decide

/-- At display scale (vertices within +-1024, widths up to 128, moves within +-2^30) without any
guard: the join exists and moves with its points. -/
theorem join_from_points_translate_display_scale_some {start mid stop : Pt} (h1 : VDS start)
    (h2 : VDS mid) (h3 : VDS stop) {w : Nat} (hw : w ≤ 128) (off : Thick.StrokeOffset) {d : Pt}
    (hd : MoveDS d) :
    ∃ j, LineJoin.fromPoints start mid stop w off = some j ∧
      LineJoin.fromPoints (start + d) (mid + d) (stop + d) w off = some (j.translate d) :=
  join_from_points_translate_some start mid stop w off d (joinNoSat_display_scale h1 h2 h3 hw off hd)
example : VDS ⟨-1024, 1024⟩ ∧ VDS ⟨1000, -6⟩ ∧ VDS ⟨-5, 3⟩ ∧ (128 : Nat) ≤ 128 ∧ MoveDS ⟨-3000, 4⟩ := by decide

/-- The thick segments of a stroked polyline exist, for every vertex list and width. -/
theorem polyline_segments_is_some (vs : List Pt) (w : Nat) : (polySegments vs w).isSome = true :=
  Option.isSome_iff_exists.mpr (polySegments_total vs w)

/-- **`bounding_box()` of a stroked polyline is total.** -/
theorem polyline_bounding_box_is_some (pl : Polyline) (w : Nat) : (styledBoundingBox pl w).isSome = true :=
  Option.isSome_iff_exists.mpr (styledBoundingBox_total pl w)

/-- **`draw` of a stroked polyline is total**: the step budget of the scanline iterator of the model
is never exhausted. -/
theorem polyline_draw_is_some (pl : Polyline) (w : Nat) : (drawStyled pl w).isSome = true :=
  Option.isSome_iff_exists.mpr (drawStyled_total pl w)

/-- **`pixels()` of a stroked polyline is total.** -/
theorem polyline_pixels_is_some (pl : Polyline) (w : Nat) : (pixels pl w).isSome = true :=
  Option.isSome_iff_exists.mpr (pixels_total pl w)

/-- `polyline_translate_field_draw` with totality: the polyline draws some rectangles, and moved by
its `translate` field it draws them moved. -/
theorem polyline_translate_field_draw_some (t : Pt) (vs : List Pt) (w : Nat) (hw : 2 ≤ w)
    (hn : 1 < vs.length) :
    ∃ dr, drawStyled ⟨Pt.zero, vs⟩ w = some dr ∧ drawStyled ⟨t, vs⟩ w = some (PolyDraw.translate dr t) := by
  obtain ⟨dr, h⟩ := drawStyled_total ⟨Pt.zero, vs⟩ w
  exact ⟨dr, h, by rw [polyline_translate_field_draw t vs w hw hn, h]; rfl⟩
example : (2 : Nat) ≤ 40 ∧ 1 < ([⟨0, 0⟩, ⟨-600, -6⟩, ⟨-5, 300⟩] : List Pt).length := by decide

/-- `polyline_translate_field_pixels` with totality. -/
theorem polyline_translate_field_pixels_some (t : Pt) (vs : List Pt) (w : Nat) (hw : 2 ≤ w)
    (hn : 1 < vs.length) :
    ∃ ps, pixels ⟨Pt.zero, vs⟩ w = some ps ∧ pixels ⟨t, vs⟩ w = some (ps.map (· + t)) := by
  obtain ⟨ps, h⟩ := pixels_total ⟨Pt.zero, vs⟩ w
  exact ⟨ps, h, by rw [polyline_translate_field_pixels t vs w hw hn, h]; rfl⟩
example : (2 : Nat) ≤ 128 ∧ 1 < ([⟨0, 0⟩, ⟨-6, -6⟩] : List Pt).length := by decide

/-- **A display-scale stroked polyline (2 <= width <= 128, vertices within +-1024) has a bounding
box, draws some rectangles and yields some pixels; with its vertices moved by `d` (within +-2^30) it
has the moved box, draws the moved rectangles in the same order and yields the moved pixels** — no
guard, nothing vacuous. -/
theorem polyline_moved_vertices_display_scale_some (vs : List Pt) (w : Nat) (d : Pt) (hw2 : 2 ≤ w)
    (hw : w ≤ 128) (hn : 2 ≤ vs.length) (hv : ∀ v ∈ vs, VDS v) (hd : MoveDS d) :
    ∃ bb dr ps, styledBoundingBox ⟨Pt.zero, vs⟩ w = some bb ∧ drawStyled ⟨Pt.zero, vs⟩ w = some dr ∧
      pixels ⟨Pt.zero, vs⟩ w = some ps ∧
      styledBoundingBox ⟨Pt.zero, vs.map (· + d)⟩ w = some (bb.translate d) ∧
      drawStyled ⟨Pt.zero, vs.map (· + d)⟩ w = some (PolyDraw.translate dr d) ∧
      pixels ⟨Pt.zero, vs.map (· + d)⟩ w = some (ps.map (· + d)) := by
  obtain ⟨bb, h1⟩ := styledBoundingBox_total ⟨Pt.zero, vs⟩ w
  obtain ⟨dr, h2⟩ := drawStyled_total ⟨Pt.zero, vs⟩ w
  obtain ⟨ps, h3⟩ := pixels_total ⟨Pt.zero, vs⟩ w
  refine ⟨bb, dr, ps, h1, h2, h3, ?_, ?_, ?_⟩
  · rw [polyline_moved_vertices_box_display_scale vs w d (by omega) hw hn hv hd, h1]; rfl
  · rw [polyline_moved_vertices_draw_display_scale vs w d hw2 hw hn hv hd, h2]; rfl
  · rw [polyline_moved_vertices_pixels_display_scale vs w d hw2 hw hn hv hd, h3]; rfl
example : (2 : Nat) ≤ 128 ∧ (128 : Nat) ≤ 128 ∧ 2 ≤ ([⟨0, 0⟩, ⟨-600, -6⟩, ⟨-5, 1024⟩] : List Pt).length ∧
    (∀ v ∈ ([⟨0, 0⟩, ⟨-600, -6⟩, ⟨-5, 1024⟩] : List Pt), VDS v) ∧ MoveDS ⟨-3000, 4⟩ := by decide

/-- `is_collapsed` is total. -/
theorem triangle_is_collapsed_is_some (t : Tri) (w : Nat) (off : Thick.StrokeOffset) :
    (t.isCollapsed w off).isSome = true :=
  Option.isSome_iff_exists.mpr (isCollapsed_total t w off)

/-- **`bounding_box()` of a styled triangle is total.** -/
theorem triangle_bounding_box_is_some (t : Tri) (style : TriStyle) :
    (triStyledBoundingBox t style).isSome = true :=
  Option.isSome_iff_exists.mpr (triStyledBoundingBox_total t style)

/-- **`draw` of a styled triangle is total.** -/
theorem triangle_draw_is_some (t : Tri) (style : TriStyle) : (triDraw t style).isSome = true :=
  Option.isSome_iff_exists.mpr (triDraw_total t style)

/-- **`pixels()` of a styled triangle is total**: the loop bound of `StyledPixelsIterator::next` in
the model is never exhausted. -/
theorem triangle_pixels_is_some (t : Tri) (style : TriStyle) : (triPixels t style).isSome = true :=
  Option.isSome_iff_exists.mpr (triPixels_total t style)

/-- **A display-scale styled triangle (any alignment and fill, stroke width up to 128) has a
bounding box, issues some `fill_solid` calls and yields some pixels; moved by `d` it has the moved
box, issues the moved calls with the same colours in the same order and yields the moved pixels** —
no guard, nothing vacuous. -/
theorem triangle_translate_display_scale_some (t : Tri) (style : TriStyle) (d : Pt) (h1 : VDS t.v1)
    (h2 : VDS t.v2) (h3 : VDS t.v3) (hw : style.strokeWidth ≤ 128) (hd : MoveDS d) :
    ∃ bb calls px, triStyledBoundingBox t style = some bb ∧ triDraw t style = some calls ∧
      triPixels t style = some px ∧
      triStyledBoundingBox (t.translate d) style = some (bb.translate d) ∧
      triDraw (t.translate d) style = some (calls.map (shiftCall · d)) ∧
      triPixels (t.translate d) style = some (px.map (shiftPx · d)) := by
  obtain ⟨bb, e1⟩ := triStyledBoundingBox_total t style
  obtain ⟨calls, e2⟩ := triDraw_total t style
  obtain ⟨px, e3⟩ := triPixels_total t style
  refine ⟨bb, calls, px, e1, e2, e3, ?_, ?_, ?_⟩
  · rw [triangle_box_translate_display_scale t style d h1 h2 h3 hw hd, e1]; rfl
  · rw [triangle_draw_translate_display_scale t style d h1 h2 h3 hw hd, e2]; rfl
  · rw [triangle_pixels_translate_display_scale t style d h1 h2 h3 hw hd, e3]; rfl
example : VDS (⟨⟨-1024, -4⟩, ⟨-5, 1000⟩, ⟨900, -4⟩⟩ : Tri).v1 ∧ VDS (⟨⟨-1024, -4⟩, ⟨-5, 1000⟩, ⟨900, -4⟩⟩ : Tri).v2 ∧
    VDS (⟨⟨-1024, -4⟩, ⟨-5, 1000⟩, ⟨900, -4⟩⟩ : Tri).v3 ∧
    (⟨some 2, some 1, 100, .outside⟩ : TriStyle).strokeWidth ≤ 128 ∧ MoveDS ⟨-7, -9⟩ := by decide

end EG.C07.JoinsTotal
