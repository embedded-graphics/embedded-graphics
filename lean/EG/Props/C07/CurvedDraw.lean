/-
  C07 — rendering commutes with translation: styled circles and styled ellipses, for every
  diameter / size, stroke width (including wider than the shape), alignment and colour option.

  * the call list of `draw()` of the moved shape is the call list of the original moved by `d`
    (`Call.translate`): the scanline iterators of the moved stroke / fill areas yield the moved
    scanlines (EG/Lemmas/CircleStyled.lean, EllipseStyled.lean, RowScanStyled.lean);
  * `pixels()` of the moved shape is the moved pixel sequence (same order, same colours);
  * the picture on both recording targets (`runNative` = R2 native fills, `runDefault` = R1 trait
    defaults) is the shifted one, on the target box moved along and on one fixed box containing
    both styled bounding boxes: both shapes are styled pictures (`Circle.styledPicture`,
    `Ellipse.styledPicture`) and the two areas move with the shape;
  * the styled bounding box, stroke area and fill area move by `d`.
  Guards (decidable): the bounding boxes of the stroke and the fill area lie in the `i32` range
  before and after the move (`InRange`; there `rows()` / `columns()` do not saturate).
-/
import EG.Lemmas.CircleStyled
namespace EG.C07.CurvedDraw
open EG EG.Tgt

/-- The `i32`-range guard of a styled circle: stroke and fill area bounding boxes in range. -/
def CircleGuard (st : PrimStyle) (c : Circle) : Prop :=
  (c.strokeArea st).InRange ∧ (c.fillArea st).InRange
instance (st : PrimStyle) (c : Circle) : Decidable (CircleGuard st c) := by
  unfold CircleGuard; exact inferInstance

/-- The `i32`-range guard of a styled ellipse. -/
def EllipseGuard (st : PrimStyle) (e : Ellipse) : Prop :=
  (e.strokeArea st).InRange ∧ (e.fillArea st).InRange
instance (st : PrimStyle) (e : Ellipse) : Decidable (EllipseGuard st e) := by
  unfold EllipseGuard; exact inferInstance

/-- Styled bounding box, stroke area and fill area of the moved circle are the moved ones (no guard). -/
theorem styled_circle_areas_translate (st : PrimStyle) (c : Circle) (d : Pt) :
    (c.translate d).styledBoundingBox st = (c.styledBoundingBox st).translate d ∧
    (c.translate d).strokeArea st = (c.strokeArea st).translate d ∧
    (c.translate d).fillArea st = (c.fillArea st).translate d :=
  ⟨Circle.translate_styledBoundingBox st c d, Circle.translate_strokeArea st c d,
    Circle.translate_fillArea st c d⟩

/-- **`draw()` of the moved styled circle makes exactly the calls of the original, moved by `d`.** -/
theorem styled_circle_calls_translate (st : PrimStyle) (c : Circle) (d : Pt)
    (h : CircleGuard st c) (h' : CircleGuard st (c.translate d)) :
    (c.translate d).drawStyled st = (c.drawStyled st).map (Call.translate d) :=
  Circle.drawStyled_translate st c d h.1 h.2 h'.1 h'.2

/-- **`pixels()` of the moved styled circle = the moved `pixels()`**, same order. -/
theorem styled_circle_pixels_translate (st : PrimStyle) (c : Circle) (d : Pt)
    (h : CircleGuard st c) (h' : CircleGuard st (c.translate d)) :
    (c.translate d).styledPixels st = Writes.translate d (c.styledPixels st) :=
  Circle.styledPixels_translate st c d h.1 h'.1

/-- **The picture**: `draw()` of the moved circle on the target box moved along leaves the picture
of the original shifted by `d`, natively (R2) and through the trait defaults (R1). -/
theorem styled_circle_map_translate (st : PrimStyle) (c : Circle) (d : Pt)
    (h : CircleGuard st c) (h' : CircleGuard st (c.translate d)) (B : Rect) :
    runNative (B.translate d) ((c.translate d).drawStyled st) =
      PMap.shift d (runNative B (c.drawStyled st)) ∧
    runDefault (B.translate d) ((c.translate d).drawStyled st) =
      PMap.shift d (runDefault B (c.drawStyled st)) :=
  (Circle.styledPicture h.1 h.2).shift_moved_box (Circle.styledPicture h'.1 h'.2)
    (fun p => by rw [Circle.translate_strokeArea, Circle.translate_contains])
    (fun p => by rw [Circle.translate_fillArea, Circle.translate_contains]) B

/-- The same on one fixed target whose box contains the stroke areas' bounding boxes before and
after the move (the "unbounded" target of the property text). -/
theorem styled_circle_map_translate_fixed_box (st : PrimStyle) (c : Circle) (d : Pt)
    (h : CircleGuard st c) (h' : CircleGuard st (c.translate d)) (B : Rect)
    (hB : ∀ q, (c.strokeArea st).boundingBox.contains q = true → B.contains q = true)
    (hB' : ∀ q, ((c.translate d).strokeArea st).boundingBox.contains q = true → B.contains q = true) :
    runNative B ((c.translate d).drawStyled st) = PMap.shift d (runNative B (c.drawStyled st)) ∧
    runDefault B ((c.translate d).drawStyled st) = PMap.shift d (runDefault B (c.drawStyled st)) :=
  (Circle.styledPicture h.1 h.2).shift_fixed_box (Circle.styledPicture h'.1 h'.2)
    (fun p => by rw [Circle.translate_strokeArea, Circle.translate_contains])
    (fun p => by rw [Circle.translate_fillArea, Circle.translate_contains]) hB hB'

example : CircleGuard ⟨some 1, some 2, 9, .center⟩ ⟨⟨-3, 2⟩, 7⟩ ∧
    CircleGuard ⟨some 1, some 2, 9, .center⟩ ((⟨⟨-3, 2⟩, 7⟩ : Circle).translate ⟨-9, 4⟩) := by decide
example : (Circle.translate ⟨⟨-1, -1⟩, 3⟩ ⟨2, -4⟩).drawStyled ⟨some 7, some 9, 1, .inside⟩ =
    [.fillSolid ⟨⟨2, -5⟩, ⟨1, 1⟩⟩ 9, .fillSolid ⟨⟨1, -4⟩, ⟨1, 1⟩⟩ 9, .fillSolid ⟨⟨2, -4⟩, ⟨1, 1⟩⟩ 7,
     .fillSolid ⟨⟨3, -4⟩, ⟨1, 1⟩⟩ 9, .fillSolid ⟨⟨2, -3⟩, ⟨1, 1⟩⟩ 9] := by decide

/-- Styled bounding box, stroke area and fill area of the moved ellipse are the moved ones (no guard). -/
theorem styled_ellipse_areas_translate (st : PrimStyle) (e : Ellipse) (d : Pt) :
    (e.translate d).styledBoundingBox st = (e.styledBoundingBox st).translate d ∧
    (e.translate d).strokeArea st = (e.strokeArea st).translate d ∧
    (e.translate d).fillArea st = (e.fillArea st).translate d :=
  ⟨Ellipse.translate_styledBoundingBox st e d, Ellipse.translate_strokeArea st e d,
    Ellipse.translate_fillArea st e d⟩

/-- **`draw()` of the moved styled ellipse makes exactly the calls of the original, moved by `d`.** -/
theorem styled_ellipse_calls_translate (st : PrimStyle) (e : Ellipse) (d : Pt)
    (h : EllipseGuard st e) (h' : EllipseGuard st (e.translate d)) :
    (e.translate d).drawStyled st = (e.drawStyled st).map (Call.translate d) :=
  Ellipse.drawStyled_translate st e d h.1 h.2 h'.1 h'.2

/-- **`pixels()` of the moved styled ellipse = the moved `pixels()`**, same order. -/
theorem styled_ellipse_pixels_translate (st : PrimStyle) (e : Ellipse) (d : Pt)
    (h : EllipseGuard st e) (h' : EllipseGuard st (e.translate d)) :
    (e.translate d).styledPixels st = Writes.translate d (e.styledPixels st) :=
  Ellipse.styledPixels_translate st e d h.1 h'.1

/-- **The picture**: `draw()` of the moved ellipse on the target box moved along leaves the
picture of the original shifted by `d`, natively (R2) and through the trait defaults (R1). -/
theorem styled_ellipse_map_translate (st : PrimStyle) (e : Ellipse) (d : Pt)
    (h : EllipseGuard st e) (h' : EllipseGuard st (e.translate d)) (B : Rect) :
    runNative (B.translate d) ((e.translate d).drawStyled st) =
      PMap.shift d (runNative B (e.drawStyled st)) ∧
    runDefault (B.translate d) ((e.translate d).drawStyled st) =
      PMap.shift d (runDefault B (e.drawStyled st)) :=
  (Ellipse.styledPicture h.1 h.2).shift_moved_box (Ellipse.styledPicture h'.1 h'.2)
    (fun p => by rw [Ellipse.translate_strokeArea, Ellipse.translate_contains])
    (fun p => by rw [Ellipse.translate_fillArea, Ellipse.translate_contains]) B

/-- The same on one fixed target whose box contains the stroke areas' bounding boxes before and
after the move. -/
theorem styled_ellipse_map_translate_fixed_box (st : PrimStyle) (e : Ellipse) (d : Pt)
    (h : EllipseGuard st e) (h' : EllipseGuard st (e.translate d)) (B : Rect)
    (hB : ∀ q, (e.strokeArea st).boundingBox.contains q = true → B.contains q = true)
    (hB' : ∀ q, ((e.translate d).strokeArea st).boundingBox.contains q = true → B.contains q = true) :
    runNative B ((e.translate d).drawStyled st) = PMap.shift d (runNative B (e.drawStyled st)) ∧
    runDefault B ((e.translate d).drawStyled st) = PMap.shift d (runDefault B (e.drawStyled st)) :=
  (Ellipse.styledPicture h.1 h.2).shift_fixed_box (Ellipse.styledPicture h'.1 h'.2)
    (fun p => by rw [Ellipse.translate_strokeArea, Ellipse.translate_contains])
    (fun p => by rw [Ellipse.translate_fillArea, Ellipse.translate_contains]) hB hB'

example : EllipseGuard ⟨some 1, some 2, 9, .center⟩ ⟨⟨-3, 2⟩, ⟨7, 3⟩⟩ ∧
    EllipseGuard ⟨some 1, some 2, 9, .center⟩ ((⟨⟨-3, 2⟩, ⟨7, 3⟩⟩ : Ellipse).translate ⟨64, -33⟩) := by
  decide

-- [V] styled circle / ellipse: coordinates for which a stroke / fill area bounding box leaves the `i32` range (guards `CircleGuard` / `EllipseGuard` false; saturation / overflow there is C08's topic): carried by correspondence + oracle only
-- [V] styled circle / ellipse, `translate_mut`: that Rust's `&mut self` field assignment is the functional field update of the model is language semantics, carried by the oracle only (`C07:translate-mut-differs` compares both methods on the real code); PROVED on the model of the in-place body as the source writes it (EG/Model/TranslateMut.lean), for all inputs: `circle_translate_mut`, `ellipse_translate_mut` (Props/C07/TranslateMut.lean)

end EG.C07.CurvedDraw
