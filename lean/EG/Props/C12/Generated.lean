/-
  C12 — the REGENERATED bodies of the colour types equal the hand-written model.

  `EG/Generated/ColorSrc.lean` is written by `tools/tr_colorsrc.py` from /repo's Rust text on every run of a check:
  one Lean `def` per function of `impl_rgb_color!` (`new`, `r`, `g`, `b`, `MAX_*`, the masks, the colour constants,
  `From<Raw>`, `Into<Raw>`), of `gray_color!` (`new`, `luma`, `From/Into<Raw>`), of `BinaryColor` (`map_color`,
  `From<RawU1>`, `From<BinaryColor> for RawU1`) and of the blanket `IntoStorage` impl, SYMBOLIC in the macro
  parameters (a `ColorSpec` argument: `$r_pos` is `T.rpos`, `$storage_type` the integer type of `T.storageBits`
  bits, ...), every Rust primitive a function of the trusted prelude `EG/Model/ColorSrcPrelude.lean`
  (width-aware: `as`, `<<` and `+ - *` reduce modulo 2^width).

  This file proves, for every record of the generated colour table and ALL arguments, that the generated
  definition equals the hand-written function of `EG/Model/Color.lean` (`*_src_eq_model`), and restates headline
  theorems of C12 about the generated functions (`src_*`). The colour constants are not treated here: `BLACK` / `WHITE`
  in C13 `Generated.lean` (`rgb_consts_src_eq_model`), `RED` .. `CYAN` where MockDisplay uses them (C20 `Generated.lean`,
  `GeneratedColors.lean`). Where the two differ:
  * the hand model shifts mathematically, the source reduces `(x as $storage_type) << pos` modulo the storage
    width. They agree because every field lies inside the storage type (`fields_fit`, decided per record); no
    hypothesis on the arguments is needed (`r & MAX_R` bounds the field whatever `r` is).
  * `MAX_R = ((1usize << bits) - 1) as u8` is computed in 64-bit `usize` in the prelude and mathematically in the
    model; equal for every record (`max_src_eq_model`, by evaluation).
  * the raw newtypes' `new` / `into_inner` are the hand model's `rawNew` / identity in the prelude (the raw layer
    is not regenerated by this part).
-/
import EG.Generated.ColorSrc
import EG.Lemmas.SrcSimpAttr
import EG.Props.C12
namespace EG.C12.Src
open EG EG.Generated EG.ColorSpec EG.ColorSrcPrelude

attribute [color_prelude] int_as int_from int_add int_sub int_mul int_div int_shl int_shr int_and int_or int_eq
  int_ne int_lt int_le int_gt int_ge newtype_mk newtype_0 Raw_new Raw_into_inner Raw_BITS_PER_PIXEL
  BinaryColor_Off BinaryColor_On BinaryColor_is usize_bits same_type

theorem max_src_eq_model : ∀ s ∈ colorTable, s.isRgb = true →
    ColorSrc.impl_rgb_color_MAX_R s = s.maxR ∧ ColorSrc.impl_rgb_color_MAX_G s = s.maxG
      ∧ ColorSrc.impl_rgb_color_MAX_B s = s.maxB := by decide +kernel

theorem mask_src_eq_model : ∀ s ∈ colorTable, s.isRgb = true →
    ColorSrc.impl_rgb_color_RGB_MASK s = s.rgbMask
    ∧ ColorSrc.impl_rgb_color_R_MASK s = s.maxR <<< s.rpos ∧ ColorSrc.impl_rgb_color_G_MASK s = s.maxG <<< s.gpos
    ∧ ColorSrc.impl_rgb_color_B_MASK s = s.maxB <<< s.bpos := by decide +kernel

/-- every channel field lies inside the struct's storage type: the `<<` of `new` loses no bit -/
theorem fields_fit : ∀ s ∈ colorTable, s.isRgb = true →
    s.maxR <<< s.rpos < 2 ^ s.storageBits ∧ s.maxG <<< s.gpos < 2 ^ s.storageBits
      ∧ s.maxB <<< s.bpos < 2 ^ s.storageBits := by decide +kernel

theorem shl_in_width (w x p m : Nat) (hx : x ≤ m) (h : m <<< p < 2 ^ w) :
    ((x % 2 ^ w) <<< p) % 2 ^ w = x <<< p := by
  rw [Nat.shiftLeft_eq] at h
  have h2 : x * 2 ^ p ≤ m * 2 ^ p := Nat.mul_le_mul_right _ hx
  have hp : 0 < 2 ^ p := Nat.two_pow_pos p
  have h3 : x ≤ x * 2 ^ p := Nat.le_mul_of_pos_right _ hp
  have hxm : x % 2 ^ w = x := Nat.mod_eq_of_lt (by omega)
  rw [hxm, Nat.shiftLeft_eq, Nat.mod_eq_of_lt (by omega)]

theorem new_src_eq_model : ∀ s ∈ colorTable, s.isRgb = true → ∀ r g b,
    ColorSrc.impl_rgb_color_new s r g b = s.rgbNew r g b := by
  intro s hs hk r g b
  obtain ⟨hR, hG, hB⟩ := max_src_eq_model s hs hk
  obtain ⟨fR, fG, fB⟩ := fields_fit s hs hk
  unfold ColorSrc.impl_rgb_color_new ColorSpec.rgbNew
  simp only [color_prelude, hR, hG, hB]
  rw [shl_in_width _ _ _ _ Nat.and_le_right fR, shl_in_width _ _ _ _ Nat.and_le_right fG,
    shl_in_width _ _ _ _ Nat.and_le_right fB]

theorem r_src_eq_model : ∀ s ∈ colorTable, s.isRgb = true → ∀ c,
    ColorSrc.impl_rgb_color_r s c = s.chanR c := by
  intro s hs hk c
  obtain ⟨hR, _, _⟩ := max_src_eq_model s hs hk
  unfold ColorSrc.impl_rgb_color_r ColorSpec.chanR
  simp only [color_prelude, hR]

theorem g_src_eq_model : ∀ s ∈ colorTable, s.isRgb = true → ∀ c,
    ColorSrc.impl_rgb_color_g s c = s.chanG c := by
  intro s hs hk c
  obtain ⟨_, hG, _⟩ := max_src_eq_model s hs hk
  unfold ColorSrc.impl_rgb_color_g ColorSpec.chanG
  simp only [color_prelude, hG]

theorem b_src_eq_model : ∀ s ∈ colorTable, s.isRgb = true → ∀ c,
    ColorSrc.impl_rgb_color_b s c = s.chanB c := by
  intro s hs hk c
  obtain ⟨_, _, hB⟩ := max_src_eq_model s hs hk
  unfold ColorSrc.impl_rgb_color_b ColorSpec.chanB
  simp only [color_prelude, hB]

theorem gray_new_src_eq_model (s : ColorSpec) (l : Nat) : ColorSrc.gray_color_new s l = s.grayNew l := rfl
theorem gray_luma_src_eq_model (s : ColorSpec) (c : Nat) : ColorSrc.gray_color_luma s c = s.luma c := rfl

/-! ### `From<Raw>`, `Into<Raw>`, `into_storage`: the function the compiler selects for a type of each kind -/

/-- `C::from(raw)`: `impl From<$data_type> for $type` of `impl_rgb_color!`, `impl From<$raw_type> for $type` of
`gray_color!`, `impl From<RawU1> for BinaryColor` -/
def fromRawSrc (s : ColorSpec) (raw : Nat) : Nat :=
  match s.kind with
  | .binary => ColorSrc.BinaryColor_From_RawU1 raw
  | .gray => ColorSrc.gray_color_From_raw_type_for_type s raw
  | .rgb | .bgr => ColorSrc.impl_rgb_color_From_data_type_for_type s raw

/-- `Raw::from(c)` -/
def toRawSrc (s : ColorSpec) (c : Nat) : Nat :=
  match s.kind with
  | .binary => ColorSrc.RawU1_From_BinaryColor c
  | .gray => ColorSrc.gray_color_From_type_for_raw_type s c
  | .rgb | .bgr => ColorSrc.impl_rgb_color_From_type_for_data_type s c

/-- `c.into_storage()` (the blanket impl instantiated at a type of the kind) -/
def intoStorageSrc (s : ColorSpec) (c : Nat) : Nat :=
  match s.kind with
  | .binary => ColorSrc.IntoStorage_into_storage_binary c
  | .gray => ColorSrc.IntoStorage_into_storage_gray s c
  | .rgb | .bgr => ColorSrc.IntoStorage_into_storage_rgb s c

/-- the one binary colour type of the table is the type the body of `From<BinaryColor> for RawU1` names -/
theorem binary_is_named : ∀ s ∈ colorTable, s.kind = .binary → s = ColorSrc.T_BinaryColor := by decide +kernel

theorem from_raw_src_eq_model : ∀ s ∈ colorTable, ∀ raw, fromRawSrc s raw = s.fromRaw raw := by
  intro s hs raw
  unfold fromRawSrc ColorSpec.fromRaw
  cases hk : s.kind
  · simp only [ColorSrc.BinaryColor_From_RawU1]
    simp only [color_prelude]
    by_cases h : raw = 0 <;> simp [h]
  · rfl
  · have hr : s.isRgb = true := by simp [ColorSpec.isRgb, hk]
    simp only [ColorSrc.impl_rgb_color_From_data_type_for_type, (mask_src_eq_model s hs hr).1]
  · have hr : s.isRgb = true := by simp [ColorSpec.isRgb, hk]
    simp only [ColorSrc.impl_rgb_color_From_data_type_for_type, (mask_src_eq_model s hs hr).1]

theorem into_raw_src_eq_model : ∀ s ∈ colorTable, ∀ c, toRawSrc s c = s.toRaw c := by
  intro s hs c
  unfold toRawSrc ColorSpec.toRaw
  cases hk : s.kind
  · simp only [ColorSrc.RawU1_From_BinaryColor, ColorSrc.BinaryColor_map_color, ← binary_is_named s hs hk]
    simp only [color_prelude]
    by_cases h : c = 1 <;> simp [h]
  · rfl
  · rfl
  · rfl

theorem into_storage_src_eq_model : ∀ s ∈ colorTable, ∀ c, intoStorageSrc s c = s.intoStorage c := by
  intro s hs c
  have h := into_raw_src_eq_model s hs c
  unfold toRawSrc at h
  unfold intoStorageSrc ColorSpec.intoStorage
  cases hk : s.kind <;> simp only [hk] at h <;>
    simp only [ColorSrc.IntoStorage_into_storage_binary, ColorSrc.IntoStorage_into_storage_gray,
      ColorSrc.IntoStorage_into_storage_rgb, Raw_into_inner, h]

/-- colour -> raw -> colour is the identity, on the regenerated `Into<Raw>` / `From<Raw>` -/
theorem src_raw_roundtrip : ∀ s ∈ colorTable, ∀ c, s.Valid c → fromRawSrc s (toRawSrc s c) = c := by
  intro s hs c hc
  rw [into_raw_src_eq_model s hs, from_raw_src_eq_model s hs]
  exact C12.raw_roundtrip s hs c hc

/-- the regenerated raw value fits `BITS_PER_PIXEL` -/
theorem src_into_fits : ∀ s ∈ colorTable, ∀ c, s.Valid c → toRawSrc s c < 2 ^ s.rawBpp := by
  intro s hs c hc
  rw [into_raw_src_eq_model s hs]
  exact C12.into_fits s hs c hc

/-- raw -> colour -> raw on the regenerated functions keeps the low `usedBits` bits and clears exactly the rest -/
theorem src_raw_clears_unused_only : ∀ s ∈ colorTable, ∀ raw, raw < 2 ^ s.rawBpp →
    toRawSrc s (fromRawSrc s raw) = raw % 2 ^ s.usedBits := by
  intro s hs raw h
  rw [from_raw_src_eq_model s hs, into_raw_src_eq_model s hs]
  exact C12.raw_clears_unused_only s hs raw h

/-- the regenerated `new` keeps each channel modulo its width and the regenerated `r g b` return it -/
theorem src_new_channels : ∀ s ∈ colorTable, s.isRgb = true → ∀ r g b, r < 256 → g < 256 → b < 256 →
    ColorSrc.impl_rgb_color_r s (ColorSrc.impl_rgb_color_new s r g b) = r % 2 ^ s.rbits
    ∧ ColorSrc.impl_rgb_color_g s (ColorSrc.impl_rgb_color_new s r g b) = g % 2 ^ s.gbits
    ∧ ColorSrc.impl_rgb_color_b s (ColorSrc.impl_rgb_color_new s r g b) = b % 2 ^ s.bbits := by
  intro s hs hk r g b hr hg hb
  rw [new_src_eq_model s hs hk, r_src_eq_model s hs hk, g_src_eq_model s hs hk, b_src_eq_model s hs hk]
  exact C12.new_channels s hs hk r g b hr hg hb

/-- the regenerated `new` is the reduced channels at their bit positions -/
theorem src_new_layout : ∀ s ∈ colorTable, s.isRgb = true → ∀ r g b,
    ColorSrc.impl_rgb_color_new s r g b
      = r % 2 ^ s.rbits * 2 ^ s.rpos + g % 2 ^ s.gbits * 2 ^ s.gpos + b % 2 ^ s.bbits * 2 ^ s.bpos := by
  intro s hs hk r g b
  rw [new_src_eq_model s hs hk]
  exact (C12.new_layout s hs hk r g b).1

/-- `into_storage` on the regenerated blanket impl is the raw value -/
theorem src_into_storage : ∀ s ∈ colorTable, ∀ c, intoStorageSrc s c = toRawSrc s c := by
  intro s hs c
  rw [into_storage_src_eq_model s hs, into_raw_src_eq_model s hs]
  rfl

example : ∃ s ∈ colorTable, s.name = "Bgr565" ∧ s.isRgb = true ∧ s.Valid 0xF81F
    ∧ ColorSrc.impl_rgb_color_new s 31 0 31 = 0xF81F ∧ ColorSrc.impl_rgb_color_b s 0xF81F = 31
    ∧ toRawSrc s 0xF81F = 0xF81F := by decide +kernel

/-- the inventory of the translator part: how many items it translates and which functions of `BinaryColor`'s impls
it leaves out; a function added there, or one that stops being translated, changes them -/
theorem translated_pinned : ColorSrc.translated.length = 47
    ∧ ColorSrc.untranslated = ["BinaryColor::default (Default)", "BinaryColor::invert", "BinaryColor::is_on", "BinaryColor::is_off"] :=
  ⟨rfl, rfl⟩

end EG.C12.Src
