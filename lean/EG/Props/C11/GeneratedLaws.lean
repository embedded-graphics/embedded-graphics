/-
  C11 — the headline theorems of EG/Props/C11.lean restated over the functions REGENERATED FROM THE RUST TEXT
  (`EG.Generated.RawSrc`, tools/tr_rawsrc.py), as corollaries of the equivalence theorems of Generated.lean.

  Quantifiers: `R` over the seven implementors of `RawData` (= the seven valid depths, `rawTy_covers_validBits`),
  `O` over both implementors of `DataOrder`, `buf` over byte buffers (`BytesOk`) of any length that is a `usize`
  (`FitsUsize`), `i`, `j`, `k` over ALL natural numbers, `v` over the values of the raw type (`v < 2^bits`).
  `src_iter_nth_fresh` and `src_size_hint_exact` need the bit count `len * 8` to be a `usize`, as in C11.
-/
import EG.Props.C11.Generated
import EG.Props.C11
namespace EG.C11.Generated
open EG EG.Raw EG.RawSrcPrelude EG.Generated.RawSrc

theorem FitsUsize.of_length_eq {a b : List Nat} (h : a.length = b.length) (hb : FitsUsize b) : FitsUsize a := by
  unfold FitsUsize at *; omega

/-- `store(v, buf, i)` then `load(buf, i)` returns `v` — over the generated `RawData::store` / `RawData::load`. -/
theorem src_load_store_same (R : RawTy) (O : DataOrderTy) {v : Nat} {buf : List Nat} {i : Nat}
    (hw : BytesOk buf) (hlen : FitsUsize buf) (hv : v < 2 ^ bits R) (hin : i < pixelCount (bits R) buf.length) :
    (RawData_store R O v buf i).1 = true ∧
      RawData_load R O (RawData_store R O v buf i).2 i = some v := by
  rw [store_src_eq_model R O v buf i hlen]
  have hb := bits_valid R
  rw [load_src_eq_model R O _ i (store_bytesOk hb (ord O) i hw hv)
    (FitsUsize.of_length_eq (store_length (ord O) v buf i) hlen)]
  exact ⟨store_inside hb (ord O) v buf i hin, Raw.load_store_same hb (ord O) hw hv hin⟩

/-- ... and every other index loads what it loaded before. -/
theorem src_load_store_other (R : RawTy) (O : DataOrderTy) {v : Nat} {buf : List Nat} {i j : Nat}
    (hw : BytesOk buf) (hlen : FitsUsize buf) (hv : v < 2 ^ bits R) (hne : j ≠ i) :
    RawData_load R O (RawData_store R O v buf i).2 j = RawData_load R O buf j := by
  rw [store_src_eq_model R O v buf i hlen]
  have hb := bits_valid R
  rw [load_src_eq_model R O _ j (store_bytesOk hb (ord O) i hw hv)
    (FitsUsize.of_length_eq (store_length (ord O) v buf i) hlen), load_src_eq_model R O buf j hw hlen]
  exact Raw.load_store_other hb (ord O) hw hv hne

/-- `store` beyond the buffer: `Err(OutOfBoundsError)` and the buffer is unchanged; inside it succeeds. -/
theorem src_store_oob (R : RawTy) (O : DataOrderTy) (v : Nat) (buf : List Nat) (i : Nat) (hlen : FitsUsize buf) :
    (pixelCount (bits R) buf.length ≤ i → RawData_store R O v buf i = (false, buf)) ∧
    (i < pixelCount (bits R) buf.length → (RawData_store R O v buf i).1 = true) := by
  rw [store_src_eq_model R O v buf i hlen]
  exact ⟨store_outside (bits_valid R) (ord O) v buf i, store_inside (bits_valid R) (ord O) v buf i⟩

/-- `load` returns `None` exactly for the indices beyond the buffer. -/
theorem src_load_oob (R : RawTy) (O : DataOrderTy) (buf : List Nat) (i : Nat) (hw : BytesOk buf)
    (hlen : FitsUsize buf) :
    RawData_load R O buf i = none ↔ pixelCount (bits R) buf.length ≤ i := by
  rw [load_src_eq_model R O buf i hw hlen]
  exact load_eq_none_iff (bits_valid R) (ord O) buf i

/-- `store` keeps the length and every byte that does not belong to pixel `i`. -/
theorem src_store_touches_only (R : RawTy) (O : DataOrderTy) (v : Nat) (buf : List Nat) (i : Nat)
    (hlen : FitsUsize buf) :
    (RawData_store R O v buf i).2.length = buf.length ∧
    ∀ k, ¬ ownByte (bits R) i k → (RawData_store R O v buf i).2[k]? = buf[k]? := by
  rw [store_src_eq_model R O v buf i hlen]
  exact ⟨store_length (ord O) v buf i, fun k hk => store_other_bytes (ord O) v buf i k hk⟩

/-- What a `for` loop over the generated iterator sees (explicit fuel, as `Iter.toListFuel`). -/
def srcToListFuel (R : RawTy) (O : DataOrderTy) : Nat → RawDataIterator → List Nat
  | 0, _ => []
  | fuel + 1, s =>
    match RawDataIterator_Iterator_next R O s with
    | (none, _) => []
    | (some v, s') => v :: srcToListFuel R O fuel s'

theorem next_keeps_data (R : RawTy) (O : DataOrderTy) (s : RawDataIterator) :
    (RawDataIterator_Iterator_next R O s).2.data = s.data := by
  unfold RawDataIterator_Iterator_next option_inspect_self
  cases RawData_load R O s.data s.index <;> rfl

/-- By induction rather than through `Drains.view` of Lemmas/SrcIter.lean: the step fact `Iterator_next_src_eq_model`
holds under `BytesOk` / `FitsUsize` only, which `next` preserves because it keeps `data`. -/
theorem srcToListFuel_eq_model (R : RawTy) (O : DataOrderTy) (fuel : Nat) (s : RawDataIterator)
    (hw : BytesOk s.data) (hlen : FitsUsize s.data) :
    srcToListFuel R O fuel s = Iter.toListFuel fuel (toModel R O s) := by
  induction fuel generalizing s with
  | zero => rfl
  | succ f ih =>
    obtain ⟨h1, h2⟩ := Iterator_next_src_eq_model R O s hw hlen
    have hd := next_keeps_data R O s
    unfold srcToListFuel Iter.toListFuel
    rcases hn : RawDataIterator_Iterator_next R O s with ⟨x, s'⟩
    rcases hm : Iter.next (toModel R O s) with ⟨y, m'⟩
    rw [hn] at h1 h2 hd
    rw [hm] at h1 h2
    dsimp only at h1 h2 hd
    subst h1
    subst h2
    cases x with
    | none => rfl
    | some v =>
      dsimp only
      rw [ih s' (hd ▸ hw) (hd ▸ hlen)]

/-- Iterating a `RawDataSlice` yields exactly `load(0), load(1), ...`, as many as fit — over the generated
`RawDataIterator::new`, `Iterator::next` and `RawData::load` (`8 * len + 1` is the fuel of `Iter.toList`: every item
consumes at least one bit). -/
theorem src_iter_toList (R : RawTy) (O : DataOrderTy) (data : List Nat) (hw : BytesOk data) (hlen : FitsUsize data) :
    (srcToListFuel R O (8 * data.length + 1) (RawDataIterator_new data)).map some
      = (List.range (pixelCount (bits R) data.length)).map (RawData_load R O data) := by
  rw [srcToListFuel_eq_model R O _ _ hw hlen]
  have := EG.C11.iter_toList (bits_valid R) (ord O) data
  unfold Iter.toList Iter.new at this
  have hfun : RawData_load R O data = load (bits R) (ord O) data := by
    funext k; exact load_src_eq_model R O data k hw hlen
  rw [hfun]
  exact this

/-- `nth(k)` on a fresh iterator is `load(k)` (what `ImageRaw::pixel` relies on). -/
theorem src_iter_nth_fresh (R : RawTy) (O : DataOrderTy) (data : List Nat) (hw : BytesOk data)
    (hf : data.length * 8 ≤ usizeMax) (k : Nat) :
    (RawDataIterator_Iterator_nth R O (RawDataIterator_new data) k).1 = RawData_load R O data k := by
  have hlen : FitsUsize data := by unfold FitsUsize; omega
  rw [(Iterator_nth_src_eq_model R O _ k hw hlen).1, load_src_eq_model R O data k hw hlen]
  exact EG.C11.iter_nth_fresh (bits_valid R) (ord O) data hf k

/-- `size_hint` of the generated iterator is exact: lower = upper = number of items the model iterator of the same
state still yields (`srcToListFuel_eq_model` ties that list to the generated `next`). -/
theorem src_size_hint_exact (R : RawTy) (O : DataOrderTy) (s : RawDataIterator)
    (hf : s.data.length * 8 ≤ usizeMax) :
    RawDataIterator_Iterator_size_hint R O s
      = ((toModel R O s).toList.length, some (toModel R O s).toList.length) := by
  rw [Iterator_size_hint_src_eq_model]
  exact EG.C11.size_hint_exact (toModel R O s) (bits_valid R) hf

example : BytesOk [0x12, 0xA5, 0xFF] ∧ FitsUsize [0x12, 0xA5, 0xFF] ∧ (1 : Nat) < 2 ^ bits .RawU2 ∧
    5 < pixelCount (bits .RawU2) [0x12, 0xA5, 0xFF].length ∧ [0x12, 0xA5, 0xFF].length * 8 ≤ usizeMax :=
  ⟨by intro b hb; simp at hb; omega, by decide, by decide, by decide, by decide⟩
example : RawData_store .RawU2 .LittleEndianMsb0 1 [0x12, 0xA5, 0xFF] 5 = (true, [0x12, 0x95, 0xFF]) := by decide
example : RawData_store .RawU24 .BigEndianLsb0 0x123456 [1, 2, 3, 4, 5, 6, 7] 1 = (true, [1, 2, 3, 0x12, 0x34, 0x56, 7]) := by
  decide
example : RawData_store .RawU16 .LittleEndianMsb0 0x1234 [1, 2, 3] 1 = (false, [1, 2, 3]) := by decide
example : RawData_load .RawU4 .LittleEndianMsb0 [0x12, 0xA5] 2 = some 0xA ∧
    RawData_load .RawU4 .BigEndianLsb0 [0x12, 0xA5] 2 = some 5 := by decide
example : srcToListFuel .RawU16 .BigEndianLsb0 41 (RawDataIterator_new [0xAA, 0xBB, 0x12, 0x34, 0x99]) = [0xAABB, 0x1234] := by
  decide

end EG.C11.Generated
