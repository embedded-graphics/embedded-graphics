/-
  C20 — MockDisplay is a faithful test oracle.

  "After any sequence of drawing operations `MockDisplay::get_pixel` returns the colour last drawn
  to a point and `None` for untouched points; `from_pattern` and the `Debug` output round-trip; two
  displays compare equal, and `diff` is empty, exactly when all 64 x 64 cells agree;
  `affected_area` is the tight bounding box of the touched cells. Drawing panics exactly when a
  pixel lies outside the display or is drawn a second time while the respective check is enabled,
  and never otherwise."

  Property theorems (helper lemmas live in EG/Lemmas/Mock*.lean; so does the vocabulary of the statements that is not
  in the model: `Inside`, `lastTo`, `Op.writes`: Mock.lean; `Touched`, `Tight`: MockArea.lean; `charset`, `palette`,
  `allCT`, `dropTrailing`: MockPattern.lean; `normRow`, `canonChar`, `blankRow`, `frameText`: MockPatternText.lean). All statements are about
  the model `EG.Model.MockDisplay` (a literal transcription of src/mock_display/{mod,color_mapping}.rs)
  and hold for every display state, every history and every flag combination; a panic is the
  result value `Res.panic` / `none`. `get_pixel` is claimed for the 64 x 64 cells of the display
  (`Inside p`), which is what the property quantifies over; what the unchecked index does for
  other arguments is recorded as observations at the end.

  The model is tied to the source a second time by REGENERATION: tools/tr_mocksrc.py translates the two Rust files into
  EG/Generated/MockSrc.lean on every check, Props/C20/Generated.lean / GeneratedColors.lean / GeneratedPattern.lean prove
  each generated function equal to the model function used below, and Props/C20/GeneratedLaws.lean restates the headline
  theorems of this file over the generated functions (`src_get_pixel_last_drawn`, `src_draw_pixel_panics_iff`, ...).

  "Round trip" has two directions; both are proved here:
    [P] display -> text -> display:  `from_pattern(Debug rows of d) == d` for every display `d` whose
        colours belong to the colour set of its type (`pattern_debug_roundtrip`; the rows, not the framed
        `{:?}` text), with `from_pattern_cells` saying what `from_pattern` stores for a well-formed pattern;
    [P] text -> display -> text:     for every pattern `p` that `from_pattern` accepts,
        `Debug(from_pattern(p))` is `p` again, normalised: every row padded with spaces to 64 columns,
        lower-case hex digits (`Gray4`, `Gray8`) printed upper-case, trailing blank rows dropped
        (`debug_pattern_roundtrip`; exactly `p` when `p` is in that form: `debug_pattern_roundtrip_exact`).
  The list of colour types these statements range over (`allCT`, twelve types) is tied to the source's
  `impl ColorMapping for` list in EG/Props/C20/Types.lean.
-/
import EG.Lemmas.Mock
import EG.Lemmas.MockArea
import EG.Lemmas.MockPattern
import EG.Lemmas.MockPatternText
namespace EG.C20
open EG EG.Mock

/-- After any sequence of operations (draw_pixel, draw_iter, fill_contiguous, fill_solid, clear,
set_pixel, flag changes — with in-range, out-of-range and repeated points) that does not panic,
started from any display: `get_pixel p` returns, for every cell `p` of the display, the value last
written to `p`, and the old content if the history never wrote to `p`. Writes to points outside
the display (possible when out-of-bounds drawing is allowed) change nothing: they are not writes
to `p`. -/
theorem history_refines_map (d0 d : MD) (ops : List Op) (h : d0.run ops = .ok d)
    (p : Pt) (hp : Inside p) :
    d.getPixel p = some (lastTo (ops.flatMap Op.writes) p (d0.cell p)) := by
  rw [getPixel_inside d hp, run_ok_cell ops h hp]

example : ∃ d, (MD.new.setAllowOob true).run
    [.drawPixel ⟨1, 2⟩ 5, .drawPixel ⟨-1, 70⟩ 9, .call (.fillSolid ⟨⟨3, 3⟩, ⟨2, 1⟩⟩ 7)] = .ok d ∧
    Inside ⟨1, 2⟩ := ⟨_, rfl, by decide⟩

/-- On a fresh display: the colour last drawn, `None` for untouched points. -/
theorem history_refines_map_new (d0 d : MD) (ops : List Op) (hnew : d0.pixels = MD.new.pixels)
    (h : d0.run ops = .ok d) (p : Pt) (hp : Inside p) :
    d.getPixel p = some (lastTo (ops.flatMap Op.writes) p none) := by
  rw [history_refines_map d0 d ops h p hp]
  have : d0.cell p = none := by
    unfold MD.cell MD.get; rw [hnew]; exact cell_new p
  rw [this]

example : (MD.new.setAllowOverdraw true).pixels = MD.new.pixels := rfl

/-- `None` for untouched points. -/
theorem untouched_is_none (d0 d : MD) (ops : List Op) (hnew : d0.pixels = MD.new.pixels)
    (h : d0.run ops = .ok d) (p : Pt) (hp : Inside p)
    (hun : ∀ w ∈ ops.flatMap Op.writes, w.1 ≠ p) :
    d.getPixel p = some none := by
  rw [history_refines_map_new d0 d ops hnew h p hp, lastTo_of_not_mem hun]

example : ∀ w ∈ ([Op.drawPixel ⟨1, 2⟩ 5, Op.setOob true] : List Op).flatMap Op.writes, w.1 ≠ (⟨0, 0⟩ : Pt) := by
  decide

/-- Histories of `DrawTarget` calls only: `get_pixel` is the pixel map of `EG.Model.Target`
(`lastWrite` = the colour of the last pixel drawn to `p`), i.e. `MockDisplay` shows exactly what
the recording targets of the other properties record. -/
theorem drawing_history_last_write (d0 d : MD) (calls : List Call) (hnew : d0.pixels = MD.new.pixels)
    (h : d0.run (calls.map Op.call) = .ok d) (p : Pt) (hp : Inside p) :
    d.getPixel p = some (lastWrite (calls.flatMap (Call.lowerDefault displayArea)) p) := by
  have key : (calls.map Op.call).flatMap Op.writes = drawWrites (calls.flatMap (Call.lowerDefault displayArea)) := by
    simp only [List.flatMap_map, drawWrites, List.map_flatMap]
    rfl
  rw [history_refines_map_new d0 d _ hnew h p hp, ← lastTo_drawWrites, key]

example : ∃ d, MD.new.run ([Call.fillSolid ⟨⟨0, 0⟩, ⟨2, 2⟩⟩ 1, Call.drawIter []].map Op.call) = .ok d := ⟨_, rfl⟩

/-- `draw_pixel` panics exactly when the point lies outside the display while out-of-bounds
drawing is not allowed, or the point is inside, overdraw is not allowed and the cell already holds
a colour — and never otherwise. The order is the order of the source: for a point outside only the
bounds flag matters. -/
theorem panics_iff (d : MD) (p : Pt) (c : Color) :
    (d.drawPixel p c).isOk = false ↔
      (¬ Inside p ∧ d.allowOob = false) ∨
      (Inside p ∧ d.allowOverdraw = false ∧ ∃ old, d.getPixel p = some (some old)) := by
  rw [drawPixel_isOk_false_iff]
  exact or_congr_right (and_congr_right fun hi => and_congr_right fun _ => isSome_cell_iff d hi)

/-- A panicking `draw_pixel` leaves the display unchanged. -/
theorem panic_leaves_display (d d' : MD) (p : Pt) (c : Color) (h : d.drawPixel p c = .panic d') :
    d' = d := drawPixel_panic_state h

example : MD.new.drawPixel ⟨64, 0⟩ 1 = .panic MD.new := rfl

/-- The allowed out-of-bounds path: nothing changes (and the overdraw flag is not consulted). -/
theorem outside_allowed_unchanged (d : MD) (p : Pt) (c : Color) (hp : ¬ Inside p)
    (ha : d.allowOob = true) : d.drawPixel p c = .ok d := by
  rw [drawPixel_spec]; simp [hp, ha]

example : ¬ Inside ⟨-1, 3⟩ ∧ (MD.new.setAllowOob true).allowOob = true := by decide

/-- A draw that does not panic inside the display stores the colour, changes no other cell and
no flag. -/
theorem draw_ok_stores (d d' : MD) (p : Pt) (c : Color) (hp : Inside p)
    (h : d.drawPixel p c = .ok d') :
    d'.getPixel p = some (some c) ∧
    (∀ q, Inside q → q ≠ p → d'.getPixel q = d.getPixel q) ∧
    d'.allowOverdraw = d.allowOverdraw ∧ d'.allowOob = d.allowOob := by
  refine ⟨?_, ?_, drawPixel_ok_flags h⟩
  · rw [getPixel_inside d' hp, drawPixel_ok_cell h hp]; simp
  · intro q hq hne
    rw [getPixel_inside d' hq, getPixel_inside d hq, drawPixel_ok_cell h hq]
    have : ¬ p = q := fun e => hne e.symm
    simp [this]

example : ∃ d', MD.new.drawPixel ⟨3, 1⟩ 1 = .ok d' ∧ Inside ⟨3, 1⟩ := ⟨_, rfl, by decide⟩

/-- `draw_iter` (and with it `fill_contiguous`, `fill_solid`, `clear`, which `MockDisplay` inherits
from the trait defaults) panics exactly when one of its pixels lies outside the display while the
bounds check is on, or hits a cell that the display held or an earlier pixel of the same call has
drawn while the overdraw check is on. -/
theorem draw_iter_panics_iff (d : MD) (ws : Writes) :
    (d.drawIter ws).isOk = false ↔
      ∃ pre w post, ws = pre ++ w :: post ∧
        ((¬ Inside w.1 ∧ d.allowOob = false) ∨
         (Inside w.1 ∧ d.allowOverdraw = false ∧
            (lastTo (drawWrites pre) w.1 (d.cell w.1)).isSome = true)) :=
  drawIter_isOk_false_iff ws d

theorem draw_call_panics_iff (d : MD) (c : Call) :
    (d.step (.call c)).isOk = false ↔
      ∃ pre w post, c.lowerDefault displayArea = pre ++ w :: post ∧
        ((¬ Inside w.1 ∧ d.allowOob = false) ∨
         (Inside w.1 ∧ d.allowOverdraw = false ∧
            (lastTo (drawWrites pre) w.1 (d.cell w.1)).isSome = true)) :=
  drawIter_isOk_false_iff _ d

/-- What a panicking `draw_iter` leaves behind (observable through `catch_unwind`): exactly the
pixels before the offending one have been drawn. -/
theorem draw_iter_panic_state (d d' : MD) (ws : Writes) (h : d.drawIter ws = .panic d') :
    ∃ pre w post, ws = pre ++ w :: post ∧ d.drawIter pre = .ok d' ∧
      (d'.drawPixel w.1 w.2).isOk = false := drawIter_panic_state ws h

example : ∃ d', MD.new.drawIter [(⟨0, 0⟩, 1), (⟨0, 0⟩, 2)] = .panic d' := ⟨_, rfl⟩

/-- `set_pixel` panics exactly outside the display, whatever the flags; inside it overwrites or
erases the cell without any check. -/
theorem set_pixel_panics_iff (d : MD) (p : Pt) (c : Option Color) :
    d.setPixel p c = none ↔ ¬ Inside p := by
  -- `setPixel_spec`: `if Inside p then some (store) else none`
  rw [setPixel_spec]; by_cases hp : Inside p <;> simp [hp]

/-- Two displays compare equal exactly when all 64 x 64 cells agree (stated over `get_pixel`;
`Mock.eq_iff_cell` is the form over `MD.cell`; the two flags are not part of the comparison). -/
theorem eq_iff_cells (a b : MD) :
    a.eq b = true ↔ ∀ p, Inside p → a.getPixel p = b.getPixel p := by
  rw [eq_iff_cell]
  refine forall_congr' fun p => imp_congr_right fun hp => ?_
  rw [getPixel_inside a hp, getPixel_inside b hp, Option.some.injEq]

/-- `PartialEq` ignores `allow_overdraw` / `allow_out_of_bounds_drawing`. -/
theorem eq_ignores_flags (a : MD) (o b : Bool) : a.eq ⟨a.pixels, o, b⟩ = true := by
  rw [eq_iff_pixels]

/-- `diff` never panics. -/
theorem diff_total (a b : MD) : ∃ D, a.diff b = some D :=
  (diff_spec a b).1

/-- Each cell of `diff` carries the documented colour code of the two cells it compares:
`None` equal, green only in `self`, red only in `other`, blue both set and different. -/
theorem diff_cells (a b D : MD) (h : a.diff b = some D) (p : Pt) (hp : Inside p)
    (s o : Option Color) (hs : a.getPixel p = some s) (ho : b.getPixel p = some o) :
    D.getPixel p = some (diffColor s o) := by
  rw [getPixel_inside a hp] at hs
  rw [getPixel_inside b hp] at ho
  cases hs; cases ho
  rw [getPixel_inside D hp, (diff_spec a b).2 D h p hp]

example : ∃ D, (MD.new.upd 5 (some 1)).diff MD.new = some D ∧ Inside ⟨5, 0⟩ ∧
    (MD.new.upd 5 (some 1)).getPixel ⟨5, 0⟩ = some (some 1) ∧ MD.new.getPixel ⟨5, 0⟩ = some none := by
  obtain ⟨D, h⟩ := diff_total (MD.new.upd 5 (some 1)) MD.new
  exact ⟨D, h, by decide, rfl, rfl⟩

/-- `diff` is empty (equal to a fresh display) exactly when all 64 x 64 cells agree. -/
theorem diff_empty_iff (a b D : MD) (h : a.diff b = some D) :
    D.eq MD.new = true ↔ ∀ p, Inside p → a.getPixel p = b.getPixel p := by
  -- cell by cell: the colour code is `None` exactly for equal cells
  rw [eq_iff_cell]
  refine forall_congr' fun p => imp_congr_right fun hp => ?_
  rw [(diff_spec a b).2 D h p hp, cell_new, getPixel_inside a hp, getPixel_inside b hp, Option.some.injEq]
  exact diffColor_eq_none_iff _ _

/-- ... i.e. exactly when the displays compare equal. -/
theorem diff_empty_iff_eq (a b D : MD) (h : a.diff b = some D) :
    D.eq MD.new = true ↔ a.eq b = true := by
  rw [diff_empty_iff a b D h, eq_iff_cells]

/-- `affected_area` contains every touched cell. -/
theorem affected_area_contains (d : MD) (p : Pt) (h : Touched d p) :
    d.affectedArea.contains p = true := by
  obtain ⟨tl, br, he, ht⟩ := affectedArea_of_touched d ⟨p, h⟩
  have hb := ht.bound p ((touched_iff d p).mpr h)
  rw [he, Rect.contains_withCorners]; omega

example : Touched (MD.new.upd 5 (some 1)) ⟨5, 0⟩ := ⟨by decide, 1, rfl⟩

/-- Tight: each of the four sides of `affected_area` passes through a touched cell. -/
theorem affected_area_sides_touch (d : MD) (h : ∃ p, Touched d p) :
    (∃ p, Touched d p ∧ p.x = d.affectedArea.tl.x) ∧
    (∃ p, Touched d p ∧ p.y = d.affectedArea.tl.y) ∧
    (∃ p, Touched d p ∧ p.x = d.affectedArea.tl.x + d.affectedArea.size.w - 1) ∧
    (∃ p, Touched d p ∧ p.y = d.affectedArea.tl.y + d.affectedArea.size.h - 1) := by
  obtain ⟨tl, br, he, ht⟩ := affectedArea_of_touched d h
  obtain ⟨e1, e2, e3⟩ := tight_sides ht
  rw [he, e2, e3, e1]
  obtain ⟨l, hl, hl'⟩ := ht.left
  obtain ⟨t, htt, ht'⟩ := ht.top
  obtain ⟨r, hr, hr'⟩ := ht.right
  obtain ⟨b, hb, hb'⟩ := ht.bottom
  exact ⟨⟨l, (touched_iff d l).mp hl, hl'⟩, ⟨t, (touched_iff d t).mp htt, ht'⟩,
    ⟨r, (touched_iff d r).mp hr, hr'⟩, ⟨b, (touched_iff d b).mp hb, hb'⟩⟩

/-- Hence it is the least rectangle containing the touched cells. -/
theorem affected_area_least (d : MD) (r : Rect) (h : ∀ p, Touched d p → r.contains p = true)
    (q : Pt) (hq : d.affectedArea.contains q = true) : r.contains q = true := by
  by_cases hex : ∃ p, Touched d p
  · obtain ⟨⟨l, hl, hl'⟩, ⟨t, ht, ht'⟩, ⟨rr, hr, hr'⟩, ⟨b, hb, hb'⟩⟩ := affected_area_sides_touch d hex
    have h1 := Rect.contains_iff.mp (h l hl)
    have h2 := Rect.contains_iff.mp (h t ht)
    have h3 := Rect.contains_iff.mp (h rr hr)
    have h4 := Rect.contains_iff.mp (h b hb)
    rw [Rect.contains_iff] at hq ⊢
    omega
  · rw [affectedArea_of_untouched d hex] at hq
    rw [Rect.contains_false_of_zero (Or.inl rfl)] at hq
    cases hq

/-- Zero-sized (`Rectangle::zero()`) when nothing is touched. -/
theorem affected_area_zero_of_untouched (d : MD) (h : ¬ ∃ p, Touched d p) :
    d.affectedArea = Rect.zero := affectedArea_of_untouched d h

example : ¬ ∃ p, Touched MD.new p := by
  rintro ⟨p, hp, c, hc⟩
  rw [getPixel_inside MD.new hp, cell_new] at hc
  cases hc

/-- [F] per colour type (finite table, all twelve `ColorMapping` types): every colour of the type's
colour set is printed as a character that reads back as the same colour. -/
theorem char_color_roundtrip (ct : CT) (c : Color) (h : c ∈ palette ct) :
    charToColor ct (colorToChar ct c) = some c := (color_char_color ct (mem_allCT ct) c h).1

example : (0xF800 : Color) ∈ palette .rgb565 := by decide +kernel

/-- [F] and every character of the type's character set is accepted by `char_to_color` and printed
back as itself by `color_to_char`. -/
theorem color_char_roundtrip (ct : CT) (ch : Char) (h : ch ∈ charset ct) :
    ∃ c, charToColor ct ch = some c ∧ colorToChar ct c = ch := by
  have := char_color_char ct (mem_allCT ct) ch h
  cases hc : charToColor ct ch with
  | none => rw [hc] at this; cases this
  | some c => rw [hc] at this; exact ⟨c, rfl, by simpa using this⟩

example : 'A' ∈ charset .gray8 := by decide

/-- The colour sets: all values of `BinaryColor`, `Gray2`, `Gray4`; the sixteen multiples of `0x11`
of `Gray8`; black, the three primaries, their three mixtures and white of the RGB types. -/
theorem palettes : palette .binary = [0, 1] ∧ palette .gray2 = [0, 1, 2, 3] ∧
    palette .gray4 = List.range 16 ∧ palette .gray8 = (List.range 16).map (· * 17) ∧
    palette .rgb565 = [0, 0xF800, 0x07E0, 0x001F, 0xFFE0, 0xF81F, 0x07FF, 0xFFFF] ∧
    palette .rgb888 = [0, 0xFF0000, 0x00FF00, 0x0000FF, 0xFFFF00, 0xFF00FF, 0x00FFFF, 0xFFFFFF] := by
  decide +kernel

/-- `from_pattern` of the rows the `Debug` impl prints gives back the display: it does not panic
and the result compares equal to the original (all 64 x 64 cells agree, by `eq_iff_cells`), for
every display whose colours belong to the colour set of its colour type — any history, any number
of trailing empty rows (they are printed as "(n empty rows skipped)" and re-created as `None`). -/
theorem pattern_debug_roundtrip (ct : CT) (d : MD)
    (hpal : ∀ p, Inside p → ∀ c, d.getPixel p = some (some c) → c ∈ palette ct) :
    ∃ d', fromPattern ct (d.debugRows ct) = .ok d' ∧ d'.eq d = true ∧ d.eq d' = true :=
  ⟨⟨d.pixels, false, false⟩, fromPattern_debugRows ct d (good_of_getPixel ct d hpal),
    by rw [eq_iff_pixels], by rw [eq_iff_pixels]⟩

example : ∀ p, Inside p → ∀ c, (MD.new.upd 5 (some 1)).getPixel p = some (some c) → c ∈ palette .binary := by
  intro p hp c hc
  rw [getPixel_inside _ hp, MD.cell, get_upd _ _ _ _ (by decide), get_new] at hc
  split at hc
  · cases hc; decide
  · cases hc

/-- `from_pattern` on a well-formed pattern (rows of one byte width `w ≤ 64`, at most 64 rows,
every character a space or convertible by `char_to_color` — `convRows` returns the converted rows)
does not panic and puts character `x` of row `y` into cell `(x, y)`; every cell beyond the pattern
is `None`. -/
theorem from_pattern_cells (ct : CT) (pat : List (List Char)) (rows : List (List (Option Color)))
    (w : Nat) (hw : w ≤ 64) (h1 : ∀ r ∈ pat, rowLen r = w) (h2 : pat.length ≤ 64)
    (h3 : convRows ct pat = some rows) :
    ∃ d, fromPattern ct pat = .ok d ∧ ∀ x y : Nat, x < 64 → y < 64 →
      d.getPixel ⟨(x : Int), (y : Int)⟩ = some (((rows[y]?).bind (fun r => r[x]?)).join) := by
  refine ⟨_, fromPattern_ok ct pat rows w hw h1 h2 h3, ?_⟩
  intro x y hx hy
  have hp : Inside ⟨(x : Int), (y : Int)⟩ := by unfold Inside; simp only; omega
  have hi : idx ⟨(x : Int), (y : Int)⟩ = x + y * 64 := by unfold idx; simp only; omega
  have := pixels_toList_getElem? (⟨cellsOfPattern rows, false, false⟩ : MD) (show x + y * 64 < 4096 by omega)
  rw [toList_cellsOfPattern,
    patternColors_getElem? rows (by rw [convRows_length ct pat rows h3]; exact h2) hx hy, Option.some.injEq] at this
  rw [getPixel_inside _ hp, this]
  unfold MD.cell
  rw [hi]

example : (∀ r ∈ [['#', ' '], ['.', '#']], rowLen r = 2) ∧
    convRows .binary [['#', ' '], ['.', '#']] = some [[some 1, none], [some 0, some 1]] := by decide

/-- **`Debug` of `from_pattern(pattern)` is the pattern again, normalised** — for EVERY pattern that
`from_pattern` accepts (any colour type; rows of any common width up to 64, up to 64 rows, spaces
and the type's characters, hex digits in either case): the rows `Debug` prints are the pattern's
rows in canonical characters (`canonChar`: `a`..`f` become `A`..`F` for `Gray4` / `Gray8`, nothing
else changes), each padded with spaces to 64 columns (`normRow`), without the trailing blank rows
(`dropTrailing blankRow`; `Debug` reports them as "(n empty rows skipped)"). -/
theorem debug_pattern_roundtrip (ct : CT) (pat : List (List Char)) (d : MD)
    (h : fromPattern ct pat = .ok d) :
    d.debugRows ct = dropTrailing blankRow (pat.map (normRow ct)) := by
  obtain ⟨-, hlen, -, rows, hconv, rfl⟩ := (fromPattern_ok_iff ct pat d).mp h
  have hrl : rows.length ≤ 64 := by rw [convRows_length ct pat rows hconv]; exact hlen
  obtain ⟨hshow, hblank⟩ := show_of_convRows ct pat rows hconv
  -- the display's rows are the padded rows followed by blank rows; dropping trailing blank rows commutes with showing
  rw [debugRows_eq, take_emptyRows, rows_of_pattern rows hrl,
    dropTrailing_append_replicate blankCells _ _ (by simp [blankCells]),
    ← hshow, dropTrailing_map _ blankRow blankCells _ hblank]

example : ∃ d, fromPattern .gray4 [['a', ' ', '3'], [' ', ' ', ' ']] = .ok d :=
  ⟨_, fromPattern_ok .gray4 _ [[some 10, none, some 3], [none, none, none]] 3 (by omega)
    (by decide) (by decide) (by decide)⟩

/-- The normal form of that example: one row `A 3` padded to 64 columns; the blank row is gone. -/
theorem debug_pattern_roundtrip_example :
    dropTrailing blankRow ([['a', ' ', '3'], [' ', ' ', ' ']].map (normRow .gray4)) =
      [['A', ' ', '3'] ++ List.replicate 61 ' '] := by decide +kernel

/-- What the normalisation does to a row (at most 64 characters, as `from_pattern` demands) and to
a character: the documented characters of every colour type are unchanged. -/
theorem normal_form (ct : CT) :
    (∀ r : List Char, r.length ≤ 64 →
      normRow ct r = r.map (canonChar ct) ++ List.replicate (64 - r.length) ' ') ∧
    (∀ ch ∈ charset ct, canonChar ct ch = ch) ∧ canonChar ct ' ' = ' ' :=
  ⟨normRow_of_le ct, canonChar_charset ct (mem_allCT ct), canonChar_space ct⟩

/-- **A pattern in normal form is printed back exactly**: full-width rows, canonical characters, the
last row not blank. (The `Debug` rows of any display are of this form, so `Debug ∘ from_pattern` is
the identity on them; with `pattern_debug_roundtrip` the two maps are mutually inverse between
displays over the type's colour set and patterns in normal form.) -/
theorem debug_pattern_roundtrip_exact (ct : CT) (pat : List (List Char)) (d : MD)
    (h : fromPattern ct pat = .ok d) (hw : ∀ r ∈ pat, r.length = 64)
    (hc : ∀ r ∈ pat, ∀ c ∈ r, canonChar ct c = c)
    (hl : ∀ last, pat.getLast? = some last → blankRow last = false) : d.debugRows ct = pat := by
  rw [debug_pattern_roundtrip ct pat d h]
  have e : pat.map (normRow ct) = pat := by
    conv => rhs; rw [← List.map_id pat]
    exact List.map_congr_left (fun r hr => normRow_of_canonical ct r (hw r hr) (hc r hr))
  rw [e]
  exact dropTrailing_of_last blankRow pat hl

example : let pat := [List.replicate 63 ' ' ++ ['#'], ['.'] ++ List.replicate 63 ' ']
    (∀ r ∈ pat, r.length = 64) ∧ (∀ r ∈ pat, ∀ c ∈ r, canonChar .binary c = c) ∧
    (∀ last, pat.getLast? = some last → blankRow last = false) := by decide +kernel

-- `from_pattern` panics on over-wide / over-tall / ragged patterns and unknown characters, and which assertion fires first: the decision table of the model's four checks is `C20.PatternText.from_pattern_decision` (Props/C20/PatternText.lean); the model is compared with the code on every `mock.pattern` op (`err=`)
-- the framing text of `{:?}` ("MockDisplay[", "(n empty rows skipped)", "]") is modelled (`MD.debugText`) and is a function of the printed rows: `C20.PatternText.debug_text_is_frame_of_rows`, with both round trips restated on the complete text (Props/C20/PatternText.lean); the model text is compared with the real one through the hash `dh=` on every `mock.hist` op
-- (an observation outside the property's quantifier "patterns over each colour type's character set") colours outside a type's colour set (`Gray8` values that are not multiples of 0x11, RGB colours other than the eight named ones) print as '?', which `from_pattern` rejects: proved on the model in Props/C20/Unrepresentable.lean (`color_to_char_question_iff`: exactly those colours, for every type and raw value; `question_mark_is_rejected`; `pattern_with_question_mark_panics`); the harness only counts the outcome (`obs:debug-unrepresentable:rt-*`), no oracle class
-- (an observation: not claimed by the property) `get_pixel` for arguments outside the 64 x 64 cells: what the code does for EVERY `i32` argument is proved on the model below (`get_pixel_outside_negative`: a negative coordinate panics; `get_pixel_outside_aliases`: otherwise cell `(x % 64, y + x / 64)` while `x + 64 y < 4096`, a panic beyond) and compared on the `mock.get` stream

/-! ### Observations (not claims of the property): `get_pixel` outside the display -/

/-- In a build with overflow checks, negative coordinates always panic. -/
theorem get_pixel_outside_negative (d : MD) (p : Pt) (h : p.x < 0 ∨ p.y < 0)
    (hr : -2147483648 ≤ p.x ∧ p.x ≤ 2147483647 ∧ -2147483648 ≤ p.y ∧ p.y ≤ 2147483647) :
    d.getPixel p = none := by
  rw [getPixel_eq d p hr, if_neg (by omega)]

/-- For non-negative coordinates (in particular `x ≥ 64`) `get_pixel` silently returns the cell `(x % 64, y + x / 64)` as long
as `x + 64 y < 4096`, and panics beyond. -/
theorem get_pixel_outside_aliases (d : MD) (p : Pt) (hx : 0 ≤ p.x) (hy : 0 ≤ p.y)
    (hr : p.x ≤ 2147483647 ∧ p.y ≤ 2147483647) :
    d.getPixel p = if p.x + p.y * 64 < 4096 then some (d.cell ⟨p.x % 64, p.y + p.x / 64⟩) else none := by
  -- the cell whose slot is `x + 64 y`
  have e : idx (⟨p.x % 64, p.y + p.x / 64⟩ : Pt) = idx p := by
    unfold idx
    rw [Int.add_mul, Int.add_left_comm, Int.emod_add_ediv_mul, Int.add_comm]
  rw [getPixel_eq d p (by omega), MD.cell, e]
  simp only [hx, hy, true_and]

example : (MD.new.upd 64 (some 7)).getPixel ⟨64, 0⟩ = some (some 7) := rfl

end EG.C20
