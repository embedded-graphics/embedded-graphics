/-
  C08 — Rendering is total and allocation-free on display-scale inputs.

  What is proved here (models: `EG.Model.Checked*`, the CHECKED form of the arithmetic kernels,
  every intermediate operation in the integer type of the Rust code (the repaired tree), `none` =
  the panic of a build with overflow checks and debug assertions):

  * range theorems `*_checked_eq_plain`: on display-scale inputs (`EG.DS`, file
    EG/Lemmas/CheckedDS.lean) the checked kernel returns `some` of the plain (unbounded) kernel that
    the geometric theorems of C01..C20 are about — so no arithmetic panic, and the plain models
    describe the real computation there. Four plain sides are forms of their own, written for these
    theorems: the text metrics `EG.TextM` (Model/CheckedData.lean; C15 is about Model/TextLayout.lean,
    and no lemma links the two), `Chk.fbIndexPlain`, `Chk.plainSubImageSkips` (tied to the image model
    in one direction by `draw_sub_image_draws_iff_inside`) and `Chk.plainThickThreshold` (tied to
    `Thick.ParallelsIterator.new` by `new_scalars`). Stated for the derived domain `DS.x*` (stroke areas,
    their points, stroke offsets), which contains the display scale proper (`DS.rect_x` etc.);
    the lemmas behind them hold on much larger domains (`Chk.W`: 2^28, `Chk.S`: 4096 / 8192).
    In the statements a bare name (`bottomRight r`) is the checked kernel of `EG.Chk`, the dotted one
    (`r.bottomRight`) the plain model.
    This file: `Rectangle`, `Point (+|-) Size`.  C08/Shapes.lean: `Circle`, `Ellipse`,
    `EllipseContains`.  C08/Lines.lean: Bresenham, thick-line threshold, intersections, miter.
    C08/Data.lean: `ImageRaw`, `Framebuffer`, text metrics (raw `load`/`store`: C08/Reject.lean).
    C08/Triangle.lean: `Triangle::{bounding_box, area_doubled, contains, sorted_clockwise,
    scanline_intersection, translate}` (with the lazily consumed `Line::points()` and
    `Scanline::{extend, bresenham_intersection}` below them).
    C08/RRect.lean: `CornerRadii::confine` (total for all `u32`), `EllipseQuadrant`,
    `RoundedRectangle::{contains, offset, translate}`, `RoundedRectangleContains`, the `Scanlines`
    iterator and the `fill_range` search of `StyledScanlines` (any `u32` radii).
    C08/Sector.lean: `PlaneSector::{contains, point_type}`, `DistanceIterator`, `Sector` / `Arc`
    (`contains`, `offset`, `points()`), the styled iterators of both (thresholds, bevel line), for
    any plane sector with normals within +-1024; for the `fixed_point` build also
    `PlaneSector::new` and the bevel selection on I16F16 bits (total for start angles within
    about +-9600 degrees and every sweep).
    C08/Scanlines.lean: `Scanline::{extend, bresenham_intersection, touches, try_extend,
    to_rectangle, draw}`, `StyledScanline` draws, the `Scanlines` / `StyledScanlines` iterators
    of circles and ellipses, and the thick polyline / triangle machinery above the joins (cap
    midpoints, `ThickSegment::{intersection, edges_bounding_box}`, the bounding-box fold), with
    the bound that every corner of a display-scale join is within 2^27 + 4096.
    C08/Glyphs.lean: `MonoFont::glyph`, the guard and skips of `ImageRaw::draw_sub_image`,
    `line_elements`, decoration rectangles, `MonoTextStyle::{draw_string, draw_whitespace}`;
    all 292 built-in fonts are inside the domain.
  * `old_*` witness theorems: the integer widths of the tree before the `fix:` commits did not
    suffice at display scale (why each widening was needed).
  * C08/Reject.lean: rejection without panic (corollaries of C09, C10, C11 + `checked_mul`,
    sub-image crop).  C08/Termination.lean, C08/TerminationThick.lean: the modelled iterators
    reach `None`, with step bounds (rectangles, lines, circles, ellipses, raw data, images, cropped
    streams, polylines; stroked lines / polylines, styled triangles, rounded rectangles, sectors, arcs).

  Not proved (what Lean cannot carry):
  -- [V] no heap allocation in any constructor, query or draw: carried by correspondence + oracle only (counting global allocator, streams scale.shape/text/image/reject)
  -- [V] no panic in code that has no checked model (f32 trigonometry of the default build (`PlaneSector::new`, bevel selection: micromath), the point steps of `ParallelsIterator` inside `Line::extents`, and the slicing / control flow of `ThickSegmentIter`, `ClosedThickSegmentIter`, `ScanlineIntersections` around the checked join and segment kernels): carried by correspondence + oracle only
  -- [V] the `fixed_point` feature build: the f32 -> I16F16 conversions of angles (`Angle::from_degrees`, `I16F16::from_num` range; the I16F16 pipeline behind them is proved total in C08/Sector.lean): carried by correspondence + oracle only (thorough tier)
  -- [V] termination of the real iterators within the step bounds of C08/Termination.lean and C08/TerminationThick.lean (proved for the models, all inputs): carried by correspondence + oracle only (iteration budgets of the scale.* streams)
  -- [V] the checked kernels transcribe the operation sequence and integer widths of the Rust source: carried by correspondence only (streams scale.chk.*: `panic` exactly where the checked model says `none`, also far outside the display scale)
-/
import EG.Lemmas.CheckedDS
namespace EG.C08
open EG EG.Chk

/-- `Point + Size` on the derived display-scale domain: the casts `width as i32` are non-negative
(no debug assertion fires) and the sums fit `i32`. -/
theorem point_add_size_checked_eq_plain {p : Pt} {s : Sz} (hp : DS.xpt p) (hs : DS.xsz s) :
    ptAddSize p s = some ⟨p.x + s.w, p.y + s.h⟩ :=
  ptAddSize_ok (by omega)
example : DS.xpt ⟨-1152, 2176⟩ ∧ DS.xsz ⟨1280, 0⟩ := by decide

theorem point_sub_size_checked_eq_plain {p : Pt} {s : Sz} (hp : DS.xpt p) (hs : DS.xsz s) :
    ptSubSize p s = some ⟨p.x - s.w, p.y - s.h⟩ :=
  ptSubSize_ok (by omega)
example : DS.xpt ⟨-1152, 2176⟩ ∧ DS.xsz ⟨1280, 0⟩ := by decide

/-- The debug assertion is real: a size above `i32::MAX` panics whatever the point is. -/
theorem point_add_size_asserts (p : Pt) : ptAddSize p ⟨2147483648, 0⟩ = none :=
  ptAddSize_assert (by decide) (by decide)

theorem rect_bottom_right_checked_eq_plain {r : Rect} (h : DS.xrect r) :
    bottomRight r = some r.bottomRight := bottomRight_ok (DS.xrect_W h)
example : DS.xrect ⟨⟨-1152, 2176⟩, ⟨1280, 0⟩⟩ := by decide

/-- for every probe point (no bound on `p`: `contains` only compares it) -/
theorem rect_contains_checked_eq_plain {r : Rect} (h : DS.xrect r) (p : Pt) :
    contains r p = some (r.contains p) := contains_ok (DS.xrect_W h) p
example : DS.xrect ⟨⟨-1024, -1024⟩, ⟨1024, 1024⟩⟩ := by decide

theorem rect_intersection_checked_eq_plain {a b : Rect} (ha : DS.xrect a) (hb : DS.xrect b) :
    intersection a b = some (a.intersection b) := intersection_ok (DS.xrect_W ha) (DS.xrect_W hb)
example : DS.xrect ⟨⟨-1024, -1024⟩, ⟨1024, 1024⟩⟩ ∧ DS.xrect ⟨⟨0, 5⟩, ⟨0, 1024⟩⟩ := by decide

theorem rect_envelope_checked_eq_plain {a b : Rect} (ha : DS.xrect a) (hb : DS.xrect b) :
    envelope a b = some (a.envelope b) := envelope_ok (DS.xrect_W ha) (DS.xrect_W hb)
example : DS.xrect ⟨⟨-1024, -1024⟩, ⟨1024, 1024⟩⟩ ∧ DS.xrect ⟨⟨1024, 1024⟩, ⟨0, 0⟩⟩ := by decide

theorem rect_center_checked_eq_plain {r : Rect} (h : DS.xrect r) : center r = some r.center :=
  center_ok (DS.xpt_W h.1) (by omega)
example : DS.xrect ⟨⟨-1024, 1024⟩, ⟨1024, 1⟩⟩ := by decide

theorem rect_with_center_checked_eq_plain {c : Pt} {s : Sz} (hc : DS.xpt c) (hs : DS.xsz s) :
    withCenter c s = some (Rect.withCenter c s) :=
  withCenter_ok (by omega) (by omega)
example : DS.xpt ⟨-1024, 1024⟩ ∧ DS.xsz ⟨1024, 0⟩ := by decide

/-- `offset` by a stroke offset (`-128 ..= 128`, also larger than the rectangle). -/
theorem rect_offset_checked_eq_plain {r : Rect} (h : DS.xrect r) {o : Int} (ho : DS.offs o) :
    offset r o = some (r.offset o) := offset_ok (DS.xrect_W h) (DS.offs_W ho)
example : DS.xrect ⟨⟨3, 4⟩, ⟨5, 0⟩⟩ ∧ DS.offs (-128) := by decide

theorem rect_resized_checked_eq_plain {r : Rect} (h : DS.xrect r) {s : Sz} (hs : DS.xsz s) (a : Anchor) :
    resized r s a = some (r.resized s a) := resized_ok (DS.xrect_W h) (DS.xsz_W hs) a
example : DS.xrect ⟨⟨3, 4⟩, ⟨5, 0⟩⟩ ∧ DS.xsz ⟨1024, 0⟩ := by decide

theorem rect_anchor_point_checked_eq_plain {r : Rect} (h : DS.xrect r) (a : Anchor) :
    anchorPoint r a = some (r.anchorPoint a) := anchorPoint_ok (DS.xrect_W h) a
example : DS.xrect ⟨⟨3, 4⟩, ⟨0, 1024⟩⟩ := by decide

theorem rect_translate_checked_eq_plain {r : Rect} (h : DS.xrect r) {d : Pt} (hd : DS.xpt d) :
    translate r d = some (r.translate d) := translate_ok (DS.xpt_W h.1) (DS.xpt_W hd)
example : DS.xrect ⟨⟨3, 4⟩, ⟨0, 1024⟩⟩ ∧ DS.xpt ⟨-1024, 1024⟩ := by decide

/-- `rows()` / `columns()` use saturating arithmetic only: no panic for any `i32` / `u32`. True by
definition of the checked model (`Chk.rows r := pure r.rows`): the content is the modelling decision. -/
theorem rect_rows_columns_total (r : Rect) : rows r = some r.rows ∧ columns r = some r.columns :=
  ⟨rfl, rfl⟩

/-- The display scale is far inside the safe range: the same statements hold for coordinates and
sizes up to 2^28 (`Chk.W`), e.g. the intersection. -/
theorem rect_intersection_wide {a b : Rect} (ha : W.rect a) (hb : W.rect b) :
    intersection a b = some (a.intersection b) := intersection_ok ha hb
example : W.rect ⟨⟨-268435456, 268435456⟩, ⟨268435456, 1⟩⟩ := by decide

/-- ... and the `i32` range does end: a rectangle whose corner is not representable panics in
`bottom_right()` (this is what `sub_image` has to avoid, see C08/Reject.lean). -/
theorem rect_bottom_right_overflows : bottomRight ⟨⟨2147483647, 0⟩, ⟨2, 1⟩⟩ = none := by decide

end EG.C08
