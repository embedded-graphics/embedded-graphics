/-
  C05 — `points()` yields exactly the points `contains()` accepts. This root file holds no theorem of
  its own: the property theorems are in the files of `EG/Props/C05/`:
    Rectangle.lean, Circle.lean, Ellipse.lean, RoundedRect.lean, Sector.lean, Triangle.lean
                      per shape: `points()` = the bounding box's points filtered by `contains()`, each
                      point once, in row-major order, all inside the box; `contains()` false outside it
    GeneratedCircle.lean, GeneratedEllipse.lean, GeneratedRRect.lean, GeneratedTriangle.lean
                      the functions regenerated from the Rust text equal the hand-written models
  Sub-claims that are not proved are the `-- [V]` lines of those files.
-/
import EG.Basic.Core
namespace EG.C05
end EG.C05
