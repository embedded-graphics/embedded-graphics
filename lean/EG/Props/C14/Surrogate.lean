/-
  C14 — `\0 start end` ranges of a glyph-mapping string that CROSS the surrogate gap.

  `StrGlyphMapping::chars()` expands `'\0' s e` to `s..=e`, a `RangeInclusive<char>`: its iterator
  steps with `<char as Step>::forward`, which jumps from U+D7FF to U+E000 (the model: `nextScalar`,
  `charRange`, EG/Model/Font.lean). `range_is_interval` (Props/C14.lean) covers the ranges on one
  side of the gap - all ranges of the 14 built-in strings. Here the other case, for every pair of
  `char`s: the range lists `s ..= U+D7FF` and then `U+E000 ..= e`; it contains exactly the scalar
  values between its ends, each once; position `k` holds `s + k` before the gap and `s + k + 2048`
  after it. So "every mapped character has its own index" (`mapped_chars_own_index`,
  `index_getElem_of_nodup`) needs no exclusion of such ranges.
  Helper lemmas: EG/Lemmas/FontMapping.lean.
-/
import EG.Lemmas.FontMapping
namespace EG.C14.Surrogate
open EG EG.Font

/-- **A range across the surrogate gap** (`s <= U+D7FF`, `e >= U+E000`): the characters up to the
gap, then those after it; U+D800 ..= U+DFFF are skipped. -/
theorem range_crossing_surrogate_gap (s e : Nat) (hs : s ≤ 0xD7FF) (he : 0xE000 ≤ e) :
    charRange s e = List.range' s (0xD800 - s) ++ List.range' 0xE000 (e + 1 - 0xE000) := by
  rw [charRange_eq, if_pos (by omega)]
example : charRange 0xD7FE 0xE001 = [0xD7FE, 0xD7FF, 0xE000, 0xE001] := by decide

/-- Position `k` of a crossing range: `s + k` before the gap, `s + k + 2048` after it (consecutive
indices, the gap's 2048 code points left out). -/
theorem range_crossing_position (s e k : Nat) (hs : s ≤ 0xD7FF) (he : 0xE000 ≤ e)
    (hk : k < (charRange s e).length) :
    (charRange s e)[k] = if s + k ≤ 0xD7FF then s + k else s + k + 2048 := by
  simp only [range_crossing_surrogate_gap s e hs he, List.getElem_append, List.length_range', List.getElem_range']
  by_cases hb : s + k ≤ 0xD7FF
  · rw [dif_pos (by omega), if_pos hb, Nat.one_mul]
  · rw [dif_neg (by omega), if_neg hb]; omega
example : (55294 : Nat) ≤ 0xD7FF ∧ 0xE000 ≤ (57345 : Nat) ∧ 2 < (charRange 0xD7FE 0xE001).length := by decide

/-- **Any range between two `char`s** (neither end a surrogate; crossing the gap or not, empty if
`e < s`): its members are exactly the scalar values between the ends ... (The hypotheses on the ends
only name the domain of the Rust type: `mem_charRange` and `charRange_nodup` hold for all ends.) -/
theorem range_members (s e c : Nat) (hs : ¬ isSurrogate s) (he : ¬ isSurrogate e) :
    c ∈ charRange s e ↔ s ≤ c ∧ c ≤ e ∧ ¬ isSurrogate c := by
  rw [mem_charRange]
  unfold isSurrogate at *
  omega
example : ¬ isSurrogate 0x20 ∧ ¬ isSurrogate 0xFFFD := by decide

/-- ... and each is listed once. -/
theorem range_no_duplicates (s e : Nat) (hs : ¬ isSurrogate s) (he : ¬ isSurrogate e) :
    (charRange s e).Nodup := charRange_nodup s e

/-- A crossing range has `e - s + 1 - 2048` characters. (`StrGlyphMapping::ranges()`, which is not
used by `index`, advances its start index by `end as usize - start as usize + 1`: observation, for a
crossing range that is 2048 more than the number of glyphs the range occupies.) -/
theorem range_crossing_length (s e : Nat) (hs : s ≤ 0xD7FF) (he : 0xE000 ≤ e) :
    (charRange s e).length + 2048 = e + 1 - s := by
  rw [range_crossing_surrogate_gap s e hs he, List.length_append, List.length_range', List.length_range']
  omega

end EG.C14.Surrogate
