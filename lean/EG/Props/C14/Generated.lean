/-
  C14 — the REGENERATED glyph / draw_string code equals the hand-written model.

  `EG/Generated/TextSrc.lean` is written by `tools/tr_textsrc.py` from /repo's Rust text on every run of a check.
  This file proves `<name>_src_eq_model` for the functions C14 rests on — `StrGlyphMapping::{chars, index, contains}`
  (src/mono_font/mapping.rs), `MonoFont::glyph`, `DecorationDimensions::get_bounding_box` (src/mono_font/mod.rs),
  `DecorationColor::effective_color` (src/text/mod.rs), `MonoTextStyle::{line_elements, draw_string_binary,
  draw_decorations, draw_string, draw_whitespace}` (src/mono_font/mono_text_style.rs) — against `EG/Model/Font.lean`, and restates C14's `index` and
  cell-position claims over the generated functions (`src_*`).

  A draw target is the list of calls made on it (`DrawTargetD`); a function with a `target: &mut D` parameter
  returns the updated target: `f .. target = (value, target ++ calls of the hand model)`.
  Props/C15/Generated.lean is imported for `baseline_offset_src_eq_model` and for the `text_prelude` simp set, which is
  filled at its head.

  Where source and hand model differ (stated exactly, as decidable guards):
  * `glyph`: `index(c) as u32` truncates and `char_x as i32` / `char_y as i32` wrap; the hand model computes in `Nat`.
    Equal when the index fits `u32` and the cell origin fits `i32` (`GlyphFits`).
  * `get_bounding_box` / `draw_string`'s transparent arm add a `Size` to a `Point` (`as i32` behind a
    `debug_assert!`): equal when the decoration offsets and the advance `(cw + spacing) * n` fit `i32`, and
    `text.chars().count() as u32` does not truncate (`DrawFits`).
  * `line_elements` casts `character_size.width` / `character_spacing` with `as i32` (`AdvanceFits`); its `from_fn`
    closure is tied step by step to the hand model's `LineIt.next` (`line_elements_step`), the `for` loop of
    `draw_string_binary` (with its `return` at `Done`) to the hand model's `drawStringBinary` for every `fuel >=
    2 * len + 1` (`loop_src_eq_model`, `draw_string_binary_src_eq_model`; guard `GlyphsFit` = `GlyphFits` for
    every character of the text).
  * `StrGlyphMapping::chars()` (the `from_fn(..).flatten()` decoder of `\0 start end` ranges, `?` inside the
    closure) = the hand model's `expand` for every `fuel > data.len()` (`chars_go`, `chars_src_eq_model`); `index` and
    `contains` take the same `fuel`. `start..=end` on chars is the prelude's `char_range_inclusive` = `Font.charRange`.
  NOT regenerated (bound by the prelude to the hand model, see its header): the image draw of a glyph (`Image_draw`),
  `MonoFontDrawTarget`'s lowering, the iteration of a `RangeInclusive<char>` (std).

  -- [V] `Image::new(&glyph, p).draw(target)` and `MonoFontDrawTarget`'s colour lowering (src/mono_font/draw_target.rs) are bound by the prelude to C09's image model / `Font.Mode.lower`, not regenerated
-/
import EG.Generated.TextSrc
import EG.Props.C15.Generated
import EG.Props.C14
namespace EG.C14.Src
open EG EG.Font EG.RectSrcPrelude EG.TextSrcPrelude EG.Generated EG.C16.Src EG.C15.Src

abbrev mappingOf (m : StrGlyphMapping) : StrMapping := ⟨m.data, m.replacement_index⟩

/-- the `from_fn` closure of `chars()` as the translator writes it (`chars_unfold`: by `rfl`) -/
def charsStep : List Nat → Option (List Nat) × List Nat := fun chars =>
      let (q_, chars) := iter_next chars
      match q_ with
        | Option.none => (Option.none, chars)
        | Option.some scrut_ =>
          (match scrut_ with
            | 0 =>
                let (q_, chars) := iter_next chars
                match q_ with
                  | Option.none => (Option.none, chars)
                  | Option.some start =>
                    let (q_, chars) := iter_next chars
                    match q_ with
                      | Option.none => (Option.none, chars)
                      | Option.some end_ =>
                        let range := char_range_inclusive start end_
                        (Option.some range, chars)
            | c =>
                let range := char_range_inclusive c c
                (Option.some range, chars))

theorem chars_unfold (fuel : Nat) (m : StrGlyphMapping) :
    TextSrc.StrGlyphMapping_chars fuel m =
      iter_flatten_from_fn fuel (from_fn_mk (str_chars (StrGlyphMapping_data m)) charsStep) := rfl

theorem charRange_self (c : Nat) : charRange c c = [c] := by
  simp [charRange, charRangeGo]

theorem chars_go : ∀ (n : Nat) (l : List Nat), l.length < n →
    (from_fn_to_list n ⟨l, charsStep⟩).flatten = expand l := by
  intro n
  induction n with
  | zero => intro l h; omega
  | succ n ih =>
    intro l h
    cases l with
    | nil => rfl
    | cons c rest =>
      cases c with
      | succ k =>
        have hs : charsStep ((k + 1) :: rest) = (some (charRange (k + 1) (k + 1)), rest) := rfl
        simp only [from_fn_to_list, hs, List.flatten_cons, charRange_self]
        rw [ih rest (by simp at h; omega)]
        rfl
      | zero =>
        cases rest with
        | nil => rfl
        | cons s r2 =>
          cases r2 with
          | nil => rfl
          | cons e r3 =>
            have hs : charsStep (0 :: s :: e :: r3) = (some (charRange s e), r3) := rfl
            simp only [from_fn_to_list, hs, List.flatten_cons]
            rw [ih r3 (by simp at h; omega)]
            rfl

theorem chars_src_eq_model (fuel : Nat) (m : StrGlyphMapping) (h : m.data.length < fuel) :
    TextSrc.StrGlyphMapping_chars fuel m = expand m.data := by
  rw [chars_unfold]
  exact chars_go fuel m.data h

example : TextSrc.StrGlyphMapping_chars 7 ⟨[0, 97, 102, 0, 49, 52], 0⟩ = [97, 98, 99, 100, 101, 102, 49, 50, 51, 52] := by
  decide

theorem find_enumerate_eq_findGo (c : Nat) (l : List Nat) (k : Nat) :
    option_map (iter_find (List.map (fun p => (p.2, p.1)) (l.zipIdx k)) (fun ((_, v) : Nat × Nat) => char_eq c v))
      (fun ((index, _) : Nat × Nat) => index) = findGo c l k := by
  induction l generalizing k with
  | nil => rfl
  | cons v vs ih =>
    simp only [option_map, iter_find, List.zipIdx_cons, List.map_cons, List.find?_cons, findGo, char_eq]
    by_cases h : c = v
    · simp [h]
    · simp only [h, decide_false]
      exact ih (k + 1)

theorem index_src_eq_model (fuel : Nat) (m : StrGlyphMapping) (c : Nat) (h : m.data.length < fuel) :
    TextSrc.StrGlyphMapping_GlyphMapping_index fuel m c = (mappingOf m).index c := by
  unfold TextSrc.StrGlyphMapping_GlyphMapping_index StrMapping.index
  simp only [iter_enumerate, chars_src_eq_model fuel m h, StrGlyphMapping_replacement_index]
  rw [find_enumerate_eq_findGo]
  cases findGo c (expand m.data) 0 <;> rfl

theorem contains_src_eq_model (fuel : Nat) (m : StrGlyphMapping) (c : Nat) (h : m.data.length < fuel) :
    TextSrc.StrGlyphMapping_contains fuel m c = (mappingOf m).contains c := by
  unfold TextSrc.StrGlyphMapping_contains StrMapping.contains
  simp only [iter_any, chars_src_eq_model fuel m h, char_eq]
  congr 1

/-- `index(c) as u32` does not truncate and the cell origin `char_x`, `char_y` (written as `glyph` computes it) fits
`i32`, so that neither the `u32` products nor `as i32` wrap -/
def GlyphFits (f : Font.MonoFont) (c : Nat) : Prop :=
  f.index c < 4294967296 ∧
  (f.index c - f.index c / (f.imgW / f.cw) * (f.imgW / f.cw)) * f.cw ≤ 2147483647 ∧
  f.index c / (f.imgW / f.cw) * f.ch ≤ 2147483647
instance (f : Font.MonoFont) (c : Nat) : Decidable (GlyphFits f c) := by unfold GlyphFits; exact inferInstance

example : GlyphFits ⟨96, 54, 6, 9, 0, 6, 10, 1, 4, 1, fun c => c - 32⟩ 65 := by decide

theorem glyph_src_eq_model (m : TextSrcPrelude.MonoFont) (c : Nat) (h : GlyphFits m.f c) :
    TextSrc.MonoFont_glyph m c = ⟨MonoFont_image m, m.f.glyphArea c⟩ := by
  obtain ⟨h1, h2, h3⟩ := h
  unfold TextSrc.MonoFont_glyph MonoFont.glyphArea MonoFont.glyphAreaOfIndex
  simp only [text_prelude, rect_prelude, Bool.or_eq_true, decide_eq_true_eq, Nat.mod_eq_of_lt h1, RectSrc.new,
    RectSrc.zero, RectSrc.Point_new, h2, h3, ↓reduceIte]
  split <;> rfl

theorem effective_color_src_eq_model (d : DecoColor) (tc : Option Color) :
    TextSrc.DecorationColor_effective_color d tc = d.effective tc := by
  cases d <;> rfl

theorem get_bounding_box_src_eq_model (d : DecorationDimensions) (pos : Pt) (w : Nat) (h : d.offset ≤ 2147483647) :
    TextSrc.DecorationDimensions_get_bounding_box d pos w = decoRect d.offset d.height pos w := by
  unfold TextSrc.DecorationDimensions_get_bounding_box decoRect
  have hfit : FitsI32 (RectSrc.Size_new 0 (DecorationDimensions_offset d)) := by
    unfold FitsI32 RectSrc.Size_new; simp only [text_prelude]; omega
  rw [Point_add_Size_src_eq_model _ _ hfit]
  simp only [text_prelude, rect_prelude, RectSrc.new, RectSrc.Size_new, Int.natCast_zero, Int.add_zero]

/-- the decoration offsets of the font fit `i32` (the `debug_assert!` of `Point + Size`) -/
def DecoFits (f : Font.MonoFont) : Prop := f.stOff ≤ 2147483647 ∧ f.ulOff ≤ 2147483647
instance (f : Font.MonoFont) : Decidable (DecoFits f) := by unfold DecoFits; exact inferInstance
example : DecoFits ⟨96, 54, 6, 9, 0, 6, 10, 1, 4, 1, fun _ => 0⟩ := by decide

theorem draw_decorations_src_eq_model (s : MonoTextStyle) (w : Nat) (pos : Pt) (target : List Call)
    (h : DecoFits s.font.f) :
    TextSrc.MonoTextStyle_draw_decorations s w pos target = target ++ s.font.f.drawDecorations s.st w pos := by
  obtain ⟨h1, h2⟩ := h
  unfold TextSrc.MonoTextStyle_draw_decorations MonoFont.drawDecorations
  simp only [text_prelude, effective_color_src_eq_model,
    get_bounding_box_src_eq_model ⟨s.font.f.stOff, s.font.f.stH⟩ _ _ h1,
    get_bounding_box_src_eq_model ⟨s.font.f.ulOff, s.font.f.ulH⟩ _ _ h2]
  cases s.st.strikethrough.effective s.st.textColor <;> cases s.st.underline.effective s.st.textColor <;> simp

/-- `character_size.width as i32` and `character_spacing as i32` do not wrap -/
def AdvanceFits (f : Font.MonoFont) : Prop := f.cw ≤ 2147483647 ∧ f.spacing ≤ 2147483647
instance (f : Font.MonoFont) : Decidable (AdvanceFits f) := by unfold AdvanceFits; exact inferInstance
example : AdvanceFits ⟨96, 54, 6, 9, 0, 6, 10, 1, 4, 1, fun _ => 0⟩ := by decide

/-- the captured variables of the `from_fn` closure of `line_elements` (`position`, `add_spacing`, `next_char`,
`chars`) for a state of the hand model's iterator (`rest` = `next_char` followed by `chars`) -/
def stOf (it : LineIt) : Pt × Bool × Option Nat × List Nat := (it.pos, it.addSpacing, it.rest.head?, it.rest.tail)

theorem line_elements_init (s : MonoTextStyle) (pos : Pt) (text : List Nat) :
    TextSrc.MonoTextStyle_line_elements s pos text =
      ⟨stOf (lineIt pos text), (TextSrc.MonoTextStyle_line_elements s pos text).step⟩ := rfl

/-- one call of the regenerated closure (the same whatever `pos0`, `text0` the iterator was made from) = one
`LineIt.next` of the hand model -/
theorem line_elements_step (s : MonoTextStyle) (pos0 : Pt) (text0 : List Nat) (it : LineIt)
    (h : AdvanceFits s.font.f) :
    (TextSrc.MonoTextStyle_line_elements s pos0 text0).step (stOf it) =
      (some (it.next s.font.f).1, stOf (it.next s.font.f).2) := by
  obtain ⟨h1, h2⟩ := h
  obtain ⟨pos, rest, sp⟩ := it
  unfold TextSrc.MonoTextStyle_line_elements stOf LineIt.next
  simp only [text_prelude, rect_prelude, h1, h2, ↓reduceIte]
  cases sp
  · cases rest with
    | nil => rfl
    | cons c cs => cases cs <;> rfl
  · rfl

/-- the body of the `for` loop of `draw_string_binary` as the translator writes it (`draw_string_binary_unfold`: by
`rfl`) -/
def loopBody (self : MonoTextStyle) : MonoFontDrawTarget → Pt × Elem → ForStep MonoFontDrawTarget (Pt × MonoFontDrawTarget) :=
  fun target (p, element) =>
      (match element with
        | LineElement.Char c =>
            let glyph := TextSrc.MonoFont_glyph (MonoTextStyle_font self) c
            let target := Image_draw (Image_new glyph p) target
            ForStep.next target
        | LineElement.Spacing =>
            if u32_gt (MonoFont_character_spacing (MonoTextStyle_font self)) (0 : Nat) then
              let target := (if option_is_some (MonoTextStyle_background_color self) then
                let target := MonoFontDrawTarget_fill_solid target (RectSrc.new p (RectSrc.Size_new (MonoFont_character_spacing (MonoTextStyle_font self)) (Size_height (MonoFont_character_size (MonoTextStyle_font self))))) BinaryColor.Off
                target
              else
                target)
              ForStep.next target
            else
              ForStep.next target
        | LineElement.Done =>
            ForStep.ret (p, target))

theorem draw_string_binary_unfold (fuel : Nat) (s : MonoTextStyle) (text : List Nat) (pos : Pt)
    (t : MonoFontDrawTarget) :
    TextSrc.MonoTextStyle_draw_string_binary fuel s text pos t =
      (match for_from_fn fuel (TextSrc.MonoTextStyle_line_elements s pos text) t (loopBody s) with
        | ForStep.ret r => r
        | ForStep.next t => (pos, t)) := rfl

theorem calls_nil (t : MonoFontDrawTarget) : MonoFontDrawTarget_calls t [] = t := by
  cases t; simp [MonoFontDrawTarget_calls]

theorem calls_calls (t : MonoFontDrawTarget) (a b : List BCall) :
    MonoFontDrawTarget_calls (MonoFontDrawTarget_calls t a) b = MonoFontDrawTarget_calls t (a ++ b) := by
  simp [MonoFontDrawTarget_calls, List.flatMap_append, List.append_assoc]

theorem loopBody_char (s : MonoTextStyle) (t : MonoFontDrawTarget) (p : Pt) (c : Nat) (hg : GlyphFits s.font.f c) :
    loopBody s t (p, Elem.char c) =
      ForStep.next (MonoFontDrawTarget_calls t (s.font.f.elemCalls s.font.atlas s.st.bgColor.isSome (p, Elem.char c))) := by
  have key : ∀ (m : TextSrcPrelude.MonoFont) (a : Rect),
      Image_draw (Image_new ⟨MonoFont_image m, a⟩ p) t = MonoFontDrawTarget_calls t
        (if m.f.areaDrawable a then [BCall.fillContiguous ⟨p, a.size⟩ (cellBits m.atlas a)] else []) :=
    fun _ _ => rfl
  unfold loopBody
  simp only [text_prelude, glyph_src_eq_model _ _ hg, key]
  rfl

theorem loopBody_spacing (s : MonoTextStyle) (t : MonoFontDrawTarget) (p : Pt) :
    loopBody s t (p, Elem.spacing) =
      ForStep.next (MonoFontDrawTarget_calls t (s.font.f.elemCalls s.font.atlas s.st.bgColor.isSome (p, Elem.spacing))) := by
  unfold loopBody
  simp only [text_prelude, rect_prelude, MonoFontDrawTarget_fill_solid, BinaryColor.Off, RectSrc.new, RectSrc.Size_new,
    MonoFont.elemCalls, decide_eq_true_eq]
  by_cases h1 : s.font.f.spacing > 0 <;> by_cases h2 : s.st.bgColor.isSome = true <;> simp [h1, h2, calls_nil]

theorem loopBody_done (s : MonoTextStyle) (t : MonoFontDrawTarget) (p : Pt) :
    loopBody s t (p, Elem.done) = ForStep.ret (p, t) := rfl

/-- the regenerated loop over the regenerated iterator, from any state of the hand model's iterator and with any
fuel: it returns at the first `Done` among the first `fuel` items of the hand model's iterator, with the hand model's
calls of those items appended to the target -/
theorem loop_src_eq_model (s : MonoTextStyle) (pos0 : Pt) (text0 : List Nat) (h : AdvanceFits s.font.f) :
    ∀ (n : Nat) (it : LineIt) (t : MonoFontDrawTarget), (∀ c ∈ it.rest, GlyphFits s.font.f c) →
      for_from_fn n ⟨stOf it, (TextSrc.MonoTextStyle_line_elements s pos0 text0).step⟩ t (loopBody s) =
        (match (it.toListFuel s.font.f n).find? (fun e => e.2 == Elem.done) with
          | some (p, _) => ForStep.ret (p, MonoFontDrawTarget_calls t
              ((it.toListFuel s.font.f n).flatMap (s.font.f.elemCalls s.font.atlas s.st.bgColor.isSome)))
          | none => ForStep.next (MonoFontDrawTarget_calls t
              ((it.toListFuel s.font.f n).flatMap (s.font.f.elemCalls s.font.atlas s.st.bgColor.isSome)))) := by
  intro n
  have e1 : (Elem.spacing == Elem.done) = false := by decide
  have e2 : ∀ c, (Elem.char c == Elem.done) = false := fun c => by simp
  induction n with
  | zero => intro it t _; simp [for_from_fn, LineIt.toListFuel, calls_nil]
  | succ n ih =>
    intro it t hg
    obtain ⟨pos, rest, sp⟩ := it
    unfold for_from_fn
    simp only [line_elements_step s pos0 text0 _ h]
    cases sp with
    | true =>
      have hi := ih ⟨⟨pos.x + (s.font.f.spacing : Int), pos.y⟩, rest, false⟩
        (MonoFontDrawTarget_calls t (s.font.f.elemCalls s.font.atlas s.st.bgColor.isSome (pos, Elem.spacing))) hg
      simp only [LineIt.next, ↓reduceIte, loopBody_spacing, LineIt.toListFuel, hi, List.find?_cons, List.flatMap_cons,
        calls_calls, e1]
    | false =>
      cases rest with
      | nil =>
        simp [LineIt.next, loopBody_done, LineIt.toListFuel, MonoFont.elemCalls, calls_nil]
      | cons c cs =>
        have hi := ih ⟨⟨pos.x + (s.font.f.cw : Int), pos.y⟩, cs, !cs.isEmpty⟩
          (MonoFontDrawTarget_calls t (s.font.f.elemCalls s.font.atlas s.st.bgColor.isSome (pos, Elem.char c)))
          (fun c' hc' => hg c' (List.mem_cons_of_mem _ hc'))
        simp only [LineIt.next, Bool.false_eq_true, ↓reduceIte, loopBody_char s t pos c (hg c List.mem_cons_self), LineIt.toListFuel, hi,
          List.find?_cons, List.flatMap_cons, calls_calls, e2]

/-- every character of the text designates a glyph whose index and cell origin the casts of `glyph` can carry -/
def GlyphsFit (f : Font.MonoFont) (text : List Nat) : Prop := ∀ c ∈ text, GlyphFits f c
instance (f : Font.MonoFont) (text : List Nat) : Decidable (GlyphsFit f text) := by unfold GlyphsFit; exact inferInstance
example : GlyphsFit ⟨96, 54, 6, 9, 0, 6, 10, 1, 4, 1, fun c => c - 32⟩ [72, 105, 33] := by decide

/-- `draw_string_binary` (with `line_elements`) = the hand model's `drawStringBinary`, for every fuel that covers the
`2 * len + 1` line elements. -/
theorem draw_string_binary_src_eq_model (fuel : Nat) (s : MonoTextStyle) (text : List Nat) (pos : Pt)
    (t : MonoFontDrawTarget) (hf : 2 * text.length + 1 ≤ fuel) (h : AdvanceFits s.font.f)
    (hg : GlyphsFit s.font.f text) :
    TextSrc.MonoTextStyle_draw_string_binary fuel s text pos t =
      ((s.font.f.drawStringBinary s.font.atlas s.st.bgColor.isSome text pos).2,
       MonoFontDrawTarget_calls t (s.font.f.drawStringBinary s.font.atlas s.st.bgColor.isSome text pos).1) := by
  rw [draw_string_binary_unfold, line_elements_init, loop_src_eq_model s pos text h fuel (lineIt pos text) t hg]
  unfold MonoFont.drawStringBinary
  have e1 : (lineIt pos text).toListFuel s.font.f fuel = lineElements s.font.f pos text := by
    rw [lineElements_eq_lineSpec]; exact toListFuel_eq_lineSpec s.font.f text pos fuel hf
  rw [e1]
  dsimp only
  cases (lineElements s.font.f pos text).find? (fun e => e.2 == Elem.done) with
  | none => rfl
  | some pe => obtain ⟨p, e⟩ := pe; rfl

theorem draw_whitespace_src_eq_model (s : MonoTextStyle) (w : Nat) (p : Pt) (bl : Font.Baseline) (target : List Call)
    (h : DecoFits s.font.f) :
    TextSrc.MonoTextStyle_TextRenderer_draw_whitespace s w p bl target =
      ((s.font.f.drawWhitespace s.st w p bl).2, target ++ (s.font.f.drawWhitespace s.st w p bl).1) := by
  unfold TextSrc.MonoTextStyle_TextRenderer_draw_whitespace MonoFont.drawWhitespace
  simp only [text_prelude, rect_prelude, baseline_offset_src_eq_model, draw_decorations_src_eq_model _ _ _ _ h,
    decide_eq_true_eq, RectSrc.Point_op_sub_Point, RectSrc.Point_op_add_Point, RectSrc.Point_new, RectSrc.new,
    RectSrc.Size_new, Int.sub_zero]
  by_cases hw : w = 0
  · simp [hw, satAsI32]
  · cases s.st.bgColor <;> simp [hw, satAsI32]

/-- a text of `n` characters is drawn without a cast wrapping -/
def DrawFits (f : Font.MonoFont) (n : Nat) : Prop :=
  n < 4294967296 ∧ (f.cw + f.spacing) * n ≤ 2147483647 ∧ DecoFits f
instance (f : Font.MonoFont) (n : Nat) : Decidable (DrawFits f n) := by unfold DrawFits; exact inferInstance
example : DrawFits ⟨96, 54, 6, 9, 0, 6, 10, 1, 4, 1, fun _ => 0⟩ 1000 := by decide

theorem DrawFits.mono {f : Font.MonoFont} {n m : Nat} (h : DrawFits f n) (hm : m ≤ n) : DrawFits f m := by
  obtain ⟨h1, h2, h3⟩ := h
  exact ⟨by omega, Nat.le_trans (Nat.mul_le_mul_left _ hm) h2, h3⟩

/-- the decoration step of `draw_string`: `width` is `next.x - position.x` when that is positive -/
theorem deco_step_src_eq_model (s : MonoTextStyle) (nx px : Int) (pos : Pt) (target : List Call)
    (h : DecoFits s.font.f) :
    (if i32_gt nx px then TextSrc.MonoTextStyle_draw_decorations s (i32_as_u32 (nx - px)) pos target else target) =
      target ++ (if nx > px then s.font.f.drawDecorations s.st (nx - px).toNat pos else []) := by
  simp only [i32_gt, decide_eq_true_eq]
  split
  · rename_i hgt
    rw [draw_decorations_src_eq_model _ _ _ _ h, i32_as_u32_of_nonneg (a := nx - px) (by omega)]
  · rw [List.append_nil]

theorem draw_string_src_eq_model (fuel : Nat) (s : MonoTextStyle) (text : List Nat) (p : Pt) (bl : Font.Baseline)
    (target : List Call) (hf : 2 * text.length + 1 ≤ fuel) (h : DrawFits s.font.f text.length)
    (ha : AdvanceFits s.font.f) (hg : GlyphsFit s.font.f text) :
    TextSrc.MonoTextStyle_TextRenderer_draw_string fuel s text p bl target =
      ((s.font.f.drawString s.font.atlas s.st text p bl).2,
       target ++ (s.font.f.drawString s.font.atlas s.st text p bl).1) := by
  obtain ⟨h1, h2, h3⟩ := h
  have hfit : FitsI32 (RectSrc.Size_new ((s.font.f.cw + s.font.f.spacing) * text.length) 0) := by
    unfold FitsI32 RectSrc.Size_new; simp only; omega
  unfold TextSrc.MonoTextStyle_TextRenderer_draw_string MonoFont.drawString
  simp only [text_prelude, baseline_offset_src_eq_model, deco_step_src_eq_model _ _ _ _ _ h3,
    draw_string_binary_src_eq_model fuel s text _ _ hf ha hg, MonoFontDrawTarget_calls, Nat.mod_eq_of_lt h1,
    Point_add_Size_src_eq_model _ _ hfit, u32_mul, u32_add, Size_width, Point_x, Point_y, Point_mk, i32_sub, i32_add,
    RectSrc.Point_op_sub_Point, RectSrc.Point_op_add_Point, RectSrc.Point_new, Int.sub_zero]
  cases s.st.textColor <;> cases s.st.bgColor <;>
    simp only [Option.isSome, RectSrc.Size_new, Int.natCast_zero, Int.add_zero, List.append_assoc]
  rfl

/-- the regenerated `index`: the first position of `c` among the mapped characters, else the replacement index -/
theorem src_index_spec (fuel : Nat) (m : StrGlyphMapping) (c : Nat) (h : m.data.length < fuel) :
    TextSrc.StrGlyphMapping_GlyphMapping_index fuel m c =
      if c ∈ TextSrc.StrGlyphMapping_chars fuel m then (TextSrc.StrGlyphMapping_chars fuel m).idxOf c
      else m.replacement_index := by
  rw [index_src_eq_model fuel m c h, chars_src_eq_model fuel m h]; exact C14.index_spec _ _

example : TextSrc.StrGlyphMapping_GlyphMapping_index 7 ⟨[0, 97, 102, 0, 49, 52], 0⟩ 50 = 7 := by decide

theorem src_index_of_unmapped (fuel : Nat) (m : StrGlyphMapping) (c : Nat) (hf : m.data.length < fuel)
    (h : c ∉ TextSrc.StrGlyphMapping_chars fuel m) :
    TextSrc.StrGlyphMapping_GlyphMapping_index fuel m c = m.replacement_index := by
  rw [chars_src_eq_model fuel m hf] at h
  rw [index_src_eq_model fuel m c hf]; exact C14.index_of_unmapped (mappingOf m) c h

theorem src_mapped_chars_own_index (fuel : Nat) (m : StrGlyphMapping) (c₁ c₂ : Nat) (hf : m.data.length < fuel)
    (h₁ : c₁ ∈ TextSrc.StrGlyphMapping_chars fuel m) (h₂ : c₂ ∈ TextSrc.StrGlyphMapping_chars fuel m)
    (h : TextSrc.StrGlyphMapping_GlyphMapping_index fuel m c₁ = TextSrc.StrGlyphMapping_GlyphMapping_index fuel m c₂) :
    c₁ = c₂ := by
  rw [chars_src_eq_model fuel m hf] at h₁ h₂
  rw [index_src_eq_model fuel m _ hf, index_src_eq_model fuel m _ hf] at h
  exact C14.mapped_chars_own_index (mappingOf m) c₁ c₂ h₁ h₂ h

theorem src_contains_iff (fuel : Nat) (m : StrGlyphMapping) (c : Nat) (hf : m.data.length < fuel) :
    TextSrc.StrGlyphMapping_contains fuel m c = true ↔ c ∈ TextSrc.StrGlyphMapping_chars fuel m := by
  rw [contains_src_eq_model fuel m c hf, chars_src_eq_model fuel m hf]
  unfold StrMapping.contains
  simp [List.any_eq_true]

/-- the cell the regenerated `glyph` cuts out of the atlas: glyph `index(c)` counted row-major, `glyphs_per_row =
image width / cw` per row, each cell `cw x ch` -/
theorem src_glyph_cell (m : TextSrcPrelude.MonoFont) (c : Nat) (h : GlyphFits m.f c) (hcw : 0 < m.f.cw)
    (hw : m.f.cw ≤ m.f.imgW) :
    (TextSrc.MonoFont_glyph m c).area =
      ⟨⟨(((m.f.index c - m.f.index c / (m.f.imgW / m.f.cw) * (m.f.imgW / m.f.cw)) * m.f.cw : Nat) : Int),
        ((m.f.index c / (m.f.imgW / m.f.cw) * m.f.ch : Nat) : Int)⟩, ⟨m.f.cw, m.f.ch⟩⟩ := by
  rw [glyph_src_eq_model m c h]
  unfold MonoFont.glyphArea MonoFont.glyphAreaOfIndex
  rw [if_neg (by omega)]

/-- a glyph index below `glyphs_per_row * rows`: the cell of the regenerated `glyph` lies inside the font image -/
theorem src_cell_inside_image (m : TextSrcPrelude.MonoFont) (c : Nat) (h : GlyphFits m.f c) (hcw : 0 < m.f.cw)
    (hch : 0 < m.f.ch) (hlt : m.f.index c < (m.f.imgW / m.f.cw) * (m.f.imgH / m.f.ch)) :
    m.f.areaDrawable (TextSrc.MonoFont_glyph m c).area = true := by
  rw [glyph_src_eq_model m c h]
  exact C14.cell_inside_image m.f (m.f.index c) hcw hch hlt

/-- different glyph indices, different cells (regenerated `glyph`) -/
theorem src_cells_distinct (m : TextSrcPrelude.MonoFont) (c₁ c₂ : Nat) (h₁ : GlyphFits m.f c₁) (h₂ : GlyphFits m.f c₂)
    (hcw : 0 < m.f.cw) (hch : 0 < m.f.ch) (hw : m.f.cw ≤ m.f.imgW)
    (h : (TextSrc.MonoFont_glyph m c₁).area = (TextSrc.MonoFont_glyph m c₂).area) : m.f.index c₁ = m.f.index c₂ := by
  rw [glyph_src_eq_model m c₁ h₁, glyph_src_eq_model m c₂ h₂] at h
  exact C14.cells_distinct m.f _ _ hcw hch hw h

/-- Without the guard the two DO differ: a glyph index of 2^32 is truncated by `as u32`. -/
theorem glyph_differs_without_guard :
    (TextSrc.MonoFont_glyph ⟨⟨8, 8, 4, 4, 0, 0, 0, 0, 0, 0, fun _ => 4294967296⟩, fun _ => false⟩ 65).area
      ≠ (⟨8, 8, 4, 4, 0, 0, 0, 0, 0, 0, fun _ => 4294967296⟩ : Font.MonoFont).glyphArea 65 := by
  decide

end EG.C14.Src
