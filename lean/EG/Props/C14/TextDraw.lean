/-
  C14 (glue to C15) — `Text::draw` of a one-line text IS `draw_string`.

  src/text/text.rs: `Text::draw` runs `character_style.draw_string(line, position, baseline, target)?`
  for every `(line, position)` of `lines()` (`text.split('\n')`, one trailing `'\r'` stripped, the
  position moved by the alignment) and returns what the last call returned. The model
  (`TextLayout.draw`, EG/Model/TextLayout.lean) follows it arm for arm; the glyph run model is
  `Font.MonoFont.drawString` (EG/Model/Font.lean), the subject of C14's theorems.
  Here: for a text without `'\n'` the call list and the returned point of `Text::draw` are exactly
  those of ONE `draw_string` of the `'\r'`-stripped text at the aligned position; for
  `Alignment::Left` and a text that does not end in `'\r'` that is `draw_string(text, position,
  baseline)` itself, whatever the baseline, the line height and the character style - so every
  C14 theorem about `drawString` is a theorem about `Text::new(..).draw(..)` of such a text.
  The multi-line form (the call list is the concatenation of the `draw_string` call lists of the
  lines at the positions `lines()` gives, the returned point that of the last line) is
  `multiline_eq_lines` / `text_draw_returns_last_line` in Props/C15.lean; `text_draw_eq_draw_strings` at the end of
  this file states both for any number of lines and any alignment.
-/
import EG.Lemmas.TextLayoutLines
namespace EG.C14.TextDraw
open EG EG.Font EG.TextLayout

/-- **A text without `'\n'`: `Text::draw` = one `draw_string`** of the text without its trailing
`'\r'` (if any) at the aligned position - same target calls, same returned point; every alignment,
baseline, line height and character style. -/
theorem text_draw_single_line (f : MonoFont) (atlas : Pt → Bool) (t : Text) (h : 10 ∉ t.text) :
    draw f atlas t =
      f.drawString atlas t.style (stripCR t.text)
        (alignedPos f t.style t.ts (stripCR t.text) t.position) t.ts.baseline :=
  draw_single f atlas t h
example : (10 : Nat) ∉ ([72, 105, 13] : List Nat) := by decide

/-- **`Text::draw` of a single-line, left-aligned text equals `draw_string`** at the text's position
with the text style's baseline: the same call list and the same returned position, for every
baseline, line height, character style and font. -/
theorem text_draw_left_single_line_eq_draw_string (f : MonoFont) (atlas : Pt → Bool) (t : Text)
    (hnl : 10 ∉ t.text) (hcr : t.text.getLast? ≠ some 13) (hal : t.ts.alignment = .left) :
    draw f atlas t = f.drawString atlas t.style t.text t.position t.ts.baseline := by
  rw [text_draw_single_line f atlas t hnl, stripCR_of_not_cr t.text hcr]
  unfold alignedPos
  rw [hal]
example : (10 : Nat) ∉ ([72, 105, 33] : List Nat) ∧ ([72, 105, 33] : List Nat).getLast? ≠ some 13 ∧
    (⟨.left, .bottom, .pixels 7⟩ : TextStyle).alignment = .left := by decide

/-- The same for the text API's usual constructor `Text::new(text, position, style)` (default text
style: left aligned, alphabetic baseline, line height 100 %) when the text contains neither `'\n'`
nor `'\r'`. -/
theorem text_new_draw_eq_draw_string (f : MonoFont) (atlas : Pt → Bool) (text : List Nat) (p : Pt)
    (st : Style) (hnl : 10 ∉ text) (hcr : 13 ∉ text) :
    draw f atlas ⟨text, p, st, TextStyle.default⟩ = f.drawString atlas st text p .alphabetic := by
  have hl : text.getLast? ≠ some 13 := by
    intro e
    exact hcr (List.mem_of_getLast? e)
  exact text_draw_left_single_line_eq_draw_string f atlas ⟨text, p, st, TextStyle.default⟩ hnl hl rfl
example : (10 : Nat) ∉ ([72, 105, 33] : List Nat) ∧ (13 : Nat) ∉ ([72, 105, 33] : List Nat) := by decide

/-- **General form (any number of lines, any alignment)**: the call list of `Text::draw` is the
concatenation, in order, of the `draw_string` call lists of the lines of `lines()` at the positions
`lines()` gives (C15: `lines_positions`, `align_*`), and the returned point is what `draw_string`
returned for the last line. -/
theorem text_draw_eq_draw_strings (f : MonoFont) (atlas : Pt → Bool) (t : Text) :
    (draw f atlas t).1 =
        (lines f t).flatMap (fun lp => (f.drawString atlas t.style lp.1 lp.2 t.ts.baseline).1) ∧
      ∃ lp, (lines f t).getLast? = some lp ∧
        (draw f atlas t).2 = (f.drawString atlas t.style lp.1 lp.2 t.ts.baseline).2 :=
  ⟨draw_calls f atlas t, draw_next f atlas t⟩

end EG.C14.TextDraw
