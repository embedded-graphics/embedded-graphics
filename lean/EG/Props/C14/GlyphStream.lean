/-
  C14 / glyph stream — the colour stream handed to `fill_contiguous` for a glyph is exactly the
  cell's `w * h` atlas bits.

  The font model (`EG.Model.Font`, C14) postulates the stream of a glyph as `cellBits atlas cell`; the
  real glyph is
  `SubImage::new_unchecked(&font.image, cell)` of the one-bit `ImageRaw<BinaryColor>` atlas (default
  data order `LittleEndianMsb0`, src/mono_font/mod.rs) drawn by `Image::new(&glyph, p).draw(..)`,
  i.e. through `ImageRaw::draw_sub_image` and the `ContiguousPixels` iterator, which the image model
  (`EG.Model.ImageRaw`, C09) transcribes. Here the two models are combined: with
  `atlas p := (image.pixel(p) == Some(On))`, C09's call list for the glyph IS the font model's
  `glyphCalls` (colours as raw values 0 / 1): same guard, same box, same stream, `cw * ch` items —
  for every one-bit image (either data order), every font geometry and glyph index, and in
  particular for all 292 built-in fonts with ANY atlas bytes of the file's length.

  -- [V] the atlas bitmap content itself (which bits are on in the 292 raw files) stays a parameter (`data`); `BinaryColor::from(RawU1)` (on iff the bit is set) is C12's topic: carried by correspondence + oracle only
-/
import EG.Lemmas.GlueFontImage
import EG.Lemmas.FontPixels
import EG.Lemmas.FontTables
import EG.Props.C09
namespace EG.C14.GlyphStream
open EG EG.Raw EG.Img EG.Font EG.Generated EG.Glue

/-- The font `f` reads its glyphs from the image `im`: a one-bit image of the size the font states. -/
structure ReadsAtlas (f : MonoFont) (im : ImageRaw) : Prop where
  wf : im.WF
  oneBit : im.bits = 1
  w : f.imgW = im.size.w
  h : f.imgH = im.size.h

/-- `MonoFont::glyph(c)` as a C09 drawable: `SubImage::new_unchecked(&self.image, area)`. -/
def glyphDrawable (f : MonoFont) (im : ImageRaw) (c : Nat) : Drawable := .sub (.raw im) (f.glyphArea c)

/-- The font model's guard is the guard of C09's `draw_sub_image`. -/
theorem area_drawable_iff_accepts (f : MonoFont) (im : ImageRaw) (hw : f.imgW = im.size.w)
    (hh : f.imgH = im.size.h) (a : Rect) : f.areaDrawable a = true ↔ im.Accepts a := by
  rw [areaDrawable_iff]; unfold ImageRaw.Accepts; rw [hw, hh]
  -- the two guards differ only in comparing the non-negative corner as `Nat` or as `Int`
  refine and_congr_right fun _ => and_congr_right fun _ => and_congr_right fun hx => and_congr_right fun hy => ?_
  rw [← Int.toNat_of_nonneg hx, ← Int.toNat_of_nonneg hy]
  simp only [Int.toNat_natCast, ← Int.natCast_add, Int.ofNat_le]
example : (⟨64, 36, 4, 6, 0, 4, 6, 1, 3, 1, fun _ => 0⟩ : MonoFont).imgW =
    (⟨1, .le, List.replicate 288 0, ⟨64, 36⟩⟩ : ImageRaw).size.w := rfl

/-- **`glyph_stream`**: for a well-formed one-bit image whose `pixel` function is the font model's
atlas, the C09 sub-image stream of an accepted area (in particular a glyph cell inside the image)
equals the font model's `cellBits` for that area: row-major, exactly `w * h` items. -/
theorem glyph_stream (im : ImageRaw) (hw : im.WF) (h1 : im.bits = 1) (a : Rect) (ha : im.Accepts a) :
    im.drawSubImage a =
        [Call.fillContiguous ⟨Pt.zero, a.size⟩ ((cellBits (atlasOf im) a).map bitColor)] ∧
      (cellBits (atlasOf im) a).length = a.size.w * a.size.h := by
  obtain ⟨cs, hcall, hcs, hlen⟩ := ImageRaw.drawSubImage_accept hw ha
  obtain ⟨h0w, h0h, hx, hy, hxw, hyh⟩ := ha
  have hwI := hw.wI32
  have hhI := hw.hI32
  have hcs2 : cs.map some = ((cellBits (atlasOf im) a).map bitColor).map some := by
    rw [hcs, Rect.pointsSpec_range (originRect_inRange (by omega) (by omega))]
    unfold cellBits
    simp only [List.map_flatMap, List.map_map]
    apply flatMap_congr_left
    intro r hr
    apply List.map_congr_left
    intro c hc
    rw [List.mem_range] at hr hc
    simp only [Function.comp, Pt.zero, Int.zero_add]
    have hin : im.boundingBox.contains (a.tl + ⟨(c : Int), (r : Int)⟩) = true := by
      rw [ImageRaw.contains_boundingBox]
      simp only [Pt.add_x, Pt.add_y]
      omega
    rw [pixel_eq_bitColor hw h1 hin]
    rfl
  have hinj : cs = (cellBits (atlasOf im) a).map bitColor :=
    (List.map_inj_right (fun _ _ h => Option.some.inj h)).mp hcs2
  refine ⟨by rw [hcall, hinj], ?_⟩
  rw [← hlen, hinj, List.length_map]
example : exIm.WF ∧ exIm.bits = 1 ∧ exIm.Accepts ⟨⟨6, 1⟩, ⟨3, 2⟩⟩ := ⟨exIm_wf, rfl, by decide⟩
example : (cellBits (atlasOf exIm) ⟨⟨6, 1⟩, ⟨3, 2⟩⟩).map bitColor = [0, 1, 1, 1, 0, 1] := by decide

/-- **The two models issue the same calls for a glyph**: drawing `Image::new(&font.glyph(c), p)` in
the image model (C09: `SubImage::draw` -> `draw_sub_image` on the translated target ->
`ContiguousPixels`) yields exactly the call list `glyphCalls` the font model (C14) postulates —
one `fill_contiguous(⟨p, cell size⟩, cellBits)` when the cell lies inside the image, nothing
otherwise. Every font geometry, every mapping, every character, every position. -/
theorem glyph_draw_eq_font_model (f : MonoFont) (im : ImageRaw) (hf : ReadsAtlas f im) (c : Nat) (p : Pt) :
    (Image.new (glyphDrawable f im c) p).draw = (f.glyphCalls (atlasOf im) c p).map bcallToCall := by
  unfold MonoFont.glyphCalls
  simp only [Image.draw, Image.new, glyphDrawable, Drawable.draw, Drawable.drawSubImage]
  by_cases hd : f.areaDrawable (f.glyphArea c) = true
  · have ha := (area_drawable_iff_accepts f im hf.w hf.h _).mp hd
    rw [(glyph_stream im hf.wf hf.oneBit _ ha).1]
    simp only [hd, ↓reduceIte, List.map_cons, List.map_nil, translatedCall, bcallToCall, Rect.translate,
      Pt.zero_add']
  · have ha : ¬ im.Accepts (f.glyphArea c) := fun h => hd ((area_drawable_iff_accepts f im hf.w hf.h _).mpr h)
    rw [ImageRaw.drawSubImage_reject ha]
    simp only [hd, Bool.false_eq_true, ↓reduceIte, List.map_nil]
example : ReadsAtlas ⟨9, 3, 3, 3, 0, 2, 3, 1, 1, 1, fun c => c⟩ exIm := ⟨exIm_wf, rfl, rfl, rfl⟩

/-- The stream of a glyph whose cell lies inside the image (C14's `cell_inside_image`) has exactly
`cw * ch` items and the call's box is the cell's size placed at `p`. -/
theorem glyph_stream_of_index (f : MonoFont) (im : ImageRaw) (hf : ReadsAtlas f im) (c : Nat) (p : Pt)
    (hcw : 0 < f.cw) (hch : 0 < f.ch) (h : f.index c < (f.imgW / f.cw) * (f.imgH / f.ch)) :
    (Image.new (glyphDrawable f im c) p).draw =
        [Call.fillContiguous ⟨p, ⟨f.cw, f.ch⟩⟩ ((cellBits (atlasOf im) (f.glyphArea c)).map bitColor)] ∧
      (cellBits (atlasOf im) (f.glyphArea c)).length = f.cw * f.ch := by
  have hd : f.areaDrawable (f.glyphArea c) = true := EG.Font.cell_inside_of_lt f _ h
  have ha := (area_drawable_iff_accepts f im hf.w hf.h _).mp hd
  have hsz := glyphArea_size_of_drawable f c hd
  rw [glyph_draw_eq_font_model f im hf c p]
  unfold MonoFont.glyphCalls
  simp only [hd, ↓reduceIte, List.map_cons, List.map_nil, bcallToCall, hsz]
  refine ⟨trivial, ?_⟩
  rw [(glyph_stream im hf.wf hf.oneBit _ ha).2, hsz]
example : (0 : Nat) < 3 ∧ (fun c : Nat => c) 2 < (9 / 3) * (3 / 3) := by decide

/-- Size facts of the generated table the image model needs ([F]): image sizes survive `as i32`, the
atlas file is far below `usize::MAX / 8` bytes. -/
theorem builtin_atlas_sizes : ∀ r ∈ fontTable,
    r.imgW ≤ 2147483647 ∧ r.imgH ≤ 2147483647 ∧ r.rawLen * 8 ≤ usizeMax := by decide +kernel

/-- The atlas image of a built-in font over its file content `data` (`ImageRaw::new(include_bytes!(..),
width)` in the `mono_font` modules: one bit per pixel, default order). -/
def atlasImage (r : FontRec) (data : List Nat) : ImageRaw := ⟨1, .le, data, ⟨r.imgW, r.imgH⟩⟩

/-- For every built-in font and ANY file content of the file's length the atlas is a well-formed
image that the font reads (`ImageRaw::new` accepts it). -/
theorem builtin_reads_atlas (r : FontRec) (hr : r ∈ fontTable) (data : List Nat)
    (hl : data.length = r.rawLen) : ReadsAtlas (fontOfRec r) (atlasImage r data) := by
  obtain ⟨_, _, _, _, hlen⟩ := fontTable_ok r hr
  obtain ⟨hW, hH, hU⟩ := builtin_atlas_sizes r hr
  refine ⟨⟨(rfl : validBits 1 = true), ?_, hW, hH, ?_⟩, rfl, rfl, rfl⟩
  · show data.length = Img.bytesPerRow r.imgW 1 * r.imgH
    rw [hl, hlen]; unfold Img.bytesPerRow; simp only [Nat.mul_one]
  · show pixelCount 1 data.length ≤ usizeMax
    rw [hl]
    show r.rawLen * 8 ≤ usizeMax
    exact hU
example : ∃ r ∈ fontTable, ∃ data : List Nat, data.length = r.rawLen := by
  obtain ⟨r, hr⟩ := List.exists_mem_of_length_pos (l := fontTable) (by rw [fontTable_length]; decide)
  exact ⟨r, hr, List.replicate r.rawLen 0xA5, List.length_replicate ..⟩

/-- **Built-in fonts**: for every one of the 292 fonts, ANY atlas bytes of the file's length, EVERY
character (mapped or not) and every position, drawing the glyph in the image model issues exactly
one `fill_contiguous` whose box is the character cell placed at `p` and whose colour stream is the
cell's atlas bits row-major (`cellBits`, as raw values), exactly `cw * ch` of them — what the font
model takes as given. -/
theorem builtin_glyph_stream (r : FontRec) (hr : r ∈ fontTable) (data : List Nat)
    (hl : data.length = r.rawLen) (c : Nat) (p : Pt) :
    (Image.new (glyphDrawable (fontOfRec r) (atlasImage r data) c) p).draw =
        ((fontOfRec r).glyphCalls (atlasOf (atlasImage r data)) c p).map bcallToCall ∧
      (fontOfRec r).glyphCalls (atlasOf (atlasImage r data)) c p =
        [BCall.fillContiguous ⟨p, ((fontOfRec r).glyphArea c).size⟩
          (cellBits (atlasOf (atlasImage r data)) ((fontOfRec r).glyphArea c))] ∧
      ((fontOfRec r).glyphArea c).size = ⟨r.cw, r.ch⟩ ∧
      (cellBits (atlasOf (atlasImage r data)) ((fontOfRec r).glyphArea c)).length = r.cw * r.ch := by
  have hf := builtin_reads_atlas r hr data hl
  have hd := builtin_glyph_drawable r hr c
  have ha := (area_drawable_iff_accepts _ _ hf.w hf.h _).mp hd
  have hsz : ((fontOfRec r).glyphArea c).size = ⟨r.cw, r.ch⟩ := glyphArea_size_of_drawable _ c hd
  refine ⟨glyph_draw_eq_font_model _ _ hf c p, ?_, hsz, ?_⟩
  · unfold MonoFont.glyphCalls; simp only [hd, ↓reduceIte]
  · rw [(glyph_stream _ hf.wf hf.oneBit _ ha).2, hsz]

end EG.C14.GlyphStream
