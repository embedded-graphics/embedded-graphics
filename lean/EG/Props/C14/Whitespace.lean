/-
  C14 / draw_whitespace — `<MonoTextStyle as TextRenderer>::draw_whitespace(width, position, baseline)`:
  a background rectangle `width x character height` at the top of the glyph row (if a background
  colour is set), then the decorations (strikethrough, underline) over the given width; nothing for
  width 0; returns the position advanced by `width`.

  The model is `MonoFont.drawWhitespace` (EG/Model/Font.lean); the picture vocabulary is that of
  EG/Lemmas/PMap.lean (`lw`: last write of a call list on a native target; `decoAt`: what one solid rectangle adds),
  the decorations in it are `lw_drawDecorations` of EG/Lemmas/FontText.lean.
  Hypotheses: the three rectangles fit into `i32` coordinates (`DecoInRange`, `Rect.InRange`: beyond
  that `Rectangle::points` saturates, C08's topic).
-/
import EG.Props.C14
namespace EG.C14.Whitespace
open EG EG.Tgt EG.Font EG.Glue

/-- The top-left corner of the glyph row for a position given relative to baseline `bl`. -/
def rowPos (f : MonoFont) (position : Pt) (bl : Baseline) : Pt :=
  ⟨position.x, position.y - f.baselineOffset bl⟩

/-- The background rectangle of a whitespace of the given width. -/
def bgRect (f : MonoFont) (position : Pt) (bl : Baseline) (width : Nat) : Rect :=
  ⟨rowPos f position bl, ⟨width, f.ch⟩⟩

/-- **Calls**: for a non-zero width one `fill_solid` of the `width x ch` box with the background
colour (if set), then the decoration calls of `draw_string` over exactly `width` columns from the
same corner; no call at all for width 0 (whatever the style). -/
theorem draw_whitespace_calls (f : MonoFont) (st : Style) (width : Nat) (position : Pt) (bl : Baseline) :
    (f.drawWhitespace st width position bl).1 =
      if width = 0 then [] else
        (match st.bgColor with
         | some bc => [Call.fillSolid (bgRect f position bl width) bc]
         | none => []) ++ f.drawDecorations st width (rowPos f position bl) := by
  unfold MonoFont.drawWhitespace bgRect rowPos
  by_cases h : width = 0
  · simp [h]
  · simp only [ne_eq, h, not_false_eq_true, ↓reduceIte]
    cases st.bgColor <;> rfl

/-- **Returned position**: advanced by `width` (saturated to `i32`) in x, same y as given. -/
theorem draw_whitespace_next (f : MonoFont) (st : Style) (width : Nat) (position : Pt) (bl : Baseline) :
    (f.drawWhitespace st width position bl).2 = ⟨position.x + satAsI32 width, position.y⟩ := by
  unfold MonoFont.drawWhitespace
  rw [Pt.ext_iff']
  simp only
  exact ⟨trivial, by omega⟩

/-- Whitespace of width 0 draws nothing and returns the position unchanged. -/
theorem draw_whitespace_zero (f : MonoFont) (st : Style) (position : Pt) (bl : Baseline) :
    f.drawWhitespace st 0 position bl = ([], position) := by
  rw [Prod.ext_iff]
  refine ⟨by rw [draw_whitespace_calls]; simp, ?_⟩
  rw [draw_whitespace_next, Pt.ext_iff']; simp [satAsI32]

/-- **Picture** (native-fill target, any box `B`): a point gets the underline colour if it lies in
the underline rectangle over the given width, else the strikethrough colour if it lies in the
strikethrough rectangle, else the background colour if it lies in the `width x ch` box, else it is
untouched. (Each colour only if the style has it; `TextColor` decorations need a text colour.) -/
theorem draw_whitespace_pixels (f : MonoFont) (st : Style) (width : Nat) (position : Pt) (bl : Baseline)
    (hd : DecoInRange f (rowPos f position bl) width) (hb : (bgRect f position bl width).InRange)
    (B : Rect) (q : Pt) :
    runNative B (f.drawWhitespace st width position bl).1 q =
      ((decoAt B (st.underline.effective st.textColor)
          (decoRect f.ulOff f.ulH (rowPos f position bl) width) q).or
        (decoAt B (st.strikethrough.effective st.textColor)
          (decoRect f.stOff f.stH (rowPos f position bl) width) q)).or
        (decoAt B st.bgColor (bgRect f position bl width) q) := by
  rw [runNative_eq_lw, draw_whitespace_calls]
  by_cases h0 : width = 0
  · subst h0
    have empty : ∀ r : Rect, r.size.w = 0 → ¬ r.contains q = true := fun r hr => by
      rw [Rect.contains_iff]; omega
    rw [if_pos rfl, lw_nil, decoAt_none B _ (empty _ rfl), decoAt_none B _ (empty _ rfl),
      decoAt_none B _ (empty _ rfl)]
    rfl
  · simp only [h0, ↓reduceIte]
    rw [lw_append, lw_drawDecorations B f st width _ hd]
    congr 1
    cases st.bgColor with
    | none => rfl
    | some c => exact lw_fillSolid _ _ _ hb q
example : DecoInRange (⟨64, 36, 4, 6, 0, 4, 6, 1, 3, 1, fun _ => 0⟩ : MonoFont)
      (rowPos ⟨64, 36, 4, 6, 0, 4, 6, 1, 3, 1, fun _ => 0⟩ ⟨-3, 10⟩ .alphabetic) 9 ∧
    (bgRect (⟨64, 36, 4, 6, 0, 4, 6, 1, 3, 1, fun _ => 0⟩ : MonoFont) ⟨-3, 10⟩ .alphabetic 9).InRange := by
  decide

/-- The same on a target that implements `draw_iter` only. -/
theorem draw_whitespace_pixels_default (f : MonoFont) (st : Style) (width : Nat) (position : Pt)
    (bl : Baseline) (B : Rect) (q : Pt) :
    runDefault B (f.drawWhitespace st width position bl).1 q =
      runNative B (f.drawWhitespace st width position bl).1 q := by
  rw [Tgt.runDefault_eq_runNative]

/-- **Background over the given width**: with a background colour and no decorations every point of
the `width x ch` box inside the target gets the background colour and no other point is touched. -/
theorem draw_whitespace_background (f : MonoFont) (tc : Option Color) (bc : Color) (width : Nat)
    (position : Pt) (bl : Baseline) (hd : DecoInRange f (rowPos f position bl) width)
    (hb : (bgRect f position bl width).InRange) (B : Rect) (q : Pt) :
    runNative B (f.drawWhitespace ⟨tc, some bc, .none, .none⟩ width position bl).1 q =
      if (bgRect f position bl width).contains q = true ∧ B.contains q = true then some bc else none := by
  rw [draw_whitespace_pixels f _ width position bl hd hb B q]
  simp only [DecoColor.effective, decoAt, Option.or_none, Option.none_or]

/-- **Decorations cover the full width**: every point of the underline rectangle over the given
width (inside the target) gets the underline colour. -/
theorem draw_whitespace_underline_covers (f : MonoFont) (st : Style) (width : Nat) (position : Pt)
    (bl : Baseline) (hd : DecoInRange f (rowPos f position bl) width)
    (hb : (bgRect f position bl width).InRange) (B : Rect) (q : Pt) (c : Color)
    (hu : st.underline.effective st.textColor = some c)
    (hq : (decoRect f.ulOff f.ulH (rowPos f position bl) width).contains q = true)
    (hB : B.contains q = true) :
    runNative B (f.drawWhitespace st width position bl).1 q = some c := by
  rw [draw_whitespace_pixels f st width position bl hd hb B q, hu]
  simp only [decoAt, hq, hB, and_self, ↓reduceIte, Option.some_or]
example : (⟨some 5, none, .textColor, .none⟩ : Style).underline.effective (some 5) = some 5 ∧
    (decoRect 6 1 (rowPos ⟨64, 36, 4, 6, 0, 4, 6, 1, 3, 1, fun _ => 0⟩ ⟨-3, 10⟩ .alphabetic) 9).contains
      ⟨5, 12⟩ = true := by decide

/-- A whitespace of the width of `n` character cells continues a text: its background box and
decoration rectangles are those `draw_string` uses for `n` characters of a font without spacing
(same corner, same width, same rows) — so text, whitespace, text chain like text
(`EG.C15.ChainPicture`). -/
theorem draw_whitespace_like_text_decorations (f : MonoFont) (st : Style) (n : Nat) (position : Pt)
    (bl : Baseline) (hn : 0 < n * f.cw) :
    (f.drawWhitespace st (n * f.cw) position bl).1 =
      (match st.bgColor with
       | some bc => [Call.fillSolid ⟨rowPos f position bl, ⟨n * f.cw, f.ch⟩⟩ bc]
       | none => []) ++ f.drawDecorations st (n * f.cw) (rowPos f position bl) := by
  rw [draw_whitespace_calls, if_neg (by omega)]; rfl
example : 0 < 3 * (⟨64, 36, 4, 6, 0, 4, 6, 1, 3, 1, fun _ => 0⟩ : MonoFont).cw := by decide

end EG.C14.Whitespace
