/-
  C17 — stroked lines, the geometric sub-claims of the second sentence of the property, stated with
  EXACTLY the metrics of the harness oracle (header of harness/src/m_thick.rs), about the model
  `Thick.thickPoints l w` (= the points of
  `Line::new(s, e).into_styled(PrimitiveStyle::with_stroke(c, w)).pixels()`; EG/Model/ThickLine.lean;
  `thick_points_total` in EG/Props/C17.lean: the model yields a list for every line and width).

  Metrics (integers): s = start, (dx, dy) = `strokeDir l` = end - start, or (1, 0) for a zero-length
  line (the direction the code strokes it in), L2 = dx^2 + dy^2, and for a pixel p, v = p - s:
      dot(p)   = dx v.x + dy v.y        (L * position of the projection of p along the segment)
      cross(p) = dx v.y - dy v.x        (L * signed perpendicular distance from the ideal line)
  These are the definitions `strokeDir`, `dot`, `cross`, `L2`, `majorLen` (= max(|dx|, |dy|)) of
  EG/Lemmas/ThickGeoMetric.lean (namespace `EG.C17.Stroke`).

  How the proofs go (lemma family EG/Lemmas/ThickGeo{Frame,Bres,Side,Run,Main}.lean): a parallel
  started at `P` with initial error `e` is exactly the set of lattice points of the half-open BAND
  `-D < e + ph(q) - ph(P) <= D` (`ph = -+2 cross`, `D = max(|dx|,|dy|)`) in `D + 1` (extra parallel:
  `D`) consecutive columns of the major axis. The phase logic of `next_parallel` (the parallel error
  handed to each parallel, `flip`, `mirror_extra_points`, the error returned for an `Extra`
  parallel) keeps the invariant "a parallel started at the side's perpendicular walker with the
  side's current error is the NEXT band of height 2 D": the bands of the parallels are
  `tau n`, `n = 0, -1, -2, ..` (right; 0 = centre line) and `n = 1, 2, ..` (left), `tau = +-2 D` -
  they tile the plane, whether `Extra` steps are returned or skipped. The walker's own Bresenham
  error is twice its `dot`, so a `Normal` parallel starts within `D/2` of the perpendicular through
  `start` and an `Extra` one between `D/2` and `D/2 + min(|dx|,|dy|)` ahead of it.
-/
import EG.Lemmas.ThickGeoMetric
import EG.Lemmas.ThickGeoHole
import EG.Lemmas.ThickGeoBandMetric
import EG.Lemmas.ThickGeoMid
import EG.Lemmas.ThickGeoDiscount
import EG.Lemmas.ThickTotal
namespace EG.C17.Stroke
open EG

/-- **A stroked line yields no pixel twice** (oracle class `C17:thick-duplicate`): the pixel
sequence of `pixels()` has no duplicates, for every line (zero length included) and every width. -/
theorem thick_no_pixel_twice (l : Line) (w : Nat) (ps : List Pt)
    (h : Thick.thickPoints l w = some ps) : ps.Nodup :=
  Thick.thickPoints_nodup l w ps h

example : (Thick.thickPoints ⟨⟨2, 2⟩, ⟨6, 4⟩⟩ 3).map (·.length) = some 19 := by decide

/-- Unconditional form. -/
theorem thick_no_pixel_twice_total (l : Line) (w : Nat) :
    ∃ ps, Thick.thickPoints l w = some ps ∧ ps.Nodup := by
  obtain ⟨ps, h⟩ := Thick.thickPoints_total l w
  exact ⟨ps, h, thick_no_pixel_twice l w ps h⟩

/-- Every pixel of a stroked line projects onto the segment or at most HALF A MAJOR STEP beyond
either end: `-max(|dx|,|dy|) <= 2 dot(p)` and `2 (dot(p) - L2) <= max(|dx|,|dy|)` (in pixels:
at most `max(|dx|,|dy|) / (2 L) <= 1/2` beyond an end). -/
theorem thick_ends_half_major_step (l : Line) (w : Nat) (ps : List Pt)
    (h : Thick.thickPoints l w = some ps) (p : Pt) (hp : p ∈ ps) :
    -majorLen l ≤ 2 * dot l p ∧ 2 * (dot l p - L2 l) ≤ majorLen l := by
  have := Thick.thickPoints_dt_bounds l w ps h p hp
  rw [dot_eq, L2_eq, majorLen_eq]
  omega

theorem thick_width3_reaches_7_2 : (⟨7, 2⟩ : Pt) ∈ (Thick.thickPoints ⟨⟨2, 2⟩, ⟨6, 4⟩⟩ 3).getD [] := by decide
example : (⟨7, 2⟩ : Pt) ∈ (Thick.thickPoints ⟨⟨2, 2⟩, ⟨6, 4⟩⟩ 3).getD [] := thick_width3_reaches_7_2

/-- **A stroked line stays within one pixel of the segment's two ends** (oracle class
`C17:thick-ends`, its exact predicate): for every pixel `p`,
`dot(p) >= 0 or dot(p)^2 <= L2`, and `dot(p) <= L2 or (dot(p) - L2)^2 <= L2`. -/
theorem thick_within_one_pixel_of_ends (l : Line) (w : Nat) (ps : List Pt)
    (h : Thick.thickPoints l w = some ps) (p : Pt) (hp : p ∈ ps) :
    (0 ≤ dot l p ∨ dot l p ^ 2 ≤ L2 l) ∧ (dot l p ≤ L2 l ∨ (dot l p - L2 l) ^ 2 ≤ L2 l) := by
  obtain ⟨h1, h2⟩ := thick_ends_half_major_step l w ps h p hp
  have hD := majorLen_pos l
  have hL := majorLen_sq_le l
  -- beyond an end by `|t| <= D/2`: `t^2 <= D^2 <= L2`
  constructor
  · refine (le_or_gt 0 (dot l p)).imp_right fun h0 => ?_
    rw [← neg_sq]
    exact sq_le_of_le _ _ _ (by omega) (by omega) hL
  · exact (le_or_gt (dot l p) (L2 l)).imp_right fun h0 =>
      sq_le_of_le _ _ _ (by omega) (by omega) hL

example : (⟨7, 2⟩ : Pt) ∈ (Thick.thickPoints ⟨⟨2, 2⟩, ⟨6, 4⟩⟩ 3).getD [] := thick_width3_reaches_7_2


/-- **A stroked line has no hole** (oracle class `C17:thick-hole`, its exact predicate, for EVERY
such lattice point, not only those of the middle slab): for a line of non-zero length and a width
`2 <= w <= i32::MAX`, every lattice point `q` of the ideal stroke shrunk by one pixel on every side,
    4 cross(q)^2 <= (w - 2)^2 L2                                    (|distance| <= w/2 - 1),
    dot(q) >= 0, dot(q)^2 >= L2, L2 - dot(q) >= 0, (L2 - dot(q))^2 >= L2
                                                (projection at least 1 px inside both ends),
is a stroked pixel. At the middle this is the text's "at least w - 1 pixels wide" read as a SOLID
width: `w - 2` plus one pixel. (Mechanism: the bands of the parallels tile the plane; the
accumulator that ends the iterator exceeds `2 w L` and counts at most `2 max(|dx|,|dy|)` per
parallel, so all bands within `w/2 - 1` of the line have been yielded.) -/
theorem thick_solid (l : Line) (hnd : l.start ≠ l.stop) (w : Nat) (hw : 2 ≤ w) (hw2 : w ≤ 2147483647)
    (ps : List Pt) (h : Thick.thickPoints l w = some ps) (q : Pt)
    (hc : 4 * cross l q ^ 2 ≤ ((w : Int) - 2) ^ 2 * L2 l)
    (hd1 : 0 ≤ dot l q) (hd2 : L2 l ≤ dot l q ^ 2)
    (hd3 : 0 ≤ L2 l - dot l q) (hd4 : L2 l ≤ (L2 l - dot l q) ^ 2) : q ∈ ps := by
  have hD := majorLen_pos l
  have hL := majorLen_sq_le l
  -- a projection at least one pixel inside an end is at least a major step inside it
  have key : ∀ t : Int, 0 ≤ t → L2 l ≤ t ^ 2 → (Thick.ctxOf l).D ≤ t := by
    intro t ht0 ht
    rw [sq] at ht
    rw [← majorLen_eq]
    exact (abs_le_of_sq_le ht0 (by omega)).2
  apply Thick.thickPoints_solid l hnd w hw hw2 ps h q
  · rw [ph_sq, ← L2_eq, ← sq]; exact hc
  · rw [← dot_eq]
    exact key _ hd1 hd2
  · rw [← dot_eq, ← L2_eq]
    have := key _ hd3 hd4
    omega

example : (⟨2, 2⟩ : Pt) ≠ ⟨6, 4⟩ ∧ (2 : Nat) ≤ 5 ∧
    4 * cross ⟨⟨2, 2⟩, ⟨6, 4⟩⟩ ⟨4, 2⟩ ^ 2 ≤ ((5 : Int) - 2) ^ 2 * L2 ⟨⟨2, 2⟩, ⟨6, 4⟩⟩ ∧
    0 ≤ dot ⟨⟨2, 2⟩, ⟨6, 4⟩⟩ ⟨4, 2⟩ ∧ L2 ⟨⟨2, 2⟩, ⟨6, 4⟩⟩ ≤ dot ⟨⟨2, 2⟩, ⟨6, 4⟩⟩ ⟨4, 2⟩ ^ 2 ∧
    0 ≤ L2 ⟨⟨2, 2⟩, ⟨6, 4⟩⟩ - dot ⟨⟨2, 2⟩, ⟨6, 4⟩⟩ ⟨4, 2⟩ ∧
    L2 ⟨⟨2, 2⟩, ⟨6, 4⟩⟩ ≤ (L2 ⟨⟨2, 2⟩, ⟨6, 4⟩⟩ - dot ⟨⟨2, 2⟩, ⟨6, 4⟩⟩ ⟨4, 2⟩) ^ 2 ∧
    cross ⟨⟨2, 2⟩, ⟨6, 4⟩⟩ ⟨4, 2⟩ = -4 := by decide


/-! ### The band claim "within w/2 + 2.5 pixels of the ideal line"

The claim is false for wide oblique strokes (`thick_band_false` in EG/Props/C17.lean, known finding
`C17:thick-band:wide-stroke-overcount`). What IS true, for every line and width: -/

/-- The band claim of the property text for one stroke (the oracle's predicate `C17:thick-band`). -/
def ThickBand (l : Line) (w : Nat) : Prop :=
  ∀ ps, Thick.thickPoints l w = some ps → ∀ p ∈ ps, 4 * cross l p ^ 2 ≤ ((w : Int) + 5) ^ 2 * L2 l

/-- **The band claim with the overcount made explicit.** `E` = the number of `Extra` parallels the
`ParallelsIterator` of the stroke yields (`Thick.ExtraParallels l w E`; `E` is unique,
`Thick.extraParallels_unique`), `D = max(|dx|,|dy|)`, `d = min(|dx|,|dy|)`. Every pixel `p` satisfies
    t = 4 |cross(p)| - (3 D - d) - 2 (D - d) E,     t <= 0  or  t^2 <= (2 w)^2 L2,
i.e. its distance from the ideal line is at most `w/2 + (3 D - d)/(4 L) + (E/2) (D - d)/L` pixels:
every `Extra` parallel moves the stroke one full band (`D/L` px) outwards but adds only `2 d` instead
of `2 D` to the thickness accumulator. (Remark, arithmetic of the code and not a Lean theorem: the
parallel error of a side satisfies `2 (D - d) e = 2 d sk -+ err`, `e` returned and `sk` skipped
`Extra` steps of that side, `|err| <= D`; so `(E/2) (D - d)/L` is, up to 1/4 px and the difference
between the two sides, the discount `sk(side) min(|dx|,|dy|)/L` of the oracle class
`C17:thick-band:wide-stroke-overcount`. Witness of `thick_band_false`, (0,0)-(2,1) width 37, E = 9:
the bound is 21.07 px, the farthest pixel is at 21.02 px, the text allows 21.) -/
theorem thick_band_overcount_partial (l : Line) (w : Nat) (hw2 : w ≤ 2147483647) (ps : List Pt)
    (h : Thick.thickPoints l w = some ps) :
    ∃ E, Thick.ExtraParallels l w E ∧ 0 ≤ E ∧ ∀ p ∈ ps,
      4 * ((cross l p).natAbs : Int) - (3 * majorLen l - minorLen l) -
          2 * (majorLen l - minorLen l) * E ≤ 0 ∨
      (4 * ((cross l p).natAbs : Int) - (3 * majorLen l - minorLen l) -
          2 * (majorLen l - minorLen l) * E) ^ 2 ≤ (2 * (w : Int)) ^ 2 * L2 l := by
  obtain ⟨E, h1, h2, _, h4⟩ := reach_cross l w hw2
  exact ⟨E, h1, h2, fun p hp => (h4 ps h p hp).1⟩

/-- The line (0,0)-(2,1) of width 37 (the witness of `thick_band_false`): 46 parallels, 9 of them
`Extra` (`Thick.runPar`: the fuel-bounded list of the parallels the iterator yields). -/
example : ((Thick.ParallelsIterator.new ⟨⟨0, 0⟩, ⟨2, 1⟩⟩ 37 .none).map
    (fun it => ((Thick.runPar 100 it).length, Thick.exCount (Thick.runPar 100 it)))) = some (46, 9) ∧
    (37 : Nat) ≤ 2147483647 := by decide


/-- **The band claim holds for every stroke with few `Extra` parallels**: if
`2 (D - d) E <= 7 D + d` (`E` = the number of `Extra` parallels, `Thick.ExtraParallels l w E`) every
pixel is within `w/2 + 2.5` pixels of the ideal line. (For slopes near 1/2, where the overcount is
largest, about 22 % of the parallels are `Extra` and the guard holds up to width ~33; the claim
first fails on the real code at width 34.) -/
theorem thick_band_partial (l : Line) (w : Nat) (hw2 : w ≤ 2147483647) (E : Int)
    (hE : Thick.ExtraParallels l w E)
    (hguard : 2 * (majorLen l - minorLen l) * E ≤ 7 * majorLen l + minorLen l) : ThickBand l w := by
  intro ps h p hp
  obtain ⟨E', h1, _, _, h4⟩ := reach_cross l w hw2
  rw [Thick.extraParallels_unique l w E' E h1 hE] at h4
  have := (h4 ps h p hp).2 10 (by omega) (by omega)
  linarith

/-- The guard of `thick_band_partial` on the line (0,0)-(7,3), width 9: 11 parallels, 2 `Extra`. -/
example : ((Thick.ParallelsIterator.new ⟨⟨0, 0⟩, ⟨7, 3⟩⟩ 9 .none).map
    (fun it => ((Thick.runPar 100 it).length, Thick.exCount (Thick.runPar 100 it)))) = some (11, 2) ∧
    2 * (majorLen ⟨⟨0, 0⟩, ⟨7, 3⟩⟩ - minorLen ⟨⟨0, 0⟩, ⟨7, 3⟩⟩) * 2 ≤
      7 * majorLen ⟨⟨0, 0⟩, ⟨7, 3⟩⟩ + minorLen ⟨⟨0, 0⟩, ⟨7, 3⟩⟩ := by decide

/-- **The band claim holds for axis-parallel and diagonal lines of every width** (and for
zero-length lines), even with `w/2 + 3/4` in place of `w/2 + 5/2`: these strokes have no `Extra`
parallel (axis-parallel) or count each of them in full (`d = D`, diagonal). -/
theorem thick_band_axis_parallel_or_diagonal (l : Line) (w : Nat) (hw2 : w ≤ 2147483647)
    (hdir : (strokeDir l).x = 0 ∨ (strokeDir l).y = 0 ∨
      (strokeDir l).x.natAbs = (strokeDir l).y.natAbs) :
    ThickBand l w ∧ ∀ ps, Thick.thickPoints l w = some ps → ∀ p ∈ ps,
      16 * cross l p ^ 2 ≤ (2 * (w : Int) + 3) ^ 2 * L2 l := by
  obtain ⟨E, _, _, h3, h4⟩ := reach_cross l w hw2
  have hD := majorLen_pos l
  have hd0 := minorLen_nonneg l
  have hY : 3 * majorLen l - minorLen l + 2 * (majorLen l - minorLen l) * E ≤ 3 * majorLen l := by
    rw [Int.mul_assoc]
    rcases minorLen_of_axis_or_diagonal l hdir with hm | hm
    · rw [h3 hm]; omega
    · rw [hm, Int.sub_self]; omega
  refine ⟨fun ps h p hp => ?_, fun ps h p hp => (h4 ps h p hp).2 3 (by omega) hY⟩
  have := (h4 ps h p hp).2 10 (by omega) (by omega)
  linarith

example : (strokeDir ⟨⟨3, -2⟩, ⟨-4, 5⟩⟩).x.natAbs = (strokeDir ⟨⟨3, -2⟩, ⟨-4, 5⟩⟩).y.natAbs ∧
    (strokeDir ⟨⟨3, -2⟩, ⟨3, 9⟩⟩).x = 0 := by decide


/-! ### The band claim with the skipped `Extra` steps discounted: true for every line and width

`SkippedSteps l w skL skR` (EG/Lemmas/ThickGeoDiscount.lean): `skL` / `skR` are the total numbers
of `Extra` perpendicular steps the `ParallelsIterator` of the stroke takes on its left / right side
WITHOUT returning a parallel (`Thick.skipsFuel` counts the tail calls of the `next_parallel` loop,
`Thick.skipTotals` sums them over the run) - the two counters of the harness port
`joins_port::skipped_extras`. `discountedReach l skL skR p` is the oracle's
`t = 2 |cross(p)| - 2 min(|dx|,|dy|) sk(side(p))`, left side = `cross < 0`. -/

/-- The band claim of the property text after the oracle's discount (class
`C17:thick-band:wide-stroke-overcount`), for one stroke: every pixel is within `w/2 + 2.5` pixels of
the ideal line once the uncounted displacement `min(|dx|,|dy|)/L` per skipped `Extra` step of its
side is subtracted. -/
def ThickBandDiscounted (l : Line) (w : Nat) : Prop :=
  ∃ skL skR, SkippedSteps l w skL skR ∧ ∀ ps, Thick.thickPoints l w = some ps → ∀ p ∈ ps,
    discountedReach l skL skR p ≤ 0 ∨
    discountedReach l skL skR p ^ 2 ≤ ((w : Int) + 5) ^ 2 * L2 l

/-- The oracle's attribution predicate (`explained` in `thick_oracle`, harness/src/m_thick.rs): a band
failure is filed under the known finding `C17:thick-band:wide-stroke-overcount` only if, after the
discount, every pixel is within `w/2 + 1.5` pixels of the ideal line (tighter than the text's 2.5). -/
def ThickBandOvercountExplained (l : Line) (w : Nat) : Prop :=
  ∃ skL skR, SkippedSteps l w skL skR ∧ ∀ ps, Thick.thickPoints l w = some ps → ∀ p ∈ ps,
    discountedReach l skL skR p ≤ 0 ∨
    discountedReach l skL skR p ^ 2 ≤ ((w : Int) + 3) ^ 2 * L2 l

/-- **With the skipped `Extra` steps of its side discounted, every pixel of every stroked line is
within `w/2 + 1.25` pixels of the ideal line** - hence within the oracle's attribution tolerance
`w/2 + 1.5` and the text's `w/2 + 2.5` - for every line (zero length included) and every width
`<= i32::MAX`: with `t = 2 |cross(p)| - 2 min(|dx|,|dy|) sk(side(p))`,
`t <= 0`, or `(2 t)^2 <= (2 w + 5)^2 L2`, `t^2 <= (w + 3)^2 L2` and `t^2 <= (w + 5)^2 L2`.
This is the exact account of the known finding: the only way a stroke leaves the band of the text is
by `min(|dx|,|dy|)/L` pixels per skipped step (`skipped_step_not_counted`, `next_adds_one_step` in
EG/Props/C17.lean); measured on the real code the discounted excess reaches 1.14 px, the bound 1.25
leaves 0.11 px.
(Mechanism of the proof, EG/Lemmas/ThickGeoDiscount.lean: per side, with `N` / `E` returned `Normal` /
`Extra` parallels and `S` skipped steps, the side's parallel error is `+-(2 d (E + S) - 2 D E)` and its
walker error `+-(2 d N - 2 D (E + S))`, both bounded by about `D`; so a pixel of the side's `n`-th
band, `|2 cross| <= 2 D n + D`, has `|2 cross| - 2 d S <=` the side's share `2 D N + 2 d E` of the
accumulator `+ D -+ err`; the shares of the two sides differ by `2 (D - d) z`, `z` the difference of
their numbers of `Extra` parallels, `|z| <= 1` by an exact identity; and the accumulator is at most
`2 w L` when the parallel is fetched: `2 t <= 2 w L + 5 D - d`.) -/
theorem thick_band_with_skipped_discount (l : Line) (w : Nat) (hw2 : w ≤ 2147483647) :
    ∃ skL skR, SkippedSteps l w skL skR ∧ ∀ ps, Thick.thickPoints l w = some ps → ∀ p ∈ ps,
      discountedReach l skL skR p ≤ 0 ∨
      (4 * discountedReach l skL skR p ^ 2 ≤ (2 * (w : Int) + 5) ^ 2 * L2 l ∧
       discountedReach l skL skR p ^ 2 ≤ ((w : Int) + 3) ^ 2 * L2 l ∧
       discountedReach l skL skR p ^ 2 ≤ ((w : Int) + 5) ^ 2 * L2 l) := by
  obtain ⟨skL, skR, hsk, hall⟩ := discount_cross l w hw2
  refine ⟨skL, skR, hsk, fun ps h p hp => ?_⟩
  obtain ⟨A, hA, ht⟩ := hall ps h p hp
  have hd0 := minorLen_nonneg l
  exact disc_band _ A _ _ w (Int.le_of_lt (majorLen_pos l)) (majorLen_sq_le l) (by omega) hA
    (by omega)

/-- The discounted band claim of the text holds for every stroke. -/
theorem thick_band_discounted_all (l : Line) (w : Nat) (hw2 : w ≤ 2147483647) :
    ThickBandDiscounted l w := by
  obtain ⟨skL, skR, hsk, hall⟩ := thick_band_with_skipped_discount l w hw2
  exact ⟨skL, skR, hsk, fun ps h p hp => (hall ps h p hp).imp_right fun ht => ht.2.2⟩

example : (120 : Nat) ≤ 2147483647 := by decide

/-- **Every band failure is the known finding**: the oracle's attribution predicate holds for every
stroke, so on the model a pixel outside `w/2 + 2.5` is always explained by skipped steps (the class
`C17:thick-band` without suffix never fires for a stroke that conforms to the model, at any width). -/
theorem thick_band_overcount_explained_all (l : Line) (w : Nat) (hw2 : w ≤ 2147483647) :
    ThickBandOvercountExplained l w := by
  obtain ⟨skL, skR, hsk, hall⟩ := thick_band_with_skipped_discount l w hw2
  exact ⟨skL, skR, hsk, fun ps h p hp => (hall ps h p hp).imp_right fun ht => ht.2.1⟩

/-- E.g. the first failing stroke of the real code, (119,57)-(-119,-52) width 34: 4 / 4 skipped steps. -/
example : (34 : Nat) ≤ 2147483647 ∧
    ((Thick.ParallelsIterator.new ⟨⟨119, 57⟩, ⟨-119, -52⟩⟩ 34 .none).bind (Thick.skipTotals 100)) = some (4, 4) := by
  decide

theorem skip_totals_width37 :
    (Thick.ParallelsIterator.new ⟨⟨0, 0⟩, ⟨2, 1⟩⟩ 37 .none).bind (Thick.skipTotals 100) = some (5, 4) := by
  decide

/-- The witness of `thick_band_false`, line (0,0)-(2,1) width 37: 5 / 4 `Extra` steps are skipped on
the left / right side (the harness port reports the same counts for the real code), the pixel (9,-19)
at `cross = -47` (21.02 px, outside the text's 21) has `t = 2 * 47 - 2 * 1 * 5 = 84`, and
`84^2 = 7056 <= (37 + 5)^2 * 5 = 8820` (18.78 px after the discount). -/
example : (37 : Nat) ≤ 2147483647 ∧
    ((Thick.ParallelsIterator.new ⟨⟨0, 0⟩, ⟨2, 1⟩⟩ 37 .none).bind (Thick.skipTotals 100)) = some (5, 4) ∧
    discountedReach ⟨⟨0, 0⟩, ⟨2, 1⟩⟩ 5 4 ⟨9, -19⟩ = 84 := ⟨by decide, skip_totals_width37, by decide⟩

/-- The skipped-step counts of a stroke are unique. -/
theorem skipped_steps_unique (l : Line) (w : Nat) (a b a' b' : Nat) (h : SkippedSteps l w a b)
    (h' : SkippedSteps l w a' b') : a = a' ∧ b = b' := skippedSteps_unique l w a b a' b' h h'

example : SkippedSteps ⟨⟨0, 0⟩, ⟨2, 1⟩⟩ 37 5 4 := by
  obtain ⟨it, hit, hsk⟩ := Option.bind_eq_some_iff.mp skip_totals_width37
  exact ⟨it, 100, hit, hsk⟩


/-! ### "At least w - 1 pixels wide at its middle" as the extent of the middle slab -/

/-- `p` lies in the middle slab of the oracle: its projection is within one pixel of the midpoint
of the segment, `(2 dot(p) - L2)^2 <= 4 L2`. -/
def InMiddle (l : Line) (p : Pt) : Prop := (2 * dot l p - L2 l) ^ 2 ≤ 4 * L2 l

/-- The oracle's predicate `C17:thick-middle-width` for one stroke: the middle slab is not empty
and, for `w >= 3`, its perpendicular extent is at least `w - 2` (the width counted in pixels is
the extent plus one): `(max cross - min cross)^2 >= (w - 2)^2 L2`. NOT proved at this strength (see
`thick_middle_width_partial`); carried by correspondence + oracle. -/
def ThickMiddleWidth (l : Line) (w : Nat) : Prop :=
  ∀ ps, Thick.thickPoints l w = some ps → ∃ p ∈ ps, ∃ q ∈ ps, InMiddle l p ∧ InMiddle l q ∧
    (3 ≤ w → ((w : Int) - 2) ^ 2 * L2 l ≤ (cross l p - cross l q) ^ 2)

/-- **The middle slab of a stroked line is not empty and its perpendicular extent is at least
`w - 3`** (one pixel less than the oracle's `ThickMiddleWidth` demands), for every line of non-zero
length and every width `1 <= w <= i32::MAX`: every parallel has a pixel in the middle slab, the
pixels of the outermost left and right parallels are more than `D (N - 2)` apart in `cross`
(`N` parallels, `D = max(|dx|,|dy|)`), and `D + d + 2 D N >= accumulator > 2 w L`. -/
theorem thick_middle_width_partial (l : Line) (hnd : l.start ≠ l.stop) (w : Nat) (hw : 1 ≤ w)
    (hw2 : w ≤ 2147483647) (ps : List Pt) (h : Thick.thickPoints l w = some ps) :
    ∃ p ∈ ps, ∃ q ∈ ps, InMiddle l p ∧ InMiddle l q ∧
      (3 ≤ w → ((w : Int) - 3) ^ 2 * L2 l ≤ (cross l p - cross l q) ^ 2) := by
  obtain ⟨p, hp, q, hq, _, m1, m2, _, hext, _⟩ := middle_width l hnd w hw hw2 ps h
  exact ⟨p, hp, q, hq, m1, m2, hext⟩

example : (⟨2, 2⟩ : Pt) ≠ ⟨6, 4⟩ ∧ (1 : Nat) ≤ 5 ∧ (5 : Nat) ≤ 2147483647 ∧
    InMiddle ⟨⟨2, 2⟩, ⟨6, 4⟩⟩ ⟨4, 3⟩ := by unfold InMiddle; decide

/-! #### Where the full extent `w - 2` is proved

`ThickMiddleWidth` has no slack in general: on the lines (0,0)-(D,1) with `w = 2 D` the extent is
`D (N - 2) + 2` (in `cross` units, `N = w` parallels) against the demanded `(w - 2) L`, a margin of
`(1 + 1/D)/L` px - 0.052 px for D = 20, 0.0084 px for D = 120, tending to 0 - because the middle slab
holds the single minor step of every parallel: of the outermost left parallel it shows only the low
phase, of the outermost right one only the high phase, so almost two full bands are lost. No failure
exists for max(|dx|,|dy|) <= 60, w <= 40 (all octants), for min <= 8, max <= 120, w <= 6 max/min + 10,
for max <= 40, w <= 400 (searched on the real code), nor in the oracle's runs. Three regimes in which
the claim follows from the band structure and the accumulator alone: -/

/-- The full extent in a regime of `Thick.MidRegime`. -/
theorem middle_width_of_regime (l : Line) (hnd : l.start ≠ l.stop) (w : Nat) (hw : 1 ≤ w)
    (hw2 : w ≤ 2147483647) (hreg : ∀ E, Thick.ExtraParallels l w E →
      Thick.MidRegime (majorLen l) (minorLen l) (L2 l) w E) : ThickMiddleWidth l w := by
  intro ps h
  obtain ⟨p, hp, q, hq, E, m1, m2, hE, _, hext⟩ := middle_width l hnd w hw hw2 ps h
  exact ⟨p, hp, q, hq, m1, m2, fun hw3 => hext hw3 (hreg E hE)⟩

/-- **Axis-parallel and diagonal lines of every width are at least `w - 1` pixels wide at their
middle** (`ThickMiddleWidth`, the oracle's predicate `C17:thick-middle-width`): all pixels have
`cross` a multiple of `max(|dx|,|dy|)`, the outermost parallels are exactly `D (N - 1)` apart, and
`D + d + 2 D N > 2 w L`. -/
theorem thick_middle_width_axis_parallel_or_diagonal (l : Line) (hnd : l.start ≠ l.stop) (w : Nat)
    (hw : 1 ≤ w) (hw2 : w ≤ 2147483647)
    (hdir : (strokeDir l).x = 0 ∨ (strokeDir l).y = 0 ∨
      (strokeDir l).x.natAbs = (strokeDir l).y.natAbs) : ThickMiddleWidth l w :=
  middle_width_of_regime l hnd w hw hw2 fun _ _ => Or.inl (minorLen_of_axis_or_diagonal l hdir)

example : (⟨3, -2⟩ : Pt) ≠ ⟨-4, 5⟩ ∧
    (strokeDir ⟨⟨3, -2⟩, ⟨-4, 5⟩⟩).x.natAbs = (strokeDir ⟨⟨3, -2⟩, ⟨-4, 5⟩⟩).y.natAbs ∧
    (1 : Nat) ≤ 40 ∧ (40 : Nat) ≤ 2147483647 := by decide

/-- **Strokes with enough `Extra` parallels are at least `w - 1` pixels wide at their middle**:
if `Y = 5 D + d - 2 (D - d) E` is at most `4 L` (`Y <= 0` or `Y^2 <= 16 L2`; `E` = the number of `Extra`
parallels, `Thick.ExtraParallels l w E`), `ThickMiddleWidth` holds: every `Extra` parallel adds a full
band to the stroke but only `2 d` to the accumulator. (For slopes around 1/2 two `Extra` parallels
suffice, i.e. widths from about 10.) -/
theorem thick_middle_width_extras_partial (l : Line) (hnd : l.start ≠ l.stop) (w : Nat) (hw : 1 ≤ w)
    (hw2 : w ≤ 2147483647) (E : Int) (hE : Thick.ExtraParallels l w E)
    (hguard : 5 * majorLen l + minorLen l - 2 * (majorLen l - minorLen l) * E ≤ 0 ∨
      (5 * majorLen l + minorLen l - 2 * (majorLen l - minorLen l) * E) ^ 2 ≤ 16 * L2 l) :
    ThickMiddleWidth l w := by
  rw [sq] at hguard
  refine middle_width_of_regime l hnd w hw hw2 fun E' hE' => Or.inr (Or.inl ?_)
  rw [Thick.extraParallels_unique l w E' E hE' hE]
  exact hguard

/-- The guard of `thick_middle_width_extras_partial` on the line (0,0)-(7,3), width 12: 2 `Extra`
parallels, `Y = 35 + 3 - 2 * 4 * 2 = 22`, `22^2 = 484 <= 16 * 58 = 928`. -/
example : ((Thick.ParallelsIterator.new ⟨⟨0, 0⟩, ⟨7, 3⟩⟩ 12 .none).map
    (fun it => Thick.exCount (Thick.runPar 100 it))) = some 2 ∧
    (5 * majorLen ⟨⟨0, 0⟩, ⟨7, 3⟩⟩ + minorLen ⟨⟨0, 0⟩, ⟨7, 3⟩⟩ -
      2 * (majorLen ⟨⟨0, 0⟩, ⟨7, 3⟩⟩ - minorLen ⟨⟨0, 0⟩, ⟨7, 3⟩⟩) * 2) ^ 2 ≤
      16 * L2 ⟨⟨0, 0⟩, ⟨7, 3⟩⟩ := by decide

/-- **Flat thin strokes, `(w - 2) min(|dx|,|dy|)^2 <= 2 max(|dx|,|dy|)`, are at least `w - 1` pixels
wide at their middle**: there are at least `w` parallels, and the extent of the middle slab in
`2 cross` is an even number above `2 D (N - 2)`. This regime contains the tightest lines known,
(0,0)-(D,1) with `w = 2 D`. -/
theorem thick_middle_width_flat_partial (l : Line) (hnd : l.start ≠ l.stop) (w : Nat) (hw : 1 ≤ w)
    (hw2 : w ≤ 2147483647)
    (hguard : ((w : Int) - 2) * minorLen l ^ 2 ≤ 2 * majorLen l) : ThickMiddleWidth l w := by
  rw [sq] at hguard
  exact middle_width_of_regime l hnd w hw hw2 fun _ _ => Or.inr (Or.inr hguard)

/-- The tightest line of the searched range, (0,0)-(20,1) width 40 (margin 0.052 px), is in the flat
regime: `38 * 1 <= 40`. -/
example : (⟨0, 0⟩ : Pt) ≠ ⟨20, 1⟩ ∧
    ((40 : Int) - 2) * minorLen ⟨⟨0, 0⟩, ⟨20, 1⟩⟩ ^ 2 ≤ 2 * majorLen ⟨⟨0, 0⟩, ⟨20, 1⟩⟩ := by decide

end EG.C17.Stroke
