/-
  C17 — the REGENERATED model of the stroked line (`ParallelsIterator`, `ThickPoints`) equals the hand-written one.

  `EG/Generated/ThickSrc.lean` is written by `tools/tr_linesrc.py` from /repo's src/primitives/line/thick_points.rs on
  every run of a check: `ParallelsIterator::next_parallel` (its `loop`, the `&mut i32` alias `error` chosen by
  `match side`, the calls of `increase_error` / `decrease_error` through it), `ParallelsIterator::new` (the `i64`
  thickness threshold `(i64::from(thickness) * 2).pow(2) * i64::from(length_squared)`, the accumulator start, `flip`,
  the skipped centre line), its `Iterator::next` (the test `i64::from(acc).pow(2) > threshold`, the accumulator update per
  `Normal` / `Extra` parallel, the side swap), `ThickPoints::new`, its `Iterator::next` (`loop`, `?`), the constant
  `HORIZONTAL_LINE`, `LineSide::swap`, `PointExt::length_squared`. A function that contains a `loop` or calls one takes
  `fuel` and returns `Option` (`none` = out of fuel), exactly like the hand model EG/Model/ThickLine.lean.

  This file proves each generated definition equal to the hand model: `next_parallel_src_eq_model` for EVERY fuel,
  the others at the hand model's loop bound `loopFuel` (the fuel the hand model itself uses; `thick_points_total` says it
  is never exhausted), then that the collected pixel list is the model's `Thick.thickPoints`
  (`thick_points_src_eq_model`), and restates C17's stroked-line theorems over the regenerated functions (`src_thick_*`,
  `src_next_adds_one_step`, `src_skipped_step_not_counted`: the mechanism of the known finding read off the source).

  Proof pattern for a loop: the generated `while_loop fuel (fun _ => true) body` is compared with the hand model's
  recursion through ONE-ITERATION functions written here in the model's vocabulary (`npStep`, `tpStep`):
  `while_loop_congr` (the body only matters pointwise) + `body = step` by unfolding + `step`-loop = model recursion by
  induction on the fuel.

  Where the two differ (stated exactly):
  * `x.pow(2)` is `x ^ 2` in the prelude and `x * x` in the hand model (`int_sq`); `/ 2` is `Int.tdiv` vs `tdiv2`.
  * Rust's `ThickPoints::next` returns `(None, self)` where the hand model's `nextFuel` returns `some none` (`tpView`).
  * `StyledPixelsIterator::new` (styled.rs: nothing for width 0, `stroke_width.saturating_as()`) is NOT regenerated;
    `srcThickPoints` transcribes it as the hand model does.
-/
import EG.Generated.ThickSrc
import EG.Props.C17.GeneratedLine
import EG.Lemmas.RectSrcPrelude
namespace EG.C17.Src
open EG EG.Line EG.Thick EG.RectSrcPrelude EG.LineSrcPrelude EG.ThickSrcPrelude EG.Generated

attribute [thick_prelude] i32_pow
  LineSide.Left LineSide.Right StrokeOffset.None StrokeOffset.Left StrokeOffset.Right
  ParallelLineType.Normal ParallelLineType.Extra
  ParallelsIterator_mk ParallelsIterator_parallel_parameters ParallelsIterator_perpendicular_parameters
  ParallelsIterator_thickness_accumulator ParallelsIterator_thickness_threshold ParallelsIterator_flip
  ParallelsIterator_left ParallelsIterator_left_error ParallelsIterator_right ParallelsIterator_right_error
  ParallelsIterator_next_side ParallelsIterator_stroke_offset
  ParallelsIterator_set_parallel_parameters ParallelsIterator_set_perpendicular_parameters
  ParallelsIterator_set_thickness_accumulator ParallelsIterator_set_thickness_threshold ParallelsIterator_set_flip
  ParallelsIterator_set_left ParallelsIterator_set_left_error ParallelsIterator_set_right
  ParallelsIterator_set_right_error ParallelsIterator_set_next_side ParallelsIterator_set_stroke_offset
  ThickPoints_mk ThickPoints_parallel ThickPoints_parallel_length ThickPoints_parallel_points_remaining
  ThickPoints_iter ThickPoints_set_parallel ThickPoints_set_parallel_length
  ThickPoints_set_parallel_points_remaining ThickPoints_set_iter
  i64_from_i32 i64_from_u32 i64_add i64_sub i64_mul i64_pow i64_eq i64_ne i64_lt i64_le i64_gt
  i64_ge struct_eq struct_ne

theorem LineSide_swap_src_eq_model (s : Thick.LineSide) : ThickSrc.LineSide_swap s = s.swap := by
  cases s <;> rfl

theorem HORIZONTAL_LINE_src_eq_model : ThickSrc.HORIZONTAL_LINE = Thick.horizontalLine := rfl

theorem Point_neg_src_eq_model (p : Pt) : ThickSrc.Point_op_neg p = -p := rfl

theorem int_sq (a : Int) : a ^ 2 = a * a := by
  rw [show (2 : Nat) = 1 + 1 from rfl, Int.pow_succ, Int.pow_succ, Int.pow_zero, Int.one_mul]

theorem length_squared_src_eq_model (p : Pt) : ThickSrc.Point_PointExt_length_squared p = p.lengthSquared := by
  unfold ThickSrc.Point_PointExt_length_squared Pt.lengthSquared
  simp only [line_prelude, thick_prelude, int_sq]

/-- One iteration of the `loop` of `next_parallel`, in the hand model's vocabulary (`nextParallelFuel` with the
recursive call replaced by `continue`). -/
def npStep (dec : Bool) (side : Thick.LineSide) (it : Thick.ParallelsIterator) :
    LoopStep Thick.ParallelsIterator (Option ((BresenhamPoint × Int) × Thick.ParallelsIterator)) :=
  let (point, it) := match side with
    | .left =>
      let (p, b) := it.left.nextAll it.perpendicularParameters
      (p, { it with left := b })
    | .right =>
      let (p, b) := it.right.previousAll it.perpendicularParameters
      (p, { it with right := b })
  match point with
  | .normal _ => .return_ (some ((point, it.sideError side), it))
  | .extra _ =>
    if dec then
      let errorBeforeDecrease := it.sideError side
      let (e, stepped) := it.parallelParameters.decreaseError (it.sideError side)
      let it := it.setSideError side e
      if stepped then .return_ (some ((point, errorBeforeDecrease), it)) else .continue_ it
    else
      let (e, stepped) := it.parallelParameters.increaseError (it.sideError side)
      let it := it.setSideError side e
      if stepped then .return_ (some ((point, e), it)) else .continue_ it

theorem npStep_flip (dec : Bool) (side : Thick.LineSide) (it it' : Thick.ParallelsIterator)
    (h : npStep dec side it = .continue_ it') : it'.flip = it.flip := by
  unfold npStep at h
  cases side <;> simp only at h <;> split at h <;> try cases h
  all_goals (split at h <;> split at h <;> cases h <;> rfl)

theorem nextParallelFuel_succ (n : Nat) (it : Thick.ParallelsIterator) (side : Thick.LineSide) :
    it.nextParallelFuel (n + 1) side =
      (match npStep (it.decr side) side it with
       | LoopStep.return_ r => r
       | LoopStep.continue_ it' => it'.nextParallelFuel n side) := by
  conv => lhs; unfold ParallelsIterator.nextParallelFuel
  unfold npStep ParallelsIterator.decr
  cases side with
  | left =>
    simp only
    rcases h : it.left.nextAll it.perpendicularParameters with ⟨p, b⟩
    cases p with
    | normal q => rfl
    | extra q =>
      simp only [ParallelsIterator.sideError, ParallelsIterator.setSideError]
      cases it.flip
      · simp only [Bool.false_eq_true, ↓reduceIte]
        by_cases hc : (it.parallelParameters.increaseError it.leftError).snd = true <;> simp only [hc, ↓reduceIte] <;> rfl
      · simp only [↓reduceIte]
        by_cases hc : (it.parallelParameters.decreaseError it.leftError).snd = true <;> simp only [hc, ↓reduceIte] <;> rfl
  | right =>
    simp only
    rcases h : it.right.previousAll it.perpendicularParameters with ⟨p, b⟩
    cases p with
    | normal q => rfl
    | extra q =>
      simp only [ParallelsIterator.sideError, ParallelsIterator.setSideError]
      cases it.flip
      · simp only [Bool.not_false, ↓reduceIte]
        by_cases hc : (it.parallelParameters.decreaseError it.rightError).snd = true <;> simp only [hc, ↓reduceIte] <;> rfl
      · simp only [Bool.not_true, Bool.false_eq_true, ↓reduceIte]
        by_cases hc : (it.parallelParameters.increaseError it.rightError).snd = true <;> simp only [hc, ↓reduceIte] <;> rfl

theorem npStep_loop : ∀ (n : Nat) (it : Thick.ParallelsIterator) (side : Thick.LineSide) (dec : Bool),
    dec = it.decr side →
    (match while_loop n (fun _ => true) (npStep dec side) it with
      | Option.none => Option.none
      | Option.some (LoopStep.return_ r) => r
      | Option.some (LoopStep.continue_ _) => Option.none) = it.nextParallelFuel n side := by
  intro n
  induction n with
  | zero => intro it side dec _; rfl
  | succ n ih =>
    intro it side dec hd
    rw [nextParallelFuel_succ, ← hd]
    cases hs : npStep dec side it with
    | return_ r => rw [while_loop_return n rfl hs]
    | continue_ it' =>
      rw [while_loop_continue n rfl hs]
      have hf := npStep_flip dec side it it' hs
      exact ih it' side dec (by rw [hd]; cases side <;> simp [ParallelsIterator.decr, hf])

/-- **`next_parallel` (regenerated, `loop` on `fuel`) = `nextParallelFuel` (hand model)**, same fuel. -/
theorem next_parallel_src_eq_model (fuel : Nat) (it : Thick.ParallelsIterator) (side : Thick.LineSide) :
    ThickSrc.ParallelsIterator_next_parallel fuel it side = it.nextParallelFuel fuel side := by
  rw [← npStep_loop fuel it side (it.decr side) rfl]
  unfold ThickSrc.ParallelsIterator_next_parallel
  dsimp only
  rw [while_loop_congr _ (npStep (it.decr side) side) ?h]
  case h =>
    intro s
    unfold npStep
    simp only [Bresenham_next_all_src_eq_model, Bresenham_previous_all_src_eq_model,
      increase_error_src_eq_model, decrease_error_src_eq_model]
    simp only [line_prelude, thick_prelude, ParallelsIterator.decr, ParallelsIterator.sideError, ParallelsIterator.setSideError]
    cases side <;> rfl
  cases while_loop fuel (fun _ => true) (npStep (it.decr side) side) it with
  | none => rfl
  | some r => cases r <;> rfl

set_option linter.unusedSimpArgs false in -- the extra simp lemmas serve rewrites of the source (`if so == Left` for the `match`)
/-- **`ParallelsIterator::new` (regenerated) = the hand model**, every line, thickness and stroke offset; `fuel` is the
hand model's loop bound `loopFuel` (the skipped centre line never needs more: `thick_points_total`). -/
theorem ParallelsIterator_new_src_eq_model (l : Line) (t : Int) (so : Thick.StrokeOffset) :
    ThickSrc.ParallelsIterator_new loopFuel l t so = ParallelsIterator.new l t so := by
  unfold ThickSrc.ParallelsIterator_new ParallelsIterator.new ParallelsIterator.nextParallel
  simp only [next_parallel_src_eq_model, BresenhamParameters_new_src_eq_model, Line_perpendicular_src_eq_model,
    Line_delta_src_eq_model, length_squared_src_eq_model, Point_neg_src_eq_model, Bresenham_new_src_eq_model,
    LineSide_swap_src_eq_model, HORIZONTAL_LINE_src_eq_model]
  simp only [line_prelude, thick_prelude, int_sq, tdiv_two]
  by_cases h : l.start = l.stop
  · simp only [h, decide_true, ↓reduceIte]
    cases so <;> (try simp only [reduceCtorEq, decide_false, decide_true, ↓reduceIte, Bool.false_eq_true]) <;>
      (split <;> rename_i hx <;> rw [hx])
  · simp only [h, decide_false, ↓reduceIte, Bool.false_eq_true]
    cases so <;> (try simp only [reduceCtorEq, decide_false, decide_true, ↓reduceIte, Bool.false_eq_true]) <;>
      (split <;> rename_i hx <;> rw [hx])

/-- **`Iterator::next` of `ParallelsIterator` (regenerated) = the hand model**: the `i64` threshold test
`i64::from(acc).pow(2) > threshold`, one `next_parallel`, the accumulator update per `Normal` / `Extra`, the side swap. -/
theorem ParallelsIterator_next_src_eq_model (it : Thick.ParallelsIterator) :
    ThickSrc.ParallelsIterator_Iterator_next loopFuel it = it.next := by
  unfold ThickSrc.ParallelsIterator_Iterator_next ParallelsIterator.next ParallelsIterator.nextParallel
  simp only [next_parallel_src_eq_model, Bresenham_with_initial_error_src_eq_model, LineSide_swap_src_eq_model]
  simp only [line_prelude, thick_prelude, int_sq]
  by_cases h : it.thicknessAccumulator * it.thicknessAccumulator > it.thicknessThreshold
  · simp only [h, decide_true, ↓reduceIte]
  · simp only [h, decide_false, ↓reduceIte, Bool.false_eq_true]
    cases hx : ParallelsIterator.nextParallelFuel loopFuel it it.nextSide with
    | none => rfl
    | some r =>
      obtain ⟨⟨point, error⟩, it'⟩ := r
      cases point with
      | normal p =>
        simp only
        by_cases hs : it'.strokeOffset = Thick.StrokeOffset.none <;> simp [hs]
      | extra p =>
        simp only
        by_cases hs : it'.strokeOffset = Thick.StrokeOffset.none <;> simp [hs]

theorem ThickPoints_new_src_eq_model (l : Line) (t : Int) :
    ThickSrc.ThickPoints_new loopFuel l t = ThickPointsIt.new l t := by
  unfold ThickSrc.ThickPoints_new ThickPointsIt.new
  simp only [ParallelsIterator_new_src_eq_model, Bresenham_new_src_eq_model, major_length_src_eq_model]
  simp only [line_prelude, thick_prelude]
  cases ParallelsIterator.new l t Thick.StrokeOffset.none <;> rfl

/-- One iteration of the `loop` of `ThickPoints::next`, in the hand model's vocabulary (`nextFuel` with the recursive call
replaced by `continue`). -/
def tpStep (s : ThickPointsIt) : LoopStep ThickPointsIt (Option (Option Pt × ThickPointsIt)) :=
  if s.parallelPointsRemaining > 0 then
    .return_ (some (some (s.parallel.next s.iter.parallelParameters).1,
      { s with parallelPointsRemaining := s.parallelPointsRemaining - 1,
               parallel := (s.parallel.next s.iter.parallelParameters).2 }))
  else
    match s.iter.next with
    | none => .return_ none
    | some (none, iter) => .return_ (some (none, { s with iter := iter }))
    | some (some (parallel, lineType), iter) =>
      .continue_ { s with parallel := parallel,
                          parallelPointsRemaining :=
                            if lineType = .extra then s.parallelLength - 1 else s.parallelLength,
                          iter := iter }

/-- What one call of `ThickPoints::next` shows to the caller, in the hand model's vocabulary. -/
def tpView (r : Option (Option Pt × ThickPointsIt)) : Option (Option (Pt × ThickPointsIt)) :=
  r.map (fun x => x.1.map (fun p => (p, x.2)))

theorem nextFuel_succ (n : Nat) (s : ThickPointsIt) :
    s.nextFuel (n + 1) =
      (match tpStep s with
       | LoopStep.return_ r => tpView r
       | LoopStep.continue_ s' => s'.nextFuel n) := by
  conv => lhs; unfold ThickPointsIt.nextFuel
  unfold tpStep
  by_cases h : s.parallelPointsRemaining > 0
  · simp only [h, ↓reduceIte, tpView, Option.map_some]
  · simp only [h, ↓reduceIte]
    cases hx : s.iter.next with
    | none => rfl
    | some r =>
      obtain ⟨v, iter⟩ := r
      cases v with
      | none => rfl
      | some q => rfl

theorem tpStep_loop : ∀ (n : Nat) (s : ThickPointsIt),
    tpView (match while_loop n (fun _ => true) tpStep s with
      | Option.none => Option.none
      | Option.some (LoopStep.return_ r) => r
      | Option.some (LoopStep.continue_ _) => Option.none) = s.nextFuel n := by
  intro n
  induction n with
  | zero => intro s; rfl
  | succ n ih =>
    intro s
    rw [nextFuel_succ]
    cases hs : tpStep s with
    | return_ r => rw [while_loop_return n rfl hs]
    | continue_ s' => rw [while_loop_continue n rfl hs]; exact ih s'

set_option linter.unusedSimpArgs false in
/-- **`Iterator::next` of `ThickPoints` (regenerated, `loop` on fuel, `?` on the parallels iterator) = the hand model.** -/
theorem ThickPoints_next_src_eq_model (it : ThickPointsIt) :
    tpView (ThickSrc.ThickPoints_Iterator_next loopFuel it) = it.next := by
  unfold ThickPointsIt.next
  rw [← tpStep_loop loopFuel it]
  unfold ThickSrc.ThickPoints_Iterator_next
  rw [while_loop_congr _ tpStep ?h]
  case h =>
    intro s
    unfold tpStep
    simp only [Bresenham_next_src_eq_model, ParallelsIterator_next_src_eq_model]
    simp only [line_prelude, thick_prelude]
    rcases Nat.eq_zero_or_pos s.parallelPointsRemaining with hr | hr
    · simp only [hr, Nat.lt_irrefl, decide_false, Bool.false_eq_true, ↓reduceIte, gt_iff_lt]
      cases hx : s.iter.next with
      | none => rfl
      | some r =>
        obtain ⟨v, iter⟩ := r
        cases v with
        | none => rfl
        | some q =>
          obtain ⟨parallel, lineType⟩ := q
          cases lineType <;> simp
    · have h1 : s.parallelPointsRemaining ≠ 0 := by omega
      simp [hr, h1]
  congr 1

/-- What a `for` loop collects from the regenerated `ThickPoints` iterator within a step budget (`none` = a fuel or the
budget ran out; the list is never silently truncated): the hand model's `drainFuel` over the regenerated `next`. -/
def srcDrain : Nat → ThickPointsIt → Option (List Pt)
  | 0, _ => none
  | n + 1, it =>
    match ThickSrc.ThickPoints_Iterator_next loopFuel it with
    | none => none
    | some (none, _) => some []
    | some (some p, it') =>
      match srcDrain n it' with
      | none => none
      | some ps => some (p :: ps)

theorem srcDrain_src_eq_model : ∀ (n : Nat) (it : ThickPointsIt), srcDrain n it = it.drainFuel n := by
  intro n
  induction n with
  | zero => intro it; rfl
  | succ n ih =>
    intro it
    have h := ThickPoints_next_src_eq_model it
    unfold srcDrain ThickPointsIt.drainFuel
    rw [← h]
    cases ThickSrc.ThickPoints_Iterator_next loopFuel it with
    | none => rfl
    | some r =>
      obtain ⟨v, it'⟩ := r
      cases v with
      | none => rfl
      | some p =>
        simp only [tpView, Option.map_some, ih it']
        cases ThickPointsIt.drainFuel n it' <;> rfl

/-- The pixels of a stroked line collected from the regenerated `ThickPoints::new` + `Iterator::next`
(`StyledPixelsIterator::new` of styled.rs, which is NOT regenerated: no pixel for width 0, otherwise
`ThickPoints::new(line, stroke_width.saturating_as())`, transcribed as in the hand model `Thick.thickPoints`). -/
def srcThickPoints (l : Line) (w : Nat) : Option (List Pt) :=
  match ThickSrc.ThickPoints_new loopFuel l (satAsI32 w) with
  | none => none
  | some it => if w = 0 then some [] else srcDrain (pixelBudget l it.iter.thicknessThreshold) it

/-- **The regenerated thick-line iterator yields the hand model's `thickPoints`**, every line and width. -/
theorem thick_points_src_eq_model (l : Line) (w : Nat) : srcThickPoints l w = Thick.thickPoints l w := by
  unfold srcThickPoints Thick.thickPoints
  rw [ThickPoints_new_src_eq_model]
  cases ThickPointsIt.new l (satAsI32 w) with
  | none => rfl
  | some it => simp only [srcDrain_src_eq_model]

/-- The regenerated stroke is total: no fuel and no budget is ever exhausted. -/
theorem src_thick_points_total (l : Line) (w : Nat) : ∃ ps, srcThickPoints l w = some ps := by
  rw [thick_points_src_eq_model]; exact thick_points_total l w

/-- For width 1 the regenerated stroked line equals the regenerated `points()` (same points, same order). -/
theorem src_thick_width1_eq_points (l : Line) : srcThickPoints l 1 = some (srcPoints l) := by
  rw [thick_points_src_eq_model, points_src_eq_model]; exact thick_width1_eq_points l

/-- A regenerated stroked line of width `w ≥ 1` contains the regenerated thin line: its pixel sequence starts with
`points()`. -/
theorem src_thick_contains_thin (l : Line) (w : Nat) (hw : 1 ≤ w) (hw2 : w ≤ 2147483647)
    (ps : List Pt) (h : srcThickPoints l w = some ps) :
    (∃ more, ps = srcPoints l ++ more) ∧ ∀ p ∈ srcPoints l, p ∈ ps := by
  rw [thick_points_src_eq_model] at h
  rw [points_src_eq_model]
  exact thick_contains_thin l w hw hw2 ps h

example : (1 : Nat) ≤ 3 ∧ (3 : Nat) ≤ 2147483647 ∧
    srcThickPoints ⟨⟨2, 2⟩, ⟨6, 4⟩⟩ 3 =
      some [⟨2, 2⟩, ⟨3, 2⟩, ⟨4, 3⟩, ⟨5, 3⟩, ⟨6, 4⟩, ⟨2, 1⟩, ⟨3, 1⟩, ⟨4, 2⟩, ⟨5, 2⟩, ⟨6, 3⟩,
            ⟨2, 3⟩, ⟨3, 3⟩, ⟨4, 4⟩, ⟨5, 4⟩, ⟨3, 0⟩, ⟨4, 1⟩, ⟨5, 1⟩, ⟨6, 2⟩, ⟨7, 2⟩] := by decide

/-- Stroke width 0 draws nothing. -/
theorem src_thick_width0_empty (l : Line) : srcThickPoints l 0 = some [] := by
  rw [thick_points_src_eq_model]; exact thick_width0_empty l

/-- The mechanism of the known finding (wide strokes are too wide), part 1, over the regenerated `next`: one call that
returns a parallel adds exactly ONE perpendicular step's thickness to the accumulator, however many perpendicular steps
the regenerated `next_parallel` took to find it. -/
theorem src_next_adds_one_step (it it' : Thick.ParallelsIterator) (b : Bresenham) (ty : Thick.ParallelLineType)
    (h : ThickSrc.ParallelsIterator_Iterator_next loopFuel it = some (some (b, ty), it')) :
    it'.perpendicularParameters = it.perpendicularParameters ∧
    it'.thicknessAccumulator = it.thicknessAccumulator +
      (match ty with
       | .normal => it.perpendicularParameters.errorStep.minor
       | .extra => it.perpendicularParameters.errorStep.major) := by
  have h' := h
  rw [ParallelsIterator_next_src_eq_model] at h'
  have := next_adds_one_step it it' b ty h'
  cases ty <;> exact this

example : ((ThickSrc.ParallelsIterator_new loopFuel ⟨⟨0, 0⟩, ⟨2, 1⟩⟩ 37 .none).bind
    (ThickSrc.ParallelsIterator_Iterator_next loopFuel)).bind (·.1) = some (⟨⟨0, 0⟩, 0⟩, .normal) := by decide

/-- Part 2, over the regenerated `next_parallel`: an `Extra` perpendicular point whose parallel error does not wrap is
skipped - the side's start point moves, the accumulator does not. -/
theorem src_skipped_step_not_counted (fuel : Nat) (it : Thick.ParallelsIterator)
    (hx : it.left.error > it.perpendicularParameters.errorThreshold)
    (hflip : it.flip = false)
    (hw : (LineSrc.BresenhamParameters_increase_error it.parallelParameters it.leftError).1 = false) :
    ThickSrc.ParallelsIterator_next_parallel (fuel + 1) it .left =
      ThickSrc.ParallelsIterator_next_parallel fuel
        { it with
          left := ⟨it.left.point + it.perpendicularParameters.positionStep.minor,
                   it.left.error - it.perpendicularParameters.errorStep.minor⟩
          leftError := (LineSrc.BresenhamParameters_increase_error it.parallelParameters it.leftError).2 } .left := by
  rw [increase_error_src_eq_model] at hw ⊢
  simp only [next_parallel_src_eq_model]
  exact skipped_step_not_counted fuel it hx hflip hw

example : skipState.left.error > skipState.perpendicularParameters.errorThreshold ∧ skipState.flip = false ∧
    (LineSrc.BresenhamParameters_increase_error skipState.parallelParameters skipState.leftError).1 = false := by decide

/-- Every function of the impls of `ParallelsIterator`, `ThickPoints`, `LineSide` is translated. -/
theorem thick_untranslated_pinned : ThickSrc.untranslated = [] := rfl

end EG.C17.Src
