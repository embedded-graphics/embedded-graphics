/-
  C17 — the REGENERATED model of the thin line (`Line::points()`) equals the hand-written one.

  `EG/Generated/LineSrc.lean` is written by `tools/tr_linesrc.py` from /repo's Rust text on every run of a check:
  one Lean `def` per function of src/primitives/line/bresenham.rs (`BresenhamParameters::new`, `increase_error`,
  `decrease_error`, `mirror_extra_points`, `Bresenham::new / with_initial_error / next / next_all / previous_all`,
  `major_length`, `MajorMinor::new`), src/primitives/line/points.rs (`Points::new / empty`, `Iterator::next`),
  src/primitives/line/mod.rs (`Line::new / with_delta / perpendicular / midpoint / delta`, `Transform::translate`,
  `PointsIter::points`) and of the `Point` helpers of core/src/geometry/point.rs they call, arm for arm; every Rust
  primitive is a function of the trusted preludes EG/Model/RectSrcPrelude.lean + LineSrcPrelude.lean.

  This file proves, for every translated function, that the generated definition equals the hand-written model
  (EG/Model/Bresenham.lean, EG/Model/Line.lean; `midpoint`: EG/Model/LineJoin.lean) FOR ALL inputs
  (`<name>_src_eq_model`), that the list a `for` loop collects from the regenerated iterator is the model's
  `Line.points` (`points_src_eq_model`), and restates the thin-line theorems of C17 about the regenerated functions
  directly (`src_points_*`). A semantic change of a Rust body changes the generated definition and breaks a theorem.

  Where the two differ (stated exactly):
  * `increase_error` / `decrease_error` take `error: &mut i32`: the generated function returns (flag, updated error),
    the hand model (updated error, flag): equal after swapping the pair.
  * `Iterator::next` returns (Option<Point>, updated self); the hand model `Option (Pt × PointsIt)`: equal under
    `SrcIter.stepView id`, with the one difference that Rust's `None` leaves `self` unchanged (not visible in the model).
  * `major_length` casts with `as u32` (two's complement in the prelude); the operand `max(|dx|, |dy|)` is never
    negative, so it equals the model's `toNat` unconditionally (integers are unbounded here: overflow is C08's topic).
  * `Point::abs` is `i32::abs` per coordinate (`natAbs`) in Rust and an `if` in the hand model: equal.
  * everything else is equal by unfolding.
-/
import EG.Generated.LineSrc
import EG.Model.LineJoin
import EG.Props.C17
import EG.Lemmas.SrcSimpAttr
import EG.Lemmas.RectSrcPrelude
import EG.Lemmas.SrcIter
namespace EG.C17.Src
open EG EG.Line EG.RectSrcPrelude EG.LineSrcPrelude EG.Generated

attribute [line_prelude] Point_mk Point_x Point_y Point_set_x Point_set_y
  i32_add i32_sub i32_mul i32_div i32_neg i32_min i32_max i32_abs
  i32_eq i32_ne i32_lt i32_le i32_gt i32_ge i32_as_u32
  u32_add u32_sub u32_eq u32_ne u32_lt u32_le u32_gt u32_ge bool_and bool_or bool_not
  Line_mk Line_start Line_end Line_set_start Line_set_end
  MajorMinor_i32_mk MajorMinor_i32_major MajorMinor_i32_minor MajorMinor_i32_set_major MajorMinor_i32_set_minor
  MajorMinor_Point_mk MajorMinor_Point_major MajorMinor_Point_minor MajorMinor_Point_set_major
  MajorMinor_Point_set_minor BresenhamParameters_mk BresenhamParameters_error_threshold
  BresenhamParameters_error_step BresenhamParameters_position_step Bresenham_mk Bresenham_point
  Bresenham_error Bresenham_set_point Bresenham_set_error BresenhamPoint_Normal BresenhamPoint_Extra
  Points_mk Points_parameters Points_bresenham Points_points_remaining Points_set_parameters
  Points_set_bresenham Points_set_points_remaining

theorem Point_new_src_eq_model (x y : Int) : LineSrc.Point_new x y = (⟨x, y⟩ : Pt) := rfl
theorem Point_zero_src_eq_model : LineSrc.Point_zero = Pt.zero := rfl
theorem Point_add_src_eq_model (a b : Pt) : LineSrc.Point_op_add_Point a b = a + b := rfl
theorem Point_sub_src_eq_model (a b : Pt) : LineSrc.Point_op_sub_Point a b = a - b := rfl
/-- `a += b` (`impl AddAssign for Point`). -/
theorem Point_add_assign_src_eq_model (a b : Pt) : LineSrc.Point_op_add_assign_Point a b = a + b := rfl
/-- `a -= b` (`impl SubAssign for Point`). -/
theorem Point_sub_assign_src_eq_model (a b : Pt) : LineSrc.Point_op_sub_assign_Point a b = a - b := rfl
theorem Point_x_axis_src_eq_model (p : Pt) : LineSrc.Point_x_axis p = Pt.xAxis p := rfl
theorem Point_y_axis_src_eq_model (p : Pt) : LineSrc.Point_y_axis p = Pt.yAxis p := rfl

theorem Point_abs_src_eq_model (p : Pt) : LineSrc.Point_abs p = Pt.abs p :=
  Pt.ext_iff'.mpr ⟨(Pt.abs_x_eq p).symm, (Pt.abs_y_eq p).symm⟩

theorem tdiv_two (a : Int) : Int.tdiv a 2 = tdiv2 a := i32_div_two a

/-- `Point / 2`: Rust `/` on `i32` truncates toward zero. -/
theorem Point_div_two_src_eq_model (a : Pt) : LineSrc.Point_op_div_i32 a 2 = ⟨tdiv2 a.x, tdiv2 a.y⟩ := by
  simp only [line_prelude, LineSrc.Point_op_div_i32, LineSrc.Point_new, tdiv_two]

theorem Line_new_src_eq_model (s e : Pt) : LineSrc.Line_new s e = (⟨s, e⟩ : Line) := rfl
theorem Line_with_delta_src_eq_model (s d : Pt) : LineSrc.Line_with_delta s d = (⟨s, s + d⟩ : Line) := rfl
theorem Line_delta_src_eq_model (l : Line) : LineSrc.Line_delta l = l.delta := rfl
theorem Line_perpendicular_src_eq_model (l : Line) : LineSrc.Line_perpendicular l = l.perpendicular := rfl
theorem Line_translate_src_eq_model (l : Line) (d : Pt) : LineSrc.Line_Transform_translate l d = l.translate d := rfl
/-- `Line::midpoint` = the hand model used by the joins (EG/Model/LineJoin.lean). -/
theorem Line_midpoint_src_eq_model (l : Line) : LineSrc.Line_midpoint l = Joins.midpoint l := by
  unfold LineSrc.Line_midpoint Joins.midpoint
  rw [Point_div_two_src_eq_model]
  rfl

theorem MajorMinor_i32_new_src_eq_model (a b : Int) : LineSrc.MajorMinor_i32_new a b = (⟨a, b⟩ : MajorMinor Int) := rfl
theorem MajorMinor_Point_new_src_eq_model (a b : Pt) : LineSrc.MajorMinor_Point_new a b = (⟨a, b⟩ : MajorMinor Pt) := rfl

theorem BresenhamParameters_new_src_eq_model (l : Line) :
    LineSrc.BresenhamParameters_new l = BresenhamParameters.new l := by
  unfold LineSrc.BresenhamParameters_new BresenhamParameters.new
  simp only [Point_abs_src_eq_model, Point_sub_src_eq_model, Point_x_axis_src_eq_model, Point_y_axis_src_eq_model,
    Point_new_src_eq_model, MajorMinor_i32_new_src_eq_model, MajorMinor_Point_new_src_eq_model]
  simp only [line_prelude]
  by_cases h : (l.stop - l.start).abs.y ≥ (l.stop - l.start).abs.x
  · simp only [h, decide_true, ↓reduceIte, ge_iff_le, decide_eq_true_eq]
  · simp only [h, decide_false, ↓reduceIte, ge_iff_le, decide_eq_true_eq, Bool.false_eq_true]

/-- `increase_error(&self, error: &mut i32) -> bool`: (flag, updated error). -/
theorem increase_error_src_eq_model (p : BresenhamParameters) (e : Int) :
    LineSrc.BresenhamParameters_increase_error p e = ((p.increaseError e).2, (p.increaseError e).1) := by
  unfold LineSrc.BresenhamParameters_increase_error BresenhamParameters.increaseError
  simp only [line_prelude]
  by_cases h : e + p.errorStep.major > p.errorThreshold
  · simp only [h, decide_true, ↓reduceIte]
  · simp only [h, decide_false, ↓reduceIte, Bool.false_eq_true]

/-- `decrease_error(&self, error: &mut i32) -> bool`: (flag, updated error). -/
theorem decrease_error_src_eq_model (p : BresenhamParameters) (e : Int) :
    LineSrc.BresenhamParameters_decrease_error p e = ((p.decreaseError e).2, (p.decreaseError e).1) := by
  unfold LineSrc.BresenhamParameters_decrease_error BresenhamParameters.decreaseError
  simp only [line_prelude]
  by_cases h : e - p.errorStep.major ≤ -p.errorThreshold
  · simp only [h, decide_true, ↓reduceIte]
  · simp only [h, decide_false, ↓reduceIte, Bool.false_eq_true]

theorem mirror_extra_points_src_eq_model (p : BresenhamParameters) :
    LineSrc.BresenhamParameters_mirror_extra_points p = p.mirrorExtraPoints := by
  unfold LineSrc.BresenhamParameters_mirror_extra_points BresenhamParameters.mirrorExtraPoints
  simp only [line_prelude]
  by_cases h : p.positionStep.major.x = 0 <;> simp [h] <;> rfl

theorem Bresenham_new_src_eq_model (s : Pt) : LineSrc.Bresenham_new s = Bresenham.new s := rfl
theorem Bresenham_with_initial_error_src_eq_model (s : Pt) (e : Int) :
    LineSrc.Bresenham_with_initial_error s e = Bresenham.withInitialError s e := rfl

theorem Bresenham_next_src_eq_model (b : Bresenham) (p : BresenhamParameters) :
    LineSrc.Bresenham_next b p = b.next p := by
  unfold LineSrc.Bresenham_next Bresenham.next
  simp only [Point_add_assign_src_eq_model]
  simp only [line_prelude]
  by_cases h : b.error > p.errorThreshold
  · simp only [h, decide_true, ↓reduceIte]
  · simp only [h, decide_false, ↓reduceIte, Bool.false_eq_true]

theorem Bresenham_next_all_src_eq_model (b : Bresenham) (p : BresenhamParameters) :
    LineSrc.Bresenham_next_all b p = b.nextAll p := by
  unfold LineSrc.Bresenham_next_all Bresenham.nextAll
  simp only [Point_add_assign_src_eq_model, Point_sub_assign_src_eq_model, mirror_extra_points_src_eq_model]
  simp only [line_prelude]
  by_cases h : b.error > p.errorThreshold
  · simp only [h, decide_true, ↓reduceIte]
    cases p.mirrorExtraPoints <;> simp
  · simp only [h, decide_false, ↓reduceIte, Bool.false_eq_true]

theorem Bresenham_previous_all_src_eq_model (b : Bresenham) (p : BresenhamParameters) :
    LineSrc.Bresenham_previous_all b p = b.previousAll p := by
  unfold LineSrc.Bresenham_previous_all Bresenham.previousAll
  simp only [Point_add_assign_src_eq_model, Point_sub_assign_src_eq_model, mirror_extra_points_src_eq_model]
  simp only [line_prelude]
  by_cases h : b.error ≤ -p.errorThreshold
  · simp only [h, decide_true, ↓reduceIte]
    cases p.mirrorExtraPoints <;> simp
  · simp only [h, decide_false, ↓reduceIte, Bool.false_eq_true]

/-- `major_length`: the `as u32` cast never sees a negative value. -/
theorem major_length_src_eq_model (l : Line) : LineSrc.major_length l = majorLength l := by
  unfold LineSrc.major_length majorLength
  simp only [Point_abs_src_eq_model, Point_sub_src_eq_model]
  simp only [line_prelude]
  have h : 0 ≤ max (l.stop - l.start).abs.x (l.stop - l.start).abs.y := by rw [Pt.abs_x_eq]; omega
  simp only [h, ↓reduceIte]

theorem Points_new_src_eq_model (l : Line) : LineSrc.Points_new l = pointsIt l := by
  unfold LineSrc.Points_new pointsIt
  simp only [major_length_src_eq_model, BresenhamParameters_new_src_eq_model, Bresenham_new_src_eq_model]

theorem Line_points_src_eq_model (l : Line) : LineSrc.Line_PointsIter_points l = pointsIt l :=
  Points_new_src_eq_model l

theorem Points_empty_src_eq_model : LineSrc.Points_empty = PointsIt.empty := by
  unfold LineSrc.Points_empty PointsIt.empty
  simp only [Points_new_src_eq_model, Line_new_src_eq_model, Point_zero_src_eq_model]

set_option linter.unusedSimpArgs false in -- `h1` is used when the source tests `points_remaining == 0` instead of `> 0`
/-- **`Iterator::next` (regenerated) = `PointsIt.next` (hand model)**: one step of the generated state machine is one
step of the hand model (same point, same successor state; `None` together). -/
theorem Points_next_src_eq_model (it : PointsIt) :
    SrcIter.stepView id (LineSrc.Points_Iterator_next it) = it.next := by
  unfold LineSrc.Points_Iterator_next PointsIt.next SrcIter.stepView
  simp only [Bresenham_next_src_eq_model]
  simp only [line_prelude]
  rcases Nat.eq_zero_or_pos it.pointsRemaining with hr | hr
  · simp [hr]
  · have h1 : it.pointsRemaining ≠ 0 := by omega
    simp [hr, h1]

/-- What a `for` loop collects from the regenerated iterator in at most `steps` calls of `next`. -/
def srcCollect : Nat → PointsIt → List Pt
  | 0, _ => []
  | steps + 1, it =>
    match LineSrc.Points_Iterator_next it with
    | (some p, it') => p :: srcCollect steps it'
    | (none, _) => []

theorem srcCollect_drains : Drains (ofPair LineSrc.Points_Iterator_next) srcCollect :=
  ⟨fun _ => rfl, fun n it => by
    rw [srcCollect, ofPair]
    rcases LineSrc.Points_Iterator_next it with ⟨_ | _, _⟩ <;> rfl⟩

theorem srcCollect_src_eq_model : ∀ (steps : Nat) (it : PointsIt), srcCollect steps it = it.toListFuel steps :=
  srcCollect_drains.view PointsIt.drains id fun it => SrcIter.ofPair_view (Points_next_src_eq_model it)

/-- `line.points()` collected from the regenerated `PointsIter::points` (= `Points::new`) + `Iterator::next`, with as
many calls of `next` as the regenerated `major_length` says there are points. -/
def srcPoints (l : Line) : List Pt := srcCollect (LineSrc.major_length l) (LineSrc.Line_PointsIter_points l)

/-- **The regenerated iterator yields the hand model's `points`**, and more calls of `next` yield nothing more. -/
theorem points_collect_src_eq_model (l : Line) (steps : Nat) (h : LineSrc.major_length l ≤ steps) :
    srcCollect steps (LineSrc.Line_PointsIter_points l) = points l := by
  rw [srcCollect_src_eq_model, Line_points_src_eq_model]
  rw [major_length_src_eq_model] at h
  exact PointsIt.toListFuel_stable steps (pointsIt l) h

example : LineSrc.major_length ⟨⟨1, 2⟩, ⟨5, 4⟩⟩ ≤ 7 := by decide

theorem points_src_eq_model (l : Line) : srcPoints l = points l :=
  points_collect_src_eq_model l _ (Nat.le_refl _)

example : srcPoints ⟨⟨1, 2⟩, ⟨5, 4⟩⟩ = [⟨1, 2⟩, ⟨2, 2⟩, ⟨3, 3⟩, ⟨4, 3⟩, ⟨5, 4⟩] := by decide
example : srcCollect 9 (LineSrc.Line_PointsIter_points ⟨⟨0, 0⟩, ⟨-1, -3⟩⟩) = [⟨0, 0⟩, ⟨0, -1⟩, ⟨-1, -2⟩, ⟨-1, -3⟩] := by
  decide

/-- `points()` starts at `start`. -/
theorem src_points_head (l : Line) : (srcPoints l).head? = some l.start := by
  rw [points_src_eq_model]; exact points_head l

/-- `points()` ends at `end`. -/
theorem src_points_last (l : Line) : (srcPoints l).getLast? = some l.stop := by
  rw [points_src_eq_model]; exact points_last l

/-- `points()` has `max(|dx|, |dy|) + 1` points; that number is the regenerated `major_length`. -/
theorem src_points_length (l : Line) :
    (srcPoints l).length = majorLen l + 1 ∧ LineSrc.major_length l = majorLen l + 1 := by
  rw [points_src_eq_model]
  refine ⟨points_length l, ?_⟩
  rw [major_length_src_eq_model]
  unfold majorLength majorLen
  simp only [Pt.abs_x_eq, Pt.abs_y_eq, Pt.sub_x, Pt.sub_y]
  omega

/-- Each step moves exactly one pixel along the major axis and at most one along the minor axis. -/
theorem src_points_steps (l : Line) (i : Nat) (h : i + 1 < (srcPoints l).length) :
    (yIsMajor l →
      ((srcPoints l)[i + 1].y - (srcPoints l)[i].y).natAbs = 1 ∧
      ((srcPoints l)[i + 1].x - (srcPoints l)[i].x).natAbs ≤ 1) ∧
    (¬ yIsMajor l →
      ((srcPoints l)[i + 1].x - (srcPoints l)[i].x).natAbs = 1 ∧
      ((srcPoints l)[i + 1].y - (srcPoints l)[i].y).natAbs ≤ 1) := by
  have e := points_src_eq_model l
  have h' : i + 1 < (points l).length := by rw [← e]; exact h
  have := points_steps l i h'
  simp only [e]
  exact this

example : (3 : Nat) + 1 < (srcPoints ⟨⟨1, 2⟩, ⟨5, 4⟩⟩).length := by decide

/-- Every point is within half a pixel of the ideal line (measured along the minor axis). -/
theorem src_points_within_half_pixel (l : Line) (p : Pt) (hp : p ∈ srcPoints l) :
    (2 * ((l.stop.x - l.start.x) * (p.y - l.start.y)
        - (l.stop.y - l.start.y) * (p.x - l.start.x))).natAbs ≤ majorLen l := by
  rw [points_src_eq_model] at hp; exact points_within_half_pixel l p hp

example : (⟨3, 3⟩ : Pt) ∈ srcPoints ⟨⟨1, 2⟩, ⟨5, 4⟩⟩ := by decide

/-- The axis along which the regenerated `BresenhamParameters::new` takes its major steps is the one `yIsMajor`
names: `position_step.major` is a unit step along y exactly when `|dy| >= |dx|`. -/
theorem src_major_axis (l : Line) :
    (yIsMajor l → (LineSrc.BresenhamParameters_new l).positionStep.major.x = 0 ∧
        ((LineSrc.BresenhamParameters_new l).positionStep.major.y).natAbs = 1) ∧
    (¬ yIsMajor l → (LineSrc.BresenhamParameters_new l).positionStep.major.y = 0 ∧
        ((LineSrc.BresenhamParameters_new l).positionStep.major.x).natAbs = 1) := by
  rw [BresenhamParameters_new_src_eq_model]
  unfold yIsMajor
  have key : (l.stop - l.start).abs.y ≥ (l.stop - l.start).abs.x ↔
      (l.stop.y - l.start.y).natAbs ≥ (l.stop.x - l.start.x).natAbs := by
    rw [Pt.abs_x_eq, Pt.abs_y_eq, Pt.sub_x, Pt.sub_y]; omega
  refine ⟨fun hm => ?_, fun hm => ?_⟩
  · have h := key.mpr hm
    unfold BresenhamParameters.new
    simp only [h, ↓reduceIte, Pt.yAxis]
    refine ⟨trivial, ?_⟩
    split <;> rfl
  · have h : ¬ ((l.stop - l.start).abs.y ≥ (l.stop - l.start).abs.x) := fun c => hm (key.mp c)
    unfold BresenhamParameters.new
    simp only [h, ↓reduceIte, Pt.xAxis]
    refine ⟨trivial, ?_⟩
    split <;> rfl

/-- A zero-length line yields exactly `[start]`. -/
theorem src_points_zero_length (s : Pt) : srcPoints ⟨s, s⟩ = [s] := by
  rw [points_src_eq_model]; exact points_zero_length s

/-- `points()` commutes with the regenerated `Transform::translate`. -/
theorem src_points_translate (l : Line) (d : Pt) :
    srcPoints (LineSrc.Line_Transform_translate l d) = (srcPoints l).map (· + d) := by
  rw [Line_translate_src_eq_model, points_src_eq_model, points_src_eq_model]
  exact line_points_translate l d

/-- Every function of every `impl` of `Line`, `Points`, `Bresenham`, `BresenhamParameters`, `MajorMinor` in the parsed
files is translated, except these (thick-line `extents`, which needs `ParallelsIterator`; `bounding_box`, a one-line
call of `Rectangle::with_corners`; the in-place `translate_mut`). An added function (e.g. an override of
`Iterator::nth` / `size_hint` / `fold` for `Points`, which would change what a `for` loop or `count()` sees without
touching `next`) shows up here and breaks this theorem. -/
theorem line_untranslated_pinned : LineSrc.untranslated =
    [("impl Line", ["extents"]), ("impl Dimensions for Line", ["bounding_box"]),
     ("impl Transform for Line", ["translate_mut"])] := rfl

end EG.C17.Src
