/-
  C09 — the image code REGENERATED FROM THE RUST SOURCE equals the hand-written model (part 1: `ImageRaw`).

  EG/Generated/ImgSrc.lean is written by tools/tr_imgsrc.py from the text of src/image/{image_raw,sub_image,mod}.rs on
  every check. Here every generated function of image_raw.rs is proved equal to `EG.Model.ImageRaw` for ALL inputs
  (`<name>_src_eq_model`), and C09's headline theorems are restated over the generated functions (`src_*`).
  Guards, exactly: `BytesOk data` (every buffer element is a `u8`: the generated `load` masks with `Storage::MAX`) and
  `FitsUsize data` (`checked_mul`) wherever raw pixels are read — the guards of Props/C11/Generated.lean —, and `IsU32`
  of the image size (the type bound of `u32` that `Nat` lacks: `usize as u32` / `u32 as i32` wrap) for `data_width`,
  `pixel`, `draw`, `draw_sub_image`; `IsI32` of the area's corner for `draw_sub_image` (the bound `Int` lacks: `x as u32`
  wraps outside). `draw` / `draw_sub_image` are first described for EVERY fuel, then, with fuel above `width * height`
  and the model's `Fits`, shown to be the model's functions. Sub-images and `Image`: GeneratedSub.lean.
-/
import EG.Generated.ImgSrc
import EG.Props.C11.Generated
import EG.Props.C16.Generated
import EG.Props.C09
namespace EG.C09.Generated
open EG EG.Raw EG.Img EG.RawSrcPrelude EG.ImgSrcPrelude EG.Generated EG.Generated.RawSrc EG.C11.Generated

/-- The hand model's image of a generated one (`C::Raw`, `O` are type parameters in Rust). -/
def toIm (C : RawTy) (O : DataOrderTy) (s : ImgSrc.ImageRaw) : Img.ImageRaw := ⟨bits C, ord O, s.data, s.size⟩

def toCP (C : RawTy) (O : DataOrderTy) (s : ImgSrc.ContiguousPixels) : CP :=
  ⟨toModel C O s.iter, s.remaining_x, s.width, s.remaining_y, s.row_skip⟩

abbrev IsU32 (s : Sz) : Prop := s.w ≤ 4294967295 ∧ s.h ≤ 4294967295
example : IsU32 ⟨9, 3⟩ := by decide

theorem bits_lt (C : RawTy) : 0 < bits C ∧ bits C ≤ 32 := by cases C <;> decide

theorem bytes_per_row_src_eq_model (w b : Nat) : ImgSrc.bytes_per_row w b = bytesPerRow w b := rfl

theorem ImageRaw_new_src_eq_model (C : RawTy) (O : DataOrderTy) (data : List Nat) (size : Sz) :
    (match ImgSrc.ImageRaw_new C O data size with
      | .ok s => Except.ok (toIm C O s)
      | .error (.InvalidDataSize n) => Except.error n) = Img.ImageRaw.new (bits C) (ord O) data size := by
  unfold ImgSrc.ImageRaw_new Img.ImageRaw.new
  simp only [usize_ne, slice_len, usize_mul, Size_width, bytes_per_row_src_eq_model, u32_as_usize, Size_height]
  by_cases h : data.length = bytesPerRow size.w (RawData_BITS_PER_PIXEL C) * size.h
  · simp [h, toIm]
  · simp [h]

/-- `data_width()` (the `usize as u32` casts wrap: `IsU32`) -/
theorem data_width_src_eq_model (C : RawTy) (O : DataOrderTy) (s : ImgSrc.ImageRaw) (hu : s.size.w ≤ 4294967295) :
    ImgSrc.ImageRaw_data_width C O s = (toIm C O s).dataWidth := by
  have hb := bits_lt C
  have hm : (toIm C O s).dataWidth = if bits C < 8 then bytesPerRow s.size.w (bits C) * (8 / bits C) else s.size.w := rfl
  rw [hm]
  unfold ImgSrc.ImageRaw_data_width
  simp only [bits, usize_lt, decide_eq_true_eq, u32_mul, usize_as_u32, Size_width, bytes_per_row_src_eq_model,
    u32_div] at hb ⊢
  by_cases h8 : RawData_BITS_PER_PIXEL C < 8
  · have h0 : s.size.w * RawData_BITS_PER_PIXEL C ≤ s.size.w * 7 := Nat.mul_le_mul_left _ (by omega)
    have h1 : bytesPerRow s.size.w (RawData_BITS_PER_PIXEL C) ≤ s.size.w := by unfold bytesPerRow; omega
    rw [if_pos h8, if_pos h8, Nat.mod_eq_of_lt (by omega), Nat.mod_eq_of_lt (by omega)]
  · rw [if_neg h8, if_neg h8]

theorem size_src_eq_model (C : RawTy) (O : DataOrderTy) (s : ImgSrc.ImageRaw) :
    ImgSrc.ImageRaw_OriginDimensions_size C O s = (toIm C O s).size := rfl

theorem asI32_eq (n : Nat) (h : n ≤ 4294967295) : Img.asI32 n = u32_as_i32 n := by
  unfold Img.asI32 u32_as_i32
  rw [Nat.mod_eq_of_lt (by omega)]
  split <;> split <;> omega

theorem u32_as_i32_le {n : Nat} (hn : n ≤ 4294967295) : u32_as_i32 n ≤ 2147483647 := by
  unfold u32_as_i32
  split <;> omega

/-- A coordinate that passed `0 <= x < width as i32` is unchanged by `as usize`. -/
theorem i32_as_usize_of_lt {x : Int} {n : Nat} (hn : n ≤ 4294967295) (h0 : ¬ x < 0) (h : ¬ x ≥ u32_as_i32 n) :
    i32_as_usize x = x.toNat := by
  have := u32_as_i32_le hn
  exact congrArg Int.toNat (Int.emod_eq_of_lt (by omega) (by omega))

/-- A colour is its raw value: `.map(|r| r.into())` changes nothing. -/
theorem option_map_into_color (o : Option Nat) : option_map o (fun c => raw_into_color c) = o := by
  cases o <;> rfl

theorem pixel_src_eq_model (C : RawTy) (O : DataOrderTy) (s : ImgSrc.ImageRaw) (p : Pt) (hw : BytesOk s.data)
    (hlen : FitsUsize s.data) (hu : IsU32 s.size) :
    ImgSrc.ImageRaw_GetPixel_pixel C O s p = (toIm C O s).pixel p := by
  unfold ImgSrc.ImageRaw_GetPixel_pixel Img.ImageRaw.pixel
  rw [data_width_src_eq_model C O s hu.1]
  have e1 : (toIm C O s).size = s.size := rfl
  rw [e1, asI32_eq _ hu.1, asI32_eq _ hu.2]
  simp only [bool_or, i32_lt, i32_ge, Point_x, Point_y, Size_width, Size_height, Bool.or_eq_true, decide_eq_true_eq,
    or_assoc]
  split
  · rfl
  · rename_i hc
    simp only [not_or] at hc
    rw [i32_as_usize_of_lt hu.1 hc.1 hc.2.2.1, i32_as_usize_of_lt hu.2 hc.2.1 hc.2.2.2]
    have hn := (Iterator_nth_src_eq_model C O (RawDataSlice_IntoIterator_into_iter C O (RawDataSlice_new s.data))
      (usize_add p.x.toNat (usize_mul p.y.toNat (u32_as_usize (toIm C O s).dataWidth))) hw hlen).1
    rw [(RawDataIterator_new_src_eq_model C O s.data).2] at hn
    rw [hn]
    exact option_map_into_color _

example : BytesOk [0xAA, 0x00, 0x55] ∧ FitsUsize [0xAA, 0x00, 0x55] := by
  refine ⟨by intro b hb; simp at hb; omega, by unfold FitsUsize usizeMax; decide⟩

theorem ContiguousPixels_new_src_eq_model (C : RawTy) (O : DataOrderTy) (s : ImgSrc.ImageRaw) (size : Sz) (skip rs : Nat)
    (hw : BytesOk s.data) (hlen : FitsUsize s.data) :
    toCP C O (ImgSrc.ContiguousPixels_new C O s size skip rs) = CP.new (toIm C O s) size skip rs := by
  have h0 := (RawDataIterator_new_src_eq_model C O s.data).2
  have hn := (Iterator_nth_src_eq_model C O (RawDataSlice_IntoIterator_into_iter C O (RawDataSlice_new s.data))
    (skip - 1) hw hlen).2
  rw [h0] at hn
  unfold ImgSrc.ContiguousPixels_new CP.new toCP
  -- `skip > 0`: the iterator after `nth(skip - 1)`, related by `hn`; else the fresh one, `h0`
  by_cases hs : skip > 0 <;> by_cases hc : size.w > 0 ∧ size.h > 0 <;>
    simp [hs, hc, hn, h0, toIm, usize_gt, usize_sub, u32_gt, u32_sub, bool_and, Size_width, Size_height]

theorem ContiguousPixels_next_src_eq_model (C : RawTy) (O : DataOrderTy) (s : ImgSrc.ContiguousPixels)
    (hw : BytesOk s.iter.data) (hlen : FitsUsize s.iter.data) :
    (ImgSrc.ContiguousPixels_Iterator_next C O s).1 = (CP.next (toCP C O s)).1 ∧
    toCP C O (ImgSrc.ContiguousPixels_Iterator_next C O s).2 = (CP.next (toCP C O s)).2 := by
  obtain ⟨n1, n2⟩ := Iterator_next_src_eq_model C O s.iter hw hlen
  obtain ⟨t1, t2⟩ := Iterator_nth_src_eq_model C O s.iter s.row_skip hw hlen
  unfold ImgSrc.ContiguousPixels_Iterator_next CP.next
  by_cases hx : s.remaining_x > 0
  · have : (toCP C O s).remainingX > 0 := hx
    rw [if_pos this, if_pos (by simpa [u32_gt] using hx)]
    simp only [option_map_into_color]
    exact ⟨n1, by simp only [toCP, u32_sub]; rw [n2]⟩
  · have : ¬ (toCP C O s).remainingX > 0 := hx
    rw [if_neg this, if_neg (by simpa [u32_gt] using hx)]
    by_cases hy : s.remaining_y = 0
    · have : (toCP C O s).remainingY = 0 := hy
      rw [if_pos this, if_pos (by simpa [u32_eq] using hy)]
      exact ⟨rfl, rfl⟩
    · have : ¬ (toCP C O s).remainingY = 0 := hy
      rw [if_neg this, if_neg (by simpa [u32_eq] using hy)]
      simp only [option_map_into_color]
      exact ⟨t1, by simp only [toCP, u32_sub]; rw [t2]⟩

theorem next_keeps_data (C : RawTy) (O : DataOrderTy) (s : ImgSrc.ContiguousPixels)
    (hw : BytesOk s.iter.data) (hlen : FitsUsize s.iter.data) :
    (ImgSrc.ContiguousPixels_Iterator_next C O s).2.iter.data = s.iter.data := by
  have h := congrArg (fun m : CP => m.iter.data) (ContiguousPixels_next_src_eq_model C O s hw hlen).2
  simp only [CP.next_data] at h
  exact h

-- By induction and not through `Drains.view` (Lemmas/SrcIter.lean): the one-step fact holds only under `BytesOk` /
-- `FitsUsize` of the state's buffer, which `next_keeps_data` carries from step to step.
theorem ContiguousPixels_collect_src_eq_model (C : RawTy) (O : DataOrderTy) :
    ∀ (fuel : Nat) (s : ImgSrc.ContiguousPixels), BytesOk s.iter.data → FitsUsize s.iter.data →
      iter_collect_fuel (ImgSrc.ContiguousPixels_Iterator_next C O) fuel s = (toCP C O s).toListFuel fuel
  | 0, _, _, _ => rfl
  | fuel + 1, s, hw, hlen => by
    obtain ⟨h1, h2⟩ := ContiguousPixels_next_src_eq_model C O s hw hlen
    have hd := next_keeps_data C O s hw hlen
    unfold iter_collect_fuel CP.toListFuel
    cases hg : ImgSrc.ContiguousPixels_Iterator_next C O s with
    | mk v s' =>
      rw [hg] at h1 h2 hd
      cases hm : (toCP C O s).next with
      | mk v' m' =>
        rw [hm] at h1 h2
        simp only at h1 h2 hd
        subst h1
        cases v with
        | none => rfl
        | some a =>
          simp only
          rw [ContiguousPixels_collect_src_eq_model C O fuel s' (hd ▸ hw) (hd ▸ hlen), h2]

theorem new_keeps_data (C : RawTy) (O : DataOrderTy) (s : ImgSrc.ImageRaw) (size : Sz) (skip rs : Nat)
    (hw : BytesOk s.data) (hlen : FitsUsize s.data) :
    (ImgSrc.ContiguousPixels_new C O s size skip rs).iter.data = s.data := by
  have := congrArg (fun m : CP => m.iter.data) (ContiguousPixels_new_src_eq_model C O s size skip rs hw hlen)
  simp only [CP.new_data] at this
  exact this

theorem draw_fuel_src_eq_model (fuel : Nat) (C : RawTy) (O : DataOrderTy) (s : ImgSrc.ImageRaw) (tgt : DrawTargetD)
    (hw : BytesOk s.data) (hlen : FitsUsize s.data) (hu : IsU32 s.size) :
    ImgSrc.ImageRaw_ImageDrawable_draw fuel C O s tgt =
      [tgt (Call.fillContiguous (toIm C O s).boundingBox
        ((CP.new (toIm C O s) s.size 0 ((toIm C O s).dataWidth - s.size.w)).toListFuel fuel))] := by
  unfold ImgSrc.ImageRaw_ImageDrawable_draw
  rw [data_width_src_eq_model C O s hu.1]
  simp only [DrawTargetD_fill_contiguous, OriginDimensions_bounding_box, size_src_eq_model, u32_sub, u32_as_usize, Size_width]
  rw [ContiguousPixels_collect_src_eq_model C O fuel _ ?_ ?_, ContiguousPixels_new_src_eq_model C O s _ _ _ hw hlen]
  · rfl
  · rw [new_keeps_data C O s _ _ _ hw hlen]; exact hw
  · rw [new_keeps_data C O s _ _ _ hw hlen]; exact hlen

/-- `top_left` is a pair of `i32`s (the type bound `Int` lacks; `x as u32` wraps outside) -/
def IsI32 (p : Pt) : Prop := -2147483648 ≤ p.x ∧ p.x ≤ 2147483647 ∧ -2147483648 ≤ p.y ∧ p.y ≤ 2147483647
instance (p : Pt) : Decidable (IsI32 p) := by unfold IsI32; exact inferInstance
example : IsI32 ⟨6, 1⟩ := by decide

/-- The rejection test of `draw_sub_image`: the source compares `x as u32 + width` in `u64`, the model `x.toNat + width`
unbounded; they decide the same because a negative `x` is rejected before. -/
theorem sub_image_guard {x y : Int} (hx : x ≤ 2147483647) (hy : y ≤ 2147483647) (w h W H : Nat) (z : Prop) :
    ((((z ∨ x < 0) ∨ y < 0) ∨ (x % 4294967296).toNat + w > W) ∨ (y % 4294967296).toNat + h > H) ↔
      (z ∨ x < 0 ∨ y < 0 ∨ x.toNat + w > W ∨ y.toNat + h > H) := by
  by_cases hx0 : x < 0
  · simp only [hx0, or_true, true_or]
  · by_cases hy0 : y < 0
    · simp only [hy0, or_true, true_or]
    · rw [Int.emod_eq_of_lt (by omega) (by omega), Int.emod_eq_of_lt (by omega) (by omega)]
      simp only [hx0, hy0, or_false, false_or, or_assoc]

theorem draw_sub_image_fuel_src_eq_model (fuel : Nat) (C : RawTy) (O : DataOrderTy) (s : ImgSrc.ImageRaw)
    (tgt : DrawTargetD) (area : Rect) (hw : BytesOk s.data) (hlen : FitsUsize s.data) (hu : IsU32 s.size)
    (ha : IsI32 area.tl) :
    ImgSrc.ImageRaw_ImageDrawable_draw_sub_image fuel C O s tgt area =
      if area.isZeroSized = true ∨ area.tl.x < 0 ∨ area.tl.y < 0 ∨ area.tl.x.toNat + area.size.w > s.size.w
          ∨ area.tl.y.toNat + area.size.h > s.size.h then []
      else [tgt (Call.fillContiguous ⟨Pt.zero, area.size⟩
        ((CP.new (toIm C O s) area.size (area.tl.y.toNat * (toIm C O s).dataWidth + area.tl.x.toNat)
          ((toIm C O s).dataWidth - area.size.w)).toListFuel fuel))] := by
  unfold ImgSrc.ImageRaw_ImageDrawable_draw_sub_image
  rw [data_width_src_eq_model C O s hu.1, EG.C16.Src.is_zero_sized_src_eq_model]
  simp only [bool_or, i32_lt, u64_gt, u64_add, u64_from_u32, i32_as_u32, Point_x, Point_y, Rectangle_top_left,
    Rectangle_size, Size_width, Size_height, Bool.or_eq_true, decide_eq_true_eq,
    sub_image_guard ha.2.1 ha.2.2.2]
  split
  · rfl
  · rename_i hc
    have hx0 : 0 ≤ area.tl.x := by omega
    have hy0 : 0 ≤ area.tl.y := by omega
    have hx : i32_as_usize area.tl.x = area.tl.x.toNat :=
      congrArg Int.toNat (Int.emod_eq_of_lt hx0 (by omega))
    have hy : i32_as_usize area.tl.y = area.tl.y.toNat :=
      congrArg Int.toNat (Int.emod_eq_of_lt hy0 (by omega))
    simp only [DrawTargetD_fill_contiguous, u32_as_usize, usize_add, usize_mul, usize_sub,
      EG.C16.Src.new_src_eq_model, EG.C16.Src.Point_zero_src_eq_model]
    rw [hx, hy, ContiguousPixels_collect_src_eq_model C O fuel _ ?_ ?_,
      ContiguousPixels_new_src_eq_model C O s _ _ _ hw hlen]
    · rw [new_keeps_data C O s _ _ _ hw hlen]; exact hw
    · rw [new_keeps_data C O s _ _ _ hw hlen]; exact hlen

/-- **`ImageDrawable::draw` for `ImageRaw`** with any fuel above `width * height`: the calls of the hand model's
`draw`, as they reach the root display through `tgt`. -/
theorem draw_src_eq_model (fuel : Nat) (C : RawTy) (O : DataOrderTy) (s : ImgSrc.ImageRaw) (tgt : DrawTargetD)
    (hw : BytesOk s.data) (hlen : FitsUsize s.data) (hu : IsU32 s.size) (hf : Fits (bits C) s.data)
    (hfuel : s.size.w * s.size.h < fuel) :
    ImgSrc.ImageRaw_ImageDrawable_draw fuel C O s tgt = (toIm C O s).draw.map tgt := by
  rw [draw_fuel_src_eq_model fuel C O s tgt hw hlen hu, CP.toListFuel_enough (toIm C O s) (bits_valid C) hf _ _ _ _ hfuel]
  rfl

/-- **`ImageDrawable::draw_sub_image` for `ImageRaw`** with any fuel above the image's `width * height`. -/
theorem draw_sub_image_src_eq_model (fuel : Nat) (C : RawTy) (O : DataOrderTy) (s : ImgSrc.ImageRaw) (tgt : DrawTargetD)
    (area : Rect) (hw : BytesOk s.data) (hlen : FitsUsize s.data) (hu : IsU32 s.size) (ha : IsI32 area.tl)
    (hf : Fits (bits C) s.data) (hfuel : s.size.w * s.size.h < fuel) :
    ImgSrc.ImageRaw_ImageDrawable_draw_sub_image fuel C O s tgt area = ((toIm C O s).drawSubImage area).map tgt := by
  rw [draw_sub_image_fuel_src_eq_model fuel C O s tgt area hw hlen hu ha]
  unfold Img.ImageRaw.drawSubImage
  have e : (toIm C O s).size = s.size := rfl
  rw [e]
  by_cases hc : area.isZeroSized = true ∨ area.tl.x < 0 ∨ area.tl.y < 0 ∨ area.tl.x.toNat + area.size.w > s.size.w
      ∨ area.tl.y.toNat + area.size.h > s.size.h
  · rw [if_pos hc, if_pos hc]; rfl
  · rw [if_neg hc, if_neg hc]
    simp only [not_or] at hc
    have hle : area.size.w * area.size.h ≤ s.size.w * s.size.h := Nat.mul_le_mul (by omega) (by omega)
    rw [CP.toListFuel_enough (toIm C O s) (bits_valid C) hf _ _ _ _ (by omega)]
    rfl
example : Fits 1 [0xAA, 0x00, 0x55] := by unfold Fits; decide

/-- A generated image that is well formed in the sense of C09 (`WF` of its model image: what `ImageRaw::new` checks
plus the range facts) and whose buffer satisfies the guards of the raw `load`. -/
structure SrcWF (C : RawTy) (O : DataOrderTy) (s : ImgSrc.ImageRaw) : Prop where
  wf : (toIm C O s).WF
  bytes : BytesOk s.data
  usz : FitsUsize s.data

theorem SrcWF.isU32 {C : RawTy} {O : DataOrderTy} {s : ImgSrc.ImageRaw} (h : SrcWF C O s) : IsU32 s.size := by
  have h1 := h.wf.wI32; have h2 := h.wf.hI32
  have e : (toIm C O s).size = s.size := rfl
  rw [e] at h1 h2
  exact ⟨by omega, by omega⟩

/-- What the generated `ImageRaw::new` accepts is `SrcWF` (given the range facts). -/
theorem src_new_wf (C : RawTy) (O : DataOrderTy) (data : List Nat) (size : Sz) (s : ImgSrc.ImageRaw)
    (h : ImgSrc.ImageRaw_new C O data size = .ok s) (hw : size.w ≤ 2147483647) (hh : size.h ≤ 2147483647)
    (hf : Fits (bits C) data) (hb : BytesOk data) (hl : FitsUsize data) : SrcWF C O s := by
  have hm := ImageRaw_new_src_eq_model C O data size
  rw [h] at hm
  have hwf := EG.C09.wf_of_new (bits C) (ord O) data size (toIm C O s) hm.symm (bits_valid C) hw hh hf
  have hd : s.data = data := by
    have := ((EG.C09.new_ok_iff _ _ _ _ _).mp hm.symm).2
    exact congrArg Img.ImageRaw.data this
  exact ⟨hwf, hd ▸ hb, hd ▸ hl⟩
example : ImgSrc.ImageRaw_new .RawU1 .LittleEndianMsb0 [0xAA, 0x00, 0x55, 0xFF, 0xAA, 0x80] ⟨9, 3⟩ =
    .ok ⟨[0xAA, 0x00, 0x55, 0xFF, 0xAA, 0x80], ⟨9, 3⟩⟩ := rfl

/-- **`pixel` is `None` exactly outside the bounding box** (generated `pixel`, generated `size`). -/
theorem src_pixel_none_iff (C : RawTy) (O : DataOrderTy) (s : ImgSrc.ImageRaw) (h : SrcWF C O s) (p : Pt) :
    ImgSrc.ImageRaw_GetPixel_pixel C O s p = none ↔
      (OriginDimensions_bounding_box (ImgSrc.ImageRaw_OriginDimensions_size C O s)).contains p = false := by
  rw [pixel_src_eq_model C O s p h.bytes h.usz h.isU32]
  exact EG.C09.pixel_none_iff (toIm C O s) h.wf p

/-- **Inside, `pixel((x, y))` is the generated raw `load` at the padded index `x + y * data_width`.** -/
theorem src_pixel_eq_load (C : RawTy) (O : DataOrderTy) (s : ImgSrc.ImageRaw) (h : SrcWF C O s) (p : Pt) :
    ImgSrc.ImageRaw_GetPixel_pixel C O s p =
      if (OriginDimensions_bounding_box (ImgSrc.ImageRaw_OriginDimensions_size C O s)).contains p = true then
        RawData_load C O s.data (p.x.toNat + p.y.toNat * ImgSrc.ImageRaw_data_width C O s)
      else none := by
  rw [pixel_src_eq_model C O s p h.bytes h.usz h.isU32, data_width_src_eq_model C O s h.isU32.1,
    load_src_eq_model C O s.data _ h.bytes h.usz]
  exact EG.C09.pixel_eq_load (toIm C O s) h.wf p

/-- **`draw_stream`** over the generated `draw` (any fuel above `width * height`): one `fill_contiguous` of the
bounding box whose colours are the generated `pixel`s row-major, exactly `width * height` of them. -/
theorem src_draw_stream (fuel : Nat) (C : RawTy) (O : DataOrderTy) (s : ImgSrc.ImageRaw) (tgt : DrawTargetD)
    (h : SrcWF C O s) (hfuel : s.size.w * s.size.h < fuel) :
    ∃ cs, ImgSrc.ImageRaw_ImageDrawable_draw fuel C O s tgt =
        [tgt (Call.fillContiguous (OriginDimensions_bounding_box (ImgSrc.ImageRaw_OriginDimensions_size C O s)) cs)] ∧
      cs.map some = (OriginDimensions_bounding_box (ImgSrc.ImageRaw_OriginDimensions_size C O s)).points.map
        (ImgSrc.ImageRaw_GetPixel_pixel C O s) ∧
      cs.length = s.size.w * s.size.h := by
  obtain ⟨cs, h1, h2, h3⟩ := EG.C09.draw_stream (toIm C O s) h.wf
  refine ⟨cs, ?_, ?_, h3⟩
  · rw [draw_src_eq_model fuel C O s tgt h.bytes h.usz h.isU32 h.wf.fits hfuel, h1]; rfl
  · rw [h2]
    apply List.map_congr_left
    intro p _
    exact (pixel_src_eq_model C O s p h.bytes h.usz h.isU32).symm

/-- **`draw_sub_image`** over the generated function: nothing unless the area is non-empty and inside the image ... -/
theorem src_draw_sub_image_rejects (fuel : Nat) (C : RawTy) (O : DataOrderTy) (s : ImgSrc.ImageRaw) (tgt : DrawTargetD)
    (a : Rect) (h : SrcWF C O s) (ha : IsI32 a.tl) (hfuel : s.size.w * s.size.h < fuel) (hr : ¬ (toIm C O s).Accepts a) :
    ImgSrc.ImageRaw_ImageDrawable_draw_sub_image fuel C O s tgt a = [] := by
  rw [draw_sub_image_src_eq_model fuel C O s tgt a h.bytes h.usz h.isU32 ha h.wf.fits hfuel,
    EG.C09.draw_sub_image_rejects _ a hr]
  rfl

/-- ... and otherwise exactly the `width * height` generated `pixel`s of the area, row-major. -/
theorem src_draw_sub_image_stream (fuel : Nat) (C : RawTy) (O : DataOrderTy) (s : ImgSrc.ImageRaw) (tgt : DrawTargetD)
    (a : Rect) (h : SrcWF C O s) (ha : IsI32 a.tl) (hfuel : s.size.w * s.size.h < fuel) (hacc : (toIm C O s).Accepts a) :
    ∃ cs, ImgSrc.ImageRaw_ImageDrawable_draw_sub_image fuel C O s tgt a = [tgt (Call.fillContiguous ⟨Pt.zero, a.size⟩ cs)] ∧
      cs.map some = (Rect.points ⟨Pt.zero, a.size⟩).map (fun p => ImgSrc.ImageRaw_GetPixel_pixel C O s (a.tl + p)) ∧
      cs.length = a.size.w * a.size.h := by
  obtain ⟨cs, h1, h2, h3⟩ := EG.C09.draw_sub_image_stream (toIm C O s) h.wf a hacc
  refine ⟨cs, ?_, ?_, h3⟩
  · rw [draw_sub_image_src_eq_model fuel C O s tgt a h.bytes h.usz h.isU32 ha h.wf.fits hfuel, h1]; rfl
  · rw [h2]
    apply List.map_congr_left
    intro p _
    exact (pixel_src_eq_model C O s _ h.bytes h.usz h.isU32).symm
example : (toIm .RawU1 .LittleEndianMsb0 ⟨[0xAA, 0x00, 0x55, 0xFF, 0xAA, 0x80], ⟨9, 3⟩⟩).Accepts ⟨⟨6, 1⟩, ⟨3, 2⟩⟩ := by decide

/-- What the translator left out of src/image/{image_raw,sub_image,mod}.rs is exactly this: `new_const` (a `panic!` arm and
a struct pattern; `Ok` of `new` or a panic). An added function or override in any impl of these files shows up here.
src/image/image_drawable_ext.rs (`sub_image`, one line: `SubImage::new(self, area)`) is not read by the translator. -/
theorem img_untranslated_pinned :
    ImgSrc.untranslated = [("impl ImageRaw", ["new_const"])] := rfl

end EG.C09.Generated
