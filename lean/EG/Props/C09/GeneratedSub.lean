/-
  C09 — the image code REGENERATED FROM THE RUST SOURCE equals the hand-written model (part 2: `SubImage`, `Image`).

  `SubImage<T>` and `Image<T>` are generic over `T: ImageDrawable`; the generated functions take the DICTIONARY of `T`'s
  trait methods (`ImageDrawableT`: `size`, `draw`, `draw_sub_image`). `SrcDrawable.dict` builds, for a raw image or a
  (nested) sub-image, the dictionary the compiler builds: for `ImageRaw` from the generated `size` / `draw` /
  `draw_sub_image` of image_raw.rs, for `SubImage<T>` from the generated `size` / `draw` / `draw_sub_image` of
  sub_image.rs over `T`'s dictionary. The theorems say that every entry of that dictionary is the hand model's
  function (`Drawable.size`, `Drawable.draw`, `Drawable.drawSubImage`), as the calls reach the root display.

  Where source and hand model differ:
  * `SubImage::draw_sub_image` adds the corners with `checked_add` and draws NOTHING when a sum leaves `i32`
    (`SubImage_draw_sub_image_src`: exact, unconditional); the hand model adds in `Int` and lets the parent reject. Equal
    when no sum overflows (`NoOverflow`), and also for a raw parent when one does (`raw_rejects_unrepresentable`).
  * `SubImage::new` crops the area to the parent's size plus one pixel on each side (`crop_area`) before intersecting;
    the hand model intersects directly in `Int`. `crop_range_src`: the closed form of the generated `crop_range`;
    `SubImage_new_src_eq_model`: equal for every area (`IsI32` corner, `u32` size) and every parent of at most
    `i32::MAX - 2` pixels per side.
-/
import EG.Props.C09.Generated
namespace EG.C09.Generated
open EG EG.Raw EG.Img EG.RawSrcPrelude EG.ImgSrcPrelude EG.Generated EG.Generated.RawSrc EG.C11.Generated

/-- A raw image of the generated type or a (nested) sub-image of one: the generated side's `Drawable`. -/
inductive SrcDrawable where
  | raw (C : RawTy) (O : DataOrderTy) (s : ImgSrc.ImageRaw)
  | sub (parent : SrcDrawable) (area : Rect)

namespace SrcDrawable

def model : SrcDrawable → Drawable
  | raw C O s => .raw (toIm C O s)
  | sub p a => .sub p.model a

/-- The trait dictionary of the drawable's type, built from the GENERATED methods (what monomorphisation does). -/
def dict (fuel : Nat) : SrcDrawable → ImageDrawableT
  | raw C O s => ⟨ImgSrc.ImageRaw_OriginDimensions_size C O s, ImgSrc.ImageRaw_ImageDrawable_draw fuel C O s,
      ImgSrc.ImageRaw_ImageDrawable_draw_sub_image fuel C O s⟩
  | sub p a => ⟨ImgSrc.SubImage_OriginDimensions_size ⟨p.dict fuel, a⟩, ImgSrc.SubImage_ImageDrawable_draw ⟨p.dict fuel, a⟩,
      ImgSrc.SubImage_ImageDrawable_draw_sub_image ⟨p.dict fuel, a⟩⟩

def Ok (fuel : Nat) : SrcDrawable → Prop
  | raw C O s => SrcWF C O s ∧ s.size.w * s.size.h < fuel
  | sub p _ => p.Ok fuel

/-- no corner sum of `draw_sub_image(area)` leaves `i32` on the way down to the raw image -/
def NoOverflow : SrcDrawable → Rect → Prop
  | raw _ _ _, area => IsI32 area.tl
  | sub p a, area => IsI32 (area.tl + a.tl) ∧ p.NoOverflow (area.translate a.tl)

end SrcDrawable

theorem dict_size_src_eq_model (fuel : Nat) (d : SrcDrawable) : (d.dict fuel).size = d.model.size := by
  cases d <;> rfl

theorem SubImage_new_unchecked_src_eq_model (t : ImageDrawableT) (a : Rect) :
    ImgSrc.SubImage_new_unchecked t a = ⟨t, a⟩ ∧ ImgSrc.SubImage_OriginDimensions_size ⟨t, a⟩ = a.size := ⟨rfl, rfl⟩

theorem SubImage_draw_src (self : ImgSrc.SubImage) (tgt : DrawTargetD) :
    ImgSrc.SubImage_ImageDrawable_draw self tgt = self.parent.draw_sub_image tgt self.area := rfl

/-- Unconditional: the two `checked_add`s of the source both succeeding is `IsI32` of the summed corner. -/
theorem SubImage_draw_sub_image_src (self : ImgSrc.SubImage) (tgt : DrawTargetD) (area : Rect) :
    ImgSrc.SubImage_ImageDrawable_draw_sub_image self tgt area =
      if IsI32 (area.tl + self.area.tl) then self.parent.draw_sub_image tgt (area.translate self.area.tl) else [] := by
  by_cases h : IsI32 (area.tl + self.area.tl)
  · rw [if_pos h]
    unfold IsI32 at h
    simp only [Pt.add_x, Pt.add_y] at h
    unfold ImgSrc.SubImage_ImageDrawable_draw_sub_image
    simp only [i32_checked_add, Point_x, Point_y, Rectangle_top_left, Rectangle_size, EG.C16.Src.new_src_eq_model,
      EG.C16.Src.Point_new_src_eq_model, ImageDrawableT_draw_sub_image, DrawTargetD_ok]
    rw [if_pos ⟨h.1, h.2.1⟩, if_pos ⟨h.2.2.1, h.2.2.2⟩]
    rfl
  · rw [if_neg h]
    unfold IsI32 at h
    simp only [Pt.add_x, Pt.add_y] at h
    unfold ImgSrc.SubImage_ImageDrawable_draw_sub_image
    simp only [i32_checked_add, Point_x, Point_y, Rectangle_top_left, Rectangle_size, EG.C16.Src.new_src_eq_model,
      EG.C16.Src.Point_new_src_eq_model, ImageDrawableT_draw_sub_image, DrawTargetD_ok]
    by_cases hx : -2147483648 ≤ area.tl.x + self.area.tl.x ∧ area.tl.x + self.area.tl.x ≤ 2147483647
    · have hy : ¬ (-2147483648 ≤ area.tl.y + self.area.tl.y ∧ area.tl.y + self.area.tl.y ≤ 2147483647) :=
        fun hy => h ⟨hx.1, hx.2, hy.1, hy.2⟩
      rw [if_pos hx, if_neg hy]
    · rw [if_neg hx]

/-- **Nesting composes**: the `draw_sub_image` entry of the generated dictionary is the hand model's function, for an
area whose corner sums stay inside `i32` (`draw`: `dict_draw_src_eq_model`, `size`: `dict_size_src_eq_model`). -/
theorem dict_draw_sub_image_src_eq_model (fuel : Nat) (tgt : DrawTargetD) :
    ∀ (d : SrcDrawable) (area : Rect), d.Ok fuel → d.NoOverflow area →
      (d.dict fuel).draw_sub_image tgt area = (d.model.drawSubImage area).map tgt
  | .raw C O s, area, hok, hno =>
    draw_sub_image_src_eq_model fuel C O s tgt area hok.1.bytes hok.1.usz hok.1.isU32 hno hok.1.wf.fits hok.2
  | .sub p a, area, hok, hno => by
    show ImgSrc.SubImage_ImageDrawable_draw_sub_image ⟨p.dict fuel, a⟩ tgt area = _
    rw [SubImage_draw_sub_image_src, if_pos hno.1]
    exact dict_draw_sub_image_src_eq_model fuel tgt p (area.translate a.tl) hok hno.2

theorem dict_draw_src_eq_model (fuel : Nat) (tgt : DrawTargetD) :
    ∀ (d : SrcDrawable), d.Ok fuel → (∀ p a, d = .sub p a → p.NoOverflow a) →
      (d.dict fuel).draw tgt = d.model.draw.map tgt
  | .raw C O s, hok, _ => draw_src_eq_model fuel C O s tgt hok.1.bytes hok.1.usz hok.1.isU32 hok.1.wf.fits hok.2
  | .sub p a, hok, hno => dict_draw_sub_image_src_eq_model fuel tgt p a hok (hno p a rfl)

/-- Rejection of unrepresentable areas: where a corner sum leaves `i32` the generated code draws nothing ... -/
theorem sub_rejects_unrepresentable (self : ImgSrc.SubImage) (tgt : DrawTargetD) (area : Rect)
    (h : ¬ IsI32 (area.tl + self.area.tl)) : ImgSrc.SubImage_ImageDrawable_draw_sub_image self tgt area = [] := by
  rw [SubImage_draw_sub_image_src, if_neg h]

/-- ... and so does the hand model of a raw parent handed the unbounded sum (its image has at most `i32::MAX` pixels per
side): the two agree there as well. -/
theorem raw_rejects_unrepresentable (im : Img.ImageRaw) (hw : im.WF) (area : Rect) (h : ¬ IsI32 area.tl) :
    im.drawSubImage area = [] := by
  apply EG.C09.draw_sub_image_rejects
  intro hacc
  have h1 := hw.wI32; have h2 := hw.hI32
  unfold Img.ImageRaw.Accepts at hacc
  unfold IsI32 at h
  omega

/-- the cropped length of `crop_range`, closed form -/
def cropLen (start : Int) (len pl : Nat) : Nat := (max (min (start + len) ((pl : Int) + 1) - max start (-1)) 0).toNat

/-- The cropped range is `[max x (-1), min (x + w) (n + 1))`, empty when `cropLen` is 0. -/
theorem crop_end {x : Int} {w n : Nat} (hc : 0 < cropLen x w n) :
    max x (-1) + (cropLen x w n : Int) = min (x + w) (n + 1) := by
  unfold cropLen at hc ⊢
  omega

theorem crop_empty {x : Int} {w n : Nat} (hc : ¬ 0 < cropLen x w n) : min (x + w) ((n : Int) + 1) ≤ max x (-1) := by
  unfold cropLen at hc
  omega

/-- One axis, non-empty crop: the cropped range has the same common part with `[0, n)` as `[x, x + w)`. -/
theorem crop_axis_pos (x : Int) (w n : Nat) (hc : 0 < cropLen x w n) :
    max 0 (max x (-1)) = max 0 x ∧
      min (0 + (n : Int)) (max x (-1) + (cropLen x w n : Int)) = min (0 + (n : Int)) (x + w) := by
  rw [crop_end hc]
  omega

/-- One axis, empty crop: `[x, x + w)` misses `[0, n)` and does not cover 0, and the crop's start is outside `[0, n)`. -/
theorem crop_axis_zero (x : Int) (w n : Nat) (hw : 0 < w) (hc : ¬ 0 < cropLen x w n) :
    ¬ max 0 x < min (0 + (n : Int)) (x + w) ∧ ¬ (0 ≤ max x (-1) ∧ max x (-1) < 0 + (n : Int)) ∧
      ¬ (x ≤ 0 ∧ 0 < x + (w : Int)) := by
  have e := crop_empty hc
  omega

theorem crop_axis_contains0 (x : Int) (w n : Nat) (hc : 0 < cropLen x w n) :
    (max x (-1) ≤ 0 ∧ 0 < max x (-1) + (cropLen x w n : Int)) ↔ (x ≤ 0 ∧ 0 < x + (w : Int)) := by
  rw [crop_end hc]
  omega

theorem inter_crop (S : Sz) (x y : Int) (w h : Nat) (hw : 0 < w) (hh : 0 < h) :
    (⟨⟨0, 0⟩, S⟩ : Rect).intersection ⟨⟨max x (-1), max y (-1)⟩, ⟨cropLen x w S.w, cropLen y h S.h⟩⟩ =
      (⟨⟨0, 0⟩, S⟩ : Rect).intersection ⟨⟨x, y⟩, ⟨w, h⟩⟩ := by
  rw [Rect.intersection_eq, Rect.intersection_eq]
  dsimp only
  by_cases hc : 0 < cropLen x w S.w ∧ 0 < cropLen y h S.h
  · -- the crop has points: per axis it meets the parent as the area does
    obtain ⟨a1, a2⟩ := crop_axis_pos x w S.w hc.1
    obtain ⟨b1, b2⟩ := crop_axis_pos y h S.h hc.2
    have hcon : (⟨⟨max x (-1), max y (-1)⟩, ⟨cropLen x w S.w, cropLen y h S.h⟩⟩ : Rect).contains ⟨0, 0⟩ =
        (⟨⟨x, y⟩, ⟨w, h⟩⟩ : Rect).contains ⟨0, 0⟩ := by
      rw [Bool.eq_iff_iff, Rect.contains_iff_axes, Rect.contains_iff_axes]
      exact and_congr (crop_axis_contains0 x w S.w hc.1) (crop_axis_contains0 y h S.h hc.2)
    simp only [Rect.common, a1, a2, b1, b2, hcon, hc, hw, hh, and_self, ↓reduceIte]
  · -- the crop is empty on some axis: there the area misses the parent, and the crop's corner is outside it
    have hz : (¬ max 0 x < min (0 + (S.w : Int)) (x + w) ∨ ¬ max 0 y < min (0 + (S.h : Int)) (y + h)) ∧
        ¬ ((0 ≤ max x (-1) ∧ max x (-1) < 0 + (S.w : Int)) ∧ (0 ≤ max y (-1) ∧ max y (-1) < 0 + (S.h : Int))) ∧
        ¬ ((x ≤ 0 ∧ 0 < x + (w : Int)) ∧ (y ≤ 0 ∧ 0 < y + (h : Int))) := by
      by_cases h1 : 0 < cropLen x w S.w
      · have k := crop_axis_zero y h S.h hh (fun h2 => hc ⟨h1, h2⟩)
        exact ⟨Or.inr k.1, fun c => k.2.1 c.2, fun c => k.2.2 c.2⟩
      · have k := crop_axis_zero x w S.w hw h1
        exact ⟨Or.inl k.1, fun c => k.2.1 c.1, fun c => k.2.2 c.1⟩
    have hcon1 : (⟨⟨0, 0⟩, S⟩ : Rect).contains ⟨max x (-1), max y (-1)⟩ = false := by
      rw [Bool.eq_false_iff, ne_eq, Rect.contains_iff_axes]
      exact hz.2.1
    have hcon2 : (⟨⟨x, y⟩, ⟨w, h⟩⟩ : Rect).contains ⟨0, 0⟩ = false := by
      rw [Bool.eq_false_iff, ne_eq, Rect.contains_iff_axes]
      exact hz.2.2
    have hov : ¬ (max 0 x < min (0 + (S.w : Int)) (x + w) ∧ max 0 y < min (0 + (S.h : Int)) (y + h)) :=
      fun c => hz.1.elim (fun k => k c.1) (fun k => k c.2)
    simp only [hcon1, hcon2, hov, hc, hw, hh, and_self, Bool.false_eq_true, ↓reduceIte, ite_self]
/-- `crop_range`, closed form (`length <= u32::MAX`: the `as u32` of a value that is at most `length`) -/
theorem crop_range_src (start : Int) (len pl : Nat) (hl : len ≤ 4294967295) :
    ImgSrc.crop_range start len pl = (max start (-1), cropLen start len pl) := by
  unfold ImgSrc.crop_range cropLen
  simp only [i64_min, i64_add, i64_from_i32, i64_from_u32, i32_max, i32_neg, i64_as_u32, i64_max, i64_sub, Prod.mk.injEq, true_and]
  congr 1
  omega

theorem rectsrc_bottom_right_zero (r : Rect) (hz : ¬ (r.size.w > 0 ∧ r.size.h > 0)) : RectSrc.bottom_right r = none := by
  unfold RectSrc.bottom_right
  rw [if_neg]
  simpa [EG.RectSrcPrelude.bool_and, EG.RectSrcPrelude.u32_gt, EG.RectSrcPrelude.Size_width, EG.RectSrcPrelude.Size_height,
    EG.RectSrcPrelude.Rectangle_size] using hz

/-- `intersection` with a zero sized `other` of ANY size (its `as i32` casts are never evaluated) -/
theorem rectsrc_intersection_zero_other (a b : Rect) (ha : EG.C16.Src.FitsI32 a.size) (hz : ¬ (b.size.w > 0 ∧ b.size.h > 0)) :
    RectSrc.intersection a b = a.intersection b := by
  unfold RectSrc.intersection Rect.intersection
  rw [rectsrc_bottom_right_zero b hz, Rect.bottomRight_none hz, EG.C16.Src.bottom_right_src_eq_model a ha]
  cases a.bottomRight with
  | none => rfl
  | some sbr =>
    simp only [EG.C16.Src.contains_src_eq_model _ _ ha, EG.C16.Src.zero_src_eq_model, EG.RectSrcPrelude.Rectangle_top_left]

theorem cropLen_le (x : Int) (w n : Nat) : cropLen x w n ≤ w ∧ cropLen x w n ≤ n + 2 := by unfold cropLen; omega

theorem crop_area_src (area : Rect) (S : Sz) (hu : IsU32 area.size) :
    ImgSrc.crop_area area S = if area.isZeroSized = true then area else
      ⟨⟨max area.tl.x (-1), max area.tl.y (-1)⟩, ⟨cropLen area.tl.x area.size.w S.w, cropLen area.tl.y area.size.h S.h⟩⟩ := by
  unfold ImgSrc.crop_area
  rw [EG.C16.Src.is_zero_sized_src_eq_model]
  simp only [Point_x, Point_y, Rectangle_top_left, Rectangle_size, Size_width, Size_height,
    crop_range_src _ _ _ hu.1, crop_range_src _ _ _ hu.2, EG.C16.Src.new_src_eq_model, EG.C16.Src.Point_new_src_eq_model,
    EG.C16.Src.Size_new_src_eq_model]

/-- **`SubImage::new`**: cropping the area to the parent's size plus one pixel per side before the
`i32` intersection gives the hand model's unbounded intersection, for EVERY area (any `i32` corner, any `u32` size). -/
theorem SubImage_new_src_eq_model (t : ImageDrawableT) (area : Rect) (hu : IsU32 area.size)
    (hS : t.size.w ≤ 2147483645 ∧ t.size.h ≤ 2147483645) :
    ImgSrc.SubImage_new t area = ⟨t, (⟨Pt.zero, t.size⟩ : Rect).intersection area⟩ := by
  unfold ImgSrc.SubImage_new
  simp only [ImageDrawableT_bounding_box, Rectangle_size]
  rw [crop_area_src area t.size hu]
  have hA : EG.C16.Src.FitsI32 (⟨Pt.zero, t.size⟩ : Rect).size := ⟨by show t.size.w ≤ _; omega, by show t.size.h ≤ _; omega⟩
  congr 1
  by_cases hz : area.isZeroSized = true
  · rw [if_pos hz]
    apply rectsrc_intersection_zero_other _ _ hA
    unfold Rect.isZeroSized at hz
    simp only [Bool.or_eq_true, beq_iff_eq] at hz
    omega
  · rw [if_neg hz]
    unfold Rect.isZeroSized at hz
    simp only [Bool.or_eq_true, beq_iff_eq, not_or] at hz
    have h1 := cropLen_le area.tl.x area.size.w t.size.w
    have h2 := cropLen_le area.tl.y area.size.h t.size.h
    rw [EG.C16.Src.intersection_src_eq_model _ _ hA ⟨by show cropLen _ _ _ ≤ _; omega, by show cropLen _ _ _ ≤ _; omega⟩]
    have := inter_crop t.size area.tl.x area.tl.y area.size.w area.size.h (by omega) (by omega)
    exact this

theorem Image_new_src_eq_model (t : ImageDrawableT) (o : Pt) : ImgSrc.Image_new t o = ⟨t, o⟩ := rfl
theorem Image_translate_src_eq_model (i : ImgSrc.Image) (by_ : Pt) :
    ImgSrc.Image_Transform_translate i by_ = ⟨i.image_drawable, i.offset + by_⟩ := rfl
/-- `Transform::translate_mut` (`self.offset += by; self`): the returned reference and `*self` afterwards are the hand
model's `translateMut` -/
theorem Image_translate_mut_src_eq_model (fuel : Nat) (d : SrcDrawable) (o by_ : Pt) :
    ImgSrc.Image_Transform_translate_mut ⟨d.dict fuel, o⟩ by_ =
      (⟨d.dict fuel, ((Img.Image.new d.model o).translateMut by_).offset⟩,
       ⟨d.dict fuel, ((Img.Image.new d.model o).translateMut by_).offset⟩) := rfl
theorem Image_bounding_box_src_eq_model (fuel : Nat) (d : SrcDrawable) (o : Pt) :
    ImgSrc.Image_Dimensions_bounding_box ⟨d.dict fuel, o⟩ = (Img.Image.new d.model o).boundingBox := by
  unfold ImgSrc.Image_Dimensions_bounding_box
  simp only [ImageDrawableT_bounding_box, dict_size_src_eq_model, EG.C16.Src.Transform_translate_src_eq_model]
  rfl

/-- `Image::with_center` (`Rectangle::with_center` is RectSrc's; `IsU32`: its guard) -/
theorem Image_with_center_src_eq_model (fuel : Nat) (d : SrcDrawable) (c : Pt) (hu : IsU32 d.model.size) :
    ImgSrc.Image_with_center (d.dict fuel) c = ⟨d.dict fuel, (Img.Image.withCenter d.model c).offset⟩ := by
  unfold ImgSrc.Image_with_center
  simp only [ImageDrawableT_size, dict_size_src_eq_model, Rectangle_top_left,
    EG.C16.Src.with_center_src_eq_model c d.model.size hu]
  rfl

/-- `Drawable::draw for Image`: the drawable's `draw` on `display.translated(offset)`; on the root display (`id`) the
calls of the hand model's `Image::draw`. -/
theorem Image_draw_src_eq_model (fuel : Nat) (d : SrcDrawable) (o : Pt) (hok : d.Ok fuel)
    (hno : ∀ p a, d = .sub p a → p.NoOverflow a) :
    ImgSrc.Image_Drawable_draw ⟨d.dict fuel, o⟩ id = (Img.Image.new d.model o).draw := by
  unfold ImgSrc.Image_Drawable_draw
  simp only [ImageDrawableT_draw]
  rw [dict_draw_src_eq_model fuel _ d hok hno]
  rfl

/-- **`draw_exact` over the generated code**: drawing the generated `Image` of a generated (sub-)image on a
native-fill target with box `B` sets `q` to the picture's pixel at `q - o` iff `q` is in the image's box and in `B`. -/
theorem src_draw_exact (fuel : Nat) (d : SrcDrawable) (o : Pt) (hok : d.Ok fuel)
    (hno : ∀ p a, d = .sub p a → p.NoOverflow a) (hg : d.model.Good)
    (hr : (Img.Image.new d.model o).boundingBox.InRange) (B : Rect) (q : Pt) :
    runNative B (ImgSrc.Image_Drawable_draw (ImgSrc.Image_new (d.dict fuel) o) id) q =
      if B.contains q = true ∧ (ImgSrc.Image_Dimensions_bounding_box (ImgSrc.Image_new (d.dict fuel) o)).contains q = true
      then d.model.pixelSpec (q - o) else none := by
  rw [Image_new_src_eq_model, Image_draw_src_eq_model fuel d o hok hno, Image_bounding_box_src_eq_model]
  exact EG.C09.draw_exact d.model hg o hr B q

/-- `sub_image(area)` (`ImageDrawableExt::sub_image` is `SubImage::new(self, area)`) over the generated dictionary of any
(nested) drawable: the `SubImage` whose model is the hand model's `subImage`. -/
theorem src_sub_image_eq_model (fuel : Nat) (d : SrcDrawable) (area : Rect) (hu : IsU32 area.size)
    (hS : d.model.size.w ≤ 2147483645 ∧ d.model.size.h ≤ 2147483645) :
    ImgSrc.SubImage_new (d.dict fuel) area = ⟨d.dict fuel, d.model.boundingBox.intersection area⟩ ∧
      (SrcDrawable.sub d (d.model.boundingBox.intersection area)).model = d.model.subImage area := by
  refine ⟨?_, rfl⟩
  rw [SubImage_new_src_eq_model (d.dict fuel) area hu (by rw [dict_size_src_eq_model]; exact hS), dict_size_src_eq_model]
  rfl

/-- the 9 x 3 one bit image of Props/C09.lean, as a generated value -/
def exSrc : SrcDrawable := .raw .RawU1 .LittleEndianMsb0 ⟨[0xAA, 0x00, 0x55, 0xFF, 0xAA, 0x80], ⟨9, 3⟩⟩

example : exSrc.Ok 28 := by
  refine ⟨⟨exIm_wf, ?_, by unfold FitsUsize usizeMax; decide⟩, by decide⟩
  intro b hb
  simp at hb
  omega
example : (SrcDrawable.sub exSrc ⟨⟨1, 1⟩, ⟨3, 2⟩⟩).NoOverflow ⟨⟨0, 0⟩, ⟨2, 2⟩⟩ :=
  ⟨by decide, (by decide : IsI32 ((⟨⟨0, 0⟩, ⟨2, 2⟩⟩ : Rect).translate ⟨1, 1⟩).tl)⟩
example : ¬ IsI32 ((⟨⟨2147483647, 0⟩, ⟨1, 1⟩⟩ : Rect).tl + (⟨⟨1, 1⟩, ⟨3, 2⟩⟩ : Rect).tl) := by decide
example : ∀ p a, SrcDrawable.sub exSrc ⟨⟨1, 1⟩, ⟨3, 2⟩⟩ = .sub p a → p.NoOverflow a := by
  intro p a h; cases h; exact (by decide : IsI32 (⟨⟨1, 1⟩, ⟨3, 2⟩⟩ : Rect).tl)
example : IsU32 (⟨⟨-2147483648, 2147483647⟩, ⟨4294967295, 4294967295⟩⟩ : Rect).size := by decide
example : exSrc.model.size.w ≤ 2147483645 ∧ exSrc.model.size.h ≤ 2147483645 := by decide
/-- an area far outside (its bottom right corner is not a `Point`): cropped, then intersected = nothing -/
example : (ImgSrc.SubImage_new (exSrc.dict 28) ⟨⟨2147483647, 2147483647⟩, ⟨4294967295, 4294967295⟩⟩).area = Rect.zero := by
  rw [(src_sub_image_eq_model 28 exSrc _ (by decide) (by decide)).1]; decide
example : exSrc.model.Good := exIm_wf

end EG.C09.Generated
