/-
  C09 / colours — identifying a colour with its raw value (what the C09 model does: `ImageRaw::pixel`
  returns the raw value the real code hands to `C::from(raw)`) loses nothing.

  Glue between the C09 model (`EG.Model.ImageRaw`: pixels are raw values `< 2^bits`) and the C12 colour
  model (`EG.Model.Color` over the generated table `EG.Generated.colorTable` of EVERY built-in colour
  type): the observable colour of a pixel is `C::from(raw)`, and what a reader of that colour can see of
  it is `Raw::from(colour)` = `toRaw (fromRaw raw)`.

    * every built-in colour type, every raw value that fits the type's depth (`raw < 2^usedBits`; for a
      type without unused bits: every raw value of the raw type): `toRaw (fromRaw raw) = raw` — the map
      raw -> colour is injective, the colour IS its raw value;
    * raw values with bits set above the used ones (only possible for the types listed in
      `padded_types`: 12 / 15 / 18 used bits in a 16 / 24 bit raw type): `C::from(raw)` clears exactly
      those bits, `toRaw (fromRaw raw) = raw % 2^usedBits`, and two raw values give the same colour iff
      they agree on the used bits. For those types the image shows the pixel data with the unused bits
      cleared; the model's raw value is exact up to that mask.

  All statements follow from C12's theorems (`raw_clears_unused_only`, `raw_roundtrip`,
  `from_raw_valid`). The harness instantiates `ImageRaw<C>` with
  BinaryColor / Gray2 / Gray4 / Gray8 / Rgb565 / Rgb888 (all in `full_depth_types`) and a local 32-bit
  colour whose `From` impls are the identity by construction.
-/
import EG.Props.C09
import EG.Props.C12
import EG.Lemmas.RawLoadStore
namespace EG.C09.Colours
open EG EG.Raw EG.Img EG.Generated EG.ColorSpec

/-- The used bits never exceed the raw type's depth. -/
theorem used_bits_le_depth : ∀ s ∈ colorTable, s.usedBits ≤ s.rawBpp :=
  fun s hs => Color.usedBits_le (C12.table_wellFormed s hs)

/-- The built-in colour types whose raw type has no unused bit (`usedBits = BITS_PER_PIXEL`). -/
theorem full_depth_types :
    (colorTable.filter (fun s => s.usedBits == s.rawBpp)).map (·.name) =
      ["Rgb332", "Rgb565", "Bgr565", "Rgb888", "Bgr888", "Gray2", "Gray4", "Gray8", "BinaryColor"] := by
  decide

/-- The built-in colour types with unused high bits in their raw type: name, used bits, depth. -/
theorem padded_types :
    (colorTable.filter (fun s => s.usedBits != s.rawBpp)).map (fun s => (s.name, s.usedBits, s.rawBpp)) =
      [("Rgb444", 12, 16), ("Rgb555", 15, 16), ("Bgr555", 15, 16), ("Rgb666", 18, 24), ("Bgr666", 18, 24)] := by
  decide

/-- raw -> colour -> raw for every raw value of the raw type (C12 `raw_clears_unused_only`). -/
theorem raw_colour_raw : ∀ s ∈ colorTable, ∀ raw, raw < 2 ^ s.rawBpp →
    s.toRaw (s.fromRaw raw) = raw % 2 ^ s.usedBits := C12.raw_clears_unused_only
example : ∃ s ∈ colorTable, s.name = "Rgb565" ∧ (0xF81F : Nat) < 2 ^ s.rawBpp := by decide

/-- **Every raw value that fits the colour type's depth survives raw -> colour -> raw unchanged.** -/
theorem raw_colour_raw_of_fits : ∀ s ∈ colorTable, ∀ raw, raw < 2 ^ s.usedBits →
    s.toRaw (s.fromRaw raw) = raw := by
  intro s hs raw hr
  have hle := used_bits_le_depth s hs
  have hlt : raw < 2 ^ s.rawBpp := Nat.lt_of_lt_of_le hr (Nat.pow_le_pow_right (by decide) hle)
  rw [raw_colour_raw s hs raw hlt, Nat.mod_eq_of_lt hr]
example : ∃ s ∈ colorTable, s.name = "Rgb555" ∧ (0x7C1F : Nat) < 2 ^ s.usedBits := by decide

/-- For a type without unused bits that is every raw value of the raw type. -/
theorem raw_colour_raw_full : ∀ s ∈ colorTable, s.usedBits = s.rawBpp → ∀ raw, raw < 2 ^ s.rawBpp →
    s.toRaw (s.fromRaw raw) = raw := by
  intro s hs hu raw hr
  exact raw_colour_raw_of_fits s hs raw (by rw [hu]; exact hr)
example : ∃ s ∈ colorTable, s.name = "Gray4" ∧ s.usedBits = s.rawBpp ∧ (9 : Nat) < 2 ^ s.rawBpp := by decide

/-- The colour made from a raw value depends on its used bits only ... -/
theorem colour_of_masked : ∀ s ∈ colorTable, ∀ raw, raw < 2 ^ s.rawBpp →
    s.fromRaw (raw % 2 ^ s.usedBits) = s.fromRaw raw := by
  intro s hs raw hr
  rw [← raw_colour_raw s hs raw hr]
  exact C12.raw_roundtrip s hs _ (C12.from_raw_valid s hs raw hr)

/-- ... and on nothing less: **two raw values give the same colour iff they agree on the used bits**
(for a type without unused bits: iff they are equal — raw -> colour is injective). -/
theorem same_colour_iff : ∀ s ∈ colorTable, ∀ a b, a < 2 ^ s.rawBpp → b < 2 ^ s.rawBpp →
    (s.fromRaw a = s.fromRaw b ↔ a % 2 ^ s.usedBits = b % 2 ^ s.usedBits) := by
  intro s hs a b ha hb
  constructor
  · intro h
    rw [← raw_colour_raw s hs a ha, ← raw_colour_raw s hs b hb, h]
  · intro h
    rw [← colour_of_masked s hs a ha, ← colour_of_masked s hs b hb, h]

theorem raw_to_colour_injective : ∀ s ∈ colorTable, s.usedBits = s.rawBpp →
    ∀ a b, a < 2 ^ s.rawBpp → b < 2 ^ s.rawBpp → s.fromRaw a = s.fromRaw b → a = b := by
  intro s hs hu a b ha hb h
  have := (same_colour_iff s hs a b ha hb).mp h
  rw [hu, Nat.mod_eq_of_lt ha, Nat.mod_eq_of_lt hb] at this
  exact this

/-- Witness of the masking: `Rgb555::from(RawU16::new(0xFFFF))` and `..(0x7FFF)` are the same colour,
whose raw value is `0x7FFF`. -/
theorem masked_witness : ∃ s ∈ colorTable, s.name = "Rgb555" ∧ s.fromRaw 0xFFFF = s.fromRaw 0x7FFF ∧
    s.toRaw (s.fromRaw 0xFFFF) = 0x7FFF := by decide

/-- A pixel of a well-formed raw image over a byte buffer is a raw value of the image's depth. -/
theorem pixel_fits (im : ImageRaw) (hw : im.WF) (hb : BytesOk im.data) (p : Pt) (raw : Nat)
    (h : im.pixel p = some raw) : raw < 2 ^ im.bits := by
  rw [pixel_eq_load im hw] at h
  split at h
  · exact load_lt hw.bits im.order hb h
  · cases h
example : exIm.WF ∧ BytesOk exIm.data ∧ exIm.pixel ⟨8, 1⟩ = some 1 := ⟨exIm_wf, by unfold BytesOk; decide, by decide⟩

/-- **The colour `ImageRaw<C>::pixel` returns**, for every built-in colour type `C` (`s`) whose raw
type has the image's depth: it is a value of the type, its raw value is the model's pixel with the
unused bits cleared, and the model's pixel itself whenever that fits the used bits (always, for a type
without unused bits). -/
theorem image_pixel_colour : ∀ s ∈ colorTable, ∀ (im : ImageRaw), im.WF → BytesOk im.data →
    im.bits = s.rawBpp → ∀ p raw, im.pixel p = some raw →
      s.Valid (s.fromRaw raw) ∧ s.toRaw (s.fromRaw raw) = raw % 2 ^ s.usedBits ∧
      (raw < 2 ^ s.usedBits → s.toRaw (s.fromRaw raw) = raw) ∧
      (s.usedBits = s.rawBpp → s.toRaw (s.fromRaw raw) = raw) := by
  intro s hs im hw hb hbits p raw h
  have hr : raw < 2 ^ s.rawBpp := by rw [← hbits]; exact pixel_fits im hw hb p raw h
  exact ⟨C12.from_raw_valid s hs raw hr, raw_colour_raw s hs raw hr,
    raw_colour_raw_of_fits s hs raw, fun hu => raw_colour_raw_full s hs hu raw hr⟩
example : ∃ s ∈ colorTable, s.name = "BinaryColor" ∧ exIm.bits = s.rawBpp := by decide

-- [V] that the real `ImageRaw<C>::pixel` / `ContiguousPixels` apply exactly `C::from(raw)` to the raw value the iterator yields (Rust-level: `.map(|r| r.into())`, one call, no other processing) and that `From<Raw>` / `Into<Raw>` of each type are the bodies C12 models (C12's tie: regenerated table + correspondence stream): carried by correspondence + oracle only
end EG.C09.Colours
