/-
  C17 — lines. Property theorems about the models `EG.Line.points` (= `Line::points()`,
  src/primitives/line/{bresenham,points}.rs) and `EG.Thick.thickPoints` (= the pixels of a stroked
  line, src/primitives/line/{thick_points,styled}.rs). Helper lemmas: EG/Lemmas/Line*.lean,
  Thick{Width1,Run,Accumulator,Total}.lean.

  Property text: "Line::points() starts at start, ends at end, has max(|dx|, |dy|) + 1 points, each
  step moves one pixel along the major axis and at most one along the minor axis, and every point
  is within half a pixel of the ideal line. A stroked line of width w contains the thin line,
  yields no pixel twice, stays within w/2 + 2.5 pixels of the ideal line and within one pixel of
  the segment's two ends, is at least w - 1 pixels wide at its middle, and for width 1 equals
  points()."

  TIE BY REGENERATION: EG/Props/C17/GeneratedLine.lean and GeneratedThick.lean prove the hand models used here equal, function
  by function and for all inputs, to definitions that tools/tr_linesrc.py regenerates from the Rust text on every check
  (EG/Generated/LineSrc.lean, ThickSrc.lean), and restate the theorems below over the regenerated functions (`src_*`).

  All thin-line claims are proved for all end points (unbounded integers). Of the stroked-line
  sentence "for width 1 equals points()" (`thick_width1_eq_points`) and "contains the thin line"
  (`thick_contains_thin`: the centre line is the first parallel emitted, for every width) are
  theorems, and the model is total (`thick_points_total`: for every line and width it yields a
  list; no loop bound or step budget is ever exhausted). "Yields no pixel twice" and "within one
  pixel of the segment's two ends" are theorems of EG/Props/C17/Stroke.lean (`thick_no_pixel_twice`,
  `thick_within_one_pixel_of_ends`, with the oracle's exact metrics, every line and width), and so is
  the "no hole" reading of the middle width (`thick_solid`: every lattice point within w/2 - 1 of the
  ideal line and at least 1 px inside both ends is a stroked pixel). The others:
  -- [V] a stroked line stays within w/2 + 2.5 pixels of the ideal line AS DRAWN (no discount), on the oblique strokes of width <= 33 that have more `Extra` parallels than the guard of `thick_band_partial` allows: carried by correspondence + oracle only (the oracle never saw a failure below width 34; the first real failure is at width 34, so no inequality with slack can close it). Proved in EG/Props/C17/Stroke.lean: `thick_band_with_skipped_discount` - EVERY line and width: with the skipped `Extra` steps of the pixel's side discounted (t = 2|cross| - 2 min(|dx|,|dy|) sk(side), the oracle's exact form and counters) every pixel is within w/2 + 1.25 px, hence within the oracle's attribution tolerance w/2 + 1.5 (`thick_band_overcount_explained_all`: on the model EVERY band failure is the known finding) and the text's w/2 + 2.5 (`thick_band_discounted_all`); `thick_band_axis_parallel_or_diagonal` - axis-parallel, diagonal and zero-length lines of every width, even within w/2 + 0.75 as drawn; `thick_band_partial` - as drawn, every stroke with 2 (D - d) E <= 7 D + d, E = number of Extra parallels, D/d = max/min(|dx|,|dy|); `thick_band_overcount_partial` - as drawn, every stroke: distance <= w/2 + (3D - d)/(4L) + (E/2)(D - d)/L
  -- [V] [N] "a stroked line stays within w/2 + 2.5 pixels of the ideal line" for ALL widths is FALSE of the model and of the real code (KNOWN FINDING, class `C17:thick-band:wide-stroke-overcount`; kernel-decided witness `thick_band_false`: line (0,0)-(2,1) width 37, pixel (9,-19); on the real code from width 34, corpus/C17.ops): `next_parallel` skips an `Extra` perpendicular step without adding its thickness to the accumulator (`next_adds_one_step`, `skipped_step_not_counted`), wide oblique strokes are up to ~11 % too wide; the oracle reports every occurrence under that class exactly when each pixel is inside the band after the uncounted displacement min(|dx|,|dy|)/L per skipped step of its side is discounted, any other band failure keeps the class `C17:thick-band` (theorem `thick_band_overcount_explained_all`, EG/Props/C17/Stroke.lean: on the MODEL the discounted predicate holds for every stroke, even with 1.25 px, so the unsuffixed class can fire only on a stroke that departs from the model, which the correspondence would report as well)
  -- [V] a stroked line is at least w - 1 pixels wide at its middle, read as the perpendicular EXTENT of the middle slab ((max cross - min cross)^2 >= (w - 2)^2 L2 over the pixels whose projection is within one pixel of the midpoint; `Stroke.ThickMiddleWidth`), on the oblique strokes outside the three proved regimes: carried by correspondence + oracle only. Proved (EG/Props/C17/Stroke.lean): the full claim for axis-parallel and diagonal lines of every width (`thick_middle_width_axis_parallel_or_diagonal`), for every stroke with enough Extra parallels, 5D + d - 2(D - d)E <= 4L (`thick_middle_width_extras_partial`), and for flat thin strokes, (w - 2) d^2 <= 2D (`thick_middle_width_flat_partial`) - together 83 % of all strokes with D <= 40, 3 <= w <= 40; for EVERY line of non-zero length and every width the solid reading (`thick_solid`: no hole within w/2 - 1 of the line) and `thick_middle_width_partial` (the middle slab is never empty and its extent is at least w - 3, one pixel less than claimed). The claim has no slack: on (0,0)-(D,1) with w = 2D the margin is (1 + 1/D)/L px (0.0084 px at D = 120, tending to 0; this family lies in the flat regime and is proved), so the rest needs the exact positions of the parallels' minor steps relative to the slab, not an inequality; no counterexample exists for max(|dx|,|dy|) <= 60 x w <= 40 (all octants), min <= 8 x max <= 120 x w <= 6 max/min + 10, max <= 40 x w <= 400 (searched on the real code)
-/
import EG.Lemmas.LineProps
import EG.Lemmas.ThickWidth1
import EG.Lemmas.ThickRun
import EG.Lemmas.ThickAccumulator
import EG.Lemmas.ThickTotal
namespace EG.C17
open EG EG.Line

/-- `max(|dx|, |dy|)` of a line. -/
def majorLen (l : Line) : Nat := max (l.stop.x - l.start.x).natAbs (l.stop.y - l.start.y).natAbs

/-- The y axis is the major axis (ties count as y-major, as in `BresenhamParameters::new`). -/
def yIsMajor (l : Line) : Prop := (l.stop.y - l.start.y).natAbs ≥ (l.stop.x - l.start.x).natAbs

theorem dmaj_eq_majorLen (l : Line) : dmaj l = (majorLen l : Int) := by
  rw [dmaj_eq_max, aabs_eq_natAbs, aabs_eq_natAbs]; unfold dxOf dyOf majorLen; omega

theorem yMajor_iff (l : Line) : yMajor l ↔ yIsMajor l := by
  unfold yMajor yIsMajor; rw [aabs_eq_natAbs, aabs_eq_natAbs]; unfold dxOf dyOf; omega

/-- `points()` starts at `start`. -/
theorem points_head (l : Line) : (points l).head? = some l.start := by
  rw [points_eq, List.range_succ_eq_map]
  simp [ptAt_zero]

/-- `points()` ends at `end`. -/
theorem points_last (l : Line) : (points l).getLast? = some l.stop := by
  rw [points_eq, List.range_succ, List.map_append]
  simp only [List.map_cons, List.map_nil, List.getLast?_append, List.getLast?_singleton,
    Option.some_or]
  rw [ptAt_last l _ (by have := dmaj_nonneg l; omega)]

/-- `points()` has `max(|dx|, |dy|) + 1` points. -/
theorem points_length (l : Line) : (points l).length = majorLen l + 1 := by
  rw [points_length']; have := dmaj_eq_majorLen l; omega

/-- Each step moves exactly one pixel along the major axis and at most one along the minor axis. -/
theorem points_steps (l : Line) (i : Nat) (h : i + 1 < (points l).length) :
    (yIsMajor l →
      ((points l)[i + 1].y - (points l)[i].y).natAbs = 1 ∧
      ((points l)[i + 1].x - (points l)[i].x).natAbs ≤ 1) ∧
    (¬ yIsMajor l →
      ((points l)[i + 1].x - (points l)[i].x).natAbs = 1 ∧
      ((points l)[i + 1].y - (points l)[i].y).natAbs ≤ 1) := by
  rw [points_getElem, points_getElem, ← yMajor_iff]
  obtain ⟨hy, hx⟩ := ptAt_step l i
  -- a step of `0` or `sgn a` has absolute value at most 1
  have hle : ∀ {d a : Int}, d = 0 ∨ d = sgn a → d.natAbs ≤ 1 := by
    rintro d a (rfl | rfl)
    · decide
    · rw [sgn_natAbs]; exact Nat.le_refl 1
  exact ⟨fun hm => ⟨by rw [(hy hm).1, sgn_natAbs], hle (hy hm).2⟩,
    fun hm => ⟨by rw [(hx hm).1, sgn_natAbs], hle (hx hm).2⟩⟩

example : (3 : Nat) + 1 < (points ⟨⟨1, 2⟩, ⟨5, 4⟩⟩).length := by decide

/-- Every point is within half a pixel of the ideal line (measured along the minor axis):
`|2 (dx (y - y0) - dy (x - x0))| ≤ max(|dx|, |dy|)`. -/
theorem points_within_half_pixel (l : Line) (p : Pt) (hp : p ∈ points l) :
    (2 * ((l.stop.x - l.start.x) * (p.y - l.start.y)
        - (l.stop.y - l.start.y) * (p.x - l.start.x))).natAbs ≤ majorLen l := by
  obtain ⟨k, hk, rfl⟩ := mem_points.mp hp
  have := ptAt_cross l k hk
  have := dmaj_eq_majorLen l
  unfold dxOf dyOf at *
  omega

example : (⟨3, 3⟩ : Pt) ∈ points ⟨⟨1, 2⟩, ⟨5, 4⟩⟩ := by decide

/-- A zero-length line yields exactly `[start]`. -/
theorem points_zero_length (s : Pt) : points ⟨s, s⟩ = [s] := Line.points_zero_length s

/-- Every point lies coordinate-wise between `start` and `end` (used by C02). -/
theorem line_points_in_box (l : Line) (p : Pt) (hp : p ∈ points l) :
    min l.start.x l.stop.x ≤ p.x ∧ p.x ≤ max l.start.x l.stop.x ∧
    min l.start.y l.stop.y ≤ p.y ∧ p.y ≤ max l.start.y l.stop.y := mem_points_in_box hp

example : (⟨2, 3⟩ : Pt) ∈ points ⟨⟨5, 4⟩, ⟨1, 2⟩⟩ := by decide

/-- `points()` commutes with translation (used by C07). -/
theorem line_points_translate (l : Line) (d : Pt) :
    points (l.translate d) = (points l).map (· + d) := Line.points_translate l d

/-! ## Stroked lines (`Thick.thickPoints l w` = the points of
`Line::new(s, e).into_styled(PrimitiveStyle::with_stroke(c, w)).pixels()` in emission order;
`none` would mean that a loop bound or the step budget of the model was exceeded, see
EG/Model/ThickLine.lean; `thick_points_total`: that never happens) -/

/-- The model of a stroked line is total: for every line and every stroke width it yields a pixel
list. Neither the bound of the two inner loops (`next_parallel`, `ThickPoints::next`: at most two
rounds each) nor the step budget is ever exhausted, so the model never answers "stuck" and never
truncates; the theorems below that assume `thickPoints l w = some ps` are not vacuous for any input. -/
theorem thick_points_total (l : Line) (w : Nat) : ∃ ps, Thick.thickPoints l w = some ps :=
  Thick.thickPoints_total l w

/-- For width 1 the stroked line equals `points()` (same points, same order). -/
theorem thick_width1_eq_points (l : Line) : Thick.thickPoints l 1 = some (points l) :=
  Thick.thickPoints_width1 l

/-- A stroked line of width `w ≥ 1` contains the thin line: its pixel sequence starts with
`points()`. (`w ≤ i32::MAX`: `stroke_width.saturating_as::<i32>()` is the identity.) -/
theorem thick_contains_thin (l : Line) (w : Nat) (hw : 1 ≤ w) (hw2 : w ≤ 2147483647)
    (ps : List Pt) (h : Thick.thickPoints l w = some ps) :
    (∃ more, ps = points l ++ more) ∧ ∀ p ∈ points l, p ∈ ps := by
  obtain ⟨more, hm⟩ := Thick.thickPoints_prefix l w hw hw2 ps h
  exact ⟨⟨more, hm⟩, fun p hp => by rw [hm]; exact List.mem_append_left _ hp⟩

/-- Unconditional form: the pixel list exists and starts with `points()`. -/
theorem thick_contains_thin_total (l : Line) (w : Nat) (hw : 1 ≤ w) (hw2 : w ≤ 2147483647) :
    ∃ ps, Thick.thickPoints l w = some ps ∧ (∃ more, ps = points l ++ more) ∧
      ∀ p ∈ points l, p ∈ ps := by
  obtain ⟨ps, h⟩ := thick_points_total l w
  exact ⟨ps, h, thick_contains_thin l w hw hw2 ps h⟩

example : (1 : Nat) ≤ 85 ∧ (85 : Nat) ≤ 2147483647 := by decide

/-- Stroke width 0 draws nothing. -/
theorem thick_width0_empty (l : Line) : Thick.thickPoints l 0 = some [] :=
  Thick.thickPoints_width0 l

/-! ### The band claim "within w/2 + 2.5 pixels of the ideal line" is false for wide strokes -/

/-- `p` is within `w/2 + 2.5` pixels of the ideal line through `l` (exact form: with
`cross = dx (p.y - y0) - dy (p.x - x0)` = length × signed distance, `4 cross² ≤ (w + 5)² (dx² + dy²)`). -/
def InBand (l : Line) (w : Nat) (p : Pt) : Prop :=
  4 * ((l.stop.x - l.start.x) * (p.y - l.start.y) - (l.stop.y - l.start.y) * (p.x - l.start.x)) ^ 2
    ≤ ((w : Int) + 5) ^ 2 * ((l.stop.x - l.start.x) ^ 2 + (l.stop.y - l.start.y) ^ 2)

instance (l : Line) (w : Nat) (p : Pt) : Decidable (InBand l w p) := by unfold InBand; infer_instance

/-- The band claim of the property text, as a statement about the model (every width). -/
def ThickBandAll : Prop :=
  ∀ (l : Line) (w : Nat) (ps : List Pt), Thick.thickPoints l w = some ps → ∀ p ∈ ps, InBand l w p

/-- **[N] The band claim is false for wide strokes.** Smallest instance found: the line (0,0)-(2,1)
stroked with width 37 (129 pixels) contains the pixel (9,-19), whose distance from the ideal line
is 47/√5 = 21.02 > 37/2 + 2.5 = 21. Kernel-decided; the real code yields the same pixels
(corpus/C17.ops; on the real code the claim first fails at width 34, line (119,57)-(-119,-52)). -/
theorem thick_band_false : ¬ ThickBandAll := by
  intro h
  have hm : (match Thick.thickPoints ⟨⟨0, 0⟩, ⟨2, 1⟩⟩ 37 with
      | some ps => decide ((⟨9, -19⟩ : Pt) ∈ ps)
      | none => false) = true := by decide +kernel
  cases hps : Thick.thickPoints ⟨⟨0, 0⟩, ⟨2, 1⟩⟩ 37 with
  | none => rw [hps] at hm; exact absurd hm (by decide)
  | some ps =>
    rw [hps] at hm
    have := h ⟨⟨0, 0⟩, ⟨2, 1⟩⟩ 37 ps hps ⟨9, -19⟩ (of_decide_eq_true hm)
    exact absurd this (by decide)

/-- The mechanism, part 1: one call of `ParallelsIterator::next` that returns a parallel adds
exactly ONE perpendicular step's thickness to the accumulator - `error_step.minor` of the
perpendicular parameters for a `Normal` parallel, `error_step.major` for an `Extra` one - however
many perpendicular steps `next_parallel` took to find it. -/
theorem next_adds_one_step (it it' : Thick.ParallelsIterator) (b : Bresenham)
    (ty : Thick.ParallelLineType) (h : it.next = some (some (b, ty), it')) :
    it'.perpendicularParameters = it.perpendicularParameters ∧
    it'.thicknessAccumulator = it.thicknessAccumulator +
      (match ty with
       | .normal => it.perpendicularParameters.errorStep.minor
       | .extra => it.perpendicularParameters.errorStep.major) :=
  Thick.next_adds_one_step it it' b ty h

example : ((Thick.ParallelsIterator.new ⟨⟨0, 0⟩, ⟨2, 1⟩⟩ 37 .none).bind (·.next)).bind (·.1) =
    some (⟨⟨0, 0⟩, 0⟩, .normal) := by decide

/-- The mechanism, part 2: when the perpendicular walk of a side yields an `Extra` point and the
parallel error does not wrap, `next_parallel` loops: the start point of that side has moved by the
perpendicular `position_step.minor` (one pixel along the line's major axis, `min(|dx|,|dy|)/L`
pixels away from the line) and the accumulator is unchanged - the step is never counted. -/
theorem skipped_step_not_counted (fuel : Nat) (it : Thick.ParallelsIterator)
    (hx : it.left.error > it.perpendicularParameters.errorThreshold)
    (hflip : it.flip = false)
    (hw : (it.parallelParameters.increaseError it.leftError).2 = false) :
    Thick.ParallelsIterator.nextParallelFuel (fuel + 1) it .left =
      Thick.ParallelsIterator.nextParallelFuel fuel
        { it with
          left := ⟨it.left.point + it.perpendicularParameters.positionStep.minor,
                   it.left.error - it.perpendicularParameters.errorStep.minor⟩
          leftError := (it.parallelParameters.increaseError it.leftError).1 } .left :=
  Thick.nextParallelFuel_skip_left fuel it hx hflip hw

/-- The state of the parallels iterator of the line (0,0)-(2,1), width 37, after three calls of
`next` (centre line, first left, first right parallel): the next left perpendicular point is an
`Extra` one (`left.error = 4 > 2`) and the parallel error does not wrap (`0 + 2 ≤ 2`). -/
def skipState : Thick.ParallelsIterator :=
  { parallelParameters := ⟨2, ⟨2, 4⟩, ⟨⟨1, 0⟩, ⟨0, 1⟩⟩⟩
    perpendicularParameters := ⟨2, ⟨2, 4⟩, ⟨⟨0, -1⟩, ⟨1, 0⟩⟩⟩
    thicknessAccumulator := 13, thicknessThreshold := 27380, flip := false
    left := ⟨⟨0, -2⟩, 4⟩, leftError := 0, right := ⟨⟨-1, 1⟩, 2⟩, rightError := 2
    nextSide := .left, strokeOffset := .none }

/-- `skipState` is reached by the model, satisfies the hypotheses of `skipped_step_not_counted`,
and its `next` call moves the left start point by TWO perpendicular steps, (0,-2) -> (1,-3) (from
cross -4 to cross -7, i.e. 3/√5 px farther from the line), while the accumulator grows by one
`Normal` step only, 13 -> 17 (= 2·2, i.e. 2/√5 px). -/
example :
    ((Thick.ParallelsIterator.new ⟨⟨0, 0⟩, ⟨2, 1⟩⟩ 37 .none).bind (fun it0 =>
      (it0.next).bind (fun r1 => (r1.2.next).bind (fun r2 => (r2.2.next).map (·.2))))) = some skipState ∧
    skipState.left.error > skipState.perpendicularParameters.errorThreshold ∧
    skipState.flip = false ∧
    (skipState.parallelParameters.increaseError skipState.leftError).2 = false ∧
    (skipState.next).map (fun r => (r.1.map (·.2), r.2.left.point, r.2.thicknessAccumulator)) =
      some (some .normal, ⟨1, -3⟩, 17) := by decide

example : Thick.thickPoints ⟨⟨2, 2⟩, ⟨6, 4⟩⟩ 3 =
    some [⟨2, 2⟩, ⟨3, 2⟩, ⟨4, 3⟩, ⟨5, 3⟩, ⟨6, 4⟩, ⟨2, 1⟩, ⟨3, 1⟩, ⟨4, 2⟩, ⟨5, 2⟩, ⟨6, 3⟩,
          ⟨2, 3⟩, ⟨3, 3⟩, ⟨4, 4⟩, ⟨5, 4⟩, ⟨3, 0⟩, ⟨4, 1⟩, ⟨5, 1⟩, ⟨6, 2⟩, ⟨7, 2⟩] := by decide

end EG.C17
