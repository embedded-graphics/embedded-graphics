/-
  C08 (circle / ellipse part) — range theorems of `Circle`, `Ellipse`, `EllipseContains`.
  Models: `EG.Model.CheckedShapes` (checked) against `EG.Model.Circle`, `Ellipse`, `EllipseContains`
  (plain). `EllipseContains` as repaired by commit 848fbcc (`u64` threshold and sums).
-/
import EG.Lemmas.CheckedDS
namespace EG.C08
open EG EG.Chk

theorem circle_center_2x_checked_eq_plain {c : EG.Circle} (h : DS.xcircle c) :
    Chk.Circle.center2x c = some c.center2x := Circle.center2x_ok (DS.xpt_W h.1) (DS.xsize_W h.2)
example : DS.xcircle ⟨⟨-1152, 1024⟩, 1280⟩ := by decide

/-- `diameter_to_threshold` in `u32`: every diameter below 65536 (not only display scale). -/
theorem circle_threshold_checked_eq_plain {d : Nat} (h : d ≤ 65535) :
    Chk.diameterToThreshold d = some (EG.diameterToThreshold d) := diameterToThreshold_ok h
example : (1280 : Nat) ≤ 65535 := by decide
/-- ... and the bound is sharp. -/
theorem circle_threshold_overflows_at_65536 : Chk.diameterToThreshold 65536 = none := by decide

/-- `contains`: stroke-area circles (diameter up to 1280, corner down to -1152) probed at any point
of the derived domain. `delta.length_squared()` stays inside `i32`. -/
theorem circle_contains_checked_eq_plain {c : EG.Circle} (h : DS.xcircle c) {p : Pt} (hp : DS.xpt p) :
    Chk.Circle.contains c p = some (c.contains p) :=
  Circle.contains_ok (DS.xcoord_S h.1.1) (DS.xcoord_S h.1.2) (DS.xsize_S h.2)
    (DS.xcoord_probe hp.1) (DS.xcoord_probe hp.2)
example : DS.xcircle ⟨⟨-1152, -1152⟩, 1280⟩ ∧ DS.xpt ⟨2176, 2176⟩ := by decide

/-- The largest uniform domain proved: corners within +-4096, diameters up to 8192, probe points
within +-8192 (then `|center_2x - 2 p| <= 32767`, the largest value whose squared length fits). -/
theorem circle_contains_wide {c : EG.Circle} (hx : S.coord c.tl.x) (hy : S.coord c.tl.y) (hd : S.size c.d)
    {p : Pt} (hpx : S.probe p.x) (hpy : S.probe p.y) : Chk.Circle.contains c p = some (c.contains p) :=
  Circle.contains_ok hx hy hd hpx hpy
example : S.coord 4096 ∧ S.size 8192 ∧ S.probe (-8192) := by decide
/-- `length_squared` does overflow `i32` one step further out. -/
theorem length_squared_overflows : Chk.lengthSquared ⟨32768, 32768⟩ = none := by decide

theorem circle_offset_checked_eq_plain {c : EG.Circle} (h : DS.xcircle c) {o : Int} (ho : DS.offs o) :
    Chk.Circle.offset c o = some (c.offset o) :=
  Circle.offset_ok (DS.xpt_W h.1) (DS.xsize_W h.2) (DS.offs_W ho)
example : DS.xcircle ⟨⟨5, 5⟩, 3⟩ ∧ DS.offs (-128) := by decide

/-- `EllipseContains::new` for all sizes below 65536: `w^2`, `h^2` fit `u32`, the `u64` product
`h^2 * w^2` cannot overflow. -/
theorem ellipse_contains_new_checked_eq_plain {s : Sz} (hw : s.w ≤ 65535) (hh : s.h ≤ 65535) :
    Chk.EllipseContains.new s = some (EG.EllipseContains.new s) := EllipseContains.new_ok hw hh
example : (⟨1280, 1⟩ : Sz).w ≤ 65535 ∧ (⟨1280, 1⟩ : Sz).h ≤ 65535 := by decide

/-- `EllipseContains::contains` for every value built by `new` (`a, b` are `u32`) and every point
whose coordinate squares fit `i32` (`|x|, |y| <= 46340`): `b x + a y < 2^64` always. -/
theorem ellipse_contains_checked_eq_plain {e : EG.EllipseContains} (ha : e.a ≤ 4294967295)
    (hb : e.b ≤ 4294967295) {p : Pt} (hx : -46340 ≤ p.x ∧ p.x ≤ 46340) (hy : -46340 ≤ p.y ∧ p.y ≤ 46340) :
    Chk.EllipseContains.contains e p = some (e.contains p) := EllipseContains.contains_ok ha hb hx hy
example : (EG.EllipseContains.new ⟨1280, 1000⟩).a ≤ 4294967295 ∧
    (EG.EllipseContains.new ⟨1280, 1000⟩).b ≤ 4294967295 := by decide
/-- The point bound is sharp: `46341^2` does not fit `i32`. -/
theorem ellipse_contains_point_square_overflows :
    Chk.EllipseContains.contains ⟨4, 9, 36⟩ ⟨46341, 0⟩ = none := by decide

theorem ellipse_center_2x_checked_eq_plain {e : EG.Ellipse} (h : DS.xellipse e) :
    Chk.Ellipse.center2x e = some e.center2x := Ellipse.center2x_ok (DS.xpt_W h.1) (DS.xsz_W h.2)
example : DS.xellipse ⟨⟨-1152, 1024⟩, ⟨1280, 0⟩⟩ := by decide

/-- `Ellipse::contains` on the derived display-scale domain (stroke areas up to 1280 x 1280,
probe points anywhere in the derived coordinate range). -/
theorem ellipse_shape_contains_checked_eq_plain {e : EG.Ellipse} (h : DS.xellipse e) {p : Pt}
    (hp : DS.xpt p) : Chk.Ellipse.contains e p = some (e.contains p) :=
  Ellipse.contains_ok (DS.xcoord_S h.1.1) (DS.xcoord_S h.1.2) (DS.xsize_S h.2.1) (DS.xsize_S h.2.2)
    (DS.xcoord_probe hp.1) (DS.xcoord_probe hp.2)
example : DS.xellipse ⟨⟨-1152, -1152⟩, ⟨1280, 1279⟩⟩ ∧ DS.xpt ⟨2176, 2176⟩ := by decide

theorem ellipse_offset_checked_eq_plain {e : EG.Ellipse} (h : DS.xellipse e) {o : Int} (ho : DS.offs o) :
    Chk.Ellipse.offset e o = some (e.offset o) :=
  Ellipse.offset_ok (DS.xpt_W h.1) (DS.xsz_W h.2) (DS.offs_W ho)
example : DS.xellipse ⟨⟨5, 5⟩, ⟨3, 1024⟩⟩ ∧ DS.offs 128 := by decide

/-! ### Why the widening (commit 848fbcc) was needed -/

/-- `w^2 * h^2` of a 320 x 240 ellipse does not fit `u32`. -/
theorem old_ellipse_threshold_exceeds_u32 : ¬ (320 ^ 2 * 240 ^ 2 ≤ 4294967295) :=
  Old.ellipse_threshold_exceeds_u32

/-- The `u32` constructor panics for the 320 x 240 ellipse; the `u64` one does not. -/
theorem old_ellipse_new_panics_320x240 :
    Old.ellipseNew ⟨320, 240⟩ = none ∧ (Chk.EllipseContains.new ⟨320, 240⟩).isSome = true :=
  Old.ellipseNew_320x240

/-- The `u32` sum `b x + a y` overflows for a 256 x 255 ellipse (whose threshold still fits) at the
corner of its bounding box; the `u64` sum does not. -/
theorem old_ellipse_contains_panics_256x255 :
    (Old.ellipseNew ⟨256, 255⟩).isSome = true ∧
    Old.ellipseContains ⟨65536, 65025, 4261478400⟩ ⟨256, 255⟩ = none ∧
    (Chk.EllipseContains.contains ⟨65536, 65025, 4261478400⟩ ⟨256, 255⟩).isSome = true :=
  Old.ellipseContains_256x255

end EG.C08
