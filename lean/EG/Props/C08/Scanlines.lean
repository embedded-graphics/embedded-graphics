/-
  C08 (scanline part) — range theorems of scanline-based drawing:

    * `Scanline::{extend, bresenham_intersection, touches, try_extend, to_rectangle, draw}`
      (Model/CheckedScanline.lean) and `StyledScanline::{draw_stroke, draw_stroke_and_fill}`;
    * the scanline sources of styled circles and ellipses: `circle::Scanlines`,
      `circle::styled::StyledScanlines`, `ellipse::Scanlines`, `ellipse::styled::StyledScanlines`
      (Model/CheckedStyledScanline.lean; the rounded rectangle's are in C08/RRect.lean);
    * the thick polyline / triangle machinery above the joins: cap midpoints,
      `ThickSegment::{edges_bounding_box, intersection}`, the bounding-box fold
      (Model/CheckedSegment.lean), with the bound that puts display-scale joins into their
      domain: every corner of `LineJoin::from_points` of display-scale vertices (stroke width up
      to 128, any alignment) lies within 2^27 + 4096 of the origin.
  Plain models: `EG.Model.Scanline`, `StyledScanline`, `Circle`, `Ellipse`, `ThickSegment`.
-/
import EG.Lemmas.CheckedDSMore
namespace EG.C08
open EG EG.Chk

/-- `extend`: `x + 1` for every `x` below `i32::MAX`. -/
theorem scanline_extend_checked_eq_plain (s : Scanline) {x : Int}
    (h : -2147483648 ≤ x + 1 ∧ x + 1 ≤ 2147483647) : Chk.Scanline.extend s x = some (s.extend x) :=
  Chk.Scanline.extend_ok s h
example : (-2147483648 : Int) ≤ 2176 + 1 ∧ (2176 + 1 : Int) ≤ 2147483647 := by decide
theorem scanline_extend_overflows_at_i32_max :
    Chk.Scanline.extend (Scanline.newEmpty 0) 2147483647 = none := by decide

/-- **`bresenham_intersection`** of any scanline with a display-scale line: `Points::new`, the
lazily consumed walk up to the first point behind the row, `extend` for every point of the row. -/
theorem scanline_bresenham_intersection_checked_eq_plain (s : Scanline) {l : Line} (h : DS.line l) :
    Chk.Scanline.bresenhamIntersection s l = some (s.bresenhamIntersection l.start l.stop (Line.points l)) :=
  Chk.Scanline.bresenhamIntersection_ok s (DS.xpt_W (DS.pt_x h.1)) (DS.xpt_W (DS.pt_x h.2))
example : DS.line ⟨⟨-1024, -1024⟩, ⟨1024, 1023⟩⟩ := by decide

/-- `touches` / `try_extend` of two scanlines of the SAME row (their `debug_assert_eq!`) whose
ends are not `i32::MIN` (`start - 1`, `end - 1`). -/
theorem scanline_try_extend_checked_eq_plain {s o : Scanline} (hy : s.y = o.y)
    (h1 : -2147483647 ≤ s.xs ∧ s.xs ≤ 2147483647) (h2 : -2147483647 ≤ s.xe ∧ s.xe ≤ 2147483647)
    (h3 : -2147483647 ≤ o.xs ∧ o.xs ≤ 2147483647) (h4 : -2147483647 ≤ o.xe ∧ o.xe ≤ 2147483647) :
    Chk.Scanline.touches s o = some (s.touches o) ∧ Chk.Scanline.tryExtend s o = some (s.tryExtend o) :=
  ⟨Chk.Scanline.touches_ok hy h1 h2 h3 h4, Chk.Scanline.tryExtend_ok hy h1 h2 h3 h4⟩
example : (⟨5, 18, 20⟩ : Scanline).y = (⟨5, 11, 26⟩ : Scanline).y := by decide
/-- The assertion is real: scanlines of different rows panic in a build with debug assertions. -/
theorem scanline_try_extend_asserts_equal_rows : Chk.Scanline.tryExtend ⟨5, 0, 3⟩ ⟨6, 1, 4⟩ = none := by
  decide

/-- `to_rectangle` / `draw`: the length `(end - start) as u32` is an `i32` difference. -/
theorem scanline_to_rectangle_checked_eq_plain {s : Scanline}
    (h1 : -1073741823 ≤ s.xs ∧ s.xs ≤ 1073741823) (h2 : -1073741823 ≤ s.xe ∧ s.xe ≤ 1073741823) :
    Chk.Scanline.toRectangle s = some s.toRectangle ∧
    Chk.Scanline.drawRect s =
      some (if s.isEmpty then none else some ⟨⟨s.xs, s.y⟩, ⟨(s.xe - s.xs).toNat, 1⟩⟩) :=
  ⟨Chk.Scanline.toRectangle_ok h1 h2, Chk.Scanline.drawRect_ok h1 h2⟩
example : (-1073741823 : Int) ≤ -1152 ∧ (2177 : Int) ≤ 1073741823 := by decide
/-- ... and it ends there: a scanline from -2^30 to 2^30 is 2^31 long. -/
theorem scanline_to_rectangle_overflows :
    Chk.Scanline.toRectangle ⟨0, -1073741824, 1073741824⟩ = none := by decide

/-- `draw_stroke` / `draw_stroke_and_fill`: two / three `Scanline::draw`. -/
theorem styled_scanline_draw_checked_eq_plain {s : StyledScanline} (h : Chk.StyledScanline.Ends s)
    (sc fc : Color) :
    Chk.StyledScanline.drawStroke s sc = some (s.drawStroke sc) ∧
    Chk.StyledScanline.drawStrokeAndFill s sc fc = some (s.drawStrokeAndFill sc fc) :=
  ⟨Chk.StyledScanline.drawStroke_ok h sc, Chk.StyledScanline.drawStrokeAndFill_ok h sc fc⟩
example : Chk.StyledScanline.Ends ⟨7, -1152, 2177, 0, 1024⟩ := by decide

/-- `circle::Scanlines::new` of a stroke-area circle, and the invariant of the iterator. -/
theorem circle_scanlines_new_checked_eq_plain {c : Circle} (h : DS.xcircle c) :
    Chk.Circle.scanlines c = some c.scanlines ∧ Chk.Circle.SLOk c.scanlines :=
  Chk.Circle.scanlines_ok (DS.xcircle_sec h)
example : DS.xcircle ⟨⟨-1152, 2176⟩, 1280⟩ := by decide

/-- **`circle::Scanlines::next`**: the lazily evaluated `find` over the columns (per probe
`Point * 2 - center_2x` and its squared length in `i32`) and `columns.end - (x - columns.start)`;
the invariant is kept, so no step of `points()` or of a fill-only draw overflows. -/
theorem circle_scanlines_next_checked_eq_plain {it : Circle.ScanlinesIt} (hi : Chk.Circle.SLOk it) :
    Chk.Circle.next it = some it.next ∧ Chk.Circle.SLOk it.next.2 :=
  ⟨(Chk.Circle.next_ok hi).1, (Chk.Circle.next_ok hi).2.1⟩
example : Chk.Circle.SLOk (⟨⟨3, 4⟩, 9⟩ : Circle).scanlines := (Chk.Circle.scanlines_ok (by decide)).2

/-- `circle::styled::StyledScanlines::new` for a stroke area of the derived domain and any fill
area below 65536. -/
theorem circle_styled_scanlines_new_checked_eq_plain {sa fa : Circle} (hs : DS.xcircle sa) (hf : fa.d ≤ 65535) :
    Chk.Circle.styledScanlines sa fa = some (Circle.styledScanlines sa fa) ∧
    Chk.Circle.StyledOk (Circle.styledScanlines sa fa) :=
  Chk.Circle.styledScanlines_ok (DS.xcircle_sec hs) hf
example : DS.xcircle ⟨⟨-1152, -1152⟩, 1280⟩ ∧ (1024 : Nat) ≤ 65535 := by decide

/-- **`circle::styled::StyledScanlines::next`**: stroke scanline, fill-range search, and the ends
of the styled scanline are inside the domain of `styled_scanline_draw_checked_eq_plain`. -/
theorem circle_styled_scanlines_next_checked_eq_plain {it : Circle.StyledScanlinesIt}
    (hi : Chk.Circle.StyledOk it) :
    Chk.Circle.styledNext it = some it.next ∧ Chk.Circle.StyledOk it.next.2 ∧
    ∀ s, it.next.1 = some s → Chk.StyledScanline.Ends s := Chk.Circle.styledNext_ok hi
example : Chk.Circle.StyledOk (Circle.styledScanlines ⟨⟨1, 2⟩, 13⟩ ⟨⟨3, 4⟩, 9⟩) :=
  (Chk.Circle.styledScanlines_ok (by decide) (by decide)).2

theorem ellipse_scanlines_new_checked_eq_plain {e : Ellipse} (h : DS.xellipse e) :
    Chk.Ellipse.scanlines e = some e.scanlines ∧ Chk.Ellipse.SLOk e.scanlines :=
  Chk.Ellipse.scanlines_ok (DS.xellipse_dom h)
example : DS.xellipse ⟨⟨-1152, 2176⟩, ⟨1280, 1⟩⟩ := by decide

/-- **`ellipse::Scanlines::next`** (`rows.find_map`: any number of skipped rows; per row
`y * 2 - center_2x.y`, per probe `x * 2 - center_2x.x` and `EllipseContains::contains`). -/
theorem ellipse_scanlines_next_checked_eq_plain {it : Ellipse.ScanlinesIt} (hi : Chk.Ellipse.SLOk it) :
    Chk.Ellipse.next it = some it.next ∧ Chk.Ellipse.SLOk it.next.2 :=
  ⟨(Chk.Ellipse.next_ok hi).1, (Chk.Ellipse.next_ok hi).2.1⟩
example : Chk.Ellipse.SLOk (⟨⟨3, 4⟩, ⟨9, 2⟩⟩ : Ellipse).scanlines := (Chk.Ellipse.scanlines_ok (by decide)).2

theorem ellipse_styled_scanlines_new_checked_eq_plain {sa fa : Ellipse} (hs : DS.xellipse sa)
    (hw : fa.size.w ≤ 65535) (hh : fa.size.h ≤ 65535) :
    Chk.Ellipse.styledScanlines sa fa = some (Ellipse.styledScanlines sa fa) ∧
    Chk.Ellipse.StyledOk (Ellipse.styledScanlines sa fa) :=
  Chk.Ellipse.styledScanlines_ok (DS.xellipse_dom hs) hw hh
example : DS.xellipse ⟨⟨-1152, -1152⟩, ⟨1280, 7⟩⟩ := by decide

theorem ellipse_styled_scanlines_next_checked_eq_plain {it : Ellipse.StyledScanlinesIt}
    (hi : Chk.Ellipse.StyledOk it) :
    Chk.Ellipse.styledNext it = some it.next ∧ Chk.Ellipse.StyledOk it.next.2 ∧
    ∀ s, it.next.1 = some s → Chk.StyledScanline.Ends s := Chk.Ellipse.styledNext_ok hi
example : Chk.Ellipse.StyledOk (Ellipse.styledScanlines ⟨⟨1, 2⟩, ⟨13, 8⟩⟩ ⟨⟨3, 4⟩, ⟨9, 4⟩⟩) :=
  (Chk.Ellipse.styledScanlines_ok (by decide) (by decide) (by decide)).2

/-- **Every corner of a display-scale join is within 2^27 + 4096 of the origin**: three vertices
within +-1024, stroke width up to 128, any stroke offset. (A used intersection point is within
2^27 of an edge start by Lagrange's identity; `Joins.rawPoint_near_start`.) -/
theorem join_corners_in_range {start mid stop : Pt} (h1 : DS.pt start) (h2 : DS.pt mid) (h3 : DS.pt stop)
    {w : Nat} (hw : DS.width w) {off : Thick.StrokeOffset} {j : Joins.LineJoin}
    (h : Joins.LineJoin.fromPoints start mid stop w off = some j) : Chk.Joins.JoinNear j :=
  Chk.Joins.fromPoints_near (DS.pt_VDS h1) (DS.pt_VDS h2) (DS.pt_VDS h3) hw h
example : DS.pt ⟨-1024, -1024⟩ ∧ DS.width 128 ∧
    (Joins.LineJoin.fromPoints ⟨0, 0⟩ ⟨10, 0⟩ ⟨10, 10⟩ 3 .none).isSome = true :=
  ⟨by decide, by decide, Option.isSome_iff_exists.mpr (Joins.fromPoints_total _ _ _ _ _)⟩

/-- The same for the open ends of a polyline (`LineJoin::start`, `LineJoin::end`). -/
theorem join_start_end_corners_in_range {a b : Pt} (h1 : DS.pt a) (h2 : DS.pt b) {w : Nat}
    (hw : DS.width w) {off : Thick.StrokeOffset} :
    (∀ j, Joins.LineJoin.start a b w off = some j → Chk.Joins.JoinNear j) ∧
    (∀ j, Joins.LineJoin.stop a b w off = some j → Chk.Joins.JoinNear j) :=
  ⟨fun _ h => Chk.Joins.start_near (DS.pt_VDS h1) (DS.pt_VDS h2) hw h,
   fun _ h => Chk.Joins.stop_near (DS.pt_VDS h1) (DS.pt_VDS h2) hw h⟩
example : DS.pt ⟨-1024, 1024⟩ ∧ DS.width 0 := by decide

/-- `Line::midpoint` of a filler line between two such corners. -/
theorem cap_midpoint_checked_eq_plain {l : Line} (hs : Chk.Joins.Near l.start) (he : Chk.Joins.Near l.stop) :
    Chk.Joins.midpoint l = some (Joins.midpoint l) := (Chk.Joins.midpoint_ok hs he).1
example : Chk.Joins.Near ⟨134221824, -134221824⟩ := by decide

/-- **`ThickSegment::intersection`** for EVERY row, and `edges_bounding_box`, of a segment whose
two joins have corners in that range (so: of every segment of a display-scale thick polyline or
stroked triangle): cap midpoints, up to six `bresenham_intersection`s, `with_corners`. -/
theorem thick_segment_checked_eq_plain {s : Joins.ThickSegment} (h : Chk.Joins.ThickSegment.SegNear s) :
    (∀ y, Chk.Joins.ThickSegment.intersection s y = some (s.intersection y)) ∧
    Chk.Joins.ThickSegment.edgesBoundingBox s = some s.edgesBoundingBox :=
  ⟨Chk.Joins.ThickSegment.intersection_ok h, Chk.Joins.ThickSegment.edgesBoundingBox_ok h⟩
example : Chk.Joins.ThickSegment.SegNear
    ⟨⟨.start, ⟨⟨0, 1⟩, ⟨0, -1⟩⟩, ⟨⟨0, 1⟩, ⟨0, -1⟩⟩⟩, ⟨.stop, ⟨⟨9, 1⟩, ⟨9, -1⟩⟩, ⟨⟨9, 1⟩, ⟨9, -1⟩⟩⟩⟩ := by
  unfold Chk.Joins.ThickSegment.SegNear Chk.Joins.JoinNear; decide

/-- **The bounding-box fold** of `polyline::styled::untranslated_bounding_box` and
`triangle::styled_bounding_box` (from `(i32::MAX, i32::MIN)`, `bottom_right()` per segment, the
final `with_corners`) over the non-empty segment list of such a shape. -/
theorem thick_bounding_box_fold_checked_eq_plain {segs : List Joins.ThickSegment} (hne : segs ≠ [])
    (hs : ∀ s ∈ segs, Chk.Joins.ThickSegment.SegNear s) :
    Chk.Joins.foldEdgeBoxes segs = some (Joins.foldEdgeBoxes segs) := Chk.Joins.foldEdgeBoxes_ok hne hs
example : ([⟨⟨.start, ⟨⟨0, 1⟩, ⟨0, -1⟩⟩, ⟨⟨0, 1⟩, ⟨0, -1⟩⟩⟩,
    ⟨.stop, ⟨⟨9, 1⟩, ⟨9, -1⟩⟩, ⟨⟨9, 1⟩, ⟨9, -1⟩⟩⟩⟩] : List Joins.ThickSegment) ≠ [] := by decide
/-- The fold over NO segment would overflow (`with_corners(i32::MAX, i32::MIN)`): the code only
folds for at least two vertices. -/
theorem thick_bounding_box_fold_needs_a_segment : Chk.Joins.foldEdgeBoxes [] = none := by decide

end EG.C08
