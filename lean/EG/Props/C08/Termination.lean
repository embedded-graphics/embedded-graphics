/-
  C08 (termination part) — every modelled iterator is a state machine whose `toList` is defined by
  structural recursion on explicit fuel. A fuelled drain terminates whatever the state machine
  does, so Lean accepting the definition says NOTHING about the iterator. What the theorems below
  state is "fuelled drain = closed form" (`*_terminates`) and the length of the closed form
  (`*_steps`). Termination of the modelled state machine follows from them only in combination
  with how the fuel is chosen in the model definitions: the fuel is (an upper bound of) the length
  of the closed form PLUS ONE (`Rect.points`: `rows * columns + 1`; `CropIt.toList`:
  `colours + 1`; `Polyline.points`: the sum of the segments' major lengths + 1; circle / ellipse
  scanlines: rows + 1). A drain that stopped because the fuel ran out has exactly `fuel` items;
  the closed form is shorter than the fuel; hence the drain stopped because `next` returned
  `None`, after at most `length` items. Read the names `*_terminates` (STATUS / evidence list them)
  as "`*_drain_eq_closed_form` (fuel = length + 1, so `next` reaches `None`)".
  The harness enforces iteration budgets on the real iterators (`C08:iteration-budget-exceeded`).

  -- [V] the real iterators stay within these step bounds: carried by correspondence + oracle only (the per-topic streams compare the drained real iterators with the models item by item)
  Stroked lines, stroked polylines, styled triangles, rounded rectangles, sectors and arcs are in
  Props/C08/TerminationThick.lean (proved for all inputs: the drains reach `None`; step bounds: box
  area for lines / sectors / arcs / rounded rectangles, `rows * (vertices + 3) + vertices + 2` scanlines
  for polylines, `3 * (rows + 1)` scanlines for triangles, pixel count = total scanline length).
  -- [V] stroked polylines / styled triangles: the LENGTH of one scanline is bounded by the width of the bounding box only under C02's decidable box guards, so the pixel count of `pixels()` is proved to be the total length of at most `rows * (n + 3) + n + 2` resp. `3 * (rows + 1)` scanlines for ALL inputs, and `<= (rows * (n + 3) + n + 2) * box width` for polylines under `PolyBBoxGuard` (`polyline_pixels_le_box`); for triangles `<= 3 * (rows + 1) * box width` whenever the pixels lie in the box (`triangle_pixels_le_box_of_in_box`; instance under `TriStrokeGuard`: `triangle_stroke_pixels_le_box`); outside those guards no box-area bound is proved, and the triangle pixel iterator's run assumes `i32` vertices for 1 px / Inside strokes (`TriNeedsI32 -> TriI32`): carried by correspondence + oracle only
-/
import EG.Lemmas.RectPoints
import EG.Lemmas.LineProps
import EG.Lemmas.CircleStyled
import EG.Lemmas.EllipsePoints
import EG.Lemmas.RawIter
import EG.Lemmas.AdaptersCroppedIter
import EG.Lemmas.ImageRawDraw
import EG.Lemmas.Polyline
import EG.Lemmas.Scanline
namespace EG.C08
open EG

/-- `Rectangle::points()`, FUELLED DRAIN = CLOSED FORM: drained with fuel `rows * columns + 1` the
iterator yields the row-major product of `rows()` and `columns()`, for every rectangle (also
saturating ones). The statement is not "terminates" by itself; since the closed form has at most
`rows * columns` items (fewer than the fuel), the drain ended with `next = None`, not by running out
of fuel: that is the termination argument (see the file header) ... -/
theorem rect_points_terminates (r : Rect) : r.points = r.pointsSpec := Rect.points_eq_spec r

/-- ... i.e. `width * height` points when the box does not saturate. -/
theorem rect_points_steps (r : Rect) (h : r.InRange) : r.points.length = r.size.w * r.size.h :=
  Rect.points_length h
example : (⟨⟨-1024, -1024⟩, ⟨1024, 1024⟩⟩ : Rect).InRange := by decide

/-- `Line::points()`: exactly `max(|dx|, |dy|) + 1` points (= `points_remaining`, the fuel). -/
theorem line_points_steps (l : Line) : (Line.points l).length = (Line.dmaj l).toNat + 1 :=
  Line.points_length' l

/-- A scanline: `xe - xs` points. -/
theorem scanline_steps (s : Scanline) : s.toList = s.points ∧ s.points.length = (s.xe - s.xs).toNat :=
  ⟨Scanline.toList_eq s, Scanline.points_length s⟩

/-- `Circle::points()`, FUELLED DRAIN = CLOSED FORM + length bound: the scanline iterator is polled
once per row of the bounding box, and the points are those of the box that `contains` accepts: at
most `d * d`. Termination of the state machine follows because the model drains with fuel
`d * d + 1` (one more than this bound), see the file header. -/
theorem circle_points_terminates {c : Circle} (h : c.InRange) :
    c.points = c.boundingBox.points.filter c.contains ∧ c.points.length ≤ c.d * c.d := by
  have e := Circle.points_eq_filter h
  refine ⟨e, ?_⟩
  rw [e]
  exact Nat.le_trans (List.length_filter_le _ _) (Nat.le_of_eq (Rect.points_length h))
example : (⟨⟨-1024, -1024⟩, 1024⟩ : Circle).InRange := by decide

/-- `Ellipse::points()`, FUELLED DRAIN = CLOSED FORM + length bounds: at most one scanline per row of
the bounding box (rows without a hit are skipped, commit db99a72), at most `w * h` points.
Termination of the state machine follows because the fuel of the model exceeds these bounds by
one, see the file header. -/
theorem ellipse_points_terminates {e : Ellipse} (h : e.InRange) :
    e.points = e.boundingBox.points.filter e.contains ∧ e.points.length ≤ e.size.w * e.size.h ∧
    e.scanlines.toList.length ≤ (e.scanlines.yEnd - e.scanlines.y).toNat := by
  have hp := Ellipse.points_eq_filter h
  refine ⟨hp, ?_, ?_⟩
  · rw [hp]
    exact Nat.le_trans (List.length_filter_le _ _) (Nat.le_of_eq (Rect.points_length h))
  · rw [Ellipse.ScanlinesIt.toList_eq]; exact Ellipse.ScanlinesIt.rest_length_le _
example : (⟨⟨0, 0⟩, ⟨1024, 1⟩⟩ : Ellipse).InRange := by decide

/-- `RawDataIterator`: exactly `count - index` items (`count` = whole pixels in the buffer). -/
theorem raw_iterator_steps (it : Raw.Iter) (hb : Raw.validBits it.bits = true) :
    it.toList.length = it.count - it.index := Raw.Iter.toList_length it hb
example : Raw.validBits (Raw.Iter.new 4 .le [1, 2, 3]).bits = true := by decide

/-- `ContiguousPixels` (the colour stream of `ImageRaw::draw` / `draw_sub_image`): exactly
`width * height` colours for an area inside the image. -/
theorem contiguous_pixels_steps {im : Img.ImageRaw} (hw : im.WF) (ax ay : Nat) (sz : Sz)
    (hx : ax + sz.w ≤ im.size.w) (hy : ay + sz.h ≤ im.size.h)
    (hi : ay * im.dataWidth + ax ≤ Raw.pixelCount im.bits im.data.length) :
    ((Img.CP.new im sz (ay * im.dataWidth + ax) (im.dataWidth - sz.w)).toList).length = sz.w * sz.h :=
  Img.ImageRaw.stream_length hw ax ay sz hx hy hi

/-- `Cropped` (the iterator behind `DrawTargetExt::cropped` / `clipped` fills), FUELLED DRAIN =
CLOSED FORM: drained with fuel `colours + 1` it yields its closed form, a sublist of the colours it
was given (so at most `colours` items, fewer than the fuel: the drain ended with `next = None`). -/
theorem cropped_terminates (it : CropIt) (hx : it.x ≤ it.w) : it.toList = it.spec :=
  CropIt.toList_eq_spec it hx
example : (CropIt.new [1, 2, 3, 4] ⟨2, 2⟩ ⟨⟨0, 0⟩, ⟨1, 2⟩⟩).x ≤ (CropIt.new [1, 2, 3, 4] ⟨2, 2⟩ ⟨⟨0, 0⟩, ⟨1, 2⟩⟩).w := by
  decide

/-- `Polyline::points()`, FUELLED DRAIN = CLOSED FORM: drained with the budget "sum of the segments'
major lengths (+ 1)" it yields the union of the segment lines, each joint once (the empty polyline
yields nothing); the closed form is shorter than the budget, so the drain ended with `next = None`. -/
theorem polyline_points_terminates (pl : Polyline) : pl.points = pl.pointsSpec :=
  Polyline.points_eq_spec pl

end EG.C08
