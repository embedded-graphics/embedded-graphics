/-
  C08 (termination part, second half) — stroked lines, stroked polylines, styled triangles, rounded
  rectangles, sectors and arcs: the modelled iterators REACH `None`, within an explicit number of
  steps, for ALL inputs (no display-scale restriction, no `InRange` guard unless stated).

  Two kinds of model drains occur and both are covered:
  * drains that report an exhausted step budget as `none` ("stuck": `Thick.thickPoints`): the
    theorem is "the result is `some ps`" (the budget was not used up, i.e. `next` returned `None`
    after `ps.length` items) plus a bound on `ps.length`;
  * drains that would silently stop when their fuel runs out (`toListFuel .. 0 = []` of the
    scanline iterators, of rounded rectangles, sectors, arcs): the theorem is either the fuel-free
    statement `Run next it L` ("a `for` loop started in `it` sees exactly `L` and then `None`",
    EG/Lemmas/Stream.lean) or "drain = closed form" with the closed form shorter than the
    fuel, plus the bound on the length.
  The number of `next` calls of a `for` loop is the number of items plus one.
-/
import EG.Lemmas.RectPoints
import EG.Lemmas.ThickTotal
import EG.Lemmas.ThickGeoMain
import EG.Lemmas.ThickBBoxFinal
import EG.Lemmas.ExtentsTotal
import EG.Lemmas.C01ThickPoly
import EG.Lemmas.C01ThickTri
import EG.Lemmas.TriTopRow
import EG.Lemmas.RoundedRectPoints
import EG.Lemmas.RoundedRectStyled
import EG.Lemmas.Sector
import EG.Lemmas.StyledArc
import EG.Lemmas.StyledArcSector
import EG.Lemmas.JoinsBBoxPolyMain
import EG.Props.C02.JoinsBBox
namespace EG.C08.TerminationThick
open EG EG.Joins EG.C01Thick

/-- A budgeted drain that returned a list stopped because `next` returned `None`: the list is
shorter than the budget (`drainFuel` answers `none` when the budget runs out). -/
theorem thick_drain_lt_budget : ∀ (fuel : Nat) (it : Thick.ThickPointsIt) (ps : List Pt),
    it.drainFuel fuel = some ps → ps.length < fuel := by
  intro fuel
  induction fuel with
  | zero => intro it ps h; cases h
  | succ n ih =>
    intro it ps h
    rw [Thick.ThickPointsIt.drainFuel] at h
    split at h
    · cases h
    · cases h
      exact Nat.succ_pos n
    · split at h
      · cases h
      · rename_i hr
        cases h
        exact Nat.succ_lt_succ (ih _ _ hr)

/-- **`pixels()` of a stroked line terminates, within the area of its bounding box**: for every
line (zero length included) and every stroke width the model's drain is not stuck (neither the
inner `loop`s nor the step budget are exhausted: `next` returned `None`), the styled bounding box
exists, and the number of pixels - the number of `next` calls that return `Some` - is at most
`width * height` of that box (no pixel is yielded twice and every pixel lies in the box). -/
theorem thick_line_pixels_terminate (l : Line) (w : Nat) :
    ∃ ps bb, Thick.thickPoints l w = some ps ∧ Thick.styledBoundingBox l w = some bb ∧
      ps.length ≤ bb.size.w * bb.size.h := by
  obtain ⟨ps, hps⟩ := Thick.thickPoints_total l w
  obtain ⟨bb, hbb⟩ := thick_styledBoundingBox_total l w
  exact ⟨ps, bb, hps, hbb, Glue3.nodup_in_rect_length_le ps (Thick.thickPoints_nodup l w ps hps) bb
    (Thick.thickPoints_in_bbox l w ps hps bb hbb)⟩

example : (Thick.thickPoints ⟨⟨2, -3⟩, ⟨9, 1⟩⟩ 5).map (·.length) = some 46 ∧
    Thick.styledBoundingBox ⟨⟨2, -3⟩, ⟨9, 1⟩⟩ 5 = some ⟨⟨1, -5⟩, ⟨10, 8⟩⟩ := by decide

/-- **`Sector::points()` terminates within the box area**: the drain is the closed form "points of
the bounding box that `contains` accepts" (for every sector: any diameter, any plane sector), so at
most as many items as the box has points (`d * d` when the box is representable); the fuel of the
model is the box iterator's budget + 1, more than that. -/
theorem sector_points_terminate (s : Sector) :
    s.points = s.boundingBox.points.filter s.contains ∧
      s.points.length ≤ s.boundingBox.points.length ∧
      (s.boundingBox.InRange → s.points.length ≤ s.d * s.d) :=
  ⟨Sector.points_eq_filter s,
   Rect.le_area (by rw [Sector.points_eq_filter]; exact List.length_filter_le _ _)⟩
example : (⟨⟨-1024, -1024⟩, 1024, PlaneSector.entire⟩ : Sector).boundingBox.InRange := by decide

/-- **`Arc::points()` terminates within the box area** (same shape of statement). -/
theorem arc_points_terminate (a : Arc) :
    a.points = a.boundingBox.points.filter a.accepts ∧
      a.points.length ≤ a.boundingBox.points.length ∧
      (a.boundingBox.InRange → a.points.length ≤ a.d * a.d) :=
  ⟨Arc.points_eq_filter a,
   Rect.le_area (by rw [Arc.points_eq_filter]; exact List.length_filter_le _ _)⟩
example : (⟨⟨-1024, -1024⟩, 1024, PlaneSector.entire⟩ : Arc).boundingBox.InRange := by decide

/-- **`pixels()` of a styled arc terminates within the area of the styled bounding box**: the
drain is its closed form (`Arc.styledPixels_eq`: the filtered points of the outer edge's box), a
sub-sequence of the points of `styled_bounding_box()`; every style, every arc. -/
theorem styled_arc_pixels_terminate (st : Style) (a : Arc) :
    ((a.styledPixels st).map (·.1)).Sublist (a.styledBoundingBox st).points ∧
      (a.styledPixels st).length ≤ (a.styledBoundingBox st).points.length ∧
      ((a.styledBoundingBox st).InRange →
        (a.styledPixels st).length ≤ (a.styledBoundingBox st).size.w * (a.styledBoundingBox st).size.h) :=
  ⟨(Arc.boxPixels st a).sublist,
   Rect.le_area (by rw [← List.length_map (·.1)]; exact (Arc.boxPixels st a).sublist.length_le)⟩

/-- **`pixels()` of a styled sector terminates within the area of the styled bounding box** (every
style, sector and bevel; the inner `loop` of `next` consumes one box point per turn). -/
theorem styled_sector_pixels_terminate (st : Style) (s : Sector) (bevel : SectorBevel) :
    ((s.styledPixels st bevel).map (·.1)).Sublist (s.styledBoundingBox st).points ∧
      (s.styledPixels st bevel).length ≤ (s.styledBoundingBox st).points.length ∧
      ((s.styledBoundingBox st).InRange →
        (s.styledPixels st bevel).length ≤
          (s.styledBoundingBox st).size.w * (s.styledBoundingBox st).size.h) :=
  ⟨(Sector.boxPixels st s bevel).sublist,
   Rect.le_area (by rw [← List.length_map (·.1)]; exact (Sector.boxPixels st s bevel).sublist.length_le)⟩

/-- The rows a `Rectangle` iterates (`rows()`: `y .. y.saturating_add(height)`) are at most `height`
many when the corner is an `i32`. -/
theorem rows_length_le (r : Rect) (h : -2147483648 ≤ r.tl.y) : r.rows.length ≤ r.size.h := by
  have := rowsEnd_le r h
  have e : r.rows.length = (r.rowsEnd - r.tl.y).toNat := irange_length _ _
  omega
example : (-2147483648 : Int) ≤ (⟨⟨3, -7⟩, ⟨4, 5⟩⟩ : Rect).tl.y := by decide

/-- **A stroked polyline (width > 1) terminates: `draw` and `pixels()`.** For every vertex list,
`translate` and width: the bounding box and the scanline iterator exist; a `for` loop over the
scanline iterator sees a list `L` of scanlines and then `None` (`Run`, fuel-free; it is what the
budgeted `toList` returns), with at most `rows * (n + 3) + n + 2` scanlines (`rows` = rows of the
bounding box, `n` = number of vertices: per row at most one scanline per segment, plus the flush of
the accumulated one); `draw` issues exactly one `fill_solid` per scanline of `L`; the pixel iterator
exists, a `for` loop over it sees exactly the points of the scanlines of `L` (moved by `translate`)
and then `None`, which is what `pixels()` of the model returns: `sum of the scanline lengths`
items, each scanline being walked point by point. -/
theorem polyline_terminates (pl : Polyline) (w : Nat) (hw : 2 ≤ w) :
    ∃ bb it L pit, untranslatedBoundingBox pl w = some bb ∧ PolyScanlines.new pl w = some it ∧
      Run PolyScanlines.next it L ∧ it.toList = some L ∧
      L.length ≤ bb.rows.length * (pl.vertices.length + 3) + pl.vertices.length + 2 ∧
      drawStyled pl w = some (.fillSolids (L.map (fun s => (moveS s pl.translate).toRectangle))) ∧
      PolyThickPixels.new pl w = some pit ∧
      Run PolyThickPixels.next pit ((L.flatMap Scanline.points).map (· + pl.translate)) ∧
      pixels pl w = some ((L.flatMap Scanline.points).map (· + pl.translate)) ∧
      ((L.flatMap Scanline.points).map (· + pl.translate)).length =
        (L.map (fun s => (s.xe - s.xs).toNat)).sum := by
  obtain ⟨bb, hbb⟩ := untranslatedBoundingBox_total pl w
  obtain ⟨segs, hs⟩ := polySegments_total pl.vertices w
  obtain ⟨it, hit, -, hL, hrun⟩ := PolyScanlines.new_items hbb hs
  -- per row at most one scanline per segment plus the flush
  have hlen : (polyRows segs bb.tl.y bb.rowsEnd).length ≤
      bb.rows.length * (pl.vertices.length + 3) + pl.vertices.length + 2 := by
    have h1 := polyRows_length_le segs bb.tl.y bb.rowsEnd
    have h2 := polySegments_length_le hs
    have h3 : bb.rows.length = (bb.rowsEnd - bb.tl.y).toNat := irange_length _ _
    rw [h3]
    generalize (bb.rowsEnd - bb.tl.y).toNat = k at *
    have : k * (segs.length + 1) ≤ k * (pl.vertices.length + 3) := Nat.mul_le_mul_left k (by omega)
    omega
  have hLr := polyScanlineRun_eq hbb hs
  obtain ⟨pit, hpit, hprun⟩ := polyPix_new pl w it hit _ hrun (polyRows_nonempty segs bb.tl.y bb.rowsEnd)
  refine ⟨bb, it, _, pit, hbb, hit, hrun, hL, hlen, by rw [drawStyled_eq_map pl w hw, hLr]; rfl, hpit, hprun,
    by rw [pixels_eq_map pl w hw, hLr]; rfl, ?_⟩
  rw [List.length_map, List.length_flatMap]
  exact congrArg List.sum (List.map_congr_left fun s _ => Scanline.points_length s)
example : (2 : Nat) ≤ 5 := by decide

/-- **A styled triangle terminates: `draw` and `pixels()`.** For every triangle and style (every
width, alignment, fill): the styled bounding box and the scanline iterator exist; a `for` loop over
the scanline iterator sees a list `L` of typed scanlines and then `None` (what `draw_styled` walks;
`toList` of the model returns it), with at most `3 * (rows + 1)` scanlines (`rows` = rows of the
styled bounding box: at most one fill and two stroke scanlines per row); and - `i32` vertices where
the stroke is 1 px wide or an Inside stroke - the pixel iterator exists, a `for` loop over it sees
the pixels of the coloured scanlines of `L` and then `None`, which is what the model's `pixels()`
returns: at most `sum of the scanline lengths` items. -/
theorem triangle_terminates (t : Tri) (style : TriStyle) :
    ∃ bb li L, triStyledBoundingBox t style = some bb ∧ triScanlines t style = some li ∧
      Run TriScanlines.nextLoop li L ∧ li.toList = some L ∧ L.length ≤ 3 * (bb.rows.length + 1) ∧
      ((TriNeedsI32 t style → TriI32 t) →
        ∃ pit, TriPixels.new t style = some pit ∧
          Run TriPixels.next pit (L.flatMap (typedPixels style.fillColor style.effectiveStrokeColor)) ∧
          triPixels t style = some (L.flatMap (typedPixels style.fillColor style.effectiveStrokeColor)) ∧
          (L.flatMap (typedPixels style.fillColor style.effectiveStrokeColor)).length ≤
            (L.map (fun x => (x.1.xe - x.1.xs).toNat)).sum) := by
  obtain ⟨bb, hbb⟩ := triStyledBoundingBox_total t style
  obtain ⟨c, hc⟩ := isCollapsed_total t.sortedClockwise style.strokeWidth style.strokeAlignment.toOffset
  obtain ⟨li, hli, hrows, -⟩ := triScanlines_rows t style hbb hc
  have hg := li.intersections.gen_row
  have hL := TriScanlines.toList_rest hg
  have hrun := TriScanlines.run_rest hg
  -- at most three lines per row of the box
  have hlen : (li.rest li.intersections.row).length ≤ 3 * (bb.rows.length + 1) := by
    rw [hrows, show bb.rows.length = (bb.rowsEnd - bb.tl.y).toNat from irange_length _ _]
    exact Nat.le_trans (triRows_length_le _ _ _) (by omega)
  generalize li.rest li.intersections.row = L at hL hrun hlen
  refine ⟨bb, li, L, hbb, hli, hrun, hL, hlen, fun hi => ?_⟩
  have hf := triFirstNoneFinal t style hi
  obtain ⟨pit, hpit, hprun⟩ := triPix_new t style hf li hli L hrun
  have hLr : triScanlineRun t style = some L := by unfold triScanlineRun; rw [hli]; exact hL
  exact ⟨pit, hpit, hprun, by rw [triPixels_eq_map t style hf, hLr]; rfl, length_flatMap_le_sum L _ _ (fun x _ => typedPixels_length_le _ _ x)⟩
example : TriNeedsI32 ⟨⟨-3, 1⟩, ⟨6, -2⟩, ⟨2, 7⟩⟩ ⟨some 9, some 5, 3, .inside⟩ ∧ TriI32 ⟨⟨-3, 1⟩, ⟨6, -2⟩, ⟨2, 7⟩⟩ := by
  decide +kernel

/-- `draw` of a styled triangle issues at most one `fill_solid` per typed scanline: at most
`3 * (rows + 1)` calls, for every triangle and style. -/
theorem triangle_draw_calls_le (t : Tri) (style : TriStyle) :
    ∃ bb calls, triStyledBoundingBox t style = some bb ∧ triDraw t style = some calls ∧
      calls.length ≤ 3 * (bb.rows.length + 1) := by
  obtain ⟨bb, li, L, hbb, hli, -, hL, hlen, -⟩ := triangle_terminates t style
  refine ⟨bb, ?_⟩
  unfold triDraw
  by_cases ht : style.isTransparent = true
  · exact ⟨[], hbb, by simp [ht], Nat.zero_le _⟩
  · simp only [ht, Bool.false_eq_true, ↓reduceIte, hli, hL, Option.bind_eq_bind, Option.bind_some, pure]
    exact ⟨_, hbb, rfl, Nat.le_trans (List.length_filterMap_le _ _) hlen⟩

/-- **`RoundedRectangle::points()` terminates**: for EVERY rounded rectangle the drain is the
closed form "the scanline of every row, in order" and has exactly `budget` items (the model's fuel
is `budget + 1`); the scanline iterator is polled once per row. For a representable rectangle these
are the points of the bounding box that `contains` accepts: at most `width * height`. -/
theorem rounded_rect_points_terminate (r : RoundedRect) :
    r.points = (irange (RRContains.new r).rowsStart (RRContains.new r).rowsEnd).flatMap
        (fun y => ((RRContains.new r).row y).points) ∧
      r.points.length = r.pointsIt.budget ∧
      (r.InRange → r.points = r.boundingBox.points.filter r.contains ∧
        r.points.length ≤ r.rect.size.w * r.rect.size.h) := by
  refine ⟨RoundedRect.points_eq_rows r, ?_, fun h => ?_⟩
  · rw [show r.points = r.pointsIt.rest from
      RoundedRect.PointsIt.toListFuel_eq _ _ (by rw [RoundedRect.PointsIt.rest_length]; omega)]
    exact RoundedRect.PointsIt.rest_length r.pointsIt
  · have ef := RoundedRect.points_eq_filter r h
    exact ⟨ef, (Rect.le_area (by rw [ef]; exact List.length_filter_le _ _)).2 h⟩
example : (⟨⟨⟨-1024, -1024⟩, ⟨1024, 1024⟩⟩, CornerRadii.new ⟨2000, 3⟩⟩ : RoundedRect).InRange := by decide

/-- **The styled scanlines of a rounded rectangle terminate**: one styled scanline per row of the
stroke area, for every pair of areas (the source of `draw_styled` and of `pixels()`). -/
theorem rounded_rect_styled_scanlines_terminate (S F : RoundedRect) :
    (RoundedRect.styledScanlines S F).toList =
        (irange (RoundedRect.styledScanlines S F).scanlines.rowsStart
          (RoundedRect.styledScanlines S F).scanlines.rowsEnd).map
          (fun y => (RoundedRect.styledScanlines S F).style ((RoundedRect.styledScanlines S F).scanlines.row y)) ∧
      (RoundedRect.styledScanlines S F).toList.length =
        ((RoundedRect.styledScanlines S F).scanlines.rowsEnd -
          (RoundedRect.styledScanlines S F).scanlines.rowsStart).toNat := by
  have e := RoundedRect.StyledScanlinesIt.toList_eq (RoundedRect.styledScanlines S F)
  refine ⟨e, ?_⟩
  rw [e, List.length_map, irange_length]

/-- **`pixels()` of a styled rounded rectangle terminates**: for every style and rounded rectangle
the drain is the closed form `pixelsSpec` of the styled scanlines (the three parts of every
scanline walked in order), with at most "sum of the part lengths" items - the model's fuel is that
sum + 1. -/
theorem rounded_rect_styled_pixels_terminate (st : Style) (r : RoundedRect) :
    r.styledPixels st = pixelsSpec st.stroke st.fill
        (RoundedRect.styledScanlines (r.strokeArea st) (r.fillArea st)).toList ∧
      (r.styledPixels st).length ≤ (r.styledPixelsIt st).budget := by
  have e : r.styledPixels st = pixelsSpec st.stroke st.fill
      (RoundedRect.styledScanlines (r.strokeArea st) (r.fillArea st)).toList := by
    unfold RoundedRect.styledPixels RoundedRect.styledPixelsIt
    rw [StyledPixelsIt.toList_new]
  refine ⟨e, ?_⟩
  rw [e]
  exact Nat.le_trans (StyledPixelsIt.pixelsSpec_length _ _ _) (Nat.le_add_left _ _)

/-- A scanline whose points all lie in a box is at most as long as the box is wide: its first and
its last point do. -/
theorem scanline_length_le_width (s : Scanline) (bb : Rect) (h : ∀ p ∈ s.points, bb.contains p = true) :
    (s.xe - s.xs).toNat ≤ bb.size.w := by
  by_cases hemp : s.xs < s.xe
  · have c1 := h ⟨s.xs, s.y⟩ (Scanline.mem_points.mpr ⟨rfl, by simp only; omega, by simp only; omega⟩)
    have c2 := h ⟨s.xe - 1, s.y⟩ (Scanline.mem_points.mpr ⟨rfl, by simp only; omega, by simp only; omega⟩)
    rw [Rect.contains_iff] at c1 c2
    simp only at c1 c2
    omega
  · omega

/-- **`pixels()` of a styled rounded rectangle stays within the area of the stroke area's box**
(both areas representable): one styled scanline per row of the stroke area, each no longer than the
box is wide - `width * height` pixels at most, every style, radius and alignment. -/
theorem rounded_rect_styled_pixels_le_box_area (st : Style) (r : RoundedRect)
    (hS : (r.strokeArea st).InRange) (hF : (r.fillArea st).InRange) :
    (r.styledPixels st).length ≤ (r.strokeArea st).rect.size.w * (r.strokeArea st).rect.size.h := by
  obtain ⟨e, -⟩ := rounded_rect_styled_pixels_terminate st r
  rw [e]
  have h1 := StyledPixelsIt.pixelsSpec_length st.stroke st.fill
    (RoundedRect.styledScanlines (r.strokeArea st) (r.fillArea st)).toList
  have h2 := sum_map_le_length_mul
    (RoundedRect.styledScanlines (r.strokeArea st) (r.fillArea st)).toList
    (fun l => StyledPixelsIt.lenOf l.strokeLeft + StyledPixelsIt.lenOf l.fill + StyledPixelsIt.lenOf l.strokeRight)
    (r.strokeArea st).rect.size.w (by
      intro l hl
      obtain ⟨y, -, hok⟩ := RoundedRect.lines_ok hS hF l hl
      have ho := hok.ord
      have he := hok.emp
      have hr := hok.range
      unfold StyledPixelsIt.lenOf StyledScanline.strokeLeft StyledScanline.fill StyledScanline.strokeRight
      simp only
      by_cases hc : l.ss ≤ l.se
      · have := ho hc; omega
      · have := he (by omega); omega)
  have h3 : (RoundedRect.styledScanlines (r.strokeArea st) (r.fillArea st)).toList.length =
      (r.strokeArea st).rect.size.h := by
    rw [(rounded_rect_styled_scanlines_terminate (r.strokeArea st) (r.fillArea st)).2]
    have e1 : (RoundedRect.styledScanlines (r.strokeArea st) (r.fillArea st)).scanlines.rowsStart =
        (r.strokeArea st).rect.tl.y := (RoundedRect.new_rows _ hS).1
    have e2 : (RoundedRect.styledScanlines (r.strokeArea st) (r.fillArea st)).scanlines.rowsEnd =
        (r.strokeArea st).rect.tl.y + (r.strokeArea st).rect.size.h := (RoundedRect.new_rows _ hS).2
    rw [e1, e2]; omega
  rw [h3, Nat.mul_comm] at h2
  omega
example : let st : Style := ⟨some 1, some 2, 3, .center⟩
    let r : RoundedRect := ⟨⟨⟨-3, 2⟩, ⟨9, 7⟩⟩, ⟨⟨3, 2⟩, ⟨0, 0⟩, ⟨9, 9⟩, ⟨1, 4⟩⟩⟩
    (r.strokeArea st).InRange ∧ (r.fillArea st).InRange := by decide

/-- **`pixels()` of a stroked polyline (width > 1) against its bounding box**: under the decidable
box guard of C02 (`PolyBBoxGuard`, Props/C02/JoinsBBox.lean) every scanline is at most as long as
the box is wide, so `pixels()` yields at most `(rows * (n + 3) + n + 2) * width` points (`rows`,
`width` of the bounding box - the styled bounding box is the untranslated one moved by `translate`,
same size -, `n` vertices). -/
theorem polyline_pixels_le_box (pl : Polyline) (w : Nat) (hw : 2 ≤ w) (hg : PolyBBoxGuard pl w) :
    ∃ ubb ps, untranslatedBoundingBox pl w = some ubb ∧
      styledBoundingBox pl w = some (ubb.translate pl.translate) ∧ pixels pl w = some ps ∧
      ps.length ≤ (ubb.rows.length * (pl.vertices.length + 3) + pl.vertices.length + 2) * ubb.size.w := by
  obtain ⟨ubb, it, L, pit, hubb, hit, hrun, hL, hlen, hd, hpit, hprun, hp, hcount⟩ := polyline_terminates pl w hw
  have hbb : styledBoundingBox pl w = some (ubb.translate pl.translate) := by
    unfold styledBoundingBox
    simp only [hubb, Option.bind_eq_bind, Option.bind_some, pure]
  have hin := pixels_in_bbox pl w hw hg _ hbb _ hp
  refine ⟨ubb, _, hubb, hbb, hp, ?_⟩
  rw [hcount]
  have hline : ∀ s ∈ L, (s.xe - s.xs).toNat ≤ ubb.size.w := fun s hs =>
    scanline_length_le_width s ubb fun p hp => by
      rw [← Rect.contains_translate ubb pl.translate p]
      exact hin _ (List.mem_map.mpr ⟨p, List.mem_flatMap.mpr ⟨s, hs, hp⟩, rfl⟩)
  have h2 := sum_map_le_length_mul L (fun s => (s.xe - s.xs).toNat) _ hline
  exact Nat.le_trans h2 (Nat.mul_le_mul_right _ hlen)
example : (2 : Nat) ≤ 5 ∧ PolyBBoxGuard ⟨⟨-7, -9⟩, [⟨0, 0⟩, ⟨9, 1⟩, ⟨0, 2⟩, ⟨0, 2⟩, ⟨4, -6⟩]⟩ 5 :=
  EG.C02.JoinsBBox.wide_polyline_guard

/-- **`pixels()` of a styled triangle against its bounding box**: whenever every pixel lies in the
styled bounding box - which is what the triangle theorems of Props/C02/JoinsBBox.lean prove under
their decidable guards - every coloured scanline is at most as long as the box is wide, hence at most
`3 * (rows + 1) * width` pixels. -/
theorem triangle_pixels_le_box_of_in_box (t : Tri) (style : TriStyle) (hi : TriNeedsI32 t style → TriI32 t)
    (bb : Rect) (hbb : triStyledBoundingBox t style = some bb) (px : List (Pt × Nat))
    (hpx : triPixels t style = some px) (hin : ∀ pc ∈ px, bb.contains pc.1 = true) :
    px.length ≤ 3 * (bb.rows.length + 1) * bb.size.w := by
  obtain ⟨bb', li, L, hbb', hli, hrun, hL, hlen, hpix⟩ := triangle_terminates t style
  rw [hbb] at hbb'
  obtain rfl := Option.some.inj hbb'
  obtain ⟨pit, hpit, hprun, hpx', -⟩ := hpix hi
  rw [hpx] at hpx'
  obtain rfl := Option.some.inj hpx'
  have hline : ∀ x ∈ L, (typedPixels style.fillColor style.effectiveStrokeColor x).length ≤ bb.size.w := by
    intro x hx
    unfold typedPixels linePixels
    cases hc : kindColor style.fillColor style.effectiveStrokeColor x.2 with
    | none => exact Nat.zero_le _
    | some c =>
      simp only [List.length_map, Scanline.points_length]
      refine scanline_length_le_width x.1 bb fun p hp => hin (p, c) (List.mem_flatMap.mpr ⟨x, hx, ?_⟩)
      unfold typedPixels linePixels
      rw [hc]
      exact List.mem_map.mpr ⟨p, hp, rfl⟩
  exact Nat.le_trans (length_flatMap_le L _ _ hline) (Nat.mul_le_mul_right _ hlen)

/-- The instance for Center / Outside strokes of width > 1 (with or without fill) under
`TriStrokeGuard` (Props/C02/JoinsBBox.lean: `triangle_stroke_pixels_in_bounding_box_partial`). -/
theorem triangle_stroke_pixels_le_box (t : Tri) (style : TriStyle) (hw : 2 ≤ style.strokeWidth)
    (hal : style.strokeAlignment ≠ .inside) (hg : TriStrokeGuard t style)
    (hi : TriNeedsI32 t style → TriI32 t) :
    ∃ bb px, triStyledBoundingBox t style = some bb ∧ triPixels t style = some px ∧
      px.length ≤ 3 * (bb.rows.length + 1) * bb.size.w := by
  obtain ⟨bb, hbb⟩ := triStyledBoundingBox_total t style
  obtain ⟨px, hpx⟩ := triPixels_total t style
  exact ⟨bb, px, hbb, hpx, triangle_pixels_le_box_of_in_box t style hi bb hbb px hpx
    (EG.C02.JoinsBBox.triangle_stroke_pixels_in_bounding_box_partial t style hw hal hg bb hbb px hpx)⟩
example : let t : Tri := ⟨⟨0, 0⟩, ⟨9, 1⟩, ⟨2, 7⟩⟩
    let style : TriStyle := ⟨some 1, some 2, 3, .center⟩
    2 ≤ style.strokeWidth ∧ style.strokeAlignment ≠ .inside ∧ TriStrokeGuard t style ∧
      ¬ TriNeedsI32 t style := by decide +kernel

end EG.C08.TerminationThick
