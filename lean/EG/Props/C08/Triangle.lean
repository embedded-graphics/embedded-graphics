/-
  C08 (triangle part) — range theorems of `Triangle::{bounding_box, area_doubled, contains,
  sorted_clockwise, scanline_intersection, translate}` (src/primitives/triangle/mod.rs: every
  product and sum in `i32`). Checked model: `EG.Model.CheckedTriangle` (on top of the lazy
  Bresenham walk of `EG.Model.CheckedScanline`); plain: `EG.Model.Triangle`.

  `DS.xtri t` = every vertex in the derived display-scale range (-1152 ..= 2176, which contains
  +-1024); the lemmas hold for vertices within +-8192 (`Triangle.SmallPt`, Lemmas/CheckedTriangle.lean,
  the range of Props/C19/Arithmetic.lean) and any probed point / scanline row.
-/
import EG.Lemmas.CheckedDSMore
namespace EG.C08
open EG EG.Chk EG.Triangle

/-- `bounding_box`: `Rectangle::with_corners` of the component-wise extremes. -/
theorem triangle_bounding_box_checked_eq_plain {t : Triangle} (h : DS.xtri t) :
    Chk.Triangle.boundingBox t = some t.boundingBox :=
  Chk.Triangle.boundingBox_ok (DS.xpt_W h.1) (DS.xpt_W h.2.1) (DS.xpt_W h.2.2)
example : DS.xtri ⟨⟨-1152, -1152⟩, ⟨2176, -1152⟩, ⟨0, 2176⟩⟩ := by decide

/-- `area_doubled`: the negation, the four products, both differences and the three partial sums
stay inside `i32`. -/
theorem triangle_area_doubled_checked_eq_plain {t : Triangle} (h : DS.xtri t) :
    Chk.Triangle.areaDoubled t = some t.areaDoubled :=
  Chk.Triangle.areaDoubled_ok (DS.xpt_small h.1) (DS.xpt_small h.2.1) (DS.xpt_small h.2.2)
example : DS.xtri ⟨⟨-1024, -1024⟩, ⟨1024, -1024⟩, ⟨0, 1024⟩⟩ := by decide

/-- **`Triangle::contains`** for EVERY probed point: the bounding-box test, `s`, `t`,
`area_doubled`, the guarded `s + t`, the three `Line::points()` of the sorted edges and every
step `any` takes along them. -/
theorem triangle_contains_checked_eq_plain {t : Triangle} (h : DS.xtri t) (p : Pt) :
    Chk.Triangle.contains t p = some (t.contains p) :=
  Chk.Triangle.contains_ok (DS.xpt_small h.1) (DS.xpt_small h.2.1) (DS.xpt_small h.2.2) p
example : DS.xtri ⟨⟨-1024, -1024⟩, ⟨1024, -1024⟩, ⟨0, 1024⟩⟩ := by decide

/-- `sorted_clockwise` (`sorted_yx` / `sort_two_yx` only compare). -/
theorem triangle_sorted_clockwise_checked_eq_plain {t : Triangle} (h : DS.xtri t) :
    Chk.Triangle.sortedClockwise t = some t.sortedClockwise :=
  Chk.Triangle.sortedClockwise_ok (DS.xpt_small h.1) (DS.xpt_small h.2.1) (DS.xpt_small h.2.2)
example : DS.xtri ⟨⟨0, 1024⟩, ⟨1024, -1024⟩, ⟨-1024, -1024⟩⟩ := by decide

/-- **`scanline_intersection`** for every row `y`: `area_doubled`, then one or three
`bresenham_intersection`s, each a lazily consumed `Line::points()` with `Scanline::extend`. -/
theorem triangle_scanline_intersection_checked_eq_plain {t : Triangle} (h : DS.xtri t) (y : Int) :
    Chk.Triangle.scanlineIntersection t y = some (t.scanlineIntersection y) :=
  Chk.Triangle.scanlineIntersection_ok (DS.xpt_small h.1) (DS.xpt_small h.2.1) (DS.xpt_small h.2.2) y
example : DS.xtri ⟨⟨-1024, -1024⟩, ⟨1024, -1024⟩, ⟨0, 1024⟩⟩ := by decide

theorem triangle_translate_checked_eq_plain {t : Triangle} (h : DS.xtri t) {d : Pt} (hd : DS.xpt d) :
    Chk.Triangle.translate t d = some (t.translate d) :=
  Chk.Triangle.translate_ok (DS.xpt_W h.1) (DS.xpt_W h.2.1) (DS.xpt_W h.2.2) (DS.xpt_W hd)
example : DS.xtri ⟨⟨-1024, -1024⟩, ⟨1024, -1024⟩, ⟨0, 1024⟩⟩ ∧ DS.xpt ⟨2176, -1152⟩ := by decide

/-- The largest uniform domain proved: vertices within +-8192, any probed point. -/
theorem triangle_contains_wide {t : Triangle} (h1 : SmallPt t.v1) (h2 : SmallPt t.v2) (h3 : SmallPt t.v3)
    (p : Pt) : Chk.Triangle.contains t p = some (t.contains p) := Chk.Triangle.contains_ok h1 h2 h3 p
example : SmallPt ⟨-8192, 8192⟩ := by decide

theorem triangle_scanline_intersection_wide {t : Triangle} (h1 : SmallPt t.v1) (h2 : SmallPt t.v2)
    (h3 : SmallPt t.v3) (y : Int) :
    Chk.Triangle.scanlineIntersection t y = some (t.scanlineIntersection y) :=
  Chk.Triangle.scanlineIntersection_ok h1 h2 h3 y
example : SmallPt ⟨8192, -8192⟩ := by decide

/-- The range does end one doubling further out: with vertices at +-16384 the guarded sum
`s + t` of `contains` leaves `i32` for a corner of the bounding box ... -/
theorem triangle_contains_overflows_at_16384 :
    Chk.Triangle.contains ⟨⟨-16384, -16384⟩, ⟨16384, -16384⟩, ⟨-16384, 16384⟩⟩ ⟨16384, 16384⟩ = none := by
  decide

/-- ... and from +-20725 on `area_doubled` itself overflows, so `sorted_clockwise`, `points()` and
every styled draw of that triangle panic in a checked build. -/
theorem triangle_area_doubled_overflows_at_20725 :
    Chk.Triangle.areaDoubled ⟨⟨-20725, -20725⟩, ⟨-20725, 20725⟩, ⟨20725, -20725⟩⟩ = none ∧
    Chk.Triangle.sortedClockwise ⟨⟨-20725, -20725⟩, ⟨-20725, 20725⟩, ⟨20725, -20725⟩⟩ = none ∧
    Chk.Triangle.scanlineIntersection ⟨⟨-20725, -20725⟩, ⟨-20725, 20725⟩, ⟨20725, -20725⟩⟩ 0 = none := by
  refine ⟨?_, ?_, ?_⟩ <;> decide

end EG.C08
