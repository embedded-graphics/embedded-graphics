/-
  C08 (rejection part) — "Out-of-range coordinates or indices given to `Framebuffer`,
  `ImageRaw::pixel`, raw `load`/`store` and sub-images are rejected without a panic."

  Two ingredients per API: (1) WHAT happens outside the domain (`None` / `Err` / no-op) — the
  theorems of C09, C10, C11, cited here for every index / point / area, without any bound;
  (2) that the arithmetic on the way does not overflow — the checked kernels of
  `EG.Model.CheckedData`, also for every index / point / area.
-/
import EG.Props.C09
import EG.Props.C10
import EG.Props.C11
import EG.Lemmas.CheckedData
namespace EG.C08
open EG EG.Chk EG.Raw EG.Img EG.Fb

/-- `load` returns `None` exactly for the indices beyond the buffer — every `i : Nat`, so also
indices up to `usize::MAX` (C11) ... -/
theorem reject_load_oob {bits : Nat} (hb : validBits bits = true) (o : Order) (buf : List Nat) (i : Nat) :
    load bits o buf i = none ↔ pixelCount bits buf.length ≤ i := EG.C11.load_oob hb o buf i
example : validBits 24 = true := by decide

/-- ... and `store` returns `Err(OutOfBoundsError)` there and leaves the buffer unchanged (C11). -/
theorem reject_store_oob {bits : Nat} (hb : validBits bits = true) (o : Order) (v : Nat) (buf : List Nat)
    (i : Nat) (h : pixelCount bits buf.length ≤ i) : store bits o v buf i = (false, buf) :=
  (EG.C11.store_oob hb o v buf i).1 h
example : validBits 16 = true ∧ pixelCount 16 [1, 2, 3].length ≤ 18446744073709551615 := by decide

/-- The repaired multi-byte `load` (`index.checked_mul(n)`, then two `get`s) contains no operation
that can panic, and for EVERY index it computes what the plain model computes — in particular
`None` where `index * n` exceeds `usize::MAX`. -/
theorem load_checked_mul_eq_plain (n : Nat) (o : Order) {buf : List Nat} (hl : buf.length ≤ usizeMax)
    (i : Nat) : Chk.loadBytes n o buf i = Raw.loadBytes n o buf i := loadBytes_eq n o hl i
example : ([1, 2, 3] : List Nat).length ≤ usizeMax := by decide

theorem store_checked_mul_eq_plain (n : Nat) (o : Order) (v : Nat) {buf : List Nat}
    (hl : buf.length ≤ usizeMax) (i : Nat) :
    Chk.storeBytes n o v buf i = Raw.storeBytes n o v buf i := storeBytes_eq n o v hl i
example : ([1, 2, 3] : List Nat).length ≤ usizeMax := by decide

/-- `checked_mul` at the top of the index range: `None`, the load is rejected (not a panic). -/
theorem load_rejects_usize_max :
    checkedMulUsize 18446744073709551615 2 = none ∧
    Chk.loadBytes 2 .le [1, 2, 3, 4] 18446744073709551615 = none := by decide

/-- Before commit e95846b `index * 2` was an unchecked `usize` product: a panic from
`usize::MAX / 2 + 1` on. -/
theorem old_load_index_product_overflows : Old.loadStoreStart 9223372036854775808 2 = none := by decide

/-- `set_pixel` outside the framebuffer is a no-op, for every point (C10) ... -/
theorem reject_fb_set_pixel_outside (fb : Fb) {p : Pt} (c : Nat) (hp : ¬ fb.inside p) :
    fb.setPixel p c = fb := EG.C10.outside_noop fb c hp
example : ¬ (Fb.new 1 .le 9 3 4).inside ⟨-2147483648, 2147483647⟩ := by decide

/-- ... `pixel` is `None` exactly outside (C10) ... -/
theorem reject_fb_pixel_outside (fb : Fb) (hw : fb.Wf) (q : Pt) : fb.pixel q = none ↔ ¬ fb.inside q :=
  EG.C10.pixel_none_iff_outside fb hw q

/-- ... and the index arithmetic of `set_pixel` does not overflow for ANY point. -/
theorem reject_fb_no_overflow {bits : Nat} (hv : validBits bits = true) {width height : Nat}
    (hw : width ≤ 16777216) (hh : height ≤ 16777216) (p : Pt) :
    (fbIndex bits width height p).isSome = true := by
  rw [fbIndex_ok hv hw hh p]; rfl
example : validBits 1 = true := by decide

/-- `pixel` is `None` exactly outside the bounding box, for every point (C09) ... -/
theorem reject_image_pixel_outside (im : ImageRaw) (hw : im.WF) (p : Pt) :
    im.pixel p = none ↔ im.boundingBox.contains p = false := EG.C09.pixel_none_iff im hw p

/-- ... and its index arithmetic does not overflow for ANY point. -/
theorem reject_image_pixel_no_overflow {im : ImageRaw} (hv : validBits im.bits = true)
    (hw : im.size.w ≤ 268435456) (hh : im.size.h ≤ 268435456) (p : Pt) :
    (imagePixelIndex im p).isSome = true := by
  rw [imagePixelIndex_ok hv hw hh p]; rfl
example : validBits (⟨8, .le, [], ⟨3, 0⟩⟩ : ImageRaw).bits = true := by decide

/-- `draw_sub_image` draws nothing for an area that is zero sized or not inside the image (C09). -/
theorem reject_draw_sub_image (im : ImageRaw) (a : Rect) (h : ¬ im.Accepts a) : im.drawSubImage a = [] :=
  EG.C09.draw_sub_image_rejects im a h
example : ¬ (⟨1, .le, [0, 0, 0], ⟨5, 3⟩⟩ : ImageRaw).Accepts ⟨⟨2147483647, -2147483648⟩, ⟨4294967295, 1⟩⟩ := by
  decide

/-- `sub_image` clips the area to the parent's box (C09; stated there for the intersection with
the area as given) ... -/
theorem reject_sub_image_clips (d : Drawable) (area : Rect) :
    d.subImage area = .sub d (d.boundingBox.intersection area) := (EG.C09.sub_area_eq d area).1

/-- ... the crop that `SubImage::new` applies first (`crop_area` / `crop_range`, commit
6bd8eba) keeps ALL arithmetic inside `i64` / `i32` for ANY `i32` coordinates and ANY `u32` sizes
of the area (parents up to `i32::MAX - 2` pixels) ... -/
theorem sub_image_crop_checked_eq_plain {ps : Sz} (hp : ps.w ≤ 2147483645 ∧ ps.h ≤ 2147483645)
    {area : Rect} (ht : inI32Pt area.tl) (hz : inU32Sz area.size) :
    Chk.subImageArea ps area = some (Img.subImageArea ps area) := subImageArea_ok hp ht hz
example : inI32Pt (⟨⟨2147483647, -2147483648⟩, ⟨4294967295, 4294967295⟩⟩ : Rect).tl ∧
    inU32Sz (⟨⟨2147483647, -2147483648⟩, ⟨4294967295, 4294967295⟩⟩ : Rect).size := by
  decide

/-- ... `crop_range` itself never leaves `i64` and never lengthens the range (so its final
`as u32` is lossless) ... -/
theorem crop_range_checked_eq_plain {start : Int} (hs : -2147483648 ≤ start ∧ start ≤ 2147483647)
    {length parent : Nat} (hl : length ≤ 4294967295) (hp : parent ≤ 4294967295) :
    Chk.cropRange start length parent = some (Img.cropRange start length parent) ∧
      (Img.cropRange start length parent).2 ≤ length := cropRange_ok hs hl hp
example : (-2147483648 : Int) ≤ 2147483647 ∧ (4294967295 : Nat) ≤ 4294967295 := by decide

/-- ... and the crop does not change which pixels the sub-image shows: the cropped area has
exactly the same points in common with the parent's box as the area as given. -/
theorem crop_preserves_intersection (ps : Sz) (area : Rect) (p : Pt) :
    (Img.subImageArea ps area).contains p = true ↔
      ((⟨Pt.zero, ps⟩ : Rect).intersection area).contains p = true :=
  Chk.crop_preserves_intersection ps area p

/-- Before the repair the intersection was computed with the area as given and panicked in
`Rectangle::bottom_right` for corners that are not representable. -/
theorem old_sub_image_overflows :
    Old.subImageArea ⟨5, 3⟩ ⟨⟨2147483647, 0⟩, ⟨2, 1⟩⟩ = none ∧
    Chk.subImageArea ⟨5, 3⟩ ⟨⟨2147483647, 0⟩, ⟨2, 1⟩⟩ = some Rect.zero := by decide

/-- The bound on the parent is sharp: for a parent `i32::MAX` pixels wide (only possible with zero
height) the cropped area `-1 .. 2^31` is wider than `i32::MAX` and `bottom_right` asserts. Far
outside display scale; replayed by `scale.chk.sub`. -/
theorem sub_image_parent_bound_sharp :
    Chk.subImageArea ⟨2147483647, 0⟩ ⟨⟨-1, -1⟩, ⟨4294967295, 4294967295⟩⟩ = none := by decide

/-! ### `draw_sub_image` called directly (streams `scale.reject drawsub`, `scale.chk.drawsub`)

`sub_image()` crops the area before it is stored; a DIRECT call of
`ImageDrawable::draw_sub_image(&image, &mut target, &area)` (public, although "not meant for user
code") hands any area to the guard of `ImageRaw::draw_sub_image`, resp. to the corner arithmetic
of `SubImage::draw_sub_image`. Both as repaired by /repo a083ac5 (`u64` sums; `checked_add`). -/

/-- **`ImageRaw::draw_sub_image` rejects without a panic**: for EVERY area — any `i32` corner, any
`u32` size — and an image up to 2^28 x 2^28 of any depth, the checked kernel returns, and decides
and skips like the plain guard (`plainSubImageSkips` = the condition and the arguments of
`Img.ImageRaw.drawSubImage`): nothing is drawn unless the area lies completely inside. -/
theorem draw_sub_image_total {im : ImageRaw} (hv : validBits im.bits = true)
    (hw : im.size.w ≤ 268435456) (hh : im.size.h ≤ 268435456) {area : Rect}
    (hx : -2147483648 ≤ area.tl.x ∧ area.tl.x ≤ 2147483647)
    (hy : -2147483648 ≤ area.tl.y ∧ area.tl.y ≤ 2147483647) (haw : area.size.w ≤ 4294967295)
    (hah : area.size.h ≤ 4294967295) :
    Chk.drawSubImageSkips im area = some (plainSubImageSkips im area) :=
  drawSubImageSkips_total hv hw hh hx.2 hy.2 haw hah
example : validBits 1 = true ∧ (5 : Nat) ≤ 268435456 ∧ (-2147483648 : Int) ≤ -2147483648 ∧
    (4294967295 : Nat) ≤ 4294967295 := by decide

/-- The plain decision is the guard of the plain image model: "nothing drawn" exactly when the
area is zero sized or not completely inside the image. -/
theorem draw_sub_image_draws_iff_inside (im : ImageRaw) (area : Rect) :
    (plainSubImageSkips im area).isSome = true ↔
      ¬ (area.isZeroSized = true ∨ area.tl.x < 0 ∨ area.tl.y < 0 ∨
        area.tl.x.toNat + area.size.w > im.size.w ∨ area.tl.y.toNat + area.size.h > im.size.h) := by
  unfold plainSubImageSkips
  exact ⟨fun h hc => (by rw [if_pos hc] at h; cases h), fun h => by rw [if_neg h]; rfl⟩

/-- **`SubImage::draw_sub_image` rejects without a panic** for every area and every own corner: a
translated corner that is not representable is rejected by `checked_add`, exactly as the plain
model (which adds in unbounded integers and then finds the corner negative or beyond the image)
decides. -/
theorem sub_image_draw_sub_image_total {im : ImageRaw} (hv : validBits im.bits = true)
    (hw : im.size.w ≤ 268435456) (hh : im.size.h ≤ 268435456) {own area : Rect}
    (hox : -2147483648 ≤ own.tl.x ∧ own.tl.x ≤ 2147483647) (hoy : -2147483648 ≤ own.tl.y ∧ own.tl.y ≤ 2147483647)
    (hx : -2147483648 ≤ area.tl.x ∧ area.tl.x ≤ 2147483647)
    (hy : -2147483648 ≤ area.tl.y ∧ area.tl.y ≤ 2147483647) (haw : area.size.w ≤ 4294967295)
    (hah : area.size.h ≤ 4294967295) :
    Chk.subDrawSubImageSkips im own area = some (plainSubImageSkips im (area.translate own.tl)) :=
  subDrawSubImageSkips_total hv hw hh haw hah
example : validBits 24 = true ∧ (2147483647 : Int) ≤ 2147483647 := by decide

/-- Why the repair was needed: the old guard added in `u32` also for non-negative corners
(corner `(1, 0)`, width `u32::MAX`: `scale.reject drawsub 1 0 0 1 0 4294967295 1`; the same for
the height); the repaired guard rejects these areas. -/
theorem old_draw_sub_image_u32_sum_overflows :
    Chk.Old.drawSubImageSkips ⟨1, .le, [], ⟨5, 3⟩⟩ ⟨⟨1, 0⟩, ⟨4294967295, 1⟩⟩ = none ∧
    Chk.Old.drawSubImageSkips ⟨1, .le, [], ⟨5, 3⟩⟩ ⟨⟨0, 1⟩, ⟨1, 4294967295⟩⟩ = none ∧
    Chk.drawSubImageSkips ⟨1, .le, [], ⟨5, 3⟩⟩ ⟨⟨1, 0⟩, ⟨4294967295, 1⟩⟩ = some none ∧
    Chk.drawSubImageSkips ⟨1, .le, [], ⟨5, 3⟩⟩ ⟨⟨0, 1⟩, ⟨1, 4294967295⟩⟩ = some none :=
  old_drawSubImageSkips_overflows

/-- ... and `SubImage::draw_sub_image` translated the area with `Point + Point`
(`scale.reject drawsub 1 0 1 2147483647 0 0 0`). -/
theorem old_sub_image_forward_area_overflows :
    Chk.Old.subImageForwardArea ⟨⟨1, 1⟩, ⟨3, 2⟩⟩ ⟨⟨2147483647, 0⟩, ⟨0, 0⟩⟩ = none ∧
    Chk.subDrawSubImageSkips ⟨1, .le, [], ⟨5, 3⟩⟩ ⟨⟨1, 1⟩, ⟨3, 2⟩⟩ ⟨⟨2147483647, 0⟩, ⟨0, 0⟩⟩ = some none :=
  old_subImageForwardArea_overflows

/-- **Why the sign tests `x < 0 || y < 0` stand in front of the sums** (the seeded change of round
3 removed them from the old `u32` guard): then every non-zero-sized area that straddles or touches
the left edge from outside (`-width <= x <= -1`) overflows the `u32` sum — a panic instead of a
rejection. -/
theorem seeded_draw_sub_image_without_sign_test_panics (im : ImageRaw) {area : Rect}
    (hz : area.isZeroSized = false) (hx : -2147483648 ≤ area.tl.x ∧ area.tl.x < 0)
    (hw : -area.tl.x ≤ (area.size.w : Int)) : Chk.Seeded.drawSubImageRejects im area = none :=
  Seeded.drawSubImageRejects_panics im hz hx hw
example : (⟨⟨-1, 0⟩, ⟨1, 1⟩⟩ : Rect).isZeroSized = false ∧ (-(-1 : Int)) ≤ ((1 : Nat) : Int) := by decide

end EG.C08
