/-
  C08 (sector / arc part) — range theorems of `PlaneSector::{contains, point_type}`,
  `DistanceIterator`, `Sector::{contains, offset, translate}`, `sector::Points`, `arc::Points` and
  the styled iterators of both shapes (thresholds `inside * 2048 - 1024`, `outside * 2048 + 1024`,
  bevel distance `-outside * 4096`, `LinearEquation::check_side` of the bevel line).
  Checked model: `EG.Model.CheckedSector`; plain: `EG.Model.Sector`, `StyledArc`, `StyledSector`.

  Trigonometry. As in the plain models a sector holds the value `PlaneSector::new` returned
  (operation tag + two integer normal vectors, each component within +-1024 =
  `NORMAL_VECTOR_SCALE`: hypothesis `Sec.ps`). For the `fixed_point` build `PlaneSector::new` and
  the bevel selection are integer code on I16F16 bits, modelled with `none` = panic in
  `EG.Model.FixedReal` / `FixedTrig` / `PlaneSectorNew`: `fixed_plane_sector_total`,
  `fixed_styled_sector_trig_total` below prove that they return for every start angle within
  +-11000000 bits (about +-9600 degrees) and EVERY sweep except `i32::MIN` bits, and that the
  normals they return satisfy `Sec.ps` — so in that build the chain raw angles -> pixels has no
  panic. For the default build micromath's f32 code is not modelled (stays `[V]`).

  Display scale: `DS.circle` (corner within +-1024, diameter up to 1024) is inside `Sec.base`
  (+-2048 / 2048), stroke widths up to 128 inside `Sec.width` (1024); `contains` / `points()` are
  proved on `Sec.circle` (+-4096 / 4097).
-/
import EG.Lemmas.CheckedDSMore
import EG.Lemmas.FixedTrig
namespace EG.C08
open EG EG.Chk

/-- **`PlaneSector::contains`**: the two half-plane distances, `left . right`, the bisector and
`point . bisector`, for any normals within +-1024 and a doubled delta within +-32767. -/
theorem plane_sector_contains_checked_eq_plain {ps : PlaneSector} (hps : Sec.ps ps) {p : Pt} (hp : J.pt p) :
    Chk.PlaneSector.contains ps p = some (ps.contains p) := Chk.PlaneSector.contains_ok hps hp
example : Sec.ps ⟨.intersection, ⟨-1024, 0⟩, ⟨724, 724⟩⟩ ∧ J.pt ⟨32767, -32767⟩ := by decide

/-- **`PlaneSector::point_type`** with any thresholds except `i32::MIN` (they are negated). -/
theorem plane_sector_point_type_checked_eq_plain {ps : PlaneSector} (hps : Sec.ps ps) {p : Pt}
    (hp : J.pt p) {ti tout : Int} (hti : -2147483647 ≤ ti ∧ ti ≤ 2147483647)
    (hto : -2147483647 ≤ tout ∧ tout ≤ 2147483647) :
    Chk.PlaneSector.pointType ps p ti tout = some (ps.pointType p ti tout) :=
  Chk.PlaneSector.pointType_ok hps hp hti hto
example : Sec.ps ⟨.union, ⟨0, 1024⟩, ⟨0, -1024⟩⟩ ∧ J.pt ⟨-2559, 2559⟩ ∧ (128 * 2048 + 1024 : Int) ≤ 2147483647 := by
  decide

/-- The dot products are NOT the binding constraint: with normals of length 1024 they overflow
only for deltas beyond 2^20 (2^21 along an axis, as here), while `DistanceIterator` squares the delta in `i32` first. -/
theorem plane_sector_distance_overflows_at_2_pow_21 :
    Chk.PlaneSector.distance ⟨1024, 0⟩ ⟨2097152, 0⟩ = none ∧
    (Chk.PlaneSector.distance ⟨1024, 0⟩ ⟨2097151, 0⟩).isSome = true := by constructor <;> decide

/-- One item of the `DistanceIterator`: `point * 2 - center_2x` and its squared length in `i32`. -/
theorem distance_item_checked_eq_plain {c p : Pt} (hcx : -16383 ≤ c.x ∧ c.x ≤ 16383)
    (hcy : -16383 ≤ c.y ∧ c.y ≤ 16383) (hp : (-8192 ≤ p.x ∧ p.x ≤ 8192) ∧ (-8192 ≤ p.y ∧ p.y ≤ 8192)) :
    Chk.DistIt.item c p = some (DistIt.item c p) := (Chk.DistIt.item_ok hcx hcy hp).1
example : (-16383 : Int) ≤ 2 * 2176 + 1279 ∧ (2 * 2176 + 1279 : Int) ≤ 16383 := by decide
/-- ... which is where the range ends: a doubled delta of 32768 per axis. -/
theorem distance_item_overflows : Chk.DistIt.item ⟨0, 0⟩ ⟨16384, 16384⟩ = none := by decide

/-- `Circle::distances()` of a stroke-area circle, and the invariant `DistOk` (points within
+-8192, doubled centre within +-16383) every later `next` / `find` preserves. -/
theorem circle_distances_checked_eq_plain {c : Circle} (h : DS.xcircle c) :
    Chk.Circle.distances c = some c.distances ∧ DistOk c.distances :=
  Chk.Circle.distances_ok (DS.xcircle_sec h)
example : DS.xcircle ⟨⟨-1152, -1152⟩, 1280⟩ := by decide

/-- **`Sector::contains`** for a stroke-area sector and any display-scale point. -/
theorem sector_contains_checked_eq_plain {s : Sector} (hc : DS.xcircle s.toCircle) (hps : Sec.ps s.ps)
    {p : Pt} (hp : DS.xpt p) : Chk.Sector.contains s p = some (s.contains p) :=
  Chk.Sector.contains_ok ⟨DS.xcircle_sec hc, hps⟩ (DS.xcoord_probe hp.1) (DS.xcoord_probe hp.2)
example : DS.xcircle (⟨⟨-1152, 2176⟩, 1280, ⟨.union, ⟨-1024, 0⟩, ⟨0, 1024⟩⟩⟩ : Sector).toCircle ∧
    DS.xpt ⟨2176, -1152⟩ := by decide

theorem sector_offset_checked_eq_plain {s : Sector} (hc : DS.xcircle s.toCircle) {o : Int} (ho : DS.offs o) :
    Chk.Sector.offset s o = some (s.offset o) :=
  Chk.Sector.offset_ok (DS.xpt_W hc.1) (DS.xsize_W hc.2) (DS.offs_W ho)
example : DS.xcircle (⟨⟨5, 5⟩, 3, PlaneSector.entire⟩ : Sector).toCircle ∧ DS.offs (-128) := by decide

theorem sector_translate_checked_eq_plain {s : Sector} (hc : DS.xcircle s.toCircle) {d : Pt} (hd : DS.xpt d) :
    Chk.Sector.translate s d = some (s.translate d) :=
  Chk.Sector.translate_ok (DS.xpt_W hc.1) (DS.xpt_W hd)
example : DS.xcircle (⟨⟨5, 5⟩, 3, PlaneSector.entire⟩ : Sector).toCircle ∧ DS.xpt ⟨-9, 9⟩ := by decide

/-- `sector::Points::new`, and the invariant of the iterator. -/
theorem sector_points_new_checked_eq_plain {s : Sector} (hc : DS.xcircle s.toCircle) (hps : Sec.ps s.ps) :
    Chk.Sector.pointsIt s = some s.pointsIt ∧ Chk.Sector.PtsItOk s.pointsIt :=
  Chk.Sector.pointsIt_ok ⟨DS.xcircle_sec hc, hps⟩
example : DS.xcircle (⟨⟨0, 0⟩, 1024, ⟨.intersection, ⟨0, 1024⟩, ⟨1024, 0⟩⟩⟩ : Sector).toCircle := by decide

/-- **`sector::Points::next`**: from a state satisfying the invariant the checked step (every
`DistanceIterator::next` `find` pulls, the threshold comparison, `PlaneSector::contains` under the
short-circuit `&&`) is the plain step and keeps the invariant; by induction `points()` of a
display-scale sector never overflows. -/
theorem sector_points_next_checked_eq_plain {it : Sector.PointsIt} (hi : Chk.Sector.PtsItOk it) :
    Chk.Sector.next it = some it.next ∧ ∀ p it', it.next = some (p, it') → Chk.Sector.PtsItOk it' :=
  Chk.Sector.next_ok hi
example : Chk.Sector.PtsItOk (⟨⟨0, 0⟩, 9, ⟨.intersection, ⟨0, 1024⟩, ⟨1024, 0⟩⟩⟩ : Sector).pointsIt :=
  (Chk.Sector.pointsIt_ok (by decide)).2

/-- `arc::Points::new` (`offset(-1)`, both thresholds) and `next`. -/
theorem arc_points_new_checked_eq_plain {a : Arc} (hc : DS.xcircle a.toCircle) (hps : Sec.ps a.ps) :
    Chk.Arc.pointsIt a = some a.pointsIt ∧ Chk.Arc.PtsItOk a.pointsIt :=
  Chk.Arc.pointsIt_ok ⟨DS.xcircle_sec hc, hps⟩
example : DS.xcircle (⟨⟨0, 0⟩, 1024, ⟨.intersection, ⟨0, 1024⟩, ⟨1024, 0⟩⟩⟩ : Arc).toCircle := by decide

theorem arc_points_next_checked_eq_plain {it : Arc.PointsIt} (hi : Chk.Arc.PtsItOk it) :
    Chk.Arc.next it = some it.next ∧ ∀ p it', it.next = some (p, it') → Chk.Arc.PtsItOk it' :=
  Chk.Arc.next_ok hi
example : Chk.Arc.PtsItOk (⟨⟨0, 0⟩, 9, ⟨.intersection, ⟨0, 1024⟩, ⟨1024, 0⟩⟩⟩ : Arc).pointsIt :=
  (Chk.Arc.pointsIt_ok (by decide)).2

/-- The stroke thresholds of a styled sector, for every width whose inside / outside part is
below 2^20 (the display scale has 128). -/
theorem sector_thresholds_checked_eq_plain {w : Int} (h : 0 ≤ w ∧ w ≤ 1048575) :
    Chk.Sector.thresholdInside w = some (w * normalVectorScale * 2 - normalVectorScale) ∧
    Chk.Sector.thresholdOutside w = some (w * normalVectorScale * 2 + normalVectorScale) :=
  ⟨Chk.Sector.thresholdInside_ok h, Chk.Sector.thresholdOutside_ok h⟩
example : (0 : Int) ≤ 128 ∧ (128 : Int) ≤ 1048575 := by decide
/-- ... sharp: at 2^20 `inside * 1024 * 2` leaves `i32`; the bevel distance `-outside * 1024 * 4`
reaches exactly `i32::MIN` at 2^19 and overflows one further. -/
theorem sector_thresholds_overflow :
    Chk.Sector.thresholdInside 1048576 = none ∧ Chk.Sector.thresholdOutside 1048576 = none ∧
    Chk.Sector.bevelThreshold 524288 = some (-2147483648) ∧ Chk.Sector.bevelThreshold 524289 = none := by
  refine ⟨?_, ?_, ?_, ?_⟩ <;> decide

/-- **`StyledPixelsIterator::new`** of a display-scale styled sector (any alignment, width up to
128, also wider than the shape; any bevel whose normal is within +-1024): stroke and fill area,
`distances()`, both circle thresholds, both stroke thresholds, the bevel distance. -/
theorem styled_sector_new_checked_eq_plain {st : Style} {s : Sector} {bevel : SectorBevel}
    (hw : DS.width st.width) (hc : DS.circle s.toCircle) (hps : Sec.ps s.ps)
    (hb : ∀ k n, bevel = some (k, n) → Sec.normal n) :
    Chk.Sector.styledPixelsIt st s bevel = some (s.styledPixelsIt st bevel) ∧
    Chk.Sector.StyledOk (s.styledPixelsIt st bevel) :=
  Chk.Sector.styledPixelsIt_ok (DS.width_sec hw) (DS.circle_base hc) hps hb
example : DS.width (⟨some 1, some 2, 128, .outside⟩ : Style).width ∧
    DS.circle (⟨⟨-1024, 1024⟩, 1024, ⟨.intersection, ⟨0, 1024⟩, ⟨1024, 0⟩⟩⟩ : Sector).toCircle := by decide

/-- **`StyledPixelsIterator::next`** of a styled sector: every turn of its loop — `find`,
`point_type`, the bevel test `check_side`, the comparison with the inner threshold — is the
plain one and keeps the invariant. -/
theorem styled_sector_next_checked_eq_plain {it : Sector.StyledPixelsIt} (hi : Chk.Sector.StyledOk it) :
    Chk.Sector.styledNext it = some it.next ∧ ∀ w it', it.next = some (w, it') → Chk.Sector.StyledOk it' :=
  Chk.Sector.styledNext_ok hi
example : Chk.Sector.StyledOk ((⟨⟨0, 0⟩, 9, ⟨.intersection, ⟨0, 1024⟩, ⟨1024, 0⟩⟩⟩ : Sector).styledPixelsIt
    ⟨some 1, some 2, 3, .center⟩ (some (.exterior, ⟨724, -724⟩))) :=
  (Chk.Sector.styledPixelsIt_ok (by decide) (by decide) (by decide)
    (by intro k n h; cases h; decide)).2

/-- `arc::styled::StyledPixelsIterator::{new, next}`. -/
theorem styled_arc_new_checked_eq_plain {st : Style} {a : Arc} (hw : DS.width st.width)
    (hc : DS.circle a.toCircle) (hps : Sec.ps a.ps) :
    Chk.Arc.styledPixelsIt st a = some (a.styledPixelsIt st) ∧ Chk.Arc.StyledOk (a.styledPixelsIt st) :=
  Chk.Arc.styledPixelsIt_ok (DS.width_sec hw) (DS.circle_base hc) hps
example : DS.width (⟨none, some 2, 128, .inside⟩ : Style).width ∧
    DS.circle (⟨⟨-1024, 1024⟩, 1024, ⟨.union, ⟨0, 1024⟩, ⟨1024, 0⟩⟩⟩ : Arc).toCircle := by decide

theorem styled_arc_next_checked_eq_plain {it : Arc.StyledPixelsIt} (hi : Chk.Arc.StyledOk it) :
    Chk.Arc.styledNext it = some it.next ∧ ∀ w it', it.next = some (w, it') → Chk.Arc.StyledOk it' :=
  Chk.Arc.styledNext_ok hi
example : Chk.Arc.StyledOk ((⟨⟨0, 0⟩, 9, ⟨.intersection, ⟨0, 1024⟩, ⟨1024, 0⟩⟩⟩ : Arc).styledPixelsIt
    ⟨none, some 2, 3, .center⟩) :=
  (Chk.Arc.styledPixelsIt_ok (by decide) (by decide) (by decide)).2

/-- Table normals are within +-1024 per component. -/
theorem fixed_table_normal_in_range (d c : Int) : Sec.normal (Fx.tableNormal d c) := by
  have hx := Fx.t64_bound (Fx.sinT_bound d)
  exact ⟨⟨by show -1024 ≤ -(Fx.t64 (Fx.sinT d)); omega, by show -(Fx.t64 (Fx.sinT d)) ≤ 1024; omega⟩,
    Fx.t64_bound (Fx.sinT_bound c)⟩

/-- **`PlaneSector::new` of the `fixed_point` build never panics at display scale**
(`EG.C18.fixed_plane_sector_defined` without its bound on the sweep): start angle within +-11000000
bits (about 26 turns, +-9600 degrees; the streams use +-720 degrees), ANY sweep except `i32::MIN`
bits — `abs`, `start + sweep`, `Real::from(180) * angle`, the table lookups and
`i32::from(.. * 1024)` all return — and the two normals it returns are within +-1024, the
hypothesis `Sec.ps` of the theorems above. -/
theorem fixed_plane_sector_total (start sweep : Int) (hs : -11000000 ≤ start ∧ start ≤ 11000000)
    (hw : -2147483647 ≤ sweep ∧ sweep ≤ 2147483647) :
    ∃ ps, Fx.planeSectorNew start sweep = some ps ∧ Sec.ps ps := by
  refine ⟨_, Fx.planeSectorNew_defined hs hw, ?_⟩
  split
  · decide
  · exact ⟨fixed_table_normal_in_range _ _, fixed_table_normal_in_range _ _⟩
example : (-11000000 : Int) ≤ 823550 ∧ (823550 : Int) ≤ 11000000 := by decide   -- 720 degrees in bits

/-- The bound on the start angle is needed: beyond +-11930464 bits `Real::from(180) * angle`
overflows I16F16. -/
theorem fixed_plane_sector_panics_beyond : Fx.planeSectorNew 11930465 1000 = none := by decide

/-- **The trigonometric part of `Styled<Sector>::pixels()` in the `fixed_point` build** —
`PlaneSector::new`, then `abs`, the halved sweep, `start + half`, `+- 90 degrees`,
`with_angle` of the bevel line — returns on the same domain, and the bevel normal is within
+-1024 (the hypothesis `hb` of `styled_sector_new_checked_eq_plain`). -/
theorem fixed_styled_sector_trig_total (start sweep : Int) (hs : -11000000 ≤ start ∧ start ≤ 11000000)
    (hw : -2147483647 ≤ sweep ∧ sweep ≤ 2147483647) :
    ∃ ps bevel, Fx.styledSectorTrig start sweep = some (ps, bevel) ∧ Sec.ps ps ∧
      ∀ k n, bevel = some (k, n) → Sec.normal n := by
  obtain ⟨ps, hps, hok⟩ := fixed_plane_sector_total start sweep hs hw
  refine ⟨ps, Fx.bevelOf start sweep, ?_, hok, fun k n h => ?_⟩
  · unfold Fx.styledSectorTrig
    rw [hps, Fx.sectorBevel_defined hs hw]
    rfl
  · unfold Fx.bevelOf at h
    split at h
    · cases h
      exact fixed_table_normal_in_range _ _
    · split at h
      · cases h
        exact fixed_table_normal_in_range _ _
      · cases h
example : (-11000000 : Int) ≤ -823550 ∧ (-2147483647 : Int) ≤ 823550 := by decide

end EG.C08
