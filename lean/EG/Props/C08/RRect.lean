/-
  C08 (rounded-rectangle part) — range theorems of `CornerRadii::confine`, `EllipseQuadrant`,
  `RoundedRectangle::{contains, offset, translate}`, `RoundedRectangleContains`, the `Scanlines`
  iterator behind `points()` / fill-only drawing, and the `fill_range` search of the styled
  iterator. Checked model: `EG.Model.CheckedRRect` (`u64` / `u128` widths of `confine` after
  /repo b4800c7, `EllipseContains` after 848fbcc); plain: `EG.Model.RoundedRect`.

  `DS.xrrect r` = the rectangle is in the derived display-scale range (`DS.xrect`: stroke areas)
  and the eight radii are `u32` values — NO bound on the radii: `confine` brings every radius
  down to the side it lies along before any quadrant is built. The lemmas hold for corners
  within +-4096, sides up to 4096 (`RR.rect`) and probed points within +-8192 (`RR.probe`).
-/
import EG.Lemmas.CheckedDSMore
namespace EG.C08
open EG EG.Chk

/-- **`confine` never panics**, whatever the radii and the size (all `u32`): the pair sums fit
`u64`, the cross products `u128`, `length * size` fits `u64`, the divisor `corner_size` is
positive and the `as u32` cast of the scaled length does not truncate. -/
theorem rrect_confine_total {c : CornerRadii} (hc : Chk.CornerRadii.InU32 c) {bb : Sz}
    (hw : bb.w ≤ 4294967295) (hh : bb.h ≤ 4294967295) :
    Chk.CornerRadii.confine c bb = some (c.confine bb) := Chk.CornerRadii.confine_ok hc hw hh
example : Chk.CornerRadii.InU32 ⟨⟨4294967295, 4294967295⟩, ⟨4294967295, 1⟩, ⟨0, 4294967295⟩, ⟨7, 7⟩⟩ := by
  decide

/-- The corner quadrant of a display-scale rounded rectangle: `confine`, `top_left + size -
radius`, `radius * 2`, `center_2x`, `EllipseContains::new`. -/
theorem rrect_corner_quadrant_checked_eq_plain {r : RoundedRect} (h : DS.xrrect r) (q : Quadrant) :
    Chk.RoundedRect.cornerQuadrant r q = some (r.cornerQuadrant q) :=
  (Chk.RoundedRect.cornerQuadrant_ok (DS.xrect_RR h.1) h.2 q).1
example : DS.xrrect ⟨⟨⟨-1152, 2176⟩, ⟨1280, 1279⟩⟩, CornerRadii.new ⟨4294967295, 640⟩⟩ := by decide

/-- `EllipseQuadrant::contains` of such a quadrant at a display-scale point: `point * 2 -
center_2x` in `i32`, the squares in `i32`, the weighted sum in `u64`. -/
theorem rrect_quadrant_contains_checked_eq_plain {r : RoundedRect} (h : DS.xrrect r) (q : Quadrant)
    {p : Pt} (hp : DS.xpt p) :
    Chk.EllipseQuadrant.contains (r.cornerQuadrant q) p = some ((r.cornerQuadrant q).contains p) :=
  Chk.EllipseQuadrant.contains_ok (Chk.RoundedRect.cornerQuadrant_ok (DS.xrect_RR h.1) h.2 q).2
    (DS.xpt_RR hp)
example : DS.xrrect ⟨⟨⟨0, 0⟩, ⟨1280, 1280⟩⟩, CornerRadii.new ⟨640, 640⟩⟩ ∧ DS.xpt ⟨2176, -1152⟩ := by
  decide

/-- **`RoundedRectangle::contains`**: `RoundedRectangleContains::new` (four quadrants, the four
`rows.start + height as i32` / `rows.end - height as i32`) and the corner tests. -/
theorem rrect_contains_checked_eq_plain {r : RoundedRect} (h : DS.xrrect r) {p : Pt} (hp : DS.xpt p) :
    Chk.RoundedRect.contains r p = some (r.contains p) :=
  Chk.RoundedRect.contains_ok (DS.xrect_RR h.1) h.2 (DS.xpt_RR hp)
example : DS.xrrect ⟨⟨⟨-1152, -1152⟩, ⟨1280, 1280⟩⟩, ⟨⟨1, 2⟩, ⟨300, 4⟩, ⟨5, 6000⟩, ⟨7, 8⟩⟩⟩ ∧
    DS.xpt ⟨127, 127⟩ := by decide

/-- `offset` by a stroke offset: `Rectangle::offset` plus saturating radius arithmetic. -/
theorem rrect_offset_checked_eq_plain {r : RoundedRect} (h : DS.xrect r.rect) {o : Int} (ho : DS.offs o) :
    Chk.RoundedRect.offset r o = some (r.offset o) :=
  Chk.RoundedRect.offset_ok (DS.xrect_W h) (DS.offs_W ho)
example : DS.xrect (⟨⟨⟨3, 4⟩, ⟨5, 0⟩⟩, CornerRadii.new ⟨9, 9⟩⟩ : RoundedRect).rect ∧ DS.offs (-128) := by
  decide

theorem rrect_translate_checked_eq_plain {r : RoundedRect} (h : DS.xrect r.rect) {d : Pt} (hd : DS.xpt d) :
    Chk.RoundedRect.translate r d = some (r.translate d) :=
  Chk.RoundedRect.translate_ok (DS.xpt_W h.1) (DS.xpt_W hd)
example : DS.xrect (⟨⟨⟨3, 4⟩, ⟨5, 0⟩⟩, CornerRadii.new ⟨9, 9⟩⟩ : RoundedRect).rect ∧ DS.xpt ⟨-1, 1⟩ := by
  decide

/-- `Scanlines::new` = `RoundedRectangleContains::new`, and the invariant `RRCOk` every later step
preserves. -/
theorem rrect_scanlines_new_checked_eq_plain {r : RoundedRect} (h : DS.xrrect r) :
    Chk.RRContains.new r = some (RRContains.new r) ∧ RRCOk (RRContains.new r) :=
  Chk.RRContains.new_ok (DS.xrect_RR h.1) h.2
example : DS.xrrect ⟨⟨⟨0, 0⟩, ⟨1280, 1280⟩⟩, CornerRadii.new ⟨640, 640⟩⟩ := by decide

/-- **`Scanlines::next`**: every step from a state satisfying the invariant is the plain step —
the lazily evaluated `find` / `rfind` over the corner columns (each probe an
`EllipseQuadrant::contains`), `x + 1` — and leads to a state satisfying the invariant; by
induction no step of `points()` or of a fill-only `draw` of a display-scale rounded rectangle
overflows. -/
theorem rrect_scanlines_next_checked_eq_plain {c : RRContains} (hc : RRCOk c) :
    Chk.RRContains.next c = some c.next ∧ ∀ s c', c.next = some (s, c') → RRCOk c' :=
  Chk.RRContains.next_ok hc
example : RRCOk (RRContains.new ⟨⟨⟨0, 0⟩, ⟨8, 8⟩⟩, CornerRadii.new ⟨3, 3⟩⟩) :=
  (Chk.RRContains.new_ok (by decide) (by decide)).2

/-- The ends of every scanline the iterator yields stay within -4096 ..= 8192 (what
`to_rectangle`, `draw` and `fill_range` are handed). -/
theorem rrect_scanline_ends_in_range {c : RRContains} (hc : RRCOk c) (y : Int) :
    (-4096 ≤ (c.row y).xs ∧ (c.row y).xs ≤ 8192) ∧ (-4096 ≤ (c.row y).xe ∧ (c.row y).xe ≤ 8192) :=
  Chk.RRContains.row_bounds hc y
example : RRCOk (RRContains.new ⟨⟨⟨0, 0⟩, ⟨8, 8⟩⟩, CornerRadii.new ⟨3, 3⟩⟩) :=
  (Chk.RRContains.new_ok (by decide) (by decide)).2

/-- **`StyledScanlines::next`**, the `fill_range` closure: the fill area (invariant `RRCOk`) probed
with `find` / `rfind` along a stroke scanline of the stroke area (invariant `RRCOk`, row `y`). -/
theorem rrect_fill_range_checked_eq_plain {f c : RRContains} (hf : RRCOk f) (hc : RRCOk c) (y : Int) :
    Chk.RRContains.fillRange f (c.row y) = some (
      if f.rowsStart ≤ y ∧ y < f.rowsEnd then
        match EG.rangeFind (fun x => f.contains ⟨x, y⟩) (c.row y).xs (c.row y).xe,
              (EG.rangeRFind (fun x => f.contains ⟨x, y⟩) (c.row y).xs (c.row y).xe).map (· + 1) with
        | some a, some b => some (a, b)
        | _, _ => none
      else none) := by
  have hb := Chk.RRContains.row_bounds hc y
  exact Chk.RRContains.fillRange_ok hf (s := c.row y) (by omega) (by omega)
example : RRCOk (RRContains.new ⟨⟨⟨1, 1⟩, ⟨6, 6⟩⟩, CornerRadii.new ⟨2, 2⟩⟩) :=
  (Chk.RRContains.new_ok (by decide) (by decide)).2

/-- A 46342 x 46342 rounded rectangle with radius 23171: the doubled distance of the corner
pixel from the corner centre is 46341, whose square does not fit `i32`; one pixel smaller the
test succeeds. -/
theorem rrect_contains_overflows_at_46342 :
    Chk.RoundedRect.contains ⟨⟨⟨0, 0⟩, ⟨46342, 46342⟩⟩, CornerRadii.new ⟨23171, 23171⟩⟩ ⟨0, 0⟩ = none ∧
    Chk.RoundedRect.contains ⟨⟨⟨0, 0⟩, ⟨46340, 46340⟩⟩, CornerRadii.new ⟨23170, 23170⟩⟩ ⟨0, 0⟩ = some false := by
  constructor <;> decide

/-- From radius 32768 on `EllipseContains::new(radius * 2)` overflows `u32` (`65536^2`), whatever
point is probed. -/
theorem rrect_quadrant_new_overflows_at_32768 :
    Chk.EllipseQuadrant.new ⟨0, 0⟩ ⟨32768, 32768⟩ .topLeft = none := by decide

end EG.C08
