/-
  C08 (join kernels, link) — the checked join kernels return the values of the plain model the
  geometric theorems are about.

  C08/Lines.lean states "checked = plain" for `LinearEquation` / `IntersectionParams` / the miter
  test against `EG.Isect` (the plain form written next to the checked kernels in
  Model/CheckedLine.lean). The theorems of C02 / C07 / C17 / C19 and the driver of the thick
  streams use a second, independently written plain model, `EG.Joins`
  (Model/LinearEquation.lean, Intersection.lean, LineJoin.lean). This file closes the gap:

    1. `isect_*_eq_joins`: every function the two models both define is the same function, for
       ALL inputs (no range hypothesis) — Lemmas/IsectJoins.lean;
    2. `*_checked_eq_joins`: the range theorems of C08/Lines.lean restated directly against
       `EG.Joins` on the same domain `J.line` (start point and delta within +-32767, which
       contains every display-scale edge, see `ds_line_in_J`).
-/
import EG.Props.C08.Lines
import EG.Lemmas.IsectJoins
namespace EG.C08
open EG EG.Chk EG.IsectJoins

theorem isect_rotate90_eq_joins (p : Pt) : EG.Isect.rotate90 p = Joins.rotate90 p := rotate90_eq p
theorem isect_dot_eq_joins (a b : Pt) : EG.Isect.dot a b = Joins.dot a b := dot_eq a b
theorem isect_det_eq_joins (a b : Pt) : EG.Isect.det a b = Joins.det a b := det_eq a b

/-- `LinearEquation::from_line`. -/
theorem isect_from_line_eq_joins (l : Line) :
    toJoins (EG.Isect.fromLine l) = Joins.LinearEquation.fromLine l := fromLine_eq l

/-- `LinearEquation::distance`. -/
theorem isect_distance_eq_joins (le : EG.Isect.LinearEquation) (p : Pt) :
    EG.Isect.distance le p = (toJoins le).distance p := distance_eq le p

/-- The determinant of `IntersectionParams::from_lines`. -/
theorem isect_denominator_eq_joins (l1 l2 : Line) :
    EG.Isect.denominator l1 l2 = (Joins.IntersectionParams.fromLines l1 l2).denominator :=
  denominator_eq l1 l2

/-- `nearly_colinear_has_error`. -/
theorem isect_nearly_colinear_eq_joins (l1 l2 : Line) :
    EG.Isect.nearlyColinearHasError l1 l2 =
      (Joins.IntersectionParams.fromLines l1 l2).nearlyColinearHasError :=
  nearlyColinearHasError_eq l1 l2

/-- The rounding closure `round_div` (`Isect` is handed `signum d` and `|d|`, `Joins` derives them). -/
theorem isect_round_div_eq_joins (n d : Int) :
    EG.Isect.roundDiv (EG.Isect.signum d) (if d < 0 then -d else d) n = Joins.roundDiv n d :=
  roundDiv_eq n d

/-- `IntersectionParams::intersection`. -/
theorem isect_intersection_eq_joins (l1 l2 : Line) :
    isectResult (EG.Isect.intersection (EG.Isect.fromLine l1) (EG.Isect.fromLine l2)
      (EG.Isect.denominator l1 l2)) = (Joins.IntersectionParams.fromLines l1 l2).intersection :=
  intersection_eq l1 l2

/-- The miter test is the comparison `Joins.LineJoin.fromExtents` performs. -/
theorem isect_miter_eq_joins (mid outerPoint : Pt) (width : Nat) :
    EG.Isect.miterWithinLimit (Line.delta ⟨mid, outerPoint⟩) width =
      decide ((Line.delta ⟨mid, outerPoint⟩).lengthSquared ≤ (((width * 2) * (width * 2) : Nat) : Int)) :=
  miterWithinLimit_eq mid outerPoint width

/-- `LinearEquation::from_line` in `i32` succeeds on `J.line` and yields the `Joins` equation. -/
theorem linear_equation_checked_eq_joins {l : Line} (h : J.line l) :
    (Chk.Isect.fromLine l).map toJoins = some (Joins.LinearEquation.fromLine l) := by
  rw [linear_equation_checked_eq_plain h]; rfl
example : J.line ⟨⟨-1152, 2176⟩, ⟨1100, -1100⟩⟩ := by decide

/-- `IntersectionParams::from_lines` in `i32`: both equations and the determinant of `Joins`. -/
theorem intersection_params_checked_eq_joins {l1 l2 : Line} (h1 : J.line l1) (h2 : J.line l2) :
    (Chk.Isect.fromLines l1 l2).map (fun r => (toJoins r.1, toJoins r.2.1, r.2.2)) =
      some ((Joins.IntersectionParams.fromLines l1 l2).le1, (Joins.IntersectionParams.fromLines l1 l2).le2,
        (Joins.IntersectionParams.fromLines l1 l2).denominator) := by
  rw [intersection_params_checked_eq_plain h1 h2]; rfl
example : J.line ⟨⟨-1024, -1024⟩, ⟨1024, -1024⟩⟩ ∧ J.line ⟨⟨1024, -1024⟩, ⟨0, 1024⟩⟩ := by decide

/-- `nearly_colinear_has_error` (`i64` square) = the `Joins` predicate. -/
theorem nearly_colinear_checked_eq_joins {l1 l2 : Line} (h1 : J.line l1) (h2 : J.line l2) :
    Chk.Isect.nearlyColinearHasError l1 l2 (Joins.IntersectionParams.fromLines l1 l2).denominator =
      some (Joins.IntersectionParams.fromLines l1 l2).nearlyColinearHasError := by
  rw [← denominator_eq, nearly_colinear_checked_eq_plain h1 h2, nearlyColinearHasError_eq]
example : J.line ⟨⟨-257, 65⟩, ⟨0, -256⟩⟩ ∧ J.line ⟨⟨0, -256⟩, ⟨255, 65⟩⟩ := by decide

/-- **`IntersectionParams::intersection`** (`i64` numerators, rounding, saturating cast) computed
by the checked kernel on the equations and determinant of `from_lines` = `Joins ... .intersection`,
the function `LineJoin::from_points` of the C02 / C07 / C19 model calls. -/
theorem intersection_checked_eq_joins {l1 l2 : Line} (h1 : J.line l1) (h2 : J.line l2) :
    (Chk.Isect.intersection (EG.Isect.fromLine l1) (EG.Isect.fromLine l2)
        (Joins.IntersectionParams.fromLines l1 l2).denominator).map isectResult =
      some (Joins.IntersectionParams.fromLines l1 l2).intersection := by
  rw [← denominator_eq, intersection_checked_eq_plain h1 h2, Option.map_some, intersection_eq]
example : J.line ⟨⟨-1024, -1024⟩, ⟨1024, -1024⟩⟩ ∧ J.line ⟨⟨1024, -1024⟩, ⟨0, 1024⟩⟩ := by decide
example : (Joins.IntersectionParams.fromLines ⟨⟨-1024, -1024⟩, ⟨1024, -1024⟩⟩ ⟨⟨1024, -1024⟩, ⟨0, 1024⟩⟩).intersection
    = .point ⟨1024, -1024⟩ .right := by decide

/-- `LinearEquation::distance` / `check_side` of a `Joins` equation. -/
theorem linear_equation_distance_checked_eq_joins {le : EG.Isect.LinearEquation} {p : Pt}
    (hn : (-16382 ≤ le.normal.x ∧ le.normal.x ≤ 16382) ∧ (-16382 ≤ le.normal.y ∧ le.normal.y ≤ 16382))
    (hp : (-8191 ≤ p.x ∧ p.x ≤ 8191) ∧ (-8191 ≤ p.y ∧ p.y ≤ 8191))
    (ho : -1073741824 ≤ le.originDistance ∧ le.originDistance ≤ 1073741824) :
    Chk.Isect.distance le p = some ((toJoins le).distance p) := by
  rw [linear_equation_distance_checked_eq_plain hn hp ho, distance_eq]
example : (EG.Isect.fromLine ⟨⟨-1024, -1024⟩, ⟨1024, 1024⟩⟩).originDistance ≤ 1073741824 := by decide

/-- The miter test of `Joins.LineJoin.fromExtents` (`miterLengthSquared ≤ miterLimit`) in `i64` / `u32`. -/
theorem miter_checked_eq_joins {mid outerPoint : Pt}
    (hx : -2147483647 ≤ (Line.delta ⟨mid, outerPoint⟩).x ∧ (Line.delta ⟨mid, outerPoint⟩).x ≤ 2147483647)
    (hy : -2147483647 ≤ (Line.delta ⟨mid, outerPoint⟩).y ∧ (Line.delta ⟨mid, outerPoint⟩).y ≤ 2147483647)
    {w : Nat} (hw : w ≤ 32767) :
    Chk.Isect.miterWithinLimit (Line.delta ⟨mid, outerPoint⟩) w =
      some (decide ((Line.delta ⟨mid, outerPoint⟩).lengthSquared ≤ (((w * 2) * (w * 2) : Nat) : Int))) := by
  rw [miter_checked_eq_plain hx hy hw, miterWithinLimit_eq]
example : -2147483647 ≤ (Line.delta ⟨⟨-1024, 3⟩, ⟨900, -77⟩⟩).x ∧ (Line.delta ⟨⟨-1024, 3⟩, ⟨900, -77⟩⟩).x ≤ 2147483647 ∧
    (128 : Nat) ≤ 32767 := by decide

end EG.C08
