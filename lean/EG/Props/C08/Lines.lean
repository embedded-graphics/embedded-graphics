/-
  C08 (line part) — range theorems of the Bresenham walk (`Line::points()`), the thick-line scalars
  (`ParallelsIterator`: `i64` threshold, `i32` accumulator), the intersection kernels
  (`LinearEquation::from_line`, `IntersectionParams`: `i32` normal vectors / origin distances /
  determinant, `i64` squared denominator, numerators and rounding) and the `i64` miter length.
  Checked models: `EG.Model.CheckedLine`; plain: `EG.Model.Bresenham`, `Line`, `ThickLine`, and
  `EG.Isect` (the plain form of the intersection code next to the checked kernels; it is the same
  function as the `EG.Joins` model of C02 / C07 / C17 / C19: C08/JoinsLink.lean).

  `DS.line l` = both end points within +-1024. The edges handed to `IntersectionParams` are the
  *extents* of thick segments (start points shifted by at most the stroke width); they are covered
  by `J.line` (start point and delta within +-32767), the largest uniform domain on which
  `origin_distance` fits `i32`.
-/
import EG.Lemmas.CheckedDS
import EG.Lemmas.CheckedThickIter
namespace EG.C08
open EG EG.Chk

theorem ds_line_W {l : Line} (h : DS.line l) : W.pt l.start ∧ W.pt l.stop :=
  ⟨DS.xpt_W (DS.pt_x h.1), DS.xpt_W (DS.pt_x h.2)⟩

theorem ds_line_16383 {l : Line} (h : DS.line l) :
    ((-16383 ≤ l.start.x ∧ l.start.x ≤ 16383) ∧ (-16383 ≤ l.start.y ∧ l.start.y ≤ 16383)) ∧
    ((-16383 ≤ l.stop.x ∧ l.stop.x ≤ 16383) ∧ (-16383 ≤ l.stop.y ∧ l.stop.y ≤ 16383)) := by
  omega

theorem ds_line_J {l : Line} (h : DS.line l) : J.line l := by
  simp only [J.line, J.pt, J.coord, Pt.sub_x, Pt.sub_y]
  omega

theorem bresenham_parameters_checked_eq_plain {l : Line} (h : DS.line l) :
    bresenhamParametersNew l = some (BresenhamParameters.new l) :=
  bresenhamParametersNew_ok (ds_line_W h).1 (ds_line_W h).2
example : DS.line ⟨⟨-1024, 1024⟩, ⟨1024, -1024⟩⟩ := by decide

theorem major_length_checked_eq_plain {l : Line} (h : DS.line l) :
    Chk.majorLength l = some (EG.majorLength l) := majorLength_ok (ds_line_W h).1 (ds_line_W h).2
example : DS.line ⟨⟨5, 5⟩, ⟨5, 5⟩⟩ := by decide

/-- `Line::points()` drained: `error_threshold`, both `error_step` doublings, every error update
and every point update of every step stay inside `i32`, and the points are those of the plain
walk (whose closed form is `Line.points_eq`). -/
theorem line_points_checked_eq_plain {l : Line} (h : DS.line l) :
    linePoints l = some (Line.points l) := linePoints_ok (ds_line_W h).1 (ds_line_W h).2
example : DS.line ⟨⟨-1024, -1024⟩, ⟨1024, 1023⟩⟩ := by decide

/-- The same for end points up to 2^28. -/
theorem line_points_wide {l : Line} (hs : W.pt l.start) (he : W.pt l.stop) :
    linePoints l = some (Line.points l) := linePoints_ok hs he
example : W.pt ⟨-268435456, 268435456⟩ := by decide

/-- The `i32` range does end: the walk steps once past the end point, so a line ending at
`i32::MAX` panics in a checked build before its last point is returned. -/
theorem line_points_overflow_at_i32_max : linePoints ⟨⟨2147483645, 0⟩, ⟨2147483647, 0⟩⟩ = none := by
  decide

/-- `thickness_threshold` (`i64`) for thickness up to 32767 and deltas up to 32767 per axis: the
largest deltas whose `length_squared` fits `i32`. -/
theorem thick_threshold_checked_eq_plain {t : Int} (ht : 0 ≤ t ∧ t ≤ 32767) {d : Pt}
    (hx : -32767 ≤ d.x ∧ d.x ≤ 32767) (hy : -32767 ≤ d.y ∧ d.y ≤ 32767) :
    thickThreshold t d = some (plainThickThreshold t d) := thickThreshold_ok ht hx hy
example : (0 : Int) ≤ 128 ∧ (128 : Int) ≤ 32767 ∧ (-32767 : Int) ≤ 2048 := by decide

/-- `ParallelsIterator::new` on display-scale lines with any stroke width up to 128 (also wider
than the line is long, also the degenerate line): the checked scalars are the ones the plain
iterator stores, and they satisfy the range invariant. -/
theorem thick_new_checked_eq_plain {l : Line} (h : DS.line l) {w : Nat} (hw : DS.width w)
    {so : Thick.StrokeOffset} {it : Thick.ParallelsIterator}
    (hn : Thick.ParallelsIterator.new l (w : Int) so = some it) :
    thickScalars l (w : Int) = some (it.thicknessThreshold, it.thicknessAccumulator) ∧
    Thick.ParallelsIterator.ScalarsInRange it := by
  exact Thick.ParallelsIterator.new_in_range (ds_line_16383 h).1 (ds_line_16383 h).2 (by omega) hn
example : DS.line ⟨⟨0, 0⟩, ⟨0, 0⟩⟩ ∧ DS.width 128 ∧
    (Thick.ParallelsIterator.new ⟨⟨0, 0⟩, ⟨0, 0⟩⟩ 128 .none).isSome = true := by decide

/-- Every `ParallelsIterator::next` that yields a parallel is one successful checked accumulator
step — the `i64` square `acc^2` and the `i32` increment `acc += error_step` do not overflow —
and the invariant is kept: by induction, no step of a thick line started at display scale
overflows, however many parallels it takes. -/
theorem thick_next_checked_eq_plain {it : Thick.ParallelsIterator}
    (hr : Thick.ParallelsIterator.ScalarsInRange it) {r it'} (h : it.next = some (some r, it')) :
    (thickAccStep it.thicknessAccumulator it.thicknessThreshold
        it.perpendicularParameters.errorStep.minor = some (some it'.thicknessAccumulator) ∨
     thickAccStep it.thicknessAccumulator it.thicknessThreshold
        it.perpendicularParameters.errorStep.major = some (some it'.thicknessAccumulator)) ∧
    Thick.ParallelsIterator.ScalarsInRange it' :=
  Thick.ParallelsIterator.next_in_range hr h

/-- The accumulator step in isolation, with its exact hypotheses: any `i32` accumulator, a
threshold up to 2^60, steps below 2^30. -/
theorem thick_acc_step_checked_eq_plain {acc th step : Int}
    (ha : -2147483648 ≤ acc ∧ acc ≤ 2147483647) (hth : th ≤ 1152921504606846976)
    (hs : -1073741823 ≤ step ∧ step ≤ 1073741823) :
    thickAccStep acc th step = some (if acc * acc > th then none else some (acc + step)) :=
  thickAccStep_ok ha hth hs
example : (745472 : Int) * 745472 ≤ 1152921504606846976 := by decide

theorem linear_equation_checked_eq_plain {l : Line} (h : J.line l) :
    Chk.Isect.fromLine l = some (EG.Isect.fromLine l) := (Chk.Isect.fromLine_ok h).1
example : J.line ⟨⟨-1152, 2176⟩, ⟨1100, -1100⟩⟩ := by decide

/-- `IntersectionParams::from_lines`: both equations and the `i32` determinant. -/
theorem intersection_params_checked_eq_plain {l1 l2 : Line} (h1 : J.line l1) (h2 : J.line l2) :
    Chk.Isect.fromLines l1 l2 =
      some (EG.Isect.fromLine l1, EG.Isect.fromLine l2, EG.Isect.denominator l1 l2) :=
  (Chk.Isect.fromLines_ok h1 h2).1
example : J.line ⟨⟨-1024, -1024⟩, ⟨1024, -1024⟩⟩ ∧ J.line ⟨⟨1024, -1024⟩, ⟨0, 1024⟩⟩ := by decide

/-- `nearly_colinear_has_error` (`i64` square of the denominator). -/
theorem nearly_colinear_checked_eq_plain {l1 l2 : Line} (h1 : J.line l1) (h2 : J.line l2) :
    Chk.Isect.nearlyColinearHasError l1 l2 (EG.Isect.denominator l1 l2) =
      some (EG.Isect.nearlyColinearHasError l1 l2) := by
  have hb : -2147352578 ≤ EG.Isect.denominator l1 l2 ∧ EG.Isect.denominator l1 l2 ≤ 2147352578 :=
    (Chk.Isect.fromLines_ok h1 h2).2
  rw [Chk.Isect.nearlyColinear_ok h1 h2 (by omega)]
  rfl
example : J.line ⟨⟨-257, 65⟩, ⟨0, -256⟩⟩ ∧ J.line ⟨⟨0, -256⟩, ⟨255, 65⟩⟩ := by decide

/-- `IntersectionParams::intersection` (`i64` numerators, rounding, saturating cast). -/
theorem intersection_checked_eq_plain {l1 l2 : Line} (h1 : J.line l1) (h2 : J.line l2) :
    Chk.Isect.intersection (EG.Isect.fromLine l1) (EG.Isect.fromLine l2) (EG.Isect.denominator l1 l2) =
      some (EG.Isect.intersection (EG.Isect.fromLine l1) (EG.Isect.fromLine l2)
        (EG.Isect.denominator l1 l2)) := by
  obtain ⟨_, n1, o1⟩ := Chk.Isect.fromLine_ok h1
  obtain ⟨_, n2, o2⟩ := Chk.Isect.fromLine_ok h2
  have hb : -2147352578 ≤ EG.Isect.denominator l1 l2 ∧ EG.Isect.denominator l1 l2 ≤ 2147352578 :=
    (Chk.Isect.fromLines_ok h1 h2).2
  exact Chk.Isect.intersection_ok n1 n2 (by omega) (by omega) (by omega)
example : J.line ⟨⟨-1024, -1024⟩, ⟨1024, -1024⟩⟩ ∧ J.line ⟨⟨1024, -1024⟩, ⟨0, 1024⟩⟩ := by decide

/-- `LinearEquation::distance` (the self-intersection test `check_side` of a join): points within
+-8191, normal vectors within +-16382, origin distance within +-2^30 (display-scale edges:
points within +-2176, normals within +-2048, origin distances below 2^24). -/
theorem linear_equation_distance_checked_eq_plain {le : EG.Isect.LinearEquation} {p : Pt}
    (hn : (-16382 ≤ le.normal.x ∧ le.normal.x ≤ 16382) ∧ (-16382 ≤ le.normal.y ∧ le.normal.y ≤ 16382))
    (hp : (-8191 ≤ p.x ∧ p.x ≤ 8191) ∧ (-8191 ≤ p.y ∧ p.y ≤ 8191))
    (ho : -1073741824 ≤ le.originDistance ∧ le.originDistance ≤ 1073741824) :
    Chk.Isect.distance le p = some (EG.Isect.distance le p) := Chk.Isect.distance_ok hn hp ho
example : (EG.Isect.fromLine ⟨⟨-1024, -1024⟩, ⟨1024, 1024⟩⟩).originDistance ≤ 1073741824 := by decide

/-- Display-scale lines are inside `J`. -/
theorem ds_line_in_J {l : Line} (h : DS.line l) : J.line l := ds_line_J h
example : DS.line ⟨⟨-1024, -1024⟩, ⟨1024, 1024⟩⟩ := by decide

/-- The bound of `J` is the exact limit of the `i32` origin distance: one pixel further out it
overflows. -/
theorem linear_equation_overflows_at_32768 :
    Chk.Isect.fromLine ⟨⟨32768, 32768⟩, ⟨65536, 0⟩⟩ = none := by decide

/-- The miter test: the `i64` length fits for all `i32` differences other than `i32::MIN` (only
(MIN, MIN) overflows; the statement leaves out every pair with a MIN); `(width * 2).pow(2)` fits
`u32` up to width 32767. -/
theorem miter_checked_eq_plain {d : Pt} (hx : -2147483647 ≤ d.x ∧ d.x ≤ 2147483647)
    (hy : -2147483647 ≤ d.y ∧ d.y ≤ 2147483647) {w : Nat} (hw : w ≤ 32767) :
    Chk.Isect.miterWithinLimit d w = some (EG.Isect.miterWithinLimit d w) :=
  Chk.Isect.miterWithinLimit_ok hx hy hw
example : (128 : Nat) ≤ 32767 := by decide

/-! ### Why the widenings were needed (display-scale witnesses for the old `i32` arithmetic) -/

/-- 2947525: 1024 px line, width 23. -/
theorem old_thick_threshold_exceeds_i32 :
    Old.thickThreshold 23 ⟨1024, 0⟩ = none ∧ (thickThreshold 23 ⟨1024, 0⟩).isSome = true :=
  Old.thickThreshold_overflows
/-- 2947525: `accumulator.pow(2)` in `i32` overflows from 46341 on; a 2048 x 2048 diagonal of width
128 reaches `2 * 128 * 2896`. -/
theorem old_thick_accumulator_square_exceeds_i32 : Old.thickAccSquare 46341 = none :=
  Old.thickAccSquare_overflows
/-- 5970db5: two perpendicular 257 px edges. -/
theorem old_denominator_square_exceeds_i32 :
    EG.Isect.denominator ⟨⟨0, 0⟩, ⟨257, 0⟩⟩ ⟨⟨257, 0⟩, ⟨257, 257⟩⟩ = 66049 ∧
    Old.denominatorSquare 66049 = none := Old.denominatorSquare_overflows
/-- 02cb64a: two edges of the triangle (-1024,-1024), (1024,-1024), (0,1024). -/
theorem old_intersection_numerator_exceeds_i32 :
    Old.xNumerator (EG.Isect.fromLine ⟨⟨-1024, -1024⟩, ⟨1024, -1024⟩⟩)
      (EG.Isect.fromLine ⟨⟨1024, -1024⟩, ⟨0, 1024⟩⟩) = none := Old.xNumerator_overflows
/-- 77b3eec: a miter point 40000 px from the joint. -/
theorem old_miter_length_exceeds_i32 :
    Old.miterLengthSquared ⟨40000, 30000⟩ = none ∧
    (Chk.Isect.miterWithinLimit ⟨40000, 30000⟩ 58).isSome = true := Old.miterLengthSquared_overflows

end EG.C08
