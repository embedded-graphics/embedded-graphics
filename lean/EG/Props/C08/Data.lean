/-
  C08 (data part) — range theorems of `ImageRaw::new` / `data_width` / `pixel`, the `Framebuffer`
  index arithmetic and `buffer_size`, and the text metrics (`LineHeight::to_absolute`,
  `measure_string`, line advance, alignment, `Text::bounding_box`).
  Checked models: `EG.Model.CheckedData`; plain: `EG.Model.ImageRaw`, `Framebuffer`, and `EG.TextM`
  (plain form of the text layout arithmetic for texts of `k` lines of `n` characters).
-/
import EG.Lemmas.CheckedDS
import EG.Lemmas.CheckedData
import EG.Lemmas.CheckedText
namespace EG.C08
open EG EG.Chk EG.Raw EG.Img

/-- `bytes_per_row` cannot overflow `usize` for ANY `u32` width and any of the 7 depths. -/
theorem image_bytes_per_row_checked_eq_plain {width bits : Nat} (hw : width ≤ 4294967295)
    (hb : bits ≤ 32) : Chk.bytesPerRow width bits = some (Img.bytesPerRow width bits) :=
  bytesPerRow_ok hw hb
example : (1024 : Nat) ≤ 4294967295 ∧ (24 : Nat) ≤ 32 := by decide

/-- `ImageRaw::new` (expected length + the length check) for display-scale sizes. -/
theorem image_new_checked_eq_plain {bits : Nat} (hb : bits ≤ 32) (o : Order) (data : List Nat)
    {size : Sz} (h : DS.sz size) : imageNew bits o data size = some (ImageRaw.new bits o data size) :=
  imageNew_ok hb o data (by omega) (by omega)
example : DS.sz ⟨1024, 0⟩ := by decide
/-- The same up to 2^28 x 2^28. -/
theorem image_new_wide {bits : Nat} (hb : bits ≤ 32) (o : Order) (data : List Nat) {size : Sz}
    (hw : size.w ≤ 268435456) (hh : size.h ≤ 268435456) :
    imageNew bits o data size = some (ImageRaw.new bits o data size) := imageNew_ok hb o data hw hh
example : (⟨268435456, 268435456⟩ : Sz).w ≤ 268435456 := by decide
/-- The `usize` range does end: `ImageRaw::new(data, Size::new(u32::MAX, u32::MAX))` for a 16 bpp
colour panics on `bytes_per_row * height` (64 bit `usize`) instead of returning
`Err(InvalidDataSize)`. Not display scale; replayed by `scale.chk.img.new`. -/
theorem image_new_overflows_for_u32_max : imageNew 16 .le [] ⟨4294967295, 4294967295⟩ = none := by
  decide

/-- `pixel(p)` for EVERY point `p` (no bound): points outside are rejected before any
arithmetic, for points inside `p.x + p.y * data_width` fits `usize` (and `data_width`'s `u32`
product does not overflow). Images up to 2^28 x 2^28. -/
theorem image_pixel_index_checked_eq_plain {im : ImageRaw} (hv : validBits im.bits = true)
    (hw : im.size.w ≤ 268435456) (hh : im.size.h ≤ 268435456) (p : Pt) :
    imagePixelIndex im p =
      some (if p.x < 0 ∨ p.y < 0 ∨ p.x ≥ asI32 im.size.w ∨ p.y ≥ asI32 im.size.h then none
            else some (p.x.toNat + p.y.toNat * im.dataWidth)) := imagePixelIndex_ok hv hw hh p
example : validBits (⟨1, .le, [], ⟨1024, 1024⟩⟩ : ImageRaw).bits = true := by decide

theorem fb_buffer_size_checked_eq_plain {width height bits : Nat} (hw : DS.size width)
    (hh : DS.size height) (hb : bits ≤ 32) :
    Chk.bufferSize width height bits = some (Fb.bufferSize width height bits) :=
  bufferSize_ok (by omega) (by omega) hb
example : DS.size 1024 := by decide

/-- `set_pixel(p, _)` for EVERY point `p`: outside the framebuffer it is a no-op reached without
arithmetic, inside the index `bytes_per_row * pixels_per_byte * y + x` (resp. `y * W + x`,
`(y * W + x) * bytes`) fits `usize`. Framebuffers up to 2^24 x 2^24. -/
theorem fb_index_checked_eq_plain {bits : Nat} (hv : validBits bits = true) {width height : Nat}
    (hw : width ≤ 16777216) (hh : height ≤ 16777216) (p : Pt) :
    fbIndex bits width height p =
      some (if 0 ≤ p.x ∧ 0 ≤ p.y ∧ p.x.toNat < width ∧ p.y.toNat < height
            then some (fbIndexPlain bits width p) else none) := fbIndex_ok hv hw hh p
example : validBits 4 = true ∧ (1024 : Nat) ≤ 16777216 := by decide

open EG.TextM in
/-- `LineHeight::to_absolute`: `Pixels` is the identity; `Percent(p)` multiplies in `u32`. -/
theorem line_height_checked_eq_plain {lh : LineHeight} {base : Nat}
    (h : Chk.TextM.PercentFits base lh) :
    Chk.TextM.toAbsolute lh base = some (EG.TextM.toAbsolute lh base) := Chk.TextM.toAbsolute_ok h
example : Chk.TextM.PercentFits 1024 (.percent 400) := by unfold Chk.TextM.PercentFits; decide
/-- ... which overflows for percentages a `u32` can hold (not display scale). -/
theorem line_height_percent_overflows :
    Chk.TextM.toAbsolute (.percent 214748365) 20 = none := by decide

open EG.TextM in
/-- `measure_string` width `chars * (width + spacing) - spacing` in `u32`. -/
theorem measure_width_checked_eq_plain {m : Metrics} {n : Nat} (hn : n ≤ 4294967295)
    (h : n * (m.cw + m.sp) ≤ 4294967295) (hs : m.cw + m.sp ≤ 4294967295) :
    Chk.TextM.lineWidth m n = some (EG.TextM.lineWidth m n) := Chk.TextM.lineWidth_ok hn h hs
example : 65536 * ((⟨10, 20, 0, 15⟩ : EG.TextM.Metrics).cw + (⟨10, 20, 0, 15⟩ : EG.TextM.Metrics).sp) ≤ 4294967295 := by
  decide

open EG.TextM in
/-- `Text::lines()`: the alignment subtraction and the advance `position.y += line_height` of
every line (also the one after the last line) stay inside `i32`; line `i` is laid out at
`linePos .. i` (`pos.y + i * line_height`, shifted left by `width - 1` or half of it). -/
theorem text_lines_checked_eq_plain {m : Metrics} {lh : LineHeight} (bl : Baseline) (al : Alignment)
    {pos : Pt} {k n : Nat} (h : Chk.TextM.InDomain m lh pos k n) :
    Chk.TextM.lines m lh bl al n k pos =
      some ((List.range k).map (fun i => linePos m lh al pos n i)) := by
  have hH := h.lineHeight_le
  have hg := h.glyph
  have hl := h.lines
  have hwd := h.width
  exact Chk.TextM.lines_ok al h.lhv' hH (by omega) h.chars (by omega) h.cell k pos h.px
    (by have := h.py; constructor <;> omega)

open EG.TextM in
/-- `Text::bounding_box()` does not panic in the text domain: positions within +-2^20, line height
up to 2^20 px (after `to_absolute`), at most 1024 lines, line width up to 2^27 px, glyph height up
to 2^20. -/
theorem text_bounding_box_no_panic {m : Metrics} {lh : LineHeight} (bl : Baseline) (al : Alignment)
    {pos : Pt} {k n : Nat} (h : Chk.TextM.InDomain m lh pos k n) :
    (Chk.TextM.boundingBox m lh bl al pos k n).isSome = true := by
  have hH := h.lineHeight_le
  have hg := h.glyph
  have hl := h.lines
  have hwd := h.width
  unfold Chk.TextM.boundingBox
  rw [text_lines_checked_eq_plain bl al h]
  chk_simp
  obtain ⟨r, hr, hb⟩ := Chk.TextM.minMax_some (m := m) (bl := bl) (n := n) (by omega) h.chars (by omega) h.cell
    ((List.range k).map (fun i => linePos m lh al pos n i)) none
    (by
      intro p hp
      simp only [List.mem_map, List.mem_range] at hp
      obtain ⟨i, hi, rfl⟩ := hp
      have := Chk.TextM.linePos_bounds (m := m) (lh := lh) al h.px h.py hH hwd (i := i) (by omega)
      omega)
    (fun _ _ he => by cases he)
  rw [hr]
  chk_simp
  cases r with
  | none => rfl
  | some a =>
    have := hb a.1 a.2 rfl
    exact (congrArg Option.isSome (withCorners_ok (by omega) (by omega))).trans rfl

open EG.TextM in
/-- Display scale is inside the text domain: position within +-1024, line height up to 1024 px or
400 % of a glyph height up to 1024, up to 1024 lines of up to 65536 characters of up to 2048 px. -/
theorem text_domain_of_display_scale {m : Metrics} {lh : LineHeight} {pos : Pt} {k n : Nat}
    (hp : DS.pt pos) (hlh : match lh with | .pixels px => px ≤ 1024 | .percent p => p ≤ 400)
    (hk : k ≤ 1024) (hn : n ≤ 65536) (hc : m.cw + m.sp ≤ 2048) (hg : m.ch ≤ 1024 ∧ m.bl ≤ 1024) :
    Chk.TextM.InDomain m lh pos k n := by
  refine ⟨by omega, by omega, ?_, hk, by omega, ?_, by omega, by omega⟩
  · cases lh with
    | pixels px => simp only at hlh ⊢; omega
    | percent p =>
      simp only at hlh ⊢
      have : m.ch * p ≤ 1024 * 400 := Nat.mul_le_mul hg.1 hlh
      omega
  · have : n * (m.cw + m.sp) ≤ 65536 * 2048 := Nat.mul_le_mul hn hc
    omega
example : DS.pt ⟨-1024, 1024⟩ ∧ (400 : Nat) ≤ 400 ∧ (1024 : Nat) ≤ 1024 := by decide

/-- The advance does overflow outside: `LineHeight::Pixels(u32::MAX)` saturates to `i32::MAX`, and
`position.y += line_height` runs once per line, so a single line at `y = 1` panics. -/
theorem text_line_advance_overflows :
    Chk.TextM.lines ⟨6, 10, 0, 7⟩ (.pixels 4294967295) .top .left 1 1 ⟨0, 1⟩ = none := by decide

end EG.C08
