/-
  C08 (glyph part) — range theorems of glyph rendering: `MonoFont::glyph` (index -> row / column
  -> sub-image area), the guard and skips of `ImageRaw::draw_sub_image` for the 1 bpp atlas,
  `line_elements` (the position advance), decoration rectangles, `draw_string` and
  `draw_whitespace` of `MonoTextStyle`. Checked model: `EG.Model.CheckedFont`; plain:
  `EG.Model.Font`. (`measure_string` and the layout of `Text` are in C08/Data.lean.)

  Domain: fonts with cell, spacing, baseline and decoration offsets up to 4096 and an atlas up to
  65535 x 65535 (`Chk.Font.FontOk`), glyph indices below 65536, positions within +-2^20 (the
  display scale has +-1024), texts of up to 65536 characters. ALL 292 built-in fonts are in the
  domain, with every character (`builtin_fonts_in_glyph_domain`).
-/
import EG.Lemmas.CheckedFont
import EG.Lemmas.CheckedDS
namespace EG.C08
open EG EG.Chk

/-- `char_x = (glyph_index - row * glyphs_per_row) * character width` cannot overflow for ANY
glyph index: the difference is `glyph_index % glyphs_per_row`, so the product is at most the
atlas width (a `u32`). -/
theorem glyph_char_x_never_overflows {imgW cw : Nat} (hcw : 0 < cw) (hw : cw ≤ imgW) (gi : Nat) :
    gi / (imgW / cw) * (imgW / cw) ≤ gi ∧ (gi - gi / (imgW / cw) * (imgW / cw)) * cw ≤ imgW :=
  Chk.Font.glyph_char_x_fits hcw hw gi
example : (0 : Nat) < 6 ∧ (6 : Nat) ≤ 96 := by decide

/-- **`MonoFont::glyph`** for a font of the domain and a glyph index below 65536: the division,
both `u32` products, the difference and the casts to `i32`. -/
theorem glyph_area_checked_eq_plain {f : Font.MonoFont} (hf : Chk.Font.FontOk f) {c : Nat}
    (hi : f.index c ≤ 65535) : Chk.Font.glyphArea f c = some (f.glyphArea c) :=
  Chk.Font.glyphArea_ok hf hi
example : Chk.Font.FontOk ⟨96, 60, 6, 10, 0, 7, 9, 1, 5, 1, fun c => c - 32⟩ :=
  ⟨by decide, by decide, by decide, by decide, by decide, by decide, by decide, by decide⟩

/-- `char_y = row * character height` does overflow for a user font with one glyph per atlas row,
65536 rows and a character 65536 pixels high. -/
theorem glyph_char_y_overflows :
    Chk.Font.glyphAreaOfIndex ⟨8, 8, 8, 65536, 0, 0, 0, 0, 0, 0, fun c => c⟩ 65536 = none := by decide

/-- The guard `x as u32 + width > image width || ..` is the plain `areaDrawable`, and behind it
`data_width()`, `initial_skip` and `row_skip` fit `usize`. -/
theorem glyph_sub_image_checked_eq_plain {f : Font.MonoFont} (hf : Chk.Font.FontOk f) {a : Rect}
    (hx : a.tl.x ≤ 1073741824) (hy : a.tl.y ≤ 1073741824) (hw : a.size.w ≤ 1073741824)
    (hh : a.size.h ≤ 1073741824) :
    ∃ r, Chk.Font.subImageSkips f.imgW f.imgH a = some r ∧ r.isSome = f.areaDrawable a :=
  Chk.Font.subImageSkips_ok hf hx hy hw hh
example : ((⟨⟨90, 50⟩, ⟨6, 10⟩⟩ : Rect).tl.x ≤ 1073741824) := by decide

/-- Drawing one glyph: the plain model's call list. -/
theorem glyph_draw_checked_eq_plain {f : Font.MonoFont} (hf : Chk.Font.FontOk f) (atlas : Pt → Bool)
    {c : Nat} (hi : f.index c ≤ 65535) (p : Pt) :
    Chk.Font.glyphCalls f atlas c p = some (f.glyphCalls atlas c p) := Chk.Font.glyphCalls_ok hf atlas hi p
example : (fun c : Nat => c - 32) 65 ≤ 65535 := by decide

/-- **`line_elements`**: every `position.x += char_width` / `+= spacing_width` of a text of up to
65536 characters started within +-2^20. -/
theorem line_elements_checked_eq_plain {f : Font.MonoFont} (hf : Chk.Font.FontOk f) {pos : Pt}
    (hx : -1048576 ≤ pos.x ∧ pos.x ≤ 1048576) {text : List Nat} (hn : text.length ≤ 65536) :
    Chk.Font.lineElements f pos text = some (Font.lineElements f pos text) :=
  Chk.Font.lineElements_ok hf hx hn
example : (-1048576 : Int) ≤ -1024 ∧ ([72, 105] : List Nat).length ≤ 65536 := by decide

/-- **`draw_string`** of a `MonoTextStyle` (any colours and decorations, any baseline):
`position - baseline offset`, every glyph, every advance, the transparent arm's `u32` product,
the decoration width `(next.x - position.x) as u32`, both decoration rectangles, the returned
position. -/
theorem draw_string_checked_eq_plain {f : Font.MonoFont} (hf : Chk.Font.FontOk f) (atlas : Pt → Bool)
    (st : Font.Style) {text : List Nat} (hn : text.length ≤ 65536) (hi : Chk.Font.IndexOk f text)
    {position : Pt} (hp : DS.pt position) (bl : Font.Baseline) :
    Chk.Font.drawString f atlas st text position bl = some (f.drawString atlas st text position bl) :=
  Chk.Font.drawString_ok hf atlas st hn hi (by omega) (by omega) bl
example : DS.pt ⟨-1024, 1024⟩ := by decide

/-- The same for positions up to +-2^20. -/
theorem draw_string_wide {f : Font.MonoFont} (hf : Chk.Font.FontOk f) (atlas : Pt → Bool)
    (st : Font.Style) {text : List Nat} (hn : text.length ≤ 65536) (hi : Chk.Font.IndexOk f text)
    {position : Pt} (hx : -1048576 ≤ position.x ∧ position.x ≤ 1048576)
    (hy : -1048576 ≤ position.y ∧ position.y ≤ 1048576) (bl : Font.Baseline) :
    Chk.Font.drawString f atlas st text position bl = some (f.drawString atlas st text position bl) :=
  Chk.Font.drawString_ok hf atlas st hn hi hx hy bl
example : (-1048576 : Int) ≤ 1048576 := by decide

/-- ... and the `i32` range does end: one 6 px character drawn at `x = i32::MAX - 5` advances the
position past `i32::MAX`. -/
theorem draw_string_overflows_at_i32_max :
    Chk.Font.drawString ⟨96, 60, 6, 10, 0, 7, 9, 1, 5, 1, fun c => c - 32⟩ (fun _ => false)
      ⟨some 1, none, .none, .none⟩ [65] ⟨2147483642, 0⟩ .top = none := by decide

theorem draw_whitespace_checked_eq_plain {f : Font.MonoFont} (hf : Chk.Font.FontOk f) (st : Font.Style)
    {width : Nat} (hw : width ≤ 1048576) {position : Pt} (hp : DS.pt position) (bl : Font.Baseline) :
    Chk.Font.drawWhitespace f st width position bl = some (f.drawWhitespace st width position bl) :=
  Chk.Font.drawWhitespace_ok hf st hw (by omega) (by omega) bl
example : (1024 : Nat) ≤ 1048576 ∧ DS.pt ⟨0, 0⟩ := by decide

/-- **All 292 built-in fonts are in the domain**, and the glyph index of every character — mapped
or replaced by `?` — is below 65536: the hypotheses `FontOk` and `IndexOk` of the theorems above
hold for every text in every built-in font. -/
theorem builtin_fonts_in_glyph_domain (r : Generated.FontRec) (hr : r ∈ Generated.fontTable) :
    Chk.Font.FontOk (Font.fontOfRec r) ∧ ∀ text, Chk.Font.IndexOk (Font.fontOfRec r) text :=
  ⟨(Chk.Font.builtin_fontOk r hr).1, fun _ c _ => (Chk.Font.builtin_fontOk r hr).2 c⟩
example : Generated.fontTable ≠ [] := by decide

end EG.C08
