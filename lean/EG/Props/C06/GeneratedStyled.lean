/-
  C06 — the REGENERATED stroke / fill split of circles and ellipses equals the hand-written one.

  `tools/tr_curve.py` also translates src/primitives/common/styled_scanline.rs (`StyledScanline::{new, stroke_left,
  stroke_right, fill}`) and the private `StyledScanlines::{new, next}` of src/primitives/circle/styled.rs and
  src/primitives/ellipse/styled.rs (the iterator that `draw_styled` loops over and `StyledPixelsIterator` polls: for
  every row of the stroke area the stroke scanline and, searched WITHIN it with the stroke area's `center_2x`, the
  fill range) into `EG/Generated/CurveSrc.lean`. This file proves each equal to the hand model
  (`EG/Model/StyledScanline.lean`, `Circle.StyledScanlinesIt`, `Ellipse.StyledScanlinesIt`) for all inputs, that the
  list of styled scanlines a `for` loop collects from the regenerated iterator is the hand model's `toList` (the list
  `Circle.drawStyled` / `Ellipse.drawStyled` paint), and restates C06's offset laws (`stroke_area` / `fill_area` are
  `offset`s) over the regenerated `OffsetOutline::offset`.

  The functions that DRAW (`draw_styled`, `Scanline::draw`, `draw_stroke(_and_fill)`) and `PrimitiveStyle` are in
  `GeneratedDraw.lean`. NOT regenerated: the pixel path `StyledPixelsIterator<C>` (listed in `CurveSrc.untranslated`).
  Guards as in `Props/C05/GeneratedCircle.lean` / `GeneratedEllipse.lean` (`DiamFitsI32` / `AxesFitI32` of the stroke
  area for `StyledScanlines::new`; `next` is unconditional).
-/
import EG.Props.C05.GeneratedEllipse
import EG.Props.C06.Circle
import EG.Props.C06.Ellipse
namespace EG.C06.CurveSrc
open EG EG.RectSrcPrelude EG.CurveSrcPrelude EG.Generated EG.C16.Src EG.C05.Src

/-- The regenerated `struct StyledScanline { y, stroke_range, fill_range }` as the hand model's flat record. -/
def styledScanlineOf (s : CurveSrc.StyledScanline) : EG.StyledScanline :=
  ⟨s.y, s.stroke_range.start, s.stroke_range.end_, s.fill_range.start, s.fill_range.end_⟩

def rangePair (r : RangeI32) : Int × Int := (r.start, r.end_)

theorem StyledScanline_new_src_eq_model (y : Int) (sr : RangeI32) (fr : Option RangeI32) :
    styledScanlineOf (CurveSrc.StyledScanline_new y sr fr) = StyledScanline.new y sr.start sr.end_ (fr.map rangePair) := by
  cases fr <;> rfl

theorem StyledScanline_stroke_left_src_eq_model (s : CurveSrc.StyledScanline) :
    scanlineOf (CurveSrc.StyledScanline_stroke_left s) = (styledScanlineOf s).strokeLeft := rfl
theorem StyledScanline_stroke_right_src_eq_model (s : CurveSrc.StyledScanline) :
    scanlineOf (CurveSrc.StyledScanline_stroke_right s) = (styledScanlineOf s).strokeRight := rfl
theorem StyledScanline_fill_src_eq_model (s : CurveSrc.StyledScanline) :
    scanlineOf (CurveSrc.StyledScanline_fill s) = (styledScanlineOf s).fill := rfl

def circleStyledItOf (s : CurveSrc.CircleStyledScanlines) : Circle.StyledScanlinesIt :=
  ⟨scanlinesItOf s.scanlines, s.fill_threshold⟩

theorem CircleStyledScanlines_new_src_eq_model (sa fa : CurveSrc.Circle) (h : DiamFitsI32 sa.diameter) :
    circleStyledItOf (CurveSrc.CircleStyledScanlines_new sa fa) = Circle.styledScanlines (circleOf sa) (circleOf fa) := by
  unfold CurveSrc.CircleStyledScanlines_new Circle.styledScanlines circleStyledItOf
  simp only [CircleScanlines_new_src_eq_model sa h, Circle_threshold_src_eq_model]

theorem CircleScanlines_next_center_2x (s : CurveSrc.CircleScanlines) :
    (CurveSrc.CircleScanlines_Iterator_next s).2.center_2x = s.center_2x := by
  unfold CurveSrc.CircleScanlines_Iterator_next
  by_cases h : s.rows.start < s.rows.end_
  · rw [range_i32_next_of_lt h]
  · rw [range_i32_next_of_not_lt h]

/-- **One regenerated `StyledScanlines::next` = one `StyledScanlinesIt.next` of the hand model.** -/
theorem CircleStyledScanlines_Iterator_next_src_eq_model (s : CurveSrc.CircleStyledScanlines) :
    ((CurveSrc.CircleStyledScanlines_Iterator_next s).1.map styledScanlineOf,
      circleStyledItOf (CurveSrc.CircleStyledScanlines_Iterator_next s).2) = (circleStyledItOf s).next := by
  unfold CurveSrc.CircleStyledScanlines_Iterator_next Circle.StyledScanlinesIt.next
  simp only [CurveSrc.CircleStyledScanlines_scanlines, CurveSrc.CircleStyledScanlines_fill_threshold,
    CurveSrc.CircleScanlines_center_2x, circleStyledItOf, CircleScanlines_next_center_2x,
    circle_find_closure_src_eq_model, ← CircleScanlines_Iterator_next_src_eq_model]
  cases (CurveSrc.CircleScanlines_Iterator_next s.scanlines).1 with
  | none => rfl
  | some sc =>
    simp only [option_map, Option.map_some, StyledScanline_new_src_eq_model, Circle.StyledScanlinesIt.style,
      mirroredRange, rangeFind, range_i32_find, range_i32_clone, Option.map_map]
    rfl

/-- What a `for` loop collects from the regenerated styled-scanline iterator (`steps` calls of `next` at most). -/
def srcCircleStyledCollect : Nat → CurveSrc.CircleStyledScanlines → List EG.StyledScanline
  | 0, _ => []
  | steps + 1, s =>
    match CurveSrc.CircleStyledScanlines_Iterator_next s with
    | (some l, s') => styledScanlineOf l :: srcCircleStyledCollect steps s'
    | (none, _) => []

/-- the collector applies `styledScanlineOf` to every item it takes -/
theorem srcCircleStyledCollect_drains :
    Drains (fun s => (ofPair CurveSrc.CircleStyledScanlines_Iterator_next s).map fun p => (styledScanlineOf p.1, p.2)) srcCircleStyledCollect :=
  ⟨fun _ => rfl, fun n s => by
    rw [srcCircleStyledCollect, ofPair]
    rcases CurveSrc.CircleStyledScanlines_Iterator_next s with ⟨_ | _, _⟩ <;> rfl⟩

theorem srcCircleStyledCollect_src_eq_model : ∀ (steps : Nat) (s : CurveSrc.CircleStyledScanlines),
    srcCircleStyledCollect steps s = (circleStyledItOf s).toListFuel steps :=
  srcCircleStyledCollect_drains.view Circle.StyledScanlinesIt.drains circleStyledItOf fun s => by
    rw [Option.map_map]
    exact (SrcIter.ofPair_comap (CircleStyledScanlines_Iterator_next_src_eq_model s)).symm

/-- **The styled scanlines `draw_styled` loops over**, collected from the regenerated `StyledScanlines::new` + `next`,
are the list the hand model's `Circle.drawStyled` paints. -/
theorem circle_styled_scanlines_src_eq_model (sa fa : CurveSrc.Circle) (h : DiamFitsI32 sa.diameter) :
    (let it := CurveSrc.CircleStyledScanlines_new sa fa
     srcCircleStyledCollect ((it.scanlines.rows.end_ - it.scanlines.rows.start).toNat + 1) it)
      = (Circle.styledScanlines (circleOf sa) (circleOf fa)).toList := by
  rw [← CircleStyledScanlines_new_src_eq_model sa fa h]
  exact srcCircleStyledCollect_src_eq_model _ _
example : DiamFitsI32 (⟨⟨0, 0⟩, 5⟩ : CurveSrc.Circle).diameter := by decide
/-- stroke area of diameter 5, fill area of diameter 3 around the same centre: rows 0 and 4 have no fill range -/
example : (let it := CurveSrc.CircleStyledScanlines_new ⟨⟨0, 0⟩, 5⟩ ⟨⟨1, 1⟩, 3⟩
    srcCircleStyledCollect 6 it) = [⟨0, 1, 4, 4, 4⟩, ⟨1, 0, 5, 2, 3⟩, ⟨2, 0, 5, 1, 4⟩, ⟨3, 0, 5, 2, 3⟩, ⟨4, 1, 4, 4, 4⟩] := by
  decide +kernel

def ellipseStyledItOf (s : CurveSrc.EllipseStyledScanlines) : Ellipse.StyledScanlinesIt :=
  ⟨ellipseScanlinesItOf s.scanlines, ecOf s.fill_area⟩

theorem EllipseStyledScanlines_new_src_eq_model (sa fa : CurveSrc.Ellipse) (h : AxesFitI32 sa.size) :
    ellipseStyledItOf (CurveSrc.EllipseStyledScanlines_new sa fa)
      = Ellipse.styledScanlines (ellipseOf sa) (ellipseOf fa) := by
  unfold CurveSrc.EllipseStyledScanlines_new Ellipse.styledScanlines ellipseStyledItOf
  simp only [EllipseScanlines_new_src_eq_model sa h, EllipseContains_new_src_eq_model]
  rfl

/-- **One regenerated `StyledScanlines::next` = one `StyledScanlinesIt.next` of the hand model.** -/
theorem EllipseStyledScanlines_Iterator_next_src_eq_model (s : CurveSrc.EllipseStyledScanlines) :
    ((CurveSrc.EllipseStyledScanlines_Iterator_next s).1.map styledScanlineOf,
      ellipseStyledItOf (CurveSrc.EllipseStyledScanlines_Iterator_next s).2) = (ellipseStyledItOf s).next := by
  obtain ⟨sl, fa⟩ := s
  simp only [CurveSrc.EllipseStyledScanlines_Iterator_next, Ellipse.StyledScanlinesIt.next, ellipseStyledItOf,
    EllipseContains_contains_src_eq_model, ← EllipseScanlines_Iterator_next_src_eq_model]
  cases (CurveSrc.EllipseScanlines_Iterator_next sl).1 with
  | none => rfl
  | some sc =>
    simp only [option_map, Option.map_some, StyledScanline_new_src_eq_model, Ellipse.StyledScanlinesIt.style,
      mirroredRange, rangeFind, range_i32_find, Option.map_map]
    rfl

def srcEllipseStyledCollect : Nat → CurveSrc.EllipseStyledScanlines → List EG.StyledScanline
  | 0, _ => []
  | steps + 1, s =>
    match CurveSrc.EllipseStyledScanlines_Iterator_next s with
    | (some l, s') => styledScanlineOf l :: srcEllipseStyledCollect steps s'
    | (none, _) => []

/-- the collector applies `styledScanlineOf` to every item it takes -/
theorem srcEllipseStyledCollect_drains :
    Drains (fun s => (ofPair CurveSrc.EllipseStyledScanlines_Iterator_next s).map fun p => (styledScanlineOf p.1, p.2)) srcEllipseStyledCollect :=
  ⟨fun _ => rfl, fun n s => by
    rw [srcEllipseStyledCollect, ofPair]
    rcases CurveSrc.EllipseStyledScanlines_Iterator_next s with ⟨_ | _, _⟩ <;> rfl⟩

theorem srcEllipseStyledCollect_src_eq_model : ∀ (steps : Nat) (s : CurveSrc.EllipseStyledScanlines),
    srcEllipseStyledCollect steps s = (ellipseStyledItOf s).toListFuel steps :=
  srcEllipseStyledCollect_drains.view Ellipse.StyledScanlinesIt.drains ellipseStyledItOf fun s => by
    rw [Option.map_map]
    exact (SrcIter.ofPair_comap (EllipseStyledScanlines_Iterator_next_src_eq_model s)).symm

theorem ellipse_styled_scanlines_src_eq_model (sa fa : CurveSrc.Ellipse) (h : AxesFitI32 sa.size) :
    (let it := CurveSrc.EllipseStyledScanlines_new sa fa
     srcEllipseStyledCollect ((it.scanlines.rows.end_ - it.scanlines.rows.start).toNat + 1) it)
      = (Ellipse.styledScanlines (ellipseOf sa) (ellipseOf fa)).toList := by
  rw [← EllipseStyledScanlines_new_src_eq_model sa fa h]
  exact srcEllipseStyledCollect_src_eq_model _ _
example : AxesFitI32 (⟨⟨0, 0⟩, ⟨7, 4⟩⟩ : CurveSrc.Ellipse).size := by decide

/-- `offset(k)`, `k ≥ 0` (regenerated): grown by `k` on every side. -/
theorem src_circle_offset_grow (c : CurveSrc.Circle) (k : Nat) (hd : 1 ≤ c.diameter)
    (hs : c.diameter + 2 * k ≤ 4294967295) :
    circleOf (CurveSrc.Circle_OffsetOutline_offset c (k : Int))
      = ⟨⟨c.top_left.x - k, c.top_left.y - k⟩, c.diameter + 2 * k⟩ := by
  rw [Circle_offset_src_eq_model c _ (Nat.le_trans (Nat.le_add_right _ _) hs)]
  exact circle_offset_grow (circleOf c) k hd hs
example : 1 ≤ (⟨⟨-3, 2⟩, 7⟩ : CurveSrc.Circle).diameter ∧ (⟨⟨-3, 2⟩, 7⟩ : CurveSrc.Circle).diameter + 2 * 3 ≤ 4294967295 := by
  decide

/-- `offset(-k)` (regenerated): shrunk by `k` on every side while something is left. -/
theorem src_circle_offset_shrink (c : CurveSrc.Circle) (k : Nat) (hk : 1 ≤ k) (hd : 2 * k < c.diameter)
    (hu : DiamIsU32 c.diameter) :
    circleOf (CurveSrc.Circle_OffsetOutline_offset c (-(k : Int)))
      = ⟨⟨c.top_left.x + k, c.top_left.y + k⟩, c.diameter - 2 * k⟩ := by
  rw [Circle_offset_src_eq_model c _ hu]
  exact circle_offset_shrink (circleOf c) k hk hd
example : 2 * 3 < (⟨⟨-3, 2⟩, 7⟩ : CurveSrc.Circle).diameter ∧ DiamIsU32 (⟨⟨-3, 2⟩, 7⟩ : CurveSrc.Circle).diameter := by decide

/-- `offset(k)`, `k ≥ 0` (regenerated `Ellipse`): grown by `k` on every side. -/
theorem src_ellipse_offset_grow (e : CurveSrc.Ellipse) (k : Nat) (hw : 1 ≤ e.size.w) (hh : 1 ≤ e.size.h)
    (sw : e.size.w + 2 * k ≤ 4294967295) (sh : e.size.h + 2 * k ≤ 4294967295) :
    ellipseOf (CurveSrc.Ellipse_OffsetOutline_offset e (k : Int))
      = ⟨⟨e.top_left.x - k, e.top_left.y - k⟩, ⟨e.size.w + 2 * k, e.size.h + 2 * k⟩⟩ := by
  rw [Ellipse_offset_src_eq_model e _ ⟨Nat.le_trans (Nat.le_add_right _ _) sw, Nat.le_trans (Nat.le_add_right _ _) sh⟩]
  exact ellipse_offset_grow (ellipseOf e) k hw hh sw sh
example : 1 ≤ (⟨⟨-3, 2⟩, ⟨7, 4⟩⟩ : CurveSrc.Ellipse).size.w ∧ 1 ≤ (⟨⟨-3, 2⟩, ⟨7, 4⟩⟩ : CurveSrc.Ellipse).size.h := by decide

/-- `offset(-k)` (regenerated `Ellipse`): shrunk by `k` on every side while something is left. -/
theorem src_ellipse_offset_shrink (e : CurveSrc.Ellipse) (k : Nat) (hk : 1 ≤ k) (hw : 2 * k < e.size.w)
    (hh : 2 * k < e.size.h) (hu : IsU32 e.size) :
    ellipseOf (CurveSrc.Ellipse_OffsetOutline_offset e (-(k : Int)))
      = ⟨⟨e.top_left.x + k, e.top_left.y + k⟩, ⟨e.size.w - 2 * k, e.size.h - 2 * k⟩⟩ := by
  rw [Ellipse_offset_src_eq_model e _ hu]
  exact ellipse_offset_shrink (ellipseOf e) k hk hw hh
example : 2 * 1 < (⟨⟨-3, 2⟩, ⟨7, 4⟩⟩ : CurveSrc.Ellipse).size.w ∧ 2 * 1 < (⟨⟨-3, 2⟩, ⟨7, 4⟩⟩ : CurveSrc.Ellipse).size.h ∧
    IsU32 (⟨⟨-3, 2⟩, ⟨7, 4⟩⟩ : CurveSrc.Ellipse).size := by decide

end EG.C06.CurveSrc
