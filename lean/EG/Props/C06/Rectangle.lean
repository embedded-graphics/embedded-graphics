/-
  C06 (Rectangle) — stroke and fill of a styled rectangle follow `fill_area()` / `stroke_area()`.

  Property theorems only (helper lemmas: EG/Lemmas/Style.lean, StyledRect.lean, StyledRectDraw.lean,
  PMap.lean). All statements are about the models EG.Model.Style / EG.Model.StyledRect (literal
  transcriptions of src/primitives/primitive_style.rs and src/primitives/rectangle/styled.rs, solid
  stroke) and hold for every rectangle (also zero-sized ones), every stroke width and alignment,
  every colour option and every target box. Guards, explicit and decidable:
    `NoSat s r`  — the stroke width fits `i32` and the grown size fits `u32` (no `saturating_*`);
    `Guard s r`  — stroke width fits `i32` and the stroke area lies in the `i32` coordinate range
                   (what `points()` needs not to saturate; the real code panics beyond it in a
                   checked build).
-/
import EG.Lemmas.StyledRectDraw
import EG.Props.C16
namespace EG.C06.Rectangle
open EG.Tgt
open EG EG.Rect EG.StyledRect

/-- `inside + outside = width` (below the `u32` saturation point of `saturating_add(1)`), and the
three alignments as documented: Inside all inside, Outside all outside, Center the larger half
inside. -/
theorem stroke_width_split (s : Style) (h : s.width < 4294967295) :
    s.insideStrokeWidth + s.outsideStrokeWidth = s.width ∧
    (s.align = .inside → s.insideStrokeWidth = s.width ∧ s.outsideStrokeWidth = 0) ∧
    (s.align = .outside → s.insideStrokeWidth = 0 ∧ s.outsideStrokeWidth = s.width) ∧
    (s.align = .center → s.outsideStrokeWidth = s.width / 2 ∧ s.insideStrokeWidth = (s.width + 1) / 2 ∧
      s.outsideStrokeWidth ≤ s.insideStrokeWidth ∧ s.insideStrokeWidth ≤ s.outsideStrokeWidth + 1) := by
  refine ⟨s.inside_add_outside h, ?_, ?_, ?_⟩
  · intro ha; simp [Style.insideStrokeWidth, Style.outsideStrokeWidth, ha]
  · intro ha; simp [Style.insideStrokeWidth, Style.outsideStrokeWidth, ha]
  · intro ha
    obtain ⟨h1, h2⟩ := s.center_split h ha
    refine ⟨h1, h2, ?_, ?_⟩ <;> omega

example : (⟨some 7, some 9, 5, .center⟩ : Style).insideStrokeWidth = 3 ∧
    (⟨some 7, some 9, 5, .center⟩ : Style).outsideStrokeWidth = 2 := by decide

/-- The guard of `stroke_width_split` is sharp: at `u32::MAX` a centred stroke loses one pixel. -/
theorem stroke_width_split_saturated :
    (⟨none, none, 4294967295, .center⟩ : Style).insideStrokeWidth +
      (⟨none, none, 4294967295, .center⟩ : Style).outsideStrokeWidth = 4294967294 := by
  decide

/-! ### `stroke_area` grows, `fill_area` shrinks -/

/-- For a non-degenerate shape the stroke area is the shape grown on every side by the outside
part of the stroke width. -/
theorem stroke_area_grows (s : Style) (r : Rect) (h : NoSat s r) (_hr : 0 < r.size.w ∧ 0 < r.size.h) :
    (strokeArea s r).tl.x = r.tl.x - s.outsideStrokeWidth ∧
    (strokeArea s r).tl.y = r.tl.y - s.outsideStrokeWidth ∧
    (strokeArea s r).size.w = r.size.w + 2 * s.outsideStrokeWidth ∧
    (strokeArea s r).size.h = r.size.h + 2 * s.outsideStrokeWidth := by
  rw [strokeArea_eq s r h]
  exact ⟨rfl, rfl, rfl, rfl⟩

/-- A stroke wider than the shape collapses the fill area to zero width and/or height
(saturating, never wrapping), in every case. -/
theorem fill_area_collapse (s : Style) (r : Rect) (h : NoSat s r) :
    (fillArea s r).size.w = r.size.w - 2 * s.insideStrokeWidth ∧
    (fillArea s r).size.h = r.size.h - 2 * s.insideStrokeWidth := by
  rw [fillArea_eq s r h]
  exact ⟨rfl, rfl⟩

/-- For a shape larger than twice the inside part, the fill area is the shape shrunk on every
side by the inside part of the stroke width. -/
theorem fill_area_shrinks (s : Style) (r : Rect) (h : NoSat s r)
    (hr : 2 * s.insideStrokeWidth < r.size.w ∧ 2 * s.insideStrokeWidth < r.size.h) :
    (fillArea s r).tl.x = r.tl.x + s.insideStrokeWidth ∧
    (fillArea s r).tl.y = r.tl.y + s.insideStrokeWidth ∧
    ((fillArea s r).size.w : Int) = r.size.w - 2 * s.insideStrokeWidth ∧
    ((fillArea s r).size.h : Int) = r.size.h - 2 * s.insideStrokeWidth := by
  obtain ⟨hw, hh⟩ := fill_area_collapse s r h
  exact ⟨fillArea_tl_x h (by omega), fillArea_tl_y h (by omega), by omega, by omega⟩

/-- The same from `C16.offset_collapse` (inside part non-zero). -/
theorem fill_area_collapse_of_offset (s : Style) (r : Rect) (h : s.width ≤ 2147483647)
    (hi : 0 < s.insideStrokeWidth) :
    (fillArea s r).size.w = r.size.w - s.insideStrokeWidth * 2 ∧
    (fillArea s r).size.h = r.size.h - s.insideStrokeWidth * 2 := by
  unfold fillArea
  rw [s.fillOffset_eq h]
  have := C16.offset_collapse r (-(s.insideStrokeWidth : Int)) (by omega)
  simpa using this

/-- The fill area lies within the stroke area, also when collapsed. -/
theorem fill_area_subset_stroke_area (s : Style) (r : Rect) (h : NoSat s r) (p : Pt)
    (hp : (fillArea s r).contains p = true) : (strokeArea s r).contains p = true :=
  (fillArea_within s r h).contains hp

example : NoSat ⟨some 7, some 9, 3, .center⟩ ⟨⟨-2, -1⟩, ⟨4, 5⟩⟩ := by decide
example : strokeArea ⟨some 7, some 9, 3, .center⟩ ⟨⟨-2, -1⟩, ⟨4, 5⟩⟩ = ⟨⟨-3, -2⟩, ⟨6, 7⟩⟩ := by decide
example : fillArea ⟨some 7, some 9, 3, .center⟩ ⟨⟨-2, -1⟩, ⟨4, 5⟩⟩ = ⟨⟨-1, 1⟩, ⟨0, 1⟩⟩ := by decide

/-- **Key lemma.** A point lies in the top, bottom, left or right border rectangle that
`draw_styled` fills with the stroke colour (the side borders exist only if the fill height is
positive) iff `stroke_area` contains it and `fill_area` does not — for every size, width and
alignment, including strokes wider than the shape. -/
theorem borders_eq_stroke_minus_fill (s : Style) (r : Rect) (h : NoSat s r) (p : Pt) :
    ((topBorder s r).contains p = true ∨ (bottomBorder s r).contains p = true ∨
      ((fillArea s r).size.h > 0 ∧
        ((leftBorder s r).contains p = true ∨ (rightBorder s r).contains p = true))) ↔
    ((strokeArea s r).contains p = true ∧ ¬ (fillArea s r).contains p = true) := by
  rw [← exists_mem_strokeRects]
  exact mem_strokeRects_iff s r h p

/-- The stroke part of `draw_styled` is exactly these rectangles, each filled with the stroke
colour. -/
theorem stroke_calls_are_borders (s : Style) (r : Rect) (sc : Color) :
    strokeCalls s r sc =
      ([topBorder s r, bottomBorder s r] ++
        (if (fillArea s r).size.h > 0 then [leftBorder s r, rightBorder s r] else [])).map
        (fun a => Call.fillSolid a sc) :=
  strokeCalls_eq s r sc

/-- **C06 for rectangles.** On a target with box `B`, `draw()` paints `p` (inside `B`) with the
fill colour if `fill_area()` contains it, with the stroke colour if `stroke_area()` contains it,
`fill_area()` does not and the stroke width is non-zero (`none` = leaves it untouched when the
respective colour is not set), and leaves every other point untouched. -/
theorem styled_rect_exact (s : Style) (r : Rect) (h : Guard s r) (B : Rect) (p : Pt) :
    runNative B (drawCalls s r) p =
      if B.contains p = true then
        (if (fillArea s r).contains p = true then s.fill
         else if (strokeArea s r).contains p = true ∧ s.width > 0 then s.stroke
         else none)
      else none :=
  (styledPicture h).draw B p

/-- The same on a draw_iter-only target. -/
theorem styled_rect_exact_default (s : Style) (r : Rect) (h : Guard s r) (B : Rect) (p : Pt) :
    runDefault B (drawCalls s r) p =
      if B.contains p = true then
        (if (fillArea s r).contains p = true then s.fill
         else if (strokeArea s r).contains p = true ∧ s.width > 0 then s.stroke
         else none)
      else none :=
  (styledPicture h).default B p

/-- The "iff" reading of the property text, for a style with two different colours and a
non-zero stroke width. -/
theorem styled_rect_iff (s : Style) (r : Rect) (h : Guard s r) (B : Rect) (p : Pt) (fc sc : Color)
    (hf : s.fill = some fc) (hs : s.stroke = some sc) (hne : fc ≠ sc) (hw : s.width > 0)
    (hB : B.contains p = true) :
    (runNative B (drawCalls s r) p = some fc ↔ (fillArea s r).contains p = true) ∧
    (runNative B (drawCalls s r) p = some sc ↔
      ((strokeArea s r).contains p = true ∧ ¬ (fillArea s r).contains p = true)) ∧
    (runNative B (drawCalls s r) p = none ↔ ¬ (strokeArea s r).contains p = true) := by
  have hsub := fill_area_subset_stroke_area s r h.noSat p
  rw [styled_rect_exact s r h B p, if_pos hB, hf, hs]
  by_cases hfa : (fillArea s r).contains p = true
  · have := hsub hfa
    simp [hfa, this, hne]
  · by_cases hsa : (strokeArea s r).contains p = true
    · simp [hfa, hsa, hw, Ne.symm hne]
    · simp [hfa, hsa]

/-- An inside stroke never paints outside the shape. -/
theorem inside_stroke_never_outside (s : Style) (r : Rect) (h : Guard s r) (ha : s.align = .inside)
    (B : Rect) (p : Pt) (hp : runNative B (drawCalls s r) p ≠ none) : r.contains p = true := by
  have : (strokeArea s r).contains p = true := (styledPicture h).drawn_in_box hp
  rwa [strokeArea_inside h.noSat ha] at this

/-- An outside stroke never paints inside the shape: inside the shape only the fill colour (if
any) is painted. -/
theorem outside_stroke_never_inside (s : Style) (r : Rect) (h : Guard s r) (ha : s.align = .outside)
    (B : Rect) (p : Pt) (hp : r.contains p = true) :
    runNative B (drawCalls s r) p = if B.contains p = true then s.fill else none :=
  (styledPicture h).eq_fill B (by rw [fillArea_outside h.noSat ha]; exact hp)

/-! ### Non-vacuity: concrete instances of the guards, including a collapsed fill area -/

example : Guard ⟨some 7, some 9, 3, .center⟩ ⟨⟨-2, -1⟩, ⟨4, 5⟩⟩ := by decide
example : Guard ⟨some 7, some 9, 9, .inside⟩ ⟨⟨-2, -1⟩, ⟨4, 5⟩⟩ := by decide
example : Guard ⟨none, some 9, 2, .outside⟩ ⟨⟨100, 50⟩, ⟨0, 3⟩⟩ := by decide
example : drawCalls ⟨some 7, some 9, 1, .inside⟩ ⟨⟨0, 0⟩, ⟨3, 4⟩⟩ =
    [.fillSolid ⟨⟨1, 1⟩, ⟨1, 2⟩⟩ 7, .fillSolid ⟨⟨0, 0⟩, ⟨3, 1⟩⟩ 9, .fillSolid ⟨⟨0, 3⟩, ⟨3, 1⟩⟩ 9,
     .fillSolid ⟨⟨0, 1⟩, ⟨1, 2⟩⟩ 9, .fillSolid ⟨⟨2, 1⟩, ⟨1, 2⟩⟩ 9] := by decide

-- [V] Rust-level parametricity: that `draw_styled` issues this call list to every `DrawTarget` (the list does not depend on the target type): carried by correspondence + oracle only
-- [V] `StrokeStyle::Dotted` is outside the property (solid strokes only); not modelled
-- [V] that the HARNESS's recording target keeps the same map (Rust `BTreeMap<(y, x), colour>`, insert = last write wins) and that `fmt_map` / `fmtPix` print equal lists as equal texts: Rust-side / string formatting, carried by correspondence only (proved on the Lean side, Props/C06/CanonPix.lean: the driver's `canonPix` - sort + last of runs - is strictly sorted by (y, x) and lists exactly the graph of `PMap.empty.apply writes`; equal lists iff equal maps)

end EG.C06.Rectangle
