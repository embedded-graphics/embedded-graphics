/-
  C06 (ellipse part) — a styled ellipse with a solid stroke paints a point with the fill colour iff
  `fill_area()` contains it, with the stroke colour iff `stroke_area()` contains it and `fill_area()`
  does not (and the stroke width is non-zero), and leaves all other points untouched; the stroke
  area is the ellipse grown on every side by the outside part of the stroke width, the fill area
  the ellipse shrunk by the inside part; an inside stroke never paints outside the shape and an
  outside stroke never paints inside it. For ALL sizes (also thin ellipses and strokes wider than
  the shape). The split of the stroke width is `C06.stroke_width_split` etc. (Props/C06/Circle.lean).

  Range guards (decidable): the bounding boxes of the two areas do not saturate / overflow `i32`;
  the model's `EllipseContains` uses unbounded naturals (C08 covers the `u32` range).
-/
import EG.Lemmas.EllipseStyled
namespace EG.C06
open EG EG.Ellipse

/-- `offset(k)`, `k ≥ 0`: grown by `k` on every side. -/
theorem ellipse_offset_grow (e : Ellipse) (k : Nat) (_hw : 1 ≤ e.size.w) (_hh : 1 ≤ e.size.h)
    (sw : e.size.w + 2 * k ≤ 4294967295) (sh : e.size.h + 2 * k ≤ 4294967295) :
    e.offset (k : Int) = ⟨⟨e.tl.x - k, e.tl.y - k⟩, ⟨e.size.w + 2 * k, e.size.h + 2 * k⟩⟩ :=
  offset_grow e k sw sh
example : 1 ≤ (⟨⟨-3, 2⟩, ⟨7, 4⟩⟩ : Ellipse).size.w ∧ 1 ≤ (⟨⟨-3, 2⟩, ⟨7, 4⟩⟩ : Ellipse).size.h := by decide

/-- `offset(-k)`: shrunk by `k` on every side while something is left ... -/
theorem ellipse_offset_shrink (e : Ellipse) (k : Nat) (hk : 1 ≤ k) (hw : 2 * k < e.size.w)
    (hh : 2 * k < e.size.h) :
    e.offset (-(k : Int)) = ⟨⟨e.tl.x + k, e.tl.y + k⟩, ⟨e.size.w - 2 * k, e.size.h - 2 * k⟩⟩ :=
  offset_shrink e k hk hw hh
example : 2 * 1 < (⟨⟨-3, 2⟩, ⟨7, 4⟩⟩ : Ellipse).size.w ∧ 2 * 1 < (⟨⟨-3, 2⟩, ⟨7, 4⟩⟩ : Ellipse).size.h := by decide

/-- ... and each side saturates at 0 otherwise; an ellipse with a zero side is empty. -/
theorem ellipse_offset_collapse (e : Ellipse) (k : Nat) (hk : 1 ≤ k)
    (hd : e.size.w ≤ 2 * k ∨ e.size.h ≤ 2 * k) (p : Pt) :
    (e.offset (-(k : Int))).size = ⟨e.size.w - 2 * k, e.size.h - 2 * k⟩ ∧
    (e.offset (-(k : Int))).contains p = false := by
  have hs := offset_shrink_size e k hk
  refine ⟨hs, contains_false_of_zero ?_ p⟩
  rw [hs]; simp only; omega
example : (⟨⟨-3, 2⟩, ⟨7, 4⟩⟩ : Ellipse).size.w ≤ 2 * 2 ∨ (⟨⟨-3, 2⟩, ⟨7, 4⟩⟩ : Ellipse).size.h ≤ 2 * 2 := by
  decide

/-- `offset` keeps `center_2x` whenever both ellipses are non-empty (same parity per axis). -/
theorem ellipse_offset_keeps_center (e : Ellipse) (s' : Sz) (hw : 1 ≤ e.size.w) (hh : 1 ≤ e.size.h)
    (hw' : 1 ≤ s'.w) (hh' : 1 ≤ s'.h) (pw : s'.w % 2 = e.size.w % 2) (ph : s'.h % 2 = e.size.h % 2) :
    (Ellipse.withCenter e.center s').center2x = e.center2x :=
  withCenter_center2x e s' hw hh hw' hh' pw ph

/-- **The stroke area is the ellipse grown on every side by the outside part of the width.** -/
theorem ellipse_stroke_area_grown (st : PrimStyle) (e : Ellipse) (hw : 1 ≤ e.size.w) (hh : 1 ≤ e.size.h)
    (ho : st.outsideStrokeWidth ≤ 2147483647)
    (sw : e.size.w + 2 * st.outsideStrokeWidth ≤ 4294967295)
    (sh : e.size.h + 2 * st.outsideStrokeWidth ≤ 4294967295) :
    e.strokeArea st = ⟨⟨e.tl.x - st.outsideStrokeWidth, e.tl.y - st.outsideStrokeWidth⟩,
      ⟨e.size.w + 2 * st.outsideStrokeWidth, e.size.h + 2 * st.outsideStrokeWidth⟩⟩ := by
  unfold strokeArea PrimStyle.strokeOffset
  rw [satAsI32_of_le ho]
  exact offset_grow e _ sw sh
example : (⟨none, some 1, 5, .center⟩ : PrimStyle).outsideStrokeWidth ≤ 2147483647 := by decide

/-- **The fill area is the ellipse shrunk on every side by the inside part of the width** (while
something is left; otherwise it is empty). -/
theorem ellipse_fill_area_shrunk (st : PrimStyle) (e : Ellipse) (hk : 1 ≤ st.insideStrokeWidth)
    (hi : st.insideStrokeWidth ≤ 2147483647) (hw : 2 * st.insideStrokeWidth < e.size.w)
    (hh : 2 * st.insideStrokeWidth < e.size.h) :
    e.fillArea st = ⟨⟨e.tl.x + st.insideStrokeWidth, e.tl.y + st.insideStrokeWidth⟩,
      ⟨e.size.w - 2 * st.insideStrokeWidth, e.size.h - 2 * st.insideStrokeWidth⟩⟩ := by
  unfold fillArea PrimStyle.fillOffset
  rw [satAsI32_of_le hi]
  exact offset_shrink e _ hk hw hh
example : 1 ≤ (⟨none, some 1, 3, .center⟩ : PrimStyle).insideStrokeWidth ∧
    2 * (⟨none, some 1, 3, .center⟩ : PrimStyle).insideStrokeWidth < 7 := by decide

theorem ellipse_fill_area_collapsed (st : PrimStyle) (e : Ellipse) (hk : 1 ≤ st.insideStrokeWidth)
    (hi : st.insideStrokeWidth ≤ 2147483647)
    (hd : e.size.w ≤ 2 * st.insideStrokeWidth ∨ e.size.h ≤ 2 * st.insideStrokeWidth) (p : Pt) :
    (e.fillArea st).contains p = false := by
  unfold fillArea PrimStyle.fillOffset
  rw [satAsI32_of_le hi]
  exact (ellipse_offset_collapse e _ hk hd p).2
example : (4 : Nat) ≤ 2 * (⟨none, some 1, 3, .center⟩ : PrimStyle).insideStrokeWidth := by decide

theorem ellipse_stroke_area_inside (st : PrimStyle) (e : Ellipse) (h : st.strokeAlignment = .inside)
    (hw : e.size.w ≤ 4294967295) (hh : e.size.h ≤ 4294967295) : e.strokeArea st = e :=
  strokeArea_inside e h hw hh
theorem ellipse_fill_area_outside (st : PrimStyle) (e : Ellipse) (h : st.strokeAlignment = .outside)
    (hw : e.size.w ≤ 4294967295) (hh : e.size.h ≤ 4294967295) : e.fillArea st = e :=
  fillArea_outside e h hw hh

/-- The fill area lies within the stroke area. -/
theorem ellipse_fill_area_subset_stroke_area (st : PrimStyle) (e : Ellipse)
    (hS : (e.strokeArea st).InRange) (hF : (e.fillArea st).InRange) (p : Pt)
    (h : (e.fillArea st).contains p = true) : (e.strokeArea st).contains p = true :=
  fill_subset_stroke hS hF h

/-- **`styled_ellipse_exact`.** On a target with bounding box `B`, natively (R2) and through the
trait defaults (R1), `draw()` leaves at `p`: nothing outside `B`; the fill colour (if one is set)
iff `fill_area` contains `p`; the stroke colour (if one is set) iff `stroke_area` contains `p`,
`fill_area` does not and the width is non-zero; nothing otherwise. -/
theorem styled_ellipse_exact (st : PrimStyle) (e : Ellipse) (B : Rect)
    (hS : (e.strokeArea st).InRange) (hF : (e.fillArea st).InRange) (p : Pt) :
    runNative B (e.drawStyled st) p =
      (if B.contains p = true then
        if (e.fillArea st).contains p = true then st.fillColor
        else if (e.strokeArea st).contains p = true ∧ st.strokeWidth > 0 then st.strokeColor
        else none
      else none) ∧
    runDefault B (e.drawStyled st) p = runNative B (e.drawStyled st) p :=
  ⟨(styledPicture hS hF).draw B p, congrFun (Tgt.runDefault_eq_runNative B _) p⟩
example : (Ellipse.strokeArea ⟨some 1, some 2, 9, .center⟩ ⟨⟨-3, 2⟩, ⟨7, 3⟩⟩).InRange ∧
    (Ellipse.fillArea ⟨some 1, some 2, 9, .center⟩ ⟨⟨-3, 2⟩, ⟨7, 3⟩⟩).InRange := by decide

/-- The same for `draw_iter(pixels())`. -/
theorem styled_ellipse_pixels_exact (st : PrimStyle) (e : Ellipse) (B : Rect)
    (hS : (e.strokeArea st).InRange) (hF : (e.fillArea st).InRange) (p : Pt) :
    PMap.empty.apply (clipWrites B (e.styledPixels st)) p =
      if B.contains p = true then styledExpected st e p else none :=
  apply_clip_eq_of_mem_iff _ _ (mem_styledPixels_iff hS hF) B p

/-- **An inside stroke never paints outside the shape.** -/
theorem ellipse_inside_stroke_inside (st : PrimStyle) (e : Ellipse) (B : Rect)
    (h : st.strokeAlignment = .inside) (he : e.InRange)
    (hF : (e.fillArea st).InRange) (p : Pt) (col : Color)
    (hp : runNative B (e.drawStyled st) p = some col) : e.contains p = true := by
  have hSe := strokeArea_inside (st := st) e h
    (Nat.le_trans (Rect.InRange.w_le he) (by decide)) (Nat.le_trans (Rect.InRange.h_le he) (by decide))
  have := (styledPicture (by rw [hSe]; exact he) hF).some_imp_stroke hp
  rwa [hSe] at this
example : (⟨⟨-3, 2⟩, ⟨7, 3⟩⟩ : Ellipse).InRange ∧
    (Ellipse.fillArea ⟨some 1, some 2, 2, .inside⟩ ⟨⟨-3, 2⟩, ⟨7, 3⟩⟩).InRange := by decide

/-- **An outside stroke never paints inside the shape.** -/
theorem ellipse_outside_stroke_outside (st : PrimStyle) (e : Ellipse) (B : Rect)
    (h : st.strokeAlignment = .outside) (he : e.InRange)
    (hS : (e.strokeArea st).InRange) (p : Pt) (hp : e.contains p = true) :
    runNative B (e.drawStyled st) p = if B.contains p = true then st.fillColor else none := by
  have hFe := fillArea_outside (st := st) e h
    (Nat.le_trans (Rect.InRange.w_le he) (by decide)) (Nat.le_trans (Rect.InRange.h_le he) (by decide))
  exact (styledPicture hS (by rw [hFe]; exact he)).eq_fill B (by rw [hFe]; exact hp)
example : (⟨⟨-3, 2⟩, ⟨7, 3⟩⟩ : Ellipse).InRange ∧
    (Ellipse.strokeArea ⟨some 1, some 2, 2, .outside⟩ ⟨⟨-3, 2⟩, ⟨7, 3⟩⟩).InRange := by decide

-- [V] ellipse styles whose area bounding boxes leave the i32 range or whose `EllipseContains` products leave the u32 range (C08's topic; unbounded naturals in the model): carried by correspondence + oracle only
end EG.C06
