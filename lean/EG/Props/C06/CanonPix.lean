/-
  C06 / C01 / C03 (tie) — the canonical pixel-map text of the correspondence is a PROVED function of
  the pixel map. The model driver prints a picture as `fmtPix (canonPix writes)` (EG/Driver/Util.lean:
  a stable merge sort of the write list by (y, x), then the last entry of every run of equal points);
  the harness prints the `BTreeMap<(y, x), colour>` of its recording target. Here: for EVERY write
  list, `canonPix` is strictly sorted by (y, x) (so no point occurs twice), its entries are exactly
  the pairs (point, colour last written to it) - i.e. the graph of `PMap.empty.apply writes`, the
  pixel map all picture theorems (C01, C03, C06, ..) speak about - and two write lists get the same
  canonical list iff they leave the same pixel map. What the driver compares is therefore the map
  the theorems are about, not merely something the streams happen to agree on.
  Helper lemmas: EG/Lemmas/Glue3CanonPix.lean.
-/
import EG.Lemmas.Glue3CanonPix
import EG.Lemmas.PMap
namespace EG.C06.CanonPix
open EG EG.Tgt EG.Driver

/-- **`canonPix` is strictly sorted row-major** (y first, then x) - for every write list. -/
theorem canon_pix_sorted (ws : Writes) :
    (canonPix ws).Pairwise (fun a b => Pt.rowMajorLt a.1 b.1) := Glue3.canonPix_strict ws

/-- **`canonPix` lists no point twice.** -/
theorem canon_pix_no_duplicate_point (ws : Writes) : ((canonPix ws).map (·.1)).Nodup := by
  rw [List.Nodup, List.pairwise_map]
  exact (Glue3.canonPix_strict ws).imp (fun h => Glue3.rowMajorLt_ne h)

/-- **`canonPix` prints the pixel map**: `(p, c)` is an entry iff the map left by the writes on an
empty target (`PMap.empty.apply`, last write wins) has colour `c` at `p`; equivalently iff the
last write to `p` in the list has colour `c`. -/
theorem canon_pix_is_pixel_map (ws : Writes) (p : Pt) (c : Color) :
    ((p, c) ∈ canonPix ws ↔ PMap.empty.apply ws p = some c) ∧
    ((p, c) ∈ canonPix ws ↔ lastWrite ws p = some c) := by
  rw [PMap.empty_apply]
  exact ⟨Glue3.mem_canonPix ws p c, Glue3.mem_canonPix ws p c⟩

/-- **Equal canonical lists iff equal pixel maps**: the text the correspondence compares decides
equality of the maps, in both directions. -/
theorem canon_pix_eq_iff_same_map (ws ws' : Writes) :
    canonPix ws = canonPix ws' ↔ ∀ p, PMap.empty.apply ws p = PMap.empty.apply ws' p := by
  simp only [PMap.empty_apply]
  exact Glue3.canonPix_eq_iff ws ws'

-- a picture with an overwritten point and unsorted writes: the later colour is printed, the earlier is not
example : (⟨3, 1⟩, 9) ∈ canonPix [(⟨3, 1⟩, 7), (⟨0, 0⟩, 1), (⟨3, 1⟩, 9), (⟨2, 0⟩, 4)] ∧
    (⟨3, 1⟩, 7) ∉ canonPix [(⟨3, 1⟩, 7), (⟨0, 0⟩, 1), (⟨3, 1⟩, 9), (⟨2, 0⟩, 4)] :=
  ⟨(canon_pix_is_pixel_map _ _ _).2.mpr (by decide),
   fun h => absurd ((canon_pix_is_pixel_map _ _ _).2.mp h) (by decide)⟩

end EG.C06.CanonPix
