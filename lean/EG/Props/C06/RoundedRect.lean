/-
  C06 (rounded rectangle part) — a styled rounded rectangle with a solid stroke paints a point with
  the fill colour iff `fill_area()` contains it, with the stroke colour iff `stroke_area()` contains
  it and `fill_area()` does not (and the stroke width is non-zero), and leaves all other points
  untouched — all sizes incl. strokes wider than the shape, widths, alignments, colour options.

  Model: `EG.Model.RoundedRect` + `Style` + `Scanline` / `StyledScanline` (styled.rs as repaired:
  the fill range of a styled scanline is an `Option`, rows without a fill point have no fill part);
  pixel maps are those of the recording targets (`runNative` = R2) with an arbitrary box `B`.
  Range guards (decidable): the bounding boxes of the two areas do not saturate / overflow `i32`.

  What is proved for ALL inputs: the styled scanlines paint the fill colour exactly on the points of
  the stroke area that the fill area contains and the stroke colour on the other points of the
  stroke area (`styled_rrect_lines_exact`); the fill-only path paints exactly the fill area. The
  property text follows under `FillInStroke` (every point of the fill area lies in the stroke
  area). `FillInStroke` is proved here for stroke width 0 and for collapsed fill areas, and in
  Props/C06/RoundedRectFillInStroke.lean for every stroke width and alignment whenever `confine`
  leaves the radii of both areas unchanged; without that guard it is false (`not_fill_in_stroke_all`
  there, the known finding).
-/
import EG.Lemmas.RoundedRectStyled
namespace EG.C06
open EG EG.RoundedRect

/-- `stroke_area()` / `fill_area()` are `offset(+outside)` / `offset(-inside)`: the rectangle is
offset (C16), every corner radius grows by the offset (saturating) or shrinks by it (saturating). -/
theorem rrect_offset_geometry (r : RoundedRect) (k : Nat) :
    (r.offset (k : Int)).rect = r.rect.offset k ∧
    (r.offset (k : Int)).corners = ⟨r.corners.tl.satAdd (Sz.newEqual k), r.corners.tr.satAdd (Sz.newEqual k),
      r.corners.br.satAdd (Sz.newEqual k), r.corners.bl.satAdd (Sz.newEqual k)⟩ ∧
    (1 ≤ k → (r.offset (-(k : Int))).rect = r.rect.offset (-(k : Int)) ∧
      (r.offset (-(k : Int))).corners = ⟨r.corners.tl.satSub (Sz.newEqual k), r.corners.tr.satSub (Sz.newEqual k),
        r.corners.br.satSub (Sz.newEqual k), r.corners.bl.satSub (Sz.newEqual k)⟩) := by
  refine ⟨rfl, ?_, ?_⟩
  · unfold offset
    have h : (k : Int) ≥ 0 := by omega
    simp only [h, ↓reduceIte, Int.toNat_natCast]
  · intro hk
    refine ⟨rfl, ?_⟩
    unfold offset
    have h : ¬ (-(k : Int) ≥ 0) := by omega
    simp only [h, ↓reduceIte, Int.neg_neg, Int.toNat_natCast]

/-- The styled bounding box is the bounding box of the stroke area. -/
theorem rrect_styled_bbox_eq_stroke_area_bbox (st : Style) (r : RoundedRect) :
    r.styledBoundingBox st = (r.strokeArea st).boundingBox :=
  styledBoundingBox_eq st r

/-- Stroke width 0: `stroke_area() = fill_area()` (= `offset(0)`). -/
theorem rrect_areas_eq_of_zero_width (st : Style) (r : RoundedRect) (h : st.width = 0) :
    r.strokeArea st = r.fillArea st := areas_eq_of_zero_width st r h
example : (⟨some 1, some 2, 0, .center⟩ : Style).width = 0 := rfl

/-- **Every styled scanline list of a rounded rectangle is exact w.r.t. the two areas**: the
coloured points are the fill colour on `stroke_area ∩ fill_area` and the stroke colour on
`stroke_area \ fill_area` — for any two rounded rectangles `S`, `F` in range (all radii, also
overlapping corner boxes, empty rows, `F` not inside `S`). -/
theorem styled_rrect_lines_exact (S F : RoundedRect) (hS : S.InRange) (hF : F.InRange)
    (scol fcol : Option Color) (p : Pt) (col : Color) :
    (p, col) ∈ pixelsSpec scol fcol (styledScanlines S F).toList ↔
      (S.contains p = true ∧ F.contains p = true ∧ fcol = some col) ∨
      (S.contains p = true ∧ F.contains p = false ∧ scol = some col) :=
  (styledLines hS hF).mem_lines scol fcol p col
example : (⟨⟨⟨-3, 2⟩, ⟨9, 7⟩⟩, CornerRadii.new ⟨3, 2⟩⟩ : RoundedRect).InRange ∧
    (⟨⟨⟨-1, 4⟩, ⟨5, 3⟩⟩, CornerRadii.new ⟨1, 0⟩⟩ : RoundedRect).InRange := by decide

/-- Every styled scanline splits its row of the stroke area into stroke-left / fill / stroke-right
(`ss ≤ fs ≤ fe ≤ se`), the fill part being exactly the points of the row inside the fill area; rows
without such a point have an empty fill part at the right end. -/
theorem styled_rrect_scanline_split (S F : RoundedRect) (hS : S.InRange) (hF : F.InRange) :
    ∀ l ∈ (styledScanlines S F).toList, ∃ y, RowOK S F y l := by
  intro l hl
  obtain ⟨y, _, h⟩ := lines_ok hS hF l hl
  exact ⟨y, h⟩

/-- The fill-only path (`Scanlines::new(&fill_area)`) paints exactly the fill area. -/
theorem styled_rrect_fill_only_exact (F : RoundedRect) (hF : F.InRange) (fc : Color) (B : Rect)
    (p : Pt) (col : Color) :
    (p, col) ∈ (drawFillLines fc F.scanlines.toList).flatMap (Call.lowerNative B) ↔
      F.contains p = true ∧ fc = col := by
  rw [drawFillLines_lowerNative fc _ (scanline_wf hF), mem_fill_lines_iff hF]

/-- The full claim: for every style, shape and target box the map of `draw()` is the one the
property text prescribes (`styledExpected`: fill colour on `fill_area`, else stroke colour on
`stroke_area` if the width is non-zero, else untouched). -/
def StyledRRectExact : Prop :=
  ∀ (st : Style) (r : RoundedRect) (B : Rect), (r.strokeArea st).InRange → (r.fillArea st).InRange →
    ∀ p, runNative B (r.drawStyled st) p = if B.contains p = true then styledExpected st r p else none

/-- **`StyledRRectExact` under `FillInStroke`**: the pixel map of `draw()` on `R2` at every point
is the colour the property text prescribes, clipped to the target. -/
theorem styled_rrect_exact_partial (st : Style) (r : RoundedRect) (B : Rect)
    (hS : (r.strokeArea st).InRange) (hF : (r.fillArea st).InRange) (hI : FillInStroke st r) (p : Pt) :
    runNative B (r.drawStyled st) p = if B.contains p = true then styledExpected st r p else none :=
  (styledPicture hS hF hI).draw B p
example : let st : Style := ⟨some 1, some 2, 0, .center⟩
    let r : RoundedRect := ⟨⟨⟨-3, 2⟩, ⟨9, 7⟩⟩, CornerRadii.new ⟨3, 2⟩⟩
    (r.strokeArea st).InRange ∧ (r.fillArea st).InRange ∧ FillInStroke st r :=
  ⟨by decide, by decide, fillInStroke_of_zero_width _ _ rfl⟩

/-- The three cases of the property text, under the same hypothesis: fill colour iff `fill_area()`
contains the point, stroke colour iff `stroke_area()` contains it and `fill_area()` does not and the
width is non-zero, untouched otherwise. -/
theorem styled_rrect_three_cases_partial (st : Style) (r : RoundedRect) (B : Rect)
    (hS : (r.strokeArea st).InRange) (hF : (r.fillArea st).InRange) (hI : FillInStroke st r) (p : Pt)
    (hB : B.contains p = true) (col : Color) :
    runNative B (r.drawStyled st) p = some col ↔
      ((r.fillArea st).contains p = true ∧ st.fill = some col) ∨
      ((r.strokeArea st).contains p = true ∧ (r.fillArea st).contains p = false ∧
        st.width > 0 ∧ st.stroke = some col) :=
  (styledPicture hS hF hI).eq_some_iff hB col

/-- Stroke width 0 (any alignment, any colours): the property text holds outright. -/
theorem styled_rrect_exact_zero_width (st : Style) (r : RoundedRect) (B : Rect) (h0 : st.width = 0)
    (hF : (r.fillArea st).InRange) (p : Pt) :
    runNative B (r.drawStyled st) p = if B.contains p = true then styledExpected st r p else none :=
  styled_rrect_exact_partial st r B (by rw [areas_eq_of_zero_width st r h0]; exact hF) hF
    (fillInStroke_of_zero_width st r h0) p
example : (⟨some 1, none, 0, .inside⟩ : Style).width = 0 ∧
    (RoundedRect.fillArea ⟨some 1, none, 0, .inside⟩ ⟨⟨⟨-3, 2⟩, ⟨9, 7⟩⟩, CornerRadii.new ⟨3, 2⟩⟩).InRange := by
  decide

/-- Strokes so wide that the fill area collapses (zero width or height, e.g. an inside stroke of at
least half the shape): the property text holds outright — everything painted is stroke. -/
theorem styled_rrect_exact_collapsed_fill (st : Style) (r : RoundedRect) (B : Rect)
    (hS : (r.strokeArea st).InRange) (hF : (r.fillArea st).InRange)
    (hz : (r.fillArea st).rect.size.w = 0 ∨ (r.fillArea st).rect.size.h = 0) (p : Pt) :
    runNative B (r.drawStyled st) p = if B.contains p = true then styledExpected st r p else none :=
  styled_rrect_exact_partial st r B hS hF (fillInStroke_of_collapsed st r hF hz) p
example : let st : Style := ⟨some 1, some 2, 4, .inside⟩
    let r : RoundedRect := ⟨⟨⟨-3, 2⟩, ⟨9, 7⟩⟩, CornerRadii.new ⟨3, 2⟩⟩
    (r.strokeArea st).InRange ∧ (r.fillArea st).InRange ∧
      ((r.fillArea st).rect.size.w = 0 ∨ (r.fillArea st).rect.size.h = 0) := by decide

-- [N] FillInStroke for ALL rounded rectangles is false (known finding, see Props/C06/RoundedRectFillInStroke.lean: `not_fill_in_stroke_all`, kernel-decided, replayed on the real code); proved whenever `confine` changes neither area's radii (`fill_in_stroke_partial_fitting` and corollaries)
-- [V] styled rounded rectangles whose stroke/fill area boxes leave the i32 range (guards false): carried by correspondence + oracle only
end EG.C06
