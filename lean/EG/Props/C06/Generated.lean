/-
  C06 — the REGENERATED `PrimitiveStyle` and styled rectangle equal the hand-written models.

  `EG/Generated/StyledSrc.lean` is written by `tools/tr_styled.py` from /repo's Rust text
  (src/primitives/primitive_style.rs, src/primitives/rectangle/styled.rs) on every run of a check: one Lean `def` per
  Rust function, arm for arm; every Rust primitive is a function of the trusted preludes
  `EG/Model/RectSrcPrelude.lean` / `EG/Model/StyledSrcPrelude.lean`, a call of a `Rectangle` function is the regenerated
  definition of `EG/Generated/RectSrc.lean`. This file proves `<name>_src_eq_model` for every translated function of
  `PrimitiveStyle`, `PrimitiveStyleBuilder`, and for `draw_styled` / `styled_bounding_box` of the rectangle, and restates the
  C06 rectangle headline over the generated functions (`src_*`). The iterator is in `Props/C01/Generated.lean`.

  Where the two differ (stated exactly):
  * The Rust `PrimitiveStyle` has a fifth field `stroke_style` (`Solid` / `Dotted`); the hand model `EG.Style` is the
    `Solid` instance. `toStyle` forgets the field, `ofStyle` sets it to `Solid`. The theorems about functions that never
    read the field hold for EVERY Rust style; `fill_area` and `draw_styled` are for `stroke_style = Solid`
    (`fill_area_dotted_src` says what the other arm is; the `Dotted` block of `draw_styled` is not translated: it is the
    parameter `dotted` of the generated function, which the `Solid` instance does not use: `draw_styled_src_ignores_dotted`).
  * `Rectangle::offset` needs `IsU32` on the size (the `u32` type bound that `Nat` lacks; from C16's tie).
  * In `draw_styled` the two `Point + Size` (`bottom_border`, `left_border`) cast with `as i32` behind a `debug_assert!`, and
    `right_border` casts `width - left.width` with `as i32`; the hand model adds mathematically. They agree when the
    stroke area's size fits `i32` (`FitsI32 (strokeArea ..).size`), which `BordersFit` states. It follows from the guard of the
    C06 pixel theorems (`Guard`: the stroke area lies in the `i32` coordinate range): `bordersFit_of_guard`.
  * `StrokeAlignment` has capitalised constructors in the generated enum (`alignOf`).
-/
import EG.Generated.StyledSrc
import EG.Props.C16.Generated
import EG.Props.C06.Rectangle
import EG.Model.PrimStyle
namespace EG.C06.Src
open EG EG.Rect EG.StyledRect EG.RectSrcPrelude EG.StyledSrcPrelude EG.Generated EG.C16.Src

def alignOf : StyledSrc.StrokeAlignment → EG.StrokeAlignment
  | .Inside => .inside | .Center => .center | .Outside => .outside
def alignTo : EG.StrokeAlignment → StyledSrc.StrokeAlignment
  | .inside => .Inside | .center => .Center | .outside => .Outside

/-- The Rust style as the hand model's (the `stroke_style` field is forgotten). -/
def toStyle (p : StyledSrc.PrimitiveStyle) : Style := ⟨p.fill_color, p.stroke_color, p.stroke_width, alignOf p.stroke_alignment⟩
/-- The hand model's style as the Rust style with `stroke_style = Solid`. -/
def ofStyle (s : Style) : StyledSrc.PrimitiveStyle := ⟨s.fill, s.stroke, s.width, alignTo s.align, .Solid⟩

theorem toStyle_ofStyle (s : Style) : toStyle (ofStyle s) = s := by
  obtain ⟨f, st, w, a⟩ := s; cases a <;> rfl
theorem ofStyle_toStyle (p : StyledSrc.PrimitiveStyle) (h : p.stroke_style = .Solid) : ofStyle (toStyle p) = p := by
  obtain ⟨f, st, w, a, ss⟩ := p; cases a <;> simp_all [ofStyle, toStyle, alignOf, alignTo]
theorem ofStyle_solid (s : Style) : (ofStyle s).stroke_style = .Solid := rfl

attribute [styled_prelude] option_is_none option_filter enum_eq enum_ne target_fill_solid Pixel_mk
  StyledSrc.PrimitiveStyle_mk StyledSrc.PrimitiveStyle_fill_color StyledSrc.PrimitiveStyle_stroke_color
  StyledSrc.PrimitiveStyle_stroke_width StyledSrc.PrimitiveStyle_stroke_alignment StyledSrc.PrimitiveStyle_stroke_style
  StyledSrc.PrimitiveStyle_set_fill_color StyledSrc.PrimitiveStyle_set_stroke_color StyledSrc.PrimitiveStyle_set_stroke_width
  StyledSrc.PrimitiveStyle_set_stroke_alignment StyledSrc.PrimitiveStyle_set_stroke_style
  StyledSrc.PrimitiveStyleBuilder_mk StyledSrc.PrimitiveStyleBuilder_style StyledSrc.PrimitiveStyleBuilder_set_style
  u32_div u32_saturating_add u32_saturating_as_i32 u32_eq u32_gt u32_min u32_sub u32_add u32_mul u32_as_i32
  u32_saturating_sub i32_neg bool_and bool_or bool_not Size_width Size_height Rectangle_size Rectangle_top_left

theorem const_default_src_eq_model :
    StyledSrc.PrimitiveStyle_const_default = ⟨none, none, 0, .Center, .Solid⟩ := rfl
theorem StrokeStyle_const_default_src_eq_model : StyledSrc.StrokeStyle_const_default = .Solid := rfl
theorem StrokeAlignment_default_src_eq_model : alignOf StyledSrc.StrokeAlignment_Default_default = .center := rfl
theorem PrimitiveStyle_new_src_eq_model : StyledSrc.PrimitiveStyle_new = ofStyle ⟨none, none, 0, .center⟩ := rfl
theorem PrimitiveStyle_default_src_eq_model : StyledSrc.PrimitiveStyle_Default_default = StyledSrc.PrimitiveStyle_new := rfl
theorem with_stroke_src_eq_model (c : Color) (w : Nat) :
    StyledSrc.PrimitiveStyle_with_stroke c w = ofStyle ⟨none, some c, w, .center⟩ := rfl
theorem with_fill_src_eq_model (c : Color) :
    StyledSrc.PrimitiveStyle_with_fill c = ofStyle ⟨some c, none, 0, .center⟩ := rfl

theorem outside_stroke_width_src_eq_model (p : StyledSrc.PrimitiveStyle) :
    StyledSrc.PrimitiveStyle_outside_stroke_width p = (toStyle p).outsideStrokeWidth := by
  obtain ⟨f, st, w, a, ss⟩ := p
  cases a <;> rfl

theorem inside_stroke_width_src_eq_model (p : StyledSrc.PrimitiveStyle) :
    StyledSrc.PrimitiveStyle_inside_stroke_width p = (toStyle p).insideStrokeWidth := by
  obtain ⟨f, st, w, a, ss⟩ := p
  cases a <;> rfl

theorem is_transparent_src_eq_model (p : StyledSrc.PrimitiveStyle) :
    StyledSrc.PrimitiveStyle_is_transparent p = (toStyle p).isTransparent := rfl

theorem effective_stroke_color_src_eq_model (p : StyledSrc.PrimitiveStyle) :
    StyledSrc.PrimitiveStyle_effective_stroke_color p = (toStyle p).effectiveStrokeColor := rfl

/-! ### `stroke_area`, `fill_area` (instantiated with `P := Rectangle`), `styled_bounding_box` -/

theorem strokeOffset_src (p : StyledSrc.PrimitiveStyle) :
    u32_saturating_as_i32 (StyledSrc.PrimitiveStyle_outside_stroke_width p) = (toStyle p).strokeOffset := by
  rw [outside_stroke_width_src_eq_model]; rfl

theorem stroke_area_src_eq_model (p : StyledSrc.PrimitiveStyle) (r : Rect) (h : IsU32 r.size) :
    StyledSrc.PrimitiveStyle_stroke_area p r = strokeArea (toStyle p) r := by
  unfold StyledSrc.PrimitiveStyle_stroke_area strokeArea
  rw [strokeOffset_src, OffsetOutline_offset_src_eq_model r _ h]

/-- `fill_area` with a solid stroke: the shape shrunk by the inside part of the width. -/
theorem fill_area_src_eq_model (p : StyledSrc.PrimitiveStyle) (r : Rect) (hs : p.stroke_style = .Solid) (h : IsU32 r.size) :
    StyledSrc.PrimitiveStyle_fill_area p r = fillArea (toStyle p) r := by
  unfold StyledSrc.PrimitiveStyle_fill_area fillArea
  simp only [styled_prelude]
  simp only [hs, decide_true, ↓reduceIte]
  rw [inside_stroke_width_src_eq_model, OffsetOutline_offset_src_eq_model r _ h]
  rfl

/-- The other arm of `fill_area` (not in the hand model): with a dotted stroke the fill area is the shape itself. -/
theorem fill_area_dotted_src (p : StyledSrc.PrimitiveStyle) (r : Rect) (hs : p.stroke_style = .Dotted) (h : IsU32 r.size) :
    StyledSrc.PrimitiveStyle_fill_area p r = r.offset 0 := by
  unfold StyledSrc.PrimitiveStyle_fill_area
  simp only [styled_prelude]
  have hd : decide (StyledSrc.StrokeStyle.Dotted = StyledSrc.StrokeStyle.Solid) = false := by decide
  simp only [hs, hd, Bool.false_eq_true, ↓reduceIte]
  rw [OffsetOutline_offset_src_eq_model r _ h]

theorem styled_bounding_box_src_eq_model (p : StyledSrc.PrimitiveStyle) (r : Rect) (h : IsU32 r.size) :
    StyledSrc.Rectangle_StyledDimensions_styled_bounding_box r p = styledBoundingBox (toStyle p) r := by
  unfold StyledSrc.Rectangle_StyledDimensions_styled_bounding_box styledBoundingBox
  rw [strokeOffset_src, Dimensions_bounding_box_src_eq_model, offset_src_eq_model r _ h]

theorem builder_new_src_eq_model : StyledSrc.PrimitiveStyleBuilder_build StyledSrc.PrimitiveStyleBuilder_new = StyledSrc.PrimitiveStyle_new := rfl
theorem builder_fill_color_src_eq_model (b : StyledSrc.PrimitiveStyleBuilder) (c : Color) :
    StyledSrc.PrimitiveStyleBuilder_fill_color b c = ⟨{ b.style with fill_color := some c }⟩ := rfl
theorem builder_reset_fill_color_src_eq_model (b : StyledSrc.PrimitiveStyleBuilder) :
    StyledSrc.PrimitiveStyleBuilder_reset_fill_color b = ⟨{ b.style with fill_color := none }⟩ := rfl
theorem builder_stroke_color_src_eq_model (b : StyledSrc.PrimitiveStyleBuilder) (c : Color) :
    StyledSrc.PrimitiveStyleBuilder_stroke_color b c = ⟨{ b.style with stroke_color := some c }⟩ := rfl
theorem builder_reset_stroke_color_src_eq_model (b : StyledSrc.PrimitiveStyleBuilder) :
    StyledSrc.PrimitiveStyleBuilder_reset_stroke_color b = ⟨{ b.style with stroke_color := none }⟩ := rfl
theorem builder_stroke_width_src_eq_model (b : StyledSrc.PrimitiveStyleBuilder) (w : Nat) :
    StyledSrc.PrimitiveStyleBuilder_stroke_width b w = ⟨{ b.style with stroke_width := w }⟩ := rfl
theorem builder_stroke_alignment_src_eq_model (b : StyledSrc.PrimitiveStyleBuilder) (a : StyledSrc.StrokeAlignment) :
    StyledSrc.PrimitiveStyleBuilder_stroke_alignment b a = ⟨{ b.style with stroke_alignment := a }⟩ := rfl
theorem builder_stroke_style_src_eq_model (b : StyledSrc.PrimitiveStyleBuilder) (ss : StyledSrc.StrokeStyle) :
    StyledSrc.PrimitiveStyleBuilder_stroke_style b ss = ⟨{ b.style with stroke_style := ss }⟩ := rfl
theorem builder_build_src_eq_model (b : StyledSrc.PrimitiveStyleBuilder) : StyledSrc.PrimitiveStyleBuilder_build b = b.style := rfl
theorem builder_from_src_eq_model (p : StyledSrc.PrimitiveStyle) :
    StyledSrc.PrimitiveStyleBuilder_build (StyledSrc.PrimitiveStyleBuilder_From_from p) = p := rfl

/-- A style built by the builder from the defaults with all four setters is the model style (what the harness's
builder-built styles are). -/
theorem builder_chain_src_eq_model (fc sc : Color) (w : Nat) (a : EG.StrokeAlignment) :
    StyledSrc.PrimitiveStyleBuilder_build
      (StyledSrc.PrimitiveStyleBuilder_stroke_alignment
        (StyledSrc.PrimitiveStyleBuilder_stroke_width
          (StyledSrc.PrimitiveStyleBuilder_stroke_color
            (StyledSrc.PrimitiveStyleBuilder_fill_color StyledSrc.PrimitiveStyleBuilder_new fc) sc) w) (alignTo a))
      = ofStyle ⟨some fc, some sc, w, a⟩ := rfl

/-- The `as i32` casts of the border computations do not wrap: the stroke area's size fits `i32`. -/
def BordersFit (s : Style) (r : Rect) : Prop := IsU32 r.size ∧ FitsI32 (strokeArea s r).size
instance (s : Style) (r : Rect) : Decidable (BordersFit s r) := by unfold BordersFit; exact inferInstance
example : BordersFit ⟨some 7, some 9, 3, .center⟩ ⟨⟨-2, -1⟩, ⟨4, 5⟩⟩ := by decide

theorem draw_styled_src_eq_model (s : Style) (r : Rect) (h : BordersFit s r) (dotted : List Call) :
    StyledSrc.Rectangle_StyledDrawable_draw_styled r (ofStyle s) dotted = drawCalls s r := by
  obtain ⟨hu, hw, hh⟩ := h
  have hfa := fill_area_src_eq_model (ofStyle s) r rfl hu
  have hsa := stroke_area_src_eq_model (ofStyle s) r hu
  have hec := effective_stroke_color_src_eq_model (ofStyle s)
  rw [toStyle_ofStyle] at hfa hsa hec
  have e1 : (ofStyle s).fill_color = s.fill := rfl
  have e2 : (ofStyle s).stroke_style = .Solid := rfl
  have e3 : (ofStyle s).stroke_width = s.width := rfl
  have hdot : (decide (StyledSrc.StrokeStyle.Solid = StyledSrc.StrokeStyle.Dotted)) = false := by decide
  unfold StyledSrc.Rectangle_StyledDrawable_draw_styled drawCalls fillCalls
  simp only [styled_prelude, hfa, hec, hsa, e1, e2, e3, hdot, Bool.false_eq_true, ↓reduceIte]
  -- the source holds the stroke block once per arm of the `match` on the fill colour: the border arithmetic is
  -- brought to the model's form before that `match` is split, so that it is done on one term
  unfold strokeCalls rightBorder leftBorder bottomBorder bottomStrokeWidth topBorder
  generalize strokeArea s r = sa at hw hh ⊢
  generalize fillArea s r = fa
  obtain ⟨⟨sx, sy⟩, ⟨sw, sh⟩⟩ := sa
  dsimp only at hw hh
  have h1 : sh - min s.width (sh - min s.width (sh / 2)) ≤ 2147483647 := by omega
  have h2 : min s.width (sh / 2) ≤ 2147483647 := by omega
  have h3 : sw - min (s.width * 2) (sw + 1) / 2 ≤ 2147483647 := by omega
  have h4 : (0 : Nat) ≤ 2147483647 := by omega
  have pt_add : ∀ a b c d : Int, (⟨a, b⟩ : Pt) + ⟨c, d⟩ = ⟨a + c, b + d⟩ := fun _ _ _ _ => rfl
  prelude_simp [RectSrc.new, RectSrc.Size_new, RectSrc.Point_op_add_Size, RectSrc.Point_new, RectSrc.Size_y_axis,
    RectSrc.Transform_translate, RectSrc.Point_op_add_Point, Rect.translate, h1, h2, h3, h4, ↓reduceIte, pt_add]
  cases s.fill <;> cases s.effectiveStrokeColor <;> simp only [List.nil_append, List.append_nil, List.cons_append]
  all_goals (try rfl)
  all_goals (by_cases hf : fa.size.h > 0 <;> simp [hf])

/-- The `Solid` instance of `draw_styled` does not use the untranslated `Dotted` block. -/
theorem draw_styled_src_ignores_dotted (s : Style) (r : Rect) (h : BordersFit s r) (d1 d2 : List Call) :
    StyledSrc.Rectangle_StyledDrawable_draw_styled r (ofStyle s) d1 =
      StyledSrc.Rectangle_StyledDrawable_draw_styled r (ofStyle s) d2 := by
  rw [draw_styled_src_eq_model s r h, draw_styled_src_eq_model s r h]

/-- The guard of C06's pixel theorems gives the no-wrap condition of the border computations. -/
theorem bordersFit_of_guard {s : Style} {r : Rect} (h : Guard s r) (hu : IsU32 r.size) : BordersFit s r :=
  ⟨hu, h.2.w_le, h.2.h_le⟩

/-- Every function of the two files is translated except the four free functions of the dotted border, and the one
block of `draw_styled` that calls them. An added function (an override of `Iterator::fold` for `StyledPixelsIterator`, a
second `impl` block) changes this list. -/
theorem styled_untranslated_pinned : StyledSrc.untranslated =
    [("free functions of src/primitives/rectangle/styled.rs",
        ["dot_positions_with_dotted_corners", "draw_dotted_rectangle_border_with_dotted_corners",
         "dot_positions_in_clockwise_order", "draw_dotted_rectangle_border_in_clockwise_order"]),
     ("blocks replaced by the parameter `dotted`", ["draw_styled: if style.stroke_style == StrokeStyle::Dotted"])] :=
  rfl

/-- `draw_styled` contains five target calls in its text (fill, top, bottom, left, right), each a statement
`target.fill_solid(..)?;` (the translator refuses any other use of `target`): an error of the target ends the function at
that call and is returned unchanged. -/
theorem draw_styled_target_calls_pinned :
    StyledSrc.targetCallShapes = [("Rectangle_StyledDrawable_draw_styled", 5)] := rfl

/-- The split of the stroke width, of the Rust style (every `stroke_style`). -/
theorem src_stroke_width_split (p : StyledSrc.PrimitiveStyle) (h : p.stroke_width < 4294967295) :
    StyledSrc.PrimitiveStyle_inside_stroke_width p + StyledSrc.PrimitiveStyle_outside_stroke_width p = p.stroke_width ∧
    (p.stroke_alignment = .Inside → StyledSrc.PrimitiveStyle_inside_stroke_width p = p.stroke_width ∧
      StyledSrc.PrimitiveStyle_outside_stroke_width p = 0) ∧
    (p.stroke_alignment = .Outside → StyledSrc.PrimitiveStyle_inside_stroke_width p = 0 ∧
      StyledSrc.PrimitiveStyle_outside_stroke_width p = p.stroke_width) ∧
    (p.stroke_alignment = .Center → StyledSrc.PrimitiveStyle_outside_stroke_width p = p.stroke_width / 2 ∧
      StyledSrc.PrimitiveStyle_inside_stroke_width p = (p.stroke_width + 1) / 2) := by
  rw [inside_stroke_width_src_eq_model, outside_stroke_width_src_eq_model]
  have := C06.Rectangle.stroke_width_split (toStyle p) h
  obtain ⟨h0, h1, h2, h3⟩ := this
  refine ⟨h0, ?_, ?_, ?_⟩
  · intro ha; exact h1 (by simp [toStyle, alignOf, ha])
  · intro ha; exact h2 (by simp [toStyle, alignOf, ha])
  · intro ha; have := h3 (by simp [toStyle, alignOf, ha]); exact ⟨this.1, this.2.1⟩

example : (⟨some 7, some 9, 5, .Center, .Dotted⟩ : StyledSrc.PrimitiveStyle).stroke_width < 4294967295 := by decide

/-- The generated `stroke_area` grows a non-degenerate shape by the outside part of the width on every side. -/
theorem src_stroke_area_grows (s : Style) (r : Rect) (h : NoSat s r) (hu : IsU32 r.size) (hr : 0 < r.size.w ∧ 0 < r.size.h) :
    (StyledSrc.PrimitiveStyle_stroke_area (ofStyle s) r).tl.x = r.tl.x - s.outsideStrokeWidth ∧
    (StyledSrc.PrimitiveStyle_stroke_area (ofStyle s) r).tl.y = r.tl.y - s.outsideStrokeWidth ∧
    (StyledSrc.PrimitiveStyle_stroke_area (ofStyle s) r).size.w = r.size.w + 2 * s.outsideStrokeWidth ∧
    (StyledSrc.PrimitiveStyle_stroke_area (ofStyle s) r).size.h = r.size.h + 2 * s.outsideStrokeWidth := by
  rw [stroke_area_src_eq_model _ r hu, toStyle_ofStyle]
  exact C06.Rectangle.stroke_area_grows s r h hr

/-- The generated `fill_area` lies inside the generated `stroke_area`. -/
theorem src_fill_area_subset_stroke_area (s : Style) (r : Rect) (h : NoSat s r) (hu : IsU32 r.size) (p : Pt)
    (hp : (StyledSrc.PrimitiveStyle_fill_area (ofStyle s) r).contains p = true) :
    (StyledSrc.PrimitiveStyle_stroke_area (ofStyle s) r).contains p = true := by
  rw [stroke_area_src_eq_model _ r hu, toStyle_ofStyle]
  rw [fill_area_src_eq_model _ r rfl hu, toStyle_ofStyle] at hp
  exact C06.Rectangle.fill_area_subset_stroke_area s r h p hp

/-- **C06 for rectangles, over the regenerated code.** The calls that the generated `draw_styled` makes, run on a target with
box `B`, paint `p` with the fill colour iff the generated `fill_area` contains it, with the stroke colour iff the generated
`stroke_area` contains it and `fill_area` does not (non-zero width), and leave every other point untouched. -/
theorem src_styled_rect_exact (s : Style) (r : Rect) (h : Guard s r) (hu : IsU32 r.size) (dotted : List Call) (B : Rect) (p : Pt) :
    runNative B (StyledSrc.Rectangle_StyledDrawable_draw_styled r (ofStyle s) dotted) p =
      if B.contains p = true then
        (if (StyledSrc.PrimitiveStyle_fill_area (ofStyle s) r).contains p = true then s.fill
         else if (StyledSrc.PrimitiveStyle_stroke_area (ofStyle s) r).contains p = true ∧ s.width > 0 then s.stroke
         else none)
      else none := by
  rw [draw_styled_src_eq_model s r (bordersFit_of_guard h hu), stroke_area_src_eq_model _ r hu,
    fill_area_src_eq_model _ r rfl hu, toStyle_ofStyle]
  exact C06.Rectangle.styled_rect_exact s r h B p

example : Guard ⟨some 7, some 9, 3, .center⟩ ⟨⟨-2, -1⟩, ⟨4, 5⟩⟩ ∧ IsU32 (⟨⟨-2, -1⟩, ⟨4, 5⟩⟩ : Rect).size := by decide
example : StyledSrc.Rectangle_StyledDrawable_draw_styled ⟨⟨0, 0⟩, ⟨3, 4⟩⟩ (ofStyle ⟨some 7, some 9, 1, .inside⟩) [] =
    drawCalls ⟨some 7, some 9, 1, .inside⟩ ⟨⟨0, 0⟩, ⟨3, 4⟩⟩ := by decide

/-! ### the second hand model of the style, `EG.PrimStyle` (circle, ellipse, rounded rectangle, sector) -/

/-- The Rust style as `EG.PrimStyle` (the `stroke_style` field is forgotten). -/
def toPrimStyle (p : StyledSrc.PrimitiveStyle) : PrimStyle :=
  ⟨p.fill_color, p.stroke_color, p.stroke_width, alignOf p.stroke_alignment⟩

theorem prim_outside_stroke_width_src_eq_model (p : StyledSrc.PrimitiveStyle) :
    StyledSrc.PrimitiveStyle_outside_stroke_width p = (toPrimStyle p).outsideStrokeWidth := by
  obtain ⟨f, st, w, a, ss⟩ := p
  cases a <;> rfl

theorem prim_inside_stroke_width_src_eq_model (p : StyledSrc.PrimitiveStyle) :
    StyledSrc.PrimitiveStyle_inside_stroke_width p = (toPrimStyle p).insideStrokeWidth := by
  obtain ⟨f, st, w, a, ss⟩ := p
  cases a <;> rfl

theorem prim_is_transparent_src_eq_model (p : StyledSrc.PrimitiveStyle) :
    StyledSrc.PrimitiveStyle_is_transparent p = (toPrimStyle p).isTransparent := by
  rw [is_transparent_src_eq_model]; rfl

theorem prim_effective_stroke_color_src_eq_model (p : StyledSrc.PrimitiveStyle) :
    StyledSrc.PrimitiveStyle_effective_stroke_color p = (toPrimStyle p).effectiveStrokeColor := by
  obtain ⟨f, st, w, a, ss⟩ := p
  cases st <;> simp [StyledSrc.PrimitiveStyle_effective_stroke_color, PrimStyle.effectiveStrokeColor, toPrimStyle, option_filter,
    u32_gt, StyledSrc.PrimitiveStyle_stroke_width, StyledSrc.PrimitiveStyle_stroke_color]

/-- The offsets every other styled closed shape hands to its own `OffsetOutline::offset` (the generated `stroke_area` / `fill_area`
bodies with `P` left open): `outside_stroke_width().saturating_as()` and, for a solid stroke,
`-inside_stroke_width().saturating_as::<i32>()`. -/
theorem prim_offsets_src_eq_model (p : StyledSrc.PrimitiveStyle) :
    u32_saturating_as_i32 (StyledSrc.PrimitiveStyle_outside_stroke_width p) = (toPrimStyle p).strokeOffset ∧
    i32_neg (u32_saturating_as_i32 (StyledSrc.PrimitiveStyle_inside_stroke_width p)) = (toPrimStyle p).fillOffset := by
  rw [prim_outside_stroke_width_src_eq_model, prim_inside_stroke_width_src_eq_model]
  exact ⟨rfl, rfl⟩

end EG.C06.Src
