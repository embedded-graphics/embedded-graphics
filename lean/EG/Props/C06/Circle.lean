/-
  C06 (circle part) — a styled circle with a solid stroke paints a point with the fill colour iff
  `fill_area()` contains it, with the stroke colour iff `stroke_area()` contains it and `fill_area()`
  does not (and the stroke width is non-zero), and leaves all other points untouched; the stroke
  area is the circle grown on every side by the outside part of the stroke width, the fill area
  the circle shrunk by the inside part; an inside stroke never paints outside the shape and an
  outside stroke never paints inside it.

  Model: `EG.Model.Circle` + `PrimStyle` + `Scanline` / `StyledScanline`; pixel maps are those of
  the recording targets (`runNative` = R2, `runDefault` = R1) with an arbitrary bounding box `B`.
  Range guards (decidable): the bounding boxes of the two areas do not saturate / overflow `i32`.
-/
import EG.Lemmas.CircleStyled
namespace EG.C06
open EG EG.Circle

/-- `inside + outside = width` (saturation of `width + 1` at `u32::MAX` aside). -/
theorem stroke_width_split (st : PrimStyle) (h : st.strokeWidth < 4294967295) :
    st.insideStrokeWidth + st.outsideStrokeWidth = st.strokeWidth := st.width_split h
example : (⟨none, some 1, 5, .center⟩ : PrimStyle).strokeWidth < 4294967295 := by decide

/-- `Inside`: all inside. -/
theorem stroke_split_inside (st : PrimStyle) (h : st.strokeAlignment = .inside) :
    st.insideStrokeWidth = st.strokeWidth ∧ st.outsideStrokeWidth = 0 := by
  unfold PrimStyle.insideStrokeWidth PrimStyle.outsideStrokeWidth; rw [h]; exact ⟨rfl, rfl⟩
example : (⟨none, some 1, 5, .inside⟩ : PrimStyle).strokeAlignment = .inside := rfl

/-- `Outside`: all outside. -/
theorem stroke_split_outside (st : PrimStyle) (h : st.strokeAlignment = .outside) :
    st.insideStrokeWidth = 0 ∧ st.outsideStrokeWidth = st.strokeWidth := by
  unfold PrimStyle.insideStrokeWidth PrimStyle.outsideStrokeWidth; rw [h]; exact ⟨rfl, rfl⟩
example : (⟨none, some 1, 5, .outside⟩ : PrimStyle).strokeAlignment = .outside := rfl

/-- `Center`: the larger half inside. -/
theorem stroke_split_center (st : PrimStyle) (h : st.strokeAlignment = .center)
    (hw : st.strokeWidth < 4294967295) :
    st.insideStrokeWidth = (st.strokeWidth + 1) / 2 ∧ st.outsideStrokeWidth = st.strokeWidth / 2 ∧
      st.outsideStrokeWidth ≤ st.insideStrokeWidth ∧ st.insideStrokeWidth ≤ st.outsideStrokeWidth + 1 := by
  obtain ⟨h1, h2⟩ : st.outsideStrokeWidth = st.strokeWidth / 2 ∧
      st.insideStrokeWidth = (st.strokeWidth + 1) / 2 := st.toStyle.center_split hw h
  exact ⟨h2, h1, by omega, by omega⟩
example : (⟨none, some 1, 5, .center⟩ : PrimStyle).strokeAlignment = .center ∧
    (⟨none, some 1, 5, .center⟩ : PrimStyle).strokeWidth < 4294967295 := by decide

/-- `offset(k)`, `k ≥ 0`: grown by `k` on every side (diameter `+ 2k`, top-left `- (k, k)`). -/
theorem circle_offset_grow (c : Circle) (k : Nat) (_hd : 1 ≤ c.d) (hs : c.d + 2 * k ≤ 4294967295) :
    c.offset (k : Int) = ⟨⟨c.tl.x - k, c.tl.y - k⟩, c.d + 2 * k⟩ := offset_grow c k hs
example : 1 ≤ (⟨⟨-3, 2⟩, 7⟩ : Circle).d ∧ (⟨⟨-3, 2⟩, 7⟩ : Circle).d + 2 * 3 ≤ 4294967295 := by decide

/-- `offset(-k)`: shrunk by `k` on every side while something is left ... -/
theorem circle_offset_shrink (c : Circle) (k : Nat) (hk : 1 ≤ k) (hd : 2 * k < c.d) :
    c.offset (-(k : Int)) = ⟨⟨c.tl.x + k, c.tl.y + k⟩, c.d - 2 * k⟩ := offset_shrink c k hk hd
example : 2 * 3 < (⟨⟨-3, 2⟩, 7⟩ : Circle).d := by decide

/-- ... and the diameter saturates at 0 otherwise (then the circle is empty). -/
theorem circle_offset_collapse (c : Circle) (k : Nat) (hk : 1 ≤ k) (hd : c.d ≤ 2 * k) (p : Pt) :
    (c.offset (-(k : Int))).d = 0 ∧ (c.offset (-(k : Int))).contains p = false :=
  ⟨offset_shrink_collapse c k hk hd, contains_false_of_zero (offset_shrink_collapse c k hk hd) p⟩
example : (⟨⟨-3, 2⟩, 6⟩ : Circle).d ≤ 2 * 3 := by decide

/-- `offset` keeps `center_2x` (the centre in doubled coordinates) whenever both circles are
non-empty: re-centring with a diameter of the same parity. -/
theorem circle_offset_keeps_center (c : Circle) (d' : Nat) (h1 : 1 ≤ c.d) (h2 : 1 ≤ d')
    (hp : d' % 2 = c.d % 2) : (Circle.withCenter c.center d').center2x = c.center2x :=
  withCenter_center2x c d' h1 h2 hp
example : 1 ≤ (⟨⟨-3, 2⟩, 7⟩ : Circle).d ∧ 1 ≤ 13 ∧ 13 % 2 = (⟨⟨-3, 2⟩, 7⟩ : Circle).d % 2 := by decide

/-- **The stroke area is the circle grown on every side by the outside part of the width.** -/
theorem circle_stroke_area_grown (st : PrimStyle) (c : Circle) (hd : 1 ≤ c.d)
    (hw : st.outsideStrokeWidth ≤ 2147483647) (hs : c.d + 2 * st.outsideStrokeWidth ≤ 4294967295) :
    c.strokeArea st = ⟨⟨c.tl.x - st.outsideStrokeWidth, c.tl.y - st.outsideStrokeWidth⟩,
      c.d + 2 * st.outsideStrokeWidth⟩ := by
  unfold strokeArea PrimStyle.strokeOffset
  rw [satAsI32_of_le hw]
  exact offset_grow c _ hs
example : (⟨none, some 1, 5, .center⟩ : PrimStyle).outsideStrokeWidth ≤ 2147483647 := by decide

/-- **The fill area is the circle shrunk on every side by the inside part of the width** (while
something is left; otherwise it is empty). -/
theorem circle_fill_area_shrunk (st : PrimStyle) (c : Circle) (hk : 1 ≤ st.insideStrokeWidth)
    (hw : st.insideStrokeWidth ≤ 2147483647) (hd : 2 * st.insideStrokeWidth < c.d) :
    c.fillArea st = ⟨⟨c.tl.x + st.insideStrokeWidth, c.tl.y + st.insideStrokeWidth⟩,
      c.d - 2 * st.insideStrokeWidth⟩ := by
  unfold fillArea PrimStyle.fillOffset
  rw [satAsI32_of_le hw]
  exact offset_shrink c _ hk hd
example : 1 ≤ (⟨none, some 1, 5, .center⟩ : PrimStyle).insideStrokeWidth ∧
    2 * (⟨none, some 1, 5, .center⟩ : PrimStyle).insideStrokeWidth < 7 := by decide

theorem circle_fill_area_collapsed (st : PrimStyle) (c : Circle) (hk : 1 ≤ st.insideStrokeWidth)
    (hw : st.insideStrokeWidth ≤ 2147483647) (hd : c.d ≤ 2 * st.insideStrokeWidth) (p : Pt) :
    (c.fillArea st).contains p = false := by
  unfold fillArea PrimStyle.fillOffset
  rw [satAsI32_of_le hw]
  exact (circle_offset_collapse c _ hk hd p).2
example : (6 : Nat) ≤ 2 * (⟨none, some 1, 5, .center⟩ : PrimStyle).insideStrokeWidth := by decide

/-- Zero inside (outside) part: the fill (stroke) area is the circle itself. -/
theorem circle_stroke_area_inside (st : PrimStyle) (c : Circle) (h : st.strokeAlignment = .inside)
    (hd : c.d ≤ 4294967295) : c.strokeArea st = c := strokeArea_inside c h hd
theorem circle_fill_area_outside (st : PrimStyle) (c : Circle) (h : st.strokeAlignment = .outside)
    (hd : c.d ≤ 4294967295) : c.fillArea st = c := fillArea_outside c h hd
example : (⟨⟨-3, 2⟩, 7⟩ : Circle).d ≤ 4294967295 := by decide

/-- The fill area lies within the stroke area. -/
theorem circle_fill_area_subset_stroke_area (st : PrimStyle) (c : Circle)
    (hS : (c.strokeArea st).InRange) (hF : (c.fillArea st).InRange) (p : Pt)
    (h : (c.fillArea st).contains p = true) : (c.strokeArea st).contains p = true :=
  fill_subset_stroke hS hF h

/-- **`styled_circle_exact`.** On a target with bounding box `B`, natively (R2) and through the
trait defaults (R1), `draw()` leaves at `p`: nothing outside `B`; the fill colour (if one is set)
iff `fill_area` contains `p`; the stroke colour (if one is set) iff `stroke_area` contains `p`,
`fill_area` does not and the width is non-zero; nothing otherwise — for all diameters, widths
(including wider than the shape), alignments and colour options. -/
theorem styled_circle_exact (st : PrimStyle) (c : Circle) (B : Rect)
    (hS : (c.strokeArea st).InRange) (hF : (c.fillArea st).InRange) (p : Pt) :
    runNative B (c.drawStyled st) p =
      (if B.contains p = true then
        if (c.fillArea st).contains p = true then st.fillColor
        else if (c.strokeArea st).contains p = true ∧ st.strokeWidth > 0 then st.strokeColor
        else none
      else none) ∧
    runDefault B (c.drawStyled st) p = runNative B (c.drawStyled st) p :=
  ⟨(styledPicture hS hF).draw B p, congrFun (Tgt.runDefault_eq_runNative B _) p⟩
example : (Circle.strokeArea ⟨some 1, some 2, 9, .center⟩ ⟨⟨-3, 2⟩, 7⟩).InRange ∧
    (Circle.fillArea ⟨some 1, some 2, 9, .center⟩ ⟨⟨-3, 2⟩, 7⟩).InRange := by decide

/-- The same for `draw_iter(pixels())`. -/
theorem styled_circle_pixels_exact (st : PrimStyle) (c : Circle) (B : Rect)
    (hS : (c.strokeArea st).InRange) (hF : (c.fillArea st).InRange) (p : Pt) :
    PMap.empty.apply (clipWrites B (c.styledPixels st)) p =
      if B.contains p = true then styledExpected st c p else none :=
  apply_clip_eq_of_mem_iff _ _ (mem_styledPixels_iff hS hF) B p

/-- **An inside stroke never paints outside the shape.** -/
theorem circle_inside_stroke_inside (st : PrimStyle) (c : Circle) (B : Rect)
    (h : st.strokeAlignment = .inside) (hc : c.InRange)
    (hF : (c.fillArea st).InRange) (p : Pt) (col : Color)
    (hp : runNative B (c.drawStyled st) p = some col) : c.contains p = true := by
  have hSe := strokeArea_inside (st := st) c h
    (Nat.le_trans (Rect.InRange.w_le hc) (by decide))
  have := (styledPicture (by rw [hSe]; exact hc) hF).some_imp_stroke hp
  rwa [hSe] at this
example : (⟨⟨-3, 2⟩, 7⟩ : Circle).InRange ∧
    (Circle.fillArea ⟨some 1, some 2, 2, .inside⟩ ⟨⟨-3, 2⟩, 7⟩).InRange := by decide

/-- **An outside stroke never paints inside the shape**: inside the circle only the fill colour
(or nothing) appears. -/
theorem circle_outside_stroke_outside (st : PrimStyle) (c : Circle) (B : Rect)
    (h : st.strokeAlignment = .outside) (hc : c.InRange)
    (hS : (c.strokeArea st).InRange) (p : Pt) (hp : c.contains p = true) :
    runNative B (c.drawStyled st) p = if B.contains p = true then st.fillColor else none := by
  have hFe := fillArea_outside (st := st) c h
    (Nat.le_trans (Rect.InRange.w_le hc) (by decide))
  exact (styledPicture hS (by rw [hFe]; exact hc)).eq_fill B (by rw [hFe]; exact hp)
example : (⟨⟨-3, 2⟩, 7⟩ : Circle).InRange ∧
    (Circle.strokeArea ⟨some 1, some 2, 2, .outside⟩ ⟨⟨-3, 2⟩, 7⟩).InRange := by decide

-- [V] styles whose stroke / fill area bounding boxes leave the i32 range or whose width saturates u32 (guards `InRange`, `strokeWidth < u32::MAX` false; C08's topic): carried by correspondence + oracle only
-- [V] `StrokeStyle::Dotted` is outside the property (solid strokes only) and outside the model
end EG.C06
