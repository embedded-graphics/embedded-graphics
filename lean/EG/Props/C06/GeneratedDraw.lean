/-
  C06 — the REGENERATED `draw_styled` of circles and ellipses equals the hand-written `drawStyled`.

  `tools/tr_curve.py` translates the functions that draw on a generic target (`target: &mut D`, `Result<(), D::Error>`)
  into THE LIST OF TARGET CALLS THEY MAKE on a target that never fails, the vocabulary of the hand models
  (`List EG.Call`; what a failing target does to that list is C04's topic): `Scanline::draw`,
  `StyledScanline::draw_stroke / draw_stroke_and_fill`, `StyledDrawable::draw_styled` for `Circle` and `Ellipse`, together
  with `PrimitiveStyle::{outside_stroke_width, inside_stroke_width, effective_stroke_color}`, `stroke_area` / `fill_area`
  instantiated at `Circle` and `Ellipse`, and `StyledDimensions::styled_bounding_box`. This file proves each equal to the
  hand model (`EG/Model/{PrimStyle,Scanline,StyledScanline,Circle,Ellipse}.lean`) for all inputs.

  Where the two differ (stated exactly):
  * `PrimitiveStyle` has a `stroke_style` field; the hand model `PrimStyle` is the solid-stroke style (`primStyleOf` drops
    the field). `fill_area` and `draw_styled` are equal under `stroke_style = Solid` (hypothesis `hs`); for `Dotted` the
    real `fill_area` does not shrink (`fill_area_dotted_src`: outside every property).
  * the `for` loops collect their iterator on explicit `fuel`: equal to the hand model's `toList` whenever `fuel` exceeds
    the number of rows of the area the loop runs over (`CircleRowsBelow` / `EllipseRowsBelow`).
  * guards of the callees: `DiamIsU32` / `IsU32` for `offset`, `DiamFitsI32` / `AxesFitI32` of the stroke and fill AREA for
    `Scanlines::new` (see `Props/C05/GeneratedCircle.lean`).
-/
import EG.Props.C06.GeneratedStyled
namespace EG.C06.CurveSrc
open EG EG.RectSrcPrelude EG.CurveSrcPrelude EG.Generated EG.C16.Src EG.C05.Src EG.C06

def alignOf : CurveSrc.StrokeAlignment → EG.StrokeAlignment
  | .Inside => .inside | .Center => .center | .Outside => .outside
/-- The regenerated `PrimitiveStyle` (colour type := `EG.Color`) as the hand model's solid-stroke style. -/
def primStyleOf (s : CurveSrc.PrimitiveStyle) : PrimStyle :=
  ⟨s.fill_color, s.stroke_color, s.stroke_width, alignOf s.stroke_alignment⟩

theorem outside_stroke_width_src_eq_model (s : CurveSrc.PrimitiveStyle) :
    CurveSrc.PrimitiveStyle_outside_stroke_width s = (primStyleOf s).outsideStrokeWidth := by
  obtain ⟨fc, sc, w, a, ss⟩ := s
  cases a <;> rfl

theorem inside_stroke_width_src_eq_model (s : CurveSrc.PrimitiveStyle) :
    CurveSrc.PrimitiveStyle_inside_stroke_width s = (primStyleOf s).insideStrokeWidth := by
  obtain ⟨fc, sc, w, a, ss⟩ := s
  cases a <;> rfl

theorem effective_stroke_color_src_eq_model (s : CurveSrc.PrimitiveStyle) :
    CurveSrc.PrimitiveStyle_effective_stroke_color s = (primStyleOf s).effectiveStrokeColor := by
  rcases s with ⟨fc, _ | c, w, a, ss⟩
  · rfl
  · exact if_congr decide_eq_true_iff rfl rfl

theorem stroke_area_Circle_src_eq_model (s : CurveSrc.PrimitiveStyle) (c : CurveSrc.Circle) (h : DiamIsU32 c.diameter) :
    circleOf (CurveSrc.PrimitiveStyle_stroke_area_Circle s c) = (circleOf c).strokeArea (primStyleOf s) := by
  unfold CurveSrc.PrimitiveStyle_stroke_area_Circle Circle.strokeArea
  simp only [Circle_offset_src_eq_model c _ h, outside_stroke_width_src_eq_model]
  rfl

theorem fill_area_Circle_src_eq_model (s : CurveSrc.PrimitiveStyle) (c : CurveSrc.Circle) (h : DiamIsU32 c.diameter)
    (hs : s.stroke_style = .Solid) :
    circleOf (CurveSrc.PrimitiveStyle_fill_area_Circle s c) = (circleOf c).fillArea (primStyleOf s) := by
  unfold CurveSrc.PrimitiveStyle_fill_area_Circle Circle.fillArea
  simp only [Circle_offset_src_eq_model c _ h, inside_stroke_width_src_eq_model, CurveSrc.PrimitiveStyle_stroke_style, hs,
    enum_eq, decide_true, ↓reduceIte]
  rfl

/-- For a dotted stroke the real `fill_area` is the shape itself (offset 0): outside the hand model and every property. -/
theorem fill_area_dotted_src (s : CurveSrc.PrimitiveStyle) (c : CurveSrc.Circle) (hs : s.stroke_style = .Dotted) :
    CurveSrc.PrimitiveStyle_fill_area_Circle s c = CurveSrc.Circle_OffsetOutline_offset c 0 := by
  unfold CurveSrc.PrimitiveStyle_fill_area_Circle
  simp only [CurveSrc.PrimitiveStyle_stroke_style, hs, enum_eq]
  rfl

theorem stroke_area_Ellipse_src_eq_model (s : CurveSrc.PrimitiveStyle) (e : CurveSrc.Ellipse) (h : IsU32 e.size) :
    ellipseOf (CurveSrc.PrimitiveStyle_stroke_area_Ellipse s e) = (ellipseOf e).strokeArea (primStyleOf s) := by
  unfold CurveSrc.PrimitiveStyle_stroke_area_Ellipse Ellipse.strokeArea
  simp only [Ellipse_offset_src_eq_model e _ h, outside_stroke_width_src_eq_model]
  rfl

theorem fill_area_Ellipse_src_eq_model (s : CurveSrc.PrimitiveStyle) (e : CurveSrc.Ellipse) (h : IsU32 e.size)
    (hs : s.stroke_style = .Solid) :
    ellipseOf (CurveSrc.PrimitiveStyle_fill_area_Ellipse s e) = (ellipseOf e).fillArea (primStyleOf s) := by
  unfold CurveSrc.PrimitiveStyle_fill_area_Ellipse Ellipse.fillArea
  simp only [Ellipse_offset_src_eq_model e _ h, inside_stroke_width_src_eq_model, CurveSrc.PrimitiveStyle_stroke_style, hs,
    enum_eq, decide_true, ↓reduceIte]
  rfl

theorem Circle_styled_bounding_box_src_eq_model (c : CurveSrc.Circle) (s : CurveSrc.PrimitiveStyle)
    (h : DiamIsU32 c.diameter) :
    CurveSrc.Circle_StyledDimensions_styled_bounding_box c s = (circleOf c).styledBoundingBox (primStyleOf s) := by
  unfold CurveSrc.Circle_StyledDimensions_styled_bounding_box Circle.styledBoundingBox
  simp only [offset_src_eq_model (circleOf c).boundingBox _ ⟨h, h⟩, Circle_bounding_box_src_eq_model,
    outside_stroke_width_src_eq_model]
  rfl

theorem Ellipse_styled_bounding_box_src_eq_model (e : CurveSrc.Ellipse) (s : CurveSrc.PrimitiveStyle) (h : IsU32 e.size) :
    CurveSrc.Ellipse_StyledDimensions_styled_bounding_box e s = (ellipseOf e).styledBoundingBox (primStyleOf s) := by
  unfold CurveSrc.Ellipse_StyledDimensions_styled_bounding_box Ellipse.styledBoundingBox
  simp only [offset_src_eq_model (ellipseOf e).boundingBox _ h, Ellipse_bounding_box_src_eq_model,
    outside_stroke_width_src_eq_model]
  rfl

theorem Scanline_draw_src_eq_model (s : CurveSrc.Scanline) (c : Color) :
    CurveSrc.Scanline_draw s c = (scanlineOf s).draw c := by
  unfold CurveSrc.Scanline_draw Scanline.draw
  rw [Scanline_is_empty_src_eq_model, show (scanlineOf s).isEmpty = !decide (s.x.start < s.x.end_) from rfl]
  by_cases h : s.x.start < s.x.end_
  · rw [decide_eq_true h, i32_as_u32_of_nonneg (a := i32_sub s.x.end_ s.x.start) (Int.sub_nonneg_of_le (Int.le_of_lt h))]
    rfl
  · rw [decide_eq_false h]
    rfl

theorem StyledScanline_draw_stroke_src_eq_model (l : CurveSrc.StyledScanline) (sc : Color) :
    CurveSrc.StyledScanline_draw_stroke l sc = (styledScanlineOf l).drawStroke sc := by
  unfold CurveSrc.StyledScanline_draw_stroke StyledScanline.drawStroke
  simp only [Scanline_draw_src_eq_model, StyledScanline_stroke_left_src_eq_model, StyledScanline_stroke_right_src_eq_model]

theorem StyledScanline_draw_stroke_and_fill_src_eq_model (l : CurveSrc.StyledScanline) (sc fc : Color) :
    CurveSrc.StyledScanline_draw_stroke_and_fill l sc fc = (styledScanlineOf l).drawStrokeAndFill sc fc := by
  unfold CurveSrc.StyledScanline_draw_stroke_and_fill StyledScanline.drawStrokeAndFill
  simp only [Scanline_draw_src_eq_model, StyledScanline_stroke_left_src_eq_model, StyledScanline_stroke_right_src_eq_model,
    StyledScanline_fill_src_eq_model, List.append_assoc]

/-- More fuel than the area has rows. -/
def CircleRowsBelow (fuel : Nat) (a : EG.Circle) : Prop := (a.scanlines.yEnd - a.scanlines.y).toNat < fuel
def EllipseRowsBelow (fuel : Nat) (a : EG.Ellipse) : Prop := (a.scanlines.yEnd - a.scanlines.y).toNat < fuel
instance (fuel : Nat) (a : EG.Circle) : Decidable (CircleRowsBelow fuel a) := by unfold CircleRowsBelow; exact inferInstance
instance (fuel : Nat) (a : EG.Ellipse) : Decidable (EllipseRowsBelow fuel a) := by unfold EllipseRowsBelow; exact inferInstance
example : CircleRowsBelow 8 ⟨⟨-3, 2⟩, 7⟩ := by decide

theorem iter_collect_circle_styled : ∀ (fuel : Nat) (s : CurveSrc.CircleStyledScanlines),
    (iter_collect CurveSrc.CircleStyledScanlines_Iterator_next fuel s).map styledScanlineOf = (circleStyledItOf s).toListFuel fuel :=
  fun fuel s => ((Circle.StyledScanlinesIt.drains).comap (iter_collect_drains _) circleStyledItOf styledScanlineOf
    (fun s => SrcIter.ofPair_comap (CircleStyledScanlines_Iterator_next_src_eq_model s)) fuel s).symm

theorem iter_collect_circle_scanlines : ∀ (fuel : Nat) (s : CurveSrc.CircleScanlines),
    (iter_collect CurveSrc.CircleScanlines_Iterator_next fuel s).map scanlineOf = (scanlinesItOf s).toListFuel fuel :=
  fun fuel s => ((Circle.ScanlinesIt.drains).comap (iter_collect_drains _) scanlinesItOf scanlineOf
    (fun s => SrcIter.ofPair_comap (CircleScanlines_Iterator_next_src_eq_model s)) fuel s).symm

theorem iter_collect_ellipse_styled : ∀ (fuel : Nat) (s : CurveSrc.EllipseStyledScanlines),
    (iter_collect CurveSrc.EllipseStyledScanlines_Iterator_next fuel s).map styledScanlineOf = (ellipseStyledItOf s).toListFuel fuel :=
  fun fuel s => ((Ellipse.StyledScanlinesIt.drains).comap (iter_collect_drains _) ellipseStyledItOf styledScanlineOf
    (fun s => SrcIter.ofPair_comap (EllipseStyledScanlines_Iterator_next_src_eq_model s)) fuel s).symm

theorem iter_collect_ellipse_scanlines : ∀ (fuel : Nat) (s : CurveSrc.EllipseScanlines),
    (iter_collect CurveSrc.EllipseScanlines_Iterator_next fuel s).map scanlineOf = (ellipseScanlinesItOf s).toListFuel fuel :=
  fun fuel s => ((Ellipse.ScanlinesIt.drains).comap (iter_collect_drains _) ellipseScanlinesItOf scanlineOf
    (fun s => SrcIter.ofPair_comap (EllipseScanlines_Iterator_next_src_eq_model s)) fuel s).symm

theorem for_calls_eq_flatMap {σ α β : Type} {next : σ → Option α × σ} {body : α → List Call} {body' : β → List Call}
    {f : α → β} {fuel : Nat} {it : σ} {L : List β} (hb : ∀ l, body l = body' (f l))
    (hL : (iter_collect next fuel it).map f = L) : for_calls next body fuel it = L.flatMap body' := by
  rw [← hL, List.flatMap_map, for_calls, funext hb]

/-- the loop over `StyledScanlines::new(stroke_area, fill_area)`, the areas given by their views -/
theorem circle_styled_loop_src_eq_model {SA FA : CurveSrc.Circle} {S F : EG.Circle} (hS : circleOf SA = S)
    (hF : circleOf FA = F) {fuel : Nat} (hd : DiamFitsI32 S.d) (hf : CircleRowsBelow fuel S) :
    (iter_collect CurveSrc.CircleStyledScanlines_Iterator_next fuel (CurveSrc.CircleStyledScanlines_new SA FA)).map
      styledScanlineOf = (Circle.styledScanlines S F).toList := by
  subst hS hF
  rw [iter_collect_circle_styled,
    CircleStyledScanlines_new_src_eq_model SA FA hd, Circle.StyledScanlinesIt.toListFuel_eq,
    Circle.StyledScanlinesIt.toList_eq, Circle.ScanlinesIt.toListFuel_eq fuel (Circle.styledScanlines _ _).scanlines hf,
    Circle.ScanlinesIt.toList_eq]

/-- the loop over `Scanlines::new(fill_area)` -/
theorem circle_fill_loop_src_eq_model {FA : CurveSrc.Circle} {F : EG.Circle} (hF : circleOf FA = F) {fuel : Nat}
    (hd : DiamFitsI32 F.d) (hf : CircleRowsBelow fuel F) :
    (iter_collect CurveSrc.CircleScanlines_Iterator_next fuel (CurveSrc.CircleScanlines_new FA)).map scanlineOf
      = F.scanlines.toList := by
  subst hF
  rw [iter_collect_circle_scanlines,
    CircleScanlines_new_src_eq_model FA hd, Circle.ScanlinesIt.toListFuel_eq _ _ hf, Circle.ScanlinesIt.toList_eq]

theorem ellipse_styled_loop_src_eq_model {SA FA : CurveSrc.Ellipse} {S F : EG.Ellipse} (hS : ellipseOf SA = S)
    (hF : ellipseOf FA = F) {fuel : Nat} (hd : AxesFitI32 S.size) (hf : EllipseRowsBelow fuel S) :
    (iter_collect CurveSrc.EllipseStyledScanlines_Iterator_next fuel (CurveSrc.EllipseStyledScanlines_new SA FA)).map
      styledScanlineOf = (Ellipse.styledScanlines S F).toList := by
  subst hS hF
  rw [iter_collect_ellipse_styled,
    EllipseStyledScanlines_new_src_eq_model SA FA hd, Ellipse.StyledScanlinesIt.toListFuel_eq,
    Ellipse.StyledScanlinesIt.toList_eq,
    Ellipse.ScanlinesIt.toListFuel_eq fuel (Ellipse.styledScanlines _ _).scanlines
      (Nat.lt_of_le_of_lt (Ellipse.ScanlinesIt.rest_length_le _) hf),
    Ellipse.ScanlinesIt.toList_eq]

theorem ellipse_fill_loop_src_eq_model {FA : CurveSrc.Ellipse} {F : EG.Ellipse} (hF : ellipseOf FA = F) {fuel : Nat}
    (hd : AxesFitI32 F.size) (hf : EllipseRowsBelow fuel F) :
    (iter_collect CurveSrc.EllipseScanlines_Iterator_next fuel (CurveSrc.EllipseScanlines_new FA)).map scanlineOf
      = F.scanlines.toList := by
  subst hF
  rw [iter_collect_ellipse_scanlines,
    EllipseScanlines_new_src_eq_model FA hd,
    Ellipse.ScanlinesIt.toListFuel_eq _ _ (Nat.lt_of_le_of_lt (Ellipse.ScanlinesIt.rest_length_le _) hf),
    Ellipse.ScanlinesIt.toList_eq]

/-- **The regenerated `draw_styled` of `Circle` makes exactly the target calls of the hand model's `Circle.drawStyled`**
(solid stroke; more fuel than the stroke area and the fill area have rows). -/
theorem Circle_draw_styled_src_eq_model (c : CurveSrc.Circle) (s : CurveSrc.PrimitiveStyle) (fuel : Nat)
    (hs : s.stroke_style = .Solid) (hu : DiamIsU32 c.diameter)
    (h1 : DiamFitsI32 ((circleOf c).strokeArea (primStyleOf s)).d)
    (h2 : DiamFitsI32 ((circleOf c).fillArea (primStyleOf s)).d)
    (f1 : CircleRowsBelow fuel ((circleOf c).strokeArea (primStyleOf s)))
    (f2 : CircleRowsBelow fuel ((circleOf c).fillArea (primStyleOf s))) :
    CurveSrc.Circle_StyledDrawable_draw_styled fuel c s = Circle.drawStyled (primStyleOf s) (circleOf c) := by
  have hSA := stroke_area_Circle_src_eq_model s c hu
  have hFA := fill_area_Circle_src_eq_model s c hu hs
  have hl := circle_styled_loop_src_eq_model hSA hFA h1 f1
  unfold CurveSrc.Circle_StyledDrawable_draw_styled Circle.drawStyled
  simp only [effective_stroke_color_src_eq_model, List.append_nil,
    show CurveSrc.PrimitiveStyle_fill_color s = (primStyleOf s).fillColor from rfl]
  cases (primStyleOf s).effectiveStrokeColor with
  | none =>
    cases (primStyleOf s).fillColor with
    | none => rfl
    | some fc => exact for_calls_eq_flatMap (fun l => Scanline_draw_src_eq_model l fc) (circle_fill_loop_src_eq_model hFA h2 f2)
  | some sc =>
    cases (primStyleOf s).fillColor with
    | none => exact for_calls_eq_flatMap (fun l => StyledScanline_draw_stroke_src_eq_model l sc) hl
    | some fc => exact for_calls_eq_flatMap (fun l => StyledScanline_draw_stroke_and_fill_src_eq_model l sc fc) hl
example : (⟨none, some 1, 2, .Center, .Solid⟩ : CurveSrc.PrimitiveStyle).stroke_style = .Solid := rfl
/-- a 3x3 circle with a 1 px inside stroke and a fill, through the regenerated `draw_styled` -/
example : CurveSrc.Circle_StyledDrawable_draw_styled 4 ⟨⟨0, 0⟩, 3⟩ ⟨some 7, some 1, 1, .Inside, .Solid⟩ =
    [.fillSolid ⟨⟨1, 0⟩, ⟨1, 1⟩⟩ 1, .fillSolid ⟨⟨0, 1⟩, ⟨1, 1⟩⟩ 1, .fillSolid ⟨⟨1, 1⟩, ⟨1, 1⟩⟩ 7,
     .fillSolid ⟨⟨2, 1⟩, ⟨1, 1⟩⟩ 1, .fillSolid ⟨⟨1, 2⟩, ⟨1, 1⟩⟩ 1] := by decide +kernel

/-- **The regenerated `draw_styled` of `Ellipse` makes exactly the target calls of `Ellipse.drawStyled`.** -/
theorem Ellipse_draw_styled_src_eq_model (e : CurveSrc.Ellipse) (s : CurveSrc.PrimitiveStyle) (fuel : Nat)
    (hs : s.stroke_style = .Solid) (hu : IsU32 e.size)
    (h1 : AxesFitI32 ((ellipseOf e).strokeArea (primStyleOf s)).size)
    (h2 : AxesFitI32 ((ellipseOf e).fillArea (primStyleOf s)).size)
    (f1 : EllipseRowsBelow fuel ((ellipseOf e).strokeArea (primStyleOf s)))
    (f2 : EllipseRowsBelow fuel ((ellipseOf e).fillArea (primStyleOf s))) :
    CurveSrc.Ellipse_StyledDrawable_draw_styled fuel e s = Ellipse.drawStyled (primStyleOf s) (ellipseOf e) := by
  have hSA := stroke_area_Ellipse_src_eq_model s e hu
  have hFA := fill_area_Ellipse_src_eq_model s e hu hs
  have hl := ellipse_styled_loop_src_eq_model hSA hFA h1 f1
  unfold CurveSrc.Ellipse_StyledDrawable_draw_styled Ellipse.drawStyled
  simp only [effective_stroke_color_src_eq_model, List.append_nil,
    show CurveSrc.PrimitiveStyle_fill_color s = (primStyleOf s).fillColor from rfl]
  cases (primStyleOf s).effectiveStrokeColor with
  | none =>
    cases (primStyleOf s).fillColor with
    | none => rfl
    | some fc => exact for_calls_eq_flatMap (fun l => Scanline_draw_src_eq_model l fc) (ellipse_fill_loop_src_eq_model hFA h2 f2)
  | some sc =>
    cases (primStyleOf s).fillColor with
    | none => exact for_calls_eq_flatMap (fun l => StyledScanline_draw_stroke_src_eq_model l sc) hl
    | some fc => exact for_calls_eq_flatMap (fun l => StyledScanline_draw_stroke_and_fill_src_eq_model l sc fc) hl
example : IsU32 (⟨⟨0, 0⟩, ⟨7, 4⟩⟩ : CurveSrc.Ellipse).size ∧
    EllipseRowsBelow 9 ((ellipseOf ⟨⟨0, 0⟩, ⟨7, 4⟩⟩).strokeArea (primStyleOf ⟨none, some 1, 2, .Center, .Solid⟩)) := by decide +kernel

/-- **`styled_circle_exact`, both sides regenerated**: on a target with bounding box `B` the calls of the regenerated
`draw_styled` leave at `p` the fill colour iff the regenerated `contains` of the regenerated `fill_area` accepts `p`, the
stroke colour iff that of the regenerated `stroke_area` does, the fill area does not and the width is non-zero, and nothing
otherwise. -/
theorem src_styled_circle_exact (c : CurveSrc.Circle) (s : CurveSrc.PrimitiveStyle) (B : Rect) (fuel : Nat)
    (hs : s.stroke_style = .Solid) (hu : DiamIsU32 c.diameter)
    (hS : ((circleOf c).strokeArea (primStyleOf s)).InRange) (hF : ((circleOf c).fillArea (primStyleOf s)).InRange)
    (f1 : CircleRowsBelow fuel ((circleOf c).strokeArea (primStyleOf s)))
    (f2 : CircleRowsBelow fuel ((circleOf c).fillArea (primStyleOf s))) (p : Pt) :
    runNative B (CurveSrc.Circle_StyledDrawable_draw_styled fuel c s) p =
      (if B.contains p = true then
        if CurveSrc.Circle_ContainsPoint_contains (CurveSrc.PrimitiveStyle_fill_area_Circle s c) p = true then s.fill_color
        else if CurveSrc.Circle_ContainsPoint_contains (CurveSrc.PrimitiveStyle_stroke_area_Circle s c) p = true
            ∧ s.stroke_width > 0 then s.stroke_color
        else none
      else none) := by
  have hSA := stroke_area_Circle_src_eq_model s c hu
  have hFA := fill_area_Circle_src_eq_model s c hu hs
  rw [Circle_draw_styled_src_eq_model c s fuel hs hu (.of_inRange hS) (.of_inRange hF) f1 f2,
    Circle_contains_src_eq_model _ p (diamFits_of_inRange (hFA ▸ hF)),
    Circle_contains_src_eq_model _ p (diamFits_of_inRange (hSA ▸ hS)), hSA, hFA]
  exact (styled_circle_exact (primStyleOf s) (circleOf c) B hS hF p).1
example : (⟨some 1, some 2, 9, .Center, .Solid⟩ : CurveSrc.PrimitiveStyle).stroke_style = .Solid ∧
    DiamIsU32 (⟨⟨-3, 2⟩, 7⟩ : CurveSrc.Circle).diameter ∧
    ((circleOf ⟨⟨-3, 2⟩, 7⟩).strokeArea (primStyleOf ⟨some 1, some 2, 9, .Center, .Solid⟩)).InRange ∧
    ((circleOf ⟨⟨-3, 2⟩, 7⟩).fillArea (primStyleOf ⟨some 1, some 2, 9, .Center, .Solid⟩)).InRange ∧
    CircleRowsBelow 20 ((circleOf ⟨⟨-3, 2⟩, 7⟩).strokeArea (primStyleOf ⟨some 1, some 2, 9, .Center, .Solid⟩)) ∧
    CircleRowsBelow 20 ((circleOf ⟨⟨-3, 2⟩, 7⟩).fillArea (primStyleOf ⟨some 1, some 2, 9, .Center, .Solid⟩)) := by decide +kernel

/-- **`styled_ellipse_exact`, both sides regenerated.** -/
theorem src_styled_ellipse_exact (e : CurveSrc.Ellipse) (s : CurveSrc.PrimitiveStyle) (B : Rect) (fuel : Nat)
    (hs : s.stroke_style = .Solid) (hu : IsU32 e.size)
    (hS : ((ellipseOf e).strokeArea (primStyleOf s)).InRange) (hF : ((ellipseOf e).fillArea (primStyleOf s)).InRange)
    (f1 : EllipseRowsBelow fuel ((ellipseOf e).strokeArea (primStyleOf s)))
    (f2 : EllipseRowsBelow fuel ((ellipseOf e).fillArea (primStyleOf s))) (p : Pt) :
    runNative B (CurveSrc.Ellipse_StyledDrawable_draw_styled fuel e s) p =
      (if B.contains p = true then
        if CurveSrc.Ellipse_ContainsPoint_contains (CurveSrc.PrimitiveStyle_fill_area_Ellipse s e) p = true then s.fill_color
        else if CurveSrc.Ellipse_ContainsPoint_contains (CurveSrc.PrimitiveStyle_stroke_area_Ellipse s e) p = true
            ∧ s.stroke_width > 0 then s.stroke_color
        else none
      else none) := by
  have hSA := stroke_area_Ellipse_src_eq_model s e hu
  have hFA := fill_area_Ellipse_src_eq_model s e hu hs
  rw [Ellipse_draw_styled_src_eq_model e s fuel hs hu (.of_inRange hS) (.of_inRange hF) f1 f2,
    Ellipse_contains_src_eq_model _ p (axesFit_of_inRange (hFA ▸ hF)),
    Ellipse_contains_src_eq_model _ p (axesFit_of_inRange (hSA ▸ hS)), hSA, hFA]
  exact (styled_ellipse_exact (primStyleOf s) (ellipseOf e) B hS hF p).1
example : IsU32 (⟨⟨-3, 2⟩, ⟨7, 3⟩⟩ : CurveSrc.Ellipse).size ∧
    ((ellipseOf ⟨⟨-3, 2⟩, ⟨7, 3⟩⟩).strokeArea (primStyleOf ⟨some 1, some 2, 9, .Center, .Solid⟩)).InRange ∧
    EllipseRowsBelow 20 ((ellipseOf ⟨⟨-3, 2⟩, ⟨7, 3⟩⟩).strokeArea (primStyleOf ⟨some 1, some 2, 9, .Center, .Solid⟩)) := by decide +kernel

end EG.C06.CurveSrc
