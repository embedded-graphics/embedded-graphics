/-
  C18 — curved primitives. This root file holds no theorem of its own: the property theorems are in
  the files of `EG/Props/C18/` (every file there is built and audited by `./check C18`):
    Circle.lean       half-pixel band of `Circle::contains`, symmetry, contiguous rows/columns, touches
                      the four sides of its bounding box
    Ellipse.lean      half-pixel band of `Ellipse::contains`, symmetry, contiguous rows/columns,
                      circle = ellipse with equal axes
    RoundedRect.lean  `confine` fits the radii, zero radii = rectangle, half-side radii = ellipse,
                      the corner tests as ideal quarter ellipses, contiguous rows/columns
    RoundedRectBand.lean  the half-pixel band of the corners and of the whole shape
    Sector.lean       sectors / arcs: in the circle, full sweep = circle / inside ring, plane-sector
                      membership given the hook's normals
    FixedTrig.lean    the `fixed_point` build: the angular claim relative to the rays of the sine table
    SineTable.lean    the table rays against the real sine and cosine
    GeneratedCurves.lean, GeneratedRRect.lean  the same statements over the regenerated functions
  Sub-claims that are not proved are the `-- [V]` lines of those files.
-/
import EG.Basic.Core
namespace EG.C18
end EG.C18
