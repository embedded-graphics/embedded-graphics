/-
  C03 (tie) — the pictures the adapter streams compare (`fmtPix (canonPix ..)` of the model driver
  against the harness's recorded map) are the pixel maps the C03 theorems are about: corollaries of
  Props/C06/CanonPix.lean, restated here so that C03's check audits them.
-/
import EG.Props.C06.CanonPix
namespace EG.C03.CanonPix
open EG EG.Tgt EG.Driver

/-- The canonical list is strictly sorted by (y, x) and has exactly the entries of the pixel map the
writes leave on an empty target. -/
theorem c03_canon_pix_is_pixel_map (ws : Writes) :
    (canonPix ws).Pairwise (fun a b => Pt.rowMajorLt a.1 b.1) ∧
      ∀ p c, (p, c) ∈ canonPix ws ↔ PMap.empty.apply ws p = some c :=
  ⟨EG.C06.CanonPix.canon_pix_sorted ws, fun p c => (EG.C06.CanonPix.canon_pix_is_pixel_map ws p c).1⟩

/-- Two write lists (an adapter stack's and its reference's) print the same canonical picture iff
they leave the same pixel map. -/
theorem c03_canon_pix_eq_iff_same_map (ws ws' : Writes) :
    canonPix ws = canonPix ws' ↔ ∀ p, PMap.empty.apply ws p = PMap.empty.apply ws' p :=
  EG.C06.CanonPix.canon_pix_eq_iff_same_map ws ws'

end EG.C03.CanonPix
