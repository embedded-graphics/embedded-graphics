/-
  C03 — the REGENERATED colour iterator `iterator::contiguous::Cropped` equals the hand-written state machine.

  `Clipped::fill_contiguous` re-cuts the colour stream of a partly visible area with `Cropped::new(colors.into_iter(),
  area.size, &crop_area)` (src/iterator/contiguous.rs). `tools/tr_adapt.py` regenerates its `new` and its
  `Iterator::next` from the Rust text (`EG.Generated.AdaptSrc.contiguous_Cropped_new`, `contiguous_Cropped_next`: a
  `&mut self` method is (value, updated state); `iter.nth(..)`, `self.iter.next()`, `self.x += 1`, the early `return None`
  are translated statement by statement). Proved here, for all inputs:
    * `contiguous_Cropped_new_src_eq_model`: the generated constructor builds the state `CropIt.new` of the hand model
      (EG/Model/CroppedIter.lean); the `as usize` casts of the crop's corner never see a negative value
      (`CropIt.cropOf_tl_nonneg`), which is where the generated wrapping cast and the model's `toNat` could differ;
    * `contiguous_Cropped_next_src_eq_model`: one generated `next` = one `CropIt.next` (same item, same state after
      an item; `None` exactly when the model says `none`);
    * `contiguous_Cropped_collect_src_eq_model`: everything the generated iterator yields, on any fuel above the
      number of input colours, is `croppedList` — the list C03's clipped-target theorems are about
      (`cropped_iter_toList` gives its closed form).
-/
import EG.Generated.AdaptSrc
import EG.Props.C03
import EG.Lemmas.SrcIter
namespace EG.C03.GenCroppedIter
open EG EG.Rect EG.Generated EG.RectSrcPrelude EG.AdaptSrcPrelude

def toCropIt (s : AdaptSrc.contiguous_Cropped) : CropIt :=
  { rest := s.iter, x := s.x, y := s.y, w := s.size.w, h := s.size.h, rowSkip := s.row_skip }

theorem listiter_next_snd {α : Type} (l : List α) : (listiter_next l).2 = l.tail := by cases l <;> rfl

theorem contiguous_Cropped_new_src_eq_model (cs : List Color) (size : Sz) (cropArea : Rect) :
    toCropIt (AdaptSrc.contiguous_Cropped_new cs size cropArea) = CropIt.new cs size cropArea := by
  have h := CropIt.cropOf_tl_nonneg size cropArea
  have hc : Rect.intersection ⟨Pt.zero, size⟩ cropArea = CropIt.cropOf size cropArea := rfl
  unfold AdaptSrc.contiguous_Cropped_new CropIt.new
  simp only [Rectangle_intersection, Rectangle_new, point_zero, hc]
  generalize CropIt.cropOf size cropArea = c at h ⊢
  obtain ⟨hx, hy⟩ := h
  simp only [usize_add, usize_mul, usize_sub, usize_gt, i32_as_usize, u32_as_usize, Point_x, Point_y,
    Rectangle_top_left, Rectangle_size, Size_width, u32_saturating_sub, listiter_nth, hx, hy, if_true, gt_iff_lt,
    decide_eq_true_eq]
  -- `if initial_skip > 0 { iter.nth(initial_skip - 1) }`: `nth(k - 1)` then the tail is `drop k`
  split <;> simp [toCropIt, listiter_next_snd, *]

theorem contiguous_Cropped_next_src_eq_model (s : AdaptSrc.contiguous_Cropped) :
    match CropIt.next (toCropIt s) with
    | some (c, it') => (AdaptSrc.contiguous_Cropped_next s).1 = some c ∧
        toCropIt (AdaptSrc.contiguous_Cropped_next s).2 = it'
    | none => (AdaptSrc.contiguous_Cropped_next s).1 = none := by
  obtain ⟨iter, x, y, ⟨w, h⟩, rs⟩ := s
  unfold AdaptSrc.contiguous_Cropped_next CropIt.next
  simp only [toCropIt, bool_or, u32_ge, u32_eq, u32_lt, u32_add, Size_width, Size_height, listiter_nth]
  by_cases h1 : y ≥ h ∨ w = 0
  · simp [h1]                                          -- exhausted
  · by_cases h2 : x < w
    · cases iter <;> simp [h1, h2]                     -- inside a row
    · by_cases h3 : y + 1 < h
      · cases hd : iter.drop rs <;> simp [h1, h2, h3]  -- end of a row: skip `row_skip`
      · simp [h1, h2, h3]                              -- end of the last row

theorem iter_collect_fuel_drains {σ α : Type} (next : σ → Option α × σ) :
    Drains (ofPair next) (iter_collect_fuel next) :=
  ⟨fun _ => rfl, fun n s => by
    rw [iter_collect_fuel, ofPair]
    rcases next s with ⟨_ | _, _⟩ <;> rfl⟩

/-- `contiguous_Cropped_next_src_eq_model` as one equation, the form `SrcIter.ofPair_view` takes. -/
theorem contiguous_Cropped_step (s : AdaptSrc.contiguous_Cropped) :
    SrcIter.stepView toCropIt (AdaptSrc.contiguous_Cropped_next s) = (toCropIt s).next := by
  have hs := contiguous_Cropped_next_src_eq_model s
  unfold SrcIter.stepView
  cases hm : CropIt.next (toCropIt s) with
  | none =>
    rw [hm] at hs
    rw [show (AdaptSrc.contiguous_Cropped_next s).1 = none from hs]
    rfl
  | some p =>
    rw [hm] at hs
    rw [hs.1, hs.2]
    rfl

theorem collect_fuel_src_eq_model (fuel : Nat) (s : AdaptSrc.contiguous_Cropped) :
    iter_collect_fuel AdaptSrc.contiguous_Cropped_next fuel s = (toCropIt s).toListFuel fuel :=
  (iter_collect_fuel_drains _).view CropIt.drains toCropIt (fun s => SrcIter.ofPair_view (contiguous_Cropped_step s))
    fuel s

/-- Enough fuel to drain the cropping iterator: more than the number of input colours (every item it yields
consumes at least one). -/
def CropFuel (fuel : Nat) (cs : List Color) : Prop := cs.length < fuel
instance (fuel : Nat) (cs : List Color) : Decidable (CropFuel fuel cs) := by unfold CropFuel; exact inferInstance
example : CropFuel 5 [1, 2, 3, 4] := by decide

/-- **Everything `Cropped::new(colors, size, &crop_area)` yields, regenerated = `croppedList`**, for any sufficient
fuel. -/
theorem contiguous_Cropped_collect_src_eq_model (cs : List Color) (size : Sz) (cropArea : Rect) (fuel : Nat)
    (hf : CropFuel fuel cs) :
    iter_collect_fuel AdaptSrc.contiguous_Cropped_next fuel (AdaptSrc.contiguous_Cropped_new cs size cropArea)
      = croppedList cs size cropArea := by
  rw [collect_fuel_src_eq_model, contiguous_Cropped_new_src_eq_model]
  have hx : (CropIt.new cs size cropArea).x ≤ (CropIt.new cs size cropArea).w := Nat.zero_le _
  have hl : (CropIt.new cs size cropArea).rest.length ≤ cs.length := by
    simp only [CropIt.new]; split <;> simp
  rw [CropIt.toListFuel_eq fuel _ hx (by unfold CropFuel at hf; omega)]
  exact (CropIt.toList_eq_spec _ hx).symm

end EG.C03.GenCroppedIter
