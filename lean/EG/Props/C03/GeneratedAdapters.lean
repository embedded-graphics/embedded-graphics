/-
  C03 — the REGENERATED draw-target adapters and trait defaults equal the hand-written model.

  `EG/Generated/AdaptSrc.lean` is written by `tools/tr_adapt.py` from /repo's Rust text on every run of a check:
  one Lean `def` per function of src/draw_target/{translated,clipped,cropped,color_converted,mod}.rs (the four
  adapters' `new`, `draw_iter`, `fill_contiguous`, `fill_solid`, `clear`, `bounding_box`; `DrawTargetExt`'s four
  constructors), of the default bodies of `DrawTarget::{fill_contiguous, fill_solid, clear}`
  (core/src/draw_target/mod.rs; also re-instantiated with `Self` := `Clipped` / `Cropped` for the `clear` those two do
  not override) and of the pixel iterator `pixel::Translated`. A `Result`-returning method is translated into THE
  PARENT CALL IT MAKES (a value of `EG.Call`), built from the adapter's fields and the call's arguments through
  the primitives of the trusted prelude `EG/Model/AdaptSrcPrelude.lean`.

  Each generated method, applied to the adapter built by the generated `DrawTargetExt` constructor over a parent with
  box `B`, is `Adapter.lower` of the hand model (EG/Model/Adapters.lean) on the corresponding call, for ALL inputs and
  without guards (the hand model has none). Two functions take fuel: `Clipped::fill_contiguous` for the regenerated
  cropping iterator (`CropFuel`, GeneratedCroppedIter.lean) and the default `fill_solid` for `core::iter::repeat`
  (`RepeatFuel`); once sufficient, the amount does not change the pixels. Each generated trait default is one level of
  `Call.lowerDefault` (Target.lean). The shape table `adapterMethodShapes` the translator derives from the syntax trees
  (one parent call per path, in tail position, nothing applied to its `Result`; who overrides what; nothing left
  untranslated) is decided here, and C03's exactness headlines are restated over the generated functions (`src_*`).

  Where hand model and source differ: nowhere in value. In form: the hand model's `Adapter.cropped r` lowers
  through `lowerTranslated`, the source through the `Translated` it holds (`Cropped_*` call `Translated_*`); the
  hand model's `clear` arms of `lowerClipped` / `lowerCropped` are the default body instantiated by hand, the
  generated ones are the trait's text re-translated with `Self` := the adapter.
-/
import EG.Generated.AdaptSrc
import EG.Lemmas.SrcSimpAttr
import EG.Props.C03
import EG.Props.C03.GeneratedCroppedIter
namespace EG.C03.GenAdapters
open EG EG.Rect EG.Tgt EG.Generated EG.RectSrcPrelude EG.AdaptSrcPrelude EG.C03.GenCroppedIter

attribute [adapt_prelude] Pixel_mk Pixel_0 Pixel_1 tuple_0 tuple_1 PhantomData_mk into_iter iter_map iter_filter
  iter_zip core_iter_repeat iter_of_next_map listiter_next listiter_nth Rectangle_new Rectangle_intersection
  Rectangle_translate Rectangle_contains Rectangle_points Rectangle_eq Rectangle_ne point_zero Point_neg
  Point_add Point_sub DrawTargetT_bounding_box DrawTargetT_draw_iter DrawTargetT_fill_contiguous
  DrawTargetT_fill_solid DrawTargetT_clear Rectangle_top_left Rectangle_size

theorem Translated_new_src (B : Rect) (d : Pt) : AdaptSrc.DrawTargetExt_translated B d = ⟨B, d⟩ := rfl
theorem Clipped_new_src (B r : Rect) : AdaptSrc.DrawTargetExt_clipped B r = ⟨B, r.intersection B⟩ := rfl
theorem Cropped_new_src (B r : Rect) :
    AdaptSrc.DrawTargetExt_cropped B r = ⟨⟨B, (r.intersection B).tl⟩, (r.intersection B).size⟩ := rfl
theorem ColorConverted_new_src (B : Rect) : AdaptSrc.DrawTargetExt_color_converted B = ⟨B, ()⟩ := rfl

theorem Translated_draw_iter_src_eq_model (B : Rect) (d : Pt) (px : Writes) :
    AdaptSrc.Translated_draw_iter (AdaptSrc.DrawTargetExt_translated B d) px
      = (Adapter.translated d).lower B (.drawIter px) := rfl

theorem Translated_fill_contiguous_src_eq_model (B : Rect) (d : Pt) (area : Rect) (cs : List Color) :
    AdaptSrc.Translated_fill_contiguous (AdaptSrc.DrawTargetExt_translated B d) area cs
      = (Adapter.translated d).lower B (.fillContiguous area cs) := rfl

theorem Translated_fill_solid_src_eq_model (B : Rect) (d : Pt) (area : Rect) (c : Color) :
    AdaptSrc.Translated_fill_solid (AdaptSrc.DrawTargetExt_translated B d) area c
      = (Adapter.translated d).lower B (.fillSolid area c) := rfl

theorem Translated_clear_src_eq_model (B : Rect) (d : Pt) (c : Color) :
    AdaptSrc.Translated_clear (AdaptSrc.DrawTargetExt_translated B d) c
      = (Adapter.translated d).lower B (.clear c) := rfl

theorem Translated_bounding_box_src_eq_model (B : Rect) (d : Pt) :
    AdaptSrc.Translated_bounding_box (AdaptSrc.DrawTargetExt_translated B d) = (Adapter.translated d).bbox B := rfl

theorem Clipped_draw_iter_src_eq_model (B r : Rect) (px : Writes) :
    AdaptSrc.Clipped_draw_iter (AdaptSrc.DrawTargetExt_clipped B r) px
      = (Adapter.clipped r).lower B (.drawIter px) := rfl

/-- both arms: the `intersection == area` shortcut and the re-cut colour stream, the latter through the REGENERATED
`iterator::contiguous::Cropped` (`new` + `next`, collected on `fuel`; GeneratedCroppedIter.lean) -/
theorem Clipped_fill_contiguous_src_eq_model (B r : Rect) (area : Rect) (cs : List Color) (fuel : Nat)
    (hf : CropFuel fuel cs) :
    AdaptSrc.Clipped_fill_contiguous fuel (AdaptSrc.DrawTargetExt_clipped B r) area cs
      = (Adapter.clipped r).lower B (.fillContiguous area cs) := by
  show (if decide ((r.intersection B).intersection area = area) = true
      then Call.fillContiguous area cs
      else Call.fillContiguous ((r.intersection B).intersection area)
        (iter_collect_fuel AdaptSrc.contiguous_Cropped_next fuel
          (AdaptSrc.contiguous_Cropped_new cs area.size (((r.intersection B).intersection area).translate (-area.tl))))) =
    (if (r.intersection B).intersection area = area then Call.fillContiguous area cs
      else Call.fillContiguous ((r.intersection B).intersection area)
        (croppedList cs area.size (((r.intersection B).intersection area).translate (-area.tl))))
  rw [contiguous_Cropped_collect_src_eq_model cs _ _ fuel hf]
  by_cases h : (r.intersection B).intersection area = area <;> simp [h]

example : CropFuel 5 [1, 2, 3, 4] := by decide

theorem Clipped_fill_solid_src_eq_model (B r : Rect) (area : Rect) (c : Color) :
    AdaptSrc.Clipped_fill_solid (AdaptSrc.DrawTargetExt_clipped B r) area c
      = (Adapter.clipped r).lower B (.fillSolid area c) := rfl

/-- `clear` is the trait default re-translated with `Self` := `Clipped` -/
theorem Clipped_clear_src_eq_model (B r : Rect) (c : Color) :
    AdaptSrc.Clipped_clear (AdaptSrc.DrawTargetExt_clipped B r) c
      = (Adapter.clipped r).lower B (.clear c) := rfl

theorem Clipped_bounding_box_src_eq_model (B r : Rect) :
    AdaptSrc.Clipped_bounding_box (AdaptSrc.DrawTargetExt_clipped B r) = (Adapter.clipped r).bbox B := rfl

theorem Cropped_draw_iter_src_eq_model (B r : Rect) (px : Writes) :
    AdaptSrc.Cropped_draw_iter (AdaptSrc.DrawTargetExt_cropped B r) px
      = (Adapter.cropped r).lower B (.drawIter px) := rfl

theorem Cropped_fill_contiguous_src_eq_model (B r : Rect) (area : Rect) (cs : List Color) :
    AdaptSrc.Cropped_fill_contiguous (AdaptSrc.DrawTargetExt_cropped B r) area cs
      = (Adapter.cropped r).lower B (.fillContiguous area cs) := rfl

theorem Cropped_fill_solid_src_eq_model (B r : Rect) (area : Rect) (c : Color) :
    AdaptSrc.Cropped_fill_solid (AdaptSrc.DrawTargetExt_cropped B r) area c
      = (Adapter.cropped r).lower B (.fillSolid area c) := rfl

/-- `clear` is the trait default re-translated with `Self` := `Cropped`, on the box of the blanket
`impl<T: OriginDimensions> Dimensions for T` -/
theorem Cropped_clear_src_eq_model (B r : Rect) (c : Color) :
    AdaptSrc.Cropped_clear (AdaptSrc.DrawTargetExt_cropped B r) c
      = (Adapter.cropped r).lower B (.clear c) := rfl

theorem Cropped_bounding_box_src_eq_model (B r : Rect) :
    AdaptSrc.Cropped_bounding_box (AdaptSrc.DrawTargetExt_cropped B r) = (Adapter.cropped r).bbox B := rfl

/-! ### ColorConverted (`f` = the `Into<T::Color>` of the colour type) -/

theorem ColorConverted_draw_iter_src_eq_model (B : Rect) (f : Color → Color) (px : Writes) :
    AdaptSrc.ColorConverted_draw_iter f (AdaptSrc.DrawTargetExt_color_converted B) px
      = (Adapter.converted f).lower B (.drawIter px) := rfl

theorem ColorConverted_fill_contiguous_src_eq_model (B : Rect) (f : Color → Color) (area : Rect) (cs : List Color) :
    AdaptSrc.ColorConverted_fill_contiguous f (AdaptSrc.DrawTargetExt_color_converted B) area cs
      = (Adapter.converted f).lower B (.fillContiguous area cs) := rfl

theorem ColorConverted_fill_solid_src_eq_model (B : Rect) (f : Color → Color) (area : Rect) (c : Color) :
    AdaptSrc.ColorConverted_fill_solid f (AdaptSrc.DrawTargetExt_color_converted B) area c
      = (Adapter.converted f).lower B (.fillSolid area c) := rfl

theorem ColorConverted_clear_src_eq_model (B : Rect) (f : Color → Color) (c : Color) :
    AdaptSrc.ColorConverted_clear f (AdaptSrc.DrawTargetExt_color_converted B) c
      = (Adapter.converted f).lower B (.clear c) := rfl

theorem ColorConverted_bounding_box_src_eq_model (B : Rect) :
    AdaptSrc.ColorConverted_bounding_box (AdaptSrc.DrawTargetExt_color_converted B) = B := rfl

/-- The parent call the GENERATED code makes for a call issued on adapter `a` built (by the generated
`DrawTargetExt` constructor) over a parent with box `B`. -/
def srcLower (a : Adapter) (B : Rect) (call : Call) : Call :=
  match a, call with
  | .translated d, .drawIter px => AdaptSrc.Translated_draw_iter (AdaptSrc.DrawTargetExt_translated B d) px
  | .translated d, .fillContiguous area cs => AdaptSrc.Translated_fill_contiguous (AdaptSrc.DrawTargetExt_translated B d) area cs
  | .translated d, .fillSolid area c => AdaptSrc.Translated_fill_solid (AdaptSrc.DrawTargetExt_translated B d) area c
  | .translated d, .clear c => AdaptSrc.Translated_clear (AdaptSrc.DrawTargetExt_translated B d) c
  | .clipped r, .drawIter px => AdaptSrc.Clipped_draw_iter (AdaptSrc.DrawTargetExt_clipped B r) px
  | .clipped r, .fillContiguous area cs =>
    -- fuel for the regenerated cropping iterator: one more than the number of colours (`CropFuel`)
    AdaptSrc.Clipped_fill_contiguous (cs.length + 1) (AdaptSrc.DrawTargetExt_clipped B r) area cs
  | .clipped r, .fillSolid area c => AdaptSrc.Clipped_fill_solid (AdaptSrc.DrawTargetExt_clipped B r) area c
  | .clipped r, .clear c => AdaptSrc.Clipped_clear (AdaptSrc.DrawTargetExt_clipped B r) c
  | .cropped r, .drawIter px => AdaptSrc.Cropped_draw_iter (AdaptSrc.DrawTargetExt_cropped B r) px
  | .cropped r, .fillContiguous area cs => AdaptSrc.Cropped_fill_contiguous (AdaptSrc.DrawTargetExt_cropped B r) area cs
  | .cropped r, .fillSolid area c => AdaptSrc.Cropped_fill_solid (AdaptSrc.DrawTargetExt_cropped B r) area c
  | .cropped r, .clear c => AdaptSrc.Cropped_clear (AdaptSrc.DrawTargetExt_cropped B r) c
  | .converted f, .drawIter px => AdaptSrc.ColorConverted_draw_iter f (AdaptSrc.DrawTargetExt_color_converted B) px
  | .converted f, .fillContiguous area cs => AdaptSrc.ColorConverted_fill_contiguous f (AdaptSrc.DrawTargetExt_color_converted B) area cs
  | .converted f, .fillSolid area c => AdaptSrc.ColorConverted_fill_solid f (AdaptSrc.DrawTargetExt_color_converted B) area c
  | .converted f, .clear c => AdaptSrc.ColorConverted_clear f (AdaptSrc.DrawTargetExt_color_converted B) c

def srcBbox (a : Adapter) (B : Rect) : Rect :=
  match a with
  | .translated d => AdaptSrc.Translated_bounding_box (AdaptSrc.DrawTargetExt_translated B d)
  | .clipped r => AdaptSrc.Clipped_bounding_box (AdaptSrc.DrawTargetExt_clipped B r)
  | .cropped r => AdaptSrc.Cropped_bounding_box (AdaptSrc.DrawTargetExt_cropped B r)
  | .converted _ => AdaptSrc.ColorConverted_bounding_box (AdaptSrc.DrawTargetExt_color_converted B)

/-- **Regenerated adapters = hand model**, every adapter, every method, all inputs. -/
theorem src_lower_eq_model (a : Adapter) (B : Rect) (call : Call) : srcLower a B call = a.lower B call := by
  -- every method unfolds to the model's arm, except `Clipped::fill_contiguous`, which runs the
  -- regenerated cropping iterator on fuel
  cases a <;> cases call <;>
    first
      | rfl
      | exact Clipped_fill_contiguous_src_eq_model _ _ _ _ _ (Nat.lt_succ_self _)

theorem src_bbox_eq_model (a : Adapter) (B : Rect) : srcBbox a B = a.bbox B := by
  cases a <;> rfl

def srcLowerStack (B : Rect) : Stack → Call → Call
  | [], call => call
  | a :: rest, call => srcLower a B (srcLowerStack (srcBbox a B) rest call)

theorem src_lower_stack_eq_model (B : Rect) (s : Stack) (call : Call) :
    srcLowerStack B s call = lowerStack B s call := by
  induction s generalizing B with
  | nil => rfl
  | cons a rest ih => simp only [srcLowerStack, lowerStack, src_lower_eq_model, src_bbox_eq_model, ih]

theorem fill_contiguous_default_src_eq_model (B area : Rect) (cs : List Color) :
    AdaptSrc.DrawTarget_fill_contiguous B area cs = .drawIter ((Call.fillContiguous area cs).lowerDefault B) := by
  simp only [adapt_prelude, AdaptSrc.DrawTarget_fill_contiguous, Call.lowerDefault]
  exact congrArg Call.drawIter (List.map_id'' (fun _ => rfl) _)

/-- Enough fuel for `core::iter::repeat`: at least as many items as the area has points. -/
def RepeatFuel (fuel : Nat) (area : Rect) : Prop := area.points.length ≤ fuel
instance (fuel : Nat) (area : Rect) : Decidable (RepeatFuel fuel area) := by unfold RepeatFuel; exact inferInstance
example : RepeatFuel 6 ⟨⟨1, 1⟩, ⟨3, 2⟩⟩ := by decide

theorem zip_replicate_fuel {α β : Type} (l : List α) (c : β) (fuel : Nat) (h : l.length ≤ fuel) :
    l.zip (List.replicate fuel c) = l.zip (List.replicate l.length c) :=
  (zip_replicate_of_le l c h).trans (zip_replicate_length l c).symm

example : ([1, 2, 3] : List Nat).length ≤ 5 := by decide

/-- default `fill_solid` = `fill_contiguous(area, repeat(color))`: a `fill_contiguous` call whose stream is `fuel`
copies; under the default `fill_contiguous` it writes what `Call.lowerDefault` says for `fill_solid`, for ANY
sufficient fuel (the `zip` with the points of the area cuts the stream). -/
theorem fill_solid_default_src_eq_model (B area : Rect) (c : Color) (fuel : Nat) (h : RepeatFuel fuel area) :
    AdaptSrc.DrawTarget_fill_solid fuel B area c = .fillContiguous area (List.replicate fuel c) ∧
    (AdaptSrc.DrawTarget_fill_solid fuel B area c).lowerDefault B = (Call.fillSolid area c).lowerDefault B := by
  refine ⟨rfl, ?_⟩
  show area.points.zip (List.replicate fuel c) = area.points.zip (List.replicate area.points.length c)
  exact zip_replicate_fuel _ _ _ h

theorem clear_default_src_eq_model (B : Rect) (c : Color) :
    AdaptSrc.DrawTarget_clear B c = .fillSolid B c ∧
    (AdaptSrc.DrawTarget_clear B c).lowerDefault B = (Call.clear c).lowerDefault B := ⟨rfl, rfl⟩

/-- One step of the generated defaults on a target that implements `draw_iter` only. -/
def srcDefaultStep (fuel : Nat) (B : Rect) : Call → Call
  | .drawIter px => .drawIter px
  | .fillContiguous area cs => AdaptSrc.DrawTarget_fill_contiguous B area cs
  | .fillSolid area c => AdaptSrc.DrawTarget_fill_solid fuel B area c
  | .clear c => AdaptSrc.DrawTarget_clear B c

/-- **The generated defaults, chained (`clear -> fill_solid -> fill_contiguous -> draw_iter`: three steps reach
`draw_iter` from any call), are `Call.lowerDefault`** — with fuel for the area of the call (the box for `clear`). -/
theorem default_chain_src_eq_model (B : Rect) (call : Call) (fuel : Nat)
    (h : match call with
      | .fillSolid area _ => RepeatFuel fuel area
      | .clear _ => RepeatFuel fuel B
      | _ => True) :
    srcDefaultStep fuel B (srcDefaultStep fuel B (srcDefaultStep fuel B call)) = .drawIter (call.lowerDefault B) := by
  cases call with
  | drawIter px => rfl
  | fillContiguous area cs =>
    simp only [srcDefaultStep, fill_contiguous_default_src_eq_model]
  | fillSolid area c =>
    simp only [srcDefaultStep, (fill_solid_default_src_eq_model B area c fuel h).1, fill_contiguous_default_src_eq_model]
    exact congrArg _ (zip_replicate_fuel _ _ _ h)
  | clear c =>
    simp only [srcDefaultStep, (clear_default_src_eq_model B c).1, (fill_solid_default_src_eq_model B B c fuel h).1,
      fill_contiguous_default_src_eq_model]
    exact congrArg _ (zip_replicate_fuel _ _ _ h)

example : (match Call.clear 3 with
      | .fillSolid area _ => RepeatFuel 12 area
      | .clear _ => RepeatFuel 12 ⟨⟨0, 0⟩, ⟨4, 3⟩⟩
      | _ => True) := by decide

/-- **Every `Result`-returning method of the four adapters, and every default method of the trait, is one
parent call per control-flow path, in TAIL position, with nothing applied to its `Result`** (checked by the
translator on the Rust syntax tree, decided here on the generated table): the method returns what the parent
call returns, and evaluates nothing after it. 19 methods. -/
theorem all_adapter_methods_are_tail_calls :
    (∀ s ∈ AdaptSrc.adapterMethodShapes, s.tail = true ∧ s.bare = true ∧ s.paths ≥ 1) ∧
    AdaptSrc.adapterMethodShapes.map (fun s => (s.owner, s.method)) =
      [("DrawTarget", "fill_contiguous"), ("DrawTarget", "fill_solid"), ("DrawTarget", "clear"),
       ("Translated", "draw_iter"), ("Translated", "fill_contiguous"), ("Translated", "fill_solid"), ("Translated", "clear"),
       ("Clipped", "draw_iter"), ("Clipped", "fill_contiguous"), ("Clipped", "fill_solid"), ("Clipped", "clear"),
       ("Cropped", "draw_iter"), ("Cropped", "fill_contiguous"), ("Cropped", "fill_solid"), ("Cropped", "clear"),
       ("ColorConverted", "draw_iter"), ("ColorConverted", "fill_contiguous"), ("ColorConverted", "fill_solid"),
       ("ColorConverted", "clear")] :=
  ⟨by decide, rfl⟩

/-- Who overrides what: `Clipped` and `Cropped` inherit the trait's `clear` (the hand model's `clear` arms are the
default body), everything else is the adapter's own. -/
theorem adapter_overrides_pinned :
    (AdaptSrc.adapterMethodShapes.filter (fun s => !s.overridden)).map (fun s => (s.owner, s.method)) =
      [("DrawTarget", "fill_contiguous"), ("DrawTarget", "fill_solid"), ("DrawTarget", "clear"),
       ("Clipped", "clear"), ("Cropped", "clear")] :=
  rfl

/-- No function with a body in any `impl` of the adapter types / `DrawTargetExt` / `pixel::Translated` is left
untranslated (an added `Drop` impl, an added override of an `Iterator` method ... breaks this). -/
theorem adapt_untranslated_pinned : AdaptSrc.untranslated = [] := rfl

/-- `clipped_exact` about the generated `Clipped` methods. -/
theorem src_clipped_exact (clip B : Rect) (c : Call) (h1 : c.Ok (srcBbox (.clipped clip) B)) (q : Pt) :
    (srcLower (.clipped clip) B c).sem B q =
      if clip.contains q = true ∧ B.contains q = true then c.sem (srcBbox (.clipped clip) B) q else none := by
  rw [src_lower_eq_model]; exact EG.C03.clipped_exact clip B c h1 q

/-- `translated_exact` about the generated `Translated` methods. -/
theorem src_translated_exact (d : Pt) (B : Rect) (c : Call) (h1 : c.Ok (srcBbox (.translated d) B))
    (h2 : (srcLower (.translated d) B c).Ok B) (q : Pt) :
    (srcLower (.translated d) B c).sem B q = c.sem (srcBbox (.translated d) B) (q - d) := by
  rw [src_lower_eq_model] at h2 ⊢; exact EG.C03.translated_exact d B c h1 h2 q

/-- `cropped_exact` about the generated `Cropped` methods. -/
theorem src_cropped_exact (area B : Rect) (c : Call) (h1 : c.Ok (srcBbox (.cropped area) B))
    (h2 : (srcLower (.cropped area) B c).Ok B) (q : Pt) :
    (srcLower (.cropped area) B c).sem B q = c.sem (srcBbox (.cropped area) B) (q - (area.intersection B).tl) := by
  rw [src_lower_eq_model] at h2 ⊢; exact EG.C03.cropped_exact area B c h1 h2 q

/-- `converted_exact` about the generated `ColorConverted` methods. -/
theorem src_converted_exact (f : Color → Color) (B : Rect) (c : Call) (h1 : c.Ok B) (q : Pt) :
    (srcLower (.converted f) B c).sem B q = (c.sem B q).map f := by
  rw [src_lower_eq_model]; exact EG.C03.converted_exact f B c h1 q

/-- `stack_exact` about nestings of the generated adapters. -/
theorem src_stack_exact (B : Rect) (s : Stack) (c : Call) (h : stackOk B s c) (q : Pt) :
    (srcLowerStack B s c).sem B q = (stackXf B s).act (c.sem (stackBox B s)) q := by
  rw [src_lower_stack_eq_model]; exact EG.C03.stack_exact B s c h q

example : (Call.fillContiguous ⟨⟨-1, 0⟩, ⟨3, 2⟩⟩ [1, 2, 3, 4]).Ok
      (srcBbox (.clipped ⟨⟨0, 0⟩, ⟨2, 2⟩⟩) ⟨⟨-2, -2⟩, ⟨6, 5⟩⟩) := by decide
example : (Call.fillSolid ⟨⟨-1, 0⟩, ⟨3, 2⟩⟩ 4).Ok (srcBbox (.translated ⟨5, -7⟩) ⟨⟨1, 1⟩, ⟨6, 5⟩⟩) ∧
    (srcLower (.translated ⟨5, -7⟩) ⟨⟨1, 1⟩, ⟨6, 5⟩⟩ (Call.fillSolid ⟨⟨-1, 0⟩, ⟨3, 2⟩⟩ 4)).Ok ⟨⟨1, 1⟩, ⟨6, 5⟩⟩ := by decide
example : (Call.clear 4).Ok (srcBbox (.cropped ⟨⟨2, 2⟩, ⟨9, 9⟩⟩) ⟨⟨1, 1⟩, ⟨6, 5⟩⟩) ∧
    (srcLower (.cropped ⟨⟨2, 2⟩, ⟨9, 9⟩⟩) ⟨⟨1, 1⟩, ⟨6, 5⟩⟩ (Call.clear 4)).Ok ⟨⟨1, 1⟩, ⟨6, 5⟩⟩ := by decide
example : (Call.fillContiguous ⟨⟨-1, 2⟩, ⟨3, 2⟩⟩ [1, 2, 3, 4]).Ok ⟨⟨0, 0⟩, ⟨4, 4⟩⟩ := by decide
/-- the generated code, kernel-evaluated through a depth-3 nesting (the instance of `stack_exact`'s example) -/
example : (srcLowerStack ⟨⟨-3, -2⟩, ⟨7, 5⟩⟩
    [.clipped ⟨⟨-1, -1⟩, ⟨3, 3⟩⟩, .cropped ⟨⟨0, -2⟩, ⟨5, 3⟩⟩, .translated ⟨1, 0⟩]
    (.fillContiguous ⟨⟨-2, -1⟩, ⟨4, 3⟩⟩ [1, 2, 3, 4, 5, 6, 7])) =
    .fillContiguous ⟨⟨-1, -1⟩, ⟨3, 2⟩⟩ [5, 6, 7] := by decide

-- [V] trusted by the source tie of the adapters: the prelude EG/Model/AdaptSrcPrelude.lean (an `IntoIterator` argument is the finite list of its items, `map` / `filter` / `zip` are the list operations, `repeat` is cut by explicit fuel, an iterator adapter whose `next` is `self.iter.next().map(F)` maps `F`, a generic parent target is its `bounding_box()` and a call on it is the `Call` value, `Rectangle`'s methods are the hand model's [their own source tie: C16's Generated*.lean, `intersection` / `contains` under `FitsI32`], `Iterator::next` / `nth` of a list iterator, a crate-defined iterator with a stateful `next` collected on explicit fuel [`iterator::contiguous::Cropped`: its `new` / `next` ARE regenerated and proved equal to the hand model, GeneratedCroppedIter.lean], `usize` as `Nat` with `i32 as usize` sign-extending); the parser and the type-directed method resolution of tools/tr_adapt.py / tr_rect.py (demonstrated by tools/tests/adapt_translator_demo.py: 19 mutations and 4 shape changes each break a theorem, 8 harmless rewrites break none); that trait-method dispatch picks the impls the translator picks (the adapter's own `impl DrawTarget`, else the trait default; `Cropped`'s box through the blanket `impl<T: OriginDimensions> Dimensions for T`)

end EG.C03.GenAdapters
