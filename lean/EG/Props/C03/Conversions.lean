/-
  C03 / conversions — the colour map of a colour-converted target, instantiated with EVERY conversion
  between built-in colour types.

  C03's theorems about `color_converted()` hold for an arbitrary colour map `f`. The real adapter is
  `ColorConverted<'_, T, C>` with `C: Into<T::Color>`: `f` is the `From` impl between the two colour
  types. C13 models every such impl between built-in types: `EG.Conv.resolvedTable` is the generated
  table of all `impl From<A> for B` of conversion.rs (`C13.table_complete`: the complete matrix, one
  per ordered pair of distinct types, `n (n - 1)` = 182), `Resolved.apply` its body. This file
  states the corollaries: for each of those conversions `x`, a target converted by `x` is exact
  (`converted_exact` with `f := x.apply`), hands its parent only values of the parent's colour type,
  maps black to black and white to white, and nests like function composition.
  Colours are the numbers their Rust values hold (C12's `ColorSpec.Valid`; for C03's model colours are
  raw values — Props/C09/Colours.lean shows the two views coincide).
-/
import EG.Props.C03
import EG.Props.C13
namespace EG.C03.Conversions
open EG EG.Rect EG.Tgt EG.Generated EG.ColorSpec EG.Conv

/-- How many conversions the statements below quantify over: one per ordered pair of distinct
built-in colour types (C13 `table_counts`, `table_complete`). -/
theorem conversions_count :
    resolvedTable.length = colorTable.length * (colorTable.length - 1) ∧
    resolvedTable.length = seenConvImpls := by
  obtain ⟨hlen, _, _, _, _, _, _, _, hres⟩ := C13.table_counts
  exact ⟨by rw [hres, C13.table_complete.1], by rw [hres, hlen]⟩

/-- **Colour converted by any built-in conversion, per call**: every colour that reaches the parent
is `B::from(c)` of the colour `c` drawn, at the same point; nothing else changes. -/
theorem converted_exact_all : ∀ x ∈ resolvedTable, ∀ (B : Rect) (c : Call), c.Ok B → ∀ q,
    ((Adapter.converted x.apply).lower B c).sem B q = (c.sem B q).map x.apply :=
  fun x _ B c h1 q => C03.converted_exact x.apply B c h1 q
example : (Call.clear 4).Ok ⟨⟨1, 1⟩, ⟨6, 5⟩⟩ := by decide

/-- The colour stream handed to the parent is the element-wise image under the conversion. -/
theorem converted_stream_all : ∀ x ∈ resolvedTable, ∀ (B area : Rect) (cs : List Color),
    (Adapter.converted x.apply).lower B (.fillContiguous area cs) = .fillContiguous area (cs.map x.apply) :=
  fun x _ B area cs => C03.converted_stream x.apply B area cs

/-- The box the converted target reports is the parent's. -/
theorem converted_bbox_all : ∀ x ∈ resolvedTable, ∀ B, (Adapter.converted x.apply).bbox B = B :=
  fun _ _ _ => rfl

/-- **The parent only ever receives values of its own colour type** (whatever is drawn on the
converted target): every conversion result is `B::new(..)`, `BLACK` / `WHITE`, or `Off` / `On`. -/
theorem converted_colours_valid : ∀ x ∈ resolvedTable, ∀ (B : Rect) (c : Call), c.Ok B → ∀ q col,
    ((Adapter.converted x.apply).lower B c).sem B q = some col → x.b.Valid col := by
  intro x hx B c h1 q col h
  rw [converted_exact_all x hx B c h1 q] at h
  cases hc : c.sem B q with
  | none => rw [hc] at h; cases h
  | some v =>
    rw [hc, Option.map_some] at h
    cases h
    exact Conv.apply_valid x hx v

/-- Black stays black and white stays white through every converted target (C13 `black_white`). -/
theorem converted_black_white : ∀ x ∈ resolvedTable, ∀ (B : Rect) (c : Call), c.Ok B → ∀ q,
    (c.sem B q = some (black x.a) → ((Adapter.converted x.apply).lower B c).sem B q = some (black x.b)) ∧
    (c.sem B q = some (white x.a) → ((Adapter.converted x.apply).lower B c).sem B q = some (white x.b)) := by
  intro x hx B c h1 q
  rw [converted_exact_all x hx B c h1 q]
  have hbw := C13.black_white x hx
  constructor
  · intro h; rw [h, Option.map_some, hbw.1]
  · intro h; rw [h, Option.map_some, hbw.2]

/-- Two nested colour-converted targets (`x` next to the root, `y` on top of it) act as the
composition `x ∘ y`, the root-most conversion applied last. -/
theorem converted_nested_all : ∀ x ∈ resolvedTable, ∀ y ∈ resolvedTable,
    ∀ (B : Rect) (m : Pt → Option Color) (q : Pt),
      (stackXf B [.converted x.apply, .converted y.apply]).act m q = (m q).map (fun c => x.apply (y.apply c)) :=
  fun x _ y _ B m q => C03.converted_converted B x.apply y.apply m q

/-- One concrete pair, evaluated: `BinaryColor -> Rgb565` (the pair the correspondence stream runs on
the real code) is in the table and sends `On` to `0xFFFF`, `Off` to `0`. -/
theorem binary_to_rgb565_witness : ∃ x ∈ resolvedTable, x.a.name = "BinaryColor" ∧ x.b.name = "Rgb565" ∧
    x.apply 1 = 0xFFFF ∧ x.apply 0 = 0 ∧
    (Adapter.converted x.apply).lower ⟨⟨0, 0⟩, ⟨4, 4⟩⟩ (.fillContiguous ⟨⟨1, 1⟩, ⟨2, 1⟩⟩ [1, 0]) =
      .fillContiguous ⟨⟨1, 1⟩, ⟨2, 1⟩⟩ [0xFFFF, 0] :=
  ⟨_, get_resolve_mem (e := ⟨"BinaryColor", "Rgb565", .fromBinary⟩) (by decide +kernel),
    by decide +kernel⟩

-- [V] that the `From` impls between built-in types are the bodies C13 models (C13's tie: regenerated table, `conv.pairs`, correspondence stream): carried by correspondence + oracle only. (closed: that the real `ColorConverted` calls exactly `.into()` once on each colour - `colors.into_iter().map(|c| c.into())`, `color.into()` - is `ColorConverted_*_src_eq_model` of EG/Props/C03/GeneratedAdapters.lean, over the bodies regenerated from color_converted.rs)
end EG.C03.Conversions
