/-
  C19 (polyline part) — "a one-pixel polyline equals the union of its segment lines with shared
  joints emitted once". Model: `EG.Polyline.points` (= `Polyline::points()`,
  src/primitives/polyline/points.rs). Helper lemmas: EG/Lemmas/Polyline.lean.

  The styled polyline with stroke width 1 (`EG.Joins.drawStyled` / `pixels`,
  EG/Model/ThickPolyline.lean = src/primitives/polyline/styled.rs): `draw_styled` is ONE
  `draw_iter` call with `points().map(|p| Pixel(p, stroke_color))`, and `pixels()` is the `Thin` arm
  `points()`; both are the `1 =>` arms of the model, so `one_pixel_polyline_is_points` is
  definitional (`rfl`) - the thick-polyline code is reached for widths above 1 only. What is not
  definitional is the picture: `one_pixel_polyline_picture` - on a target with any box, through
  the native methods or the trait defaults, the pixels painted are exactly the points of `points()`
  inside the box, in the stroke colour (a point of a self-crossing polyline is written several
  times, always with the same colour) - and `one_pixel_polyline_picture_translate`: the `translate`
  field moves the picture.
-/
import EG.Lemmas.Polyline
import EG.Lemmas.PolylineSet
import EG.Lemmas.RectTranslate
import EG.Lemmas.PMapTranslate
import EG.Model.ThickPolyline
namespace EG.C19
open EG EG.Polyline

/-- The union of the segment lines after the first, each without its first point (the joint shared
with the previous segment). -/
def laterSegments (tr : Pt) : List Pt → List Pt
  | [] => []
  | [_] => []
  | a :: b :: rest => (Line.points ⟨a + tr, b + tr⟩).tail ++ laterSegments tr (b :: rest)

theorem laterSegments_eq (tr : Pt) : ∀ vs, laterSegments tr vs = tailSegs tr vs
  | [] => rfl
  | [_] => rfl
  | a :: b :: rest => by simp only [laterSegments, tailSegs, laterSegments_eq tr (b :: rest)]

/-- `Polyline::points()` of vertices `v0, v1, v2, ..` (all shifted by the `translate` field) is
`points(v0 v1) ++ tail (points(v1 v2)) ++ tail (points(v2 v3)) ++ ..`: the union of the segment
lines in order, each joint emitted once — for all vertex lists, also through repeated vertices
(zero-length segments contribute nothing after their joint) and reversals. -/
theorem polyline_points (tr v0 v1 : Pt) (rest : List Pt) :
    (Polyline.points ⟨tr, v0 :: v1 :: rest⟩) =
      Line.points ⟨v0 + tr, v1 + tr⟩ ++ laterSegments tr (v1 :: rest) := by
  rw [points_eq_spec, laterSegments_eq]; rfl

/-- Fewer than two vertices: no point at all. -/
theorem polyline_points_short (tr : Pt) (vs : List Pt) (h : vs.length < 2) :
    Polyline.points ⟨tr, vs⟩ = [] := by
  rw [points_eq_spec]
  match vs, h with
  | [], _ => rfl
  | [_], _ => rfl

example : ([⟨3, 4⟩] : List Pt).length < 2 := by decide

/-- The joint is emitted once: a segment's contribution after the first segment starts with the
point after the joint (the first point of `Line.points` is its start, C17 `points_head`). -/
theorem polyline_joint_once (tr v0 v1 v2 : Pt) :
    Polyline.points ⟨tr, [v0, v1, v2]⟩ =
      Line.points ⟨v0 + tr, v1 + tr⟩ ++ (Line.points ⟨v1 + tr, v2 + tr⟩).tail := by
  rw [polyline_points]; simp [laterSegments]

/-- Translating the polyline (the `translate` field) shifts every point. -/
theorem polyline_points_translate (tr d : Pt) (vs : List Pt) :
    Polyline.points ((⟨tr, vs⟩ : Polyline).translateBy d) = (Polyline.points ⟨tr, vs⟩).map (· + d) :=
  points_translateBy tr d vs

/-- **A one-pixel polyline equals the union of its segment lines** (as a point set; the list form
with each joint emitted once is `polyline_points`): `p` is a point of `points()` iff it is a point
of `Line(v[i], v[i+1]).points()` for some `i`. For all vertex lists and every `translate`. -/
theorem polyline_point_set (tr : Pt) (vs : List Pt) (p : Pt) :
    p ∈ Polyline.points ⟨tr, vs⟩ ↔ ∃ l ∈ segments tr vs, p ∈ Line.points l := by
  match vs with
  | [] => rw [polyline_points_short tr [] (by decide)]; simp [segments]
  | [a] => rw [polyline_points_short tr [a] (by simp)]; simp [segments]
  | a :: b :: rest =>
    rw [polyline_points, laterSegments_eq]
    exact mem_segments tr p rest a b

/-- The calls of `draw_styled` on a target, for the stroke colour `c`: nothing, one `draw_iter`
with the points paired with `c`, or one `fill_solid` per rectangle. -/
def polyCalls (c : Color) : Joins.PolyDraw → List Call
  | .nothing => []
  | .drawIter pts => [Call.drawIter (pts.map (fun p => (p, c)))]
  | .fillSolids rs => rs.map (fun r => Call.fillSolid r c)

/-- **Definitional** (the `1 =>` arms of the model, as of the source): with stroke width 1
`draw_styled` is one `draw_iter` call with `points()`, and `pixels()` is `points()`. -/
theorem one_pixel_polyline_is_points (pl : Polyline) (c : Color) :
    Joins.drawStyled pl 1 = some (.drawIter (Polyline.points pl)) ∧
    Joins.pixels pl 1 = some (Polyline.points pl) ∧
    (Joins.drawStyled pl 1).map (polyCalls c) =
      some [Call.drawIter ((Polyline.points pl).map (fun p => (p, c)))] :=
  ⟨rfl, rfl, rfl⟩

/-- **A stroke-width-1 styled polyline draws exactly the point set of `points()`**: on a target
with box `B`, whether it implements the fill methods natively or through the trait defaults, a
point carries the stroke colour iff it is a point of `points()` inside `B`, and nothing otherwise. -/
theorem one_pixel_polyline_picture (pl : Polyline) (c : Color) (B : Rect) (d : Joins.PolyDraw)
    (hd : Joins.drawStyled pl 1 = some d) (p : Pt) :
    runNative B (polyCalls c d) p =
      (if p ∈ Polyline.points pl ∧ B.contains p = true then some c else none) ∧
    runDefault B (polyCalls c d) p = runNative B (polyCalls c d) p := by
  obtain rfl : Joins.PolyDraw.drawIter (Polyline.points pl) = d := Option.some.inj hd
  unfold polyCalls
  rw [runNative_drawIter, runDefault_drawIter]
  exact ⟨picture_of_points B _ c p, rfl⟩

example : Joins.drawStyled ⟨⟨1, 0⟩, [⟨0, 0⟩, ⟨3, 2⟩, ⟨0, 2⟩, ⟨3, 0⟩]⟩ 1 =
    some (.drawIter (Polyline.points ⟨⟨1, 0⟩, [⟨0, 0⟩, ⟨3, 2⟩, ⟨0, 2⟩, ⟨3, 0⟩]⟩)) := rfl

/-- **The `translate` field moves the picture**: the polyline translated by `d`, drawn on the
target moved by `d`, paints at `p + d` what the polyline paints at `p`. -/
theorem one_pixel_polyline_picture_translate (tr d : Pt) (vs : List Pt) (c : Color) (B : Rect)
    (p : Pt) :
    runNative (B.translate d)
        (polyCalls c (.drawIter (Polyline.points ((⟨tr, vs⟩ : Polyline).translateBy d)))) (p + d) =
      runNative B (polyCalls c (.drawIter (Polyline.points ⟨tr, vs⟩))) p ∧
    runDefault (B.translate d)
        (polyCalls c (.drawIter (Polyline.points ((⟨tr, vs⟩ : Polyline).translateBy d)))) (p + d) =
      runDefault B (polyCalls c (.drawIter (Polyline.points ⟨tr, vs⟩))) p := by
  have e : ((Polyline.points ⟨tr, vs⟩).map (· + d)).map (fun q => (q, c)) =
      Writes.translate d ((Polyline.points ⟨tr, vs⟩).map (fun q => (q, c))) := by
    simp [Writes.translate, List.map_map, Function.comp_def]
  have key : PMap.empty.apply (clipWrites (B.translate d)
        ((Polyline.points ((⟨tr, vs⟩ : Polyline).translateBy d)).map (fun q => (q, c)))) (p + d) =
      PMap.empty.apply (clipWrites B ((Polyline.points ⟨tr, vs⟩).map (fun q => (q, c)))) p := by
    rw [polyline_points_translate, e, apply_clip_translate, PMap.shift_at, Pt.add_sub_cancel']
  unfold polyCalls
  rw [runNative_drawIter, runNative_drawIter, runDefault_drawIter, runDefault_drawIter]
  exact ⟨key, key⟩

end EG.C19
