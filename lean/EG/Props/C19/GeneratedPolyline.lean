/-
  C19 — the REGENERATED `Polyline` / `polyline::Points` equal the hand-written model (`EG/Model/Polyline.lean`).

  `tools/tr_trisrc.py` translates src/primitives/polyline/mod.rs (`Polyline::new`, `Transform::translate`,
  `PointsIter::points`) and src/primitives/polyline/points.rs (`Points::new` with its `split_first().and_then(..
  first().map(..)).unwrap_or_else(..)` chain, `Iterator::next` with its `?`s, the assignments to `self.vertices` /
  `self.segment_iter` and the recursion through `self.nth(1)`) into `EG.Generated.TriSrc.Polyline_* / PolyPoints_*`.
  `next` calls itself through the default `Iterator::nth`; the regenerated function runs on explicit fuel (one unit
  per level of that recursion; each level drops a vertex). This file proves that one regenerated `next` on `fuel`
  is exactly the hand model's `nextFuel fuel` (same point, same state after; `None` together) for EVERY fuel, that
  `Points::new` builds the model's initial state, hence that the list a `for` loop collects from the regenerated
  iterator is `Polyline.points`, and restates C19's polyline theorems over the regenerated code.

  Differences: `line::Points` (the segment iterator) and `Line::new` are not regenerated here (the prelude binds them
  to the hand model of the line, C17's subject); a slice is a list; `next` returns (`Option<Point>`, state after)
  where the hand model returns `Option (point, state after)` (`SrcIter.stepView ppOf`). No guard is needed.
-/
import EG.Props.C19.Generated
import EG.Props.C19.Polyline
namespace EG.C19.Src
open EG EG.Polyline EG.RectSrcPrelude EG.TriSrcPrelude EG.Generated EG.C16.Src

theorem Polyline_new_src_eq_model (vs : List Pt) : TriSrc.Polyline_new vs = Polyline.new vs := rfl

theorem Polyline_translate_src_eq_model (pl : Polyline) (d : Pt) :
    TriSrc.Polyline_Transform_translate pl d = pl.translateBy d := rfl

def ppOf (p : TriSrc.PolyPointsS) : Polyline.PointsIt := ⟨p.vertices, p.translate, p.segment_iter⟩

theorem PolyPoints_new_src_eq_model (pl : Polyline) : ppOf (TriSrc.PolyPoints_new pl) = Polyline.pointsIt pl := by
  unfold TriSrc.PolyPoints_new Polyline.pointsIt
  cases hv : pl.vertices with
  | nil => tri_simp [hv, ppOf]; rfl
  | cons a rest =>
    cases rest with
    | nil => tri_simp [hv, ppOf]; rfl
    | cons b rest' => tri_simp [hv, ppOf, Point_add_src_eq_model]

theorem Polyline_points_src_eq_model (pl : Polyline) :
    ppOf (TriSrc.Polyline_PointsIter_points pl) = Polyline.pointsIt pl := PolyPoints_new_src_eq_model pl

/-- One call of the regenerated `next` on `fuel` is the hand model's `nextFuel fuel`, for every fuel. -/
theorem PolyPoints_next_fuel_src_eq_model : ∀ (fuel : Nat) (p : TriSrc.PolyPointsS),
    SrcIter.stepView ppOf (TriSrc.PolyPoints_Iterator_next fuel p) = (ppOf p).nextFuel fuel := by
  intro fuel
  induction fuel with
  | zero => intro p; rfl
  | succ n ih =>
    intro p
    unfold TriSrc.PolyPoints_Iterator_next PointsIt.nextFuel
    tri_simp [ppOf, SrcIter.stepView, Point_add_src_eq_model]
    cases hs : p.segment_iter.next with
    | some x => rfl
    | none =>
      simp only []
      cases hv : p.vertices with
      | nil => rfl
      | cons a rest =>
        cases rest with
        | nil => rfl
        | cons b rest' =>
          simp only [iterator_nth]
          have h1 := ih { p with vertices := b :: rest', segment_iter := Line.pointsIt ⟨a + p.translate, b + p.translate⟩ }
          unfold SrcIter.stepView ppOf at h1
          simp only [] at h1
          rw [← h1]
          cases hq : TriSrc.PolyPoints_Iterator_next n
              { p with vertices := b :: rest', segment_iter := Line.pointsIt ⟨a + p.translate, b + p.translate⟩ } with
          | mk v s' =>
            cases v with
            | none => rfl
            | some q =>
              simp only [Option.map_some]
              have h2 := ih s'
              unfold SrcIter.stepView ppOf at h2
              exact h2

/-- One call of `next` with the fuel the hand model's `PointsIt.next` uses (the number of vertices left + 1). -/
def srcPolyNext (p : TriSrc.PolyPointsS) : Option Pt × TriSrc.PolyPointsS :=
  TriSrc.PolyPoints_Iterator_next (p.vertices.length + 1) p

theorem PolyPoints_next_src_eq_model (p : TriSrc.PolyPointsS) : SrcIter.stepView ppOf (srcPolyNext p) = (ppOf p).next :=
  PolyPoints_next_fuel_src_eq_model _ p

theorem PolyPoints_collect_src_eq_model : ∀ (fuel : Nat) (p : TriSrc.PolyPointsS),
    collectFuel srcPolyNext fuel p = (ppOf p).toListFuel fuel :=
  (collectFuel_drains _).view PointsIt.drains ppOf fun p => SrcIter.ofPair_view (PolyPoints_next_src_eq_model p)

/-- `polyline.points()` collected from the regenerated code (budget of the hand model). -/
def srcPolyPoints (pl : Polyline) : List Pt :=
  collectFuel srcPolyNext (budget pl.translate pl.vertices) (TriSrc.Polyline_PointsIter_points pl)

/-- **The points a `for` loop over the regenerated `polyline.points()` sees are the hand model's `Polyline.points`.** -/
theorem src_polyline_points_eq_model (pl : Polyline) : srcPolyPoints pl = pl.points := by
  unfold srcPolyPoints Polyline.points
  rw [PolyPoints_collect_src_eq_model, Polyline_points_src_eq_model]

/-- **The regenerated `Polyline::points()` is the first segment line followed by the later segment lines without
their first point** (each joint once), for all vertex lists. -/
theorem src_polyline_points (tr v0 v1 : Pt) (rest : List Pt) :
    srcPolyPoints ⟨tr, v0 :: v1 :: rest⟩ = Line.points ⟨v0 + tr, v1 + tr⟩ ++ laterSegments tr (v1 :: rest) := by
  rw [src_polyline_points_eq_model]; exact polyline_points tr v0 v1 rest

/-- Fewer than two vertices: the regenerated iterator yields nothing. -/
theorem src_polyline_points_short (tr : Pt) (vs : List Pt) (h : vs.length < 2) : srcPolyPoints ⟨tr, vs⟩ = [] := by
  rw [src_polyline_points_eq_model]; exact polyline_points_short tr vs h
example : ([⟨3, 4⟩] : List Pt).length < 2 := by decide

/-- The joint of two segments is emitted once by the regenerated iterator. -/
theorem src_polyline_joint_once (tr v0 v1 v2 : Pt) :
    srcPolyPoints ⟨tr, [v0, v1, v2]⟩ =
      Line.points ⟨v0 + tr, v1 + tr⟩ ++ (Line.points ⟨v1 + tr, v2 + tr⟩).tail := by
  rw [src_polyline_points_eq_model]; exact polyline_joint_once tr v0 v1 v2

/-- The regenerated `translate` only moves the `translate` field; the points move with it. -/
theorem src_polyline_points_translate (tr d : Pt) (vs : List Pt) :
    srcPolyPoints (TriSrc.Polyline_Transform_translate ⟨tr, vs⟩ d) = (srcPolyPoints ⟨tr, vs⟩).map (· + d) := by
  rw [Polyline_translate_src_eq_model, src_polyline_points_eq_model, src_polyline_points_eq_model]
  exact polyline_points_translate tr d vs

end EG.C19.Src
