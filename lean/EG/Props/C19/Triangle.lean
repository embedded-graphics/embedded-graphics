/-
  C19 (triangle part) — "A filled triangle covers every integer point inside the mathematical
  triangle, every point it covers is inside the triangle or within one pixel of an edge, the result
  does not depend on the order of the vertices, and two triangles sharing an edge leave no gap and
  have the same pixels along that edge. A one-pixel triangle outline consists of its three edge
  lines ..."
  Model: `EG.Triangle` (EG/Model/Triangle.lean = src/primitives/triangle/*.rs).
  Helper lemmas: EG/Lemmas/Triangle*.lean.

  Proved for ALL vertex triples (unbounded integers, colinear and coincident vertices included;
  `Rect.InRange` of the bounding box = `Rectangle::rows()` does not saturate `i32`, where needed):
  * vertex-order independence: of `sorted_yx`, of `area_doubled` up to sign, of the bounding box, of
    the rasterised edge lines, of every row span and of the whole `points()` list;
  * the closed form of `points()`: rows of the bounding box top to bottom, one non-empty contiguous
    span per row = the hull of the Bresenham edge pixels of that row (the early `None` of the
    non-fused iterators never fires); strictly row-major, no point twice;
  * `closed_triangle_covered` / `interior_covered`: every lattice point of the closed mathematical
    triangle is covered;
  * `covered_within_one_pixel`: every covered point is inside the closed triangle or at Euclidean
    distance <= 1 from an edge segment;
  * `shared_edge_same_pixels` / `shared_edge_pixels_in_both`: both triangles rasterise a shared edge
    as the same `Line` between the `(y, x)`-sorted end points, and all its pixels are in both point
    lists - for ALL triples, zero-area triangles included;
    `mesh_gap_free`: no lattice point of the quadrilateral's interior is missed;
  * `degenerate_triangle_is_line`: what the code does for colinear / coincident vertices
    (`area_doubled == 0`): `scanline_intersection` intersects each row with the single line
    `Line(p1, p3)` between the `(y, x)`-extreme vertices of `sorted_yx`; `points()` is, as a set,
    exactly `Line(p1, p3).points()`, and that list is `Line(p1, p2).points()` followed by
    `Line(p2, p3).points()` without its first point (the Bresenham walk of a colinear sub-segment is
    a prefix / suffix of the walk of the whole segment, EG/Lemmas/LineColinear.lean); three
    coincident vertices give the single point;
  * `triangle_translate`, `triangle_contains_translate` (exported for C07).

  * `outline_is_edge_lines`: the pixels of the one-pixel outline are exactly the pixels of the three
    edge lines (as the code orients them: cyclically for a triangle given clockwise, in the reverse
    cycle for a counter-clockwise one; Bresenham ties round differently in the two directions).

  * `outline_all_alignments`: the same for `StrokeAlignment::Inside` and `Outside` (model
    EG/Model/TriangleAligned.lean): the pixel set is the union of the three edge lines, each edge in
    one of its two orientations (the predicate of the oracle). `Outside`, and `Inside` on a triangle
    of non-zero area, run the very iterator of the centre alignment (`outline_alignment_irrelevant`);
    `Inside` on a zero-area triangle takes the collapsed arm of `generate_lines`: `pixels()` is
    `points()` in the stroke colour, the Bresenham line between the `(y, x)`-extreme vertices
    (`outline_inside_degenerate`; the centre alignment additionally paints that line backwards).

  Every sub-claim of the triangle part is a theorem about the model. The modelling steps of the
  outline path are proved on the join model (Props/C19/Joins.lean), for all three alignments:
  for stroke width 1 `LineJoin::from_points` / `ThickSegment::intersection` reduce to the Bresenham
  intersection with the skeleton line `Line(v[i+1], v[i+2])`, the parameter `skeletonSeg` of
  EG/Model/Triangle.lean (`EG.C19.Joins.skeleton_seg_is_join_code`), and
  `is_collapsed(1, offset) && offset == Right` is `area_doubled <= 0 && Inside`, the parameter
  `collapsedFlag1` of EG/Model/TriangleAligned.lean (`EG.C19.Joins.collapsed_flag_is_join_code`).

  Arithmetic: the model computes in unbounded integers, "ALL vertex triples" above means all triples
  of the MODEL. In Rust `Triangle::area_doubled` and the `s`, `t`, `s + t` of `Triangle::contains`
  are plain `i32` expressions (mod.rs): they wrap (release) or panic (overflow checks) once a product
  or partial sum leaves `i32`, e.g. Triangle((0,0),(65536,0),(0,65536)): `p2.x * p3.y = 2^32` wraps to
  0, `scanline_intersection` takes the colinear arm and `points()` is one line
  (`area_doubled_product_exceeds_i32`). The theorems describe the real code where these expressions
  do not overflow: every coordinate within +-8192 suffices (`area_doubled_fits_i32`,
  `contains_products_fit_i32`, Props/C19/Arithmetic.lean: every product and partial sum in
  evaluation order is in `i32`); the display scale of C08 (+-1024) lies inside. C08 states the same
  range through the checked model of these functions (EG.Model.CheckedTriangle,
  Props/C08/Triangle.lean: checked = plain for vertices within +-8192; at +-16384 `contains` overflows); the
  control flow of `ScanlineIntersections` around them has no checked model (a [V] line of
  Props/C08.lean), its oracle runs display-scale triangles with overflow checks enabled.
-/
import EG.Lemmas.TrianglePoints
import EG.Lemmas.TriangleTranslate
import EG.Lemmas.TriangleSpan
import EG.Lemmas.TriangleCover
import EG.Lemmas.TriangleNear
import EG.Lemmas.TriangleOutlineMain
import EG.Lemmas.TriangleColinear
import EG.Lemmas.TriangleOutlineAligned
namespace EG.C19
open EG EG.Triangle

/-- `sorted_yx`: all six vertex orders sort to the same triple. -/
theorem sorted_yx_perm (t t' : Triangle) (h : t' ∈ orders t) : t'.sortedYx = t.sortedYx :=
  sortedYx_of_mem_orders h

example : (⟨⟨3, 1⟩, ⟨0, 0⟩, ⟨5, 7⟩⟩ : Triangle) ∈ orders ⟨⟨0, 0⟩, ⟨5, 7⟩, ⟨3, 1⟩⟩ := by decide

/-- `sorted_yx` is a rearrangement of the vertices, in non-decreasing `(y, x)` order. -/
theorem sorted_yx_sorted (t : Triangle) :
    t.sortedYx ∈ orders t ∧ ¬ yxLt t.sortedYx.v2 t.sortedYx.v1 ∧ ¬ yxLt t.sortedYx.v3 t.sortedYx.v2 :=
  ⟨sortedYx_mem_orders t, sortedYx_sorted t⟩

/-- `area_doubled` changes at most its sign under a permutation of the vertices. -/
theorem area_doubled_perm (t t' : Triangle) (h : t' ∈ orders t) :
    t'.areaDoubled = t.areaDoubled ∨ t'.areaDoubled = -t.areaDoubled :=
  areaDoubled_of_mem_orders h
example : (⟨⟨3, 1⟩, ⟨0, 0⟩, ⟨5, 7⟩⟩ : Triangle) ∈ orders ⟨⟨0, 0⟩, ⟨5, 7⟩, ⟨3, 1⟩⟩ := by decide

/-- The bounding box does not depend on the vertex order. -/
theorem bounding_box_perm (t t' : Triangle) (h : t' ∈ orders t) : t'.boundingBox = t.boundingBox :=
  boundingBox_of_mem_orders h
example : (⟨⟨3, 1⟩, ⟨0, 0⟩, ⟨5, 7⟩⟩ : Triangle) ∈ orders ⟨⟨0, 0⟩, ⟨5, 7⟩, ⟨3, 1⟩⟩ := by decide

/-- The span of every row (`sorted_clockwise().scanline_intersection(y)`) is the same for all six
vertex orders: it only uses the sorted triple and whether the area vanishes. (`sorted_clockwise`
itself does use the unsorted vertices; its result is discarded by `scanline_intersection`.) -/
theorem row_span_perm (t t' : Triangle) (h : t' ∈ orders t) (y : Int) : t'.span y = t.span y := by
  rw [span_of_mem_orders h]
example : (⟨⟨3, 1⟩, ⟨0, 0⟩, ⟨5, 7⟩⟩ : Triangle) ∈ orders ⟨⟨0, 0⟩, ⟨5, 7⟩, ⟨3, 1⟩⟩ := by decide

/-- **`points()` is the same list for all six vertex orders.** -/
theorem triangle_points_order_independent (t t' : Triangle) (h : t' ∈ orders t) :
    t'.points = t.points :=
  points_of_mem_orders h
example : (⟨⟨3, 1⟩, ⟨0, 0⟩, ⟨5, 7⟩⟩ : Triangle) ∈ orders ⟨⟨0, 0⟩, ⟨5, 7⟩, ⟨3, 1⟩⟩ := by decide

/-- `points()` only depends on the sorted triple. -/
theorem triangle_points_of_sorted (t : Triangle) : t.sortedYx.points = t.points :=
  points_sortedYx t

/-- Closed form of `points()`: the rows of the bounding box in order; row `y` contributes the
contiguous span `span y`; an empty first row is skipped, after that the first empty span ends the
iteration (the iterators are not fused). `take pointsBudget` is the step budget of the model's
`toListFuel`. -/
theorem triangle_points_closed_form (t : Triangle) :
    t.points = (rowsSpec t.span t.boundingBox.tl.y t.boundingBox.rowsEnd).take t.pointsBudget :=
  points_eq_take t

/-- **`points()` in closed form, for every triangle whose bounding box is within the `i32` range**:
the rows of the bounding box from top to bottom, each contributing its span from left to right. No
row is empty (the line `p1 p3` passes through every row), so the early `None` of the non-fused
iterators never fires, and the step budget of the model's `toListFuel` is never exhausted. -/
theorem triangle_points_rows (t : Triangle) (h : t.boundingBox.InRange) :
    t.points = (rowList t).flatMap (fun y => (t.span y).points) :=
  points_eq_rows t h

example : (⟨⟨0, 0⟩, ⟨5, 1⟩, ⟨4, 6⟩⟩ : Triangle).boundingBox.InRange := by decide

/-- **`points()` is the per-row hull of the Bresenham edge pixels**: `p` is covered iff its row
contains a pixel of one of the edge lines in use (`p1 p2`, `p1 p3`, `p2 p3` of the sorted triangle;
only `p1 p3` when the area is zero) at or left of `p`, and one at or right of `p`. -/
theorem triangle_points_hull (t : Triangle) (h : t.boundingBox.InRange) (p : Pt) :
    p ∈ t.points ↔
      ∃ q1 q2, q1 ∈ rowPix t p.y ∧ q2 ∈ rowPix t p.y ∧ q1.x ≤ p.x ∧ p.x ≤ q2.x :=
  mem_points_iff_between t h p
example : (⟨⟨0, 0⟩, ⟨5, 1⟩, ⟨4, 6⟩⟩ : Triangle).boundingBox.InRange := by decide

/-- No point is yielded twice; the order is row-major. -/
theorem triangle_points_row_major (t : Triangle) (h : t.boundingBox.InRange) :
    t.points.Pairwise Pt.rowMajorLt ∧ t.points.Nodup :=
  ⟨points_rowMajor t h, points_nodup t h⟩
example : (⟨⟨0, 0⟩, ⟨5, 1⟩, ⟨4, 6⟩⟩ : Triangle).boundingBox.InRange := by decide

/-- **Both triangles rasterise a shared edge as the same `Line`**: whenever `u`, `v` are two
vertices of `t1` and of `t2` (in any position), the line from the `(y, x)`-smaller to the larger of
`u`, `v` is one of the three edge lines of either triangle; for non-degenerate triangles every row
span is the fold of `bresenham_intersection` over those edge lines. So the pixels that the edge
contributes to the row spans are the same `Line::points()` in both triangles. -/
theorem shared_edge_same_pixels (t1 t2 : Triangle) (u v w1 w2 : Pt)
    (h1 : (⟨u, v, w1⟩ : Triangle) ∈ orders t1) (h2 : (⟨u, v, w2⟩ : Triangle) ∈ orders t2) :
    sortedLine u v ∈ t1.edgeLines ∧ sortedLine u v ∈ t2.edgeLines ∧
    (t1.areaDoubled ≠ 0 → ∀ y, t1.scanlineIntersection y =
        t1.edgeLines.foldl Scanline.bint (Scanline.newEmpty y)) ∧
    (t2.areaDoubled ≠ 0 → ∀ y, t2.scanlineIntersection y =
        t2.edgeLines.foldl Scanline.bint (Scanline.newEmpty y)) :=
  ⟨sortedLine_mem_edgeLines h1, sortedLine_mem_edgeLines h2,
   fun h y => by rw [scanlineIntersection_eq_foldl_used, usedLines_of_nonzero h],
   fun h y => by rw [scanlineIntersection_eq_foldl_used, usedLines_of_nonzero h]⟩

example : (⟨⟨0, 0⟩, ⟨4, 6⟩, ⟨5, 1⟩⟩ : Triangle) ∈ orders ⟨⟨0, 0⟩, ⟨5, 1⟩, ⟨4, 6⟩⟩ ∧
    (⟨⟨0, 0⟩, ⟨4, 6⟩, ⟨-3, 4⟩⟩ : Triangle) ∈ orders ⟨⟨0, 0⟩, ⟨4, 6⟩, ⟨-3, 4⟩⟩ ∧
    (⟨⟨0, 0⟩, ⟨5, 1⟩, ⟨4, 6⟩⟩ : Triangle).areaDoubled ≠ 0 := by decide

/-- **Two triangles sharing an edge have the same pixels along that edge**: every pixel of the
line between the shared vertices `u`, `v` (rasterised from the `(y, x)`-smaller to the larger end
point, `sortedLine u v`) is a point of both triangles — for ALL vertex triples, zero-area triangles
(colinear or coincident vertices) included; bounding boxes within the `i32` range. -/
theorem shared_edge_pixels_in_both (t1 t2 : Triangle) (u v w1 w2 p : Pt)
    (h1 : (⟨u, v, w1⟩ : Triangle) ∈ orders t1) (h2 : (⟨u, v, w2⟩ : Triangle) ∈ orders t2)
    (r1 : t1.boundingBox.InRange) (r2 : t2.boundingBox.InRange)
    (hp : p ∈ Line.points (sortedLine u v)) : p ∈ t1.points ∧ p ∈ t2.points :=
  ⟨edge_pixel_mem_points_all t1 r1 (sortedLine_mem_edgeLines h1) hp,
   edge_pixel_mem_points_all t2 r2 (sortedLine_mem_edgeLines h2) hp⟩

example : (⟨⟨0, 0⟩, ⟨4, 6⟩, ⟨5, 1⟩⟩ : Triangle) ∈ orders ⟨⟨0, 0⟩, ⟨5, 1⟩, ⟨4, 6⟩⟩ ∧
    (⟨⟨0, 0⟩, ⟨4, 6⟩, ⟨-3, 4⟩⟩ : Triangle) ∈ orders ⟨⟨0, 0⟩, ⟨4, 6⟩, ⟨-3, 4⟩⟩ ∧
    (⟨⟨0, 0⟩, ⟨5, 1⟩, ⟨4, 6⟩⟩ : Triangle).boundingBox.InRange ∧
    (⟨⟨0, 0⟩, ⟨4, 6⟩, ⟨-3, 4⟩⟩ : Triangle).boundingBox.InRange ∧
    (⟨2, 3⟩ : Pt) ∈ Line.points (sortedLine ⟨0, 0⟩ ⟨4, 6⟩) := by decide

-- a zero-area triangle (the shared edge is the colinear sub-segment (0,0) (2,3) of its long line
-- (0,0) (4,6)) next to a proper one
example : (⟨⟨2, 3⟩, ⟨0, 0⟩, ⟨4, 6⟩⟩ : Triangle) ∈ orders ⟨⟨4, 6⟩, ⟨0, 0⟩, ⟨2, 3⟩⟩ ∧
    (⟨⟨2, 3⟩, ⟨0, 0⟩, ⟨5, 1⟩⟩ : Triangle) ∈ orders ⟨⟨0, 0⟩, ⟨2, 3⟩, ⟨5, 1⟩⟩ ∧
    (⟨⟨4, 6⟩, ⟨0, 0⟩, ⟨2, 3⟩⟩ : Triangle).areaDoubled = 0 ∧
    (⟨⟨4, 6⟩, ⟨0, 0⟩, ⟨2, 3⟩⟩ : Triangle).boundingBox.InRange ∧
    (⟨⟨0, 0⟩, ⟨2, 3⟩, ⟨5, 1⟩⟩ : Triangle).boundingBox.InRange ∧
    (⟨1, 1⟩ : Pt) ∈ Line.points (sortedLine ⟨2, 3⟩ ⟨0, 0⟩) := by decide

/-- Every pixel of each of the three edge lines is a point of the filled triangle (all triples). -/
theorem edge_lines_covered (t : Triangle) (h : t.boundingBox.InRange)
    (l : Line) (hl : l ∈ t.edgeLines) (p : Pt) (hp : p ∈ Line.points l) : p ∈ t.points :=
  edge_pixel_mem_points_all t h hl hp

example : (⟨⟨0, 0⟩, ⟨5, 1⟩, ⟨4, 6⟩⟩ : Triangle).boundingBox.InRange ∧
    (⟨⟨0, 0⟩, ⟨5, 1⟩⟩ : Line) ∈ (⟨⟨0, 0⟩, ⟨5, 1⟩, ⟨4, 6⟩⟩ : Triangle).edgeLines ∧
    (⟨3, 1⟩ : Pt) ∈ Line.points ⟨⟨0, 0⟩, ⟨5, 1⟩⟩ := by decide

/-- **Colinear and coincident vertices** (`area_doubled == 0`): every row span is the Bresenham
intersection with the single line `Line(p1, p3)` between the `(y, x)`-extreme vertices of
`sorted_yx`; the point set of `points()` is exactly the pixel set of that line; the middle vertex
`p2` lies on the segment `p1 p3`, and the line is `Line(p1, p2).points()` followed by
`Line(p2, p3).points()` without its first point — so it contains the pixels of all three edge
lines. -/
theorem degenerate_triangle_is_line (t : Triangle) (ha : t.areaDoubled = 0) :
    (∀ y, t.scanlineIntersection y =
      (Scanline.newEmpty y).bint ⟨t.sortedYx.v1, t.sortedYx.v3⟩) ∧
    (t.boundingBox.InRange → ∀ p, p ∈ t.points ↔ p ∈ Line.points ⟨t.sortedYx.v1, t.sortedYx.v3⟩) ∧
    Line.Between t.sortedYx.v1 t.sortedYx.v2 t.sortedYx.v3 ∧
    Line.points ⟨t.sortedYx.v1, t.sortedYx.v3⟩ =
      Line.points ⟨t.sortedYx.v1, t.sortedYx.v2⟩ ++
        (Line.points ⟨t.sortedYx.v2, t.sortedYx.v3⟩).tail := by
  refine ⟨fun y => ?_, fun h p => degenerate_points_iff t h ha p, sorted_between t ha,
    longLine_points t ha⟩
  unfold scanlineIntersection
  simp only [ha, ↓reduceIte]

example : (⟨⟨4, 6⟩, ⟨0, 0⟩, ⟨2, 3⟩⟩ : Triangle).areaDoubled = 0 ∧
    (⟨⟨4, 6⟩, ⟨0, 0⟩, ⟨2, 3⟩⟩ : Triangle).boundingBox.InRange := by decide

/-- Three coincident vertices: the single point. Two coincident vertices: the line between the two
distinct ones, from the `(y, x)`-smaller to the larger. -/
theorem coincident_vertices (a b : Pt) :
    Line.points ⟨(Triangle.mk a a a).sortedYx.v1, (Triangle.mk a a a).sortedYx.v3⟩ = [a] ∧
    (⟨(Triangle.mk a a b).sortedYx.v1, (Triangle.mk a a b).sortedYx.v3⟩ : Line) = sortedLine a b ∧
    (Triangle.mk a a a).areaDoubled = 0 ∧ (Triangle.mk a a b).areaDoubled = 0 := by
  have haa : sortTwoYx a a = (a, a) := sortTwoYx_of_not_yxLt (by unfold yxLt; omega)
  refine ⟨?_, ?_, ?_, ?_⟩
  · simp only [sortedYx, haa]; exact Line.points_zero_length a
  · simp only [sortedYx, sortedLine, haa, sortTwoYx_comm a b]
    by_cases h : yxLt b a
    · have e : sortTwoYx b a = (b, a) := by unfold sortTwoYx; rw [if_pos h]
      rw [e]; dsimp only; rw [haa]
    · have e : sortTwoYx b a = (a, b) := by unfold sortTwoYx; rw [if_neg h]
      rw [e]; dsimp only; rw [e]
  · unfold areaDoubled; ring
  · unfold areaDoubled; ring

/-- The shared line does not depend on the order in which the two end points are named. -/
theorem shared_edge_line_symmetric (u v : Pt) : sortedLine u v = sortedLine v u :=
  sortedLine_comm u v

/-- `points()` commutes with translation: `translate(d).points() = points()` shifted by `d`
(both bounding boxes within the `i32` range, so that `Rectangle::rows()` does not saturate). -/
theorem triangle_translate (t : Triangle) (d : Pt) (h1 : t.boundingBox.InRange)
    (h2 : (t.translate d).boundingBox.InRange) :
    (t.translate d).points = t.points.map (· + d) :=
  Triangle.points_translate t d h1 h2

example : (⟨⟨0, 0⟩, ⟨5, 1⟩, ⟨4, 6⟩⟩ : Triangle).boundingBox.InRange ∧
    ((⟨⟨0, 0⟩, ⟨5, 1⟩, ⟨4, 6⟩⟩ : Triangle).translate ⟨-7, 3⟩).boundingBox.InRange := by decide

/-- `contains()` commutes with translation (all vertex triples, all points). -/
theorem triangle_contains_translate (t : Triangle) (d p : Pt) :
    (t.translate d).contains (p + d) = t.contains p :=
  Triangle.contains_translate t d p

/-- Every row span moves with the triangle. -/
theorem triangle_row_span_translate (t : Triangle) (d : Pt) (y : Int) :
    Scanline.Moved d (t.span y) ((t.translate d).span (y + d.y)) :=
  span_translate t d y

/-- `(b - a) × (p - a)` (twice the signed area of `a b p`). -/
def cross (a b p : Pt) : Int := (b.x - a.x) * (p.y - a.y) - (b.y - a.y) * (p.x - a.x)

theorem cross_eq_edgeFn (a b p : Pt) : cross a b p = edgeFn a b p := rfl

/-- `p` is strictly inside the mathematical triangle. -/
def StrictlyInside (t : Triangle) (p : Pt) : Prop :=
  (0 < cross t.v1 t.v2 p ∧ 0 < cross t.v2 t.v3 p ∧ 0 < cross t.v3 t.v1 p) ∨
  (cross t.v1 t.v2 p < 0 ∧ cross t.v2 t.v3 p < 0 ∧ cross t.v3 t.v1 p < 0)

/-- `p` is inside the closed mathematical triangle (non-zero area). -/
def ClosedInside (t : Triangle) (p : Pt) : Prop :=
  cross t.v1 t.v2 t.v3 ≠ 0 ∧
  ((0 ≤ cross t.v1 t.v2 p ∧ 0 ≤ cross t.v2 t.v3 p ∧ 0 ≤ cross t.v3 t.v1 p) ∨
   (cross t.v1 t.v2 p ≤ 0 ∧ cross t.v2 t.v3 p ≤ 0 ∧ cross t.v3 t.v1 p ≤ 0))

/-- `p` lies on the open segment `a b`. -/
def OnOpenSegment (a b p : Pt) : Prop :=
  cross a b p = 0 ∧
  0 < (p.x - a.x) * (b.x - a.x) + (p.y - a.y) * (b.y - a.y) ∧
  (p.x - a.x) * (b.x - a.x) + (p.y - a.y) * (b.y - a.y) <
    (b.x - a.x) * (b.x - a.x) + (b.y - a.y) * (b.y - a.y)

theorem closedInside_iff (t : Triangle) (p : Pt) :
    ClosedInside t p ↔ t.areaDoubled ≠ 0 ∧ Triangle.ClosedIn t p := by
  rw [← edgeFn_area]
  exact Iff.rfl

/-- **A filled triangle covers every lattice point of the closed mathematical triangle** —
interior and boundary — for every triangle with non-zero area whose bounding box is within the
`i32` range. (For each row the point lies on or between two Bresenham edge lines; a y-major line has
its pixel of that row within half a pixel of the ideal line, an x-major line has the first / last
pixel of its run in that row on the far side.) -/
theorem closed_triangle_covered (t : Triangle) (h : t.boundingBox.InRange) (p : Pt)
    (hp : ClosedInside t p) : p ∈ t.points := by
  obtain ⟨ha, hs⟩ := (closedInside_iff t p).mp hp
  exact Triangle.closed_triangle_covered t h ha p hs

example : (⟨⟨0, 0⟩, ⟨5, 1⟩, ⟨4, 6⟩⟩ : Triangle).boundingBox.InRange ∧
    ClosedInside ⟨⟨0, 0⟩, ⟨5, 1⟩, ⟨4, 6⟩⟩ ⟨3, 3⟩ := by
  refine ⟨by decide, ?_⟩
  unfold ClosedInside cross; decide

/-- **A filled triangle covers every integer point inside the mathematical triangle.** -/
theorem interior_covered (t : Triangle) (h : t.boundingBox.InRange) (p : Pt)
    (hp : StrictlyInside t p) : p ∈ t.points := by
  apply closed_triangle_covered t h p
  have hsum := edgeFn_sum t.v1 t.v2 t.v3 p
  unfold StrictlyInside at hp
  unfold ClosedInside
  simp only [cross_eq_edgeFn] at hp ⊢
  rcases hp with ⟨h1, h2, h3⟩ | ⟨h1, h2, h3⟩
  · exact ⟨by omega, Or.inl ⟨by omega, by omega, by omega⟩⟩
  · exact ⟨by omega, Or.inr ⟨by omega, by omega, by omega⟩⟩

example : StrictlyInside ⟨⟨0, 0⟩, ⟨5, 1⟩, ⟨4, 6⟩⟩ ⟨3, 3⟩ := by
  unfold StrictlyInside cross; decide

/-- **Two triangles `(a,b,c)`, `(a,c,d)` on opposite sides of their shared edge `a c` leave no
gap**: every integer point of the quadrilateral's interior — strictly inside one of the triangles
or on the open shared edge — is in one of the two point lists. -/
theorem mesh_gap_free (a b c d p : Pt)
    (r1 : (Triangle.mk a b c).boundingBox.InRange) (r2 : (Triangle.mk a c d).boundingBox.InRange)
    (hopp : (0 < cross a c b ∧ cross a c d < 0) ∨ (cross a c b < 0 ∧ 0 < cross a c d))
    (hp : StrictlyInside ⟨a, b, c⟩ p ∨ StrictlyInside ⟨a, c, d⟩ p ∨ OnOpenSegment a c p) :
    p ∈ (Triangle.points ⟨a, b, c⟩) ∨ p ∈ (Triangle.points ⟨a, c, d⟩) := by
  rcases hp with hp | hp | hp
  · exact Or.inl (interior_covered _ r1 p hp)
  · exact Or.inr (interior_covered _ r2 p hp)
  · -- on the shared edge: in the closed triangle `(a, c, d)`
    right
    apply closed_triangle_covered _ r2 p
    obtain ⟨h0, h1, h2⟩ := hp
    unfold ClosedInside
    simp only [cross_eq_edgeFn] at h0 hopp ⊢
    -- with `cross a c p = 0`: `cross c d p * L = cross a c d * (L - s)`, `cross d a p * L = cross a c d * s`
    have e1 : edgeFn c d p * ((c.x - a.x) * (c.x - a.x) + (c.y - a.y) * (c.y - a.y)) =
        edgeFn a c d * ((c.x - a.x) * (c.x - a.x) + (c.y - a.y) * (c.y - a.y)
          - ((p.x - a.x) * (c.x - a.x) + (p.y - a.y) * (c.y - a.y)))
        + edgeFn a c p * ((d.x - c.x) * (c.x - a.x) + (d.y - c.y) * (c.y - a.y)) := by
      unfold edgeFn; ring
    have e2 : edgeFn d a p * ((c.x - a.x) * (c.x - a.x) + (c.y - a.y) * (c.y - a.y)) =
        edgeFn a c d * ((p.x - a.x) * (c.x - a.x) + (p.y - a.y) * (c.y - a.y))
        - edgeFn a c p * ((d.x - a.x) * (c.x - a.x) + (d.y - a.y) * (c.y - a.y)) := by
      unfold edgeFn; ring
    rw [h0, Int.zero_mul, Int.add_zero] at e1
    rw [h0, Int.zero_mul, Int.sub_zero] at e2
    rw [h0]
    generalize (c.x - a.x) * (c.x - a.x) + (c.y - a.y) * (c.y - a.y) = L at *
    generalize (p.x - a.x) * (c.x - a.x) + (p.y - a.y) * (c.y - a.y) = s at *
    obtain ⟨p1, n1⟩ := Triangle.same_sign_of_mul_eq_mul e1 (show 0 < L by omega) (show 0 < L - s by omega)
    obtain ⟨p2, n2⟩ := Triangle.same_sign_of_mul_eq_mul e2 (show 0 < L by omega) h1
    rcases hopp with ⟨_, hd⟩ | ⟨_, hd⟩
    · have := n1 hd
      have := n2 hd
      exact ⟨by omega, Or.inr ⟨by omega, by omega, by omega⟩⟩
    · have := p1 hd
      have := p2 hd
      exact ⟨by omega, Or.inl ⟨by omega, by omega, by omega⟩⟩

example : (Triangle.mk ⟨0, 0⟩ ⟨-3, 4⟩ ⟨4, 6⟩).boundingBox.InRange ∧
    (Triangle.mk ⟨0, 0⟩ ⟨4, 6⟩ ⟨5, 1⟩).boundingBox.InRange := by decide
example : ((0 : Int) < cross ⟨0, 0⟩ ⟨4, 6⟩ ⟨-3, 4⟩ ∧ cross ⟨0, 0⟩ ⟨4, 6⟩ ⟨5, 1⟩ < 0) ∧
    OnOpenSegment ⟨0, 0⟩ ⟨4, 6⟩ ⟨2, 3⟩ := by
  unfold OnOpenSegment cross; decide

/-- **Every point of `points()` is inside the closed mathematical triangle or within one pixel of an
edge**: its Euclidean distance to one of the three edge segments is at most 1 (`NearSegment`, the
exact integer metric of the oracle: with `s = (p-a)·(b-a)`, `L = |b-a|²`: `s ≤ 0`: `|p-a|² ≤ 1`;
`s ≥ L`: `|p-b|² ≤ 1`; else `((b-a)×(p-a))² ≤ L`). For all triangles, colinear and coincident
vertices included. (A covered point passes `contains()`: closed triangle or a Bresenham edge pixel,
and those are within half a pixel of their segment.) -/
theorem covered_within_one_pixel (t : Triangle) (h : t.boundingBox.InRange) (p : Pt)
    (hp : p ∈ t.points) :
    ClosedInside t p ∨ NearSegment t.v1 t.v2 p ∨ NearSegment t.v2 t.v3 p ∨ NearSegment t.v3 t.v1 p :=
  (Triangle.covered_within_one_pixel t h p hp).imp_left (closedInside_iff t p).mpr

example : (⟨⟨0, 0⟩, ⟨9, 2⟩, ⟨4, 6⟩⟩ : Triangle).boundingBox.InRange ∧
    (⟨2, 0⟩ : Pt) ∈ (⟨⟨0, 0⟩, ⟨9, 2⟩, ⟨4, 6⟩⟩ : Triangle).points ∧
    ¬ ClosedInside ⟨⟨0, 0⟩, ⟨9, 2⟩, ⟨4, 6⟩⟩ ⟨2, 0⟩ := by
  refine ⟨by decide, by decide, ?_⟩
  unfold ClosedInside cross; decide

/-- **The pixels of `into_styled(PrimitiveStyle::with_stroke(c, 1)).pixels()` are exactly the pixels
of the three edge lines** `Line(v2, v3)`, `Line(v3, v1)`, `Line(v1, v2)` of the `sorted_clockwise`
triangle — for every vertex triple (colinear and coincident vertices included) whose bounding box
is within the `i32` range. (Per row the three per-edge scanlines are merged into at most two
pieces; nothing is lost because two of the three edges of a row always share a vertex of that row;
no row of the bounding box is empty, so the non-fused iterators never stop early.) -/
theorem outline_is_edge_lines (t : Triangle) (c : Nat) (h : t.boundingBox.InRange) (p : Pt) :
    p ∈ (t.outlinePixels c).map (·.1) ↔
      (p ∈ Line.points ⟨t.sortedClockwise.v2, t.sortedClockwise.v3⟩ ∨
       p ∈ Line.points ⟨t.sortedClockwise.v3, t.sortedClockwise.v1⟩ ∨
       p ∈ Line.points ⟨t.sortedClockwise.v1, t.sortedClockwise.v2⟩) :=
  mem_outline_iff t c h p

example : (⟨⟨0, 0⟩, ⟨5, 1⟩, ⟨4, 6⟩⟩ : Triangle).boundingBox.InRange := by decide

/-- Which lines these are: a triangle given clockwise (positive `area_doubled`) is traversed as
given, `v2 v3`, `v3 v1`, `v1 v2`; a counter-clockwise one with its first two vertices swapped, i.e.
`v1 v3`, `v3 v2`, `v2 v1` — the same three edges in the opposite direction. -/
theorem outline_lines_orientation (t : Triangle) :
    (0 < t.areaDoubled → t.sortedClockwise = t) ∧
    (t.areaDoubled < 0 → t.sortedClockwise = ⟨t.v2, t.v1, t.v3⟩) ∧
    (t.areaDoubled = 0 → t.sortedClockwise = t.sortedYx) :=
  sortedClockwise_cases t

/-- The outline in closed form: rows of the bounding box top to bottom, each contributing its one
or two pieces left to right (the iteration order of `pixels()`), every pixel with the stroke colour. -/
theorem outline_closed_form (t : Triangle) (c : Nat) (h : t.boundingBox.InRange) :
    t.outlinePixels c =
      ((rowList t).flatMap (outlineRow t.sortedClockwise)).map (fun p => (p, c)) :=
  outlinePixels_eq t c h
example : (⟨⟨0, 0⟩, ⟨5, 1⟩, ⟨4, 6⟩⟩ : Triangle).boundingBox.InRange := by decide

/-- The pixel set of the one-pixel outline moves with the triangle (exported for C07). -/
theorem outline_translate (t : Triangle) (c : Nat) (d p : Pt) (h1 : t.boundingBox.InRange)
    (h2 : (t.translate d).boundingBox.InRange) :
    p + d ∈ ((t.translate d).outlinePixels c).map (·.1) ↔ p ∈ (t.outlinePixels c).map (·.1) :=
  mem_outline_translate t c d p h1 h2

example : (⟨⟨0, 0⟩, ⟨5, 1⟩, ⟨4, 6⟩⟩ : Triangle).boundingBox.InRange ∧
    ((⟨⟨0, 0⟩, ⟨5, 1⟩, ⟨4, 6⟩⟩ : Triangle).translate ⟨-7, 3⟩).boundingBox.InRange := by decide

/-- **The alignment does not matter unless the triangle has zero area and the stroke is `Inside`**:
the `is_collapsed` flag is not set, the stroke offset reaches nothing else (the join code gives the
same skeleton segments), and `pixels()` is the very list of the centre alignment. -/
theorem outline_alignment_irrelevant (t : Triangle) (c : Nat) (a : TriAlign)
    (h : ¬ (t.areaDoubled = 0 ∧ a = .inside)) : t.outlinePixelsAligned c a = t.outlinePixels c :=
  outlinePixelsAligned_of_not_collapsed t c a h

example : ¬ ((⟨⟨0, 0⟩, ⟨5, 1⟩, ⟨4, 6⟩⟩ : Triangle).areaDoubled = 0 ∧ TriAlign.inside = .inside) := by
  decide
example : ¬ ((⟨⟨0, 0⟩, ⟨2, 3⟩, ⟨4, 6⟩⟩ : Triangle).areaDoubled = 0 ∧ TriAlign.outside = .inside) := by
  decide

/-- `Center` is the model of EG/Model/Triangle.lean. -/
theorem outline_center (t : Triangle) (c : Nat) : t.outlinePixelsAligned c .center = t.outlinePixels c :=
  outlinePixelsAligned_of_not_collapsed t c .center (by simp)

/-- **`Inside` on a zero-area triangle** (colinear or coincident vertices): the collapsed arm of
`generate_lines` hands out the whole `scanline_intersection` row as stroke, so `pixels()` is
`points()` in the stroke colour: exactly the pixels of the Bresenham line between the
`(y, x)`-extreme vertices, which contains the other two edge lines. -/
theorem outline_inside_degenerate (t : Triangle) (c : Nat) (h : t.boundingBox.InRange)
    (ha : t.areaDoubled = 0) :
    t.outlinePixelsAligned c .inside = t.points.map (fun p => (p, c)) ∧
    ∀ p, p ∈ (t.outlinePixelsAligned c .inside).map (·.1) ↔
      (p ∈ Line.points ⟨t.sortedYx.v1, t.sortedYx.v2⟩ ∨ p ∈ Line.points ⟨t.sortedYx.v2, t.sortedYx.v3⟩ ∨
       p ∈ Line.points ⟨t.sortedYx.v1, t.sortedYx.v3⟩) := by
  have e := outlinePixelsAligned_collapsed t c h ha
  refine ⟨e, fun p => ?_⟩
  rw [e, List.map_map]
  have : ((fun x : Pt × Nat => x.1) ∘ fun p : Pt => (p, c)) = id := by funext q; rfl
  rw [this, List.map_id, degenerate_points_iff t h ha]
  have hb := sorted_between t ha
  unfold longLine
  constructor
  · intro hp; exact Or.inr (Or.inr hp)
  · rintro (hp | hp | hp)
    · exact hb.mem_left hp
    · exact hb.mem_right hp
    · exact hp

example : (⟨⟨4, 6⟩, ⟨0, 0⟩, ⟨2, 3⟩⟩ : Triangle).boundingBox.InRange ∧
    (⟨⟨4, 6⟩, ⟨0, 0⟩, ⟨2, 3⟩⟩ : Triangle).areaDoubled = 0 := by decide

/-- **A one-pixel triangle outline consists of its three edge lines, for every stroke alignment**
(`Inside`, `Center`, `Outside`): the pixel set of `pixels()` is the union of `Line::points()` of
the three edges `v1 v2`, `v2 v3`, `v3 v1`, each rasterised in one of its two directions — for every
vertex triple (colinear and coincident vertices included) whose bounding box is within the `i32`
range. `IsEdge l a b` (EG/Lemmas/TriangleOutlineAligned.lean) is `l = Line(a, b) ∨ l = Line(b, a)`. -/
theorem outline_all_alignments (t : Triangle) (c : Nat) (a : TriAlign) (h : t.boundingBox.InRange) :
    ∃ e1 e2 e3, IsEdge e1 t.v1 t.v2 ∧ IsEdge e2 t.v2 t.v3 ∧ IsEdge e3 t.v3 t.v1 ∧
      ∀ p, p ∈ (t.outlinePixelsAligned c a).map (·.1) ↔
        (p ∈ Line.points e1 ∨ p ∈ Line.points e2 ∨ p ∈ Line.points e3) := by
  by_cases hc : t.areaDoubled = 0 ∧ a = .inside
  · obtain ⟨ha, rfl⟩ := hc
    obtain ⟨e1, e2, e3, h1, h2, h3, hu⟩ := edges_of_orders (sortedYx_mem_orders t)
      (l12 := ⟨t.sortedYx.v1, t.sortedYx.v2⟩) (l23 := ⟨t.sortedYx.v2, t.sortedYx.v3⟩)
      (l31 := ⟨t.sortedYx.v1, t.sortedYx.v3⟩) (Or.inl rfl) (Or.inl rfl) (Or.inr rfl)
    exact ⟨e1, e2, e3, h1, h2, h3, fun p => by
      rw [(outline_inside_degenerate t c h ha).2 p]; exact hu p⟩
  · obtain ⟨e1, e2, e3, h1, h2, h3, hu⟩ := edges_of_orders (sortedClockwise_mem_orders t)
      (l12 := ⟨t.sortedClockwise.v1, t.sortedClockwise.v2⟩)
      (l23 := ⟨t.sortedClockwise.v2, t.sortedClockwise.v3⟩)
      (l31 := ⟨t.sortedClockwise.v3, t.sortedClockwise.v1⟩) (Or.inl rfl) (Or.inl rfl) (Or.inl rfl)
    refine ⟨e1, e2, e3, h1, h2, h3, fun p => ?_⟩
    rw [outline_alignment_irrelevant t c a hc, outline_is_edge_lines t c h p, ← hu p]
    exact or_rotate.symm

example : (⟨⟨0, 0⟩, ⟨5, 1⟩, ⟨4, 6⟩⟩ : Triangle).boundingBox.InRange := by decide

end EG.C19
