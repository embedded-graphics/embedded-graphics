/-
  C19 — the REGENERATED model of `Triangle` (and of the iterators behind `points()`) equals the hand-written one.

  `EG/Generated/TriSrc.lean` is written by `tools/tr_trisrc.py` from /repo's Rust text on every run of a check
  (src/primitives/triangle/{mod,scanline_intersections,scanline_iterator,points}.rs,
  src/primitives/polyline/{mod,points}.rs; one Lean `def` per Rust function, arm for arm; every Rust primitive is a
  function of the trusted preludes `EG/Model/RectSrcPrelude.lean` / `EG/Model/TriSrcPrelude.lean`). This file proves, for every translated function of
  the triangle part, that the generated definition equals the hand-written model function of `EG/Model/Triangle.lean`
  FOR ALL inputs (`<name>_src_eq_model`) and restates C19's headline theorems about the generated functions (`src_*`).
  `ContainsPoint::contains` is in `EG/Props/C05/GeneratedTriangle.lean`, the polyline in `GeneratedPolyline.lean`.

  Where the two differ (stated exactly):
  * `Triangle { vertices: [Point; 3] }` is the hand model's record of three named vertices (the prelude's
    `Triangle_vertices` / `Triangle_mk`); `sorted_clockwise` matches on `area.cmp(&0)` where the model nests two `if`s.
  * `from_slice` panics unless the slice has three elements; the theorem is about three-element slices.
  * `ScanlineIterator { rows: Range<i32>, .. }` is the hand model's record with the two ends of the range
    (`siOf`); a `&mut self` function returns (value, state after), the hand model's `next` too.
  * `ScanlineIntersections` (`new`, `empty`, `reset_with_new_scanline`, `generate_lines`, `Iterator::next`) is
    regenerated too; the hand model's record has no `stroke_offset` field (`sxOf`). What is NOT regenerated there is
    the thick-stroke machinery: the iterator returned by `edge_intersections` (`LineJoin`, `ThickSegment`; the prelude
    binds it to the hand model's `EdgeIt`, which yields `None` at once for stroke width 0, the case of `points()`)
    and `Triangle::is_collapsed` (an unspecified `opaque` function of the prelude). `new` computes
    `is_collapsed(..) && stroke_offset == Right`; the hand model covers `StrokeOffset::None`, where this is `false`
    whatever `is_collapsed` returns: the theorems about `new` are stated for `.None`, the others for every state.
  * `triangle::Points::next` returns (`Option<Point>`, state after); the hand model's `PointsIt.next` returns
    `Option (point, state after)` (no state after `None`): `SrcIter.stepView tpOf`.
  Nothing needs a range guard here (`bounding_box().rows()` saturates in both; `contains`, which goes through
  `Rectangle::contains`, does: see the C05 file).
-/
import EG.Generated.TriSrc
import EG.Props.C16.Generated
import EG.Lemmas.SrcIter
import EG.Props.C19.Triangle
namespace EG.C19.Src
open EG EG.Triangle EG.RectSrcPrelude EG.TriSrcPrelude EG.Generated EG.C16.Src

attribute [tri_prelude] array3_mk array3_index tuple2_0 tuple2_1 slice_empty slice_first slice_split_first
  Triangle_mk Triangle_vertices Polyline_mk Polyline_translate Polyline_vertices Polyline_set_translate
  Polyline_set_vertices Point_eq Point_ne i32_cmp option_and_then option_map option_unwrap_or_else
  option_or_else option_or_else_st iter_chain iter_any rust_panic Scanline_new_empty Scanline_next
  Scanline_bresenham_intersection Line_new Line_points LinePoints_empty LinePoints_next LinePoints_into_iter
  option_unwrap_or Scanline_mk Scanline_x Scanline_y Scanline_set_x Scanline_set_y Scanline_try_take
  ScanlineIntersections_edge_intersections EdgeIntersections_next StrokeOffset_eq StrokeOffset_ne

/-- unfold every prelude primitive of TriSrcPrelude (and RectSrcPrelude, and the listed definitions) -/
macro "tri_simp" "[" ls:Lean.Parser.Tactic.simpLemma,* "]" loc:(Lean.Parser.Tactic.location)? : tactic =>
  `(tactic| simp only [rect_prelude, tri_prelude, $ls,*] $[$loc]?)

theorem sort_two_yx_src_eq_model (p q : Pt) : TriSrc.sort_two_yx p q = sortTwoYx p q := by
  unfold TriSrc.sort_two_yx sortTwoYx yxLt
  tri_simp [Bool.or_eq_true, Bool.and_eq_true, decide_eq_true_eq]

theorem Triangle_new_src_eq_model (a b c : Pt) : TriSrc.Triangle_new a b c = Triangle.new a b c := rfl

/-- `from_slice` of a slice of three points (any other length panics). -/
theorem Triangle_from_slice_src_eq_model (a b c : Pt) : TriSrc.Triangle_from_slice [a, b, c] = Triangle.new a b c := rfl

theorem Triangle_area_doubled_src_eq_model (t : Triangle) : TriSrc.Triangle_area_doubled t = t.areaDoubled := rfl

theorem Triangle_sorted_yx_src_eq_model (t : Triangle) : TriSrc.Triangle_sorted_yx t = t.sortedYx := by
  unfold TriSrc.Triangle_sorted_yx sortedYx
  simp only [sort_two_yx_src_eq_model]
  rfl

theorem Triangle_sorted_clockwise_src_eq_model (t : Triangle) :
    TriSrc.Triangle_sorted_clockwise t = t.sortedClockwise := by
  unfold TriSrc.Triangle_sorted_clockwise sortedClockwise
  rw [Triangle_area_doubled_src_eq_model, Triangle_sorted_yx_src_eq_model]
  simp only [i32_cmp]
  rcases Int.lt_trichotomy t.areaDoubled 0 with h | h | h
  · simp only [h, ↓reduceIte]; rfl
  · simp only [h, Int.lt_irrefl, ↓reduceIte, gt_iff_lt]
  · have h1 : ¬ t.areaDoubled < 0 := by omega
    have h2 : ¬ t.areaDoubled = 0 := by omega
    simp only [h1, h2, h, ↓reduceIte]

theorem Triangle_bounding_box_src_eq_model (t : Triangle) :
    TriSrc.Triangle_Dimensions_bounding_box t = t.boundingBox := by
  unfold TriSrc.Triangle_Dimensions_bounding_box boundingBox
  simp only [with_corners_src_eq_model, Point_new_src_eq_model]

theorem Triangle_scanline_intersection_src_eq_model (t : Triangle) (y : Int) :
    TriSrc.Triangle_scanline_intersection t y = t.scanlineIntersection y := by
  unfold TriSrc.Triangle_scanline_intersection scanlineIntersection
  rw [Triangle_area_doubled_src_eq_model, Triangle_sorted_yx_src_eq_model]
  by_cases h : t.areaDoubled = 0
  · tri_simp [h, decide_true, ↓reduceIte]
  · tri_simp [h, decide_false, Bool.false_eq_true, ↓reduceIte]

def lcOf (l : TriSrc.LineConfigS) : EG.LineConfig := ⟨l.first, l.second, l.internal, l.internal_type⟩

/-- The regenerated `ScanlineIntersections` as the hand model's record (which has no `stroke_offset` field: it covers
`StrokeOffset::None`). -/
def sxOf (s : TriSrc.ScanlineIntersectionsS) : EG.ScanlineIntersections :=
  ⟨lcOf s.lines, s.triangle, s.stroke_width, s.has_fill, s.is_collapsed⟩

theorem ScanlineIntersections_empty_src_eq_model :
    sxOf TriSrc.ScanlineIntersections_empty = ScanlineIntersections.empty := rfl

/-- `generate_lines` always returns `Some`, of the hand model's `LineConfig` (any stroke offset: the part that depends
on it, `edge_intersections`, is the hand model's). -/
theorem ScanlineIntersections_generate_lines_src_eq_model (s : TriSrc.ScanlineIntersectionsS) (y : Int) :
    (TriSrc.ScanlineIntersections_generate_lines s y).map lcOf = some ((sxOf s).generateLines y) := by
  unfold TriSrc.ScanlineIntersections_generate_lines ScanlineIntersections.generateLines
  simp only [Triangle_scanline_intersection_src_eq_model]
  cases hc : s.is_collapsed with
  | true => tri_simp [sxOf, hc, ↓reduceIte, Option.map_some, lcOf]
  | false =>
    have hseg : ∀ (it : EG.ScanlineIntersections) (y : Int), it.seg y = fun idx => it.triangle.skeletonSeg idx y :=
      fun _ _ => rfl
    tri_simp [sxOf, hc, Bool.false_eq_true, ↓reduceIte, Option.map_some, lcOf, hseg]
    generalize EdgeIt.next s.stroke_width (fun idx => s.triangle.skeletonSeg idx y) y
      ⟨0, Scanline.newEmpty y, Scanline.newEmpty y⟩ = r1
    generalize EdgeIt.next s.stroke_width (fun idx => s.triangle.skeletonSeg idx y) y r1.2 = r2
    obtain ⟨a, r1'⟩ := r1
    obtain ⟨b, r2'⟩ := r2
    cases s.has_fill <;> cases a <;> cases b <;> rfl

theorem ScanlineIntersections_reset_src_eq_model (s : TriSrc.ScanlineIntersectionsS) (y : Int) :
    sxOf (TriSrc.ScanlineIntersections_reset_with_new_scanline s y).2 = (sxOf s).reset y := by
  have h := ScanlineIntersections_generate_lines_src_eq_model s y
  unfold TriSrc.ScanlineIntersections_reset_with_new_scanline ScanlineIntersections.reset
  cases hg : TriSrc.ScanlineIntersections_generate_lines s y with
  | none => rw [hg] at h; cases h
  | some l =>
    rw [hg] at h
    simp only [Option.map_some, Option.some.injEq] at h
    simp only [sxOf, h]

/-- `ScanlineIntersections::new` for `StrokeOffset::None`: `is_collapsed(..) && stroke_offset == Right` is `false`
whatever `is_collapsed` (not regenerated, unspecified) returns. -/
theorem ScanlineIntersections_new_src_eq_model (t : Triangle) (w : Nat) (fill : Bool) (y : Int) :
    sxOf (TriSrc.ScanlineIntersections_new t w .None fill y) = ScanlineIntersections.new t w fill y := by
  unfold TriSrc.ScanlineIntersections_new ScanlineIntersections.new
  simp only [ScanlineIntersections_reset_src_eq_model]
  congr 1
  tri_simp [sxOf, StrokeOffset_eq, TriSrc.ScanlineIntersections_empty, ScanlineIntersections.empty, lcOf,
    Bool.and_false, reduceCtorEq, decide_false, TriSrc.Triangle_new, Point_zero_src_eq_model]

theorem ScanlineIntersections_next_src_eq_model (s : TriSrc.ScanlineIntersectionsS) :
    ((TriSrc.ScanlineIntersections_Iterator_next s).1, sxOf (TriSrc.ScanlineIntersections_Iterator_next s).2) =
      (sxOf s).next := by
  unfold TriSrc.ScanlineIntersections_Iterator_next ScanlineIntersections.next
  tri_simp [sxOf, lcOf]
  cases h1 : s.lines.internal.tryTake.1 with
  | some x => rfl
  | none =>
    simp only [Scanline.tryTake_none_state _ h1]
    cases h2 : s.lines.first.tryTake.1 with
    | some x => rfl
    | none =>
      simp only [Scanline.tryTake_none_state _ h2]
      cases h3 : s.lines.second.tryTake.1 with
      | some x => rfl
      | none =>
        simp only [Scanline.tryTake_none_state _ h3]

/-- The regenerated iterator state (`rows: Range<i32>, scanline_y, intersections`) as the hand model's record. -/
def siOf (s : TriSrc.ScanlineIteratorS) : EG.ScanlineIterator :=
  ⟨s.rows.start, s.rows.end_, s.scanline_y, sxOf s.intersections⟩

theorem ScanlineIterator_empty_src_eq_model : siOf TriSrc.ScanlineIterator_empty = ScanlineIterator.empty := rfl

/-- `ScanlineIterator::new` for `StrokeOffset::None` (what the hand model of `ScanlineIntersections` covers). -/
theorem ScanlineIterator_new_src_eq_model (t : Triangle) (w : Nat) (fill : Bool) (bb : Rect) :
    siOf (TriSrc.ScanlineIterator_new t w .None fill bb) = ScanlineIterator.new t w fill bb := by
  unfold TriSrc.ScanlineIterator_new ScanlineIterator.new
  rw [Triangle_sorted_clockwise_src_eq_model, rows_ends_src_eq_model]
  by_cases h : bb.tl.y < bb.rowsEnd
  · tri_simp [h, ↓reduceIte, siOf, ScanlineIntersections_new_src_eq_model]
  · tri_simp [h, ↓reduceIte, siOf]; rfl

theorem ScanlineIterator_next_src_eq_model (s : TriSrc.ScanlineIteratorS) :
    ((TriSrc.ScanlineIterator_Iterator_next s).1, siOf (TriSrc.ScanlineIterator_Iterator_next s).2) =
      (siOf s).next := by
  unfold TriSrc.ScanlineIterator_Iterator_next ScanlineIterator.next
  have hn := ScanlineIntersections_next_src_eq_model s.intersections
  tri_simp [siOf]
  rw [← hn]
  cases h : (TriSrc.ScanlineIntersections_Iterator_next s.intersections).1 with
  | some x => rfl
  | none =>
    simp only []
    by_cases hr : s.rows.start < s.rows.end_
    · simp only [hr, ↓reduceIte]
      have h2 := ScanlineIntersections_next_src_eq_model
        (TriSrc.ScanlineIntersections_reset_with_new_scanline
          (TriSrc.ScanlineIntersections_Iterator_next s.intersections).2 s.rows.start).2
      rw [ScanlineIntersections_reset_src_eq_model] at h2
      rw [← h2]
    · simp only [hr, ↓reduceIte]

def tpOf (p : TriSrc.TriPointsS) : Triangle.PointsIt := ⟨siOf p.scanline_iter, p.current_line⟩

theorem TriPoints_new_src_eq_model (t : Triangle) : tpOf (TriSrc.TriPoints_new t) = Triangle.pointsIt t := by
  unfold TriSrc.TriPoints_new Triangle.pointsIt tpOf
  simp only [ScanlineIterator_new_src_eq_model, Triangle_bounding_box_src_eq_model]

theorem Triangle_points_src_eq_model (t : Triangle) :
    tpOf (TriSrc.Triangle_PointsIter_points t) = Triangle.pointsIt t := TriPoints_new_src_eq_model t

theorem TriPoints_next_src_eq_model (p : TriSrc.TriPointsS) :
    SrcIter.stepView tpOf (TriSrc.TriPoints_Iterator_next p) = (tpOf p).next := by
  unfold TriSrc.TriPoints_Iterator_next PointsIt.next SrcIter.stepView
  have hs := ScanlineIterator_next_src_eq_model p.scanline_iter
  tri_simp [tpOf]
  cases h : p.current_line.next with
  | some x => rfl
  | none =>
    simp only []
    rw [← hs]
    cases h2 : (TriSrc.ScanlineIterator_Iterator_next p.scanline_iter).1 with
    | none => rfl
    | some l =>
      simp only []
      cases h3 : l.1.next with
      | some y => rfl
      | none => rfl

/-- What a `for` loop collects from an iterator given by its `next`, in at most `fuel` steps. -/
def collectFuel {σ α : Type} (next : σ → Option α × σ) : Nat → σ → List α
  | 0, _ => []
  | fuel + 1, s =>
    match next s with
    | (some a, s') => a :: collectFuel next fuel s'
    | (none, _) => []

theorem collectFuel_drains {σ α : Type} (next : σ → Option α × σ) : Drains (ofPair next) (collectFuel next) :=
  ⟨fun _ => rfl, fun n s => by
    rw [collectFuel, ofPair]
    rcases next s with ⟨_ | _, _⟩ <;> rfl⟩

theorem TriPoints_collect_src_eq_model : ∀ (fuel : Nat) (p : TriSrc.TriPointsS),
    collectFuel TriSrc.TriPoints_Iterator_next fuel p = (tpOf p).toListFuel fuel :=
  (collectFuel_drains _).view PointsIt.drains tpOf fun p => SrcIter.ofPair_view (TriPoints_next_src_eq_model p)

/-- `triangle.points()` collected from the regenerated code (budget of the hand model). -/
def srcPoints (t : Triangle) : List Pt :=
  collectFuel TriSrc.TriPoints_Iterator_next (pointsBudget t) (TriSrc.Triangle_PointsIter_points t)

/-- **The points a `for` loop over the regenerated `triangle.points()` sees are the hand model's `Triangle.points`.** -/
theorem src_points_eq_model (t : Triangle) : srcPoints t = t.points := by
  unfold srcPoints Triangle.points
  rw [TriPoints_collect_src_eq_model, Triangle_points_src_eq_model]

/-- `sorted_yx` of the regenerated code: all six vertex orders sort to the same triple. -/
theorem src_sorted_yx_perm (t t' : Triangle) (h : t' ∈ orders t) :
    TriSrc.Triangle_sorted_yx t' = TriSrc.Triangle_sorted_yx t := by
  rw [Triangle_sorted_yx_src_eq_model, Triangle_sorted_yx_src_eq_model]; exact sorted_yx_perm t t' h
example : (⟨⟨3, 1⟩, ⟨0, 0⟩, ⟨5, 7⟩⟩ : Triangle) ∈ orders ⟨⟨0, 0⟩, ⟨5, 7⟩, ⟨3, 1⟩⟩ := by decide

/-- **The regenerated `points()` yields the same list for all six vertex orders.** -/
theorem src_points_order_independent (t t' : Triangle) (h : t' ∈ orders t) : srcPoints t' = srcPoints t := by
  rw [src_points_eq_model, src_points_eq_model]; exact triangle_points_order_independent t t' h
example : (⟨⟨3, 1⟩, ⟨0, 0⟩, ⟨5, 7⟩⟩ : Triangle) ∈ orders ⟨⟨0, 0⟩, ⟨5, 7⟩, ⟨3, 1⟩⟩ := by decide

/-- Closed form of the regenerated `points()`: one span per row of the bounding box. -/
theorem src_points_closed_form (t : Triangle) :
    srcPoints t = (rowsSpec t.span t.boundingBox.tl.y t.boundingBox.rowsEnd).take t.pointsBudget := by
  rw [src_points_eq_model]; exact triangle_points_closed_form t

/-- **A degenerate triangle (regenerated `area_doubled` = 0) is the line between its `(y, x)`-extreme vertices**:
the regenerated `scanline_intersection` intersects that single line, the regenerated `points()` has exactly that
line's pixels, and the line is the first edge followed by the second without the joint. -/
theorem src_degenerate_triangle_is_line (t : Triangle) (ha : TriSrc.Triangle_area_doubled t = 0) :
    (∀ y, TriSrc.Triangle_scanline_intersection t y =
      (Scanline.newEmpty y).bint ⟨(TriSrc.Triangle_sorted_yx t).v1, (TriSrc.Triangle_sorted_yx t).v3⟩) ∧
    (t.boundingBox.InRange → ∀ p, p ∈ srcPoints t ↔
      p ∈ Line.points ⟨(TriSrc.Triangle_sorted_yx t).v1, (TriSrc.Triangle_sorted_yx t).v3⟩) ∧
    Line.points ⟨(TriSrc.Triangle_sorted_yx t).v1, (TriSrc.Triangle_sorted_yx t).v3⟩ =
      Line.points ⟨(TriSrc.Triangle_sorted_yx t).v1, (TriSrc.Triangle_sorted_yx t).v2⟩ ++
        (Line.points ⟨(TriSrc.Triangle_sorted_yx t).v2, (TriSrc.Triangle_sorted_yx t).v3⟩).tail := by
  rw [Triangle_area_doubled_src_eq_model] at ha
  simp only [Triangle_scanline_intersection_src_eq_model, Triangle_sorted_yx_src_eq_model, src_points_eq_model]
  have h := degenerate_triangle_is_line t ha
  exact ⟨h.1, h.2.1, h.2.2.2⟩
example : TriSrc.Triangle_area_doubled ⟨⟨4, 6⟩, ⟨0, 0⟩, ⟨2, 3⟩⟩ = 0 ∧
    (⟨⟨4, 6⟩, ⟨0, 0⟩, ⟨2, 3⟩⟩ : Triangle).boundingBox.InRange := by decide

/-- Nothing else of the impls of `Triangle`, `ScanlineIntersections`, `ScanlineIterator`, `triangle::Points`, `Polyline`,
`polyline::Points` is outside the translation: an added function (an override of `Iterator::nth` or `fold`, say)
changes this list. -/
theorem tri_untranslated_pinned : TriSrc.untranslated =
    [("impl Dimensions for Polyline", ["bounding_box"]),
     ("impl Transform for Polyline", ["translate_mut"]),
     ("impl ScanlineIntersections", ["edge_intersections"]),
     ("impl Triangle", ["is_collapsed", "joins"]),
     ("impl Transform for Triangle", ["translate", "translate_mut"])] := rfl

end EG.C19.Src
