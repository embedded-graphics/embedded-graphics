/-
  C11 — Raw pixel load/store and iteration round-trip in both data orders.

  Property theorems only (helper lemmas live in EG/Lemmas/Raw*.lean). All statements are about the
  model `EG.Model.Raw` (a literal transcription of core/src/pixelcolor/raw/{load_store,mod,to_bytes}.rs
  and src/iterator/raw.rs, tied to the code by the `raw.*` correspondence streams).

  Second tie: EG/Props/C11/Generated.lean proves that the model's `bitPosition`, `load`, `store`, `rawNew`, `mask`,
  `Iter.new/next/nth/sizeHint` EQUAL the definitions regenerated from the Rust text on every check
  (EG/Generated/RawSrc.lean, tools/tr_rawsrc.py); GeneratedLaws.lean restates the headline below over those.

  Quantifiers: `bits` ranges over the seven raw types (`validBits bits`), `o` over both data orders,
  `buf` over byte buffers of ANY length (`BytesOk buf`: every element is a `u8`), `i`, `j`, `k` over
  ALL natural numbers, `v` over all values of the raw type (`v < 2^bits`, what `RawUx::new` produces).
  Strength: everything below is proved for all inputs. The byte-level law of the sub-byte depths
  (`subbyte_byte_law`) is bit algebra on one byte (`Nat.testBit`, EG/Lemmas/RawBits.lean), lifted by
  proof to buffers.

  Index arithmetic: the multi-byte `load`/`store` compute the byte offset with `index.checked_mul(n)`
  (repair commit e95846b of /repo), so an index whose offset does not fit `usize` is rejected like every other index
  beyond the buffer. The model's `Nat` product followed by the slice test gives the same answer
  (a real buffer is shorter than `usize::MAX`), and the generator emits such indices
  (`usize::MAX / 4 + 1`, `usize::MAX / 2 + 1`, `usize::MAX`, ...) for model and oracle alike; nothing
  is left outside the model here. The saturating operations of `nth` / `size_hint` are modelled
  (`satAddUsize`, `satMulUsize`); under the guard `Iter.Fits` (slice shorter than 2^61 bytes)
  `iter_nth` holds for every `k`, including those that saturate the index (the correspondence runs
  scripts whose running position passes `usize::MAX`), and `size_hint` is exact.

  Three theorems are definitional (`rfl` restatements of model definitions, kept so that the
  formula is visible here; they carry no proof content): `pixel_count_spec`, `layout_u8`,
  `to_le_bytes_spec`. `size_hint_saturates_beyond_fits` is an observation about the model's boundary.
-/
import EG.Lemmas.RawIter
namespace EG.C11
open EG EG.Raw

/-- For 1, 2 and 4 bits per pixel, both orders, EVERY old byte, slot and value, with the field of
slot `s` written out literally (`sh s`: `LittleEndianMsb0` fills a byte from the most significant
bits downwards, slot `s` starts at bit `8 - bits*(s+1)`; `BigEndianLsb0` from the least significant
bits upwards, slot `s` starts at bit `bits*s`): storing with the shift of slot `k` gives a byte;
loading slot `k` gives the value; every other slot loads what it did; bit `sh k + j` of the new
byte is bit `j` of the value and every bit outside `[sh k, sh k + bits)` is the old bit.
(`store_uses_literal_field` below says that `store`/`load` of pixel `i` use exactly this shift.) -/
theorem subbyte_byte_law {bits : Nat} {o : Order} (h : subByte bits) {b k v : Nat}
    (hb : b < 256) (hk : k < 8 / bits) (hv : v < 2 ^ bits) :
    let sh : Nat → Nat := fun s => match o with
      | .le => 8 - bits * (s + 1)
      | .be => bits * s
    storeByte bits (sh k) v b < 256 ∧
    loadByte bits (sh k) (storeByte bits (sh k) v b) = v ∧
    (∀ k', k' < 8 / bits → k' ≠ k →
      loadByte bits (sh k') (storeByte bits (sh k) v b) = loadByte bits (sh k') b) ∧
    (∀ p, p < 8 →
      (storeByte bits (sh k) v b).testBit p =
        if sh k ≤ p ∧ p < sh k + bits then v.testBit (p - sh k) else b.testBit p) := by
  intro sh
  have key : ∀ s, s < 8 / bits → slotShift bits o s = sh s := by
    intro s hs
    cases o with
    | le => exact slotShift_le h s
    | be => exact slotShift_be _ _
  have hsh : sh k + bits ≤ 8 := key k hk ▸ slotShift_add_le o hk
  refine ⟨storeByte_lt hsh hv hb, loadByte_storeByte_same hsh hv hb, fun k' hk' hne => ?_,
    fun p _ => storeByte_testBit hsh hv hb p⟩
  have hd := slotShift_disjoint o hk hk' hne
  rw [key k hk, key k' hk'] at hd
  exact loadByte_storeByte_other hsh hv hb hd

/-- The shift `store` / `load` use for pixel `i` (`bit_position(index).1` of the real code) IS the
literal field start of slot `i % pixels_per_byte` in byte `i / pixels_per_byte`. -/
theorem store_uses_literal_field {bits : Nat} (h : subByte bits) (o : Order) (i : Nat) :
    bitPosition bits o i =
      (i / (8 / bits),
        match o with
        | .le => 8 - bits * (i % (8 / bits) + 1)
        | .be => bits * (i % (8 / bits))) := by
  rw [bitPosition_eq]
  cases o with
  | le => rw [slotShift_le h _]
  | be => rw [slotShift_be]

/-- `store(v, buf, i)` followed by `load(buf, i)` returns `v`. -/
theorem load_store_same {bits : Nat} (hb : validBits bits = true) (o : Order) {v : Nat}
    {buf : List Nat} {i : Nat} (hw : BytesOk buf) (hv : v < 2 ^ bits)
    (hin : i < pixelCount bits buf.length) :
    (store bits o v buf i).1 = true ∧ load bits o (store bits o v buf i).2 i = some v :=
  ⟨store_inside hb o v buf i hin, Raw.load_store_same hb o hw hv hin⟩

/-- ... and every other index (in another byte or in the same byte) loads what it loaded before. -/
theorem load_store_other {bits : Nat} (hb : validBits bits = true) (o : Order) {v : Nat}
    {buf : List Nat} {i j : Nat} (hw : BytesOk buf) (hv : v < 2 ^ bits) (hne : j ≠ i) :
    load bits o (store bits o v buf i).2 j = load bits o buf j :=
  Raw.load_store_other hb o hw hv hne

/-- `store` changes only pixel `i`'s byte(s): the length is kept and every byte position that
does not belong to pixel `i` (`ownByte`: byte `i / pixels_per_byte`, resp. the `bits/8` bytes from
`i * bits/8`) keeps its content. -/
theorem store_touches_only {bits : Nat} (hb : validBits bits = true) (o : Order) (v : Nat)
    (buf : List Nat) (i : Nat) :
    (store bits o v buf i).2.length = buf.length ∧
    ∀ k, ¬ ownByte bits i k → (store bits o v buf i).2[k]? = buf[k]? :=
  ⟨store_length o v buf i, fun k hk => store_other_bytes o v buf i k hk⟩

/-- Sub-byte depths, inside pixel `i`'s byte (byte `i / pixels_per_byte`), with the bit positions
written out: let `s = i % pixels_per_byte` and `sh = 8 - bits*(s+1)` for `LittleEndianMsb0`
(most significant bits first), `sh = bits*s` for `BigEndianLsb0` (least significant bits first).
Exactly the `bits` bits `[sh, sh + bits)` of that byte are replaced (bit `sh + j` becomes bit `j` of
`v`), every other bit of the byte is the old one. -/
theorem store_touches_only_bits {bits : Nat} {o : Order} {v : Nat} {buf : List Nat} {i : Nat}
    (h : subByte bits) (hw : BytesOk buf) (hv : v < 2 ^ bits) (hlt : i / (8 / bits) < buf.length) :
    let sh := match o with
      | .le => 8 - bits * (i % (8 / bits) + 1)
      | .be => bits * (i % (8 / bits))
    ∃ nb, (store bits o v buf i).2[i / (8 / bits)]? = some nb ∧ nb < 256 ∧
      ∀ p, p < 8 → nb.testBit p =
        if sh ≤ p ∧ p < sh + bits then v.testBit (p - sh) else buf[i / (8 / bits)].testBit p := by
  intro sh
  have hshift : slotShift bits o (i % (8 / bits)) = sh := by
    cases o with
    | le => exact slotShift_le h _
    | be => exact slotShift_be _ _
  have hsh : sh + bits ≤ 8 := hshift ▸ slotShift_mod_add_le h o i
  have hb := hw.getElem hlt
  refine ⟨storeByte bits sh v buf[i / (8 / bits)], ?_, storeByte_lt hsh hv hb,
    fun p _ => storeByte_testBit hsh hv hb p⟩
  rw [store_sub h, storeBits_eq, List.getElem?_eq_getElem hlt, hshift]
  exact List.getElem?_set_self hlt

/-- The buffer stays a byte buffer. -/
theorem store_preserves_bytes {bits : Nat} (hb : validBits bits = true) (o : Order) {v : Nat}
    {buf : List Nat} (i : Nat) (hw : BytesOk buf) (hv : v < 2 ^ bits) :
    BytesOk (store bits o v buf i).2 :=
  store_bytesOk hb o i hw hv

/-- `store` with an index beyond the buffer returns the error and leaves the buffer unchanged;
it succeeds for every index inside. -/
theorem store_oob {bits : Nat} (hb : validBits bits = true) (o : Order) (v : Nat) (buf : List Nat)
    (i : Nat) :
    (pixelCount bits buf.length ≤ i → store bits o v buf i = (false, buf)) ∧
    (i < pixelCount bits buf.length → (store bits o v buf i).1 = true) :=
  ⟨store_outside hb o v buf i, store_inside hb o v buf i⟩

/-- `load` returns `None` exactly for the indices beyond the buffer. -/
theorem load_oob {bits : Nat} (hb : validBits bits = true) (o : Order) (buf : List Nat) (i : Nat) :
    load bits o buf i = none ↔ pixelCount bits buf.length ≤ i :=
  load_eq_none_iff hb o buf i

/-- What `load` returns is a value of the raw type. -/
theorem load_in_range {bits : Nat} (hb : validBits bits = true) (o : Order) {buf : List Nat}
    {i v : Nat} (hw : BytesOk buf) (hl : load bits o buf i = some v) : v < 2 ^ bits :=
  load_lt hb o hw hl

/-- The number of pixels of a buffer: `len * (8 / bits)` below 8 bits, `len / (bits / 8)` above
(excess bytes are ignored). Definitional (`rfl`): this is the definition of `pixelCount`, shown
here because `store_oob`, `load_oob` and `iter_toList` are stated with it. -/
theorem pixel_count_spec (bits len : Nat) :
    pixelCount bits len = if bits < 8 then len * (8 / bits) else len / (bits / 8) := rfl

/-- Sub-byte depths: pixel `i` lives in byte `i / pixels_per_byte`, slot `s = i % pixels_per_byte`;
bit `k` of its value is bit `8 - bits*(s+1) + k` of that byte for `LittleEndianMsb0` (slots are
filled from the most significant bits downwards) and bit `bits*s + k` for `BigEndianLsb0` (from
the least significant bits upwards). -/
theorem layout_subbyte {bits : Nat} (h : subByte bits) (o : Order) {buf : List Nat} {i v : Nat}
    (hl : load bits o buf i = some v) {k : Nat} (hk : k < bits) :
    ∃ b, buf[i / (8 / bits)]? = some b ∧
      v.testBit k = b.testBit
        ((match o with
          | .le => 8 - bits * (i % (8 / bits) + 1)
          | .be => bits * (i % (8 / bits))) + k) := by
  rw [load_sub h, loadBits_eq] at hl
  obtain ⟨b, hb, rfl⟩ := Option.map_eq_some_iff.mp hl
  refine ⟨b, hb, ?_⟩
  rw [loadByte_testBit, decide_eq_true hk, Bool.true_and]
  cases o with
  | le => exact congrArg (fun s => b.testBit (s + k)) (slotShift_le h _)
  | be => exact congrArg (fun s => b.testBit (s + k)) (slotShift_be _ _)

/-- 8 bits: pixel `i` is byte `i`, in either order. Definitional (`rfl`): the model's `load 8` is
`buf[i]?`, as `RawU8::load` is `buffer.get(index)`; tied to the code by the `raw.load 8 ..` ops. -/
theorem layout_u8 (o : Order) (buf : List Nat) (i : Nat) : load 8 o buf i = buf[i]? := rfl

/-- 16/24/32 bits, `n = bits/8`: byte `j` (base-256 digit `j`, `j = 0` least significant) of
pixel `i` is stored at `i*n + j` for `LittleEndianMsb0` and at `i*n + (n-1-j)` for `BigEndianLsb0`. -/
theorem layout_multibyte {bits : Nat} (h : multiByte bits) (o : Order) {buf : List Nat} {i v : Nat}
    (hw : BytesOk buf) (hl : load bits o buf i = some v) {j : Nat} (hj : j < bits / 8) :
    buf[i * (bits / 8) + (match o with | .le => j | .be => bits / 8 - 1 - j)]?
      = some (v / 256 ^ j % 256) := by
  rw [load_multi h] at hl
  have := loadBytes_digit hw hl hj
  cases o <;> simpa [Order.alt] using this

/-- The same down to the bit: bit `k` of pixel `i` is bit `k % 8` of the byte at
`i*n + k/8` (`LittleEndianMsb0`) resp. `i*n + (n-1-k/8)` (`BigEndianLsb0`). -/
theorem layout_multibyte_bit {bits : Nat} (h : multiByte bits) (o : Order) {buf : List Nat}
    {i v : Nat} (hw : BytesOk buf) (hl : load bits o buf i = some v) {k : Nat} (hk : k < bits) :
    ∃ b, buf[i * (bits / 8) + (match o with | .le => k / 8 | .be => bits / 8 - 1 - k / 8)]? = some b ∧
      v.testBit k = b.testBit (k % 8) := by
  have hk' : k / 8 < bits / 8 := by rcases h with rfl | rfl | rfl <;> omega
  have hbit : v.testBit k = (v / 256 ^ (k / 8) % 256).testBit (k % 8) := by
    rw [digit_testBit v (k / 8) (k % 8) (Nat.mod_lt _ (by decide))]
    congr 1
    omega
  cases o with
  | le => exact ⟨_, layout_multibyte h .le hw hl hk', hbit⟩
  | be => exact ⟨_, layout_multibyte h .be hw hl hk', hbit⟩

/-- The bytes written by a multi-byte `store` are the base-256 digits of the value:
`v % 256, v / 256 % 256, ...` (little endian; reversed for big endian). Definitional (`rfl`
unfolding of `toLe` / `toBe` for 2, 3, 4 bytes, one big-endian instance shown); the content is in
`layout_multibyte` / `layout_multibyte_bit`, which say where each digit / bit is found again. -/
theorem to_le_bytes_spec (v : Nat) :
    toLe 2 v = [v % 256, v / 256 % 256] ∧
    toLe 3 v = [v % 256, v / 256 % 256, v / 256 / 256 % 256] ∧
    toLe 4 v = [v % 256, v / 256 % 256, v / 256 / 256 % 256, v / 256 / 256 / 256 % 256] ∧
    toBe 2 v = [v / 256 % 256, v % 256] :=
  ⟨rfl, rfl, rfl, rfl⟩

/-- Iterating a `RawDataSlice` yields exactly `load(0), load(1), ...`, as many as fit
(`pixelCount`; excess bytes are ignored). -/
theorem iter_toList {bits : Nat} (hb : validBits bits = true) (o : Order) (data : List Nat) :
    (Iter.new bits o data).toList.map some
      = (List.range (pixelCount bits data.length)).map (load bits o data) := by
  apply List.ext_getElem?
  intro k
  have h := Iter.toList_getElem? (Iter.new bits o data) hb k
  simp only [Iter.new, Nat.zero_add] at h
  unfold Iter.new
  rw [List.getElem?_map, List.getElem?_map, h]
  by_cases hk : k < pixelCount bits data.length
  · obtain ⟨v, hv⟩ := load_inside hb o data k hk
    rw [List.getElem?_range hk, Option.map_some, hv]
    rfl
  · rw [List.getElem?_eq_none (by rw [List.length_range]; omega), load_outside hb o data k (by omega)]
    rfl

/-- From any position: the iterator still yields `load(index), load(index+1), ...`. -/
theorem iter_toList_from (it : Iter) (hb : validBits it.bits = true) :
    it.toList.length = pixelCount it.bits it.data.length - it.index ∧
    ∀ k, it.toList[k]? = load it.bits it.order it.data (it.index + k) :=
  ⟨Iter.toList_length it hb, Iter.toList_getElem? it hb⟩

/-- `next` returns the head of what is still to come and leaves the tail. -/
theorem iter_next (it : Iter) (hb : validBits it.bits = true) :
    it.next.1 = it.toList[0]? ∧ it.next.2.toList = it.toList.drop 1 := by
  refine ⟨?_, ?_⟩
  · rw [Iter.next_fst, Iter.toList_getElem? it hb]; rfl
  · apply List.ext_getElem?
    intro m
    rw [Iter.next_snd_getElem? it hb, List.getElem?_drop, Iter.toList_getElem? it hb]
    congr 1; omega

/-- `nth(k)` = skip `k` items, then `next`: it returns item `k` of what was still to come
(`None` if there are not that many) and leaves everything after it. -/
theorem iter_nth (it : Iter) (hb : validBits it.bits = true) (hf : it.Fits) (k : Nat) :
    (it.nth k).1 = it.toList[k]? ∧ (it.nth k).2.toList = it.toList.drop (k + 1) := by
  refine ⟨?_, Iter.nth_snd_toList it hb hf.count_le k⟩
  rw [Iter.nth_fst it hb hf.count_le, Iter.toList_getElem? it hb]

/-- In particular `nth(k)` on a fresh iterator is `load(k)` (what `ImageRaw::pixel` relies on). -/
theorem iter_nth_fresh {bits : Nat} (hb : validBits bits = true) (o : Order) (data : List Nat)
    (hf : data.length * 8 ≤ usizeMax) (k : Nat) :
    ((Iter.new bits o data).nth k).1 = load bits o data k := by
  have := Iter.nth_fst (Iter.new bits o data) hb (Iter.Fits.count_le hf) k
  simpa [Iter.new] using this

/-- `size_hint` is exact at every position: lower = upper = number of remaining items. (The property
text asks only that it BRACKETS the remaining count — `size_hint_brackets` below, oracle class
`size-hint-bracket`; the code is exact, so the model states exactness and the correspondence compares
the exact pair.) -/
theorem size_hint_exact (it : Iter) (hb : validBits it.bits = true) (hf : it.Fits) :
    it.sizeHint = (it.toList.length, some it.toList.length) := by
  rw [Iter.sizeHint_eq it hf.count_le, Iter.toList_length it hb]

/-- ... hence it brackets the number of remaining items. -/
theorem size_hint_brackets (it : Iter) (hb : validBits it.bits = true) (hf : it.Fits) :
    it.sizeHint.1 ≤ it.toList.length ∧ ∀ u, it.sizeHint.2 = some u → it.toList.length ≤ u := by
  rw [size_hint_exact it hb hf]
  exact ⟨Nat.le_refl _, fun u hu => by cases hu; exact Nat.le_refl _⟩

/-- The guard `Iter.Fits` is needed only in the model's saturating arithmetic: the unguarded claim ... -/
def size_hint_exact_unguarded : Prop :=
  ∀ it : Iter, validBits it.bits = true → it.sizeHint = (it.toList.length, some it.toList.length)

/-- ... fails exactly where `len.saturating_mul(8 / bits)` saturates: a 2^61-byte slice of 1-bit
pixels holds 2^64 pixels, `size_hint` answers `(usize::MAX, Some(usize::MAX))`. Such a slice
cannot be allocated, so this is an observation about the model's boundary, not a replayable
defect (the upper bound would have to be `None` there). -/
theorem size_hint_saturates_beyond_fits : ¬ size_hint_exact_unguarded := by
  intro h
  obtain ⟨data, hd⟩ : ∃ data : List Nat, data.length = 2305843009213693952 :=
    ⟨List.replicate 2305843009213693952 0, List.length_replicate⟩
  have h1 := h ⟨1, .le, data, 0⟩ rfl
  have h2 := Iter.toList_length ⟨1, .le, data, 0⟩ rfl
  rw [h2] at h1
  simp only [Iter.sizeHint, Iter.count, pixelCount, satMulUsize, usizeMax, hd,
    Nat.reduceLT, ↓reduceIte, Nat.reduceDiv, Nat.reduceMul, Nat.reduceLeDiff,
    Nat.sub_zero, Prod.mk.injEq] at h1
  omega

/-! ### Non-vacuity: concrete instances of the hypotheses used above -/

example : validBits 2 = true ∧ subByte 2 ∧ multiByte 24 := by decide
example : (0x2D : Nat) < 256 ∧ 3 < 8 / 2 ∧ 2 < 2 ^ 2 := by decide
example : BytesOk [0x12, 0xA5, 0xFF] := by intro b hb; simp at hb; omega
example : 5 < pixelCount 2 [0x12, 0xA5, 0xFF].length := by decide
-- pixel 5 at 2 bpp: byte 1, slot 1; LittleEndianMsb0 field = bits [8-2*2, 8-2*2+2) = [4,6): 0xA5 -> 0x95;
-- BigEndianLsb0 field = bits [2*1, 2*1+2) = [2,4): 0xA5 -> 0xA5 (value 1 was there), 0xAD for value 3
example : store 2 .le 1 [0x12, 0xA5, 0xFF] 5 = (true, [0x12, 0x95, 0xFF]) := by decide
example : bitPosition 2 .le 5 = (1, 4) ∧ bitPosition 2 .be 5 = (1, 2) := by decide
example : store 2 .be 1 [0x12, 0xA5, 0xFF] 5 = (true, [0x12, 0xA5, 0xFF]) := by decide
example : store 2 .be 3 [0x12, 0xA5, 0xFF] 5 = (true, [0x12, 0xAD, 0xFF]) := by decide
example : store 24 .be 0x123456 [1, 2, 3, 4, 5, 6, 7] 1 = (true, [1, 2, 3, 0x12, 0x34, 0x56, 7]) := by decide
example : store 16 .le 0x1234 [1, 2, 3] 1 = (false, [1, 2, 3]) := by decide
example : load 4 .le [0x12, 0xA5] 2 = some 0xA ∧ load 4 .be [0x12, 0xA5] 2 = some 5 := by decide
example : ¬ ownByte 16 1 1 ∧ ownByte 16 1 2 ∧ ownByte 16 1 3 ∧ ¬ ownByte 16 1 4 := by decide
example : (Iter.new 16 .be [0xAA, 0xBB, 0x12, 0x34, 0x99]).toList = [0xAABB, 0x1234] := by decide
example : (Iter.new 16 .be [0xAA, 0xBB, 0x12, 0x34, 0x99]).Fits := by decide
example : ((Iter.new 4 .le [0x12, 0xA5, 0x77]).nth 3).1 = some 5 := by decide

end EG.C11
