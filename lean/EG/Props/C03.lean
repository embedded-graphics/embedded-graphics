/-
  C03 — clipped / cropped / translated / colour-converted targets and the trait defaults are exact.

  Property theorems, with the guard `ClippedOk` they need (helper lemmas live in
  EG/Lemmas/Adapters*.lean, Target*.lean). All
  statements are about the models `EG.Model.Adapters`, `EG.Model.CroppedIter`, `EG.Model.Target`
  (literal transcriptions of src/draw_target/{clipped,cropped,translated,color_converted}.rs,
  src/iterator/contiguous.rs and the trait defaults of core/src/draw_target/mod.rs), tied to the
  real code by the `adapters.run` correspondence stream (call log and pixel map of both recording
  roots, reported boxes). Where `Rectangle::points` would saturate (`u32 -> i32`, `i32` overflow of
  `top_left + size`) statements carry the explicit decidable guard `Rect.InRange`.
-/
import EG.Lemmas.Adapters
namespace EG.C03
open EG EG.Rect EG.Tgt

/-- `iterator::contiguous::Cropped` (state machine with initial skip and per-row skip) yields
exactly the colours of rows `y0 .. y0+h`, columns `x0 .. x0+w` of the row-major stream of an area
of width `W` — for every size, crop area and stream of ANY length (a short stream is cut at the
right place). `crop = Rectangle::new(Point::zero(), size).intersection(crop_area)`. -/
theorem cropped_iter_toList (cs : List Color) (size : Sz) (cropArea : Rect) :
    croppedList cs size cropArea =
      (List.range (CropIt.cropOf size cropArea).size.h).flatMap (fun j =>
        (cs.drop (((CropIt.cropOf size cropArea).tl.y.toNat + j) * size.w
          + (CropIt.cropOf size cropArea).tl.x.toNat)).take (CropIt.cropOf size cropArea).size.w) :=
  croppedList_eq_spec cs size cropArea

/-- The `as usize` casts of the crop's top-left corner in `Cropped::new` never see a negative
value. -/
theorem cropped_iter_casts_safe (size : Sz) (cropArea : Rect) :
    0 ≤ (CropIt.cropOf size cropArea).tl.x ∧ 0 ≤ (CropIt.cropOf size cropArea).tl.y :=
  CropIt.cropOf_tl_nonneg size cropArea

/-- `row_skip = size.width.saturating_sub(crop.width)`: the crop is at most as wide as the area
unless it is zero-height (then nothing is yielded). The exception is real — `intersection`
returns a zero-sized operand unchanged — and is where checked builds of /repo panicked with a `u32` underflow before
its repair commit 0e0d76a (witness in corpus/C03.ops). -/
theorem cropped_iter_row_skip (size : Sz) (cropArea : Rect) :
    (CropIt.cropOf size cropArea).size.w ≤ size.w ∨ (CropIt.cropOf size cropArea).size.h = 0 :=
  CropIt.cropOf_w_le size cropArea

example : (CropIt.cropOf ⟨1, 1⟩ ⟨⟨0, 0⟩, ⟨2, 0⟩⟩).size.w = 2 := by decide

/-! ### The trait defaults set exactly the row-major points of the area paired with the stream -/

/-- Row-major numbering of `Rectangle::points()`: point number `j * w + i` is `top_left + (i, j)`. -/
theorem points_index (r : Rect) (hr : r.InRange) (i j : Nat) (hi : i < r.size.w) (hj : j < r.size.h) :
    r.points[j * r.size.w + i]? = some ⟨r.tl.x + i, r.tl.y + j⟩ := by
  rw [points_eq_grid (Or.inr hr)]; exact grid_getElem? r i j hi hj

example : (Rect.mk ⟨-3, 2⟩ ⟨4, 3⟩).InRange := by decide

/-- Default `fill_contiguous`: the writes offered to `draw_iter` are the row-major points of the
area zipped with the stream (any area, any stream length). -/
theorem default_fill_contiguous_writes (B area : Rect) (cs : List Color) :
    Call.lowerDefault B (.fillContiguous area cs) = area.points.zip cs := rfl

/-- ... so the point with row-major index `k = (y - top) * w + (x - left)` ends up with colour
number `k` of the stream if the stream is that long, and every other point keeps its content. -/
theorem default_fill_contiguous_exact (B area : Rect) (hr : area.InRange) (cs : List Color)
    (m : PMap) (p : Pt) :
    m.apply (Call.lowerDefault B (.fillContiguous area cs)) p =
      if area.contains p = true ∧ area.indexOf p < cs.length then cs[area.indexOf p]? else m p := by
  rw [PMap.apply_lowerDefault (c := .fillContiguous area cs) (Or.inr hr)]
  simp only [Call.paint]
  by_cases hp : area.contains p = true
  · by_cases hl : area.indexOf p < cs.length
    · simp [hp, hl]
    · simp [hp, hl]
  · simp [hp]

/-- Default `fill_solid` sets exactly the points of the area. -/
theorem default_fill_solid_exact (B area : Rect) (hr : area.InRange) (c : Color) (m : PMap) (p : Pt) :
    m.apply (Call.lowerDefault B (.fillSolid area c)) p =
      if area.contains p = true then some c else m p := by
  rw [PMap.apply_lowerDefault (c := .fillSolid area c) (Or.inr hr)]
  simp only [Call.paint]
  by_cases hp : area.contains p = true <;> simp [hp]

/-- Default `clear` sets exactly the points of the target's bounding box. -/
theorem default_clear_exact (B : Rect) (hr : B.InRange) (c : Color) (m : PMap) (p : Pt) :
    m.apply (Call.lowerDefault B (.clear c)) p = if B.contains p = true then some c else m p := by
  rw [PMap.apply_lowerDefault (c := .clear c) (Or.inr hr)]
  simp only [Call.paint]
  by_cases hp : B.contains p = true <;> simp [hp]

/-- The defaults offer the points in row-major order, each once. -/
theorem default_fill_order (B area : Rect) (cs : List Color) :
    ((Call.lowerDefault B (.fillContiguous area cs)).map Prod.fst).Pairwise Pt.rowMajorLt := by
  show ((area.points.zip cs).map Prod.fst).Pairwise Pt.rowMajorLt
  exact (points_rowMajor area).sublist (map_fst_zip_sublist _ _)

/-! ### Meaning of calls, range guards

`c.sem T p` is the colour the call `c` (documented meaning) last writes to `p` on a target that
reports box `T` (`none`: `p` not touched). `r.Ok` = the rectangle is zero sized or `Rect.InRange`
(no `u32 -> i32` saturation, no `i32` overflow of `top_left + size`); `c.Ok T` asks that of the
area of the call (of `T` for `clear`). These guards are decidable. -/

example : (Call.fillContiguous ⟨⟨-1, 2⟩, ⟨3, 2⟩⟩ [1, 2, 3, 4]).Ok ⟨⟨0, 0⟩, ⟨4, 4⟩⟩ := by decide
example : (Call.fillContiguous ⟨⟨-1, 2⟩, ⟨3, 2⟩⟩ [7, 8, 9, 10]).sem ⟨⟨0, 0⟩, ⟨4, 4⟩⟩ ⟨-1, 3⟩ = some 10 := by
  decide

/-- Reported box of a clipped target: exactly the common points of clip area and parent box. -/
theorem clipped_bbox (clip B : Rect) (p : Pt) :
    ((Adapter.clipped clip).bbox B).contains p = true ↔ (clip.contains p = true ∧ B.contains p = true) :=
  Rect.mem_intersection clip B p

/-- **Clipped, per call** (`draw_iter`, `fill_contiguous` with full, short and long streams — both
the `intersection == area` shortcut and the re-cut colour stream —, `fill_solid`, `clear`): what
the parent receives means, at every point `q`: inside `clip ∩ parent box` exactly what the call
means, outside nothing. The only guard is on the call itself (its area is empty or in `i32`
range); clipping never leaves the range (`Adapter.clipped_lower_ok`). -/
theorem clipped_exact (clip B : Rect) (c : Call) (h1 : c.Ok (clip.intersection B)) (q : Pt) :
    ((Adapter.clipped clip).lower B c).sem B q =
      if clip.contains q = true ∧ B.contains q = true then c.sem (clip.intersection B) q else none := by
  have h2 := Adapter.clipped_lower_ok (clip.intersection B) B c h1
  simp only [Adapter.lower] at h2 ⊢
  rw [Call.sem_eq_paint h2, Call.sem_eq_paint h1, Adapter.clipped_paint]
  simp only [Rect.mem_intersection]

example : (Call.fillContiguous ⟨⟨-1, 0⟩, ⟨3, 2⟩⟩ [1, 2, 3, 4]).Ok
      ((Rect.mk ⟨0, 0⟩ ⟨2, 2⟩).intersection ⟨⟨-2, -2⟩, ⟨6, 5⟩⟩) := by decide

/-- **No pixel outside `clip ∩ parent box` ever reaches the parent**: every write the parent is
offered (list level, before the parent's own clipping; the same list for a `draw_iter`-only
parent by `Call.lowerDefault_eq_lowerNative`) lies in the clip area and in the parent's box. -/
theorem clipped_nothing_outside (clip B : Rect) (c : Call) (h1 : c.Ok (clip.intersection B)) :
    ∀ w ∈ ((Adapter.clipped clip).lower B c).lowerNative B,
      clip.contains w.1 = true ∧ B.contains w.1 = true := by
  intro w hw
  have := stack_writes_inside B [.clipped clip] c h1 (Adapter.clipped_lower_ok _ B c h1) w hw
  simpa [stackXf, Xf.comp, Xf.id, Adapter.xf, Rect.mem_intersection] using this

theorem clipped_nothing_outside_default (clip B : Rect) (c : Call) (h1 : c.Ok (clip.intersection B)) :
    ∀ w ∈ ((Adapter.clipped clip).lower B c).lowerDefault B,
      clip.contains w.1 = true ∧ B.contains w.1 = true := by
  rw [Call.lowerDefault_eq_lowerNative]; exact clipped_nothing_outside clip B c h1

/-- Range guard for a history drawn through a clipped target: the parent's box and the areas of
the calls are empty or in `i32` range (nothing is asked of the clip area). -/
def ClippedOk (B : Rect) (calls : List Call) : Prop := B.Ok ∧ ∀ c ∈ calls, c.Ok B

theorem ClippedOk.call_ok {clip B : Rect} {calls : List Call} (h : ClippedOk B calls) :
    ∀ c ∈ calls, c.Ok (clip.intersection B) := by
  exact fun c hc => Call.ok_of_box (h.2 c hc) (Rect.ok_intersection_right clip B h.1)

/-- **Clipped, whole histories**: after any sequence of operations through the clipped target the
parent's pixel map is, inside `clip ∩ parent box`, exactly the map the parent has after the same
operations applied to it directly, and empty outside (parent with native fills). -/
theorem clipped_history_exact (clip B : Rect) (calls : List Call) (h : ClippedOk B calls) (q : Pt) :
    runNative B (calls.map ((Adapter.clipped clip).lower B)) q =
      if clip.contains q = true ∧ B.contains q = true then runNative B calls q else none := by
  rw [runNative_eq_paint (by
      intro c hc
      obtain ⟨c', hc', rfl⟩ := List.mem_map.mp hc
      exact Adapter.clipped_lower_ok _ B c' (h.call_ok c' hc')),
    runNative_eq_paint h.2,
    paint_map (T := clip.intersection B) (f := (Adapter.clipped clip).lower B)
      (F := fun o => if (clip.intersection B).contains q = true then o else none)
      (by intro x y; split <;> rfl) (by split <;> rfl) calls
      fun c _ => Adapter.clipped_paint (clip.intersection B) B c q]
  by_cases hc : clip.contains q = true <;> by_cases hB : B.contains q = true <;>
    simp only [Rect.contains_intersection, hc, hB, Bool.and_self, Bool.and_false, Bool.false_and,
      and_self, and_false, false_and, if_true, if_false, Bool.false_eq_true]
  -- at a point of `clip ∩ B` the history paints the same on the box `clip ∩ B` as on `B`
  exact paint_box_irrelevant _ _ calls q (by rw [Rect.contains_intersection, hc, hB]; rfl)

/-- The same for a parent that only implements `draw_iter` (trait defaults). -/
theorem clipped_history_exact_default (clip B : Rect) (calls : List Call) (h : ClippedOk B calls)
    (q : Pt) :
    runDefault B (calls.map ((Adapter.clipped clip).lower B)) q =
      if clip.contains q = true ∧ B.contains q = true then runDefault B calls q else none := by
  rw [runDefault_eq_runNative, runDefault_eq_runNative]; exact clipped_history_exact clip B calls h q

instance (B : Rect) (calls : List Call) : Decidable (ClippedOk B calls) := by
  unfold ClippedOk; exact inferInstance

example : ClippedOk ⟨⟨-2, -2⟩, ⟨6, 5⟩⟩
    [.fillContiguous ⟨⟨-1, 0⟩, ⟨3, 2⟩⟩ [1, 2, 3, 4], .clear 9, .fillSolid ⟨⟨1, 1⟩, ⟨4, 4⟩⟩ 5,
     .drawIter [(⟨5, 5⟩, 1), (⟨0, 0⟩, 2), (⟨0, 0⟩, 3)]] := by decide

/-- Reported box of a translated target: the parent's box shifted back by the offset. -/
theorem translated_bbox (d : Pt) (B : Rect) (p : Pt) :
    ((Adapter.translated d).bbox B).contains p = B.contains (p + d) := by
  simp only [Adapter.bbox, Rect.contains_translate']
  congr 1; rw [Pt.ext_iff']; simp only [Pt.sub_x, Pt.sub_y, Pt.neg_x, Pt.neg_y, Pt.add_x, Pt.add_y]; omega

theorem translated_bbox_eq (d : Pt) (B : Rect) :
    (Adapter.translated d).bbox B = ⟨⟨B.tl.x - d.x, B.tl.y - d.y⟩, B.size⟩ := by
  simp only [Adapter.bbox, Rect.translate, Rect.mk.injEq, and_true]
  rw [Pt.ext_iff']; simp only [Pt.add_x, Pt.add_y, Pt.neg_x, Pt.neg_y]; omega

/-- **Translated, per call**: the parent point `q` receives what the call means at `q - offset`
(all four methods; `clear` clears the parent). -/
theorem translated_exact (d : Pt) (B : Rect) (c : Call) (h1 : c.Ok ((Adapter.translated d).bbox B))
    (h2 : ((Adapter.translated d).lower B c).Ok B) (q : Pt) :
    ((Adapter.translated d).lower B c).sem B q = c.sem ((Adapter.translated d).bbox B) (q - d) := by
  rw [Call.sem_eq_paint h2, Call.sem_eq_paint h1]
  exact Adapter.translated_paint d B c q

example : (Call.fillSolid ⟨⟨-1, 0⟩, ⟨3, 2⟩⟩ 4).Ok ((Adapter.translated ⟨5, -7⟩).bbox ⟨⟨1, 1⟩, ⟨6, 5⟩⟩) ∧
    ((Adapter.translated ⟨5, -7⟩).lower ⟨⟨1, 1⟩, ⟨6, 5⟩⟩ (Call.fillSolid ⟨⟨-1, 0⟩, ⟨3, 2⟩⟩ 4)).Ok
      ⟨⟨1, 1⟩, ⟨6, 5⟩⟩ := by decide

/-- Reported box of a cropped target: the size of `area ∩ parent box`, at the origin. -/
theorem cropped_bbox (area B : Rect) :
    (Adapter.cropped area).bbox B = ⟨⟨0, 0⟩, (area.intersection B).size⟩ := rfl

/-- **Cropped, per call**: the origin of the cropped target is the top-left corner of
`area ∩ parent box`; drawing is shifted by it and (as documented) not clipped; `clear` fills the
cropped target's box. -/
theorem cropped_exact (area B : Rect) (c : Call) (h1 : c.Ok ((Adapter.cropped area).bbox B))
    (h2 : ((Adapter.cropped area).lower B c).Ok B) (q : Pt) :
    ((Adapter.cropped area).lower B c).sem B q =
      c.sem ((Adapter.cropped area).bbox B) (q - (area.intersection B).tl) := by
  rw [Call.sem_eq_paint h2, Call.sem_eq_paint h1]
  exact Adapter.cropped_paint _ B c q

example : (Call.clear 4).Ok ((Adapter.cropped ⟨⟨2, 2⟩, ⟨9, 9⟩⟩).bbox ⟨⟨1, 1⟩, ⟨6, 5⟩⟩) ∧
    ((Adapter.cropped ⟨⟨2, 2⟩, ⟨9, 9⟩⟩).lower ⟨⟨1, 1⟩, ⟨6, 5⟩⟩ (Call.clear 4)).Ok ⟨⟨1, 1⟩, ⟨6, 5⟩⟩ := by
  decide

theorem converted_bbox (f : Color → Color) (B : Rect) : (Adapter.converted f).bbox B = B := rfl

/-- **Colour converted, per call**: every colour that reaches the parent is `f` (the `Into`
conversion) of the colour drawn, at the same point; nothing else changes. -/
theorem converted_exact (f : Color → Color) (B : Rect) (c : Call) (h1 : c.Ok B) (q : Pt) :
    ((Adapter.converted f).lower B c).sem B q = (c.sem B q).map f := by
  have h2 : ((Adapter.converted f).lower B c).Ok B := Adapter.converted_ok f B c h1
  rw [Call.sem_eq_paint h2, Call.sem_eq_paint h1]
  exact Adapter.converted_paint f B c q

/-- ... and the colour stream handed to the parent is the element-wise image (every colour goes
through the conversion exactly once, also those the parent ends up not using). -/
theorem converted_stream (f : Color → Color) (B area : Rect) (cs : List Color) :
    (Adapter.converted f).lower B (.fillContiguous area cs) = .fillContiguous area (cs.map f) := rfl

/-! ### Nestings compose like the corresponding transformations -/

/-- A transformation `x : Xf` = (reachable region `G` in parent coordinates, shift `d`, colour map
`f`) acts on meanings by `x.act m q = if G q then (m (q - d)).map f else none`. The four adapters: -/
theorem adapter_xf (B : Rect) (q : Pt) (m : Pt → Option Color) :
    (∀ r, ((Adapter.clipped r).xf B).act m q =
      if r.contains q = true ∧ B.contains q = true then m q else none) ∧
    (∀ r, ((Adapter.cropped r).xf B).act m q = m (q - (r.intersection B).tl)) ∧
    (∀ d, ((Adapter.translated d).xf B).act m q = m (q - d)) ∧
    (∀ f, ((Adapter.converted f).xf B).act m q = (m q).map f) := by
  refine ⟨?_, ?_, ?_, ?_⟩
  · intro r
    simp only [Adapter.xf, Xf.act, Pt.sub_zero]
    by_cases h : (r.intersection B).contains q = true
    · rw [if_pos h, if_pos ((Rect.mem_intersection r B q).mp h)]; simp
    · rw [if_neg h, if_neg (fun h' => h ((Rect.mem_intersection r B q).mpr h'))]
  · intro r; simp [Adapter.xf, Xf.act]
  · intro d; simp [Adapter.xf, Xf.act]
  · intro f; simp [Adapter.xf, Xf.act, Pt.sub_zero]

/-- The transformation of a nesting is the composition, root-most adapter outermost: regions
intersect (each expressed in root coordinates), shifts add, colour maps compose. -/
theorem stack_xf_nil (B : Rect) : stackXf B [] = Xf.id := rfl
theorem stack_xf_cons (B : Rect) (a : Adapter) (rest : Stack) :
    stackXf B (a :: rest) = (a.xf B).comp (stackXf (a.bbox B) rest) := rfl
theorem xf_comp_act (outer inner : Xf) (m : Pt → Option Color) (q : Pt) :
    (outer.comp inner).act m q = outer.act (inner.act m) q := Xf.act_comp outer inner m q
theorem xf_comp_fields (outer inner : Xf) (q : Pt) (c : Color) :
    (outer.comp inner).G q = (outer.G q && inner.G (q - outer.d)) ∧
    (outer.comp inner).d = outer.d + inner.d ∧
    (outer.comp inner).f c = outer.f (inner.f c) := ⟨rfl, rfl, rfl⟩

/-- The reported box of a nesting is obtained level by level. -/
theorem stack_box_cons (B : Rect) (a : Adapter) (rest : Stack) :
    stackBox B (a :: rest) = stackBox (a.bbox B) rest := rfl

/-- A nesting built on top of a nesting is the composition of the two (boxes, lowered calls and
transformations). -/
theorem stack_append (B : Rect) (s1 s2 : Stack) :
    stackXf B (s1 ++ s2) = (stackXf B s1).comp (stackXf (stackBox B s1) s2) ∧
    stackBox B (s1 ++ s2) = stackBox (stackBox B s1) s2 ∧
    ∀ c, lowerStack B (s1 ++ s2) c = lowerStack B s1 (lowerStack (stackBox B s1) s2 c) := by
  induction s1 generalizing B with
  | nil => exact ⟨by simp only [List.nil_append, stackXf, stackBox, Xf.id_comp], rfl, fun _ => rfl⟩
  | cons a rest ih =>
    obtain ⟨h1, h2, h3⟩ := ih (a.bbox B)
    simp only [List.cons_append, stackXf, stackBox, lowerStack]
    exact ⟨by rw [h1, Xf.comp_assoc], h2, fun c => by rw [h3]⟩

/-- Instances of the composition law: two translations add, -/
theorem translated_translated (B : Rect) (d1 d2 : Pt) (m : Pt → Option Color) (q : Pt) :
    (stackXf B [.translated d1, .translated d2]).act m q = m (q - (d1 + d2)) := by
  simp only [stackXf, Xf.act_comp, Xf.act_id, (adapter_xf _ _ _).2.2.1]
  rw [Pt.sub_add]

/-- two clip areas intersect (with each other and the root's box), -/
theorem clipped_clipped (B r1 r2 : Rect) (m : Pt → Option Color) (q : Pt) :
    (stackXf B [.clipped r1, .clipped r2]).act m q =
      if r1.contains q = true ∧ r2.contains q = true ∧ B.contains q = true then m q else none := by
  simp only [stackXf, Xf.act_comp, Xf.act_id, (adapter_xf _ _ _).1, Adapter.bbox]
  by_cases h1 : r1.contains q = true <;> by_cases hB : B.contains q = true <;>
    by_cases h2 : r2.contains q = true <;> simp [h1, h2, hB, Rect.mem_intersection]

/-- a clip area given in translated coordinates is the translated region in root coordinates, -/
theorem translated_clipped (B r : Rect) (d : Pt) (m : Pt → Option Color) (q : Pt) :
    (stackXf B [.translated d, .clipped r]).act m q =
      if r.contains (q - d) = true ∧ B.contains q = true then m (q - d) else none := by
  simp only [stackXf, Xf.act_comp, Xf.act_id, (adapter_xf _ _ _).1, (adapter_xf _ _ _).2.2.1]
  have : ((Adapter.translated d).bbox B).contains (q - d) = B.contains q := by
    rw [translated_bbox, Pt.sub_add_cancel']
  rw [this]

/-- and colour conversions compose, the root-most one applied last. -/
theorem converted_converted (B : Rect) (f g : Color → Color) (m : Pt → Option Color) (q : Pt) :
    (stackXf B [.converted f, .converted g]).act m q = (m q).map (fun c => f (g c)) := by
  simp only [stackXf, Xf.act_comp, Xf.act_id, (adapter_xf _ _ _).2.2.2]
  cases m q <;> rfl

/-- **Nestings, per call** (any depth: induction over the stack): the call the root receives
means the composed transformation of what the call means on the top of the nesting. -/
theorem stack_exact (B : Rect) (s : Stack) (c : Call) (h : stackOk B s c) (q : Pt) :
    (lowerStack B s c).sem B q = (stackXf B s).act (c.sem (stackBox B s)) q :=
  stack_sem B s c (stackOk_top B s c h) (stackOk_lowered B s c h) q

/-- For nestings of clipped and colour-converted targets only (no coordinate shift) the guard of
`stack_exact` reduces to the user's inputs: root box and call area empty or in `i32` range. -/
theorem stack_guard_of_no_shift (B : Rect) (s : Stack) (c : Call)
    (hs : ∀ a ∈ s, a.noShift = true) (hB : B.Ok) (hc : c.Ok B) : stackOk B s c := by
  induction s generalizing B with
  | nil => exact hc
  | cons a rest ih =>
    have ha := hs a List.mem_cons_self
    have hrest : ∀ b ∈ rest, b.noShift = true := fun b hb => hs b (List.mem_cons_of_mem _ hb)
    cases a with
    | clipped r =>
      have hB' : ((Adapter.clipped r).bbox B).Ok := Rect.ok_intersection_right r B hB
      have h1 := ih _ hrest hB' (Call.ok_of_box hc hB')
      exact ⟨h1, Adapter.clipped_lower_ok _ B _ (stackOk_lowered _ _ _ h1)⟩
    | converted f =>
      have h1 := ih ((Adapter.converted f).bbox B) hrest hB hc
      exact ⟨h1, Adapter.converted_ok f B _ (stackOk_lowered _ _ _ h1)⟩
    | cropped r => cases ha
    | translated d => cases ha

example : (∀ a ∈ [Adapter.clipped ⟨⟨0, 0⟩, ⟨2, 2⟩⟩, Adapter.converted (fun c => c + 1)], a.noShift = true) := by
  intro a ha; simp only [List.mem_cons, List.not_mem_nil, or_false] at ha
  rcases ha with rfl | rfl <;> rfl

/-- **Nestings, whole histories, both kinds of root**: the root's final pixel map is the composed
transformation of the direct meaning of the history, cut to the root's box. -/
theorem stack_history_exact (B : Rect) (s : Stack) (calls : List Call)
    (h : ∀ c ∈ calls, stackOk B s c) (q : Pt) :
    runStackNative B s calls q =
      (if B.contains q = true then (stackXf B s).act (runDirect (stackBox B s) calls) q else none) ∧
    runStackDefault B s calls q = runStackNative B s calls q := by
  refine ⟨stack_run_native B s calls h q, ?_⟩
  unfold runStackDefault runStackNative
  rw [runDefault_eq_runNative]

/-- **Nestings never offer the root a pixel outside the accumulated region** (which, below a
clipped adapter, is inside that adapter's clip area and its parent's box). -/
theorem stack_nothing_outside (B : Rect) (s : Stack) (c : Call) (h : stackOk B s c) :
    ∀ w ∈ (lowerStack B s c).lowerNative B, (stackXf B s).G w.1 = true := by
  exact stack_writes_inside B s c (stackOk_top B s c h) (stackOk_lowered B s c h)

/-- depth 3: clipped under cropped under translated+converted, a partly clipped short stream -/
example : stackOk ⟨⟨-3, -2⟩, ⟨7, 5⟩⟩
    [.clipped ⟨⟨-1, -1⟩, ⟨3, 3⟩⟩, .cropped ⟨⟨0, -2⟩, ⟨5, 3⟩⟩, .translated ⟨1, 0⟩]
    (.fillContiguous ⟨⟨-2, -1⟩, ⟨4, 3⟩⟩ [1, 2, 3, 4, 5, 6, 7]) := by decide

/-- ... whose lowered call, evaluated by the kernel, is clipped, shifted and keeps the pairing of
points and colours. -/
example : (lowerStack ⟨⟨-3, -2⟩, ⟨7, 5⟩⟩
    [.clipped ⟨⟨-1, -1⟩, ⟨3, 3⟩⟩, .cropped ⟨⟨0, -2⟩, ⟨5, 3⟩⟩, .translated ⟨1, 0⟩]
    (.fillContiguous ⟨⟨-2, -1⟩, ⟨4, 3⟩⟩ [1, 2, 3, 4, 5, 6, 7])) =
    .fillContiguous ⟨⟨-1, -1⟩, ⟨3, 2⟩⟩ [5, 6, 7] := by decide

-- [V] colour streams are finite lists; arbitrary `IntoIterator`s (infinite like `repeat`, non-fused, side-effecting) and the laziness of the real iterator chain (how many colours are pulled, and when) are outside the model: carried by correspondence + oracle only
-- the colour map `f` of a colour-converted target is instantiated with every `From` impl between built-in colour types (C13's generated table, 182 pairs) in Props/C03/Conversions.lean (`converted_exact_all`, `converted_colours_valid`, `converted_black_white`, `converted_nested_all`); the Rust-level remainder (the adapter calls exactly `.into()`; the correspondence runs own colour types with `c -> 3c+k+1` and the real `BinaryColor -> Rgb565`) is listed there
-- [V] `i32` overflow of translated coordinates / `u32 -> i32` saturation (excluded by the decidable guards `Rect.Ok`, `Call.Ok`, `stackOk`; totality at display scale is C08's subject): carried by correspondence + oracle only
-- error propagation through the adapters (C04's subject) is proved at model level in EG/Props/C04/Adapters.lean (`adapter_call_is_one_parent_call`) and the premise "the Rust methods are these tail calls (no `?`-and-continue, no work after the parent call, `clear` not overridden by `Clipped` / `Cropped`)" is a checked fact: EG/Props/C03/GeneratedAdapters.lean (`all_adapter_methods_are_tail_calls`, `adapter_overrides_pinned`, `src_lower_eq_model` over the adapter bodies regenerated from the Rust text by tools/tr_adapt.py); what that tie itself trusts is listed there

end EG.C03
