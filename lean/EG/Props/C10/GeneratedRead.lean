/-
  C10 — the framebuffer's READ path REGENERATED FROM THE RUST SOURCE equals the hand-written model.

  EG/Generated/FbReadSrc.lean is written by tools/tr_imgsrc.py from the text of src/framebuffer.rs on every check:
  `buffer_size`, `Framebuffer::BUFFER_SIZE`, `data`, `as_image`, `GetPixel::pixel`, `OriginDimensions::size`. `as_image` builds
  an `ImageRaw` with the generated `ImageRaw::new` and `pixel` reads it with the generated `GetPixel::pixel` of
  EG/Generated/ImgSrc.lean (equal to the C09 model by Props/C09/Generated.lean). Each is proved equal to
  `EG.Model.Framebuffer` (`bufferSize`, `Fb.bufSize`, `Fb.asImage`, `Fb.pixel`, `Fb.bbox`).
  Guards: `WIDTH`, `HEIGHT <= u32::MAX` for `as_image` / `size` (`WIDTH as u32` wraps), `<= i32::MAX` for `pixel` (the
  model compares in `Int`, the code with `width as i32`: Lemmas/GlueFbImage.lean `pixel_agree_needs_guard`), `BytesOk` and
  `FitsUsize` of the buffer for `pixel` (the guards of the raw `load`).
  Not translated (listed in `fb_read_untranslated_pinned`): `CHECK_N` (a compile-time `assert!`), `data_mut` (returns
  `&mut`), `Default::default`.
-/
import EG.Generated.FbReadSrc
import EG.Props.C09.Generated
import EG.Props.C10.Generated
import EG.Lemmas.GlueFbImage
namespace EG.C10.GeneratedRead
open EG EG.Raw EG.Fb EG.RawSrcPrelude EG.ImgSrcPrelude EG.Generated EG.Generated.RawSrc EG.C11.Generated EG.C10.Generated
  EG.C09.Generated

def toFbImg (C : RawTy) (O : DataOrderTy) (s : ImgSrc.ImageRaw) : Fb.Img := ⟨bits C, ord O, s.data, s.size.w, s.size.h⟩

theorem buffer_size_src_eq_model (C : RawTy) (w h : Nat) : FbReadSrc.buffer_size C w h = bufferSize w h (bits C) := rfl

theorem BUFFER_SIZE_src_eq_model (C : RawTy) (O : DataOrderTy) (W H N : Nat) (s : FbSrc.Framebuffer) :
    FbReadSrc.Framebuffer_BUFFER_SIZE C W H N = (toFb (bits C) (ord O) W H s).bufSize := rfl

theorem data_src_eq_model (C : RawTy) (O : DataOrderTy) (W H N : Nat) (s : FbSrc.Framebuffer) :
    FbReadSrc.Framebuffer_data C W H N s = (toFb (bits C) (ord O) W H s).data := rfl

/-- `OriginDimensions::size` (and with it the blanket `bounding_box`) -/
theorem size_src_eq_model (W H N : Nat) (s : FbSrc.Framebuffer) (hW : W ≤ 4294967295) (hH : H ≤ 4294967295)
    (bits : Nat) (o : Order) :
    (⟨Pt.zero, FbReadSrc.Framebuffer_OriginDimensions_size W H N s⟩ : Rect) = (toFb bits o W H s).bbox := by
  unfold FbReadSrc.Framebuffer_OriginDimensions_size Fb.bbox
  simp only [usize_as_u32, EG.C16.Src.Size_new_src_eq_model, toFb, Pt.zero]
  rw [Nat.mod_eq_of_lt (by omega), Nat.mod_eq_of_lt (by omega)]

/-- `as_image()`: `None` = the `unwrap` panics (exactly when the model says so: `N < BUFFER_SIZE`). -/
theorem as_image_src_eq_model (C : RawTy) (O : DataOrderTy) (W H N : Nat) (s : FbSrc.Framebuffer)
    (hW : W ≤ 4294967295) (hH : H ≤ 4294967295) :
    (FbReadSrc.Framebuffer_as_image C O W H N s).map (toFbImg C O) = (toFb (bits C) (ord O) W H s).asImage := by
  unfold FbReadSrc.Framebuffer_as_image Fb.asImage Fb.Img.new ImgSrc.ImageRaw_new
  have hb : FbReadSrc.Framebuffer_BUFFER_SIZE C W H N = (toFb (bits C) (ord O) W H s).bufSize := rfl
  rw [hb]
  have he : (toFb (bits C) (ord O) W H s).bufSize = Fb.bytesPerRow W (bits C) * H := rfl
  simp only [usize_as_u32, EG.C16.Src.Size_new_src_eq_model, slice_index_range, List.drop_zero, Size_width, Size_height,
    u32_as_usize, usize_mul, usize_ne, slice_len, List.length_take, bytes_per_row_src_eq_model, result_unwrap]
  rw [Nat.mod_eq_of_lt (by omega), Nat.mod_eq_of_lt (by omega)]
  have hd : (toFb (bits C) (ord O) W H s).data = s.data := rfl
  rw [hd, he]
  have hbr : Img.bytesPerRow W (RawData_BITS_PER_PIXEL C) = Fb.bytesPerRow W (bits C) := rfl
  rw [hbr]
  by_cases hle : Fb.bytesPerRow W (bits C) * H ≤ s.data.length
  · have : min (Fb.bytesPerRow W (bits C) * H) s.data.length = Fb.bytesPerRow W (bits C) * H := by omega
    simp [hle, this, toFbImg, toFb]
  · have : min (Fb.bytesPerRow W (bits C) * H) s.data.length ≠ Fb.bytesPerRow W (bits C) * H := by omega
    simp [hle, this]

/-- `GetPixel::pixel` of the framebuffer: `self.as_image().pixel(p)`; the outer `Option` is the panic of `as_image`. -/
theorem Framebuffer_pixel_src_eq_model (C : RawTy) (O : DataOrderTy) (W H N : Nat) (s : FbSrc.Framebuffer) (p : Pt)
    (hW : W ≤ 2147483647) (hH : H ≤ 2147483647) (hw : BytesOk s.data) (hlen : FitsUsize s.data) :
    (FbReadSrc.Framebuffer_GetPixel_pixel C O W H N s p).join = (toFb (bits C) (ord O) W H s).pixel p := by
  have ha := as_image_src_eq_model C O W H N s (by omega) (by omega)
  unfold FbReadSrc.Framebuffer_GetPixel_pixel Fb.pixel
  rw [← ha]
  cases hi : FbReadSrc.Framebuffer_as_image C O W H N s with
  | none => rfl
  | some im =>
    simp only [panic_bind, Option.map_some, Option.join_some]
    -- the image `as_image` built: its data is a prefix of the buffer, its size is WIDTH x HEIGHT
    unfold FbReadSrc.Framebuffer_as_image ImgSrc.ImageRaw_new at hi
    simp only [usize_as_u32, EG.C16.Src.Size_new_src_eq_model, slice_index_range, List.drop_zero, result_unwrap] at hi
    rw [Nat.mod_eq_of_lt (by omega), Nat.mod_eq_of_lt (by omega)] at hi
    split at hi
    · rename_i x a heq
      split at heq
      · cases heq
      · cases heq; cases hi
        have hw' : BytesOk (List.take (FbReadSrc.Framebuffer_BUFFER_SIZE C W H N) s.data) :=
          fun b hb => hw b (List.mem_of_mem_take hb)
        have hl' : FitsUsize (List.take (FbReadSrc.Framebuffer_BUFFER_SIZE C W H N) s.data) := by
          unfold FitsUsize at *; rw [List.length_take]; omega
        rw [pixel_src_eq_model C O _ p hw' hl' ⟨by show W ≤ _; omega, by show H ≤ _; omega⟩]
        exact (EG.Glue.pixel_agree ⟨bits C, ord O, _, W, H⟩ hW hH p).symm
    · cases hi
example : BytesOk (FbSrc.Framebuffer_new 9 2 4).data ∧ FitsUsize (FbSrc.Framebuffer_new 9 2 4).data := by
  refine ⟨by intro b hb; simp [FbSrc.Framebuffer_new, array_repeat] at hb; omega, by unfold FitsUsize usizeMax; decide⟩

/-- Generated reader after generated writer (shown for `RawU1`): after the generated `set_pixel`, the generated `pixel`
reads what the model's `pixel` reads after the model's `set_pixel` (to which `EG.C10.get_set` applies). -/
theorem src_pixel_after_set_pixel_bits (BO : DataOrderTy) (W H N : Nat) (s : FbSrc.Framebuffer) (p q : Pt) (c : Nat)
    (hW : W ≤ 2147483647) (hH : H ≤ 2147483647)
    (hw : BytesOk (FbSrc.Framebuffer_RawU1_set_pixel BO W H N s p c).data)
    (hlen : FitsUsize (FbSrc.Framebuffer_RawU1_set_pixel BO W H N s p c).data) :
    (FbReadSrc.Framebuffer_GetPixel_pixel .RawU1 BO W H N (FbSrc.Framebuffer_RawU1_set_pixel BO W H N s p c) q).join =
      ((toFb 1 (ord BO) W H s).setPixel p c).pixel q := by
  rw [Framebuffer_pixel_src_eq_model .RawU1 BO W H N _ q hW hH hw hlen]
  have := (set_pixel_bits_src_eq_model BO W H N s p c).1
  exact congrArg (fun f : Fb => f.pixel q) this

/-- What the two translators together leave out of src/framebuffer.rs is exactly this; an added function or override
shows up here (the write path's own list is `fb_untranslated_pinned`, which names the read path too because
tools/tr_rawsrc.py does not translate it). -/
theorem fb_read_untranslated_pinned :
    FbReadSrc.untranslated =
      [("impl Framebuffer", ["CHECK_N", "data_mut"]),
       ("impl Default for Framebuffer", ["default"])] := rfl

end EG.C10.GeneratedRead
