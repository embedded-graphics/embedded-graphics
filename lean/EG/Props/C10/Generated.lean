/-
  C10 — `Framebuffer::set_pixel` / `draw_iter` / `new` / `buffer_size_bpp` REGENERATED FROM THE RUST TEXT equal the
  hand-written model.

  `EG.Generated.FbSrc` (written by tools/tr_rawsrc.py from src/framebuffer.rs on every check: the three expansions of
  `impl_bit!`, the `RawU8` impl, the six expansions of `impl_bytes!`) is proved equal to `EG.Model.Framebuffer`
  (`Fb.setPixel`, `Fb.drawIter`, `Fb.new`, `bufferSize`) for every width, height, `N`, buffer content and colour value;
  the sub-byte `set_pixel` for every point, the others for points whose coordinates are `i32`s (`PtI32`: `p.x as usize`
  wraps for an `Int` beyond). The raw `store` the sub-byte `set_pixel` calls is the generated `RawData::store` of
  EG/Generated/RawSrc.lean (equal to the model's `store` by Props/C11/Generated.lean).
  A colour is its raw value (`c.into()`; colour <-> raw is C12 / Props/C10/Colours.lean).
  Not translated BY tools/tr_rawsrc.py (listed in `fb_untranslated_pinned`): `buffer_size` (generic in the colour type),
  `BUFFER_SIZE`, `CHECK_N`, `as_image`, `data`, `data_mut`, `default`, `GetPixel::pixel`, `OriginDimensions::size`. The READ
  path (`buffer_size`, `BUFFER_SIZE`, `data`, `as_image`, `pixel`, `size`) is regenerated by tools/tr_imgsrc.py into
  EG/Generated/FbReadSrc.lean and proved equal to the model in Props/C10/GeneratedRead.lean, whose
  `fb_read_untranslated_pinned` lists what is left of the file (`CHECK_N`, `data_mut`, `default`).
-/
import EG.Generated.FbSrc
import EG.Props.C11.Generated
import EG.Props.C10
namespace EG.C10.Generated
open EG EG.Raw EG.Fb EG.RawSrcPrelude EG.Generated.RawSrc EG.Generated.FbSrc EG.C11.Generated

/-- The hand model's framebuffer of a generated one (depth, order, `WIDTH`, `HEIGHT` are type parameters in Rust). -/
def toFb (bits : Nat) (o : Order) (W H : Nat) (s : Framebuffer) : Fb := ⟨bits, o, W, H, s.data⟩

theorem buffer_size_bpp_src_eq_model (w h b : Nat) : buffer_size_bpp w h b = bufferSize w h b := rfl

theorem Framebuffer_new_src_eq_model (bits : Nat) (o : Order) (W H N : Nat) :
    toFb bits o W H (Framebuffer_new W H N) = Fb.new bits o W H N := rfl

/-! The ten generated `set_pixel` are one shape (`guarded`): both coordinates pass `usize::try_from`, the point lies inside
`WIDTH x HEIGHT`, and then `self.data` is replaced; they differ in the new data. The cores below are stated about
`guarded` and applied to the generated functions as terms: that a generated body is the `guarded` instance shown is
definitional unfolding, checked at that point. -/

def guarded (W H : Nat) (self : Framebuffer) (p : Pt) (upd : Nat → Nat → List Nat) : Framebuffer :=
  match (usize_try_from_i32 (Point_x p), usize_try_from_i32 (Point_y p)) with
  | (Result.ok x, Result.ok y) =>
    if bool_and (usize_lt x W) (usize_lt y H) then { self with data := upd x y } else self
  | _ => self

theorem guarded_eq (W H : Nat) (s : Framebuffer) (p : Pt) (upd : Nat → Nat → List Nat) :
    guarded W H s p upd =
      if 0 ≤ p.x ∧ 0 ≤ p.y ∧ p.x.toNat < W ∧ p.y.toNat < H then ⟨upd p.x.toNat p.y.toNat⟩ else s := by
  unfold guarded usize_try_from_i32 Point_x Point_y bool_and usize_lt
  by_cases hx : 0 ≤ p.x
  · by_cases hy : 0 ≤ p.y
    · by_cases hw : p.x.toNat < W
      · by_cases hh : p.y.toNat < H
        · simp only [hx, hy, hw, hh, and_self, decide_true, Bool.and_self, ↓reduceIte]
        · simp only [hx, hy, hw, hh, and_false, decide_false, Bool.and_false, Bool.false_eq_true, ↓reduceIte]
      · simp only [hx, hy, hw, and_false, false_and, decide_false, Bool.false_and, Bool.false_eq_true, ↓reduceIte]
    · simp only [hx, hy, and_false, false_and, ↓reduceIte]
  · simp only [hx, false_and, ↓reduceIte]

theorem toFb_guarded (bits : Nat) (o : Order) (W H : Nat) (s : Framebuffer) (p : Pt) (c : Nat)
    (upd : Nat → Nat → List Nat)
    (h : (toFb bits o W H s).inside p →
      (toFb bits o W H s).setPixel p c = { toFb bits o W H s with data := upd p.x.toNat p.y.toNat }) :
    toFb bits o W H (guarded W H s p upd) = (toFb bits o W H s).setPixel p c := by
  rw [guarded_eq]
  by_cases hp : 0 ≤ p.x ∧ 0 ≤ p.y ∧ p.x.toNat < W ∧ p.y.toNat < H
  · rw [if_pos hp, h hp]
    rfl
  · rw [if_neg hp, setPixel_outside (toFb bits o W H s) c hp]

/-- `impl_bit!`: the data after the raw `store` at index `bytes_per_row * pixels_per_byte * y + x`. -/
theorem set_pixel_bit_core {bits : Nat} (h8 : bits < 8) (BO : DataOrderTy) (W H : Nat) (s : Framebuffer) (p : Pt)
    (c : Nat) (st : List Nat → Nat → Raw.StoreRes) (hst : ∀ d i, st d i = store bits (ord BO) c d i) :
    toFb bits (ord BO) W H
        (guarded W H s p (fun x y => (st s.data ((W * bits + 7) / 8 * (8 / bits) * y + x)).2)) =
      (toFb bits (ord BO) W H s).setPixel p c := by
  apply toFb_guarded
  intro hp
  rw [setPixel_arms _ c hp, hst]
  congr 1
  exact if_pos h8

theorem set_pixel_bits_src_eq_model (BO : DataOrderTy) (W H N : Nat) (s : Framebuffer) (p : Pt) (c : Nat) :
    toFb 1 (ord BO) W H (Framebuffer_RawU1_set_pixel BO W H N s p c) = (toFb 1 (ord BO) W H s).setPixel p c ∧
    toFb 2 (ord BO) W H (Framebuffer_RawU2_set_pixel BO W H N s p c) = (toFb 2 (ord BO) W H s).setPixel p c ∧
    toFb 4 (ord BO) W H (Framebuffer_RawU4_set_pixel BO W H N s p c) = (toFb 4 (ord BO) W H s).setPixel p c :=
  ⟨set_pixel_bit_core (bits := 1) (by decide) BO W H s p c (RawU1_RawData_store BO c)
      (fun d i => (store_bits_src_eq_model BO c d i).1),
    set_pixel_bit_core (bits := 2) (by decide) BO W H s p c (RawU2_RawData_store BO c)
      (fun d i => (store_bits_src_eq_model BO c d i).2.1),
    set_pixel_bit_core (bits := 4) (by decide) BO W H s p c (RawU4_RawData_store BO c)
      (fun d i => (store_bits_src_eq_model BO c d i).2.2)⟩

/-- The coordinates of a `Point` are `i32`s (the bound `Int` lacks; only the upper one matters: `p.x as usize`
after `usize::try_from(p.x)` succeeded is `p.x` itself for an `i32`, but would wrap for an `Int` above 2^64). -/
def PtI32 (p : Pt) : Prop := p.x < 2147483648 ∧ p.y < 2147483648
instance (p : Pt) : Decidable (PtI32 p) := by unfold PtI32; exact inferInstance
example : PtI32 ⟨5, -3⟩ := by decide

theorem i32_as_usize_eq {x : Int} (h0 : 0 ≤ x) (h : x < 2147483648) : i32_as_usize x = x.toNat := by
  unfold i32_as_usize
  omega

set_option linter.unusedSimpArgs false in -- the source may index with the `x`, `y` of `try_from` or with the re-cast `p.x as usize`
theorem set_pixel_u8_src_eq_model (o : Order) (W H N : Nat) (s : Framebuffer) (p : Pt) (c : Nat) (hp : PtI32 p) :
    toFb 8 o W H (Framebuffer_RawU8_set_pixel W H N s p c) = (toFb 8 o W H s).setPixel p c := by
  -- the new data as a function of the two coordinates is read off the generated body by unification
  apply toFb_guarded 8 o W H s p c
  intro hin
  rw [setPixel_arms _ c hin]
  simp only [i32_as_usize_eq hin.1 hp.1, i32_as_usize_eq hin.2.1 hp.2]
  rfl

/-- `impl_bytes!`: the encoded value spliced in at byte `(y * WIDTH + x) * BYTES_PER_PIXEL`. -/
theorem set_pixel_bytes_core {bits : Nat} (h8 : 8 < bits) (o : Order) (W H : Nat) (s : Framebuffer) (p : Pt) (c : Nat)
    (hp : PtI32 p) (enc : Nat → List Nat) (henc : enc c = encodeBytes o (bits / 8) c) :
    toFb bits o W H
        (guarded W H s p (fun _ _ =>
          array_range_copy_from_slice s.data ((i32_as_usize p.y * W + i32_as_usize p.x) * (bits / 8))
            ((i32_as_usize p.y * W + i32_as_usize p.x) * (bits / 8) + bits / 8) (enc c))) =
      (toFb bits o W H s).setPixel p c := by
  apply toFb_guarded
  intro hin
  rw [setPixel_arms _ c hin, i32_as_usize_eq hin.1 hp.1, i32_as_usize_eq hin.2.1 hp.2, henc]
  congr 1
  have hsplice : ∀ a, splice s.data a (encodeBytes o (bits / 8) c) =
      array_range_copy_from_slice s.data a (a + bits / 8) (encodeBytes o (bits / 8) c) := by
    intro a
    unfold splice
    rw [encodeBytes_length]
  have hlt : ¬ bits < 8 := by omega
  have hne : ¬ bits = 8 := by omega
  exact ((if_neg hlt).trans (if_neg hne)).trans (hsplice _)

theorem set_pixel_bytes_src_eq_model (W H N : Nat) (s : Framebuffer) (p : Pt) (c : Nat) (hp : PtI32 p) :
    toFb 16 .le W H (Framebuffer_RawU16_LittleEndianMsb0_set_pixel W H N s p c) = (toFb 16 .le W H s).setPixel p c ∧
    toFb 16 .be W H (Framebuffer_RawU16_BigEndianLsb0_set_pixel W H N s p c) = (toFb 16 .be W H s).setPixel p c ∧
    toFb 24 .le W H (Framebuffer_RawU24_LittleEndianMsb0_set_pixel W H N s p c) = (toFb 24 .le W H s).setPixel p c ∧
    toFb 24 .be W H (Framebuffer_RawU24_BigEndianLsb0_set_pixel W H N s p c) = (toFb 24 .be W H s).setPixel p c ∧
    toFb 32 .le W H (Framebuffer_RawU32_LittleEndianMsb0_set_pixel W H N s p c) = (toFb 32 .le W H s).setPixel p c ∧
    toFb 32 .be W H (Framebuffer_RawU32_BigEndianLsb0_set_pixel W H N s p c) = (toFb 32 .be W H s).setPixel p c := by
  obtain ⟨l16, b16, l24, b24, l32, b32⟩ := to_bytes_src_eq_model c
  exact ⟨set_pixel_bytes_core (bits := 16) (by decide) .le W H s p c hp RawU16_ToBytes_to_le_bytes l16,
    set_pixel_bytes_core (bits := 16) (by decide) .be W H s p c hp RawU16_ToBytes_to_be_bytes b16,
    set_pixel_bytes_core (bits := 24) (by decide) .le W H s p c hp RawU24_ToBytes_to_le_bytes l24,
    set_pixel_bytes_core (bits := 24) (by decide) .be W H s p c hp RawU24_ToBytes_to_be_bytes b24,
    set_pixel_bytes_core (bits := 32) (by decide) .le W H s p c hp RawU32_ToBytes_to_le_bytes l32,
    set_pixel_bytes_core (bits := 32) (by decide) .be W H s p c hp RawU32_ToBytes_to_be_bytes b32⟩

/-- `for Pixel(p, c) in pixels { self.set_pixel(p, c); }` is a left fold of `set_pixel`. -/
theorem draw_iter_core (bits : Nat) (o : Order) (W H : Nat) (setp : Framebuffer → Pt → Nat → Framebuffer)
    (px : List (Pt × Nat)) (s : Framebuffer)
    (h : ∀ s p c, (p, c) ∈ px → toFb bits o W H (setp s p c) = (toFb bits o W H s).setPixel p c) :
    toFb bits o W H (for_loop px s (fun self (p, c) => setp self p c)) = (toFb bits o W H s).drawIter px := by
  induction px generalizing s with
  | nil => rfl
  | cons w t ih =>
    show toFb bits o W H (for_loop t (setp s w.1 w.2) _) = ((toFb bits o W H s).setPixel w.1 w.2).drawIter t
    rw [ih _ (fun s p c hm => h s p c (List.mem_cons_of_mem _ hm)), h s w.1 w.2 List.mem_cons_self]

/-- The `i32` bound of the points is needed by the `RawU8` arm only. -/
theorem draw_iter_src_eq_model (BO : DataOrderTy) (o : Order) (W H N : Nat) (s : Framebuffer) (px : List (Pt × Nat))
    (hp : ∀ w ∈ px, PtI32 w.1) :
    toFb 1 (ord BO) W H (Framebuffer_RawU1_DrawTarget_draw_iter BO W H N s px).2 = (toFb 1 (ord BO) W H s).drawIter px ∧
    toFb 2 (ord BO) W H (Framebuffer_RawU2_DrawTarget_draw_iter BO W H N s px).2 = (toFb 2 (ord BO) W H s).drawIter px ∧
    toFb 4 (ord BO) W H (Framebuffer_RawU4_DrawTarget_draw_iter BO W H N s px).2 = (toFb 4 (ord BO) W H s).drawIter px ∧
    toFb 8 o W H (Framebuffer_RawU8_DrawTarget_draw_iter W H N s px).2 = (toFb 8 o W H s).drawIter px ∧
    (Framebuffer_RawU1_DrawTarget_draw_iter BO W H N s px).1 = .ok () ∧
    (Framebuffer_RawU8_DrawTarget_draw_iter W H N s px).1 = .ok () :=
  ⟨draw_iter_core 1 (ord BO) W H (Framebuffer_RawU1_set_pixel BO W H N) px s
      (fun s p c _ => (set_pixel_bits_src_eq_model BO W H N s p c).1),
    draw_iter_core 2 (ord BO) W H (Framebuffer_RawU2_set_pixel BO W H N) px s
      (fun s p c _ => (set_pixel_bits_src_eq_model BO W H N s p c).2.1),
    draw_iter_core 4 (ord BO) W H (Framebuffer_RawU4_set_pixel BO W H N) px s
      (fun s p c _ => (set_pixel_bits_src_eq_model BO W H N s p c).2.2),
    draw_iter_core 8 o W H (Framebuffer_RawU8_set_pixel W H N) px s
      (fun s p c hm => set_pixel_u8_src_eq_model o W H N s p c (hp (p, c) hm)),
    rfl, rfl⟩
example : ∀ w ∈ [((⟨1, 2⟩ : Pt), 3), (⟨-1, 0⟩, 1)], PtI32 w.1 := by decide

theorem draw_iter_bytes_src_eq_model (W H N : Nat) (s : Framebuffer) (px : List (Pt × Nat)) (hp : ∀ w ∈ px, PtI32 w.1) :
    toFb 16 .le W H (Framebuffer_RawU16_LittleEndianMsb0_DrawTarget_draw_iter W H N s px).2 = (toFb 16 .le W H s).drawIter px ∧
    toFb 16 .be W H (Framebuffer_RawU16_BigEndianLsb0_DrawTarget_draw_iter W H N s px).2 = (toFb 16 .be W H s).drawIter px ∧
    toFb 24 .le W H (Framebuffer_RawU24_LittleEndianMsb0_DrawTarget_draw_iter W H N s px).2 = (toFb 24 .le W H s).drawIter px ∧
    toFb 24 .be W H (Framebuffer_RawU24_BigEndianLsb0_DrawTarget_draw_iter W H N s px).2 = (toFb 24 .be W H s).drawIter px ∧
    toFb 32 .le W H (Framebuffer_RawU32_LittleEndianMsb0_DrawTarget_draw_iter W H N s px).2 = (toFb 32 .le W H s).drawIter px ∧
    toFb 32 .be W H (Framebuffer_RawU32_BigEndianLsb0_DrawTarget_draw_iter W H N s px).2 = (toFb 32 .be W H s).drawIter px :=
  ⟨draw_iter_core 16 .le W H (Framebuffer_RawU16_LittleEndianMsb0_set_pixel W H N) px s
      (fun s p c hm => (set_pixel_bytes_src_eq_model W H N s p c (hp (p, c) hm)).1),
    draw_iter_core 16 .be W H (Framebuffer_RawU16_BigEndianLsb0_set_pixel W H N) px s
      (fun s p c hm => (set_pixel_bytes_src_eq_model W H N s p c (hp (p, c) hm)).2.1),
    draw_iter_core 24 .le W H (Framebuffer_RawU24_LittleEndianMsb0_set_pixel W H N) px s
      (fun s p c hm => (set_pixel_bytes_src_eq_model W H N s p c (hp (p, c) hm)).2.2.1),
    draw_iter_core 24 .be W H (Framebuffer_RawU24_BigEndianLsb0_set_pixel W H N) px s
      (fun s p c hm => (set_pixel_bytes_src_eq_model W H N s p c (hp (p, c) hm)).2.2.2.1),
    draw_iter_core 32 .le W H (Framebuffer_RawU32_LittleEndianMsb0_set_pixel W H N) px s
      (fun s p c hm => (set_pixel_bytes_src_eq_model W H N s p c (hp (p, c) hm)).2.2.2.2.1),
    draw_iter_core 32 .be W H (Framebuffer_RawU32_BigEndianLsb0_set_pixel W H N) px s
      (fun s p c hm => (set_pixel_bytes_src_eq_model W H N s p c (hp (p, c) hm)).2.2.2.2.2)⟩

/-- get/set with the REGENERATED `set_pixel` as the writer (shown for `RawU1`; reader = the model's `pixel`; the regenerated
reader is tied to it in GeneratedRead.lean: `Framebuffer_pixel_src_eq_model`, `src_pixel_after_set_pixel_bits`): after `set_pixel(p, c)`, `pixel(q)` is `c`
at `q = p` inside the area and what it was everywhere else. -/
theorem src_get_set_bits (BO : DataOrderTy) (W H N : Nat) (s : Framebuffer) (p q : Pt) {c : Nat}
    (hw : (toFb 1 (ord BO) W H s).Wf) (hc : c < 2 ^ 1) :
    (toFb 1 (ord BO) W H (Framebuffer_RawU1_set_pixel BO W H N s p c)).pixel q =
      if q = p ∧ (toFb 1 (ord BO) W H s).inside p then some c else (toFb 1 (ord BO) W H s).pixel q := by
  rw [(set_pixel_bits_src_eq_model BO W H N s p c).1]
  exact EG.C10.get_set _ hw p hc q

/-- ... and for the multi-byte writer (one instance: RawU16, big endian). -/
theorem src_get_set_u16_be (W H N : Nat) (s : Framebuffer) (p q : Pt) {c : Nat} (hp : PtI32 p)
    (hw : (toFb 16 .be W H s).Wf) (hc : c < 2 ^ 16) :
    (toFb 16 .be W H (Framebuffer_RawU16_BigEndianLsb0_set_pixel W H N s p c)).pixel q =
      if q = p ∧ (toFb 16 .be W H s).inside p then some c else (toFb 16 .be W H s).pixel q := by
  rw [(set_pixel_bytes_src_eq_model W H N s p c hp).2.1]
  exact EG.C10.get_set _ hw p hc q
example : (toFb 1 .le 9 2 (Framebuffer_new 9 2 4)).Wf :=
  ⟨by decide, by intro b hb; simp [toFb, Framebuffer_new, array_repeat] at hb; omega, by decide, by decide⟩

/-- What the translator left out of src/framebuffer.rs is exactly this (the read path and the compile-time size
check); an added function or override shows up here. -/
theorem fb_untranslated_pinned :
    EG.Generated.FbSrc.untranslated =
      [("free", ["buffer_size"]),
       ("impl Framebuffer", ["BUFFER_SIZE", "CHECK_N", "as_image", "data", "data_mut"]),
       ("impl Default for Framebuffer", ["default"]),
       ("impl GetPixel for Framebuffer", ["pixel"]),
       ("impl OriginDimensions for Framebuffer", ["size"])] := rfl

end EG.C10.Generated
