/-
  C10 / colours — identifying a colour with its raw value (what the C10 model does: `set_pixel` takes
  and `pixel` returns raw values `< 2^bits`) loses nothing.

  Glue between the C10 model (`EG.Model.Framebuffer`) and the C12 colour model (`EG.Model.Color` over
  the generated table `EG.Generated.colorTable` of EVERY built-in colour type). The real
  `Framebuffer<C, ..>::set_pixel(p, c)` stores `c.into()` (`toRaw c`), `pixel(p)` returns
  `C::from(raw)` (`fromRaw raw`) of the stored raw value. With C12's `into_fits` (the raw value fits the
  depth, so the C10 theorems apply to it) and `raw_roundtrip` (`fromRaw (toRaw c) = c` for every colour
  value `c`, also of the types with unused raw bits):

    * get / set in COLOURS: after `set_pixel(p, c)`, `pixel(q)` is the colour `c` at `q = p` inside and
      the old colour elsewhere;
    * histories in COLOURS: after any sequence of colour writes on a fresh framebuffer `pixel(q)` is the
      colour most recently written to `q`, the colour of raw value 0 if `q` was never written.

  Raw values that do not fit a type's used bits can reach a framebuffer only through `data_mut` (a
  colour's own raw value always fits); reading them gives the colour of the masked value
  (`C09.Colours.colour_of_masked`, `same_colour_iff`).
-/
import EG.Props.C10
import EG.Props.C12
import EG.Lemmas.Target
namespace EG.C10.Colours
open EG EG.Raw EG.Fb EG.Generated EG.ColorSpec

/-- `c.into()` is a raw value the C10 theorems accept (`c < 2^bits`, `ColorsOk`). -/
theorem into_is_model_colour : ∀ s ∈ colorTable, ∀ (fb : Fb), fb.bits = s.rawBpp →
    ∀ c, s.Valid c → s.toRaw c < 2 ^ fb.bits := by
  intro s hs fb hb c hc
  rw [hb]; exact C12.into_fits s hs c hc

/-- **get / set in colours**, every built-in colour type: after `set_pixel(p, c)` the colour read at
`q` is `c` if `q = p` is inside, and the colour that was there before otherwise. -/
theorem colour_get_set : ∀ s ∈ colorTable, ∀ (fb : Fb), fb.Wf → fb.bits = s.rawBpp →
    ∀ c, s.Valid c → ∀ p q,
      ((fb.setPixel p (s.toRaw c)).pixel q).map s.fromRaw =
        if q = p ∧ fb.inside p then some c else (fb.pixel q).map s.fromRaw := by
  intro s hs fb hw hb c hc p q
  rw [get_set fb hw p (into_is_model_colour s hs fb hb c hc) q]
  split
  · rw [Option.map_some, C12.raw_roundtrip s hs c hc]
  · rfl
example : ∃ s ∈ colorTable, s.name = "Rgb555" ∧ (Fb.new 16 .be 5 3 33).Wf ∧
    (Fb.new 16 .be 5 3 33).bits = s.rawBpp ∧ s.Valid 0x7C1F := by
  obtain ⟨s, hs, h1, h2, h3⟩ : ∃ s ∈ colorTable, s.name = "Rgb555" ∧ (Fb.new 16 .be 5 3 33).bits = s.rawBpp
      ∧ s.Valid 0x7C1F := by decide
  exact ⟨s, hs, h1, new_wf (bits := 16) (by decide) .be 5 3 33 (by decide) (by unfold usizeMax; omega), h2, h3⟩

/-- **Histories in colours**, every built-in colour type: after ANY sequence of colour writes on a fresh
framebuffer (each stored as `c.into()`), the colour read at `q` is the colour most recently written to
`q`, the colour with raw value 0 if `q` was never written, and `None` outside WIDTH x HEIGHT. -/
theorem colour_history : ∀ s ∈ colorTable, ∀ (o : Order) (w h n : Nat),
    validBits s.rawBpp = true → bufferSize w h s.rawBpp ≤ n → n * 8 ≤ usizeMax →
    ∀ (cw : Writes), (∀ x ∈ cw, s.Valid x.2) → ∀ q,
      (((Fb.new s.rawBpp o w h n).drawIter (cw.map (fun x => (x.1, s.toRaw x.2)))).pixel q).map s.fromRaw =
        if (Fb.new s.rawBpp o w h n).inside q then some (((PMap.empty.apply cw) q).getD (s.fromRaw 0))
        else none := by
  intro s hs o w h n hb hn hf cw hv q
  have hc : ColorsOk s.rawBpp (cw.map (fun x => (x.1, s.toRaw x.2))) := by
    intro x hx
    rw [List.mem_map] at hx
    obtain ⟨y, hy, rfl⟩ := hx
    exact C12.into_fits s hs y.2 (hv y hy)
  rw [history_refines_map hb o w h n hn hf _ hc q]
  split
  · rw [Option.map_some, Tgt.PMap.empty_apply, Tgt.PMap.empty_apply, Tgt.lastWrite_map_color]
    cases hl : lastWrite cw q with
    | none => rfl
    | some c =>
      simp only [Option.map_some, Option.getD_some]
      rw [C12.raw_roundtrip s hs c (hv _ (Glue2.lastWrite_mem cw q c hl))]
  · rfl
example : ∃ s ∈ colorTable, s.name = "Gray4" ∧ validBits s.rawBpp = true ∧
    bufferSize 5 3 s.rawBpp ≤ 9 ∧ ∀ x ∈ ([(⟨4, 1⟩, 3), (⟨7, 7⟩, 1), (⟨4, 1⟩, 15)] : Writes), s.Valid x.2 := by
  decide

/-- The raw types of all built-in colour types are among the seven depths the framebuffer model
covers. -/
theorem colour_depths_valid : ∀ s ∈ colorTable, validBits s.rawBpp = true := by decide

-- [V] that the real `Framebuffer::set_pixel` / `pixel` apply exactly `c.into()` / `C::from(raw)` around the raw store / load (Rust-level, one call each) and that these impls are the bodies C12 models (C12's tie): carried by correspondence + oracle only
end EG.C10.Colours
