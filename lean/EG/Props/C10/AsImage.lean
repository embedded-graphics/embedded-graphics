/-
  C10 / as_image — drawing `fb.as_image()` reproduces the framebuffer's content.

  Proved by COMBINING the two separately built models:
    * C10 (`EG.Model.Framebuffer`): `as_image()` is the image over the first BUFFER_SIZE bytes,
      `Framebuffer::pixel` after any write history is the last colour written (`history_refines_map`);
    * C09 (`EG.Model.ImageRaw`): `Image::new(&raw, o).draw(target)` sets `o + p` to `raw.pixel(p)`
      and touches nothing else (`EG.C09.draw_exact`, through `ContiguousPixels` / `fill_contiguous`).
  The glue (`EG/Lemmas/GlueFbImage.lean`) shows that the minimal image `EG.Fb.Img` of the framebuffer
  model and the C09 `ImageRaw` over the same depth / order / bytes / size are the same image: same
  length check, same `data_width`, same `pixel` function (`pixel_agree`), and that it is well formed
  (`ImageRaw.WF`).

  Quantifiers: every well-formed framebuffer (`Fb.Wf`: 7 depths, both orders, any WIDTH / HEIGHT,
  any N >= BUFFER_SIZE, any byte content), every offset `o` and every target box `B`, on the
  native-fill target and on the draw_iter-only target. The hypothesis `Rect.InRange ⟨o, W x H⟩` is
  C09's guard (the placed image box fits into `i32`; it also gives `W, H <= i32::MAX`, below which the
  `as i32` casts of `ImageRaw::pixel` do not wrap, see `EG.Glue.pixel_agree_needs_guard`).

  Colours: that the colour <-> raw conversions `C::into()` / `C::from(raw)` on the way into the
  framebuffer and out of the image lose nothing is Props/C10/Colours.lean (into the framebuffer) and
  Props/C09/Colours.lean (out of the image), both from C12's round-trip theorems.

  Not proved here:
  -- [V] that the real `Framebuffer::as_image()` hands the real `ImageRaw::draw` code the same bytes the two models share (Rust-level: `&self.data[0..BUFFER_SIZE]`): carried by correspondence (`img=` field of fb.hist) + oracle only
-/
import EG.Lemmas.GlueFbImage
import EG.Props.C09
import EG.Props.C10
namespace EG.C10.AsImage
open EG EG.Raw EG.Fb EG.Img EG.Glue

/-- The model's `as_image()` is the C09 raw image `asRaw fb` (same depth, order, first BUFFER_SIZE
bytes, WIDTH x HEIGHT), accepted by C09's `ImageRaw::new`, well formed, and with the same `pixel`
function as `Framebuffer::pixel` at EVERY point. -/
theorem as_image_is_image_raw (fb : Fb) (hw : fb.Wf) (hW : fb.width ≤ 2147483647)
    (hH : fb.height ≤ 2147483647) :
    fb.asImage.map toRaw = some (asRaw fb) ∧
      ImageRaw.new fb.bits fb.order (fb.data.take fb.bufSize) ⟨fb.width, fb.height⟩ = .ok (asRaw fb) ∧
      (asRaw fb).WF ∧ ∀ p, fb.pixel p = (asRaw fb).pixel p :=
  ⟨by rw [Fb.asImage_eq fb hw]; rfl, asRaw_eq_new fb hw, asRaw_wf fb hw hW hH, fb_pixel_eq_raw_pixel fb hw hW hH⟩

/-- The two image transcriptions have the same `pixel` function. -/
theorem pixel_agree (im : Fb.Img) (hw : im.w ≤ 2147483647) (hh : im.h ≤ 2147483647) (p : Pt) :
    im.pixel p = (toRaw im).pixel p := Glue.pixel_agree im hw hh p
example : (⟨1, .le, [0xAA, 0x80], 9, 1⟩ : Fb.Img).w ≤ 2147483647 := by decide

/-- The image `Image::new(&fb.as_image(), o)` of the model. -/
def asImageAt (fb : Fb) (o : Pt) : Image := Image.new (.raw (asRaw fb)) o

/-- **`as_image_draw_reproduces`** (native-fill target): drawing `Image::new(&fb.as_image(), o)`
on a target with box `B` leaves, at EVERY target point `q`, the framebuffer's `pixel(q - o)` if `q`
is in `B` and nothing otherwise. Since `pixel` is `None` exactly outside WIDTH x HEIGHT
(`EG.C10.pixel_none_iff_outside`), this says: `o + p` is set to `fb.pixel(p)` for every `p` of
`0..W x 0..H` (inside `B`) and nothing else is touched. -/
theorem as_image_draw_reproduces (fb : Fb) (hw : fb.Wf) (o : Pt)
    (hr : (⟨o, ⟨fb.width, fb.height⟩⟩ : Rect).InRange) (B : Rect) (q : Pt) :
    runNative B (asImageAt fb o).draw q = if B.contains q = true then fb.pixel (q - o) else none := by
  have hwf := asRaw_wf fb hw hr.w_le hr.h_le
  have hr' : (Image.new (.raw (asRaw fb)) o).boundingBox.InRange := by
    rw [Image.boundingBox_new]
    exact hr
  unfold asImageAt
  rw [Image.runNative_draw (Image.new (.raw (asRaw fb)) o) hwf hr', Image.picture_raw hwf,
    fb_pixel_eq_raw_pixel fb hw hr.w_le hr.h_le]
example : (⟨⟨-3, 4⟩, ⟨5, 3⟩⟩ : Rect).InRange := by decide

/-- The same on a target that implements `draw_iter` only (trait defaults). -/
theorem as_image_draw_reproduces_default (fb : Fb) (hw : fb.Wf) (o : Pt)
    (hr : (⟨o, ⟨fb.width, fb.height⟩⟩ : Rect).InRange) (B : Rect) (q : Pt) :
    runDefault B (asImageAt fb o).draw q = if B.contains q = true then fb.pixel (q - o) else none := by
  rw [Tgt.runDefault_eq_runNative]
  exact as_image_draw_reproduces fb hw o hr B q

/-- Point form: target point `p + o` gets exactly the value `fb.pixel(p)` for every `p` inside
WIDTH x HEIGHT whose image `p + o` lies in `B` — a `Some`: the point IS written — ... -/
theorem as_image_draw_sets (fb : Fb) (hw : fb.Wf) (o : Pt)
    (hr : (⟨o, ⟨fb.width, fb.height⟩⟩ : Rect).InRange) (B : Rect) (p : Pt) (hp : fb.inside p)
    (hb : B.contains (p + o) = true) :
    ∃ v, fb.pixel p = some v ∧ runNative B (asImageAt fb o).draw (p + o) = some v ∧
      runDefault B (asImageAt fb o).draw (p + o) = some v := by
  have h1 := as_image_draw_reproduces fb hw o hr B (p + o)
  have h2 := as_image_draw_reproduces_default fb hw o hr B (p + o)
  rw [Pt.add_sub_cancel'] at h1 h2
  simp only [hb, ↓reduceIte] at h1 h2
  cases hv : fb.pixel p with
  | none => exact absurd ((EG.C10.pixel_none_iff_outside fb hw p).mp hv) (not_not_intro hp)
  | some v => exact ⟨v, rfl, by rw [h1, hv], by rw [h2, hv]⟩
example : (Fb.new 2 .be 5 3 9).inside ⟨4, 2⟩ ∧
    (⟨⟨0, 0⟩, ⟨64, 64⟩⟩ : Rect).contains ((⟨4, 2⟩ : Pt) + ⟨7, 1⟩) = true := by decide

/-- ... and every target point that is not `p + o` for a `p` inside WIDTH x HEIGHT stays untouched. -/
theorem as_image_draw_touches_nothing_else (fb : Fb) (hw : fb.Wf) (o : Pt)
    (hr : (⟨o, ⟨fb.width, fb.height⟩⟩ : Rect).InRange) (B : Rect) (q : Pt)
    (hq : ¬ fb.inside (q - o)) :
    runNative B (asImageAt fb o).draw q = none ∧ runDefault B (asImageAt fb o).draw q = none := by
  have hn := (EG.C10.pixel_none_iff_outside fb hw (q - o)).mpr hq
  rw [as_image_draw_reproduces fb hw o hr B q, as_image_draw_reproduces_default fb hw o hr B q, hn]
  simp only [ite_self, and_self]
example : ¬ (Fb.new 2 .be 5 3 9).inside ((⟨7, 1⟩ : Pt) - ⟨7, 2⟩) := by decide

/-- **After any write history**: a fresh framebuffer (any depth / order / size / N) receives ANY
list of pixel writes `ws`; drawing its `as_image()` at `o` on an empty target with box `B` then
shows, at every target point `q` of `B` with `q - o` inside WIDTH x HEIGHT, the colour last written
to `q - o` (the zero colour if it was never written), and nothing anywhere else: the drawn picture
is the write history's last-write map, shifted by `o` and clipped to `B`. -/
theorem as_image_draw_history {bits : Nat} (hb : validBits bits = true) (od : Order) (w h n : Nat)
    (hn : bufferSize w h bits ≤ n) (hf : n * 8 ≤ usizeMax) (ws : Writes) (hc : ColorsOk bits ws)
    (o : Pt) (hr : (⟨o, ⟨w, h⟩⟩ : Rect).InRange) (B : Rect) (q : Pt) :
    runNative B (asImageAt ((Fb.new bits od w h n).drawIter ws) o).draw q =
      (if B.contains q = true ∧ (Fb.new bits od w h n).inside (q - o) then
        some (((PMap.empty.apply ws) (q - o)).getD 0) else none) ∧
    runDefault B (asImageAt ((Fb.new bits od w h n).drawIter ws) o).draw q =
      (if B.contains q = true ∧ (Fb.new bits od w h n).inside (q - o) then
        some (((PMap.empty.apply ws) (q - o)).getD 0) else none) := by
  have hw0 := new_wf hb od w h n hn hf
  have hwf : ((Fb.new bits od w h n).drawIter ws).Wf :=
    (refines_drawIter _ hw0 _ (new_refines hb od w h n hn hf) ws hc).1
  have hr' : (⟨o, ⟨((Fb.new bits od w h n).drawIter ws).width,
      ((Fb.new bits od w h n).drawIter ws).height⟩⟩ : Rect).InRange := by
    rw [drawIter_width, drawIter_height]; exact hr
  rw [as_image_draw_reproduces _ hwf o hr' B q, as_image_draw_reproduces_default _ hwf o hr' B q,
    EG.C10.history_refines_map hb od w h n hn hf ws hc (q - o)]
  -- nested `if`s over `B.contains q` and `inside (q - o)` on the left, their conjunction on the right
  by_cases hB : B.contains q = true <;> by_cases hi : (Fb.new bits od w h n).inside (q - o) <;>
    simp only [hB, hi, and_self, and_true, and_false, ↓reduceIte, Bool.false_eq_true]
example : ColorsOk 2 [(⟨4, 1⟩, 3), (⟨7, 7⟩, 1), (⟨4, 1⟩, 2)] ∧ bufferSize 5 3 2 ≤ 9 ∧
    (⟨⟨10, -2⟩, ⟨5, 3⟩⟩ : Rect).InRange := by
  refine ⟨?_, by decide, by decide⟩
  intro w hw; simp at hw; rcases hw with rfl | rfl | rfl <;> decide

/-- The same after any sequence of `DrawTarget` calls on the framebuffer (they are `set_pixel`
histories, `EG.C10.drawing_ops_are_set_pixel_histories`). -/
theorem as_image_draw_call_history {bits : Nat} (hb : validBits bits = true) (od : Order) (w h n : Nat)
    (hn : bufferSize w h bits ≤ n) (hf : n * 8 ≤ usizeMax) (calls : List Call)
    (hc : ColorsOk bits (calls.flatMap (Call.lowerDefault (Fb.new bits od w h n).bbox)))
    (o : Pt) (hr : (⟨o, ⟨w, h⟩⟩ : Rect).InRange) (B : Rect) (q : Pt) :
    runNative B (asImageAt ((Fb.new bits od w h n).run calls) o).draw q =
      (if B.contains q = true ∧ (Fb.new bits od w h n).inside (q - o) then
        some (((PMap.empty.apply
          (calls.flatMap (Call.lowerDefault (Fb.new bits od w h n).bbox))) (q - o)).getD 0)
       else none) := by
  rw [run_eq_drawIter]
  exact (as_image_draw_history hb od w h n hn hf _ hc o hr B q).1

/-- A concrete run through both models: write two pixels into a 5x3 two-bit framebuffer, draw its
image at (7,1): the written colours appear at the shifted points, zero elsewhere in the image. -/
example :
    let fb := (Fb.new 2 .be 5 3 9).drawIter [(⟨4, 1⟩, 3), (⟨0, 2⟩, 1), (⟨4, 1⟩, 2)]
    runNative ⟨⟨0, 0⟩, ⟨64, 64⟩⟩ (asImageAt fb ⟨7, 1⟩).draw ⟨11, 2⟩ = some 2 ∧
    runNative ⟨⟨0, 0⟩, ⟨64, 64⟩⟩ (asImageAt fb ⟨7, 1⟩).draw ⟨7, 3⟩ = some 1 ∧
    runNative ⟨⟨0, 0⟩, ⟨64, 64⟩⟩ (asImageAt fb ⟨7, 1⟩).draw ⟨8, 1⟩ = some 0 ∧
    runNative ⟨⟨0, 0⟩, ⟨64, 64⟩⟩ (asImageAt fb ⟨7, 1⟩).draw ⟨12, 1⟩ = none := by decide +kernel

end EG.C10.AsImage
