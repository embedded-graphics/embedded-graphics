/-
  EG.Model.ThickTriangle — styled triangles (any stroke width, alignment, fill): bounding box,
  `draw`, `pixels()`.
  Source: src/primitives/triangle/mod.rs (`bounding_box`, `area_doubled`, `sorted_clockwise`,
            `sorted_yx`, `sort_two_yx`, `scanline_intersection`, `joins`, `is_collapsed`),
          src/primitives/triangle/scanline_intersections.rs (`ScanlineIntersections`, `LineConfig`,
            `edge_intersections`, `generate_lines`),
          src/primitives/triangle/scanline_iterator.rs (`ScanlineIterator`),
          src/primitives/triangle/styled.rs (`draw_styled`, `StyledPixelsIterator`,
            `styled_bounding_box`),
          src/primitives/common/mod.rs (`PointType`, `StrokeOffset::from(StrokeAlignment)`).
  Everything is in the namespace `EG.Joins` (the fill-only / one-pixel triangle model of the `tri`
  topic has its own `Triangle`; this one carries the join code for every width).
  Colours are `Nat`s; a style is `(fill?, stroke?, width, alignment)`.
  Outer `none` = a loop bound of `Line::extents` or of `StyledPixelsIterator::next` was exceeded
  ("stuck"); it never happens: `triStyledBoundingBox_total`, `triDraw_total`, `triPixels_total`
  (EG/Lemmas/JoinsTotalTri.lean), for every triangle and style. The fuels of the drains (`toList`,
  `triPixelFuel`) are never used up either: the lists are complete (EG/Lemmas/C01ThickTri.lean).
  `ScanlineIterator::next` is NOT fused, and the model keeps that: `TriScanlines.next` returns the
  successor state together with `None` (a row of the box without any intersection gives `None`, the
  following call goes on with the row after it). `draw_styled`'s `for` loop stops at the first
  `None` (`TriScanlines.toList`); `StyledPixelsIterator::new` calls `next()` once, forgives a `None`
  (empty current line) and KEEPS the advanced iterator, `StyledPixelsIterator::next` stops at the
  first `None` it sees itself (`?`). So the two renderers differ exactly if the first call returns
  `None` and the second does not, i.e. if the first TWO rows of the styled bounding box have no
  scanline and a later row has a coloured one. EG/Lemmas/TriTopRow.lean proves that the FIRST row
  has a scanline (unless no row has one) - for `i32` vertices where the stroke is 1 px wide or a
  non-collapsed Inside stroke, for all vertices otherwise (`triFirstNoneFinal`): there the case does
  not exist.
-/
import EG.Model.ThickSegment
namespace EG
namespace Joins
open Thick (LineSide StrokeOffset)

/-- `common::PointType`. -/
inductive PointType | stroke | fill
  deriving DecidableEq, Repr

/-- `StrokeAlignment`. -/
inductive StrokeAlignment | inside | center | outside
  deriving DecidableEq, Repr

/-- `StrokeOffset::from(StrokeAlignment)`. -/
def StrokeAlignment.toOffset : StrokeAlignment → StrokeOffset
  | .inside => .right
  | .outside => .left
  | .center => .none

/-- `Triangle { vertices: [Point; 3] }`. -/
structure Tri where
  v1 : Pt
  v2 : Pt
  v3 : Pt
  deriving DecidableEq, Repr

namespace Tri

/-- `self.vertices[i % 3]`. -/
def vertex (t : Tri) (i : Nat) : Pt :=
  match i % 3 with
  | 0 => t.v1
  | 1 => t.v2
  | _ => t.v3

def vertices (t : Tri) : List Pt := [t.v1, t.v2, t.v3]

/-- `Transform::translate`. -/
def translate (t : Tri) (d : Pt) : Tri := ⟨t.v1 + d, t.v2 + d, t.v3 + d⟩

/-- `Dimensions::bounding_box`. -/
def boundingBox (t : Tri) : Rect :=
  Rect.withCorners ⟨min (min t.v1.x t.v2.x) t.v3.x, min (min t.v1.y t.v2.y) t.v3.y⟩
    ⟨max (max t.v1.x t.v2.x) t.v3.x, max (max t.v1.y t.v2.y) t.v3.y⟩

/-- `area_doubled`. -/
def areaDoubled (t : Tri) : Int :=
  -t.v2.y * t.v3.x + t.v1.y * (t.v3.x - t.v2.x) + t.v1.x * (t.v2.y - t.v3.y) + t.v2.x * t.v3.y

/-- `sort_two_yx`. -/
def sortTwoYx (p1 p2 : Pt) : Pt × Pt :=
  if p1.y < p2.y ∨ (p1.y = p2.y ∧ p1.x < p2.x) then (p1, p2) else (p2, p1)

/-- `sorted_yx`. -/
def sortedYx (t : Tri) : Tri :=
  let (y1, y2) := sortTwoYx t.v1 t.v2
  let (y1, y3) := sortTwoYx t.v3 y1
  let (y2, y3) := sortTwoYx y3 y2
  ⟨y1, y2, y3⟩

/-- `sorted_clockwise`. -/
def sortedClockwise (t : Tri) : Tri :=
  if t.areaDoubled < 0 then ⟨t.v2, t.v1, t.v3⟩
  else if t.areaDoubled > 0 then t
  else t.sortedYx

/-- `scanline_intersection`. -/
def scanlineIntersection (t : Tri) (scanlineY : Int) : Scanline :=
  let s := t.sortedYx
  let scanline := Scanline.newEmpty scanlineY
  if t.areaDoubled = 0 then bint scanline ⟨s.v1, s.v3⟩
  else bint (bint (bint scanline ⟨s.v1, s.v2⟩) ⟨s.v1, s.v3⟩) ⟨s.v2, s.v3⟩

/-- `joins`. -/
def joins (t : Tri) (strokeWidth : Nat) (strokeOffset : StrokeOffset) : Option (List LineJoin) := do
  let j1 ← LineJoin.fromPoints t.v3 t.v1 t.v2 strokeWidth strokeOffset
  let j2 ← LineJoin.fromPoints t.v1 t.v2 t.v3 strokeWidth strokeOffset
  let j3 ← LineJoin.fromPoints t.v2 t.v3 t.v1 strokeWidth strokeOffset
  pure [j1, j2, j3]

/-- The closure of `is_collapsed` for join `i`. -/
def joinCollapsed (t : Tri) (strokeWidth : Nat) (strokeOffset : StrokeOffset) (i : Nat)
    (join : LineJoin) : Option Bool :=
  if join.isDegenerate then some true
  else do
    let innerPoint := join.firstEdgeEnd.right
    let (_, opposite) ← extents ⟨t.vertex (i + 1), t.vertex (i + 2)⟩ strokeWidth strokeOffset
    pure ((LinearEquation.fromLine opposite).checkSide innerPoint .left)

/-- `is_collapsed` (`any` over the three joins; all three are evaluated here, which differs from
the short-circuiting original only in work done). -/
def isCollapsed (t : Tri) (strokeWidth : Nat) (strokeOffset : StrokeOffset) : Option Bool := do
  let js ← t.joins strokeWidth strokeOffset
  match js with
  | [j1, j2, j3] =>
    let c1 ← t.joinCollapsed strokeWidth strokeOffset 0 j1
    let c2 ← t.joinCollapsed strokeWidth strokeOffset 1 j2
    let c3 ← t.joinCollapsed strokeWidth strokeOffset 2 j3
    pure (c1 || c2 || c3)
  | _ => none

end Tri

/-- The part of `PrimitiveStyle<C>` the triangle code looks at. -/
structure TriStyle where
  fillColor : Option Nat
  strokeColor : Option Nat
  strokeWidth : Nat
  strokeAlignment : StrokeAlignment
  deriving DecidableEq, Repr

namespace TriStyle
/-- `effective_stroke_color`. -/
def effectiveStrokeColor (s : TriStyle) : Option Nat := if s.strokeWidth > 0 then s.strokeColor else none
/-- `is_transparent`. -/
def isTransparent (s : TriStyle) : Bool :=
  (s.strokeColor.isNone || s.strokeWidth == 0) && s.fillColor.isNone
end TriStyle

/-- `StyledDimensions::styled_bounding_box` of a triangle. -/
def triStyledBoundingBox (t : Tri) (style : TriStyle) : Option Rect :=
  if style.strokeWidth < 2 ∨ style.strokeAlignment = .inside then some t.boundingBox
  else do
    let tc := t.sortedClockwise
    let it ← ClosedThickSegmentIter.new tc.vertices style.strokeWidth style.strokeAlignment.toOffset
    let segs ← it.toList
    pure (foldEdgeBoxes segs)

/-! ### `triangle::scanline_intersections::ScanlineIntersections` -/

/-- `LineConfig`. -/
structure LineConfig where
  first : Scanline
  second : Scanline
  internal : Scanline
  internalType : PointType
  deriving DecidableEq, Repr

/-- `ScanlineIntersections`. -/
structure TriIntersections where
  lines : LineConfig
  triangle : Tri
  strokeWidth : Nat
  strokeOffset : StrokeOffset
  hasFill : Bool
  isCollapsed : Bool
  deriving Repr

/-- The captured state of the `from_fn` closure of `edge_intersections`. -/
structure EdgeState where
  idx : Nat
  left : Scanline
  right : Scanline
  deriving Repr

namespace TriIntersections

/-- `ScanlineIntersections::empty`. -/
def empty : TriIntersections :=
  { lines := ⟨Scanline.newEmpty 0, Scanline.newEmpty 0, Scanline.newEmpty 0, .fill⟩
    triangle := ⟨Pt.zero, Pt.zero, Pt.zero⟩
    strokeWidth := 0, strokeOffset := .none, hasFill := false, isCollapsed := false }

/-- The `while idx < 3` loop of the `edge_intersections` closure. -/
def edgeLoop (it : TriIntersections) (scanlineY : Int) : Nat → EdgeState → Option EdgeState
  | 0, st => some st
  | fuel + 1, st =>
    if st.idx < 3 then do
      let idx := st.idx
      let t := it.triangle
      let start ← LineJoin.fromPoints (t.vertex idx) (t.vertex (idx + 1)) (t.vertex (idx + 2))
        it.strokeWidth it.strokeOffset
      let stop ← LineJoin.fromPoints (t.vertex (idx + 1)) (t.vertex (idx + 2)) (t.vertex (idx + 3))
        it.strokeWidth it.strokeOffset
      let st := { st with idx := idx + 1 }
      let scanline := (ThickSegment.mk start stop).intersection scanlineY
      if !st.left.isEmpty then
        let (extended, l) := st.left.tryExtend scanline
        if extended then edgeLoop it scanlineY fuel { st with left := l }
        else if !st.right.isEmpty then
          edgeLoop it scanlineY fuel { st with right := (st.right.tryExtend scanline).2 }
        else edgeLoop it scanlineY fuel { st with right := scanline }
      else edgeLoop it scanlineY fuel { st with left := scanline }
    else some st

/-- One call of the `from_fn` closure of `edge_intersections(scanline_y)`. -/
def edgeNext (it : TriIntersections) (scanlineY : Int) (st : EdgeState) :
    Option (Option Scanline × EdgeState) :=
  if it.strokeWidth = 0 then some (none, st)
  else do
    let st ← it.edgeLoop scanlineY 3 st
    -- Merge any overlap between final left/right results
    let (extended, l) := st.left.tryExtend st.right
    let st := if extended then { st with left := l, right := Scanline.newEmpty scanlineY } else st
    match st.left.tryTake with
    | (some r, l) => pure (some r, { st with left := l })
    | (none, _) =>
      let (r, rr) := st.right.tryTake
      pure (r, { st with right := rr })

/-- `generate_lines` (always `Some`). -/
def generateLines (it : TriIntersections) (scanlineY : Int) : Option LineConfig :=
  if it.isCollapsed then
    some { internal := it.triangle.scanlineIntersection scanlineY, internalType := .stroke
           first := Scanline.newEmpty 0, second := Scanline.newEmpty 0 }
  else do
    let st : EdgeState := ⟨0, Scanline.newEmpty scanlineY, Scanline.newEmpty scanlineY⟩
    let (first, st) ← it.edgeNext scanlineY st
    let (second, _) ← it.edgeNext scanlineY st
    let internal :=
      if it.hasFill then
        match first, second with
        | some f, some s => (⟨scanlineY, min f.xe s.xe, max f.xs s.xs⟩ : Scanline)
        | none, none => it.triangle.scanlineIntersection scanlineY
        | _, _ => Scanline.newEmpty scanlineY
      else Scanline.newEmpty scanlineY
    pure { first := first.getD (Scanline.newEmpty scanlineY)
           second := second.getD (Scanline.newEmpty scanlineY)
           internal, internalType := .fill }

/-- `reset_with_new_scanline`. -/
def resetWithNewScanline (it : TriIntersections) (scanlineY : Int) : Option TriIntersections := do
  let lines ← it.generateLines scanlineY
  pure { it with lines }

/-- `ScanlineIntersections::new` (the triangle passed in is already sorted clockwise). -/
def new (triangle : Tri) (strokeWidth : Nat) (strokeOffset : StrokeOffset) (hasFill : Bool)
    (scanlineY : Int) : Option TriIntersections := do
  let c ← triangle.isCollapsed strokeWidth strokeOffset
  let isCollapsed := c && strokeOffset == .right
  let self_ : TriIntersections := { empty with hasFill, triangle, strokeOffset, strokeWidth, isCollapsed }
  self_.resetWithNewScanline scanlineY

/-- `Iterator::next`. -/
def next (it : TriIntersections) : Option ((Scanline × PointType) × TriIntersections) :=
  match it.lines.internal.tryTake with
  | (some internal, rest) =>
    some ((internal, it.lines.internalType), { it with lines := { it.lines with internal := rest } })
  | (none, _) =>
    match it.lines.first.tryTake with
    | (some first, rest) => some ((first, .stroke), { it with lines := { it.lines with first := rest } })
    | (none, _) =>
      match it.lines.second.tryTake with
      | (some second, rest) =>
        some ((second, .stroke), { it with lines := { it.lines with second := rest } })
      | (none, _) => none

end TriIntersections

/-! ### `triangle::scanline_iterator::ScanlineIterator` -/

/-- `ScanlineIterator { rows, scanline_y, intersections }`. -/
structure TriScanlines where
  rowsStart : Int
  rowsEnd : Int
  scanlineY : Int
  intersections : TriIntersections
  deriving Repr

namespace TriScanlines

def empty : TriScanlines := ⟨0, 0, 0, TriIntersections.empty⟩

/-- `ScanlineIterator::new`. -/
def new (triangle : Tri) (strokeWidth : Nat) (strokeOffset : StrokeOffset) (hasFill : Bool)
    (boundingBox : Rect) : Option TriScanlines :=
  let triangle := triangle.sortedClockwise
  let rowsStart := boundingBox.tl.y
  let rowsEnd := boundingBox.rowsEnd
  if rowsStart < rowsEnd then do
    let intersections ← TriIntersections.new triangle strokeWidth strokeOffset hasFill rowsStart
    pure ⟨rowsStart + 1, rowsEnd, rowsStart, intersections⟩
  else some empty

/-- `Iterator::next`: `self.intersections.next().or_else(|| { self.scanline_y = self.rows.next()?;
reset; self.intersections.next() })`. NOT fused — the state after the call is returned with `None`
as well:
* the current row still has a scanline: that scanline, same row;
* the current row is used up and `rows` is exhausted: `None`, state unchanged (`?` leaves before any
  assignment; `ScanlineIntersections::next` changes nothing when it returns `None`);
* otherwise ONE row further (`scanline_y`, `reset_with_new_scanline`): the first scanline of that row —
  or `None` if that row has no intersection at all, with the iterator now standing ON that row, so
  that the following call moves on to the row after it. -/
def next (it : TriScanlines) : Option (Option (Scanline × PointType) × TriScanlines) :=
  match it.intersections.next with
  | some (r, ints) => some (some r, { it with intersections := ints })
  | none =>
    if it.rowsStart < it.rowsEnd then do
      let y := it.rowsStart
      let ints ← it.intersections.resetWithNewScanline y
      let it := { it with rowsStart := y + 1, scanlineY := y, intersections := ints }
      match ints.next with
      | some (r, ints) => pure (some r, { it with intersections := ints })
      | none => pure (none, it)
    else some (none, it)

/-- One `next()` call as seen by a caller that STOPS at the first `None` (a `for` loop; the `?` of
`StyledPixelsIterator::next`): the successor state is of interest only with `Some`. -/
def nextLoop (it : TriScanlines) : Option (Option ((Scanline × PointType) × TriScanlines)) :=
  match it.next with
  | none => none
  | some (none, _) => some none
  | some (some r, it') => some (some (r, it'))

/-- What a `for` loop sees (the prefix up to the first `None`). -/
def toListFuel : Nat → TriScanlines → Option (List (Scanline × PointType))
  | 0, _ => some []
  | fuel + 1, it => do
    match ← it.nextLoop with
    | none => pure []
    | some (r, it') =>
      let rest ← toListFuel fuel it'
      pure (r :: rest)

/-- At most three scanlines per row. -/
def toList (it : TriScanlines) : Option (List (Scanline × PointType)) :=
  it.toListFuel (3 * ((it.rowsEnd - it.rowsStart).toNat + 1) + 1)

end TriScanlines

/-- The `ScanlineIterator` that `draw_styled` and `StyledPixelsIterator::new` construct. -/
def triScanlines (t : Tri) (style : TriStyle) : Option TriScanlines := do
  let bb ← triStyledBoundingBox t style
  TriScanlines.new t style.strokeWidth style.strokeAlignment.toOffset style.fillColor.isSome bb

/-- The colour of a scanline of the given type. -/
def TriStyle.colorOf (style : TriStyle) : PointType → Option Nat
  | .stroke => style.effectiveStrokeColor
  | .fill => style.fillColor

/-- `draw_styled`: the `fill_solid` calls (rectangle, colour) in order. -/
def triDraw (t : Tri) (style : TriStyle) : Option (List (Rect × Nat)) :=
  if style.isTransparent then some []
  else do
    let it ← triScanlines t style
    let lines ← it.toList
    pure (lines.filterMap (fun (line, kind) =>
      match style.colorOf kind with
      | some color =>
        let rect := line.toRectangle
        if !rect.isZeroSized then some (rect, color) else none
      | none => none))

/-! ### `triangle::styled::StyledPixelsIterator` -/

structure TriPixels where
  linesIter : TriScanlines
  currentLine : Scanline
  currentColor : Option Nat
  fillColor : Option Nat
  strokeColor : Option Nat
  deriving Repr

namespace TriPixels

/-- `StyledPixelsIterator::new`: `lines_iter.next().unwrap_or_else(|| (Scanline::new_empty(0),
PointType::Stroke))` — the iterator is kept as that call left it, also when it returned `None`. -/
def new (t : Tri) (style : TriStyle) : Option TriPixels := do
  let linesIter ← triScanlines t style
  let (first, linesIter) ← linesIter.next
  let (currentLine, pointType) := first.getD (Scanline.newEmpty 0, PointType.stroke)
  pure { linesIter, currentLine, currentColor := style.colorOf pointType
         fillColor := style.fillColor, strokeColor := style.effectiveStrokeColor }

/-- `Iterator::next`: the `loop` (one iteration per scanline; `fuel` bounds it);
`self.lines_iter.next()?` ends the call with `None` at the first `None` of the scanline iterator
(`nextLoop`). Like every pixel iterator of the model this is the view of `draw_iter` / `collect`,
which stop at the first `None`: no successor state is given with `None`. -/
def nextFuel : Nat → TriPixels → Option (Option ((Pt × Nat) × TriPixels))
  | 0, _ => none
  | fuel + 1, it =>
    let hit : Option ((Pt × Nat) × TriPixels) :=
      match it.currentColor with
      | some color =>
        match it.currentLine.next with
        | some (p, l) => some ((p, color), { it with currentLine := l })
        | none => none
      | none => none
    match hit with
    | some r => some (some r)
    | none =>
      match it.linesIter.nextLoop with
      | none => none
      | some none => some none
      | some (some ((nextLine, nextType), li)) =>
        nextFuel fuel { it with
          linesIter := li, currentLine := nextLine
          currentColor := match nextType with
            | .stroke => it.strokeColor
            | .fill => it.fillColor }

def next (it : TriPixels) : Option (Option ((Pt × Nat) × TriPixels)) :=
  it.nextFuel (3 * ((it.linesIter.rowsEnd - it.linesIter.rowsStart).toNat + 1) + 2)

def toListFuel : Nat → TriPixels → Option (List (Pt × Nat))
  | 0, _ => some []
  | fuel + 1, it => do
    match ← it.next with
    | none => pure []
    | some (p, it') =>
      let rest ← toListFuel fuel it'
      pure (p :: rest)

end TriPixels

/-- Fuel for draining `pixels()` in the model (one unit per pixel, one to see the final `None`): the
total length of the scanlines a `for` loop over a fresh `ScanlineIterator` sees. Every pixel of
`pixels()` is a point of one of those scanlines, so the fuel is never used up
(`C01Thick.triPixels_eq_run`, EG/Lemmas/C01ThickTri.lean: `triPixels` is the COMPLETE pixel run). -/
def triPixelFuel (t : Tri) (style : TriStyle) : Option Nat := do
  let li ← triScanlines t style
  let lines ← li.toList
  pure ((lines.map (fun x => (x.1.xe - x.1.xs).toNat)).sum + 1)

/-- `triangle.into_styled(style).pixels()` in emission order (as `collect` / `draw_iter` see it: up to
the first `None`). -/
def triPixels (t : Tri) (style : TriStyle) : Option (List (Pt × Nat)) := do
  let fuel ← triPixelFuel t style
  let it ← TriPixels.new t style
  it.toListFuel fuel

end Joins
end EG
