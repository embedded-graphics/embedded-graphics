/-
  EG.Model.PrimStyle — `primitives::PrimitiveStyle` (solid strokes), arm for arm.
  Source: src/primitives/primitive_style.rs
  The style record of the circle and ellipse models; the other styled shapes use EG.Model.Style, a
  second transcription of the same Rust type (`PrimStyle.toStyle`, EG/Lemmas/Style.lean).
  `StrokeStyle::Dotted` is outside every property (trusted base): the model has solid strokes only,
  so `fill_area` always shrinks by the inside stroke width.
-/
import EG.Model.Style
namespace EG

-- `StrokeAlignment` is shared with `EG.Model.Style` (same enum, defined once there).

structure PrimStyle where
  fillColor : Option Color
  strokeColor : Option Color
  strokeWidth : Nat
  strokeAlignment : StrokeAlignment
  deriving DecidableEq, Repr, Inhabited

namespace PrimStyle

/-- `outside_stroke_width` -/
def outsideStrokeWidth (s : PrimStyle) : Nat :=
  match s.strokeAlignment with
  | .inside => 0
  | .center => s.strokeWidth / 2
  | .outside => s.strokeWidth

/-- `inside_stroke_width` (`stroke_width.saturating_add(1) / 2` for `Center`) -/
def insideStrokeWidth (s : PrimStyle) : Nat :=
  match s.strokeAlignment with
  | .inside => s.strokeWidth
  | .center => satAddU32 s.strokeWidth 1 / 2
  | .outside => 0

def isTransparent (s : PrimStyle) : Bool :=
  (s.strokeColor.isNone || s.strokeWidth == 0) && s.fillColor.isNone

/-- `effective_stroke_color`: `stroke_color.filter(|_| stroke_width > 0)` -/
def effectiveStrokeColor (s : PrimStyle) : Option Color :=
  match s.strokeColor with
  | some c => if s.strokeWidth > 0 then some c else none
  | none => none

/-- The offset `stroke_area` passes to `OffsetOutline::offset`:
`outside_stroke_width().saturating_as::<i32>()`. -/
def strokeOffset (s : PrimStyle) : Int := satAsI32 s.outsideStrokeWidth

/-- The offset `fill_area` passes to `OffsetOutline::offset` (solid stroke):
`-inside_stroke_width().saturating_as::<i32>()`. -/
def fillOffset (s : PrimStyle) : Int := -(satAsI32 s.insideStrokeWidth)

end PrimStyle
end EG
