/-
  EG.Model.Rect — `embedded_graphics_core::primitives::Rectangle`, arm for arm.
  Source: core/src/primitives/rectangle/mod.rs, core/src/primitives/rectangle/points.rs,
          core/src/geometry/{point,size,mod}.rs
  Unbounded `Int`/`Nat`; explicit saturating operations are modelled (`satAsI32`, `satAddI32`,
  `satAddU32`, `Nat` subtraction = `saturating_sub`); plain `+`/`-` are the mathematical ones
  (the real code panics on overflow in a checked build; see C08 for the range theorems).
-/
import EG.Basic.Core
namespace EG

structure Rect where
  tl : Pt
  size : Sz
  deriving DecidableEq, Repr, Inhabited

inductive AnchorX | left | center | right deriving DecidableEq, Repr
inductive AnchorY | top | center | bottom deriving DecidableEq, Repr
structure Anchor where
  ax : AnchorX
  ay : AnchorY
  deriving DecidableEq, Repr

namespace Rect

def zero : Rect := ⟨Pt.zero, Sz.zero⟩

/-- `Size::from_bounding_box` + `min` of the corners. -/
def withCorners (c1 c2 : Pt) : Rect :=
  ⟨⟨min c1.x c2.x, min c1.y c2.y⟩, ⟨(c1.x - c2.x).natAbs + 1, (c1.y - c2.y).natAbs + 1⟩⟩

/-- `center_offset`: `size.saturating_sub(1,1) / 2`. -/
def centerOffset (s : Sz) : Sz := ⟨(s.w - 1) / 2, (s.h - 1) / 2⟩

def withCenter (c : Pt) (s : Sz) : Rect :=
  ⟨⟨c.x - ((centerOffset s).w : Int), c.y - ((centerOffset s).h : Int)⟩, s⟩

def center (r : Rect) : Pt :=
  ⟨r.tl.x + ((centerOffset r.size).w : Int), r.tl.y + ((centerOffset r.size).h : Int)⟩

def isZeroSized (r : Rect) : Bool := r.size.h == 0 || r.size.w == 0

def bottomRight (r : Rect) : Option Pt :=
  if r.size.w > 0 ∧ r.size.h > 0 then
    some ⟨r.tl.x + (r.size.w : Int) - 1, r.tl.y + (r.size.h : Int) - 1⟩
  else none

def contains (r : Rect) (p : Pt) : Bool :=
  if p.x ≥ r.tl.x ∧ p.y ≥ r.tl.y then
    match r.bottomRight with
    | some br => decide (p.x ≤ br.x ∧ p.y ≤ br.y)
    | none => false
  else false

/-- `overlaps(first, second)` on inclusive ranges. -/
def overlaps (f0 f1 s0 s1 : Int) : Bool :=
  decide ((s0 ≤ f0 ∧ f0 ≤ s1) ∨ (s0 ≤ f1 ∧ f1 ≤ s1) ∨ (f0 < s0 ∧ f1 > s1))

def intersection (self other : Rect) : Rect :=
  match other.bottomRight, self.bottomRight with
  | some obr, some sbr =>
    if overlaps self.tl.x sbr.x other.tl.x obr.x && overlaps self.tl.y sbr.y other.tl.y obr.y then
      withCorners (self.tl.componentMax other.tl) (sbr.componentMin obr)
    else zero
  | some _, none => if other.contains self.tl then self else zero
  | none, some _ => if self.contains other.tl then other else zero
  | none, none => zero

def anchorX (r : Rect) (a : AnchorX) : Int :=
  let delta := max (satAsI32 r.size.w) 1 - 1
  r.tl.x + match a with
    | .left => 0
    | .center => tdiv2 delta
    | .right => delta

def anchorY (r : Rect) (a : AnchorY) : Int :=
  let delta := max (satAsI32 r.size.h) 1 - 1
  r.tl.y + match a with
    | .top => 0
    | .center => tdiv2 delta
    | .bottom => delta

def anchorPoint (r : Rect) (a : Anchor) : Pt := ⟨r.anchorX a.ax, r.anchorY a.ay⟩

def envelope (self other : Rect) : Rect :=
  withCorners (self.tl.componentMin other.tl)
    ((self.anchorPoint ⟨.right, .bottom⟩).componentMax (other.anchorPoint ⟨.right, .bottom⟩))

def resizedWidth (r : Rect) (w : Nat) (a : AnchorX) : Rect :=
  let delta := max (satAsI32 r.size.w) 1 - max (satAsI32 w) 1
  ⟨⟨r.tl.x + (match a with | .left => 0 | .center => tdiv2 delta | .right => delta), r.tl.y⟩,
   ⟨w, r.size.h⟩⟩

def resizedHeight (r : Rect) (h : Nat) (a : AnchorY) : Rect :=
  let delta := max (satAsI32 r.size.h) 1 - max (satAsI32 h) 1
  ⟨⟨r.tl.x, r.tl.y + (match a with | .top => 0 | .center => tdiv2 delta | .bottom => delta)⟩,
   ⟨r.size.w, h⟩⟩

def resized (r : Rect) (s : Sz) (a : Anchor) : Rect :=
  (r.resizedWidth s.w a.ax).resizedHeight s.h a.ay

/-- `offset`: `offset as u32 * 2` is a plain `u32` multiplication (no wrap below 2^31). -/
def offset (r : Rect) (o : Int) : Rect :=
  if o ≥ 0 then
    -- growing moves the top left corner directly (a zero sized side has no centre pixel)
    ⟨r.tl - ⟨o, o⟩, r.size.satAdd (Sz.newEqual (o.toNat * 2))⟩
  else withCenter r.center (r.size.satSub (Sz.newEqual ((-o).toNat * 2)))

def rows (r : Rect) : List Int := irange r.tl.y (satAddI32 r.tl.y (satAsI32 r.size.h))
def columns (r : Rect) : List Int := irange r.tl.x (satAddI32 r.tl.x (satAsI32 r.size.w))
def rowsEnd (r : Rect) : Int := satAddI32 r.tl.y (satAsI32 r.size.h)
def columnsEnd (r : Rect) : Int := satAddI32 r.tl.x (satAsI32 r.size.w)

def translate (r : Rect) (d : Pt) : Rect := ⟨r.tl + d, r.size⟩

/-! ### `rectangle::Points` — the iterator as a state machine -/

structure PointsIt where
  x : Int      -- x.start
  xEnd : Int   -- x.end
  y : Int      -- y.start
  yEnd : Int   -- y.end
  xStart : Int
  deriving DecidableEq, Repr

def PointsIt.empty : PointsIt := ⟨0, 0, 0, 0, 0⟩

def pointsIt (r : Rect) : PointsIt :=
  if r.isZeroSized then PointsIt.empty
  else ⟨r.tl.x, r.columnsEnd, r.tl.y, r.rowsEnd, r.tl.x⟩

/-- One call of `Iterator::next`. The `while` loop runs at most twice per remaining row, so it
is bounded by the number of remaining rows; `fuel` is that bound. -/
def PointsIt.nextFuel : Nat → PointsIt → Option (Pt × PointsIt)
  | 0, _ => none
  | fuel + 1, it =>
    if it.y < it.yEnd then
      if it.x < it.xEnd then some (⟨it.x, it.y⟩, { it with x := it.x + 1 })
      else nextFuel fuel { it with y := it.y + 1, x := it.xStart }
    else none

def PointsIt.next (it : PointsIt) : Option (Pt × PointsIt) :=
  it.nextFuel ((it.yEnd - it.y).toNat + 1)

/-- Remaining-items measure: the step budget of `StyledRect.PixelsIt.next` and `StyledRect.pixelsList`
(`points` below has a fuel expression of its own). -/
def PointsIt.budget (it : PointsIt) : Nat :=
  (it.yEnd - it.y).toNat * ((it.xEnd - it.xStart).toNat + 1) + (it.xEnd - it.x).toNat + 1

def PointsIt.toListFuel : Nat → PointsIt → List Pt
  | 0, _ => []
  | fuel + 1, it =>
    match it.next with
    | some (p, it') => p :: toListFuel fuel it'
    | none => []

/-- What a `for` loop over `rect.points()` sees. -/
def points (r : Rect) : List Pt :=
  let it := r.pointsIt
  it.toListFuel ((it.yEnd - it.y).toNat * (it.xEnd - it.xStart).toNat + 1)

/-- Closed form of `points` (specification): row-major product of rows and columns. -/
def pointsSpec (r : Rect) : List Pt :=
  if r.isZeroSized then [] else r.rows.flatMap (fun y => r.columns.map (fun x => ⟨x, y⟩))

end Rect
end EG
