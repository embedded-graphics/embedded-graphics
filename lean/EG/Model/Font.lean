/-
  EG.Model.Font — mono fonts: glyph mappings, glyph cells, `MonoTextStyle::draw_string`.
  Source: src/mono_font/mapping.rs        (`StrGlyphMapping::{chars, index}`)
          src/mono_font/mod.rs            (`MonoFont::glyph`, `DecorationDimensions::get_bounding_box`)
          src/mono_font/mono_text_style.rs (`line_elements`, `draw_string_binary`, `draw_decorations`,
                                           `baseline_offset`, `draw_string`, `draw_whitespace`)
          src/mono_font/draw_target.rs    (`MonoFontDrawTarget<Foreground | Background | Both>`)
          src/image/{mod,sub_image,image_raw}.rs only as far as `Image::new(&glyph, p).draw(..)` needs:
          `translated(p)`, `SubImage::draw` -> `ImageRaw::draw_sub_image` (the inside-the-image guard),
          colours of the cell in row-major order.

  Characters are code points (`Nat`); a text is a `List Nat` (DESIGN.md section 4). The atlas bitmap is
  a parameter `atlas : Pt → Bool` (`font.image.pixel(p) == Some(On)`): the theorems are about WHICH cell
  is copied WHERE, the correspondence feeds the real atlas bits.

  Not modelled: `as u32` / `as i32` truncations of glyph indices and cell coordinates (indices of the
  built-in fonts are < 2^8), `i32` overflow of `position.x += char_width` (C08's topic).
-/
import EG.Model.Target
import EG.Generated.FontTable
namespace EG
namespace Font

/-! ## `StrGlyphMapping` -/

/-- `<char as Step>::forward(c, 1)`: the next scalar value (skips the surrogate gap). -/
def nextScalar (c : Nat) : Nat := if c = 0xD7FF then 0xE000 else c + 1

/-- `RangeInclusive<char>::next` iterated: `start..=end`, stepping with `nextScalar`.
`fuel` bounds the number of items (`end + 1 - start` suffices). -/
def charRangeGo : Nat → Nat → Nat → List Nat
  | 0, _, _ => []
  | fuel + 1, cur, e =>
    if cur < e then cur :: charRangeGo fuel (nextScalar cur) e
    else if cur = e then [cur]
    else []

def charRange (s e : Nat) : List Nat := charRangeGo (e + 1 - s) s e

/-- `StrGlyphMapping::chars()` as the list a consumer sees: `from_fn` over the string —
`'\0'` takes the next two characters as an inclusive range (`chars.next()?` ends the whole iteration
on an incomplete range), any other character stands for itself — then `.flatten()`. -/
def expand : List Nat → List Nat
  | [] => []
  | 0 :: s :: e :: rest => charRange s e ++ expand rest
  | 0 :: _ => []
  | c :: rest => c :: expand rest

/-- `.enumerate().find(|(_, v)| c == *v).map(|(index, _)| index)` with the running counter explicit. -/
def findGo (c : Nat) : List Nat → Nat → Option Nat
  | [], _ => none
  | v :: vs, i => if c = v then some i else findGo c vs (i + 1)

structure StrMapping where
  data : List Nat
  replacement : Nat

/-- `<StrGlyphMapping as GlyphMapping>::index`. -/
def StrMapping.index (m : StrMapping) (c : Nat) : Nat :=
  match findGo c (expand m.data) 0 with
  | some i => i
  | none => m.replacement

/-- `StrGlyphMapping::contains`. -/
def StrMapping.contains (m : StrMapping) (c : Nat) : Bool := (expand m.data).any (fun v => v == c)

/-! ## `MonoFont` -/

/-- The data of a `MonoFont` that drawing depends on. `index` is `glyph_mapping.index` (a
`&dyn GlyphMapping`: any function `char -> usize`). `imgW`/`imgH` = `image.size()`. -/
structure MonoFont where
  imgW : Nat
  imgH : Nat
  cw : Nat
  ch : Nat
  spacing : Nat
  baseline : Nat
  ulOff : Nat
  ulH : Nat
  stOff : Nat
  stH : Nat
  index : Nat → Nat

/-- `MonoFont::glyph`: the sub-image area of the glyph of `c` (`Rectangle::zero()` when the
character width is 0 or the image is narrower than one character). -/
def MonoFont.glyphAreaOfIndex (f : MonoFont) (gi : Nat) : Rect :=
  if f.cw = 0 ∨ f.imgW < f.cw then Rect.zero
  else
    let glyphsPerRow := f.imgW / f.cw
    let row := gi / glyphsPerRow
    let charX := (gi - row * glyphsPerRow) * f.cw
    let charY := row * f.ch
    ⟨⟨(charX : Int), (charY : Int)⟩, ⟨f.cw, f.ch⟩⟩

def MonoFont.glyphArea (f : MonoFont) (c : Nat) : Rect := f.glyphAreaOfIndex (f.index c)

/-- The guard of `ImageRaw::draw_sub_image`: nothing is drawn unless the area is non-empty and
completely inside the image. -/
def MonoFont.areaDrawable (f : MonoFont) (a : Rect) : Bool :=
  !(a.isZeroSized || decide (a.tl.x < 0) || decide (a.tl.y < 0)
    || decide (a.tl.x.toNat + a.size.w > f.imgW) || decide (a.tl.y.toNat + a.size.h > f.imgH))

/-- Colours `ContiguousPixels` yields for a sub-image area: the atlas pixels of the area, row-major,
exactly `w*h` of them (`EG.C14.GlyphStream.glyph_stream` / `builtin_glyph_stream` derive this from the C09 image model; the
harness demands exactly `w*h` colours in the glyph's `fill_contiguous` call). -/
def cellBits (atlas : Pt → Bool) (a : Rect) : List Bool :=
  (List.range a.size.h).flatMap (fun (r : Nat) =>
    (List.range a.size.w).map (fun (c : Nat) => atlas ⟨a.tl.x + (c : Int), a.tl.y + (r : Int)⟩))

/-! ## Calls on the `BinaryColor` target (`MonoFontDrawTarget`) and the three colour variants -/

inductive BCall where
  | fillContiguous (area : Rect) (bits : List Bool)
  | fillSolid (area : Rect) (on : Bool)
  deriving Repr, DecidableEq

/-- `Foreground(c)`, `Background(c)`, `Both(text, background)`. -/
inductive Mode where
  | fg (tc : Color)
  | bg (bc : Color)
  | both (tc bc : Color)
  deriving Repr, DecidableEq

/-- What one call on the `MonoFontDrawTarget` does to the parent target. -/
def Mode.lower : Mode → BCall → List Call
  | .fg tc, .fillContiguous area bits =>
    [Call.drawIter (((area.points.zip bits).filter (fun pb => pb.2)).map (fun pb => (pb.1, tc)))]
  | .fg tc, .fillSolid area true => [Call.fillSolid area tc]
  | .fg _, .fillSolid _ false => []
  | .bg bc, .fillContiguous area bits =>
    [Call.drawIter (((area.points.zip bits).filter (fun pb => !pb.2)).map (fun pb => (pb.1, bc)))]
  | .bg _, .fillSolid _ true => []
  | .bg bc, .fillSolid area false => [Call.fillSolid area bc]
  | .both tc bc, .fillContiguous area bits =>
    [Call.fillContiguous area (bits.map (fun b => if b then tc else bc))]
  | .both tc bc, .fillSolid area on => [Call.fillSolid area (if on then tc else bc)]

/-- `Image::new(&self.font.glyph(c), p).draw(&mut target)`: `SubImage::draw` ->
`draw_sub_image(target.translated(p), area)` -> (guard) ->
`fill_contiguous(Rectangle::new(zero, area.size).translate(p), cell colours)`. -/
def MonoFont.glyphCalls (f : MonoFont) (atlas : Pt → Bool) (c : Nat) (p : Pt) : List BCall :=
  let a := f.glyphArea c
  if f.areaDrawable a then [BCall.fillContiguous ⟨p, a.size⟩ (cellBits atlas a)] else []

/-! ## `line_elements` -/

inductive Elem where
  | char (c : Nat)
  | spacing
  | done
  deriving Repr, DecidableEq

/-- State of the `from_fn` closure: `position`, `next_char` + the rest of `chars` (as one list),
`add_spacing`. -/
structure LineIt where
  pos : Pt
  rest : List Nat
  addSpacing : Bool
  deriving Repr, DecidableEq

/-- One call of the closure (it never returns `None`: after the text it keeps yielding `Done`). -/
def LineIt.next (f : MonoFont) (s : LineIt) : (Pt × Elem) × LineIt :=
  if s.addSpacing then
    ((s.pos, .spacing), { s with pos := ⟨s.pos.x + (f.spacing : Int), s.pos.y⟩, addSpacing := false })
  else
    match s.rest with
    | c :: cs =>
      ((s.pos, .char c), { pos := ⟨s.pos.x + (f.cw : Int), s.pos.y⟩, rest := cs, addSpacing := !cs.isEmpty })
    | [] => ((s.pos, .done), s)

def lineIt (pos : Pt) (text : List Nat) : LineIt := ⟨pos, text, false⟩

/-- The items a `for` loop that returns at `Done` sees (including the `Done` item). -/
def LineIt.toListFuel (f : MonoFont) : Nat → LineIt → List (Pt × Elem)
  | 0, _ => []
  | fuel + 1, s =>
    match s.next f with
    | ((p, .done), _) => [(p, .done)]
    | (item, s') => item :: toListFuel f fuel s'

def lineElements (f : MonoFont) (pos : Pt) (text : List Nat) : List (Pt × Elem) :=
  (lineIt pos text).toListFuel f (2 * text.length + 1)

/-! ## `draw_string_binary` -/

/-- What one line element does on the binary target (`hasBg` = `background_color.is_some()`). -/
def MonoFont.elemCalls (f : MonoFont) (atlas : Pt → Bool) (hasBg : Bool) : Pt × Elem → List BCall
  | (p, .char c) => f.glyphCalls atlas c p
  | (p, .spacing) =>
    if f.spacing > 0 ∧ hasBg then [BCall.fillSolid ⟨p, ⟨f.spacing, f.ch⟩⟩ false] else []
  | (_, .done) => []

/-- `draw_string_binary`: the calls on the binary target and the returned position (the `Done`
item's position; `position` itself if the loop ended without `Done`, which cannot happen). -/
def MonoFont.drawStringBinary (f : MonoFont) (atlas : Pt → Bool) (hasBg : Bool) (text : List Nat)
    (pos : Pt) : List BCall × Pt :=
  let es := lineElements f pos text
  (es.flatMap (f.elemCalls atlas hasBg),
   match es.find? (fun e => e.2 == Elem.done) with
   | some (p, _) => p
   | none => pos)

/-! ## Styles, decorations, `draw_string`, `draw_whitespace` -/

inductive DecoColor where
  | none
  | textColor
  | custom (c : Color)
  deriving Repr, DecidableEq

def DecoColor.effective : DecoColor → Option Color → Option Color
  | .none, _ => Option.none
  | .textColor, tc => tc
  | .custom c, _ => some c

structure Style where
  textColor : Option Color
  bgColor : Option Color
  underline : DecoColor
  strikethrough : DecoColor
  deriving Repr, DecidableEq

inductive Baseline where
  | top | bottom | middle | alphabetic
  deriving Repr, DecidableEq

def MonoFont.baselineOffset (f : MonoFont) : Baseline → Int
  | .top => 0
  | .bottom => satAsI32 (f.ch - 1)
  | .middle => satAsI32 ((f.ch - 1) / 2)
  | .alphabetic => satAsI32 f.baseline

/-- `DecorationDimensions::get_bounding_box`. -/
def decoRect (off h : Nat) (pos : Pt) (width : Nat) : Rect :=
  ⟨⟨pos.x, pos.y + (off : Int)⟩, ⟨width, h⟩⟩

/-- `draw_decorations`: strikethrough first, then underline. -/
def MonoFont.drawDecorations (f : MonoFont) (st : Style) (width : Nat) (pos : Pt) : List Call :=
  (match st.strikethrough.effective st.textColor with
   | some c => [Call.fillSolid (decoRect f.stOff f.stH pos width) c]
   | none => [])
  ++
  (match st.underline.effective st.textColor with
   | some c => [Call.fillSolid (decoRect f.ulOff f.ulH pos width) c]
   | none => [])

/-- `<MonoTextStyle as TextRenderer>::draw_string`: calls on the target and the returned position. -/
def MonoFont.drawString (f : MonoFont) (atlas : Pt → Bool) (st : Style) (text : List Nat) (position : Pt)
    (bl : Baseline) : List Call × Pt :=
  let pos : Pt := ⟨position.x, position.y - f.baselineOffset bl⟩
  let (calls, next) : List Call × Pt :=
    match st.textColor, st.bgColor with
    | some tc, some bc =>
      let r := f.drawStringBinary atlas true text pos
      (r.1.flatMap (Mode.both tc bc).lower, r.2)
    | some tc, none =>
      let r := f.drawStringBinary atlas false text pos
      (r.1.flatMap (Mode.fg tc).lower, r.2)
    | none, some bc =>
      let r := f.drawStringBinary atlas true text pos
      (r.1.flatMap (Mode.bg bc).lower, r.2)
    | none, none => ([], ⟨pos.x + (((f.cw + f.spacing) * text.length : Nat) : Int), pos.y⟩)
  let deco := if next.x > pos.x then f.drawDecorations st (next.x - pos.x).toNat pos else []
  (calls ++ deco, ⟨next.x, next.y + f.baselineOffset bl⟩)

/-- `<MonoTextStyle as TextRenderer>::draw_whitespace`. -/
def MonoFont.drawWhitespace (f : MonoFont) (st : Style) (width : Nat) (position : Pt) (bl : Baseline) :
    List Call × Pt :=
  let pos : Pt := ⟨position.x, position.y - f.baselineOffset bl⟩
  let calls :=
    if width ≠ 0 then
      (match st.bgColor with
       | some bc => [Call.fillSolid ⟨pos, ⟨width, f.ch⟩⟩ bc]
       | none => [])
      ++ f.drawDecorations st width pos
    else []
  (calls, ⟨pos.x + satAsI32 width, pos.y + f.baselineOffset bl⟩)

/-! ## Built-in fonts: the generated table as model fonts -/

def mappingOfRec (m : Generated.MappingRec) : StrMapping := ⟨m.data, m.replacement⟩

/-- The `mid`-th mapping of `impl_mapping!` (an empty mapping for an id outside the table). -/
def builtinMapping (mid : Nat) : StrMapping :=
  match Generated.mappingTable[mid]? with
  | some m => mappingOfRec m
  | none => ⟨[], 0⟩

def fontOfRec (r : Generated.FontRec) : MonoFont :=
  { imgW := r.imgW, imgH := r.imgH, cw := r.cw, ch := r.ch, spacing := r.spacing, baseline := r.baseline,
    ulOff := r.ulOff, ulH := r.ulH, stOff := r.stOff, stH := r.stH,
    index := (builtinMapping r.mapping).index }

end Font
end EG
