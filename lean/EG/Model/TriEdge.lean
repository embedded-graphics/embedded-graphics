/-
  EG.Model.TriEdge — the `from_fn` closure that `ScanlineIntersections::edge_intersections` returns,
  arm for arm, with `ThickSegment::intersection` of the three edges as the parameter
  `seg : Nat → Scanline` (edge index to the scanline of that edge in the row).
  Source: src/primitives/triangle/scanline_intersections.rs (`edge_intersections`).
  Used by EG.Model.Triangle (stroke widths 0 and 1: `seg` is the skeleton line) and, through
  EG.Lemmas.TriGenLines, as the closure of EG.Model.ThickTriangle (every width: `seg` is the
  intersection with the thick segment the join code builds).
-/
import EG.Model.Scanline
namespace EG

/-- The captured state of the `from_fn` closure of `edge_intersections`. -/
structure EdgeIt where
  idx : Nat
  left : Scanline
  right : Scanline
  deriving DecidableEq, Repr

namespace EdgeIt

/-- The `while idx < 3 { .. }` loop (at most three rounds; `fuel` bounds them). -/
def loop (seg : Nat → Scanline) : Nat → EdgeIt → EdgeIt
  | 0, s => s
  | fuel + 1, s =>
    if s.idx < 3 then
      let scanline := seg s.idx
      let s := { s with idx := s.idx + 1 }
      if !s.left.isEmpty then
        let r := s.left.tryExtend scanline
        if r.1 then loop seg fuel { s with left := r.2 }
        else if !s.right.isEmpty then
          loop seg fuel { s with right := (s.right.tryExtend scanline).2 }
        else loop seg fuel { s with right := scanline }
      else loop seg fuel { s with left := scanline }
    else s

/-- One call of the closure: `None` at once for stroke width 0. -/
def next (strokeWidth : Nat) (seg : Nat → Scanline) (y : Int) (s : EdgeIt) :
    Option Scanline × EdgeIt :=
  if strokeWidth = 0 then (none, s)
  else
    let s := loop seg 3 s
    let r := s.left.tryExtend s.right
    let s := if r.1 then { s with left := r.2, right := Scanline.newEmpty y } else s
    let l := s.left.tryTake
    match l.1 with
    | some x => (some x, { s with left := l.2 })
    | none =>
      let rr := s.right.tryTake
      (rr.1, { s with left := l.2, right := rr.2 })

end EdgeIt

end EG
