/-
  EG.Model.RectSrcPrelude — the meaning of every Rust primitive that the GENERATED file
  EG/Generated/RectSrc.lean (written by tools/tr_rect.py from /repo's Rust text) calls.

  TRUSTED BASE. The translator is syntax-directed and knows nothing about semantics: `a + b` on `i32` becomes
  `i32_add a b`, `w.saturating_as::<i32>()` becomes `u32_saturating_as_i32 w`, `x as i32` becomes `u32_as_i32 x`,
  `a..=b` becomes `rangeinclusive_i32_new a b`, a struct literal `Size { width, height }` becomes
  `Size_mk width height`, and so on. Each such name is defined HERE, by hand, in a line or two. Conventions
  (the same as the hand-written models, DESIGN.md section 4):

  * `i32` is `Int`, `u32` is `Nat` (no upper bound in the type; where a bound matters it is a hypothesis).
  * plain `+ - *` and unary `-` are the mathematical operations: in a checked build the real code panics where
    the mathematical result does not fit (C08's topic). `/` on `i32` truncates toward zero (`Int.tdiv`);
    `/` on `u32` is `Nat` division; `u32 - u32` is truncated at 0 (the real code panics below 0).
  * the EXPLICITLY saturating / wrapping operations are modelled exactly: `saturating_add`, `saturating_sub`,
    `saturating_as`, and the `as` casts (`u32 as i32` and `i32 as u32` wrap modulo 2^32, two's complement).
  * `debug_assert!(c, "..")` is the release-build no-op; it keeps its condition visible in the generated text.
    The equivalence theorems say under which guard the asserted condition holds (sizes up to `i32::MAX`).
  * shared references, `*` and `&` are transparent (every type involved is `Copy`).
  * `Point`, `Size`, `Rectangle` ARE the project's `EG.Pt`, `EG.Sz`, `EG.Rect`; the field names of the Rust structs
    (`x y`, `width height`, `top_left size`; checked by the translator against the `struct` declarations) are
    the accessor functions below.
  * a `Range<i32>` / `RangeInclusive<i32>` is its two ends (`range_i32_to_list` = `EG.irange` gives the values a
    `for` loop sees); `Range::next` and `&mut self` methods in general return the updated receiver.
  * `while` loops run on explicit fuel (`while_loop`), see the end of the file.

  Every definition that generated code calls is an `abbrev` (reducible), except the recursive `while_loop`: `simp`
  does not rewrite inside `Decidable` instance arguments, so the comparisons' instances keep mentioning
  `Size_width ..` etc.; they must unfold at reducible transparency for `decide_eq_true_eq` / closing `rfl`s to apply.

  Import-free apart from EG.Basic / EG.Model (it is imported by generated code that the theorems use; the
  driver does not link it).
-/
import EG.Model.Rect
namespace EG.RectSrcPrelude
open EG

/-! ### the three structs -/

abbrev Point := EG.Pt
abbrev Size := EG.Sz
abbrev Rectangle := EG.Rect

abbrev Point_mk (x y : Int) : Point := ⟨x, y⟩
abbrev Point_x (p : Point) : Int := p.x
abbrev Point_y (p : Point) : Int := p.y
abbrev Point_set_x (p : Point) (v : Int) : Point := ⟨v, p.y⟩
abbrev Point_set_y (p : Point) (v : Int) : Point := ⟨p.x, v⟩

abbrev Size_mk (width height : Nat) : Size := ⟨width, height⟩
abbrev Size_width (s : Size) : Nat := s.w
abbrev Size_height (s : Size) : Nat := s.h
abbrev Size_set_width (s : Size) (v : Nat) : Size := ⟨v, s.h⟩
abbrev Size_set_height (s : Size) (v : Nat) : Size := ⟨s.w, v⟩

abbrev Rectangle_mk (top_left : Point) (size : Size) : Rectangle := ⟨top_left, size⟩
abbrev Rectangle_top_left (r : Rectangle) : Point := r.tl
abbrev Rectangle_size (r : Rectangle) : Size := r.size
abbrev Rectangle_set_top_left (r : Rectangle) (v : Point) : Rectangle := ⟨v, r.size⟩
abbrev Rectangle_set_size (r : Rectangle) (v : Size) : Rectangle := ⟨r.tl, v⟩

/-! ### `i32` -/

abbrev i32_add (a b : Int) : Int := a + b
abbrev i32_sub (a b : Int) : Int := a - b
abbrev i32_mul (a b : Int) : Int := a * b
/-- Rust `/` on `i32`: truncation toward zero. -/
abbrev i32_div (a b : Int) : Int := Int.tdiv a b
abbrev i32_neg (a : Int) : Int := -a
abbrev i32_min (a b : Int) : Int := min a b
abbrev i32_max (a b : Int) : Int := max a b
abbrev i32_abs (a : Int) : Int := (a.natAbs : Int)
abbrev i32_unsigned_abs (a : Int) : Nat := a.natAbs
abbrev i32_eq (a b : Int) : Bool := decide (a = b)
abbrev i32_ne (a b : Int) : Bool := decide (a ≠ b)
abbrev i32_lt (a b : Int) : Bool := decide (a < b)
abbrev i32_le (a b : Int) : Bool := decide (a ≤ b)
abbrev i32_gt (a b : Int) : Bool := decide (a > b)
abbrev i32_ge (a b : Int) : Bool := decide (a ≥ b)
/-- `i32::saturating_add`. -/
abbrev i32_saturating_add (a b : Int) : Int :=
  if a + b > 2147483647 then 2147483647 else if a + b < -2147483648 then -2147483648 else a + b
/-- `i32::saturating_sub`. -/
abbrev i32_saturating_sub (a b : Int) : Int :=
  if a - b > 2147483647 then 2147483647 else if a - b < -2147483648 then -2147483648 else a - b
/-- `x as u32` for `x : i32`: two's complement reinterpretation. -/
abbrev i32_as_u32 (a : Int) : Nat := if 0 ≤ a then a.toNat else (a + 4294967296).toNat

/-! ### `u32` -/

abbrev u32_add (a b : Nat) : Nat := a + b
/-- `u32 - u32` (panics below 0 in a checked build; truncated here). -/
abbrev u32_sub (a b : Nat) : Nat := a - b
abbrev u32_mul (a b : Nat) : Nat := a * b
abbrev u32_div (a b : Nat) : Nat := a / b
abbrev u32_min (a b : Nat) : Nat := min a b
abbrev u32_max (a b : Nat) : Nat := max a b
abbrev u32_eq (a b : Nat) : Bool := decide (a = b)
abbrev u32_ne (a b : Nat) : Bool := decide (a ≠ b)
abbrev u32_lt (a b : Nat) : Bool := decide (a < b)
abbrev u32_le (a b : Nat) : Bool := decide (a ≤ b)
abbrev u32_gt (a b : Nat) : Bool := decide (a > b)
abbrev u32_ge (a b : Nat) : Bool := decide (a ≥ b)
/-- `u32::saturating_add`. -/
abbrev u32_saturating_add (a b : Nat) : Nat := if a + b ≤ 4294967295 then a + b else 4294967295
/-- `u32::saturating_sub`. -/
abbrev u32_saturating_sub (a b : Nat) : Nat := a - b
/-- `az::SaturatingAs`: `x.saturating_as::<i32>()` for `x : u32`. -/
abbrev u32_saturating_as_i32 (a : Nat) : Int := if a ≤ 2147483647 then (a : Int) else 2147483647
/-- `x as i32` for `x : u32`: wraps (values above `i32::MAX` become negative). -/
abbrev u32_as_i32 (a : Nat) : Int := if a ≤ 2147483647 then (a : Int) else (a : Int) - 4294967296

/-! ### `bool`, `Option`, ranges, `debug_assert!` -/

abbrev bool_and (a b : Bool) : Bool := a && b
abbrev bool_or (a b : Bool) : Bool := a || b
abbrev bool_not (a : Bool) : Bool := !a
abbrev bool_eq (a b : Bool) : Bool := a == b
abbrev bool_ne (a b : Bool) : Bool := a != b

/-- `Option::is_some_and`. -/
abbrev option_is_some_and {α : Type} (o : Option α) (f : α → Bool) : Bool :=
  match o with
  | some v => f v
  | none => false

/-- `Range<i32>`: `a..b`, the struct with its two public fields. -/
structure RangeI32 where
  start : Int
  end_ : Int
  deriving DecidableEq, Repr
abbrev range_i32_new (a b : Int) : RangeI32 := ⟨a, b⟩
abbrev RangeI32_start (r : RangeI32) : Int := r.start
abbrev RangeI32_end (r : RangeI32) : Int := r.end_
abbrev RangeI32_set_start (r : RangeI32) (v : Int) : RangeI32 := ⟨v, r.end_⟩
abbrev RangeI32_set_end (r : RangeI32) (v : Int) : RangeI32 := ⟨r.start, v⟩
/-- `Range::is_empty`: `!(start < end)`. -/
abbrev range_i32_is_empty (r : RangeI32) : Bool := !(decide (r.start < r.end_))
/-- `Iterator::next` of `Range<i32>` (a method that mutates its receiver: value and updated receiver):
`if start < end { let n = start; start = n + 1; Some(n) } else { None }`. -/
abbrev range_i32_next (r : RangeI32) : Option Int × RangeI32 :=
  if r.start < r.end_ then (some r.start, ⟨r.start + 1, r.end_⟩) else (none, r)
/-- The values a `for` loop over the range sees (not called by generated code; used to state theorems). -/
def range_i32_to_list (r : RangeI32) : List Int := irange r.start r.end_

/-- `RangeInclusive<i32>`: `a..=b`. -/
structure RangeInclusiveI32 where
  start : Int
  end_ : Int
abbrev rangeinclusive_i32_new (a b : Int) : RangeInclusiveI32 := ⟨a, b⟩
abbrev rangeinclusive_i32_start (r : RangeInclusiveI32) : Int := r.start
abbrev rangeinclusive_i32_end (r : RangeInclusiveI32) : Int := r.end_
/-- `RangeInclusive::contains`: `start <= x && x <= end`. -/
abbrev rangeinclusive_i32_contains (r : RangeInclusiveI32) (x : Int) : Bool := decide (r.start ≤ x ∧ x ≤ r.end_)

/-- `debug_assert!(c, "..")`: no effect in a release build (a checked build panics when `c` is false; the
equivalence theorems state the guard under which it is true). -/
abbrev debug_assert {α : Type} (_c : Bool) (k : α) : α := k

/-! ### `while` loops

A `while c { body }` whose only mutable state is `self` (the translator refuses anything else) becomes
`while_loop fuel (fun self => c) (fun self => body') self`: `body'` ends in `LoopStep.continue_ self` where the Rust
body reaches its end and in `LoopStep.return_ v` where it executes `return`. The loop runs on explicit fuel
(structural recursion; no `partial`): `none` means the fuel ran out and says nothing about the Rust code; the
theorems state how much fuel suffices. -/

inductive LoopStep (σ ρ : Type) where
  | continue_ (s : σ)
  | return_ (r : ρ)

/-- `some (continue_ s)`: the loop ended normally in state `s`; `some (return_ r)`: the body returned `r`. -/
def while_loop {σ ρ : Type} : Nat → (σ → Bool) → (σ → LoopStep σ ρ) → σ → Option (LoopStep σ ρ)
  | 0, _, _, _ => none
  | fuel + 1, c, b, s =>
    if c s then
      match b s with
      | .return_ r => some (.return_ r)
      | .continue_ s' => while_loop fuel c b s'
    else some (.continue_ s)

end EG.RectSrcPrelude
