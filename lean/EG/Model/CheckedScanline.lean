/-
  EG.Model.CheckedScanline — checked kernels of `primitives::common::Scanline`
  (src/primitives/common/scanline.rs, all `i32`) and the LAZY consumption of `line::Points`
  (src/primitives/line/points.rs) that `bresenham_intersection` and `Triangle::contains` perform:
  the Bresenham walk is only advanced as far as the consumer pulls, so an overflow further along
  the line is never reached.

    * `extend` (l. 42-50): `x + 1` twice;
    * `bresenham_intersection` (l. 53-73): `line.points().skip_while(y != ).take_while(y == )
      .for_each(extend)` — `Points::new` is evaluated in full (`major_length`,
      `BresenhamParameters::new`), the walk stops at the first point behind row `y`;
    * `touches` (l. 72-91): `debug_assert_eq!(self.y, other.y)`, `start - 1`, `end - 1` under the
      short-circuit `||`;
    * `try_extend` (l. 98-113): the same assertion once more, `min` / `max`;
    * `to_rectangle` (l. 116-124) and `draw` (l. 137-151): `(end - start) as u32`, the subtraction
      in `i32`;
    * `Iterator::next` (l. 157-159): `Range<i32>::next` adds one only while `start < end`: total.
-/
import EG.Model.CheckedLine
import EG.Model.Scanline
namespace EG.Chk
open EG

/-! ## Lazy consumption of `line::Points` -/

/-- `Points::new(line)`: `major_length`, `BresenhamParameters::new`, `Bresenham::new`. -/
def linePointsNew (l : Line) : Option Line.PointsIt := do
  let n ← majorLength l
  let params ← bresenhamParametersNew l
  pure ⟨params, Bresenham.new l.start, n⟩

/-- A consumer that pulls points one at a time: `f state point` = `none` (the consumer panics),
`some (state', true)` (goes on pulling) or `some (state', false)` (stops: `any` found its point,
`take_while` saw a point of another row). Every pull is one checked `Bresenham::next`. -/
def linePointsFoldFuel {σ : Type} (f : σ → Pt → Option (σ × Bool)) :
    Nat → Line.PointsIt → σ → Option σ
  | 0, _, s => some s
  | fuel + 1, it, s =>
    if it.pointsRemaining > 0 then do
      let r ← bresenhamNext it.bresenham it.parameters
      let q ← f s r.1
      if q.2 then
        linePointsFoldFuel f fuel { it with pointsRemaining := it.pointsRemaining - 1, bresenham := r.2 } q.1
      else pure q.1
    else pure s

/-- The same consumer run over an already computed list of points (specification side). -/
def foldUntil {σ : Type} (f : σ → Pt → Option (σ × Bool)) : List Pt → σ → Option σ
  | [], s => some s
  | p :: ps, s => do
    let q ← f s p
    if q.2 then foldUntil f ps q.1 else pure q.1

/-- consumer of `Iterator::any(|q| q == p)`: stop at the first hit -/
def anyStep (p : Pt) (found : Bool) (q : Pt) : Option (Bool × Bool) :=
  if q = p then some (true, false) else some (found, true)

/-- `line_points.any(|q| q == p)` on a freshly built `Points` (or one in the middle of a chain). -/
def linePointsAny (it : Line.PointsIt) (p : Pt) : Option Bool :=
  linePointsFoldFuel (anyStep p) it.pointsRemaining it false

namespace Scanline

/-- `Scanline::extend`: `x..x + 1` / `self.x.end = x + 1` in `i32`. -/
def extend (s : EG.Scanline) (x : Int) : Option EG.Scanline :=
  if s.isEmpty then do
    let e ← chkI32 (x + 1)
    pure { s with xs := x, xe := e }
  else if x < s.xs then pure { s with xs := x }
  else if x ≥ s.xe then do
    let e ← chkI32 (x + 1)
    pure { s with xe := e }
  else pure s

/-- consumer of `.skip_while(|p| p.y != y).take_while(|p| p.y == y).for_each(|p| extend(p.x))`;
state: (still skipping, scanline). -/
def bintStep (st : Bool × EG.Scanline) (q : Pt) : Option ((Bool × EG.Scanline) × Bool) :=
  if q.y = st.2.y then do
    let s ← extend st.2 q.x
    pure ((false, s), true)
  else if st.1 then pure (st, true)
  else pure (st, false)

/-- `Scanline::bresenham_intersection(&line)`. -/
def bresenhamIntersection (s : EG.Scanline) (l : Line) : Option EG.Scanline :=
  let inY : Bool :=
    if l.start.y ≤ l.stop.y then decide (l.start.y ≤ s.y ∧ s.y ≤ l.stop.y)
    else decide (l.stop.y ≤ s.y ∧ s.y ≤ l.start.y)
  if !inY then pure s
  else do
    let it ← linePointsNew l
    let r ← linePointsFoldFuel bintStep it.pointsRemaining it (true, s)
    pure r.2

/-- `Scanline::touches`. -/
def touches (s o : EG.Scanline) : Option Bool := do
  assert (s.y = o.y)
  if s.isEmpty || o.isEmpty then pure false
  else do
    let lo ← chkI32 (s.xs - 1)
    if lo ≤ o.xs ∧ o.xs ≤ s.xe then pure true
    else do
      let oe ← chkI32 (o.xe - 1)
      if lo ≤ oe ∧ oe ≤ s.xe then pure true
      else do
        let lo2 ← chkI32 (o.xs - 1)
        if lo2 ≤ s.xs ∧ s.xs ≤ o.xe then pure true
        else do
          let se ← chkI32 (s.xe - 1)
          pure (decide (lo2 ≤ se ∧ se ≤ o.xe))

/-- `Scanline::try_extend`. -/
def tryExtend (s o : EG.Scanline) : Option (Bool × EG.Scanline) := do
  assert (s.y = o.y)
  let t ← touches s o
  if t then pure (true, { s with xs := min s.xs o.xs, xe := max s.xe o.xe }) else pure (false, s)

/-- `Scanline::to_rectangle`: `(self.x.end - self.x.start) as u32`. -/
def toRectangle (s : EG.Scanline) : Option Rect := do
  let width ← if !s.isEmpty then do
      let d ← chkI32 (s.xe - s.xs)
      pure (i32AsU32 d)
    else pure 0
  pure ⟨⟨s.xs, s.y⟩, ⟨width, 1⟩⟩

/-- `Scanline::draw`: the rectangle handed to `fill_solid` (`none` inside = nothing drawn). -/
def drawRect (s : EG.Scanline) : Option (Option Rect) :=
  if s.isEmpty then pure none
  else do
    let d ← chkI32 (s.xe - s.xs)
    pure (some ⟨⟨s.xs, s.y⟩, ⟨i32AsU32 d, 1⟩⟩)

end Scanline
end EG.Chk
