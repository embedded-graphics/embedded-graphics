/-
  EG.Model.Framebuffer — `Framebuffer<C, R, BO, WIDTH, HEIGHT, N>`.

  Literal transcription of src/framebuffer.rs: `buffer_size_bpp`, `new`, the three `set_pixel`
  macro families (`impl_bit!` sub-byte via `store::<BO>` with index
  `bytes_per_row * pixels_per_byte * y + x`; `RawU8` direct indexing; `impl_bytes!` with
  `to_le_bytes` / `to_be_bytes` + `copy_from_slice`), `draw_iter`, `as_image`, `pixel`;
  and of src/image/image_raw.rs as far as `Framebuffer::pixel` needs it: `ImageRaw::new` (length
  check), `data_width` (row padding), `GetPixel::pixel` (`RawDataIterator::nth`).
  The casts of the sizes are left out (`WIDTH as u32` in `as_image`, `width as i32` in `pixel`): the
  transcription is literal for `WIDTH`, `HEIGHT` up to `i32::MAX`.

  A colour is its raw value (`c.into()`, a `Nat` below `2^bits`; colour <-> raw is C12's topic).
  `Framebuffer` implements only `draw_iter` of `DrawTarget`; `fill_contiguous`, `fill_solid` and
  `clear` are the trait defaults (`Call.lowerDefault`, EG/Model/Target.lean).
  Import-free apart from the model files.
-/
import EG.Model.Raw
import EG.Model.Target
namespace EG.Fb
open EG EG.Raw

/-- `buffer_size_bpp(width, height, bpp) = (width * bpp + 7) / 8 * height` -/
def bufferSize (width height bits : Nat) : Nat := (width * bits + 7) / 8 * height

/-- `bytes_per_row(width, bits_per_pixel)` of image_raw.rs (same formula in `set_pixel`). -/
def bytesPerRow (width bits : Nat) : Nat := (width * bits + 7) / 8

/-- The framebuffer: type parameters (`bits` = `C::Raw::BITS_PER_PIXEL`, data order, `WIDTH`,
`HEIGHT`) and the `N` data bytes. -/
structure Fb where
  bits : Nat
  order : Order
  width : Nat
  height : Nat
  data : List Nat
  deriving Repr

/-- `Framebuffer::new()`: `[0; N]`. (`CHECK_N` rejects `N < BUFFER_SIZE` at compile time: `Fb.Wf`.) -/
def Fb.new (bits : Nat) (o : Order) (width height n : Nat) : Fb :=
  ⟨bits, o, width, height, List.replicate n 0⟩

/-- `Self::BUFFER_SIZE` -/
def Fb.bufSize (fb : Fb) : Nat := bufferSize fb.width fb.height fb.bits

/-- `x < WIDTH && y < HEIGHT` after both `usize::try_from` succeeded. -/
def Fb.inside (fb : Fb) (p : Pt) : Prop :=
  0 ≤ p.x ∧ 0 ≤ p.y ∧ p.x.toNat < fb.width ∧ p.y.toNat < fb.height
instance (fb : Fb) (p : Pt) : Decidable (fb.inside p) := by unfold Fb.inside; exact inferInstance

/-- `set_pixel(p, c)`, arm for arm. -/
def Fb.setPixel (fb : Fb) (p : Pt) (c : Nat) : Fb :=
  if 0 ≤ p.x ∧ 0 ≤ p.y then
    let x := p.x.toNat
    let y := p.y.toNat
    if x < fb.width ∧ y < fb.height then
      if fb.bits < 8 then
        -- impl_bit!
        let pixelsPerByte := 8 / fb.bits
        let bitsPerRow := fb.width * fb.bits
        let bytesPerRow := (bitsPerRow + 7) / 8
        let index := bytesPerRow * pixelsPerByte * y + x
        -- `let _ = c.into().store::<BO>(&mut self.data, index);`
        { fb with data := (store fb.bits fb.order c fb.data index).2 }
      else if fb.bits = 8 then
        -- `self.data[y * WIDTH + x] = c.into().into_inner();`
        { fb with data := fb.data.set (y * fb.width + x) c }
      else
        -- impl_bytes!
        let bytesPerPixel := fb.bits / 8
        let index := (y * fb.width + x) * bytesPerPixel
        let bytes := if fb.order.alt then toBe bytesPerPixel c else toLe bytesPerPixel c
        -- `self.data[index..index + BYTES_PER_PIXEL].copy_from_slice(&bytes)`
        { fb with data := splice fb.data index bytes }
    else fb
  else fb

/-- `draw_iter`: `for Pixel(p, c) in pixels { self.set_pixel(p, c) }` -/
def Fb.drawIter (fb : Fb) (px : Writes) : Fb := px.foldl (fun fb w => fb.setPixel w.1 w.2) fb

/-- `bounding_box()` of `OriginDimensions` -/
def Fb.bbox (fb : Fb) : Rect := ⟨⟨0, 0⟩, ⟨fb.width, fb.height⟩⟩

/-- Any `DrawTarget` call: only `draw_iter` is implemented, the rest are the trait defaults. -/
def Fb.call (fb : Fb) (c : Call) : Fb := fb.drawIter (c.lowerDefault fb.bbox)

/-! ## The part of `ImageRaw` that `pixel` goes through -/

structure Img where
  bits : Nat
  order : Order
  data : List Nat
  w : Nat
  h : Nat
  deriving Repr

/-- `ImageRaw::new(data, size)`: `none` = `Err(InvalidDataSize)`. -/
def Img.new (bits : Nat) (o : Order) (data : List Nat) (w h : Nat) : Option Img :=
  let expected := bytesPerRow w bits * h
  if data.length ≠ expected then none else some ⟨bits, o, data, w, h⟩

/-- `data_width()`: row width in pixels including the padding pixels. -/
def Img.dataWidth (im : Img) : Nat :=
  if im.bits < 8 then
    let pixelsPerByte := 8 / im.bits
    bytesPerRow im.w im.bits * pixelsPerByte
  else im.w

/-- `GetPixel::pixel` of `ImageRaw`, except that width and height are compared in `Int`, without the
`as i32` casts of the source: the same for sizes up to `i32::MAX` (`Glue.pixel_agree`,
`Glue.pixel_agree_needs_guard` in EG/Lemmas/GlueFbImage.lean). -/
def Img.pixel (im : Img) (p : Pt) : Option Nat :=
  if p.x < 0 ∨ p.y < 0 ∨ p.x ≥ (im.w : Int) ∨ p.y ≥ (im.h : Int) then none
  else ((Iter.new im.bits im.order im.data).nth (p.x.toNat + p.y.toNat * im.dataWidth)).1

/-- `as_image()`: `ImageRaw::new(&self.data[0..BUFFER_SIZE], Size::new(W, H)).unwrap()`;
`none` = the slice index or the `unwrap` panics (impossible when `N >= BUFFER_SIZE` and `WIDTH`,
`HEIGHT` fit `u32`; the `as u32` casts are not modelled). -/
def Fb.asImage (fb : Fb) : Option Img :=
  if fb.bufSize ≤ fb.data.length then
    Img.new fb.bits fb.order (fb.data.take fb.bufSize) fb.width fb.height
  else none

/-- `GetPixel::pixel` of the framebuffer: `self.as_image().pixel(p)`. -/
def Fb.pixel (fb : Fb) (p : Pt) : Option Nat :=
  match fb.asImage with
  | none => none
  | some im => im.pixel p

end EG.Fb
