/-
  EG.Model.Style — `embedded_graphics::primitives::PrimitiveStyle` (solid stroke), arm for arm.
  Source: src/primitives/primitive_style.rs.

  `stroke_style` is not a field of the model: `StrokeStyle::Dotted` is outside every property
  (all of them say "with a solid stroke"), so the model is the `StrokeStyle::Solid` instance of
  every method (`fill_area` takes its first branch).
  A colour is a `Nat` (raw value), `Option Color` = `Option<C>`; `width : Nat` = `stroke_width: u32`.
  Shared by the styled rectangle / rounded rectangle / sector / arc models (circle and ellipse use
  the second transcription EG.Model.PrimStyle): the shape-specific part is only
  `OffsetOutline::offset` applied to `strokeOffset` / `fillOffset`.
-/
import EG.Model.Target
namespace EG

/-- `StrokeAlignment` (op token: 0 = Inside, 1 = Center, 2 = Outside). -/
inductive StrokeAlignment | inside | center | outside
  deriving DecidableEq, Repr, Inhabited

/-- `PrimitiveStyle<C>` with `stroke_style = Solid`. -/
structure Style where
  fill : Option Color      -- fill_color
  stroke : Option Color    -- stroke_color
  width : Nat              -- stroke_width
  align : StrokeAlignment  -- stroke_alignment
  deriving DecidableEq, Repr, Inhabited

namespace Style

/-- `outside_stroke_width`. -/
def outsideStrokeWidth (s : Style) : Nat :=
  match s.align with
  | .inside => 0
  | .center => s.width / 2
  | .outside => s.width

/-- `inside_stroke_width` (`stroke_width.saturating_add(1) / 2` for `Center`). -/
def insideStrokeWidth (s : Style) : Nat :=
  match s.align with
  | .inside => s.width
  | .center => satAddU32 s.width 1 / 2
  | .outside => 0

/-- `is_transparent`. -/
def isTransparent (s : Style) : Bool :=
  (s.stroke.isNone || s.width == 0) && s.fill.isNone

/-- `effective_stroke_color`: `stroke_color.filter(|_| stroke_width > 0)`. -/
def effectiveStrokeColor (s : Style) : Option Color :=
  s.stroke.filter (fun _ => decide (s.width > 0))

/-- The offset handed to `OffsetOutline::offset` by `stroke_area` (and by every
`styled_bounding_box`): `outside_stroke_width().saturating_as::<i32>()`. -/
def strokeOffset (s : Style) : Int := satAsI32 s.outsideStrokeWidth

/-- The offset handed to `OffsetOutline::offset` by `fill_area` (solid stroke):
`-inside_stroke_width().saturating_as::<i32>()`. -/
def fillOffset (s : Style) : Int := -(satAsI32 s.insideStrokeWidth)

end Style
end EG
