/-
  EG.Model.ThickPolyline — styled polylines with a stroke: bounding box, `draw`, `pixels()`.
  Source: src/primitives/polyline/styled.rs (`untranslated_bounding_box`, `draw_thick`,
          `StyledPixelsIterator`, `draw_styled`, `styled_bounding_box`),
          src/primitives/polyline/scanline_iterator.rs (`ScanlineIterator`),
          src/primitives/polyline/scanline_intersections.rs (`ScanlineIntersections`),
          src/primitives/polyline/mod.rs (`Dimensions::bounding_box`).
  The style is `PrimitiveStyle::with_stroke(colour, width)` (polylines have no fill; the stroke
  alignment is ignored by `ThickSegmentIter::new`); the colour is not part of the model.
  Outer `none` = a loop bound of `Line::extents` or a step budget of the scanline iterators was
  exceeded ("stuck"); it never happens: `styledBoundingBox_total`, `drawStyled_total`,
  `pixels_total` (EG/Lemmas/JoinsTotalPoly.lean), for every polyline and width.
-/
import EG.Model.ThickSegment
import EG.Model.Polyline
namespace EG
namespace Joins
open Thick (LineSide StrokeOffset)

/-- `Dimensions::bounding_box` of the (unstyled) `Polyline`. -/
def polylineBoundingBox (pl : Polyline) : Rect :=
  match pl.vertices with
  | [] => Rect.zero
  | [v] => ⟨v, Sz.zero⟩
  | vs =>
    let tl := vs.foldl (fun (acc : Pt) v => ⟨min acc.x (v + pl.translate).x, min acc.y (v + pl.translate).y⟩)
      (⟨2147483647, 2147483647⟩ : Pt)
    let br := vs.foldl (fun (acc : Pt) v => ⟨max acc.x (v + pl.translate).x, max acc.y (v + pl.translate).y⟩)
      (⟨-2147483648, -2147483648⟩ : Pt)
    Rect.withCorners tl br

/-- `untranslated_bounding_box(primitive, style)` for a style with a stroke colour. -/
def untranslatedBoundingBox (pl : Polyline) (width : Nat) : Option Rect :=
  if width > 0 ∧ pl.vertices.length > 1 then do
    let it ← ThickSegmentIter.new pl.vertices width
    let segs ← it.toList
    pure (foldEdgeBoxes segs)
  else some ⟨(polylineBoundingBox pl).center, Sz.zero⟩

/-- `StyledDimensions::styled_bounding_box`. -/
def styledBoundingBox (pl : Polyline) (width : Nat) : Option Rect := do
  let r ← untranslatedBoundingBox pl width
  pure (r.translate pl.translate)

/-! ### `polyline::scanline_intersections::ScanlineIntersections` -/

/-- `ScanlineIntersections { points, remaining_points, next_start_join, width, scanline }`. -/
structure PolyIntersections where
  points : List Pt
  remainingPoints : List Pt
  nextStartJoin : Option LineJoin
  width : Nat
  scanline : Scanline
  deriving Repr

namespace PolyIntersections

/-- `ScanlineIntersections::new`. -/
def new (points : List Pt) (width : Nat) (scanlineY : Int) : Option PolyIntersections := do
  let nextStartJoin ← match points with
    | first :: second :: _ => (LineJoin.start first second width .none).map some
    | _ => some none
  pure { points, remainingPoints := points, nextStartJoin, width, scanline := Scanline.newEmpty scanlineY }

/-- `ScanlineIntersections::empty` (`EMPTY` is three zero points). -/
def empty : PolyIntersections :=
  ⟨[Pt.zero, Pt.zero, Pt.zero], [Pt.zero, Pt.zero, Pt.zero], none, 0, Scanline.newEmpty 0⟩

/-- `reset_with_new_scanline`. -/
def resetWithNewScanline (it : PolyIntersections) (scanlineY : Int) : Option PolyIntersections :=
  new it.points it.width scanlineY

/-- `next_segment`. -/
def nextSegment (it : PolyIntersections) : Option (Option (ThickSegment × PolyIntersections)) :=
  match it.nextStartJoin with
  | none => some none
  | some startJoin =>
    let endJoin? : Option (Option LineJoin) :=
      match it.remainingPoints with
      | start :: mid :: stop :: _ => (LineJoin.fromPoints start mid stop it.width .none).map some
      | [start, stop] => (LineJoin.stop start stop it.width .none).map some
      | _ => some none
    match endJoin? with
    | none => none
    | some none => some none
    | some (some endJoin) =>
      -- `self.remaining_points.get(1..)?` (at least two points remain here)
      some (some (⟨startJoin, endJoin⟩,
        { it with remainingPoints := it.remainingPoints.tail, nextStartJoin := some endJoin }))

/-- `Iterator::next`: the `while let Some(segment) = self.next_segment()` loop (one iteration per
remaining segment; `fuel` bounds it). -/
def nextFuel : Nat → PolyIntersections → Option (Option Scanline × PolyIntersections)
  | 0, _ => none
  | fuel + 1, it =>
    match it.nextSegment with
    | none => none
    | some none =>
      -- No more segments - return the final accumulated line.
      let (r, sc) := it.scanline.tryTake
      some (r, { it with scanline := sc })
    | some (some (segment, it)) =>
      let nextScanline := segment.intersection it.scanline.y
      let (extended, sc) := it.scanline.tryExtend nextScanline
      if !extended then some (some it.scanline, { it with scanline := nextScanline })
      else nextFuel fuel { it with scanline := sc }

def next (it : PolyIntersections) : Option (Option Scanline × PolyIntersections) :=
  it.nextFuel (it.remainingPoints.length + 1)

end PolyIntersections

/-! ### `polyline::scanline_iterator::ScanlineIterator` -/

/-- `ScanlineIterator { rows, scanline_y, intersections }`. -/
structure PolyScanlines where
  rowsStart : Int
  rowsEnd : Int
  scanlineY : Int
  intersections : PolyIntersections
  deriving Repr

namespace PolyScanlines

/-- `ScanlineIterator::empty`. -/
def empty : PolyScanlines := ⟨0, 0, 0, PolyIntersections.empty⟩

/-- `ScanlineIterator::new(primitive, style)` (`debug_assert!(stroke_width > 1)` is the caller's
business: both callers check the width first). -/
def new (pl : Polyline) (width : Nat) : Option PolyScanlines := do
  let bb ← untranslatedBoundingBox pl width
  let rowsStart := bb.tl.y
  let rowsEnd := bb.rowsEnd
  if rowsStart < rowsEnd then
    let intersections ← PolyIntersections.new pl.vertices width rowsStart
    pure ⟨rowsStart + 1, rowsEnd, rowsStart, intersections⟩
  else pure empty

/-- `Iterator::next`: the `loop`; every iteration either consumes a segment group of the current
row or moves to the next row, `fuel` bounds their number. -/
def nextFuel : Nat → PolyScanlines → Option (Option (Scanline × PolyScanlines))
  | 0, _ => none
  | fuel + 1, it =>
    match it.intersections.next with
    | none => none
    | some (some nxt, ints) =>
      let it := { it with intersections := ints }
      if !nxt.isEmpty then some (some (nxt, it)) else nextFuel fuel it
    | some (none, ints) =>
      let it := { it with intersections := ints }
      if it.rowsStart < it.rowsEnd then
        let y := it.rowsStart
        match it.intersections.resetWithNewScanline y with
        | none => none
        | some ints => nextFuel fuel { it with rowsStart := y + 1, scanlineY := y, intersections := ints }
      else some none

/-- Step bound of one `next` call: per remaining row at most one step per segment plus two. -/
def stepBudget (it : PolyScanlines) : Nat :=
  ((it.rowsEnd - it.rowsStart).toNat + 2) * (it.intersections.points.length + 3)

def next (it : PolyScanlines) : Option (Option (Scanline × PolyScanlines)) :=
  it.nextFuel it.stepBudget

/-- What a `for` loop over the iterator sees. -/
def toListFuel : Nat → PolyScanlines → Option (List Scanline)
  | 0, _ => some []
  | fuel + 1, it => do
    match ← it.next with
    | none => pure []
    | some (s, it') =>
      let rest ← toListFuel fuel it'
      pure (s :: rest)

def toList (it : PolyScanlines) : Option (List Scanline) := it.toListFuel it.stepBudget

end PolyScanlines

/-- The rectangles of the `fill_solid` calls of `draw_thick` on the target it is given (i.e. in
untranslated coordinates). -/
def drawThickRects (pl : Polyline) (width : Nat) : Option (List Rect) := do
  let it ← PolyScanlines.new pl width
  let lines ← it.toList
  pure ((lines.map Scanline.toRectangle).filter (fun r => !r.isZeroSized))

/-- What `draw_styled` does for a style with a stroke colour. -/
inductive PolyDraw
  | nothing                       -- width 0
  | drawIter (pts : List Pt)      -- width 1: one `draw_iter` call with `points()`
  | fillSolids (rs : List Rect)   -- width > 1: one `fill_solid` per rectangle, in order
  deriving Repr

/-- `StyledDrawable::draw_styled` for `PrimitiveStyle::with_stroke(c, width)`: for widths above 1
`draw_thick` runs on `target.translated(self.translate)` when the translation is non-zero
(`Translated::fill_solid` moves the area by the offset) and on the target itself otherwise. -/
def drawStyled (pl : Polyline) (width : Nat) : Option PolyDraw :=
  match width with
  | 0 => some .nothing
  | 1 => some (.drawIter (Polyline.points pl))
  | _ => do
    let rs ← drawThickRects pl width
    if pl.translate ≠ Pt.zero then pure (.fillSolids (rs.map (fun r => r.translate pl.translate)))
    else pure (.fillSolids rs)

/-! ### `polyline::styled::StyledPixelsIterator` (the `Thick` arm) -/

/-- `StyledIter::Thick { scanline_iter, line_iter, translate }`. -/
structure PolyThickPixels where
  scanlineIter : PolyScanlines
  lineIter : Scanline
  translate : Pt
  deriving Repr

namespace PolyThickPixels

/-- The `else` arm of `StyledPixelsIterator::new`. -/
def new (pl : Polyline) (width : Nat) : Option PolyThickPixels := do
  let scanlineIter ← PolyScanlines.new pl width
  match ← scanlineIter.next with
  | some (lineIter, scanlineIter) => pure ⟨scanlineIter, lineIter, pl.translate⟩
  | none => pure ⟨scanlineIter, Scanline.newEmpty 0, pl.translate⟩

/-- `Iterator::next` (the stroke colour is present). -/
def next (it : PolyThickPixels) : Option (Option (Pt × PolyThickPixels)) :=
  match it.lineIter.next with
  | some (p, li) => some (some (p + it.translate, { it with lineIter := li }))
  | none => do
    match ← it.scanlineIter.next with
    | none => pure none
    | some (li, si) =>
      let it := { it with scanlineIter := si, lineIter := li }
      match li.next with
      | some (p, li) => pure (some (p + it.translate, { it with lineIter := li }))
      | none => pure none

def toListFuel : Nat → PolyThickPixels → Option (List Pt)
  | 0, _ => some []
  | fuel + 1, it => do
    match ← it.next with
    | none => pure []
    | some (p, it') =>
      let rest ← toListFuel fuel it'
      pure (p :: rest)

end PolyThickPixels

/-- Fuel for draining `pixels()` of a polyline of width > 1 in the model (one unit per pixel, one to
see the final `None`): the total length of the scanlines a `for` loop over a fresh `ScanlineIterator`
sees. Every pixel of `pixels()` is a point of one of those scanlines, so the fuel is never used up
(`C01Thick.pixels_eq_run`, EG/Lemmas/JoinsTotalPoly.lean: `pixels` is the COMPLETE pixel run). -/
def polyPixelFuel (pl : Polyline) (width : Nat) : Option Nat := do
  let si ← PolyScanlines.new pl width
  let lines ← si.toList
  pure ((lines.map (fun s => (s.xe - s.xs).toNat)).sum + 1)

/-- The points of `polyline.into_styled(PrimitiveStyle::with_stroke(c, width)).pixels()` in emission
order. Width 0: `effective_stroke_color()` is `None`; width 1: `points()`. -/
def pixels (pl : Polyline) (width : Nat) : Option (List Pt) :=
  match width with
  | 0 => some []
  | 1 => some (Polyline.points pl)
  | _ => do
    let fuel ← polyPixelFuel pl width
    let it ← PolyThickPixels.new pl width
    it.toListFuel fuel

end Joins
end EG
