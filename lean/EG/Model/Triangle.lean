/-
  EG.Model.Triangle — the `Triangle` primitive, arm for arm, as the code is NOW (after the `fix:`
  commits e184c3d `contains` and 7cb80e4 `pixels()`).
  Source: src/primitives/triangle/mod.rs                      (`new`, `bounding_box`, `area_doubled`,
            `sorted_yx`, `sort_two_yx`, `sorted_clockwise`, `contains`, `scanline_intersection`,
            `translate`),
          src/primitives/triangle/scanline_intersections.rs   (`ScanlineIntersections`, `LineConfig`,
            `edge_intersections`, `generate_lines`),
          src/primitives/triangle/scanline_iterator.rs        (`ScanlineIterator`),
          src/primitives/triangle/points.rs                   (`Points`),
          src/primitives/triangle/styled.rs                   (`StyledPixelsIterator`),
          src/primitives/common/scanline.rs                   (via EG.Model.Scanline).

  Scope of the scanline machinery. `ScanlineIntersections::new` computes
  `is_collapsed = triangle.is_collapsed(w, offset) && offset == StrokeOffset::Right`; the model
  covers `StrokeOffset::None` (what `Points::new` passes, and what `StrokeAlignment::Center`, the
  default of `PrimitiveStyle::with_stroke`, maps to), where the conjunction is `false`; the
  collapsed arm of `generate_lines` is modelled but not reached from `new`.
  `edge_intersections` intersects each of the three `ThickSegment`s (built from two
  `LineJoin::from_points`) with the scanline. The join/thick-segment code belongs to the thick-line
  topic; here `ThickSegment::intersection` is the parameter `seg : Nat → Int → Scanline` (edge index,
  scanline y). Two instances are used:
    * stroke width 0 (`Points`, fill-only): `edge_intersections` returns `None` before looking at
      any segment, `seg` is irrelevant;
    * stroke width 1: `Line::extents(1, None)` returns the line itself twice, both intersections in
      `LineJoin::from_points(a, m, b, 1, _)` are lines through `m` and every arm (miter, degenerate,
      colinear) gives four corners equal to `m`; hence `is_skeleton()` holds and
      `ThickSegment::intersection` is `bresenham_intersection(Line(v[idx+1], v[idx+2]))`
      (`skeletonSeg`). This reading of the join code is proved on the join model, for `i32`
      vertices (`EG.C19.Joins.skeleton_seg_is_join_code`, Props/C19/Joins.lean), and tied by the
      `tri.outline` correspondence stream (pixel sequence of `pixels()` for stroke width 1).
  Other widths are not modelled here. EG.Model.ThickTriangle transcribes the same iterators with the
  join code inlined, for every width; it lives in the namespace `EG.Joins` and declares its own `Tri`,
  `PointType`, `LineConfig` (same short names, different types: a file that imports both qualifies
  them). At width 1 the two models yield the same pixels (`EG.aligned_outline_models_agree`,
  EG/Lemmas/TriModelsAgree.lean).

  `Int` for `i32`; plain `+ - *` are mathematical (the products in `contains` / `area_doubled`
  overflow `i32` for coordinates beyond a few thousand: property C08's topic).
-/
import EG.Model.Line
import EG.Model.Scanline
import EG.Model.TriEdge
namespace EG

/-- `Triangle { vertices: [Point; 3] }`. -/
structure Triangle where
  v1 : Pt
  v2 : Pt
  v3 : Pt
  deriving DecidableEq, Repr, Inhabited

/-- `common::PointType`. -/
inductive PointType | stroke | fill
  deriving DecidableEq, Repr, Inhabited

namespace Scanline
/-- `bresenham_intersection(&line)` with the line's own `points()`. -/
def bint (s : Scanline) (l : Line) : Scanline :=
  s.bresenhamIntersection l.start l.stop (Line.points l)
end Scanline

namespace Triangle

/-- `Triangle::new`. -/
def new (a b c : Pt) : Triangle := ⟨a, b, c⟩

/-- `self.vertices[i % 3]`. -/
def vertex (t : Triangle) (i : Nat) : Pt :=
  match i % 3 with
  | 0 => t.v1
  | 1 => t.v2
  | _ => t.v3

/-- `Transform::translate`. -/
def translate (t : Triangle) (by_ : Pt) : Triangle := ⟨t.v1 + by_, t.v2 + by_, t.v3 + by_⟩

/-- `Dimensions::bounding_box`. -/
def boundingBox (t : Triangle) : Rect :=
  let xMin := min (min t.v1.x t.v2.x) t.v3.x
  let yMin := min (min t.v1.y t.v2.y) t.v3.y
  let xMax := max (max t.v1.x t.v2.x) t.v3.x
  let yMax := max (max t.v1.y t.v2.y) t.v3.y
  Rect.withCorners ⟨xMin, yMin⟩ ⟨xMax, yMax⟩

/-- `area_doubled`. -/
def areaDoubled (t : Triangle) : Int :=
  -t.v2.y * t.v3.x + t.v1.y * (t.v3.x - t.v2.x) + t.v1.x * (t.v2.y - t.v3.y) + t.v2.x * t.v3.y

/-- The order of `sort_two_yx`: smaller y first, for equal y smaller x first. -/
def yxLt (p q : Pt) : Prop := p.y < q.y ∨ (p.y = q.y ∧ p.x < q.x)
instance (p q : Pt) : Decidable (yxLt p q) := by unfold yxLt; exact inferInstance

/-- `sort_two_yx`. -/
def sortTwoYx (p1 p2 : Pt) : Pt × Pt := if yxLt p1 p2 then (p1, p2) else (p2, p1)

/-- `sorted_yx`: the three-comparison sorting network of the source. -/
def sortedYx (t : Triangle) : Triangle :=
  let a := sortTwoYx t.v1 t.v2     -- (y1, y2)
  let b := sortTwoYx t.v3 a.1      -- (y1, y3)
  let c := sortTwoYx b.2 a.2       -- (y2, y3)
  ⟨b.1, c.1, c.2⟩

/-- `sorted_clockwise`. -/
def sortedClockwise (t : Triangle) : Triangle :=
  if t.areaDoubled < 0 then ⟨t.v2, t.v1, t.v3⟩
  else if t.areaDoubled > 0 then t
  else t.sortedYx

/-- The three Bresenham edge lines of the sorted triangle, in the order the code uses them
(`contains` and `scanline_intersection`): `p1 p2`, `p1 p3`, `p2 p3`. -/
def edgeLines (t : Triangle) : List Line :=
  let s := t.sortedYx
  [⟨s.v1, s.v2⟩, ⟨s.v1, s.v3⟩, ⟨s.v2, s.v3⟩]

/-- `Line(p1,p2).points().chain(Line(p1,p3).points()).chain(Line(p2,p3).points())`. -/
def edgePoints (t : Triangle) : List Pt := t.edgeLines.flatMap Line.points

/-- `s` of `contains`. -/
def baryS (t : Triangle) (p : Pt) : Int :=
  t.v1.y * t.v3.x - t.v1.x * t.v3.y + (t.v3.y - t.v1.y) * p.x + (t.v1.x - t.v3.x) * p.y

/-- `t` of `contains`. -/
def baryT (t : Triangle) (p : Pt) : Int :=
  t.v1.x * t.v2.y - t.v1.y * t.v2.x + (t.v1.y - t.v2.y) * p.x + (t.v2.x - t.v1.x) * p.y

/-- The final `if a < 0 { .. } else { .. }` of the `is_inside` block (reached for `a ≠ 0`). -/
def isInside (t : Triangle) (p : Pt) : Bool :=
  let s := t.baryS p
  let u := t.baryT p
  let a := t.areaDoubled
  if a < 0 then decide (s ≤ 0 ∧ u ≤ 0 ∧ s + u ≥ a) else decide (s ≥ 0 ∧ u ≥ 0 ∧ s + u ≤ a)

/-- `contains` with the chained edge points given (`contains t p = containsWith t t.edgePoints p`;
the driver evaluates the edge lines once per triangle instead of once per probed point). -/
def containsWith (t : Triangle) (edgePts : List Pt) (p : Pt) : Bool :=
  if !(t.boundingBox.contains p) then false
  else if t.areaDoubled = 0 then false
  else if t.isInside p then true
  else edgePts.any (fun q => q == p)

/-- `ContainsPoint::contains`. -/
def contains (t : Triangle) (p : Pt) : Bool := t.containsWith t.edgePoints p

/-- `scanline_intersection`. -/
def scanlineIntersection (t : Triangle) (y : Int) : Scanline :=
  let s := t.sortedYx
  let sc := Scanline.newEmpty y
  if t.areaDoubled = 0 then sc.bint ⟨s.v1, s.v3⟩
  else ((sc.bint ⟨s.v1, s.v2⟩).bint ⟨s.v1, s.v3⟩).bint ⟨s.v2, s.v3⟩

/-- `ThickSegment::intersection` of edge `idx` for stroke width 1 (see the file header): the
skeleton line from `vertices[(idx+1) % 3]` to `vertices[(idx+2) % 3]`. -/
def skeletonSeg (t : Triangle) (idx : Nat) (y : Int) : Scanline :=
  (Scanline.newEmpty y).bint ⟨t.vertex (idx + 1), t.vertex (idx + 2)⟩

end Triangle

/-! ## `ScanlineIntersections` -/

/-- `LineConfig`. -/
structure LineConfig where
  first : Scanline
  second : Scanline
  internal : Scanline
  internalType : PointType
  deriving DecidableEq, Repr, Inhabited

/-- `ScanlineIntersections` (stroke offset `None`; `seg` = `ThickSegment::intersection` per edge). -/
structure ScanlineIntersections where
  lines : LineConfig
  triangle : Triangle
  strokeWidth : Nat
  hasFill : Bool
  isCollapsed : Bool
  deriving DecidableEq, Repr

namespace ScanlineIntersections

/-- `ThickSegment::intersection` per edge for the covered stroke widths (0: never consulted). -/
def seg (it : ScanlineIntersections) (y : Int) (idx : Nat) : Scanline :=
  it.triangle.skeletonSeg idx y

/-- `generate_lines` (always `Some`). -/
def generateLines (it : ScanlineIntersections) (y : Int) : LineConfig :=
  if it.isCollapsed then
    { internal := it.triangle.scanlineIntersection y
      internalType := .stroke
      first := Scanline.newEmpty 0
      second := Scanline.newEmpty 0 }
  else
    let e0 : EdgeIt := ⟨0, Scanline.newEmpty y, Scanline.newEmpty y⟩
    let r1 := e0.next it.strokeWidth (it.seg y) y
    let r2 := r1.2.next it.strokeWidth (it.seg y) y
    let first := r1.1
    let second := r2.1
    let internal :=
      if it.hasFill then
        match first, second with
        | some f, some s => (⟨y, min f.xe s.xe, max f.xs s.xs⟩ : Scanline)
        | none, none => it.triangle.scanlineIntersection y
        | _, _ => Scanline.newEmpty y
      else Scanline.newEmpty y
    { first := first.getD (Scanline.newEmpty y)
      second := second.getD (Scanline.newEmpty y)
      internal := internal
      internalType := .fill }

/-- `empty()`. -/
def empty : ScanlineIntersections :=
  { lines := ⟨Scanline.newEmpty 0, Scanline.newEmpty 0, Scanline.newEmpty 0, .fill⟩
    hasFill := false
    triangle := ⟨Pt.zero, Pt.zero, Pt.zero⟩
    strokeWidth := 0
    isCollapsed := false }

/-- `reset_with_new_scanline`. -/
def reset (it : ScanlineIntersections) (y : Int) : ScanlineIntersections :=
  { it with lines := it.generateLines y }

/-- `new` for stroke offset `None` (`is_collapsed(..) && stroke_offset == Right` is `false`). -/
def new (t : Triangle) (strokeWidth : Nat) (hasFill : Bool) (y : Int) : ScanlineIntersections :=
  ({ empty with hasFill := hasFill, triangle := t, strokeWidth := strokeWidth,
                isCollapsed := false } : ScanlineIntersections).reset y

/-- `Iterator::next`: internal, then first, then second. -/
def next (it : ScanlineIntersections) : Option (Scanline × PointType) × ScanlineIntersections :=
  let i := it.lines.internal.tryTake
  match i.1 with
  | some s => (some (s, it.lines.internalType), { it with lines := { it.lines with internal := i.2 } })
  | none =>
    let f := it.lines.first.tryTake
    match f.1 with
    | some s => (some (s, .stroke), { it with lines := { it.lines with first := f.2 } })
    | none =>
      let g := it.lines.second.tryTake
      match g.1 with
      | some s => (some (s, .stroke), { it with lines := { it.lines with second := g.2 } })
      | none => (none, it)

end ScanlineIntersections

/-! ## `ScanlineIterator` -/

/-- `ScanlineIterator { rows, scanline_y, intersections }`. -/
structure ScanlineIterator where
  rowsStart : Int
  rowsEnd : Int
  scanlineY : Int
  intersections : ScanlineIntersections
  deriving DecidableEq, Repr

namespace ScanlineIterator

/-- `empty()`. -/
def empty : ScanlineIterator := ⟨0, 0, 0, ScanlineIntersections.empty⟩

/-- `new` (stroke offset `None`). The triangle is `sorted_clockwise()` first. -/
def new (t : Triangle) (strokeWidth : Nat) (hasFill : Bool) (bb : Rect) : ScanlineIterator :=
  let t := t.sortedClockwise
  let rs := bb.tl.y
  let re := bb.rowsEnd
  if rs < re then
    ⟨rs + 1, re, rs, ScanlineIntersections.new t strokeWidth hasFill rs⟩
  else empty

/-- `Iterator::next` (not fused: an empty row gives `None`, a later call goes on). -/
def next (it : ScanlineIterator) : Option (Scanline × PointType) × ScanlineIterator :=
  let r := it.intersections.next
  match r.1 with
  | some x => (some x, { it with intersections := r.2 })
  | none =>
    if it.rowsStart < it.rowsEnd then
      let y := it.rowsStart
      let r2 := (r.2.reset y).next
      (r2.1, { it with rowsStart := y + 1, scanlineY := y, intersections := r2.2 })
    else (none, { it with intersections := r.2 })

end ScanlineIterator

/-! ## `triangle::Points` -/

namespace Triangle

/-- `Points { scanline_iter, current_line }`. -/
structure PointsIt where
  scanlineIter : ScanlineIterator
  currentLine : Scanline
  deriving DecidableEq, Repr

/-- `Points::new`. -/
def pointsIt (t : Triangle) : PointsIt :=
  ⟨ScanlineIterator.new t 0 true t.boundingBox, Scanline.newEmpty 0⟩

/-- `Iterator::next`. -/
def PointsIt.next (it : PointsIt) : Option (Pt × PointsIt) :=
  match it.currentLine.next with
  | some (p, cl) => some (p, { it with currentLine := cl })
  | none =>
    let r := it.scanlineIter.next
    match r.1 with
    | none => none
    | some (l, _) =>
      match l.next with
      | some (p, cl) => some (p, ⟨r.2, cl⟩)
      | none => none

def PointsIt.toListFuel : Nat → PointsIt → List Pt
  | 0, _ => []
  | fuel + 1, it =>
    match it.next with
    | some (p, it') => p :: toListFuel fuel it'
    | none => []

/-- Step budget: every point lies in the bounding box and no point is repeated. -/
def pointsBudget (t : Triangle) : Nat := t.boundingBox.size.w * t.boundingBox.size.h + 1

/-- What a `for` loop over `triangle.points()` sees. -/
def points (t : Triangle) : List Pt := (pointsIt t).toListFuel (pointsBudget t)

end Triangle

/-! ## `triangle::StyledPixelsIterator` (for the one-pixel outline) -/

/-- `StyledPixelsIterator<C>` (colours as numbers). -/
structure TriPixelsIt where
  linesIter : ScanlineIterator
  currentLine : Scanline
  currentColor : Option Nat
  fillColor : Option Nat
  strokeColor : Option Nat
  deriving DecidableEq, Repr

namespace TriPixelsIt

/-- `StyledPixelsIterator::new` for stroke width `< 2` (then `styled_bounding_box` is
`bounding_box`) and stroke offset `None`; `strokeColor` is `effective_stroke_color()`. -/
def new (t : Triangle) (strokeWidth : Nat) (strokeColor fillColor : Option Nat) : TriPixelsIt :=
  let li := ScanlineIterator.new t strokeWidth fillColor.isSome t.boundingBox
  let r := li.next
  let first := r.1.getD (Scanline.newEmpty 0, .stroke)
  { linesIter := r.2
    currentLine := first.1
    currentColor := match first.2 with
      | .stroke => strokeColor
      | .fill => fillColor
    fillColor := fillColor
    strokeColor := strokeColor }

/-- `Iterator::next`; the `loop` fetches a new scanline per round, `fuel` bounds the rounds. -/
def nextFuel : Nat → TriPixelsIt → Option ((Pt × Nat) × TriPixelsIt)
  | 0, _ => none
  | fuel + 1, it =>
    let hit : Option ((Pt × Nat) × TriPixelsIt) :=
      match it.currentColor with
      | some color =>
        match it.currentLine.next with
        | some (p, cl) => some ((p, color), { it with currentLine := cl })
        | none => none
      | none => none
    match hit with
    | some r => some r
    | none =>
      let r := it.linesIter.next
      match r.1 with
      | none => none
      | some (l, ty) =>
        nextFuel fuel { it with linesIter := r.2, currentLine := l,
                                currentColor := match ty with
                                  | .stroke => it.strokeColor
                                  | .fill => it.fillColor }

/-- Rounds of the loop: at most three scanline pieces per remaining row, plus the current ones. -/
def loopBudget (it : TriPixelsIt) : Nat :=
  3 * (it.linesIter.rowsEnd - it.linesIter.rowsStart).toNat + 5

def next (it : TriPixelsIt) : Option ((Pt × Nat) × TriPixelsIt) := it.nextFuel it.loopBudget

def toListFuel : Nat → TriPixelsIt → List (Pt × Nat)
  | 0, _ => []
  | fuel + 1, it =>
    match it.next with
    | some (p, it') => p :: toListFuel fuel it'
    | none => []

end TriPixelsIt

namespace Triangle

/-- `into_styled(PrimitiveStyle::with_stroke(c, 1)).pixels()` collected: every row contributes at
most its two stroke pieces, each inside the bounding box. -/
def outlinePixels (t : Triangle) (c : Nat) : List (Pt × Nat) :=
  (TriPixelsIt.new t 1 (some c) none).toListFuel
    (2 * t.boundingBox.size.w * t.boundingBox.size.h + 1)

end Triangle
end EG
