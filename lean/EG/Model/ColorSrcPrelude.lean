/-
  EG.Model.ColorSrcPrelude — the meaning of every Rust primitive that the GENERATED file
  EG/Generated/ColorSrc.lean (written by tools/tr_colorsrc.py from the Rust text of
  core/src/pixelcolor/{conversion,rgb_color,gray_color,binary_color,mod}.rs) calls.

  TRUSTED BASE. The translator is syntax-directed and knows no semantics: `a << b` with `a : u32` becomes
  `int_shl 32 a b`, `x as u8` becomes `int_as 8 x`, `self.0` becomes `newtype_0 self`, and so on. Each such name
  is defined HERE, in one line. Conventions:

  * Every unsigned integer type is `Nat`; the operations that depend on the width of the type take the width (in
    bits) as their first argument: `u8` = 8, `u16` = 16, `u32` = 32, `usize` = `usize_bits` = 64, and the macro
    parameter `$storage_type` of `impl_rgb_color!` = `T.storageBits` of the colour's `ColorSpec`.
  * `+`, `-`, `*` WRAP modulo 2^width (what a release build computes; a debug build panics instead, and a `const`
    evaluation is a compile error). That no wrap happens on the inputs the library can produce is a THEOREM about
    the generated functions (C13 `Generated.lean`: `convert_channel_src_no_wrap`, `luma_src_no_wrap`), not an assumption of
    this file. `/` is `Nat` division (`x / 0 = 0`; the real code panics: excluded by hypothesis where it matters).
  * `<<` drops the bits shifted out of the type (Rust never panics for those) and is exact for a shift amount
    below the width; a shift amount >= width (panic in a debug build) does not occur: amounts are bit positions
    inside the type, checked by `ColorSpec.WellFormed` (C12). `>>`, `&`, `|` are the `Nat` operations.
  * `as` to an unsigned type of `w` bits is `% 2^w` (truncating when narrowing, the identity on values of a
    narrower type). `u16::from(x)` (lossless) is the identity.
  * A tuple struct with one field (`Rgb565(u16)`, `Gray4(RawU4)`, `RawU4(u8)`) IS its field: `newtype_mk`,
    `newtype_0`, `Raw_into_inner` are identities (the representation chosen in EG/Model/Color.lean).
    `Raw_new T v` is `RawUx::new(v)` of the raw type of `T` = the hand model's `T.rawNew v` (the raw layer has its
    own model and translator part; it is not regenerated here).
  * `BinaryColor::Off` = 0, `BinaryColor::On` = 1 (EG/Model/Color.lean); a `match` on a `BinaryColor` becomes a
    chain of `BinaryColor_is` tests in the order of the arms.
  * `type_named "Rgb888"` is the `ColorSpec` of the generated colour table with that name (the type a concrete
    type name in a macro body denotes); `same_type A B` is type identity (names are unique in the table:
    `Conv.names_unique` of EG/Lemmas/ColorConvLift.lean). `X::from(y)` with `y : X` is core's reflexive
    `impl<T> From<T> for T` (the identity), which the generated dispatchers `From_*` select with `same_type`.

  Every definition is an `abbrev` (see the note in RectSrcPrelude.lean).
-/
import EG.Generated.ColorTable
namespace EG.ColorSrcPrelude
open EG EG.Generated

/-- width of `usize` assumed (only `(1usize << bits) - 1` with `bits <= 8` depends on it, and not for any width >= 16) -/
abbrev usize_bits : Nat := 64

abbrev int_as (w v : Nat) : Nat := v % 2 ^ w
abbrev int_from (v : Nat) : Nat := v
abbrev int_add (w a b : Nat) : Nat := (a + b) % 2 ^ w
abbrev int_sub (w a b : Nat) : Nat := (a + 2 ^ w - b) % 2 ^ w
abbrev int_mul (w a b : Nat) : Nat := (a * b) % 2 ^ w
abbrev int_div (a b : Nat) : Nat := a / b
abbrev int_shl (w a b : Nat) : Nat := (a <<< b) % 2 ^ w
abbrev int_shr (a b : Nat) : Nat := a >>> b
abbrev int_and (a b : Nat) : Nat := a &&& b
abbrev int_or (a b : Nat) : Nat := a ||| b
abbrev int_eq (a b : Nat) : Bool := decide (a = b)
abbrev int_ne (a b : Nat) : Bool := decide (a ≠ b)
abbrev int_lt (a b : Nat) : Bool := decide (a < b)
abbrev int_le (a b : Nat) : Bool := decide (a ≤ b)
abbrev int_gt (a b : Nat) : Bool := decide (a > b)
abbrev int_ge (a b : Nat) : Bool := decide (a ≥ b)

abbrev newtype_mk (v : Nat) : Nat := v
abbrev newtype_0 (v : Nat) : Nat := v
abbrev Raw_new (T : ColorSpec) (v : Nat) : Nat := T.rawNew v
abbrev Raw_into_inner (v : Nat) : Nat := v
abbrev Raw_BITS_PER_PIXEL (T : ColorSpec) : Nat := T.rawBpp

abbrev BinaryColor_Off : Nat := 0
abbrev BinaryColor_On : Nat := 1
abbrev BinaryColor_is (c v : Nat) : Bool := decide (c = v)

/-- a record no colour type has (the value of `type_named` for an unknown name) -/
abbrev no_type : ColorSpec :=
  { name := "", kind := .binary, rawName := "", rawBpp := 0, rawStorageBits := 0, nbytes := 0, beLo := 0, beHi := 0,
    leLo := 0, leHi := 0, storageBits := 0, rbits := 0, gbits := 0, bbits := 0, rpos := 0, gpos := 0, bpos := 0 }
abbrev type_named (n : String) : ColorSpec := (colorTable.find? (fun s => s.name == n)).getD no_type
abbrev same_type (A B : ColorSpec) : Bool := A.name == B.name

end EG.ColorSrcPrelude
