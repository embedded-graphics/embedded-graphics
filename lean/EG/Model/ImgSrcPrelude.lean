/-
  EG.Model.ImgSrcPrelude — the meaning of every Rust primitive that the GENERATED files EG/Generated/ImgSrc.lean and
  EG/Generated/FbReadSrc.lean (written by tools/tr_imgsrc.py from /repo's src/image/{image_raw,sub_image,mod}.rs and the
  read path of src/framebuffer.rs) call, beyond those of EG/Model/RawSrcPrelude.lean (`usize_*`, `u32_sub`, `bool_*`,
  `slice_*`, `Point_x/y`, `i32_as_usize`, `option_map`), which the generated files open as well.

  TRUSTED BASE. Conventions (the same as RawSrcPrelude / RectSrcPrelude):
  * unsigned integers are `Nat`, signed ones `Int`; plain `+ - * /` are the mathematical operations (`-` on unsigned
    truncated at 0; a checked build panics where the result does not fit: C08's topic). EXPLICIT conversions are exact:
    `usize as u32` and `i64 as u32` wrap modulo 2^32, `u32 as i32` wraps into the negatives above `i32::MAX`,
    `i32 as u32` is the two's complement, `u32 as usize` is the identity (`usize` has at least 32 bits),
    `u64::from` / `i64::from` are the identity (widening), `i32::checked_add` is `none` outside `i32`.
    `u64 + u64` of two widened `u32`s and the `i64` sums of a widened `i32` and `u32` cannot leave their type.
  * `.unwrap()` on a `Result`: `none` = the panic. A function that may panic yields an `Option`; a method called on
    such a value is `panic_bind`.
  * a colour IS its raw value in these models (colour <-> raw: C12, Props/C09/Colours.lean): `raw.into()` is the identity.
  * A value of a type `T: ImageDrawable` is the dictionary of its three trait methods (`ImageDrawableT`); its
    `bounding_box()` is the blanket `impl<T: OriginDimensions> Dimensions for T` (box at the origin of that size;
    regenerated and proved in AdaptSrc / Props/C03).
  * A target `D: DrawTarget` (`DrawTargetD`) is what a call made on it turns into at the ROOT display; the root display
    is the identity, `display.translated(offset)` composes with the hand model's `translatedCall` (the four
    forwarding methods of `Translated`, regenerated and proved in AdaptSrc / Props/C03). A function returning
    `Result<(), D::Error>` yields the list of calls that reach the root display (`Ok(())` without a call: none).
  * an iterator struct handed to `fill_contiguous` is the list its generated `next` yields until the first `None`, on
    explicit fuel (`iter_collect_fuel`; the theorems say which fuel suffices).

  Every definition is an `abbrev` (see the note in RectSrcPrelude.lean) except the recursive `iter_collect_fuel`.
-/
import EG.Model.ImageRaw
namespace EG.ImgSrcPrelude
open EG

abbrev Size_width (s : Sz) : Nat := s.w
abbrev Size_height (s : Sz) : Nat := s.h
abbrev Rectangle_top_left (r : Rect) : Pt := r.tl
abbrev Rectangle_size (r : Rect) : Sz := r.size

abbrev u32_mul (a b : Nat) : Nat := a * b
abbrev u32_div (a b : Nat) : Nat := a / b
abbrev u32_gt (a b : Nat) : Bool := decide (a > b)
abbrev u32_eq (a b : Nat) : Bool := decide (a = b)
abbrev u32_as_usize (a : Nat) : Nat := a
abbrev usize_as_u32 (a : Nat) : Nat := a % 4294967296
abbrev u32_as_i32 (a : Nat) : Int := if a ≤ 2147483647 then (a : Int) else (a : Int) - 4294967296
abbrev i32_as_u32 (a : Int) : Nat := (a % 4294967296).toNat

abbrev i32_lt (a b : Int) : Bool := decide (a < b)
abbrev i32_ge (a b : Int) : Bool := decide (a ≥ b)
abbrev i32_max (a b : Int) : Int := max a b
abbrev i32_neg (a : Int) : Int := -a
abbrev i32_checked_add (a b : Int) : Option Int :=
  if -2147483648 ≤ a + b ∧ a + b ≤ 2147483647 then some (a + b) else none

abbrev u64_from_u32 (a : Nat) : Nat := a
abbrev u64_add (a b : Nat) : Nat := a + b
abbrev u64_gt (a b : Nat) : Bool := decide (a > b)

abbrev i64_from_i32 (a : Int) : Int := a
abbrev i64_from_u32 (a : Nat) : Int := (a : Int)
abbrev i64_add (a b : Int) : Int := a + b
abbrev i64_sub (a b : Int) : Int := a - b
abbrev i64_min (a b : Int) : Int := min a b
abbrev i64_max (a b : Int) : Int := max a b
abbrev i64_as_u32 (a : Int) : Nat := (a % 4294967296).toNat

abbrev result_unwrap {ε α : Type} (r : Except ε α) : Option α :=
  match r with
  | .ok a => some a
  | .error _ => none
abbrev panic_bind {α β : Type} (o : Option α) (f : α → β) : Option β :=
  match o with
  | some a => some (f a)
  | none => none
abbrev raw_into_color (r : Nat) : Nat := r

/-- The items a consumer sees from an iterator given by its `next` (value, updated state), on explicit fuel. -/
def iter_collect_fuel {σ α : Type} (next : σ → Option α × σ) : Nat → σ → List α
  | 0, _ => []
  | fuel + 1, s =>
    match next s with
    | (some a, s') => a :: iter_collect_fuel next fuel s'
    | (none, _) => []

abbrev DrawTargetD := Call → Call
abbrev DrawTargetD_ok : List Call := []
abbrev DrawTargetD_fill_contiguous (t : DrawTargetD) (area : Rect) (colors : List Nat) : List Call :=
  [t (Call.fillContiguous area colors)]
abbrev DrawTargetD_translated (t : DrawTargetD) (offset : Pt) : DrawTargetD := fun c => t (Img.translatedCall offset c)

structure ImageDrawableT where
  size : Sz
  draw : DrawTargetD → List Call
  draw_sub_image : DrawTargetD → Rect → List Call

abbrev ImageDrawableT_size (t : ImageDrawableT) : Sz := t.size
abbrev ImageDrawableT_draw (t : ImageDrawableT) (d : DrawTargetD) : List Call := t.draw d
abbrev ImageDrawableT_draw_sub_image (t : ImageDrawableT) (d : DrawTargetD) (area : Rect) : List Call := t.draw_sub_image d area
abbrev ImageDrawableT_bounding_box (t : ImageDrawableT) : Rect := ⟨Pt.zero, t.size⟩
abbrev OriginDimensions_bounding_box (s : Sz) : Rect := ⟨Pt.zero, s⟩

end EG.ImgSrcPrelude
