/-
  EG.Model.ThickLine — `ParallelsIterator`, `ThickPoints`, `line::StyledPixelsIterator`, arm for arm.
  Source: src/primitives/line/thick_points.rs, src/primitives/line/styled.rs,
          src/primitives/common/mod.rs (`LineSide`, `StrokeOffset`).

  The two `loop`s of the Rust code (`next_parallel`, `ThickPoints::next`) are modelled by recursion
  on explicit fuel. Both run at most twice per call in the real code (an `Extra` perpendicular
  point is always followed by a `Normal` one; a fetched parallel always has at least one point);
  the fuel is `loopFuel = 4`, and exhausting it is reported as `none` ("stuck"), never papered
  over: every function that contains a loop returns `Option`, the outer `none` meaning "loop bound
  exceeded" (the driver prints `stuck`, which would be a correspondence disagreement). The same
  holds for the step budget of `thickPoints`. That neither bound is ever hit is a theorem:
  `EG.Thick.thickPoints_total` (EG/Lemmas/ThickTotal.lean), for every line and width.
  `Int` arithmetic is unbounded (`thickness_threshold` and the squared accumulator are `i64` in the
  source, the other fields `i32`): overflow is property C08's topic.
-/
import EG.Model.Line
import EG.Model.Rect
namespace EG
namespace Thick

/-- `common::LineSide`. -/
inductive LineSide | left | right
  deriving DecidableEq, Repr

def LineSide.swap : LineSide → LineSide
  | .left => .right
  | .right => .left

/-- `common::StrokeOffset`. -/
inductive StrokeOffset | none | left | right
  deriving DecidableEq, Repr

/-- `thick_points::ParallelLineType`. -/
inductive ParallelLineType | normal | extra
  deriving DecidableEq, Repr

/-- `HORIZONTAL_LINE`. -/
def horizontalLine : Line := ⟨⟨0, 0⟩, ⟨1, 0⟩⟩

/-- `ParallelsIterator`. -/
structure ParallelsIterator where
  parallelParameters : BresenhamParameters
  perpendicularParameters : BresenhamParameters
  thicknessAccumulator : Int
  thicknessThreshold : Int
  flip : Bool
  left : Bresenham
  leftError : Int
  right : Bresenham
  rightError : Int
  nextSide : LineSide
  strokeOffset : StrokeOffset
  deriving DecidableEq, Repr

/-- Bound on the iterations of the two `loop`s (see the file header). -/
def loopFuel : Nat := 4

namespace ParallelsIterator

def sideError (it : ParallelsIterator) : LineSide → Int
  | .left => it.leftError
  | .right => it.rightError

def setSideError (it : ParallelsIterator) (side : LineSide) (e : Int) : ParallelsIterator :=
  match side with
  | .left => { it with leftError := e }
  | .right => { it with rightError := e }

/-- `next_parallel`: the `loop`, bounded by `fuel`; `none` = bound exceeded. -/
def nextParallelFuel : Nat → ParallelsIterator → LineSide →
    Option ((BresenhamPoint × Int) × ParallelsIterator)
  | 0, _, _ => none
  | fuel + 1, it, side =>
    let decreaseError := match side with
      | .left => it.flip
      | .right => !it.flip
    let (point, it) := match side with
      | .left =>
        let (p, b) := it.left.nextAll it.perpendicularParameters
        (p, { it with left := b })
      | .right =>
        let (p, b) := it.right.previousAll it.perpendicularParameters
        (p, { it with right := b })
    match point with
    | .normal _ => some ((point, it.sideError side), it)
    | .extra _ =>
      if decreaseError then
        let errorBeforeDecrease := it.sideError side
        let (e, stepped) := it.parallelParameters.decreaseError (it.sideError side)
        let it := it.setSideError side e
        if stepped then some ((point, errorBeforeDecrease), it)
        else nextParallelFuel fuel it side
      else
        let (e, stepped) := it.parallelParameters.increaseError (it.sideError side)
        let it := it.setSideError side e
        if stepped then some ((point, e), it)
        else nextParallelFuel fuel it side

def nextParallel (it : ParallelsIterator) (side : LineSide) :
    Option ((BresenhamPoint × Int) × ParallelsIterator) :=
  nextParallelFuel loopFuel it side

/-- `ParallelsIterator::new` (`none` only if the loop bound of the skipped centre line is hit). -/
def new (line : Line) (thickness : Int) (strokeOffset : StrokeOffset) : Option ParallelsIterator :=
  let startPoint := line.start
  let line := if line.start = line.stop then horizontalLine else line
  let parallelParameters := BresenhamParameters.new line
  let perpendicularParameters := BresenhamParameters.new line.perpendicular
  let thicknessThreshold := (thickness * 2) * (thickness * 2) * line.delta.lengthSquared
  let thicknessAccumulator :=
    tdiv2 (parallelParameters.errorStep.minor + parallelParameters.errorStep.major)
  let flip := decide (perpendicularParameters.positionStep.minor = -parallelParameters.positionStep.major)
  let nextSide := match strokeOffset with
    | .none => LineSide.right
    | .left => LineSide.left
    | .right => LineSide.right
  let self_ : ParallelsIterator :=
    { parallelParameters, perpendicularParameters, thicknessAccumulator, thicknessThreshold, flip
      left := Bresenham.new startPoint, leftError := 0
      right := Bresenham.new startPoint, rightError := 0
      nextSide, strokeOffset }
  -- Skip center line
  match self_.nextParallel nextSide.swap with
  | none => none
  | some (_, it) => some it

/-- `Iterator::next`. Outer `none` = loop bound exceeded; `some (none, _)` = the iterator is done. -/
def next (it : ParallelsIterator) :
    Option (Option (Bresenham × ParallelLineType) × ParallelsIterator) :=
  if it.thicknessAccumulator * it.thicknessAccumulator > it.thicknessThreshold then some (none, it)
  else
    match it.nextParallel it.nextSide with
    | none => none
    | some ((point, error), it) =>
      let (ret, it) := match point with
        | .normal p =>
          ((Bresenham.withInitialError p error, ParallelLineType.normal),
            { it with thicknessAccumulator :=
                it.thicknessAccumulator + it.perpendicularParameters.errorStep.minor })
        | .extra p =>
          ((Bresenham.withInitialError p error, ParallelLineType.extra),
            { it with thicknessAccumulator :=
                it.thicknessAccumulator + it.perpendicularParameters.errorStep.major })
      let it := if it.strokeOffset = .none then { it with nextSide := it.nextSide.swap } else it
      some (some ret, it)

end ParallelsIterator

/-! ### `Line::extents` / `styled_bounding_box` (src/primitives/line/mod.rs, styled.rs) -/

/-- The `loop` of `Line::extents` for `StrokeOffset::None`: parallels alternate right, left, ..;
the last one seen on each side is kept. `fuel` bounds the number of iterations (two parallels
each); outer `none` = a loop bound was exceeded. -/
def extentsLoop : Nat → ParallelsIterator → (Pt × ParallelLineType) → (Pt × ParallelLineType) →
    Option ((Pt × ParallelLineType) × (Pt × ParallelLineType))
  | 0, _, _, _ => none
  | fuel + 1, it, left, right =>
    match it.next with
    | none => none
    | some (none, _) => some (left, right)
    | some (some (b, ty), it) =>
      let right := (b.point, ty)
      match it.next with
      | none => none
      | some (none, _) => some (left, right)
      | some (some (b, ty), it) => extentsLoop fuel it (b.point, ty) right

/-- `Line::extents(thickness, StrokeOffset::None)`: the left-most and right-most parallel.
(The `StrokeOffset::Left/Right` arms, used only by thick polylines / triangles, are not modelled
here.) -/
def extents (l : Line) (thickness : Nat) : Option (Line × Line) :=
  match ParallelsIterator.new l (satAsI32 thickness) .none with
  | none => none
  | some it =>
    let reduce := it.parallelParameters.positionStep.major + it.parallelParameters.positionStep.minor
    match extentsLoop (2 * thickness + 4) it (l.start, .normal) (l.start, .normal) with
    | none => none
    | some (left, right) =>
      let delta := l.stop - l.start
      let mk := fun (s : Pt × ParallelLineType) =>
        (⟨s.1, s.1 + delta - (match s.2 with | .normal => Pt.zero | .extra => reduce)⟩ : Line)
      some (mk left, mk right)

/-- `StyledDimensions::styled_bounding_box` of a line with stroke width `w`. -/
def styledBoundingBox (l : Line) (w : Nat) : Option Rect :=
  match extents l w with
  | none => none
  | some (lft, rgt) =>
    let mn := ((lft.start.componentMin lft.stop).componentMin rgt.start).componentMin rgt.stop
    let mx := ((lft.start.componentMax lft.stop).componentMax rgt.start).componentMax rgt.stop
    some (Rect.withCorners mn mx)

/-- `ThickPoints`. -/
structure ThickPointsIt where
  parallel : Bresenham
  parallelLength : Nat
  parallelPointsRemaining : Nat
  iter : ParallelsIterator
  deriving DecidableEq, Repr

namespace ThickPointsIt

/-- `ThickPoints::new`. -/
def new (line : Line) (thickness : Int) : Option ThickPointsIt :=
  match ParallelsIterator.new line thickness .none with
  | none => none
  | some iter =>
    some { parallel := Bresenham.new line.start
           parallelLength := majorLength line
           parallelPointsRemaining := 0
           iter }

/-- `Iterator::next`: the `loop`, bounded by `fuel`. Outer `none` = loop bound exceeded,
`some none` = iterator finished. -/
def nextFuel : Nat → ThickPointsIt → Option (Option (Pt × ThickPointsIt))
  | 0, _ => none
  | fuel + 1, it =>
    if it.parallelPointsRemaining > 0 then
      let (p, b) := it.parallel.next it.iter.parallelParameters
      some (some (p, { it with parallelPointsRemaining := it.parallelPointsRemaining - 1,
                               parallel := b }))
    else
      match it.iter.next with
      | none => none
      | some (none, _) => some none
      | some (some (parallel, lineType), iter) =>
        let remaining := it.parallelLength
        -- Reduce the length of extra lines by one pixel (`u32 -= 1`; the length is at least 1)
        let remaining := if lineType = .extra then remaining - 1 else remaining
        nextFuel fuel { it with parallel, parallelPointsRemaining := remaining, iter }

def next (it : ThickPointsIt) : Option (Option (Pt × ThickPointsIt)) := it.nextFuel loopFuel

/-- `take(fuel)`: the first `fuel` items a `for` loop sees; `none` = an inner loop bound was
exceeded. Reaching `fuel = 0` ends the list (that is what `take` does); used where a prefix is
wanted (EG/Driver/Scale.lean), NOT by `thickPoints`. -/
def toListFuel : Nat → ThickPointsIt → Option (List Pt)
  | 0, _ => some []
  | fuel + 1, it =>
    match it.next with
    | none => none
    | some none => some []
    | some (some (p, it')) =>
      match toListFuel fuel it' with
      | none => none
      | some ps => some (p :: ps)

/-- Everything a `for` loop sees, within a step budget: `none` = some loop bound was exceeded,
including the step budget `fuel` itself (the list is never silently truncated). -/
def drainFuel : Nat → ThickPointsIt → Option (List Pt)
  | 0, _ => none
  | fuel + 1, it =>
    match it.next with
    | none => none
    | some none => some []
    | some (some (p, it')) =>
      match drainFuel fuel it' with
      | none => none
      | some ps => some (p :: ps)

end ThickPointsIt

/-- Step budget of `thickPoints`: more than the stroke can have pixels. Every parallel raises the
thickness accumulator by at least 1 and the iterator stops once `accumulator² > threshold`, so
there are at most `threshold + 1` parallels of at most `majorLength` points each. The bound is
deliberately crude: it is only a recursion bound, never reached (`EG.Thick.thickPoints_total`,
EG/Lemmas/ThickTotal.lean: `thickPoints` never returns `none`), and costs nothing at run time. -/
def pixelBudget (line : Line) (thicknessThreshold : Int) : Nat :=
  majorLength line * (thicknessThreshold.toNat + 2) + 1

/-- The points of `Line::new(start, end).into_styled(PrimitiveStyle::with_stroke(c, width)).pixels()`
in emission order (`StyledPixelsIterator`): nothing for width 0 (`effective_stroke_color` is
`None`), otherwise `ThickPoints::new(line, width.saturating_as())` drained. -/
def thickPoints (line : Line) (width : Nat) : Option (List Pt) :=
  match ThickPointsIt.new line (satAsI32 width) with
  | none => none
  | some it =>
    if width = 0 then some [] else it.drainFuel (pixelBudget line it.iter.thicknessThreshold)

end Thick
end EG
