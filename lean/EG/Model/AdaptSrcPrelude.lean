/-
  EG.Model.AdaptSrcPrelude — the meaning of every Rust primitive that the GENERATED file
  EG/Generated/AdaptSrc.lean (written by tools/tr_adapt.py from the Rust text of the four draw-target adapters and of
  the `DrawTarget` trait's default methods) calls, beyond those of EG/Model/RectSrcPrelude.lean.

  TRUSTED BASE. The translator is syntax-directed; what a Rust primitive means is said HERE, by hand:

  * A colour (`Self::Color`, `T::Color`, the generic `C`) is its raw value (`EG.Color = Nat`, DESIGN.md section 4);
    `Pixel(p, c)` is the pair `(p, c)` (`EG.Writes = List (Pt × Color)` is a list of pixels).
  * An `I: IntoIterator<Item = X>` argument is THE FINITE LIST OF ITEMS IT YIELDS (`List X`); `into_iter` is the
    identity, `Iterator::map / filter / zip` are `List.map / filter / zip`. This is faithful for fused,
    side-effect-free iterators; laziness (how many items a failing parent pulled) is outside the model, as in
    the hand model (`-- [V]` lines of C03 / C04).
  * `core::iter::repeat(c)` is infinite: it is represented by `fuel` copies (`core_iter_repeat fuel c`), `fuel` an
    explicit parameter of the generated function, like `while_loop` of RectSrcPrelude. The theorems say how much
    fuel suffices (the number of points of the area: all a `zip` with `area.points()` can consume) and that
    any larger amount gives the same pixels.
  * An iterator adapter DEFINED IN THE CRATE whose `Iterator::next` is literally `self.iter.next().map(F)` yields
    `F` of every item of `self.iter`, in order (`iter_of_next_map`; `Option::map` of the inner `next`); the
    translator checks that shape and translates `F`.
  * A draw target of the generic parent type `T: DrawTarget` is represented by the ONLY value the adapter bodies
    read from it, its `bounding_box()` (`DrawTargetT`); calling one of the four `DrawTarget` methods on it IS the
    value of the hand model's `EG.Call` (`DrawTargetT_draw_iter` ...): the generated adapter methods return the
    parent call they make. That the method's `Result` is the parent call's is the SHAPE fact the translator
    checks separately (`adapterMethodShapes`: tail position, nothing applied to the `Result`).
  * `Rectangle::{intersection, translate, contains, points}`, `==` on rectangles, `-p`, `p + q` are the hand
    model's `EG.Rect` / `EG.Pt` functions. Their own tie to the Rust text is C16's (EG/Props/C16/Generated*.lean:
    regenerated bodies = these functions, `intersection` / `contains` under `FitsI32`; `Points` iterator).
  * `Iterator::next` / `Iterator::nth(n)` on an iterator that is a list: `listiter_next` takes the head, `listiter_nth n`
    drops `n` items and takes the next (the default `nth`: `advance_by(n).ok()?; next()`; a list that is too short
    is left empty and gives `None`). Both return the item and the rest (the translator rebinds the receiver).
  * An iterator DEFINED IN THE CRATE with a stateful `next` (`iterator::contiguous::Cropped`, the colour iterator
    `Clipped::fill_contiguous` builds; its `new` and `next` are regenerated) used where an `IntoIterator` is expected
    is the list of items its generated `next` yields until the first `None`, on explicit fuel (`iter_collect_fuel`;
    the theorems say the number of input colours + 1 suffices and more changes nothing).
  * `usize` is `Nat` with mathematical `+ * `, truncated `-`; `u32 as usize` is the identity (`usize` is at least 32
    bits on every supported target); `i32 as usize` sign-extends (stated for a 64-bit `usize`; the equivalence theorem
    shows the value cast is never negative, where the width does not matter).
  * `PhantomData` is `Unit`.

  All definitions are `abbrev`s (see RectSrcPrelude) except the recursive `iter_collect_fuel`. Import-free apart from
  EG.Model.
-/
import EG.Model.RectSrcPrelude
import EG.Model.CroppedIter
namespace EG.AdaptSrcPrelude
open EG EG.RectSrcPrelude

-- `Color` and `Call` in the generated text are `EG.Color` (= `Nat`) and `EG.Call` of EG/Model/Target.lean

/-! ### `Pixel`, tuples, `PhantomData` -/

abbrev Pixel := Pt × EG.Color
abbrev Pixel_mk (p : Point) (c : Color) : Pixel := (p, c)
abbrev Pixel_0 (px : Pixel) : Point := px.1
abbrev Pixel_1 (px : Pixel) : Color := px.2
abbrev tuple_0 {α β : Type} (t : α × β) : α := t.1
abbrev tuple_1 {α β : Type} (t : α × β) : β := t.2
abbrev PhantomData := Unit
abbrev PhantomData_mk : PhantomData := ()

/-! ### iterators: the list of their items -/

abbrev into_iter {α : Type} (l : List α) : List α := l
abbrev iter_map {α β : Type} (l : List α) (f : α → β) : List β := l.map f
abbrev iter_filter {α : Type} (l : List α) (f : α → Bool) : List α := l.filter f
abbrev iter_zip {α β : Type} (a : List α) (b : List β) : List (α × β) := a.zip b
/-- `core::iter::repeat(c)`, cut to `fuel` items. -/
abbrev core_iter_repeat {α : Type} (fuel : Nat) (c : α) : List α := List.replicate fuel c
/-- an iterator whose `next` is `self.iter.next().map(f)`. -/
abbrev iter_of_next_map {α β : Type} (inner : List α) (f : α → β) : List β := inner.map f
/-- `Iterator::next` of an iterator that is a list: the item and the rest. -/
abbrev listiter_next {α : Type} (l : List α) : Option α × List α :=
  match l with
  | [] => (none, [])
  | a :: t => (some a, t)
/-- `Iterator::nth(n)`: skip `n` items, then `next`. -/
abbrev listiter_nth {α : Type} (l : List α) (n : Nat) : Option α × List α := listiter_next (l.drop n)
/-- The items a `for` loop sees from an iterator given by its `next` (value, updated state), on explicit fuel. -/
def iter_collect_fuel {σ α : Type} (next : σ → Option α × σ) : Nat → σ → List α
  | 0, _ => []
  | fuel + 1, s =>
    match next s with
    | (some a, s') => a :: iter_collect_fuel next fuel s'
    | (none, _) => []

/-! ### `usize` -/

abbrev usize_add (a b : Nat) : Nat := a + b
abbrev usize_mul (a b : Nat) : Nat := a * b
/-- `usize - usize` (panics below 0 in a checked build; truncated here). -/
abbrev usize_sub (a b : Nat) : Nat := a - b
abbrev usize_div (a b : Nat) : Nat := a / b
abbrev usize_eq (a b : Nat) : Bool := decide (a = b)
abbrev usize_ne (a b : Nat) : Bool := decide (a ≠ b)
abbrev usize_lt (a b : Nat) : Bool := decide (a < b)
abbrev usize_le (a b : Nat) : Bool := decide (a ≤ b)
abbrev usize_gt (a b : Nat) : Bool := decide (a > b)
abbrev usize_ge (a b : Nat) : Bool := decide (a ≥ b)
abbrev u32_as_usize (a : Nat) : Nat := a
/-- `x as usize` for `x : i32`: sign extension (64-bit `usize`). -/
abbrev i32_as_usize (a : Int) : Nat := if 0 ≤ a then a.toNat else (a + 18446744073709551616).toNat

/-! ### `Rectangle` / `Point` operations used by the adapters (the hand model's) -/

abbrev Rectangle_new (top_left : Point) (size : Size) : Rectangle := ⟨top_left, size⟩
abbrev Rectangle_intersection (a b : Rectangle) : Rectangle := a.intersection b
abbrev Rectangle_translate (r : Rectangle) (by_ : Point) : Rectangle := r.translate by_
abbrev Rectangle_contains (r : Rectangle) (p : Point) : Bool := r.contains p
abbrev Rectangle_points (r : Rectangle) : List Point := r.points
/-- derived `PartialEq` of `Rectangle` -/
abbrev Rectangle_eq (a b : Rectangle) : Bool := decide (a = b)
abbrev Rectangle_ne (a b : Rectangle) : Bool := decide (a ≠ b)
abbrev point_zero : Point := Pt.zero
abbrev Point_neg (p : Point) : Point := -p
abbrev Point_add (p q : Point) : Point := p + q
abbrev Point_sub (p q : Point) : Point := p - q

/-! ### the generic parent target -/

/-- A target of the generic type `T: DrawTarget`: its `bounding_box()`. -/
abbrev DrawTargetT := Rectangle
abbrev DrawTargetT_bounding_box (t : DrawTargetT) : Rectangle := t
/-- `t.draw_iter(pixels)` on a generic target: the call itself. -/
abbrev DrawTargetT_draw_iter (_t : DrawTargetT) (pixels : List Pixel) : Call := .drawIter pixels
abbrev DrawTargetT_fill_contiguous (_t : DrawTargetT) (area : Rectangle) (colors : List Color) : Call :=
  .fillContiguous area colors
abbrev DrawTargetT_fill_solid (_t : DrawTargetT) (area : Rectangle) (color : Color) : Call := .fillSolid area color
abbrev DrawTargetT_clear (_t : DrawTargetT) (color : Color) : Call := .clear color

end EG.AdaptSrcPrelude
