/-
  EG.Model.CheckedData — checked kernels of the data side:
    * `ImageRaw::new` (expected length), `data_width`, the index of `pixel` (src/image/image_raw.rs):
      `usize` arithmetic, `bytes_per_row as u32 * pixels_per_byte` in `u32`;
    * `Framebuffer::set_pixel` index arithmetic, `buffer_size` (src/framebuffer.rs): `usize`;
    * raw `load` / `store` of the multi-byte types: `index.checked_mul(n)` (commit e95846b) —
      returns `None` instead of panicking (core/src/pixelcolor/raw/load_store.rs);
    * `crop_range` / `crop_area` / `SubImage::new` (src/image/sub_image.rs, commit 6bd8eba): `i64`;
    * text metrics (src/text/{mod,text}.rs, src/mono_font/mono_text_style.rs):
      `LineHeight::to_absolute` (`u32`), `measure_string` width (`u32`), line advance and
      alignment (`i32`), `Text::bounding_box`.
  `usize` = `u64` (the harness platform). `Chk.Old.*` = the arithmetic before the repairs.
-/
import EG.Model.Checked
import EG.Model.ImageRaw
import EG.Model.Framebuffer
namespace EG

/-! ## Plain (unbounded) forms written for the range theorems (`TextM` stands beside Model/TextLayout.lean) -/

namespace Img

/-- `crop_range(start, length, parent_length)`: the range `start..start+length` cropped to
`-1..=parent_length`; returns the new start and length. -/
def cropRange (start : Int) (length parentLength : Nat) : Int × Nat :=
  let e := min (start + (length : Int)) ((parentLength : Int) + 1)
  let s := max start (-1)
  (s, (max (e - s) 0).toNat)

/-- `crop_area(area, parent_size)` -/
def cropArea (area : Rect) (parentSize : Sz) : Rect :=
  if area.isZeroSized then area
  else
    let cx := cropRange area.tl.x area.size.w parentSize.w
    let cy := cropRange area.tl.y area.size.h parentSize.h
    ⟨⟨cx.1, cy.1⟩, ⟨cx.2, cy.2⟩⟩

/-- The area `SubImage::new` stores (as repaired): the parent's box intersected with the CROPPED
area. -/
def subImageArea (parentSize : Sz) (area : Rect) : Rect :=
  (⟨Pt.zero, parentSize⟩ : Rect).intersection (cropArea area parentSize)

end Img

namespace TextM

/-- The metrics of a `MonoFont` that the layout arithmetic uses. -/
structure Metrics where
  cw : Nat        -- character_size.width
  ch : Nat        -- character_size.height
  sp : Nat        -- character_spacing
  bl : Nat        -- baseline
  deriving DecidableEq, Repr

inductive LineHeight | pixels (px : Nat) | percent (p : Nat)
  deriving DecidableEq, Repr
inductive Baseline | top | bottom | middle | alphabetic
  deriving DecidableEq, Repr
inductive Alignment | left | center | right
  deriving DecidableEq, Repr

/-- `LineHeight::to_absolute` -/
def toAbsolute (lh : LineHeight) (base : Nat) : Nat :=
  match lh with
  | .pixels px => px
  | .percent p => base * p / 100

/-- `MonoTextStyle::baseline_offset` (saturating casts only) -/
def baselineOffset (m : Metrics) : Baseline → Int
  | .top => 0
  | .bottom => satAsI32 (m.ch - 1)
  | .middle => satAsI32 ((m.ch - 1) / 2)
  | .alphabetic => satAsI32 m.bl

/-- `bb_width` of `measure_string` for a line of `n` characters -/
def lineWidth (m : Metrics) (n : Nat) : Nat := n * (m.cw + m.sp) - m.sp

/-- `Text::line_height()` -/
def lineHeight (m : Metrics) (lh : LineHeight) : Int := satAsI32 (toAbsolute lh m.ch)

/-- The position at which line `k` (0-based) of a text at `pos` is measured / drawn: the
alignment shift of `Text::lines()` and `k` line advances. -/
def linePos (m : Metrics) (lh : LineHeight) (al : Alignment) (pos : Pt) (n k : Nat) : Pt :=
  let y := pos.y + (k : Int) * lineHeight m lh
  let w1 : Int := (lineWidth m n : Int) - 1
  match al with
  | .left => ⟨pos.x, y⟩
  | .right => ⟨pos.x - w1, y⟩
  | .center => ⟨pos.x - tdiv2 w1, y⟩

end TextM

namespace Chk
open EG.Raw EG.Img

/-! ## `ImageRaw` -/

/-- `bytes_per_row(width, bpp) = (width as usize * bpp + 7) / 8` -/
def bytesPerRow (width bits : Nat) : Option Nat := do
  let a ← chkUsize (width * bits)
  let b ← chkUsize (a + 7)
  pure (b / 8)

/-- `ImageRaw::new`: `expected_size = bytes_per_row(..) * size.height as usize`, then the length
check. -/
def imageNew (bits : Nat) (o : Order) (data : List Nat) (size : Sz) : Option (Except Nat ImageRaw) := do
  let bpr ← bytesPerRow size.w bits
  let expected ← chkUsize (bpr * size.h)
  pure (if data.length != expected then .error expected else .ok ⟨bits, o, data, size⟩)

/-- `data_width`: `bytes_per_row(..) as u32 * pixels_per_byte` is a `u32` product (the cast
truncates). -/
def imageDataWidth (bits width : Nat) : Option Nat :=
  if bits < 8 then do
    let ppb ← divU 8 bits
    let bpr ← bytesPerRow width bits
    chkU32 ((bpr % 4294967296) * ppb)
  else pure width

/-- `GetPixel::pixel`: the rejection test, then the index `p.x as usize + p.y as usize *
data_width as usize` handed to `nth`. `some none` = rejected (`None`), outer `none` = panic. -/
def imagePixelIndex (im : ImageRaw) (p : Pt) : Option (Option Nat) :=
  if p.x < 0 ∨ p.y < 0 ∨ p.x ≥ asI32 im.size.w ∨ p.y ≥ asI32 im.size.h then pure none
  else do
    let dw ← imageDataWidth im.bits im.size.w
    let a ← chkUsize (p.y.toNat * dw)
    let i ← chkUsize (p.x.toNat + a)
    pure (some i)

/-! ## `Framebuffer` -/

/-- `buffer_size_bpp`: `(width * bpp + 7) / 8 * height` -/
def bufferSize (width height bits : Nat) : Option Nat := do
  let a ← chkUsize (width * bits)
  let b ← chkUsize (a + 7)
  chkUsize (b / 8 * height)

/-- The index computed by `set_pixel` (three macro arms); `some none` = the no-op for points
outside, outer `none` = panic. For the multi-byte arm the slice end `index + BYTES_PER_PIXEL` is
computed too. -/
def fbIndex (bits width height : Nat) (p : Pt) : Option (Option Nat) :=
  if 0 ≤ p.x ∧ 0 ≤ p.y then
    let x := p.x.toNat
    let y := p.y.toNat
    if x < width ∧ y < height then
      if bits < 8 then do
        let ppb ← divU 8 bits
        let bitsPerRow ← chkUsize (width * bits)
        let t ← chkUsize (bitsPerRow + 7)
        let a ← chkUsize (t / 8 * ppb)
        let b ← chkUsize (a * y)
        let i ← chkUsize (b + x)
        pure (some i)
      else if bits = 8 then do
        let a ← chkUsize (y * width)
        let i ← chkUsize (a + x)
        pure (some i)
      else do
        let a ← chkUsize (y * width)
        let b ← chkUsize (a + x)
        let i ← chkUsize (b * (bits / 8))
        let _ ← chkUsize (i + bits / 8)
        pure (some i)
    else pure none
  else pure none

/-- The plain index of `Fb.setPixel`. -/
def fbIndexPlain (bits width : Nat) (p : Pt) : Nat :=
  let x := p.x.toNat
  let y := p.y.toNat
  if bits < 8 then (width * bits + 7) / 8 * (8 / bits) * y + x
  else if bits = 8 then y * width + x
  else (y * width + x) * (bits / 8)

/-! ## Raw `load` / `store`: `index.checked_mul(n)` -/

/-- `usize::checked_mul`: `None` on overflow — a value, not a panic. -/
def checkedMulUsize (a b : Nat) : Option Nat := if a * b ≤ usizeMax then some (a * b) else none

/-- `load` of RawU16/24/32 as repaired: `index.checked_mul(n).and_then(|start|
buffer.get(start..)).and_then(|b| b.get(0..n))`. No operation in it can panic. -/
def loadBytes (n : Nat) (o : Order) (buf : List Nat) (index : Nat) : Option Nat :=
  match checkedMulUsize index n with
  | none => none
  | some start =>
    match sliceFrom buf start with
    | none => none
    | some tail =>
      match slicePrefix tail n with
      | none => none
      | some s => some (if o.alt then fromBe s else fromLe s)

/-- `store` of RawU16/24/32 as repaired. -/
def storeBytes (n : Nat) (o : Order) (v : Nat) (buf : List Nat) (index : Nat) : StoreRes :=
  let bytes := if o.alt then toBe n v else toLe n v
  match checkedMulUsize index n with
  | none => (false, buf)
  | some start =>
    match sliceFrom buf start with
    | none => (false, buf)
    | some tail =>
      match slicePrefix tail n with
      | none => (false, buf)
      | some _ => (true, splice buf start bytes)

/-! ## Sub-images -/

/-- `crop_range` in `i64`; the final `as u32` truncates. -/
def cropRange (start : Int) (length parentLength : Nat) : Option (Int × Nat) := do
  let e1 ← chkI64 (start + (length : Int))
  let e2 ← chkI64 ((parentLength : Int) + 1)
  let e := min e1 e2
  let s := max start (-1)
  let d ← chkI64 (e - s)
  pure (s, (max d 0).toNat % 4294967296)

/-- `crop_area` -/
def cropArea (area : Rect) (parentSize : Sz) : Option Rect :=
  if area.isZeroSized then pure area
  else do
    let cx ← cropRange area.tl.x area.size.w parentSize.w
    let cy ← cropRange area.tl.y area.size.h parentSize.h
    pure ⟨⟨cx.1, cy.1⟩, ⟨cx.2, cy.2⟩⟩

/-- `SubImage::new`: `parent_area.intersection(&crop_area(area, parent_area.size))`. -/
def subImageArea (parentSize : Sz) (area : Rect) : Option Rect := do
  let c ← cropArea area parentSize
  intersection ⟨Pt.zero, parentSize⟩ c

/-! ## `draw_sub_image` called directly (not through `sub_image()`, which crops first) -/

/-- `<ImageRaw as ImageDrawable>::draw_sub_image` (src/image/image_raw.rs l. 221-246, as repaired
by a083ac5), the guard and the arguments of `ContiguousPixels::new`: `some none` = the guard says
"draw nothing", `some (some (initial_skip, row_skip))` = the area is drawn. The guard is
`is_zero_sized() || x < 0 || y < 0 || u64::from(x as u32) + u64::from(width) >
u64::from(self.width) || (the same for y)`: the sums are `u64` additions of two `u32` values
behind the short-circuit `||`; `initial_skip = y as usize * data_width + x as usize`,
`row_skip = data_width - width` in `usize`. -/
def drawSubImageSkips (im : ImageRaw) (area : Rect) : Option (Option (Nat × Nat)) :=
  if area.isZeroSized ∨ area.tl.x < 0 ∨ area.tl.y < 0 then pure none
  else do
    let xr ← chkU64 (i32AsU32 area.tl.x + area.size.w)
    if xr > im.size.w then pure none
    else do
      let yb ← chkU64 (i32AsU32 area.tl.y + area.size.h)
      if yb > im.size.h then pure none
      else do
        let dw ← imageDataWidth im.bits im.size.w
        let m ← chkUsize (area.tl.y.toNat * dw)
        let initialSkip ← chkUsize (m + area.tl.x.toNat)
        let rowSkip ← subU dw area.size.w
        pure (some (initialSkip, rowSkip))

/-- `<SubImage as ImageDrawable>::draw_sub_image` (src/image/sub_image.rs l. 93-108, as repaired by
a083ac5): the corner in the parent's coordinates is built with `checked_add`; `none` = "not
representable: draw nothing" — a value, not a panic. -/
def subImageForwardArea (own area : Rect) : Option Rect :=
  match chkI32 (area.tl.x + own.tl.x), chkI32 (area.tl.y + own.tl.y) with
  | some x, some y => some ⟨⟨x, y⟩, area.size⟩
  | _, _ => none

/-- `draw_sub_image` on a sub-image (own area `own`) of a raw image: forward, then the parent's
guard. Outer `none` = panic. -/
def subDrawSubImageSkips (im : ImageRaw) (own area : Rect) : Option (Option (Nat × Nat)) :=
  match subImageForwardArea own area with
  | none => pure none
  | some a => drawSubImageSkips im a

namespace Old

/-- before a083ac5: `x as u32 + width > self.width` in `u32` -/
def drawSubImageSkips (im : ImageRaw) (area : Rect) : Option (Option (Nat × Nat)) :=
  if area.isZeroSized ∨ area.tl.x < 0 ∨ area.tl.y < 0 then pure none
  else do
    let xr ← chkU32 (i32AsU32 area.tl.x + area.size.w)
    if xr > im.size.w then pure none
    else do
      let yb ← chkU32 (i32AsU32 area.tl.y + area.size.h)
      if yb > im.size.h then pure none
      else do
        let dw ← imageDataWidth im.bits im.size.w
        let m ← chkUsize (area.tl.y.toNat * dw)
        let initialSkip ← chkUsize (m + area.tl.x.toNat)
        let rowSkip ← subU dw area.size.w
        pure (some (initialSkip, rowSkip))

/-- before a083ac5: `area.translate(self.area.top_left)` (`Point + Point` in `i32`) -/
def subImageForwardArea (own area : Rect) : Option Rect := translate area own.tl

end Old

namespace Seeded

/-- The OLD guard without the `x < 0 || y < 0` tests (a seeded change of round 3): `true` = "draw
nothing". The casts of negative corners reach the `u32` additions. -/
def drawSubImageRejects (im : ImageRaw) (area : Rect) : Option Bool :=
  if area.isZeroSized then pure true
  else do
    let xr ← chkU32 (i32AsU32 area.tl.x + area.size.w)
    if xr > im.size.w then pure true
    else do
      let yb ← chkU32 (i32AsU32 area.tl.y + area.size.h)
      pure (decide (yb > im.size.h))

end Seeded

/-! ## Text metrics -/

namespace TextM
open EG.TextM

/-- `LineHeight::to_absolute`: `base_line_height * percent / 100` in `u32`. -/
def toAbsolute (lh : LineHeight) (base : Nat) : Option Nat :=
  match lh with
  | .pixels px => pure px
  | .percent p => do
    let m ← chkU32 (base * p)
    pure (m / 100)

/-- `Text::line_height()`: `to_absolute(..).saturating_as::<i32>()` -/
def lineHeight (m : Metrics) (lh : LineHeight) : Option Int := do
  let a ← toAbsolute lh m.ch
  pure (satAsI32 a)

/-- `bb_width = (chars as u32 * (width + spacing)).saturating_sub(spacing)` -/
def lineWidth (m : Metrics) (n : Nat) : Option Nat := do
  let s ← chkU32 (m.cw + m.sp)
  let w ← chkU32 ((n % 4294967296) * s)
  pure (w - m.sp)

/-- `measure_string` (no underline): the bounding box and `next_position`. -/
def measureString (m : Metrics) (bl : Baseline) (n : Nat) (position : Pt) : Option (Rect × Pt) := do
  let bbPos ← ptSub position ⟨0, baselineOffset m bl⟩
  let w ← lineWidth m n
  let next ← ptAddSize position ⟨w, 0⟩
  pure (⟨bbPos, ⟨w, m.ch⟩⟩, next)

/-- The closure of `Text::lines()` for one line: the aligned position. -/
def alignedPos (m : Metrics) (bl : Baseline) (al : Alignment) (position : Pt) (n : Nat) : Option Pt :=
  match al with
  | .left => pure position
  | .right => do
    let ms ← measureString m bl n Pt.zero
    let d ← ptSub ms.2 ⟨1, 0⟩
    ptSub position d
  | .center => do
    let ms ← measureString m bl n Pt.zero
    let d ← ptSub ms.2 ⟨1, 0⟩
    ptSub position ⟨tdiv2 d.x, tdiv2 d.y⟩

/-- `Text::lines()` for `k` lines of `n` characters: aligned positions; `position.y +=
line_height` after every line (also after the last one). -/
def lines (m : Metrics) (lh : LineHeight) (bl : Baseline) (al : Alignment) (n : Nat) :
    Nat → Pt → Option (List Pt)
  | 0, _ => pure []
  | k + 1, position => do
    let p ← alignedPos m bl al position n
    let h ← lineHeight m lh
    let y ← chkI32 (position.y + h)
    let rest ← lines m lh bl al n k ⟨position.x, y⟩
    pure (p :: rest)

/-- `update_min_max` over the measured lines. -/
def minMax (m : Metrics) (bl : Baseline) (n : Nat) :
    List Pt → Option (Pt × Pt) → Option (Option (Pt × Pt))
  | [], acc => pure acc
  | p :: ps, acc => do
    let ms ← measureString m bl n p
    let br ← bottomRight ms.1
    match br with
    | none => minMax m bl n ps acc
    | some br =>
      match acc with
      | none => minMax m bl n ps (some (ms.1.tl, br))
      | some (mn, mx) =>
        minMax m bl n ps (some (⟨min mn.x ms.1.tl.x, min mn.y ms.1.tl.y⟩, ⟨max mx.x br.x, max mx.y br.y⟩))

/-- `Text::bounding_box()` for a text of `k` lines of `n` characters each. -/
def boundingBox (m : Metrics) (lh : LineHeight) (bl : Baseline) (al : Alignment) (pos : Pt)
    (k n : Nat) : Option Rect := do
  let ps ← lines m lh bl al n k pos
  let mm ← minMax m bl n ps none
  match mm with
  | some (mn, mx) => withCorners mn mx
  | none => pure ⟨pos, Sz.zero⟩

end TextM

/-! ## The arithmetic before the repairs -/

namespace Old

/-- before e95846b: `index * n` in `usize` without a check: a panic. `none` = panic. -/
def loadStoreStart (index n : Nat) : Option Nat := chkUsize (index * n)

/-- before 6bd8eba: `SubImage::new` intersected the parent's box with the area as given. -/
def subImageArea (parentSize : Sz) (area : Rect) : Option Rect :=
  intersection ⟨Pt.zero, parentSize⟩ area

end Old

end Chk
end EG
