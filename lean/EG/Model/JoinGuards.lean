/-
  EG.Model.JoinGuards — EXECUTABLE (Bool) forms of the decidable guards under which the join theorems
  of C01 / C02 are stated, for the model driver (`EG/Driver/Thick.lean` prints them per op as the field
  ` g=<bits>`; tools/check.py tallies them into `coverage.guard_bits` of the evidence).

  The guards themselves are `Prop`s defined in lemma files that import Mathlib tactics
  (`PolyRectsInRange`, `TriRectsInRange`: EG/Lemmas/C01Thick{Poly,Tri}.lean; `PolyBBoxGuard`,
  `chainOK`, `adjOK`: EG/Lemmas/JoinsBBox{Cover,PolyMain}.lean; `TriStrokeGuard`, `TriOutlineGuard`:
  EG/Lemmas/JoinsBBoxTriMain.lean; `TriTopGuard`: EG/Props/C02/JoinsBBox.lean), which the native driver
  cannot link. The functions here use the model only (no Mathlib); that each of them is `true` exactly
  when the guard of the theorem holds is PROVED in EG/Props/C01/GuardBits.lean and
  EG/Props/C02/GuardBits.lean (`*_iff` theorems, audited with the property's other theorems).
-/
import EG.Model.ThickPolyline
import EG.Model.ThickTriangle
namespace EG
namespace Joins
namespace GuardBits
open Thick (LineSide StrokeOffset)

/-- `Rect.InRange` (EG/Lemmas/Rect.lean): no `u32 -> i32` saturation, no `i32` overflow. -/
def rectInRange (r : Rect) : Bool :=
  decide (-2147483648 ≤ r.tl.x) && decide (r.tl.x ≤ 2147483647) &&
  decide (-2147483648 ≤ r.tl.y) && decide (r.tl.y ≤ 2147483647) &&
  decide (r.size.w ≤ 2147483647) && decide (r.size.h ≤ 2147483647) &&
  decide (r.tl.x + r.size.w ≤ 2147483647) && decide (r.tl.y + r.size.h ≤ 2147483647)

/-- `PolyRectsInRange pl w`, given `drawStyled pl w = some dr`. -/
def polyRectsInRange : PolyDraw → Bool
  | .fillSolids rs => rs.all rectInRange
  | _ => true

/-- `TriRectsInRange t style`, given `triDraw t style = some calls`. -/
def triRectsInRange (calls : List (Rect × Nat)) : Bool :=
  calls.all (fun rc => rectInRange rc.1)

/-- The side of the filler line of a join, if it has one (`fillerSide`, EG/Lemmas/JoinsBBoxCover.lean). -/
def fillerSide (j : LineJoin) : Option LineSide :=
  match j.kind with
  | .bevel side | .degenerate side => some side
  | _ => none

/-- `adjOK` (EG/Lemmas/JoinsBBoxCover.lean). -/
def adjOK (U : Rect) (s s' : ThickSegment) : Bool :=
  (s.isSkeleton == s'.isSkeleton) ||
    match fillerSide s.endJoin with
    | some .left => U.contains (midpoint ⟨s.endJoin.firstEdgeEnd.left, s.endJoin.secondEdgeStart.left⟩)
    | _ => true

/-- `chainOK` (EG/Lemmas/JoinsBBoxCover.lean). -/
def chainOK (U : Rect) : List ThickSegment → Bool
  | s :: s' :: rest => adjOK U s s' && chainOK U (s' :: rest)
  | _ => true

/-- The `chainOK` part of `PolyBBoxGuard pl w` alone (`true` where the guard has nothing to check). -/
def polyChainOK (pl : Polyline) (w : Nat) : Bool :=
  match untranslatedBoundingBox pl w, (ThickSegmentIter.new pl.vertices w).bind ThickSegmentIter.toList with
  | some ubb, some segs => chainOK ubb segs
  | _, _ => true

/-- `PolyBBoxGuard pl w` (EG/Lemmas/JoinsBBoxPolyMain.lean). -/
def polyBBoxGuard (pl : Polyline) (w : Nat) : Bool :=
  match untranslatedBoundingBox pl w, (ThickSegmentIter.new pl.vertices w).bind ThickSegmentIter.toList with
  | some ubb, some segs => decide (-2147483648 ≤ ubb.tl.y) && chainOK ubb segs
  | _, _ => true

/-- The three closed segments of a triangle (`closedSegments3`, EG/Lemmas/JoinsTriMove.lean). -/
def closedSegments3 (t : Tri) (w : Nat) (off : StrokeOffset) : Option (List ThickSegment) := do
  let j0 ← LineJoin.fromPoints t.v3 t.v1 t.v2 w off
  let j1 ← LineJoin.fromPoints t.v1 t.v2 t.v3 w off
  let j2 ← LineJoin.fromPoints t.v2 t.v3 t.v1 w off
  pure [⟨j0, j1⟩, ⟨j1, j2⟩, ⟨j2, j0⟩]

/-- The three `adjOK` conjuncts of `TriStrokeGuard` alone. -/
def triAdjOK (t : Tri) (style : TriStyle) : Bool :=
  match closedSegments3 t.sortedClockwise style.strokeWidth style.strokeAlignment.toOffset with
  | some [a, b, c] =>
    let U := foldEdgeBoxes [a, b, c]
    adjOK U a b && adjOK U b c && adjOK U c a
  | _ => true

/-- `TriStrokeGuard t style` (EG/Lemmas/JoinsBBoxTriMain.lean). -/
def triStrokeGuard (t : Tri) (style : TriStyle) : Bool :=
  match closedSegments3 t.sortedClockwise style.strokeWidth style.strokeAlignment.toOffset with
  | some [a, b, c] =>
    let U := foldEdgeBoxes [a, b, c]
    decide ((-2147483648 : Int) ≤ U.tl.y) && adjOK U a b && adjOK U b c && adjOK U c a &&
      (!style.fillColor.isSome || (U.contains t.v1 && U.contains t.v2 && U.contains t.v3))
  | _ => true

/-- `TriStrokeColumnsGuard t style` (EG/Lemmas/JoinsBBoxTriMain.lean): `TriStrokeGuard` with the vertex
clause weakened to the columns of the stroke box. -/
def triStrokeColumnsGuard (t : Tri) (style : TriStyle) : Bool :=
  match closedSegments3 t.sortedClockwise style.strokeWidth style.strokeAlignment.toOffset with
  | some [a, b, c] =>
    let U := foldEdgeBoxes [a, b, c]
    decide ((-2147483648 : Int) ≤ U.tl.y) && adjOK U a b && adjOK U b c && adjOK U c a &&
      (!style.fillColor.isSome ||
        (decide (U.tl.x ≤ t.v1.x) && decide (t.v1.x ≤ U.tl.x + U.size.w - 1) &&
         decide (U.tl.x ≤ t.v2.x) && decide (t.v2.x ≤ U.tl.x + U.size.w - 1) &&
         decide (U.tl.x ≤ t.v3.x) && decide (t.v3.x ≤ U.tl.x + U.size.w - 1)))
  | _ => true

/-- `TriOutlineGuard t style` (EG/Lemmas/JoinsBBoxTriMain.lean). -/
def triOutlineGuard (t : Tri) (style : TriStyle) : Bool :=
  match triStyledBoundingBox t style with
  | some bb =>
    decide ((-2147483648 : Int) ≤ bb.tl.y) &&
    match closedSegments3 t.sortedClockwise style.strokeWidth style.strokeAlignment.toOffset with
    | some segs =>
      segs.all (fun s => s.outline.all (fun l => bb.contains l.start && bb.contains l.stop)) &&
      (bb.contains t.v1 && bb.contains t.v2 && bb.contains t.v3)
    | none => true
  | none => true

/-- `TriTopGuard t` (EG/Props/C02/JoinsBBox.lean). -/
def triTopGuard (t : Tri) : Bool := decide (-2147483648 ≤ t.boundingBox.tl.y)

end GuardBits
end Joins
end EG
