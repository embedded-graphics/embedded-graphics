/-
  EG.Model.CurveSrcPrelude — the meaning of the Rust primitives that the GENERATED file
  EG/Generated/CurveSrc.lean (written by tools/tr_curve.py from the Rust text of the circle / ellipse primitives)
  calls and that `EG/Model/RectSrcPrelude.lean` does not already define.

  TRUSTED BASE (with RectSrcPrelude, whose conventions apply: `i32` is `Int`, `u32` is `Nat`, plain `+ - *` are the
  mathematical operations, `as` casts wrap, shared references / `*` / `&` / `.clone()` of `Copy`-like values are
  transparent). Additions:

  * `u64` is `Nat` as well; `u32 as u64` is the identity, `i32 as u64` sign-extends (a negative value becomes
    `2^64 + v`); plain `+ *` on `u64` are mathematical (C08's topic where they overflow), `<` is `<`.
  * `pow` is exponentiation (`i32::pow` / `u32::pow` panic on overflow in a checked build: mathematical here).
  * `Range<i32>::clone` is the range; `Iterator::find` on such a (temporary) range is the first value of
    `start .. end` in ascending order that satisfies the predicate (`EG.irange` lists these values); the advanced
    temporary is dropped. `Iterator::find_map` on a range PLACE advances it (`range_i32_find_map`).
  * `Option::map` is `Option.map`, `Option::unwrap_or_else` evaluates its closure on `None`.
  Every definition is an `abbrev` (see the note in RectSrcPrelude) except the two recursive ones
  (`range_i32_find_map_loop`, `iter_collect`). Import-free apart from EG.Basic / EG.Model.
-/
import EG.Model.RectSrcPrelude
import EG.Model.Target
namespace EG.CurveSrcPrelude
open EG EG.RectSrcPrelude

/-- `i32::pow` -/
abbrev i32_pow (a : Int) (n : Nat) : Int := a ^ n
/-- `u32::pow` -/
abbrev u32_pow (a : Nat) (n : Nat) : Nat := a ^ n

/-- `x as u64` for `x : u32` -/
abbrev u32_as_u64 (a : Nat) : Nat := a
/-- `x as u64` for `x : i32`: sign extension, then reinterpretation. -/
abbrev i32_as_u64 (a : Int) : Nat := if 0 ≤ a then a.toNat else (a + 18446744073709551616).toNat
abbrev u64_add (a b : Nat) : Nat := a + b
/-- `u64 - u64` (panics below 0 in a checked build; truncated here). -/
abbrev u64_sub (a b : Nat) : Nat := a - b
abbrev u64_mul (a b : Nat) : Nat := a * b
abbrev u64_div (a b : Nat) : Nat := a / b
abbrev u64_eq (a b : Nat) : Bool := decide (a = b)
abbrev u64_ne (a b : Nat) : Bool := decide (a ≠ b)
abbrev u64_lt (a b : Nat) : Bool := decide (a < b)
abbrev u64_le (a b : Nat) : Bool := decide (a ≤ b)
abbrev u64_gt (a b : Nat) : Bool := decide (a > b)
abbrev u64_ge (a b : Nat) : Bool := decide (a ≥ b)

/-- `Range<i32>::clone` -/
abbrev range_i32_clone (r : RangeI32) : RangeI32 := r
/-- `Iterator::find` on a temporary `Range<i32>`: the first value of `start..end` satisfying `f`. -/
abbrev range_i32_find (r : RangeI32) (f : Int → Bool) : Option Int := (irange r.start r.end_).find? f
/-- The loop of `Iterator::find_map` on a `Range<i32>` whose `n` remaining values start at `s`: take the next value,
return the first `Some` of `f` (the range stays advanced past that value), go on otherwise. -/
def range_i32_find_map_loop {β : Type} (f : Int → Option β) : Nat → Int → Int → Option β × RangeI32
  | 0, s, e => (none, ⟨s, e⟩)
  | n + 1, s, e =>
    match f s with
    | some v => (some v, ⟨s + 1, e⟩)
    | none => range_i32_find_map_loop f n (s + 1) e
/-- `Iterator::find_map` on a `Range<i32>` place (a method that advances its receiver: value and updated receiver).
An empty range (`!(start < end)`) is left as it is. -/
abbrev range_i32_find_map {β : Type} (r : RangeI32) (f : Int → Option β) : Option β × RangeI32 :=
  if r.start < r.end_ then range_i32_find_map_loop f (r.end_ - r.start).toNat r.start r.end_ else (none, r)
/-- `Option::map` -/
abbrev option_map {α β : Type} (o : Option α) (f : α → β) : Option β := o.map f
/-- `Option::unwrap_or_else` (the closure takes no argument) -/
abbrev option_unwrap_or_else {α : Type} (o : Option α) (f : Unit → α) : α :=
  match o with
  | some v => v
  | none => f ()
/-- `Option::filter` -/
abbrev option_filter {α : Type} (o : Option α) (f : α → Bool) : Option α :=
  match o with
  | some v => if f v then some v else none
  | none => none
/-- `==` on a field-less enum (`#[derive(PartialEq)]`) -/
abbrev enum_eq {α : Type} [DecidableEq α] (a b : α) : Bool := decide (a = b)

/-! ### functions that draw on a generic target

Such a function is translated to the list of target calls it makes on a target that never fails (see tools/tr_curve.py):
the hand models' `EG.Call`. -/

/-- `target.fill_solid(&area, color)` -/
abbrev Target_fill_solid (area : Rectangle) (color : EG.Color) : List EG.Call := [EG.Call.fillSolid area color]

/-- The items a `for` loop takes from an iterator given by its `next` (value, updated iterator): up to the first `None`,
on explicit fuel (`fuel` items at most: the theorems state how much suffices). -/
def iter_collect {σ α : Type} (next : σ → Option α × σ) : Nat → σ → List α
  | 0, _ => []
  | fuel + 1, s =>
    match next s with
    | (some a, s') => a :: iter_collect next fuel s'
    | (none, _) => []
/-- `for x in it { body(x)?; }` on a target that never fails: the calls of `body` for every item, in order. -/
abbrev for_calls {σ α : Type} (next : σ → Option α × σ) (body : α → List EG.Call) (fuel : Nat) (it : σ) : List EG.Call :=
  (iter_collect next fuel it).flatMap body

end EG.CurveSrcPrelude
