/-
  EG.Lemmas.CheckedData — range theorems of the data-side kernels (`ImageRaw`, `Framebuffer`,
  raw `load`/`store`, sub-image crop). Text metrics: EG/Lemmas/CheckedText.lean.

  The size bounds are not sharp: images up to 2^28 x 2^28 (`W.size`, the wide domain of the
  rectangles) keep `bytes_per_row * height` at most 2^58, framebuffers up to 2^24 x 2^24 keep every
  index product below 2^51; `usize` has 64 bits.
-/
import EG.Lemmas.RectOps
import EG.Lemmas.Checked
import EG.Lemmas.ImageRaw
import EG.Model.CheckedData
namespace EG.Chk
open EG EG.Raw EG.Img

theorem validBits_cases {bits : Nat} (h : validBits bits = true) :
    bits = 1 ∨ bits = 2 ∨ bits = 4 ∨ bits = 8 ∨ bits = 16 ∨ bits = 24 ∨ bits = 32 := by
  simpa only [validBits, Bool.or_eq_true, beq_iff_eq, or_assoc] using h

theorem validBits_bounds {bits : Nat} (h : validBits bits = true) :
    (0 < bits ∧ bits ≤ 32) ∧ (bits < 8 → bits = 1 ∨ bits = 2 ∨ bits = 4) ∧
      (¬ bits < 8 → 1 ≤ bits / 8 ∧ bits / 8 ≤ 4) := by
  have := validBits_cases h; omega

/-- `bytes_per_row` cannot overflow `usize` for any `u32` width and any of the 7 depths. -/
theorem bytesPerRow_ok {width bits : Nat} (hw : width ≤ 4294967295) (hb : bits ≤ 32) :
    bytesPerRow width bits = some (Img.bytesPerRow width bits) := by
  have h : width * bits ≤ 4294967295 * 32 := Nat.mul_le_mul hw hb
  rw [bytesPerRow, chkUsize_bind (by omega), chkUsize_bind (by omega)]
  rfl

theorem bytesPerRow_le {width bits : Nat} (hw : width ≤ 268435456) (hb : bits ≤ 32) :
    Img.bytesPerRow width bits ≤ 1073741824 := by
  have h : width * bits ≤ 268435456 * 32 := Nat.mul_le_mul hw hb
  unfold Img.bytesPerRow; omega

theorem imageNew_ok {bits : Nat} (hb : bits ≤ 32) (o : Order) (data : List Nat) {size : Sz}
    (hw : size.w ≤ 268435456) (hh : size.h ≤ 268435456) :
    imageNew bits o data size = some (ImageRaw.new bits o data size) := by
  have h2 : Img.bytesPerRow size.w bits * size.h ≤ 1073741824 * 268435456 :=
    Nat.mul_le_mul (bytesPerRow_le hw hb) hh
  rw [imageNew, bytesPerRow_ok (by omega) hb, some_bind, chkUsize_bind (by omega)]
  rfl

/-- Below 8 bits per pixel a row of whole bytes holds at most 7 pixels more than the width. -/
theorem subBytePixels_le {bits : Nat} (hb : bits = 1 ∨ bits = 2 ∨ bits = 4) (w : Nat) :
    (w * bits + 7) / 8 * (8 / bits) ≤ w + 7 := by
  rcases hb with h | h | h <;> subst h <;> omega

theorem imageDataWidth_ok {bits : Nat} (hv : validBits bits = true) {w : Nat} (hw : w ≤ 268435456) :
    Ret (imageDataWidth bits w) (ImageRaw.dataWidth ⟨bits, .le, [], ⟨w, 0⟩⟩) fun dw => dw ≤ 268435456 + 7 := by
  obtain ⟨hb, hlt, _⟩ := validBits_bounds hv
  unfold imageDataWidth ImageRaw.dataWidth
  simp only
  split
  · rename_i h
    have h8 : Img.bytesPerRow w bits * (8 / bits) ≤ w + 7 := subBytePixels_le (hlt h) w
    have hl := bytesPerRow_le hw hb.2
    rw [divU_bind hb.1, bytesPerRow_ok (by omega) hb.2, some_bind, Nat.mod_eq_of_lt (by omega)]
    exact ⟨chkU32_ok (by omega), by omega⟩
  · exact ⟨rfl, by omega⟩

/-- `pixel`: for EVERY point (no bound on `p`) the index arithmetic does not overflow; points
outside are rejected before any arithmetic. Images up to 2^28 x 2^28. -/
theorem imagePixelIndex_ok {im : ImageRaw} (hv : validBits im.bits = true)
    (hw : im.size.w ≤ 268435456) (hh : im.size.h ≤ 268435456) (p : Pt) :
    imagePixelIndex im p =
      some (if p.x < 0 ∨ p.y < 0 ∨ p.x ≥ asI32 im.size.w ∨ p.y ≥ asI32 im.size.h then none
            else some (p.x.toNat + p.y.toNat * im.dataWidth)) := by
  unfold imagePixelIndex
  split
  · rfl
  · rename_i hc
    obtain ⟨e, hle⟩ : imageDataWidth im.bits im.size.w = some im.dataWidth ∧ im.dataWidth ≤ 268435456 + 7 :=
      imageDataWidth_ok hv hw
    have a1 : asI32 im.size.w = im.size.w := by unfold asI32; omega
    have a2 : asI32 im.size.h = im.size.h := by unfold asI32; omega
    rw [a1, a2] at hc
    have hm : p.y.toNat * im.dataWidth ≤ 268435456 * (268435456 + 7) := Nat.mul_le_mul (by omega) hle
    rw [e, some_bind, chkUsize_bind (by omega), chkUsize_bind (by omega)]
    rfl

theorem bufferSize_ok {width height bits : Nat} (hw : width ≤ 16777216) (hh : height ≤ 16777216)
    (hb : bits ≤ 32) : bufferSize width height bits = some (Fb.bufferSize width height bits) := by
  have h : width * bits ≤ 16777216 * 32 := Nat.mul_le_mul hw hb
  have h2 : (width * bits + 7) / 8 * height ≤ 67108865 * 16777216 := Nat.mul_le_mul (by omega) hh
  rw [bufferSize, chkUsize_bind (by omega), chkUsize_bind (by omega)]
  exact chkUsize_ok (by omega)

/-- `set_pixel`: for EVERY point the index arithmetic does not overflow (framebuffers up to
2^24 x 2^24); points outside are a no-op. -/
theorem fbIndex_ok {bits : Nat} (hv : validBits bits = true) {width height : Nat}
    (hw : width ≤ 16777216) (hh : height ≤ 16777216) (p : Pt) :
    fbIndex bits width height p =
      some (if 0 ≤ p.x ∧ 0 ≤ p.y ∧ p.x.toNat < width ∧ p.y.toNat < height
            then some (fbIndexPlain bits width p) else none) := by
  obtain ⟨hb, hlt, hge⟩ := validBits_bounds hv
  unfold fbIndex fbIndexPlain
  by_cases h1 : 0 ≤ p.x ∧ 0 ≤ p.y
  · by_cases h2 : p.x.toNat < width ∧ p.y.toNat < height
    · simp only [h1, h2, and_self, ↓reduceIte]
      have hwb : width * bits ≤ 16777216 * 32 := Nat.mul_le_mul hw hb.2
      have hyw : p.y.toNat * width ≤ 16777216 * 16777216 := Nat.mul_le_mul (by omega) hw
      split
      · rename_i h
        have h8 := subBytePixels_le (hlt h) width
        have hm : (width * bits + 7) / 8 * (8 / bits) * p.y.toNat ≤ (16777216 + 7) * 16777216 :=
          Nat.mul_le_mul (by omega) (by omega)
        rw [divU_bind hb.1, chkUsize_bind (by omega), chkUsize_bind (by omega),
          chkUsize_bind (by omega), chkUsize_bind (by omega), chkUsize_bind (by omega)]
        rfl
      · rename_i h
        split
        · rw [chkUsize_bind (by omega), chkUsize_bind (by omega)]; rfl
        · have hm : (p.y.toNat * width + p.x.toNat) * (bits / 8) ≤ (16777216 * 16777216 + 16777216) * 4 :=
            Nat.mul_le_mul (by omega) (hge h).2
          rw [chkUsize_bind (by omega), chkUsize_bind (by omega), chkUsize_bind (by omega),
            chkUsize_bind (by omega)]
          rfl
    · simp only [h1, h2, and_self, ↓reduceIte]; rfl
  · rw [if_neg h1, if_neg fun h => h1 ⟨h.1, h.2.1⟩]; rfl

/-- `checked_mul` yields `None` only for a start beyond every buffer. -/
theorem checkedMulUsize_cases {buf : List Nat} (hl : buf.length ≤ usizeMax) (i n : Nat) :
    checkedMulUsize i n = some (i * n) ∨ (checkedMulUsize i n = none ∧ sliceFrom buf (i * n) = none) := by
  unfold checkedMulUsize sliceFrom
  split
  · exact Or.inl rfl
  · exact Or.inr ⟨rfl, if_neg (by omega)⟩

/-- For EVERY index (also beyond `usize::MAX / n`, where `checked_mul` yields `None`) the repaired
`load` is the plain `load`: a buffer is never longer than `usize::MAX`, so the plain model
rejects those indices too. No operation of the repaired code can panic. -/
theorem loadBytes_eq (n : Nat) (o : Order) {buf : List Nat} (hl : buf.length ≤ usizeMax) (i : Nat) :
    Chk.loadBytes n o buf i = Raw.loadBytes n o buf i := by
  unfold Chk.loadBytes Raw.loadBytes
  rcases checkedMulUsize_cases hl i n with e | ⟨e, e'⟩
  · rw [e]; rfl
  · rw [e, e']

theorem storeBytes_eq (n : Nat) (o : Order) (v : Nat) {buf : List Nat} (hl : buf.length ≤ usizeMax)
    (i : Nat) : Chk.storeBytes n o v buf i = Raw.storeBytes n o v buf i := by
  unfold Chk.storeBytes Raw.storeBytes
  rcases checkedMulUsize_cases hl i n with e | ⟨e, e'⟩
  · rw [e]; rfl
  · rw [e, e']

/-- `crop_range` stays inside `i64` for ANY `i32` start and ANY `u32` lengths; the cropped
length is at most `length`, so the final `as u32` is lossless. -/
theorem cropRange_ok {start : Int} (hs : -2147483648 ≤ start ∧ start ≤ 2147483647) {length parent : Nat}
    (hl : length ≤ 4294967295) (hp : parent ≤ 4294967295) :
    Ret (cropRange start length parent) (Img.cropRange start length parent) fun r => r.2 ≤ length := by
  unfold cropRange Img.cropRange
  simp only
  refine ⟨?_, by omega⟩
  rw [chkI64_bind (by omega), chkI64_bind (by omega), chkI64_bind (by omega),
    Nat.mod_eq_of_lt (by omega)]
  rfl

theorem cropArea_ok {area : Rect} (ht : inI32Pt area.tl) (hz : inU32Sz area.size) {ps : Sz}
    (hp : inU32Sz ps) : cropArea area ps = some (Img.cropArea area ps) := by
  unfold cropArea Img.cropArea
  split
  · rfl
  · rw [(cropRange_ok ht.1 hz.1 hp.1).1, (cropRange_ok ht.2 hz.2 hp.2).1]
    rfl

theorem cropRange_bounds (start : Int) (length parent : Nat) :
    (Img.cropRange start length parent).1 = max start (-1) ∧
    ((Img.cropRange start length parent).2 = 0 ∨
      ((Img.cropRange start length parent).1 + ((Img.cropRange start length parent).2 : Int) ≤ (parent : Int) + 1 ∧
       ((Img.cropRange start length parent).2 : Int) ≤ (parent : Int) + 2)) := by
  unfold Img.cropRange
  dsimp only
  refine ⟨rfl, ?_⟩
  omega

/-- **`SubImage::new` (as repaired) does not overflow for ANY `i32` coordinates and ANY `u32`
sizes of the area**, for parents up to `i32::MAX - 2` pixels wide / high: the cropped range
`-1..=parent` is up to `parent + 2` long, and `bottom_right()` asserts sizes up to `i32::MAX`. -/
theorem subImageArea_ok {ps : Sz} (hp : ps.w ≤ 2147483645 ∧ ps.h ≤ 2147483645) {area : Rect}
    (ht : inI32Pt area.tl) (hz : inU32Sz area.size) :
    subImageArea ps area = some (Img.subImageArea ps area) := by
  unfold subImageArea Img.subImageArea
  rw [cropArea_ok ht hz ⟨by omega, by omega⟩, some_bind]
  apply intersection_of_brFits
  · exact ⟨show inI32Pt Pt.zero by decide, by simp only [Pt.zero]; omega⟩
  · unfold Img.cropArea
    split
    · rename_i hzs
      rw [Rect.isZeroSized_iff] at hzs
      exact ⟨ht, by omega⟩
    · have bx := cropRange_bounds area.tl.x area.size.w ps.w
      have by' := cropRange_bounds area.tl.y area.size.h ps.h
      refine ⟨⟨?_, ?_⟩, ?_⟩ <;> simp only <;> omega

/-- One axis of the crop: inside the parent (`0 <= p < parent`) the cropped range has the same
members as the original one. -/
theorem cropRange_mem (start : Int) (length parent : Nat) {p : Int} (hp : 0 ≤ p ∧ p < parent) :
    ((Img.cropRange start length parent).1 ≤ p ∧
      p < (Img.cropRange start length parent).1 + (Img.cropRange start length parent).2) ↔
    (start ≤ p ∧ p < start + length) := by
  unfold Img.cropRange; simp only; omega

/-- **The crop does not change the result**: the cropped area has the same points in common
with the parent's box as the original area (`-1..=parent_length` keeps a one pixel border). -/
theorem crop_preserves_points (ps : Sz) (area : Rect) (p : Pt) :
    ((⟨Pt.zero, ps⟩ : Rect).contains p = true ∧ (Img.cropArea area ps).contains p = true) ↔
    ((⟨Pt.zero, ps⟩ : Rect).contains p = true ∧ area.contains p = true) := by
  unfold Img.cropArea
  split
  · rfl
  · rw [Rect.contains_iff, Rect.contains_iff, Rect.contains_iff]
    simp only [Pt.zero]
    refine and_congr_right fun hb => ?_
    have hx := cropRange_mem area.tl.x area.size.w ps.w (p := p.x) (by omega)
    have hy := cropRange_mem area.tl.y area.size.h ps.h (p := p.y) (by omega)
    exact ⟨fun h => ⟨(hx.1 ⟨h.1, h.2.1⟩).1, (hx.1 ⟨h.1, h.2.1⟩).2, hy.1 h.2.2⟩,
      fun h => ⟨(hx.2 ⟨h.1, h.2.1⟩).1, (hx.2 ⟨h.1, h.2.1⟩).2, hy.2 h.2.2⟩⟩

/-- `SubImage::new` selects exactly the common points of the parent's box and the ORIGINAL area:
the crop (commit 6bd8eba) changes no result. -/
theorem crop_preserves_intersection (ps : Sz) (area : Rect) (p : Pt) :
    (Img.subImageArea ps area).contains p = true ↔
      ((⟨Pt.zero, ps⟩ : Rect).intersection area).contains p = true := by
  unfold Img.subImageArea
  rw [Rect.mem_intersection, Rect.mem_intersection]
  exact crop_preserves_points ps area p

/-- What the guard of `draw_sub_image` decides and what it hands to `ContiguousPixels::new`, in
unbounded integers (the plain `Img.ImageRaw.drawSubImage`). -/
def plainSubImageSkips (im : ImageRaw) (area : Rect) : Option (Nat × Nat) :=
  if area.isZeroSized = true ∨ area.tl.x < 0 ∨ area.tl.y < 0 ∨
      area.tl.x.toNat + area.size.w > im.size.w ∨ area.tl.y.toNat + area.size.h > im.size.h then none
  else some (area.tl.y.toNat * ImageRaw.dataWidth ⟨im.bits, .le, [], ⟨im.size.w, 0⟩⟩ + area.tl.x.toNat,
    ImageRaw.dataWidth ⟨im.bits, .le, [], ⟨im.size.w, 0⟩⟩ - area.size.w)

/-- **`ImageRaw::draw_sub_image` (as repaired) cannot panic for ANY area**: every `i32` corner (a
negative one is rejected before any arithmetic, so only the upper bound is asked for),
every `u32` size, an image up to 2^28 x 2^28 of any depth. The `u64` sums of two `u32` values
always fit; behind the guard the area lies inside the image, so `data_width()` and both `usize`
skips fit. -/
theorem drawSubImageSkips_total {im : ImageRaw} (hv : validBits im.bits = true) (hw : im.size.w ≤ 268435456)
    (hh : im.size.h ≤ 268435456) {area : Rect} (hx : area.tl.x ≤ 2147483647)
    (hy : area.tl.y ≤ 2147483647) (haw : area.size.w ≤ 4294967295) (hah : area.size.h ≤ 4294967295) :
    drawSubImageSkips im area = some (plainSubImageSkips im area) := by
  obtain ⟨edw, hdw⟩ := imageDataWidth_ok hv hw
  have hge : im.size.w ≤ ImageRaw.dataWidth ⟨im.bits, .le, [], ⟨im.size.w, 0⟩⟩ :=
    ImageRaw.width_le_dataWidth (im := ⟨im.bits, .le, [], ⟨im.size.w, 0⟩⟩) hv
  unfold drawSubImageSkips plainSubImageSkips
  by_cases hz : area.isZeroSized = true
  · simp [hz]
  · by_cases hnx : area.tl.x < 0
    · simp [hnx]
    · by_cases hny : area.tl.y < 0
      · simp [hny]
      · have e1 : i32AsU32 area.tl.x = area.tl.x.toNat := i32AsU32_nonneg (by omega)
        have e2 : i32AsU32 area.tl.y = area.tl.y.toNat := i32AsU32_nonneg (by omega)
        simp only [hz, hnx, hny, or_self, e1, e2, false_or]
        rw [chkU64_ok (by omega)]
        simp only [Option.bind_eq_bind, Option.bind_some]
        by_cases hxr : area.tl.x.toNat + area.size.w > im.size.w
        · simp [hxr]
        · simp only [hxr, ↓reduceIte, false_or]
          rw [chkU64_ok (by omega)]
          simp only [Option.bind_some]
          by_cases hyb : area.tl.y.toNat + area.size.h > im.size.h
          · simp [hyb]
          · simp only [hyb, ↓reduceIte]
            rw [edw]
            simp only [Option.bind_some]
            have hm : area.tl.y.toNat * ImageRaw.dataWidth ⟨im.bits, .le, [], ⟨im.size.w, 0⟩⟩ ≤
                268435456 * (268435456 + 7) := Nat.mul_le_mul (by omega) hdw
            rw [chkUsize_ok (by omega), Option.bind_some, chkUsize_ok (by omega), Option.bind_some,
              subU_ok (by omega)]
            rfl

/-- **`SubImage::draw_sub_image` (as repaired) cannot panic for ANY area either**, and decides
like the plain model on the corner `area + own corner` computed in unbounded integers: a corner
that is not representable in `i32` is rejected by `checked_add`, and the plain guard rejects it
too (negative, or beyond every image). -/
theorem subDrawSubImageSkips_total {im : ImageRaw} (hv : validBits im.bits = true)
    (hw : im.size.w ≤ 268435456) (hh : im.size.h ≤ 268435456) {own area : Rect}
    (haw : area.size.w ≤ 4294967295) (hah : area.size.h ≤ 4294967295) :
    subDrawSubImageSkips im own area = some (plainSubImageSkips im (area.translate own.tl)) := by
  have etx : (area.translate own.tl).tl.x = area.tl.x + own.tl.x := rfl
  have ety : (area.translate own.tl).tl.y = area.tl.y + own.tl.y := rfl
  have ets : (area.translate own.tl).size = area.size := rfl
  have ez : (area.translate own.tl).isZeroSized = area.isZeroSized := rfl
  unfold subDrawSubImageSkips subImageForwardArea
  by_cases hfx : -2147483648 ≤ area.tl.x + own.tl.x ∧ area.tl.x + own.tl.x ≤ 2147483647
  · by_cases hfy : -2147483648 ≤ area.tl.y + own.tl.y ∧ area.tl.y + own.tl.y ≤ 2147483647
    · rw [chkI32_ok hfx.1 hfx.2, chkI32_ok hfy.1 hfy.2]
      simp only
      have e : (⟨⟨area.tl.x + own.tl.x, area.tl.y + own.tl.y⟩, area.size⟩ : Rect) = area.translate own.tl := rfl
      rw [e]
      exact drawSubImageSkips_total hv hw hh (by rw [etx]; exact hfx.2) (by rw [ety]; exact hfy.2)
        (by rw [ets]; exact haw) (by rw [ets]; exact hah)
    · rw [chkI32_ok hfx.1 hfx.2, chkI32_none (by omega)]
      simp only [Option.pure_def, Option.some.injEq]
      unfold plainSubImageSkips
      rw [ety, etx, ets, ez]
      rw [if_pos]
      by_cases hneg : area.tl.y + own.tl.y < 0
      · exact Or.inr (Or.inr (Or.inl hneg))
      · by_cases hz : area.isZeroSized = true
        · exact Or.inl hz
        · exact Or.inr (Or.inr (Or.inr (Or.inr (by omega))))
  · rw [chkI32_none (by omega)]
    simp only [Option.pure_def, Option.some.injEq]
    unfold plainSubImageSkips
    rw [ety, etx, ets, ez]
    rw [if_pos]
    by_cases hneg : area.tl.x + own.tl.x < 0
    · exact Or.inr (Or.inl hneg)
    · exact Or.inr (Or.inr (Or.inr (Or.inl (by omega))))

/-- Before the repair commit a083ac5 of the crate the `u32` sum panicked for a non-negative corner
and a huge width. -/
theorem old_drawSubImageSkips_overflows :
    Old.drawSubImageSkips ⟨1, .le, [], ⟨5, 3⟩⟩ ⟨⟨1, 0⟩, ⟨4294967295, 1⟩⟩ = none ∧
    Old.drawSubImageSkips ⟨1, .le, [], ⟨5, 3⟩⟩ ⟨⟨0, 1⟩, ⟨1, 4294967295⟩⟩ = none ∧
    drawSubImageSkips ⟨1, .le, [], ⟨5, 3⟩⟩ ⟨⟨1, 0⟩, ⟨4294967295, 1⟩⟩ = some none ∧
    drawSubImageSkips ⟨1, .le, [], ⟨5, 3⟩⟩ ⟨⟨0, 1⟩, ⟨1, 4294967295⟩⟩ = some none := by
  refine ⟨?_, ?_, ?_, ?_⟩ <;> decide

/-- Before the repair commit a083ac5 `area.translate(own corner)` panicked for a corner at
`i32::MAX`; as repaired the area is rejected. -/
theorem old_subImageForwardArea_overflows :
    Old.subImageForwardArea ⟨⟨1, 1⟩, ⟨3, 2⟩⟩ ⟨⟨2147483647, 0⟩, ⟨0, 0⟩⟩ = none ∧
    subDrawSubImageSkips ⟨1, .le, [], ⟨5, 3⟩⟩ ⟨⟨1, 1⟩, ⟨3, 2⟩⟩ ⟨⟨2147483647, 0⟩, ⟨0, 0⟩⟩ = some none := by
  constructor <;> decide

/-- **Without the sign tests the old guard itself panics**: for a non-zero-sized area whose corner
is negative by at most its width, `x as u32 + width` is at least 2^32. -/
theorem Seeded.drawSubImageRejects_panics (im : ImageRaw) {area : Rect} (hz : area.isZeroSized = false)
    (hx : -2147483648 ≤ area.tl.x ∧ area.tl.x < 0) (hw : -area.tl.x ≤ (area.size.w : Int)) :
    Seeded.drawSubImageRejects im area = none := by
  unfold Seeded.drawSubImageRejects
  simp only [hz, Bool.false_eq_true, ↓reduceIte]
  have e : i32AsU32 area.tl.x = (area.tl.x + 4294967296).toNat := by
    unfold i32AsU32; rw [if_neg (by omega)]
  rw [e, chkU32_none (by omega)]
  rfl

end EG.Chk
