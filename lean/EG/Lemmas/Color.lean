/-
  EG.Lemmas.Color — helper lemmas for C12 (colour types over the generated `colorTable`).

  Everything is proved for an arbitrary record `s` with `s.WellFormed`: masks become `%`, shifts become
  `*` / `/`, and the three channel fields of an RGB / BGR type are the digits of the value in the mixed
  radix `2^n₁, 2^n₂, 2^n₃`. Two facts carry the rest: the values of a type are the numbers below
  `2^usedBits` (`valid_iff_lt`), and on them `Into<Raw>` is the identity while `From<Raw>` keeps the
  low `usedBits` bits (`toRaw_of_valid`, `fromRaw_eq`). The byte views are the little-endian digits
  of the raw value (`leBytes`). The generated table enters only through `table_wellFormed`, by which the
  statements over `colorTable` at the end of the file are instances.
-/
import EG.Generated.ColorTable
namespace EG.Color
open EG EG.Generated EG.ColorSpec

/-! ### three adjacent bit fields of widths `n₁ n₂ n₃` from bit 0 upwards -/

theorem lor3 {x y z n1 n2 : Nat} (hx : x < 2 ^ n1) (hy : y < 2 ^ n2) :
    x ||| y <<< n1 ||| z <<< (n1 + n2) = x + y * 2 ^ n1 + z * 2 ^ (n1 + n2) := by
  have hxy : y <<< n1 + x < 2 ^ (n1 + n2) := by
    rw [Nat.shiftLeft_eq, Nat.pow_add]
    have : (y + 1) * 2 ^ n1 ≤ 2 ^ n2 * 2 ^ n1 := Nat.mul_le_mul_right _ hy
    rw [Nat.add_mul, Nat.one_mul, Nat.mul_comm (2 ^ n2)] at this
    omega
  rw [Nat.or_comm x, ← Nat.shiftLeft_add_eq_or_of_lt hx, Nat.or_comm, ← Nat.shiftLeft_add_eq_or_of_lt hxy]
  simp only [Nat.shiftLeft_eq]
  omega

theorem fields3 {x y z n1 n2 n3 v : Nat} (hx : x < 2 ^ n1) (hy : y < 2 ^ n2) (hz : z < 2 ^ n3)
    (hv : v = x + y * 2 ^ n1 + z * 2 ^ (n1 + n2)) :
    v % 2 ^ n1 = x ∧ v / 2 ^ n1 % 2 ^ n2 = y ∧ v / 2 ^ (n1 + n2) % 2 ^ n3 = z ∧ v < 2 ^ (n1 + n2 + n3) := by
  have e : v = x + 2 ^ n1 * (y + 2 ^ n2 * z) := by
    rw [hv, Nat.pow_add, Nat.mul_add, Nat.mul_comm y, Nat.mul_comm z, Nat.mul_assoc, Nat.add_assoc]
  have h1 : (x + 2 ^ n1 * (y + 2 ^ n2 * z)) / 2 ^ n1 = y + 2 ^ n2 * z := by
    rw [Nat.add_mul_div_left _ _ (Nat.two_pow_pos n1), Nat.div_eq_of_lt hx, Nat.zero_add]
  have h2 : (y + 2 ^ n2 * z) / 2 ^ n2 = z := by
    rw [Nat.add_mul_div_left _ _ (Nat.two_pow_pos n2), Nat.div_eq_of_lt hy, Nat.zero_add]
  rw [e]
  refine ⟨?_, ?_, ?_, ?_⟩
  · rw [Nat.add_mul_mod_self_left, Nat.mod_eq_of_lt hx]
  · rw [h1, Nat.add_mul_mod_self_left, Nat.mod_eq_of_lt hy]
  · rw [Nat.pow_add, ← Nat.div_div_eq_div_mul, h1, h2, Nat.mod_eq_of_lt hz]
  · have a : 2 ^ n2 * (z + 1) ≤ 2 ^ n2 * 2 ^ n3 := Nat.mul_le_mul_left _ hz
    rw [Nat.mul_add, Nat.mul_one] at a
    have b : 2 ^ n1 * (y + 2 ^ n2 * z + 1) ≤ 2 ^ n1 * (2 ^ n2 * 2 ^ n3) := Nat.mul_le_mul_left _ (by omega)
    rw [Nat.pow_add, Nat.pow_add, Nat.mul_assoc]
    rw [Nat.mul_add, Nat.mul_one] at b
    omega

theorem expand3 (c n1 n2 n3 : Nat) :
    c % 2 ^ (n1 + n2 + n3)
      = c % 2 ^ n1 + c / 2 ^ n1 % 2 ^ n2 * 2 ^ n1 + c / 2 ^ (n1 + n2) % 2 ^ n3 * 2 ^ (n1 + n2) := by
  rw [Nat.pow_add 2 (n1 + n2), Nat.mod_mul, Nat.pow_add 2 n1, Nat.mod_mul, ← Nat.pow_add,
    Nat.mul_comm (2 ^ n1), Nat.mul_comm (2 ^ (n1 + n2))]

theorem ones3 (n1 n2 n3 : Nat) :
    (2 ^ n1 - 1) + (2 ^ n2 - 1) * 2 ^ n1 + (2 ^ n3 - 1) * 2 ^ (n1 + n2) = 2 ^ (n1 + n2 + n3) - 1 := by
  have h1 : 0 < 2 ^ n1 := Nat.two_pow_pos n1
  have h2 : 2 ^ n1 ≤ 2 ^ n2 * 2 ^ n1 := Nat.le_mul_of_pos_left _ (Nat.two_pow_pos n2)
  have h3 : 2 ^ n2 * 2 ^ n1 ≤ 2 ^ n3 * (2 ^ n2 * 2 ^ n1) := Nat.le_mul_of_pos_left _ (Nat.two_pow_pos n3)
  rw [Nat.sub_mul, Nat.sub_mul, Nat.one_mul, Nat.one_mul, Nat.pow_add 2 (n1 + n2), Nat.mul_comm (2 ^ (n1 + n2)),
    Nat.pow_add 2 n1, Nat.mul_comm (2 ^ n1)]
  omega

theorem ones_shiftRight (n k : Nat) : (2 ^ (n + k) - 1) >>> k = 2 ^ n - 1 := by
  have h1 := Nat.two_pow_pos n
  have h2 := Nat.two_pow_pos k
  have h3 := Nat.mul_pos h1 h2
  rw [Nat.shiftRight_eq_div_pow, Nat.pow_add]
  apply Nat.div_eq_of_lt_le
  · rw [Nat.sub_mul, Nat.one_mul]
    omega
  · rw [Nat.sub_add_cancel h1]
    omega

theorem maxChan_eq {n : Nat} (h : n ≤ 8) : maxChan n = 2 ^ n - 1 := by
  unfold maxChan
  rw [Nat.shiftLeft_eq, Nat.one_mul]
  have h1 : 2 ^ n ≤ 2 ^ 8 := Nat.pow_le_pow_right (by decide) h
  have h2 : 0 < 2 ^ n := Nat.two_pow_pos n
  omega

theorem and_maxChan (x : Nat) {n : Nat} (h : n ≤ 8) : x &&& maxChan n = x % 2 ^ n := by
  rw [maxChan_eq h, Nat.and_two_pow_sub_one_eq_mod]

/-- an accessor `(c >> p) as u8 & MAX` reads the field of width `n ≤ 8` at bit `p` -/
theorem chan_eq (c p : Nat) {n : Nat} (h : n ≤ 8) : ((c >>> p) % 256) &&& maxChan n = c / 2 ^ p % 2 ^ n := by
  rw [and_maxChan _ h, Nat.shiftRight_eq_div_pow]
  exact Nat.mod_mod_of_dvd _ (Nat.pow_dvd_pow 2 h)

theorem valid_gray_lt {s : ColorSpec} (hk : s.kind = .gray) {c : Nat} (hc : s.Valid c) : c < 2 ^ s.rawBpp := by
  unfold Valid at hc
  rw [hk] at hc
  exact hc

theorem length_leBytes (n v : Nat) : (leBytes n v).length = n := by
  induction n generalizing v with
  | zero => rfl
  | succ n ih => rw [leBytes, List.length_cons, ih]

theorem ofLe_leBytes (n v : Nat) : ofLe (leBytes n v) = v % 256 ^ n := by
  induction n generalizing v with
  | zero => rw [leBytes, ofLe, Nat.pow_zero, Nat.mod_one]
  | succ n ih => rw [leBytes, ofLe, ih, Nat.pow_succ', Nat.mod_mul]

theorem take_leBytes {k n : Nat} (h : k ≤ n) (v : Nat) : (leBytes n v).take k = leBytes k v := by
  induction k generalizing n v with
  | zero => rfl
  | succ k ih =>
    obtain ⟨m, rfl⟩ : ∃ m, n = m + 1 := ⟨n - 1, by omega⟩
    rw [leBytes, leBytes, List.take_succ_cons, ih (by omega)]

theorem lt_of_mem_leBytes {n v x : Nat} (h : x ∈ leBytes n v) : x < 256 := by
  induction n generalizing v with
  | zero => cases h
  | succ n ih =>
    rw [leBytes, List.mem_cons] at h
    rcases h with rfl | h
    · exact Nat.mod_lt _ (by decide)
    · exact ih h


section wf
variable {s : ColorSpec} (hw : s.WellFormed = true)
include hw

theorem wf_raw : 1 ≤ s.rawBpp ∧ s.rawBpp ≤ s.rawStorageBits ∧ s.rawBpp ≤ 8 * s.nbytes
    ∧ s.beHi = s.rawStorageBits / 8 ∧ s.beHi - s.beLo = s.nbytes ∧ s.leLo = 0 ∧ s.leHi = s.nbytes
    ∧ s.nbytes ≤ s.rawStorageBits / 8 := by
  simp only [WellFormed, Bool.and_eq_true, Bool.or_eq_true, beq_iff_eq, decide_eq_true_eq] at hw
  omega

/-- an RGB / BGR record: channel widths, and the three fields adjacent from bit 0 in ascending order
(blue lowest for RGB, red lowest for BGR) -/
theorem wf_rgb (hk : s.isRgb = true) :
    (1 ≤ s.rbits ∧ s.rbits ≤ 8) ∧ (1 ≤ s.gbits ∧ s.gbits ≤ 8) ∧ (1 ≤ s.bbits ∧ s.bbits ≤ 8)
    ∧ s.usedBits ≤ s.rawBpp
    ∧ ((s.bpos = 0 ∧ s.gpos = s.bbits ∧ s.rpos = s.bbits + s.gbits ∧ s.usedBits = s.bbits + s.gbits + s.rbits)
      ∨ (s.rpos = 0 ∧ s.gpos = s.rbits ∧ s.bpos = s.rbits + s.gbits ∧ s.usedBits = s.rbits + s.gbits + s.bbits)) := by
  unfold WellFormed at hw
  rw [Bool.and_eq_true] at hw
  obtain ⟨_, hm⟩ := hw
  unfold isRgb at hk
  unfold usedBits
  cases hkind : s.kind with
  | binary | gray =>
    rw [hkind] at hk
    exact absurd hk (by decide)
  | rgb =>
    simp only [hkind, packedAsc, Bool.and_eq_true, decide_eq_true_eq, beq_iff_eq] at hm ⊢
    exact ⟨by omega, by omega, by omega, by omega, Or.inl (by omega)⟩
  | bgr =>
    simp only [hkind, packedAsc, Bool.and_eq_true, decide_eq_true_eq, beq_iff_eq] at hm ⊢
    exact ⟨by omega, by omega, by omega, by omega, Or.inr ⟨by omega, by omega, by omega, trivial⟩⟩

theorem one_le_bpp : 1 ≤ s.rawBpp := (wf_raw hw).1
theorem bpp_le_storage : s.rawBpp ≤ s.rawStorageBits := (wf_raw hw).2.1
theorem bpp_le_bytes : s.rawBpp ≤ 8 * s.nbytes := (wf_raw hw).2.2.1

theorem wf_binary (hk : s.kind = .binary) : s.rawBpp = 1 := by
  simp only [WellFormed, hk, Bool.and_eq_true, beq_iff_eq] at hw
  exact hw.2

theorem wf_gray (hk : s.kind = .gray) : s.rawBpp ≤ 8 := by
  simp only [WellFormed, hk, Bool.and_eq_true, decide_eq_true_eq] at hw
  exact hw.2

theorem kind_cases : s.kind = .binary ∧ s.usedBits = 1 ∧ s.rawBpp = 1
    ∨ s.kind = .gray ∧ s.usedBits = s.rawBpp ∨ s.isRgb = true := by
  unfold usedBits isRgb
  cases hk : s.kind
  · exact Or.inl ⟨rfl, wf_binary hw hk, wf_binary hw hk⟩
  · exact Or.inr (Or.inl ⟨rfl, rfl⟩)
  · exact Or.inr (Or.inr rfl)
  · exact Or.inr (Or.inr rfl)

theorem usedBits_le : s.usedBits ≤ s.rawBpp := by
  rcases kind_cases hw with ⟨_, h1, h2⟩ | ⟨_, h⟩ | hk
  · omega
  · omega
  · obtain ⟨_, _, _, hu, _⟩ := wf_rgb hw hk
    exact hu

theorem rawMask_eq : s.rawMask = 2 ^ s.rawBpp - 1 := by
  have h := ones_shiftRight s.rawBpp (s.rawStorageBits - s.rawBpp)
  rwa [Nat.add_sub_of_le (bpp_le_storage hw)] at h


theorem rawNew_eq (v : Nat) : s.rawNew v = v % 2 ^ s.rawBpp := by
  unfold rawNew
  rw [rawMask_eq hw, Nat.and_two_pow_sub_one_eq_mod]

/-- `from_u32` also keeps the low `BITS_PER_PIXEL` bits: the `as Storage` cast drops bits that `MASK`
drops anyway -/
theorem rawFromU32_eq (v : Nat) : s.rawFromU32 v = v % 2 ^ s.rawBpp := by
  unfold rawFromU32
  rw [rawNew_eq hw]
  exact Nat.mod_mod_of_dvd _ (Nat.pow_dvd_pow 2 (bpp_le_storage hw))

section rgb
variable (hk : s.isRgb = true)
include hk

theorem chans_eq (c : Nat) : s.chanR c = c / 2 ^ s.rpos % 2 ^ s.rbits
    ∧ s.chanG c = c / 2 ^ s.gpos % 2 ^ s.gbits ∧ s.chanB c = c / 2 ^ s.bpos % 2 ^ s.bbits :=
  have ⟨hr, hg, hb, _⟩ := wf_rgb hw hk
  ⟨chan_eq c _ hr.2, chan_eq c _ hg.2, chan_eq c _ hb.2⟩

theorem rgbNew_eq (r g b : Nat) :
    s.rgbNew r g b = r % 2 ^ s.rbits * 2 ^ s.rpos + g % 2 ^ s.gbits * 2 ^ s.gpos + b % 2 ^ s.bbits * 2 ^ s.bpos := by
  obtain ⟨hr, hg, hb, _, hl⟩ := wf_rgb hw hk
  unfold rgbNew maxR maxG maxB
  rw [and_maxChan r hr.2, and_maxChan g hg.2, and_maxChan b hb.2]
  have br := Nat.mod_lt r (Nat.two_pow_pos s.rbits)
  have bg := Nat.mod_lt g (Nat.two_pow_pos s.gbits)
  have bb := Nat.mod_lt b (Nat.two_pow_pos s.bbits)
  rcases hl with ⟨h1, h2, h3, _⟩ | ⟨h1, h2, h3, _⟩
  · rw [h1, h2, h3, Nat.shiftLeft_zero, Nat.pow_zero, Nat.mul_one,
      Nat.or_comm (_ <<< (s.bbits + s.gbits)), Nat.or_comm, ← Nat.or_assoc, lor3 bb bg]
    omega
  · rw [h1, h2, h3, Nat.shiftLeft_zero, Nat.pow_zero, Nat.mul_one, lor3 br bg]

theorem fields_of_sum {fr fg fb v : Nat} (hr : fr < 2 ^ s.rbits) (hg : fg < 2 ^ s.gbits) (hb : fb < 2 ^ s.bbits)
    (hv : v = fr * 2 ^ s.rpos + fg * 2 ^ s.gpos + fb * 2 ^ s.bpos) :
    v / 2 ^ s.rpos % 2 ^ s.rbits = fr ∧ v / 2 ^ s.gpos % 2 ^ s.gbits = fg ∧ v / 2 ^ s.bpos % 2 ^ s.bbits = fb
    ∧ v < 2 ^ s.usedBits := by
  obtain ⟨_, _, _, _, hl⟩ := wf_rgb hw hk
  rcases hl with ⟨h1, h2, h3, hu⟩ | ⟨h1, h2, h3, hu⟩
  · rw [h1, h2, h3, Nat.pow_zero, Nat.mul_one] at hv
    obtain ⟨f1, f2, f3, f4⟩ := fields3 hb hg hr (hv.trans (by omega))
    rw [h1, h2, h3, hu, Nat.pow_zero, Nat.div_one]
    exact ⟨f3, f2, f1, f4⟩
  · rw [h1, h2, h3, Nat.pow_zero, Nat.mul_one] at hv
    rw [h1, h2, h3, hu, Nat.pow_zero, Nat.div_one]
    exact fields3 hr hg hb hv

theorem sum_of_fields (c : Nat) :
    c % 2 ^ s.usedBits = c / 2 ^ s.rpos % 2 ^ s.rbits * 2 ^ s.rpos + c / 2 ^ s.gpos % 2 ^ s.gbits * 2 ^ s.gpos
      + c / 2 ^ s.bpos % 2 ^ s.bbits * 2 ^ s.bpos := by
  obtain ⟨_, _, _, _, hl⟩ := wf_rgb hw hk
  rcases hl with ⟨h1, h2, h3, hu⟩ | ⟨h1, h2, h3, hu⟩
  · rw [h1, h2, h3, hu, Nat.pow_zero, Nat.mul_one, Nat.div_one, expand3]
    omega
  · rw [h1, h2, h3, hu, Nat.pow_zero, Nat.mul_one, Nat.div_one, expand3]

/-- `RGB_MASK` (`new` of the channel maxima, up to the order of the `|`) has exactly the low
`usedBits` bits set -/
theorem rgbMask_eq : s.rgbMask = 2 ^ s.usedBits - 1 := by
  obtain ⟨hr, hg, hb, _, hl⟩ := wf_rgb hw hk
  have e : s.rgbMask = s.rgbNew s.maxR s.maxG s.maxB := by
    unfold rgbMask rgbNew
    rw [Nat.and_self, Nat.and_self, Nat.and_self, Nat.or_assoc, Nat.or_comm (_ <<< s.bpos), ← Nat.or_assoc]
  have m (n : Nat) (h : n ≤ 8) : maxChan n % 2 ^ n = 2 ^ n - 1 := by
    rw [maxChan_eq h]
    exact Nat.mod_eq_of_lt (Nat.sub_one_lt (Nat.ne_of_gt (Nat.two_pow_pos n)))
  rw [e, rgbNew_eq hw hk]
  unfold maxR maxG maxB
  rw [m _ hr.2, m _ hg.2, m _ hb.2]
  rcases hl with ⟨h1, h2, h3, hu⟩ | ⟨h1, h2, h3, hu⟩
  · rw [h1, h2, h3, hu, Nat.pow_zero, Nat.mul_one, ← ones3]
    omega
  · rw [h1, h2, h3, hu, Nat.pow_zero, Nat.mul_one, ones3]

end rgb

omit hw in
theorem rgb_arms (hk : s.isRgb = true) (c : Nat) :
    (s.Valid c ↔ c &&& s.rgbMask = c) ∧ s.toRaw c = s.rawNew c ∧ s.fromRaw c = c &&& s.rgbMask := by
  unfold isRgb at hk
  unfold Valid toRaw fromRaw
  -- `rgb`, `bgr`: each `match` takes the arm named; `binary`, `gray` contradict `hk`
  cases h : s.kind <;> simp [h] at hk ⊢

theorem valid_iff_lt (c : Nat) : s.Valid c ↔ c < 2 ^ s.usedBits := by
  rcases kind_cases hw with ⟨hk, hu, _⟩ | ⟨hk, hu⟩ | hk
  · unfold Valid
    rw [hk, hu]
  · unfold Valid
    rw [hk, hu]
  · rw [(rgb_arms hk c).1, rgbMask_eq hw hk, Nat.and_two_pow_sub_one_eq_mod]
    exact ⟨fun h => h ▸ Nat.mod_lt _ (Nat.two_pow_pos _), Nat.mod_eq_of_lt⟩

theorem toRaw_of_valid {c : Nat} (hc : s.Valid c) : s.toRaw c = c := by
  have hlt := (valid_iff_lt hw c).mp hc
  rcases kind_cases hw with ⟨hk, hu, hb⟩ | ⟨hk, _⟩ | hk
  · rw [hu, Nat.pow_one] at hlt
    unfold toRaw
    rw [hk]
    simp only
    rw [rawNew_eq hw, hb]
    split <;> omega
  · unfold toRaw
    rw [hk]
  · rw [(rgb_arms hk c).2.1, rawNew_eq hw]
    exact Nat.mod_eq_of_lt (Nat.lt_of_lt_of_le hlt (Nat.pow_le_pow_right (by decide) (usedBits_le hw)))

theorem fromRaw_eq {raw : Nat} (h : raw < 2 ^ s.rawBpp) : s.fromRaw raw = raw % 2 ^ s.usedBits := by
  rcases kind_cases hw with ⟨hk, hu, hb⟩ | ⟨hk, hu⟩ | hk
  · unfold fromRaw
    rw [hb] at h
    rw [hk, hu]
    simp only
    split <;> omega
  · unfold fromRaw
    rw [hk, hu, Nat.mod_eq_of_lt h]
  · rw [(rgb_arms hk raw).2.2, rgbMask_eq hw hk, Nat.and_two_pow_sub_one_eq_mod]

theorem valid_lt_raw {c : Nat} (hc : s.Valid c) : c < 2 ^ s.rawBpp :=
  Nat.lt_of_lt_of_le ((valid_iff_lt hw c).mp hc) (Nat.pow_le_pow_right (by decide) (usedBits_le hw))

theorem fromRaw_valid {raw : Nat} (h : raw < 2 ^ s.rawBpp) : s.Valid (s.fromRaw raw) := by
  rw [fromRaw_eq hw h, valid_iff_lt hw]
  exact Nat.mod_lt _ (Nat.two_pow_pos _)

theorem fromRaw_toRaw {c : Nat} (hc : s.Valid c) : s.fromRaw (s.toRaw c) = c := by
  rw [toRaw_of_valid hw hc, fromRaw_eq hw (valid_lt_raw hw hc)]
  exact Nat.mod_eq_of_lt ((valid_iff_lt hw c).mp hc)

theorem toRaw_fromRaw {raw : Nat} (h : raw < 2 ^ s.rawBpp) : s.toRaw (s.fromRaw raw) = raw % 2 ^ s.usedBits := by
  rw [toRaw_of_valid hw (fromRaw_valid hw h), fromRaw_eq hw h]

theorem chan_rgbNew (hk : s.isRgb = true) (r g b : Nat) :
    s.chanR (s.rgbNew r g b) = r % 2 ^ s.rbits ∧ s.chanG (s.rgbNew r g b) = g % 2 ^ s.gbits
      ∧ s.chanB (s.rgbNew r g b) = b % 2 ^ s.bbits := by
  obtain ⟨e1, e2, e3⟩ := chans_eq hw hk (s.rgbNew r g b)
  obtain ⟨f1, f2, f3, _⟩ := fields_of_sum hw hk (Nat.mod_lt r (Nat.two_pow_pos _)) (Nat.mod_lt g (Nat.two_pow_pos _))
    (Nat.mod_lt b (Nat.two_pow_pos _)) (rgbNew_eq hw hk r g b)
  rw [e1, e2, e3]
  exact ⟨f1, f2, f3⟩

theorem rgbNew_valid (hk : s.isRgb = true) (r g b : Nat) : s.Valid (s.rgbNew r g b) :=
  (valid_iff_lt hw _).mpr (fields_of_sum hw hk (Nat.mod_lt r (Nat.two_pow_pos _)) (Nat.mod_lt g (Nat.two_pow_pos _))
    (Nat.mod_lt b (Nat.two_pow_pos _)) (rgbNew_eq hw hk r g b)).2.2.2

theorem valid_eq_rgbNew (hk : s.isRgb = true) {c : Nat} (hc : s.Valid c) :
    c = s.rgbNew (s.chanR c) (s.chanG c) (s.chanB c)
    ∧ s.chanR c < 2 ^ s.rbits ∧ s.chanG c < 2 ^ s.gbits ∧ s.chanB c < 2 ^ s.bbits := by
  obtain ⟨e1, e2, e3⟩ := chans_eq hw hk c
  rw [e1, e2, e3, rgbNew_eq hw hk, Nat.mod_mod, Nat.mod_mod, Nat.mod_mod, ← sum_of_fields hw hk]
  exact ⟨(Nat.mod_eq_of_lt ((valid_iff_lt hw c).mp hc)).symm, Nat.mod_lt _ (Nat.two_pow_pos _),
    Nat.mod_lt _ (Nat.two_pow_pos _), Nat.mod_lt _ (Nat.two_pow_pos _)⟩

theorem grayNew_eq (l : Nat) : s.grayNew l = l % 2 ^ s.rawBpp := rawNew_eq hw l

theorem grayNew_valid (hk : s.kind = .gray) (l : Nat) : s.Valid (s.grayNew l) := by
  unfold Valid
  rw [hk, grayNew_eq hw]
  exact Nat.mod_lt _ (Nat.two_pow_pos _)


theorem toLeBytes_eq (c : Nat) : s.toLeBytes c = leBytes s.nbytes (s.toRaw c) := by
  obtain ⟨_, _, _, _, _, h1, h2, h3⟩ := wf_raw hw
  unfold toLeBytes slice
  rw [h1, h2, List.drop_zero, take_leBytes h3]

theorem toBeBytes_eq (c : Nat) : s.toBeBytes c = (leBytes s.nbytes (s.toRaw c)).reverse := by
  obtain ⟨_, _, _, h1, h2, _, _, h3⟩ := wf_raw hw
  have e : s.rawStorageBits / 8 - s.beLo = s.nbytes := by omega
  unfold toBeBytes slice beBytes
  rw [List.take_of_length_le (by rw [List.length_reverse, length_leBytes, h1]; exact Nat.le_refl _),
    List.drop_reverse, length_leBytes, e, take_leBytes h3]

/-- `into_storage` is the raw value, and both byte views read back to it: the bytes dropped (for
`RawU24`: one of the four `u32` bytes) are zero because the raw value has at most `8 * nbytes` bits -/
theorem bytes_agree {c : Nat} (hc : s.Valid c) :
    s.intoStorage c = s.toRaw c
    ∧ ofBe (s.toBeBytes c) = s.intoStorage c ∧ ofLe (s.toLeBytes c) = s.intoStorage c
    ∧ (s.toBeBytes c).length = s.nbytes ∧ (s.toLeBytes c).length = s.nbytes
    ∧ s.toBeBytes c = (s.toLeBytes c).reverse
    ∧ (∀ x ∈ s.toBeBytes c, x < 256) := by
  have hfit : s.toRaw c < 256 ^ s.nbytes := by
    rw [toRaw_of_valid hw hc, show (256 : Nat) = 2 ^ 8 from rfl, ← Nat.pow_mul]
    exact Nat.lt_of_lt_of_le (valid_lt_raw hw hc) (Nat.pow_le_pow_right (by decide) (bpp_le_bytes hw))
  have hv : ofLe (leBytes s.nbytes (s.toRaw c)) = s.toRaw c := by rw [ofLe_leBytes, Nat.mod_eq_of_lt hfit]
  rw [toBeBytes_eq hw, toLeBytes_eq hw]
  refine ⟨rfl, ?_, hv, ?_, length_leBytes _ _, rfl, ?_⟩
  · unfold ofBe
    rw [List.reverse_reverse]
    exact hv
  · rw [List.length_reverse, length_leBytes]
  · intro x hx
    exact lt_of_mem_leBytes (List.mem_reverse.mp hx)

end wf

/-! ### per-record tactics

For a fact about one literal record of the table: split the membership, unfold the model on the literal
widths and positions, and leave linear arithmetic. -/

/-- structural log2 (so that `decide` can evaluate it on literals) -/
def lg : Nat → Nat → Nat
  | 0, _ => 0
  | f + 1, n => if n ≥ 2 then lg f (n / 2) + 1 else 0

/-- masking with a literal `2^k - 1` is `% 2^k` (side condition by `decide`) -/
theorem and_mask_eq_mod (x m : Nat) (h : m + 1 = 2 ^ lg 64 (m + 1)) : x &&& m = x % (m + 1) := by
  have h1 : m = 2 ^ lg 64 (m + 1) - 1 := by omega
  have h2 : x &&& (2 ^ lg 64 (m + 1) - 1) = x % 2 ^ lg 64 (m + 1) := Nat.and_two_pow_sub_one_eq_mod x _
  rw [← h1] at h2
  rw [h2, ← h]

/-- split `hs : s ∈ colorTable` into one goal per generated record (works for any table length) -/
macro "each_color" hs:ident : tactic => `(tactic|
  (simp only [colorTable, List.mem_cons, List.mem_nil_iff, or_false] at $hs:ident
   repeat' (rcases $hs:ident with heq | $hs:ident)
   all_goals subst_vars))

macro "color_norm_at" h:ident : tactic => `(tactic|
  (simp only [chanR, chanG, chanB, maxR, maxG, maxB, maxChan, rgbMask, rawMask, rawNew, rawFromU32,
     grayNew, luma, fromRaw, toRaw, intoStorage, Valid, usedBits] at $h:ident
   <;> try simp (disch := decide) only [and_mask_eq_mod, Nat.shiftLeft_eq, Nat.shiftRight_eq_div_pow,
     Nat.reducePow, Nat.reduceMul, Nat.reduceSub, Nat.reduceMod, Nat.reduceAdd, Nat.reduceDiv,
     Nat.reduceOr, Nat.one_mul, Nat.mul_one, Nat.div_one, Nat.shiftRight_zero] at $h:ident))

/-- reduce structure projections / literal powers in a hypothesis about a literal record -/
macro "lit_at" h:ident : tactic => `(tactic|
  (dsimp only at $h:ident
   try simp only [Nat.reducePow, Nat.reduceAdd, Nat.reduceMul] at $h:ident))

theorem table_wellFormed : ∀ s ∈ colorTable, s.WellFormed = true := by decide

theorem new_channels : ∀ s ∈ colorTable, s.isRgb = true → ∀ r g b, r < 256 → g < 256 → b < 256 →
    s.chanR (s.rgbNew r g b) = r % 2 ^ s.rbits ∧ s.chanG (s.rgbNew r g b) = g % 2 ^ s.gbits
      ∧ s.chanB (s.rgbNew r g b) = b % 2 ^ s.bbits :=
  fun s hs hk r g b _ _ _ => chan_rgbNew (table_wellFormed s hs) hk r g b

theorem raw_roundtrip : ∀ s ∈ colorTable, ∀ c, s.Valid c → s.fromRaw (s.toRaw c) = c :=
  fun s hs _ hc => fromRaw_toRaw (table_wellFormed s hs) hc

theorem into_fits : ∀ s ∈ colorTable, ∀ c, s.Valid c → s.toRaw c < 2 ^ s.rawBpp := by
  intro s hs c hc
  rw [toRaw_of_valid (table_wellFormed s hs) hc]
  exact valid_lt_raw (table_wellFormed s hs) hc

theorem raw_idempotent : ∀ s ∈ colorTable, ∀ raw, raw < 2 ^ s.rawBpp →
    s.toRaw (s.fromRaw (s.toRaw (s.fromRaw raw))) = s.toRaw (s.fromRaw raw) := by
  intro s hs raw hraw
  rw [fromRaw_toRaw (table_wellFormed s hs) (fromRaw_valid (table_wellFormed s hs) hraw)]

theorem storage_bytes_agree : ∀ s ∈ colorTable, ∀ c, s.Valid c →
    s.intoStorage c = s.toRaw c
    ∧ ofBe (s.toBeBytes c) = s.intoStorage c ∧ ofLe (s.toLeBytes c) = s.intoStorage c
    ∧ (s.toBeBytes c).length = s.nbytes ∧ (s.toLeBytes c).length = s.nbytes
    ∧ s.toBeBytes c = (s.toLeBytes c).reverse
    ∧ (∀ x ∈ s.toBeBytes c, x < 256) :=
  fun s hs _ hc => bytes_agree (table_wellFormed s hs) hc

end EG.Color
