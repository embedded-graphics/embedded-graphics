/-
  EG.Lemmas.TriRowScan — when a row of a styled triangle HAS a scanline: the line configuration of
  the row (`TriIntersections.row`, the pure `generate_lines`) hands something out
  (`LineConfig.pending ≠ []`).
  About the join model (EG.Model.ThickTriangle, namespace `EG.Joins`: `Tri`, `LineConfig`, `PointType`
  here are its types, not those of EG.Model.Triangle); what is known of the plain triangle scanline
  comes from EG.Lemmas.TriangleSpan through `Tri.toTriangle`.
  * `bint_nonempty_of_row`: a Bresenham line hits every row between its end points, so
    `bresenham_intersection` leaves a non-empty scanline there; `bint_nonempty_mono`: it never empties
    a scanline;
  * `intersection_nonempty`: a thick segment has a scanline in every row that one of its outline
    lines reaches;
  * `tri_scanlineIntersection_nonempty`: the plain triangle scanline is non-empty in every row between
    the lowest and the highest vertex;
  * `row_pending_of_edge`, `row_pending_of_plain`: such a row hands out a scanline (stroke drawn from
    the edge segments: the edge closure returns a first scanline, `EdgeIt.next_first_some` / plain
    triangle scanline of the collapsed and the fill-only cases);
  * `row_pending_nothing`: stroke width 0 without fill (not collapsed): no row has a scanline.
-/
import EG.Lemmas.JoinsWidth1Align
import EG.Lemmas.TriangleSpan
import EG.Lemmas.JoinsTriRows
namespace EG
namespace Joins
open Thick (LineSide StrokeOffset)

theorem bint_nonempty_mono (s : Scanline) (l : Line) (h : s.isEmpty = false) :
    (bint s l).isEmpty = false := by
  rw [bint_eq_scanline_bint, Scanline.bint_eq_extendAll]
  exact Scanline.nonempty_of_covers (Scanline.extendAll_mono _ (Scanline.covers_of_nonempty h))

theorem bint_nonempty_of_row (s : Scanline) (l : Line) (h1 : min l.start.y l.stop.y ≤ s.y)
    (h2 : s.y ≤ max l.start.y l.stop.y) : (bint s l).isEmpty = false := by
  rw [bint_eq_scanline_bint, Scanline.bint_eq_extendAll]
  obtain ⟨q, hq, hy⟩ := Line.exists_point_in_row l s.y h1 h2
  exact Scanline.nonempty_of_covers
    (Scanline.extendAll_covers _ s q (Scanline.mem_rowPixels.mpr ⟨hq, hy⟩))

theorem foldl_bint_nonempty_mono (ls : List Line) (s : Scanline) (h : s.isEmpty = false) :
    (ls.foldl bint s).isEmpty = false := by
  induction ls generalizing s with
  | nil => exact h
  | cons l ls ih => simp only [List.foldl_cons]; exact ih _ (bint_nonempty_mono s l h)

theorem foldl_bint_nonempty (ls : List Line) (s : Scanline) (l : Line) (hl : l ∈ ls)
    (h1 : min l.start.y l.stop.y ≤ s.y) (h2 : s.y ≤ max l.start.y l.stop.y) :
    (ls.foldl bint s).isEmpty = false := by
  induction ls generalizing s with
  | nil => cases hl
  | cons m ls ih =>
    simp only [List.foldl_cons]
    rcases List.mem_cons.mp hl with rfl | hl
    · exact foldl_bint_nonempty_mono ls _ (bint_nonempty_of_row s l h1 h2)
    · exact ih (bint s m) hl (by rw [bint_y]; exact h1) (by rw [bint_y]; exact h2)

theorem intersection_nonempty (s : ThickSegment) (y : Int) (l : Line) (hl : l ∈ s.outline)
    (h1 : min l.start.y l.stop.y ≤ y) (h2 : y ≤ max l.start.y l.stop.y) :
    (s.intersection y).isEmpty = false := by
  unfold ThickSegment.intersection
  exact foldl_bint_nonempty s.outline (Scanline.newEmpty y) l hl h1 h2

theorem tri_scanlineIntersection_nonempty (t : Tri) (y : Int)
    (h1 : min (min t.v1.y t.v2.y) t.v3.y ≤ y) (h2 : y ≤ max (max t.v1.y t.v2.y) t.v3.y) :
    (t.scanlineIntersection y).isEmpty = false := by
  rw [Tri.scanlineIntersection_eq, ← Triangle.span_eq_scanlineIntersection, Scanline.isEmpty_false_iff]
  exact Triangle.span_nonempty t.toTriangle y h1 h2

theorem sortedClockwise_ys (t : Tri) :
    min (min t.sortedClockwise.v1.y t.sortedClockwise.v2.y) t.sortedClockwise.v3.y =
      min (min t.v1.y t.v2.y) t.v3.y ∧
    max (max t.sortedClockwise.v1.y t.sortedClockwise.v2.y) t.sortedClockwise.v3.y =
      max (max t.v1.y t.v2.y) t.v3.y := by
  obtain ⟨-, -, e3, e4⟩ :=
    Triangle.extremes_of_mem_orders (Triangle.sortedClockwise_mem_orders t.toTriangle)
  rw [← toTriangle_sortedClockwise] at e3 e4
  exact ⟨e3, e4⟩

theorem pending_ne_nil_of_first {lc : LineConfig} (h : lc.first.isEmpty = false) : lc.pending ≠ [] := by
  unfold LineConfig.pending
  rw [h]
  cases lc.internal.isEmpty <;> simp

theorem pending_ne_nil_of_internal {lc : LineConfig} (h : lc.internal.isEmpty = false) : lc.pending ≠ [] := by
  unfold LineConfig.pending
  rw [h]
  simp

theorem row_pending_of_edge (it : TriIntersections) (hw : it.strokeWidth ≠ 0)
    (hc : it.isCollapsed = false) (y : Int) (k : Nat) (hk : k < 3) (hsc : (it.segJ y k).isEmpty = false) :
    (it.row y).pending ≠ [] := by
  apply pending_ne_nil_of_first
  obtain ⟨sc, e, hne⟩ := EdgeIt.next_first_some hw (it.segJ y) y hk ((Scanline.isEmpty_false_iff _).mp hsc)
  unfold TriIntersections.row genLines
  rw [hc, if_neg (by decide)]
  dsimp only
  rw [e]
  exact (Scanline.isEmpty_false_iff _).mpr hne

theorem row_pending_of_plain (it : TriIntersections)
    (hc : it.isCollapsed = true ∨ (it.strokeWidth = 0 ∧ it.hasFill = true)) (y : Int)
    (h1 : min (min it.triangle.v1.y it.triangle.v2.y) it.triangle.v3.y ≤ y)
    (h2 : y ≤ max (max it.triangle.v1.y it.triangle.v2.y) it.triangle.v3.y) :
    (it.row y).pending ≠ [] := by
  have hne := tri_scanlineIntersection_nonempty it.triangle y h1 h2
  apply pending_ne_nil_of_internal
  unfold TriIntersections.row genLines
  by_cases hcc : it.isCollapsed = true
  · rw [if_pos hcc]
    exact hne
  · rcases hc with hc | ⟨hw, hf⟩
    · exact absurd hc hcc
    · rw [if_neg hcc]
      unfold EdgeIt.next
      simp only [hw, hf, ↓reduceIte]
      exact hne

theorem row_pending_nothing (it : TriIntersections) (hw : it.strokeWidth = 0)
    (hf : it.hasFill = false) (hc : it.isCollapsed = false) (y : Int) : (it.row y).pending = [] := by
  unfold TriIntersections.row genLines EdgeIt.next
  simp only [hw, hf, hc, Bool.false_eq_true, ↓reduceIte, Option.getD_none, LineConfig.pending,
    Scanline.newEmpty_isEmpty, List.append_nil]

end Joins
end EG
