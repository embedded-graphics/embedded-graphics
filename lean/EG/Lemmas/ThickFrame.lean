/-
  EG.Lemmas.ThickFrame — the step vectors of a stroked line and of its perpendicular
  (`BresenhamParameters::new(line)`, `::new(line.perpendicular())`): what `StrokeCtx.Valid`
  (EG.Lemmas.ThickStep) records of them.
  * both pairs `(major, minor)` are unit vectors on the two different axes (`AxisPair`);
  * the steps of the perpendicular are the steps of the line turned by a quarter (`rot`,
    `steps_perpendicular`); a turn maps each step of an axis pair to the other one, up to the
    orientation `orient` of the pair (`rot_major`, `rot_minor`);
  * `mirror_extra_points` of the perpendicular decides on which side of the diagonal step the
    extra points lie: `major + minor` of the line is `minor' - major'` (mirrored) or
    `major' - minor'` (not mirrored) of the perpendicular - the reason why `Line::extents` may
    shorten an extra parallel by `major + minor`;
  * `delta = dmaj * major + dmin * minor`.
-/
import EG.Lemmas.ThickWidth1
namespace EG
namespace Thick
open Line

def smul (k : Int) (v : Pt) : Pt := ⟨k * v.x, k * v.y⟩

@[simp] theorem smul_x (k : Int) (v : Pt) : (smul k v).x = k * v.x := rfl
@[simp] theorem smul_y (k : Int) (v : Pt) : (smul k v).y = k * v.y := rfl

/-- `A`, `a` are unit vectors on the two different axes. -/
def AxisPair (A a : Pt) : Prop :=
  ((A = ⟨0, 1⟩ ∨ A = ⟨0, -1⟩) ∧ (a = ⟨1, 0⟩ ∨ a = ⟨-1, 0⟩)) ∨
  ((A = ⟨1, 0⟩ ∨ A = ⟨-1, 0⟩) ∧ (a = ⟨0, 1⟩ ∨ a = ⟨0, -1⟩))

theorem sgn_eq (a : Int) : sgn a = 1 ∨ sgn a = -1 := by
  unfold sgn; split <;> simp

theorem axisPair_params (n : Line) : AxisPair (pmaj n) (pmin n) := by
  unfold pmaj pmin AxisPair
  by_cases h : yMajor n
  · simp only [h, ↓reduceIte]
    left
    rcases sgn_eq (dyOf n) with h1 | h1 <;> rcases sgn_eq (dxOf n) with h2 | h2 <;> simp [h1, h2]
  · simp only [h, ↓reduceIte]
    right
    rcases sgn_eq (dyOf n) with h1 | h1 <;> rcases sgn_eq (dxOf n) with h2 | h2 <;> simp [h1, h2]

theorem sgn_neg {a : Int} (h : a ≠ 0) : sgn (-a) = -sgn a := by
  unfold sgn; split <;> split <;> omega

/-- A quarter turn clockwise: `Line::perpendicular` turns `delta` by it. -/
def rot (v : Pt) : Pt := ⟨v.y, -v.x⟩

/-- The orientation `det (A, a)` of a step pair. -/
def orient (A a : Pt) : Int := A.x * a.y - A.y * a.x

theorem orient_cases {A a : Pt} (h : AxisPair A a) : orient A a = 1 ∨ orient A a = -1 := by
  rcases h with ⟨h1 | h1, h2 | h2⟩ | ⟨h1 | h1, h2 | h2⟩ <;> subst h1 <;> subst h2 <;> decide

theorem axisPair_orient {A a : Pt} (h : AxisPair A a) :
    A.x = orient A a * a.y ∧ A.y = -(orient A a * a.x) ∧ a.x = -(orient A a * A.y) ∧
      a.y = orient A a * A.x := by
  rcases h with ⟨h1 | h1, h2 | h2⟩ | ⟨h1 | h1, h2 | h2⟩ <;> subst h1 <;> subst h2 <;> decide

theorem rot_major {A a : Pt} (h : AxisPair A a) : rot A = smul (-orient A a) a := by
  obtain ⟨h1, h2, -, -⟩ := axisPair_orient h
  rw [Pt.ext_iff']
  exact ⟨by show A.y = -orient A a * a.x; rw [Int.neg_mul]; exact h2,
    by show -A.x = -orient A a * a.y; rw [Int.neg_mul, ← h1]⟩

theorem rot_minor {A a : Pt} (h : AxisPair A a) : rot a = smul (orient A a) A := by
  obtain ⟨-, -, h3, h4⟩ := axisPair_orient h
  rw [Pt.ext_iff']
  exact ⟨h4, by show -a.x = orient A a * A.y; rw [h3, Int.neg_neg]⟩

/-- `mirror_extra_points` reads the orientation of its step pair. A turned pair keeps the orientation,
a turned pair that has changed places reverses it. -/
theorem mirror_rot {A a : Pt} (h : AxisPair A a) (t : Int) (e : MajorMinor Int) :
    (BresenhamParameters.mk t e ⟨rot A, rot a⟩).mirrorExtraPoints = decide (orient A a = 1) ∧
    (BresenhamParameters.mk t e ⟨rot a, rot A⟩).mirrorExtraPoints = decide (orient A a = -1) := by
  rcases h with ⟨h1 | h1, h2 | h2⟩ | ⟨h1 | h1, h2 | h2⟩ <;> subst h1 <;> subst h2 <;> exact ⟨rfl, rfl⟩

/-- **The steps of the perpendicular are the steps of the line, turned**; on a diagonal, where both
lines count as y-major, they change places. (On a vertical line the minor step of the perpendicular
is a convention of `sgn 0`.) -/
theorem steps_perpendicular (n : Line) :
    (aabs (dxOf n) ≠ aabs (dyOf n) ∧ pmaj n.perpendicular = rot (pmaj n) ∧
      (dxOf n ≠ 0 → pmin n.perpendicular = rot (pmin n))) ∨
    (aabs (dxOf n) = aabs (dyOf n) ∧
      (dxOf n ≠ 0 → pmaj n.perpendicular = rot (pmin n) ∧ pmin n.perpendicular = rot (pmaj n))) := by
  have hp : n.perpendicular.yMajor ↔ aabs (dxOf n) ≥ aabs (dyOf n) := by
    unfold yMajor; rw [dxOf_perpendicular, dyOf_perpendicular, aabs_neg]
  have h0 := aabs_nonneg (dyOf n)
  have hz := aabs_eq_zero_iff (dxOf n)
  unfold pmaj pmin rot
  rw [dxOf_perpendicular, dyOf_perpendicular]
  rcases Int.lt_trichotomy (aabs (dxOf n)) (aabs (dyOf n)) with h | h | h
  · have h1 : n.yMajor := Int.le_of_lt h
    have h2 : ¬ n.perpendicular.yMajor := fun hc => by have := hp.mp hc; omega
    rw [if_pos h1, if_pos h1, if_neg h2, if_neg h2]
    exact Or.inl ⟨by omega, rfl, fun hx => by rw [sgn_neg hx]⟩
  · have h1 : n.yMajor := Int.le_of_eq h
    have h2 : n.perpendicular.yMajor := hp.mpr (Int.le_of_eq h.symm)
    rw [if_pos h1, if_pos h1, if_pos h2, if_pos h2]
    exact Or.inr ⟨h, fun hx => ⟨by rw [sgn_neg hx], rfl⟩⟩
  · have h1 : ¬ n.yMajor := fun hc => by unfold yMajor at hc; omega
    have h2 : n.perpendicular.yMajor := hp.mpr (Int.le_of_lt h)
    rw [if_neg h1, if_neg h1, if_pos h2, if_pos h2]
    exact Or.inl ⟨by omega, by rw [sgn_neg (fun hx => by rw [hz.mpr hx] at h; omega)], fun _ => rfl⟩

theorem diagonal_step_rot {A a : Pt} (h : AxisPair A a) :
    (orient A a = 1 → A + a = rot a - rot A) ∧ (orient A a = -1 → A + a = rot A - rot a) := by
  rw [rot_major h, rot_minor h]
  constructor <;> intro ho <;> rw [ho, Pt.ext_iff'] <;>
    simp only [Pt.add_x, Pt.add_y, Pt.sub_x, Pt.sub_y, smul_x, smul_y] <;> omega

theorem mirror_red (n : Line) (hx : dxOf n ≠ 0) :
    ((BresenhamParameters.new n.perpendicular).mirrorExtraPoints = true →
      pmaj n + pmin n = pmin n.perpendicular - pmaj n.perpendicular) ∧
    ((BresenhamParameters.new n.perpendicular).mirrorExtraPoints = false →
      pmaj n + pmin n = pmaj n.perpendicular - pmin n.perpendicular) := by
  have hax := axisPair_params n
  obtain ⟨d1, d2⟩ := diagonal_step_rot hax
  have ho := orient_cases hax
  rw [params_new]
  rcases steps_perpendicular n with ⟨-, eM, em⟩ | ⟨-, hd⟩
  · rw [eM, em hx, (mirror_rot hax _ _).1]
    constructor <;> intro hm
    · exact d1 (of_decide_eq_true hm)
    · exact d2 (by have := of_decide_eq_false hm; omega)
  · obtain ⟨eM, em⟩ := hd hx
    rw [eM, em, (mirror_rot hax _ _).2]
    constructor <;> intro hm
    · exact d2 (of_decide_eq_true hm)
    · exact d1 (by have := of_decide_eq_false hm; omega)

theorem delta_decomp (n : Line) :
    n.stop - n.start = smul (dmaj n) (pmaj n) + smul (dmin n) (pmin n) := by
  have ha : ∀ a : Int, aabs a * sgn a = a := aabs_mul_sgn
  unfold dmaj dmin pmaj pmin
  by_cases h : yMajor n
  · simp only [h, ↓reduceIte, Pt.ext_iff', Pt.sub_x, Pt.sub_y, Pt.add_x, Pt.add_y, smul_x, smul_y,
      ha, Int.mul_zero, Int.zero_add, Int.add_zero]
    unfold dxOf dyOf
    exact ⟨rfl, rfl⟩
  · simp only [h, ↓reduceIte, Pt.ext_iff', Pt.sub_x, Pt.sub_y, Pt.add_x, Pt.add_y, smul_x, smul_y,
      ha, Int.mul_zero, Int.zero_add, Int.add_zero]
    unfold dxOf dyOf
    exact ⟨rfl, rfl⟩

theorem dmin_pos_iff (n : Line) : 0 < dmin n ↔ dxOf n ≠ 0 ∧ dyOf n ≠ 0 := by
  unfold dmin yMajor aabs
  split <;> split <;> (try split) <;> omega

end Thick
end EG
