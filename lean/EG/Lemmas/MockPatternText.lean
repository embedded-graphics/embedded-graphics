/-
  EG.Lemmas.MockPatternText — the direction text -> display -> text of the pattern round trip:
  for every pattern `from_pattern` accepts, the `Debug` rows of the display are the pattern again,
  normalised: every row padded with spaces to 64 columns (`normRow`), lower-case hex digits printed
  upper-case (`canonChar`, `Gray4` / `Gray8` only), trailing blank rows dropped. Here the character
  and row lemmas and the rows of a display made by `from_pattern` (the round trip itself is
  `C20.debug_pattern_roundtrip`), and the frame the `{:?}` text puts around the printed rows
  (`frameText`).
-/
import EG.Lemmas.MockPattern
namespace EG
namespace Mock

/-- `a`..`f` to `A`..`F`, every other character unchanged. -/
def upcaseHex (c : Char) : Char :=
  if 97 ≤ c.toNat ∧ c.toNat ≤ 102 then Char.ofNat (c.toNat - 32) else c

/-- What `Debug` prints for an accepted pattern character: the character itself; for the two types
that read hex digits in both cases (`Gray4`, `Gray8`: `char::to_digit(16)`) the upper-case digit. -/
def canonChar (ct : CT) (c : Char) : Char :=
  match ct with
  | .gray4 => upcaseHex c
  | .gray8 => upcaseHex c
  | _ => c

def accepted (ct : CT) : List Char :=
  ((List.range 128).map Char.ofNat).filter (fun c => (charToColor ct c).isSome)

theorem accepted_table : ∀ ct ∈ allCT, ∀ c ∈ accepted ct,
    (charToColor ct c).map (colorToChar ct) = some (canonChar ct c) ∧ canonChar ct c ≠ ' ' := by decide +kernel

theorem charToColor_ascii (ct : CT) (c : Char) (col : Color) (h : charToColor ct c = some col) :
    c.toNat < 128 := by
  have hd16 : ∀ v, toDigit16 c = some v → c.toNat < 128 := by
    intro v hv
    unfold toDigit16 at hv
    dsimp only at hv
    split at hv
    · omega
    · split at hv
      · omega
      · split at hv
        · omega
        · cases hv
  have hrgb : ∀ l : RgbLayout, l.named.lookup c = some col → c.toNat < 128 := by
    intro l hl
    obtain ⟨l₁, l₂, hm, _⟩ := List.lookup_eq_some_iff.mp hl
    have hm : c ∈ l.named.map Prod.fst := by rw [hm]; simp
    simp only [RgbLayout.named, List.map_cons, List.map_nil, List.mem_cons, List.not_mem_nil,
      or_false] at hm
    rcases hm with rfl | rfl | rfl | rfl | rfl | rfl | rfl | rfl <;> decide
  cases ct
  case binary =>
    unfold charToColor at h
    dsimp only at h
    split at h
    · next hc => rw [hc]; decide
    · split at h
      · next hc => rw [hc]; decide
      · cases h
  case gray2 =>
    unfold charToColor toDigit4 at h
    dsimp only at h
    split at h
    · omega
    · cases h
  case gray4 => exact hd16 col h
  case gray8 =>
    unfold charToColor at h
    dsimp only at h
    cases hv : toDigit16 c with
    | none => rw [hv] at h; cases h
    | some v => exact hd16 v hv
  all_goals exact hrgb _ h

theorem mem_accepted (ct : CT) (c : Char) (col : Color) (h : charToColor ct c = some col) :
    c ∈ accepted ct := by
  unfold accepted
  rw [List.mem_filter]
  refine ⟨?_, by rw [h]; rfl⟩
  rw [List.mem_map]
  exact ⟨c.toNat, List.mem_range.mpr (charToColor_ascii ct c col h), Char.ofNat_toNat c⟩

theorem canonChar_space (ct : CT) : canonChar ct ' ' = ' ' := by cases ct <;> decide

theorem convChar_show (ct : CT) (c : Char) (v : Option Color) (h : convChar ct c = some v) :
    showCell ct v = canonChar ct c ∧ (v.isNone = (showCell ct v == ' ')) := by
  unfold convChar at h
  by_cases hs : c = ' '
  · subst hs
    simp only [↓reduceIte, Option.some.injEq] at h
    subst h
    exact ⟨(canonChar_space ct).symm, rfl⟩
  · simp only [hs, ↓reduceIte] at h
    cases hc : charToColor ct c with
    | none => rw [hc] at h; cases h
    | some col =>
      rw [hc] at h
      simp only [Option.some.injEq] at h
      subst h
      obtain ⟨t1, t2⟩ := accepted_table ct (mem_allCT ct) c (mem_accepted ct c col hc)
      rw [hc] at t1
      simp only [Option.map_some, Option.some.injEq] at t1
      refine ⟨t1, ?_⟩
      show false = (colorToChar ct col == ' ')
      rw [t1]
      symm
      simpa using t2

/-- A pattern row as `Debug` prints it: canonical characters, padded with spaces to 64 columns. -/
def normRow (ct : CT) (r : List Char) : List Char :=
  (r.map (canonChar ct) ++ List.replicate 64 ' ').take 64

theorem normRow_of_le (ct : CT) (r : List Char) (h : r.length ≤ 64) :
    normRow ct r = r.map (canonChar ct) ++ List.replicate (64 - r.length) ' ' := by
  unfold normRow
  rw [take_append_replicate _ _ (by rw [List.length_map]; exact h), List.length_map]

def blankRow (row : List Char) : Bool := row.all (· == ' ')

theorem all_map_congr {α β : Type} (f : α → β) (P : β → Bool) (Q : α → Bool) : ∀ (l : List α),
    (∀ a ∈ l, Q a = P (f a)) → l.all Q = (l.map f).all P
  | [], _ => rfl
  | a :: rest, h => by
    simp only [List.all_cons, List.map_cons, h a (by simp),
      all_map_congr f P Q rest (fun x hx => h x (by simp [hx]))]

theorem padRow_show (ct : CT) (r : List Char) (vr : List (Option Color)) (h : convRow ct r = some vr) :
    (padRow vr).map (showCell ct) = normRow ct r ∧
    blankCells (padRow vr) = blankRow ((padRow vr).map (showCell ct)) := by
  rw [convRow_eq_seqO, seqO_eq_some_iff] at h
  constructor
  · unfold padRow normRow
    rw [List.map_take, List.map_append, List.map_replicate,
      map_eq_of_map_some h (fun c _ v hv => (convChar_show ct c v hv).1)]
    rfl
  · apply all_map_congr
    intro v hv
    unfold padRow at hv
    rcases List.mem_append.mp (List.mem_of_mem_take hv) with hv | hv
    · have hv' : some v ∈ r.map (convChar ct) := by rw [h]; exact List.mem_map_of_mem hv
      obtain ⟨c, _, hc⟩ := List.mem_map.mp hv'
      exact (convChar_show ct c v hc).2
    · rw [(List.mem_replicate.mp hv).2]; rfl

theorem show_of_convRows (ct : CT) (pat : List (List Char)) (rows : List (List (Option Color)))
    (h : convRows ct pat = some rows) :
    (rows.map padRow).map (fun row => row.map (showCell ct)) = pat.map (normRow ct) ∧
    ∀ row ∈ rows.map padRow, blankCells row = blankRow (row.map (showCell ct)) := by
  rw [convRows_eq_seqO, seqO_eq_some_iff] at h
  constructor
  · rw [List.map_map]
    exact map_eq_of_map_some h (fun r _ vr hvr => (padRow_show ct r vr hvr).1)
  · intro row hrow
    obtain ⟨vr, hvr, rfl⟩ := List.mem_map.mp hrow
    have hv' : some vr ∈ pat.map (convRow ct) := by rw [h]; exact List.mem_map_of_mem hvr
    obtain ⟨r, _, hr⟩ := List.mem_map.mp hv'
    exact (padRow_show ct r vr hr).2

theorem rows_of_pattern (rows : List (List (Option Color))) (hlen : rows.length ≤ 64) :
    (⟨cellsOfPattern rows, false, false⟩ : MD).rows =
      rows.map padRow ++ List.replicate (64 - rows.length) (List.replicate 64 none) := by
  unfold MD.rows
  dsimp only
  rw [toList_cellsOfPattern]
  have hall : ∀ r ∈ rows.map padRow ++ List.replicate (64 - rows.length) (List.replicate 64 none),
      r.length = 64 := by
    intro r hr
    rcases List.mem_append.mp hr with hr | hr
    · obtain ⟨v, _, rfl⟩ := List.mem_map.mp hr
      exact padRow_length v
    · rw [(List.mem_replicate.mp hr).2]; simp
  have hpc : patternColors rows =
      (rows.map padRow ++ List.replicate (64 - rows.length) (List.replicate 64 none)).flatten := by
    have hfl := flatMap_padRow_length rows
    rw [patternColors, take_append_replicate _ _ (by omega), List.flatten_append, ← List.flatMap_def,
      List.flatten_replicate_replicate, hfl, show 4096 - 64 * rows.length = (64 - rows.length) * 64 by omega]
  have hl : (rows.map padRow ++ List.replicate (64 - rows.length) (List.replicate 64 none)).length
      = 64 := by simp; omega
  rw [hpc]
  have hch := chunks64_flatten_rows _ hall
  rw [hl] at hch
  exact hch

theorem canonChar_charset : ∀ ct ∈ allCT, ∀ ch ∈ charset ct, canonChar ct ch = ch := by decide +kernel

theorem normRow_of_canonical (ct : CT) (r : List Char) (hl : r.length = 64)
    (hc : ∀ c ∈ r, canonChar ct c = c) : normRow ct r = r := by
  rw [normRow_of_le ct r (by omega), hl]
  simp only [Nat.sub_self, List.replicate_zero, List.append_nil]
  conv => rhs; rw [← List.map_id r]
  exact List.map_congr_left hc

/-- The complete `{:?}` text as a function of the printed rows alone (`MD.debugText` takes the number
of skipped rows from the display). -/
def frameText (rows : List (List Char)) : String :=
  let body := String.join (rows.map (fun r => String.ofList r ++ "\n"))
  let n := 64 - rows.length
  let skipped := if n > 0 then "(" ++ toString n ++ " empty rows skipped)\n" else ""
  "MockDisplay[\n" ++ body ++ skipped ++ "]\n"

theorem debugRows_length (ct : CT) (d : MD) : (d.debugRows ct).length = 64 - d.emptyRows := by
  unfold MD.debugRows
  rw [List.length_map, List.length_take, rows_length]
  omega

theorem debugRows_row_length (ct : CT) (d : MD) : ∀ r ∈ d.debugRows ct, r.length = 64 := by
  intro r hr
  unfold MD.debugRows at hr
  obtain ⟨row, hrow, rfl⟩ := List.mem_map.mp hr
  rw [List.length_map]
  exact rows_row_length d row (List.mem_of_mem_take hrow)

end Mock
end EG
