/-
  EG.Lemmas.ThickGeoDiscount — the band of a stroked line once the SKIPPED `Extra` perpendicular
  steps are discounted, for every line and every width (the mechanism of the known finding
  `C17:thick-band:wide-stroke-overcount`, made exact).

  Counting (the closed form `Side`, EG.Lemmas.ThickClosed): on each side, with `N` / `E` the `Normal` /
  `Extra` parallels returned so far and `S` the `Extra` steps skipped so far (`I = N + 1` left, `N` right
  major steps and `J = E + S` minor steps of the walker),
      walker error (left)   = 2 d (N + 1) - 2 D (E + S)        (right: -2 d N + 2 D (E + S))
      parallel error        = +-(2 d (E + S) - 2 D E)
      accumulator           = D + d + 2 D (N_L + N_R) + 2 d (E_L + E_R)
  and its bounds `SideB` keep all four errors within about `D`.
  Hence `2 D E = 2 d (E + S) + O(D)` on each side: a pixel of the `n`-th band of a side, at
  `|2 cross| <= 2 D n + D = 2 D N + 2 D E + D`, satisfies
      |2 cross| - 2 d S  <=  2 D N + 2 d E + D - (+-err)  =  (the side's share of the accumulator) + D - (+-err),
  and the two shares differ by `2 (D - d) z`, `z` = the difference of the numbers of `Extra` parallels
  of the two sides: `|z| <= 1` because both numbers are `d^2 n / L2 + O(1)` (an exact identity, see
  `disc_core`, EG.Lemmas.ThickArith), and `|z| = 1` forces the parallel error to the favourable end.
  With the accumulator `A <= 2 w L` at the moment the parallel is fetched:
      2 (|2 cross| - 2 d S(side))  <=  A + 5 D - d.

  At the end, in the namespace of the property file: `thickPoints_discount` in the oracle's metrics
  `cross`, `L2` (EG.Lemmas.ThickGeoMetric) with the oracle's choice of side (`discount_cross`): the
  pixels with `cross < 0` are discounted by the skipped steps of the LEFT side, the others by those of
  the RIGHT side (header of harness/src/m_thick.rs).
-/
import EG.Lemmas.ThickGeoMetric
set_option linter.unusedSimpArgs false
set_option linter.unnecessarySeqFocus false
namespace EG
namespace Thick
open ParallelsIterator StrokeCtx Line

theorem skipTotals_unique : ∀ (f g : Nat) (it : ParallelsIterator) (r r' : Nat × Nat),
    skipTotals f it = some r → skipTotals g it = some r' → r = r'
  | 0, _, _, _, _, h, _ => by simp [skipTotals] at h
  | _ + 1, 0, _, _, _, _, h => by simp [skipTotals] at h
  | f + 1, g + 1, it, r, r', h, h' => by
    unfold skipTotals at h h'
    cases hn : it.next with
    | none => rw [hn] at h; simp at h
    | some v =>
      obtain ⟨o, it'⟩ := v
      rw [hn] at h h'
      cases o with
      | none =>
        simp only [Option.some.injEq] at h h'
        rw [← h, ← h']
      | some x =>
        simp only at h h'
        cases h1 : skipTotals f it' with
        | none => rw [h1] at h; simp at h
        | some ab =>
          cases h2 : skipTotals g it' with
          | none => rw [h2] at h'; simp at h'
          | some ab' =>
            have := skipTotals_unique f g it' ab ab' h1 h2
            subst this
            rw [h1] at h
            rw [h2] at h'
            rw [h] at h'
            simpa using h'

/-- The two errors of a side in the variables of `disc_side`: the walker's error seen in the direction of
the walk, the parallel error seen in the direction of its steps, with their bounds. -/
theorem NInvC.norm {c : StrokeCtx} {s0 : Pt} {fl : Bool} {it : ParallelsIterator} {cnt : Nat × Nat}
    {I J E : Int × Int} (hg : NInvC c s0 fl it cnt I J E) (s : LineSide) :
    ∃ a p : Int, a = 2 * c.d * s.pick I - 2 * c.D * s.pick J ∧
      p = 2 * c.d * s.pick J - 2 * c.D * s.pick E ∧
      -c.D - s.eps < a ∧ a ≤ c.D + 2 * c.d - s.eps ∧ -c.D ≤ p ∧ p ≤ c.D := by
  obtain ⟨-, hw, hp, ⟨e1, e2, w1, w2, -⟩, -, -, -⟩ := hg.closed.side s
  refine ⟨_, _, rfl, rfl, ?_, ?_, ?_, ?_⟩
  · rw [hw] at w1
    rcases s.sgn_eps with ⟨a, _⟩ | ⟨a, _⟩ <;> rw [a] at w1 <;> omega
  · rw [hw] at w2
    rcases s.sgn_eps with ⟨a, _⟩ | ⟨a, _⟩ <;> rw [a] at w2 <;> omega
  · rw [hp] at e1 e2
    rcases s.sgn_eps with ⟨a, _⟩ | ⟨a, _⟩ <;> rcases dirL_cases fl with b | b <;> rw [a, b] at e1 e2 <;> omega
  · rw [hp] at e1 e2
    rcases s.sgn_eps with ⟨a, _⟩ | ⟨a, _⟩ <;> rcases dirL_cases fl with b | b <;> rw [a, b] at e1 e2 <;> omega

theorem LineSide.eps_swap (s : LineSide) : s.swap.eps = 1 - s.eps := by cases s <;> rfl

theorem skipTotals_succ (f : Nat) (it it' : ParallelsIterator) (r : Bresenham × ParallelLineType)
    (ab : Nat × Nat) (hn : it.next = some (some r, it')) (h : skipTotals f it' = some ab) :
    skipTotals (f + 1) it =
      some (it.nextSide.put (it.nextSide.pick ab + skipsFuel loopFuel it it.nextSide) ab) := by
  unfold skipTotals
  rw [hn]
  simp only [h]
  cases it.nextSide <;> rfl

/-- **Every parallel of the run, with the skipped steps of its side discounted.** `J - E` steps have
been skipped on a side before the state `it`, `ab` more are skipped in the rest of the run; a parallel
`x` of the side `t = x.1` lies in the band `+-m`, and `A` is the accumulator when it is fetched. -/
theorem run_discount (c : StrokeCtx) (hv : c.Valid) (fl : Bool) (hfr : c.FrameOK fl) (s : Pt)
    {it : ParallelsIterator} {xs : List ParItem} (hrun : Run it xs) :
    ∀ (cnt : Nat × Nat) (I J E : Int × Int), NInvC c s fl it cnt I J E →
    0 ≤ it.thicknessAccumulator →
    it.thicknessAccumulator = c.D + c.d + 2 * c.D * (I.1 + I.2 - 1) + 2 * c.d * (E.1 + E.2) →
    ∃ (f : Nat) (ab : Nat × Nat), skipTotals f it = some ab ∧
      ∀ x ∈ xs, ∃ (m A : Int), ParOK c s (c.ph c.M' * (x.1.sgn * m)) x.2.1 x.2.2 ∧ 0 ≤ A ∧
        A * A ≤ it.thicknessThreshold ∧ 1 - x.1.eps ≤ m ∧
        2 * (2 * c.D * m + c.D - 2 * c.d * (x.1.pick J - x.1.pick E + (x.1.pick ab : Nat))) ≤
          A + 5 * c.D - c.d := by
  have hD := hv.hD; have hd0 := hv.hd0; have hdD := hv.hdD
  refine Run.induct_closed c hv fl hfr s (motive := fun it cnt I J E xs =>
    0 ≤ it.thicknessAccumulator →
    it.thicknessAccumulator = c.D + c.d + 2 * c.D * (I.1 + I.2 - 1) + 2 * c.d * (E.1 + E.2) →
    ∃ (f : Nat) (ab : Nat × Nat), skipTotals f it = some ab ∧
      ∀ x ∈ xs, ∃ (m A : Int), ParOK c s (c.ph c.M' * (x.1.sgn * m)) x.2.1 x.2.2 ∧ 0 ≤ A ∧
        A * A ≤ it.thicknessThreshold ∧ 1 - x.1.eps ≤ m ∧
        2 * (2 * c.D * m + c.D - 2 * c.d * (x.1.pick J - x.1.pick E + (x.1.pick ab : Nat))) ≤
          A + 5 * c.D - c.d) ?_ ?_ hrun
  · intro it cnt I J E _ hacc _ _
    refine ⟨1, (0, 0), ?_, fun x hx => by cases hx⟩
    simp [skipTotals, next_done it hacc]
  · intro it it' cnt I J E b ty xs hg hn hg' hok hacc hthr hstep ih hA0 hA
    have hx01 := exTy_cases ty
    have hty : accStep c ty = 2 * c.D * (1 - exTy ty) + 2 * c.d * exTy ty := by
      cases ty <;> simp [accStep, exTy]
    have hty2 : accStep c ty ≤ 2 * c.D := by cases ty <;> simp only [accStep] <;> omega
    have hty0 : 0 ≤ accStep c ty := by cases ty <;> simp only [accStep] <;> omega
    have hAT : it.thicknessAccumulator * it.thicknessAccumulator ≤ it.thicknessThreshold := by omega
    -- the accumulator after the call, in the counters after the call
    have hA' : it'.thicknessAccumulator = c.D + c.d +
        2 * c.D * ((it.nextSide.put (it.nextSide.pick I + 1 - exTy ty) I).1 +
          (it.nextSide.put (it.nextSide.pick I + 1 - exTy ty) I).2 - 1) +
        2 * c.d * ((it.nextSide.put (it.nextSide.pick E + exTy ty) E).1 +
          (it.nextSide.put (it.nextSide.pick E + exTy ty) E).2) := by
      rw [hstep, hA, hty]
      cases it.nextSide <;> simp only [LineSide.put, LineSide.pick] <;> ring
    obtain ⟨f, ab, hst, hall⟩ := ih (by rw [hstep]; omega) hA'
    refine ⟨f + 1, _, skipTotals_succ f it it' (b, ty) ab hn hst, ?_⟩
    generalize hk : skipsFuel loopFuel it it.nextSide = k at hg' hall
    intro x hx
    rcases List.mem_cons.mp hx with rfl | hx
    · -- the parallel just yielded: side `t = it.nextSide`, counters `(i, j, e)` after the call, the
      -- other side `(i', j', e')`
      show ∃ m A, ParOK c s (c.ph c.M' * (it.nextSide.sgn * m)) b ty ∧ _
      obtain ⟨a, p, ha, hp, -, a2, p1, p2⟩ := hg'.norm it.nextSide
      obtain ⟨a', p', ha', hp', a1', -, p1', -⟩ := hg'.norm it.nextSide.swap
      have hne : it.nextSide.swap ≠ it.nextSide := by cases it.nextSide <;> decide
      simp only [LineSide.pick_put] at ha hp
      simp only [LineSide.pick_put_ne hne] at ha' hp'
      rw [LineSide.eps_swap] at a1'
      -- the numbers of the bands the two sides yield next, after the call
      have l1 := hg'.link it.nextSide
      have l2 := hg'.link it.nextSide.swap
      simp only [LineSide.pick_put, nextBand_bump] at l1
      simp only [LineSide.pick_put_ne hne, nextBand_bump_ne hne] at l2
      have hε := it.nextSide.sgn_eps
      have hband : nextBand it.nextSide cnt = it.nextSide.sgn *
          (it.nextSide.pick I + 1 - exTy ty + (it.nextSide.pick E + exTy ty) - 1) := by
        rcases hε with ⟨q, _⟩ | ⟨q, _⟩ <;> rw [q] at l1 ⊢ <;> omega
      -- the sides alternate: this one is one band ahead on the left, level on the right
      have hn' : it.nextSide.pick I + 1 - exTy ty + (it.nextSide.pick E + exTy ty) - 1 + it.nextSide.eps =
          it.nextSide.swap.pick I + it.nextSide.swap.pick E ∧
          1 - it.nextSide.eps ≤ it.nextSide.pick I + 1 - exTy ty + (it.nextSide.pick E + exTy ty) - 1 := by
        rcases hg.alt with ⟨q, hq⟩ | ⟨q, hq⟩ <;> rw [q] at l1 l2 ⊢ <;>
          simp only [LineSide.swap, LineSide.sgn, LineSide.eps, LineSide.pick, nextBand] at l1 l2 ⊢ <;>
          constructor <;> omega
      have key := disc_side c.D c.d it.nextSide.eps _ _ _ _ _ _ a p a' p' hD hd0 hdD
        (by rcases hε with ⟨_, q⟩ | ⟨_, q⟩ <;> simp [q]) ha hp ha' hp' a2 p1 p2 a1' p1' hn'.1
      rw [hband] at hok
      refine ⟨_, it.thicknessAccumulator, hok, hA0, hAT, hn'.2, ?_⟩
      rw [LineSide.pick_put]
      have hd' : 0 ≤ c.d * ((it.nextSide.pick ab : Nat) : Int) := Int.mul_nonneg hd0 (by omega)
      have he : 0 ≤ it.nextSide.eps := by rcases hε with ⟨_, q⟩ | ⟨_, q⟩ <;> rw [q] <;> decide
      have heD : 0 ≤ it.nextSide.eps * c.D := Int.mul_nonneg he (by omega)
      have hacc' : c.D + c.d + 2 * c.D * (it.nextSide.pick I + 1 - exTy ty + it.nextSide.swap.pick I - 1) +
          2 * c.d * (it.nextSide.pick E + exTy ty + it.nextSide.swap.pick E) =
          it.thicknessAccumulator + accStep c ty := by
        rw [hA, hty]
        cases it.nextSide <;> simp only [LineSide.swap, LineSide.pick] <;> ring
      rw [hacc'] at key
      push_cast
      linear_combination hty2 + key + 4 * hd' + 2 * heD
    · obtain ⟨m, A, g1, g2, g3, g4, g5⟩ := hall x hx
      refine ⟨m, A, g1, g2, by rw [← hthr]; exact g3, g4, ?_⟩
      -- the steps skipped in this call have moved from "before" to "after" for the later parallels
      by_cases ht : x.1 = it.nextSide
      · rw [ht, LineSide.pick_put, LineSide.pick_put] at g5
        rw [ht, LineSide.pick_put]
        push_cast
        linear_combination g5
      · rw [LineSide.pick_put_ne ht, LineSide.pick_put_ne ht] at g5
        rw [LineSide.pick_put_ne ht]
        exact g5

/-- **The reach of a stroked line with the skipped steps discounted**, every line and width: with
`(a, b)` the total numbers of skipped `Extra` steps on the left / right side, every pixel `q` lies
in a band `n` (`X - tau n` in `(-D, D]`, `X = ph q - ph start = -+ 2 cross`), and there is an
accumulator value `A >= 0`, `A^2 <= (2 w)^2 L2`, with
`2 (2 D |n| + D - 2 d (a resp. b)) <= A + 5 D - d` (`a` for the left bands `n > 0`). -/
theorem thickPoints_discount (l : Line) (w : Nat) (hw2 : w ≤ 2147483647) :
    ∃ (it0 : ParallelsIterator) (f a b : Nat),
      ParallelsIterator.new l (satAsI32 w) .none = some it0 ∧ skipTotals f it0 = some (a, b) ∧
      ∀ ps, thickPoints l w = some ps → ∀ q ∈ ps, ∃ (n A : Int), 0 ≤ A ∧
        A * A ≤ (w : Int) * 2 * ((w : Int) * 2) *
          ((ctxOf l).D * (ctxOf l).D + (ctxOf l).d * (ctxOf l).d) ∧
        -(ctxOf l).D < (ctxOf l).ph q - (ctxOf l).ph l.start - (ctxOf l).ph (ctxOf l).M' * n ∧
        (ctxOf l).ph q - (ctxOf l).ph l.start - (ctxOf l).ph (ctxOf l).M' * n ≤ (ctxOf l).D ∧
        (0 < n → 2 * (2 * (ctxOf l).D * n + (ctxOf l).D - 2 * (ctxOf l).d * (a : Int)) ≤
          A + 5 * (ctxOf l).D - (ctxOf l).d) ∧
        (n ≤ 0 → 2 * (2 * (ctxOf l).D * (-n) + (ctxOf l).D - 2 * (ctxOf l).d * (b : Int)) ≤
          A + 5 * (ctxOf l).D - (ctxOf l).d) := by
  have hv := ctxOf_valid l
  have hfr := frameOK_ctxOf l
  have hsat : satAsI32 w = (w : Int) := by unfold satAsI32; simp only [hw2, ↓reduceIte]
  obtain ⟨it0, xs, hnew0, hg, hacc, hthr, hrun, h⟩ := stroke_run l w
  rw [hsat] at hthr
  obtain ⟨f, ⟨a, b⟩, hst, hall⟩ := run_discount (ctxOf l) hv _ hfr l.start hrun (0, 0) _ _ _ hg
    (by rw [hacc]; have := hv.hD; have := hv.hd0; omega) (by rw [hacc]; simp)
  refine ⟨it0, f, a, b, hnew0, hst, ?_⟩
  intro ps hps q hq
  rw [h ps hps] at hq
  obtain ⟨x, hx, hqx⟩ := List.mem_flatMap.mp hq
  obtain ⟨m, A, hok, hA0, hAT, hm, h1⟩ := hall x hx
  rw [hthr] at hAT
  obtain ⟨b1, b2⟩ := parPts_band hv hok _ q hqx
  -- left parallels lie in the bands `m >= 1`, right ones in the bands `-m <= 0`
  cases hs : x.1 with
  | left =>
    rw [hs] at h1 hm b1 b2
    simp only [LineSide.sgn, LineSide.eps, LineSide.pick, Int.one_mul, Int.sub_zero, Int.zero_add] at h1 hm b1 b2
    exact ⟨m, A, hA0, hAT, b1, b2, fun _ => h1, fun h0 => by omega⟩
  | right =>
    rw [hs] at h1 hm b1 b2
    simp only [LineSide.sgn, LineSide.eps, LineSide.pick, Int.sub_zero, Int.zero_add] at h1 hm b1 b2
    refine ⟨-m, A, hA0, hAT, by rw [Int.neg_one_mul] at b1; exact b1, by rw [Int.neg_one_mul] at b2; exact b2,
      fun h0 => by omega, fun _ => by rw [Int.neg_neg]; exact h1⟩

end Thick
end EG

namespace EG.C17.Stroke
open EG

/-- The band form and the cross product, with the orientation of the left side fixed: left bands
(`tau n`, `n > 0`) are on the side `cross < 0`. Both signs are the orientation `om` of the line's step
pair. -/
theorem tau_cross (l : Line) :
    ((Thick.ctxOf l).ph (Thick.ctxOf l).M' = 2 * (Thick.ctxOf l).D ∧
      ∀ p, (Thick.ctxOf l).ph p - (Thick.ctxOf l).ph l.start = -(2 * cross l p)) ∨
    ((Thick.ctxOf l).ph (Thick.ctxOf l).M' = -(2 * (Thick.ctxOf l).D) ∧
      ∀ p, (Thick.ctxOf l).ph p - (Thick.ctxOf l).ph l.start = 2 * cross l p) := by
  have ht := (Thick.frame_ctxOf l).1
  have hp := ph_cross_om l
  rcases Thick.StrokeCtx.om_cases (Thick.ctxOf_valid l).ax with ho | ho <;> rw [ho] at ht hp
  · exact Or.inl ⟨by omega, fun p => by have := hp p; omega⟩
  · exact Or.inr ⟨by omega, fun p => by have := hp p; omega⟩

/-- `skL` / `skR` are the total numbers of `Extra` perpendicular steps that the
`ParallelsIterator` of the stroke skips on the left / right side (`Thick.skipTotals`, the counters
of the harness port `joins_port::skipped_extras`). -/
def SkippedSteps (l : Line) (w : Nat) (skL skR : Nat) : Prop :=
  ∃ it f, Thick.ParallelsIterator.new l (satAsI32 w) .none = some it ∧
    Thick.skipTotals f it = some (skL, skR)

theorem skippedSteps_unique (l : Line) (w : Nat) (a b a' b' : Nat) (h : SkippedSteps l w a b)
    (h' : SkippedSteps l w a' b') : a = a' ∧ b = b' := by
  obtain ⟨it, f, h1, h2⟩ := h
  obtain ⟨it', f', h1', h2'⟩ := h'
  obtain rfl := Option.some.inj (h1.symm.trans h1')
  have := Thick.skipTotals_unique f f' it _ _ h2 h2'
  simpa using this

/-- The oracle's discounted reach of a pixel:
`t = 2 |cross(p)| - 2 min(|dx|,|dy|) sk(side(p))`, left side = `cross < 0`. -/
def discountedReach (l : Line) (skL skR : Nat) (p : Pt) : Int :=
  2 * ((cross l p).natAbs : Int) - 2 * minorLen l * (if cross l p < 0 then (skL : Int) else (skR : Int))

theorem discount_cross (l : Line) (w : Nat) (hw2 : w ≤ 2147483647) :
    ∃ skL skR, SkippedSteps l w skL skR ∧ ∀ ps, Thick.thickPoints l w = some ps → ∀ p ∈ ps,
      ∃ A : Int, A * A ≤ (2 * (w : Int)) ^ 2 * L2 l ∧
        2 * discountedReach l skL skR p ≤ A + 5 * majorLen l - minorLen l := by
  obtain ⟨it0, f, a, b, hnew, hst, hall⟩ := Thick.thickPoints_discount l w hw2
  refine ⟨a, b, ⟨it0, f, hnew, hst⟩, ?_⟩
  have hv := Thick.ctxOf_valid l
  intro ps h p hp
  obtain ⟨n, A, hA0, hAT, b1, b2, h1, h2⟩ := hall ps h p hp
  refine ⟨A, ?_, ?_⟩
  · rw [L2_eq]
    have : (2 * (w : Int)) ^ 2 = (w : Int) * 2 * ((w : Int) * 2) := by ring
    rw [this]; exact hAT
  · rw [majorLen_eq, minorLen_eq]
    unfold discountedReach
    rw [minorLen_eq]
    have hor := tau_cross l
    exact Thick.discount_arith _ _ n A a b (cross l p) _ _ hv.hD hv.hd0 hv.hdD hA0 (by omega) (by omega)
      (hor.imp (fun h => ⟨h.1, h.2 p⟩) (fun h => ⟨h.1, h.2 p⟩)) b1 b2 h1 h2

/-- `2 t <= A + 5 D`, `A^2 <= (2 w)^2 L2`, `D^2 <= L2`: `t <= 0`, or `t` is within the band
`w/2 + 5/4`, hence within the oracle's attribution band `w/2 + 3/2` and the band `w/2 + 5/2` of the
property text. -/
theorem disc_band (t A D S w : Int) (hD : 0 ≤ D) (hS : D * D ≤ S) (hw : 0 ≤ w)
    (hA : A * A ≤ (2 * w) ^ 2 * S) (h : 2 * t ≤ A + 5 * D) :
    t ≤ 0 ∨ (4 * t ^ 2 ≤ (2 * w + 5) ^ 2 * S ∧ t ^ 2 ≤ (w + 3) ^ 2 * S ∧ t ^ 2 ≤ (w + 5) ^ 2 * S) := by
  by_cases ht : t ≤ 0
  · exact Or.inl ht
  right
  have h1 := Thick.reach_pow_le (2 * t) A D S w 5 5 (by omega) hD hS hw (by omega) (by omega) hA h
  have h2 := Thick.reach_pow_le (2 * t) A D S w 5 6 (by omega) hD hS hw (by omega) (by omega) hA h
  have h3 := Thick.reach_pow_le (2 * t) A D S w 5 10 (by omega) hD hS hw (by omega) (by omega) hA h
  refine ⟨?_, ?_, ?_⟩ <;> linarith

end EG.C17.Stroke
