/-
  EG.Lemmas.CheckedLine — range theorems of the Bresenham kernels (`BresenhamParameters::new`,
  `Bresenham::next`, `major_length`, `Line::points()`): for end points within `|x| <= 2^28`
  (`Chk.W`) the checked walk returns `some` of the plain walk.

  The proof does not need the closed form of the walk, only an inductive invariant of the plain
  state (`Walk`): `-T <= error <= T + M` (`T` = error threshold = major delta, `M = 2 * minor delta`;
  `T <= 2^29` for end points within `2^28`, so `T + M <= 3 * 2^29` fits) and "each call moves the point
  by at most one pixel per axis": from `2^28`, the at most `2^29 + 1` calls keep it within `2^30`.
-/
import EG.Lemmas.CheckedShapes
import EG.Model.CheckedLine
import EG.Lemmas.LinePoints
namespace EG.Chk
open EG

/-- `i32::abs` panics only for `i32::MIN`. -/
theorem ptAbs_ok {p : Pt} (h : (-2147483647 ≤ p.x ∧ p.x ≤ 2147483647) ∧
    (-2147483647 ≤ p.y ∧ p.y ≤ 2147483647)) : ptAbs p = some p.abs := by
  rw [ptAbs, chkI32_bind (by split <;> omega), chkI32_bind (by split <;> omega)]
  rfl

theorem abs_bounds {p : Pt} {B : Int} (hx : -B ≤ p.x ∧ p.x ≤ B) (hy : -B ≤ p.y ∧ p.y ≤ B) :
    (0 ≤ p.abs.x ∧ p.abs.x ≤ B) ∧ (0 ≤ p.abs.y ∧ p.abs.y ≤ B) := by
  unfold Pt.abs
  constructor <;> simp only <;> split <;> omega

theorem delta_bounds {l : Line} (hs : W.pt l.start) (he : W.pt l.stop) :
    ((-536870912 ≤ l.stop.x - l.start.x ∧ l.stop.x - l.start.x ≤ 536870912) ∧
     (-536870912 ≤ l.stop.y - l.start.y ∧ l.stop.y - l.start.y ≤ 536870912)) ∧
    (0 ≤ (l.stop - l.start).abs.x ∧ (l.stop - l.start).abs.x ≤ 536870912) ∧
    (0 ≤ (l.stop - l.start).abs.y ∧ (l.stop - l.start).abs.y ≤ 536870912) := by
  have hd : (-536870912 ≤ l.stop.x - l.start.x ∧ l.stop.x - l.start.x ≤ 536870912) ∧
      (-536870912 ≤ l.stop.y - l.start.y ∧ l.stop.y - l.start.y ≤ 536870912) := by omega
  exact ⟨hd, abs_bounds (p := l.stop - l.start) hd.1 hd.2⟩

theorem bresenhamParametersNew_ok {l : Line} (hs : W.pt l.start) (he : W.pt l.stop) :
    bresenhamParametersNew l = some (BresenhamParameters.new l) := by
  obtain ⟨hd, hax, hay⟩ := delta_bounds hs he
  unfold bresenhamParametersNew BresenhamParameters.new
  rw [ptSub_ok (by omega), some_bind, ptAbs_ok (by simp only [Pt.sub_x, Pt.sub_y]; omega), some_bind]
  simp only
  split <;> rw [chkI32_bind (by omega), chkI32_bind (by omega)] <;> rfl

theorem majorLength_ok {l : Line} (hs : W.pt l.start) (he : W.pt l.stop) :
    majorLength l = some (EG.majorLength l) := by
  obtain ⟨hd, hax, hay⟩ := delta_bounds hs he
  unfold majorLength
  rw [ptSub_ok (by omega), some_bind, ptAbs_ok (by simp only [Pt.sub_x, Pt.sub_y]; omega), some_bind]
  exact chkU32_ok (by omega)

/-- Unit steps: per axis the major and the minor step together move by at most one pixel. -/
structure UnitSteps (P : BresenhamParameters) : Prop where
  ax : -1 ≤ P.positionStep.major.x ∧ P.positionStep.major.x ≤ 1
  cx : -1 ≤ P.positionStep.minor.x ∧ P.positionStep.minor.x ≤ 1
  sx : -1 ≤ P.positionStep.major.x + P.positionStep.minor.x ∧
        P.positionStep.major.x + P.positionStep.minor.x ≤ 1
  ay : -1 ≤ P.positionStep.major.y ∧ P.positionStep.major.y ≤ 1
  cy : -1 ≤ P.positionStep.minor.y ∧ P.positionStep.minor.y ≤ 1
  sy : -1 ≤ P.positionStep.major.y + P.positionStep.minor.y ∧
        P.positionStep.major.y + P.positionStep.minor.y ≤ 1

/-- `B` bounds the point and grows by one per call (`bresenhamNext_ok`). `error_step.major` is the
step added on every call, `2 * minor delta` (the names are those of the Rust fields). -/
structure Walk (P : BresenhamParameters) (B : Int) (b : Bresenham) : Prop where
  unit : UnitSteps P
  minor : P.errorStep.minor = 2 * P.errorThreshold
  major : 0 ≤ P.errorStep.major ∧ P.errorStep.major ≤ 2 * P.errorThreshold
  thr : P.errorThreshold ≤ 536870912
  x : -B ≤ b.point.x ∧ b.point.x ≤ B
  y : -B ≤ b.point.y ∧ b.point.y ≤ B
  err : -P.errorThreshold ≤ b.error ∧ b.error ≤ P.errorThreshold + P.errorStep.major

/-- One coordinate of a step: from within `+-B` by an optional minor step and a major step,
together at most one pixel. -/
theorem step_coord {c m a B : Int} (hB : 0 ≤ B ∧ B ≤ 1073741824) (hc : -B ≤ c ∧ c ≤ B)
    (ha : -1 ≤ a ∧ a ≤ 1) (hm : -1 ≤ m ∧ m ≤ 1) (hs : -1 ≤ a + m ∧ a + m ≤ 1) :
    (-2147483648 ≤ c + m ∧ c + m ≤ 2147483647) ∧
    (-2147483648 ≤ c + m + a ∧ c + m + a ≤ 2147483647) ∧
    (-2147483648 ≤ c + a ∧ c + a ≤ 2147483647) ∧
    (-(B + 1) ≤ c + m + a ∧ c + m + a ≤ B + 1) ∧ (-(B + 1) ≤ c + a ∧ c + a ≤ B + 1) := by
  omega

/-- The error of a step: reduced by `2 T` when above the threshold `T`, then raised by `M`. -/
theorem step_error {e T M : Int} (hT : T ≤ 536870912) (hM : 0 ≤ M ∧ M ≤ 2 * T)
    (he : -T ≤ e ∧ e ≤ T + M) :
    (-2147483648 ≤ e - 2 * T ∧ e - 2 * T ≤ 2147483647) ∧
    (-2147483648 ≤ e - 2 * T + M ∧ e - 2 * T + M ≤ 2147483647) ∧
    (T < e → -T ≤ e - 2 * T + M ∧ e - 2 * T + M ≤ T + M) ∧
    (¬ T < e → (-2147483648 ≤ e + M ∧ e + M ≤ 2147483647) ∧ -T ≤ e + M ∧ e + M ≤ T + M) := by
  omega

theorem bresenhamNext_ok {P : BresenhamParameters} {B : Int} {b : Bresenham} (w : Walk P B b)
    (hB : 0 ≤ B ∧ B ≤ 1073741824) :
    Ret (bresenhamNext b P) (b.next P) fun r => Walk P (B + 1) r.2 := by
  obtain ⟨mx, mxa, ax, mxa', ax'⟩ := step_coord hB w.x w.unit.ax w.unit.cx w.unit.sx
  obtain ⟨my, mya, ay, mya', ay'⟩ := step_coord hB w.y w.unit.ay w.unit.cy w.unit.sy
  obtain ⟨e1, e2, e3, e4⟩ := step_error w.thr w.major w.err
  rw [← w.minor] at e1 e2 e3
  unfold bresenhamNext Bresenham.next
  by_cases hc : b.error > P.errorThreshold
  · simp only [hc, ↓reduceIte]
    rw [ptAdd_ok (a := b.point) (b := P.positionStep.minor) ⟨mx, my⟩, some_bind, chkI32_bind e1,
      pure_bind, ptAdd_ok (a := b.point + P.positionStep.minor) (b := P.positionStep.major) ⟨mxa, mya⟩,
      some_bind, chkI32_bind e2]
    exact ⟨rfl, w.unit, w.minor, w.major, w.thr, mxa', mya', e3 hc⟩
  · simp only [hc, ↓reduceIte]
    rw [pure_bind, ptAdd_ok (a := b.point) (b := P.positionStep.major) ⟨ax, ay⟩, some_bind,
      chkI32_bind (e4 hc).1]
    exact ⟨rfl, w.unit, w.minor, w.major, w.thr, ax', ay', (e4 hc).2⟩

theorem linePointsFuel_ok {P : BresenhamParameters} :
    ∀ (fuel : Nat) (b : Bresenham) (n : Nat) (B : Int), Walk P B b → 0 ≤ B → B + fuel ≤ 1073741824 →
      linePointsFuel fuel ⟨P, b, n⟩ = some (Line.PointsIt.toListFuel fuel ⟨P, b, n⟩) := by
  intro fuel
  induction fuel with
  | zero => intro b n B _ _ _; rfl
  | succ fuel ih =>
    intro b n B w hB0 hBf
    unfold linePointsFuel Line.PointsIt.toListFuel
    simp only [Line.PointsIt.next]
    by_cases hn : n > 0
    · simp only [hn, ↓reduceIte]
      obtain ⟨e, w'⟩ := bresenhamNext_ok w ⟨hB0, by omega⟩
      rw [e, some_bind, ih (b.next P).2 (n - 1) (B + 1) w' (by omega) (by omega)]
      rfl
    · simp only [hn, ↓reduceIte]
      rfl

theorem sgn_bounds (a : Int) : -1 ≤ Line.sgn a ∧ Line.sgn a ≤ 1 := by
  unfold Line.sgn; split <;> omega

theorem unitSteps_new (l : Line) : UnitSteps (BresenhamParameters.new l) := by
  have hx := sgn_bounds (Line.dxOf l)
  have hy := sgn_bounds (Line.dyOf l)
  rw [Line.params_new]
  unfold Line.pmaj Line.pmin
  by_cases h : Line.yMajor l
  · constructor <;> simp only [h, ↓reduceIte] <;> omega
  · constructor <;> simp only [h, ↓reduceIte] <;> omega

theorem dmaj_le {l : Line} {D : Int} (hx : -D ≤ l.stop.x - l.start.x ∧ l.stop.x - l.start.x ≤ D)
    (hy : -D ≤ l.stop.y - l.start.y ∧ l.stop.y - l.start.y ≤ D) : Line.dmaj l ≤ D := by
  unfold Line.dmaj Line.aabs Line.dxOf Line.dyOf
  split <;> split <;> omega

theorem walk_new {l : Line} (hs : W.pt l.start) (he : W.pt l.stop) :
    Walk (BresenhamParameters.new l) 268435456 (Bresenham.new l.start) := by
  have hd := dmaj_le (l := l) (D := 536870912) (by omega) (by omega)
  have h0 := Line.dmin_nonneg l
  have h1 := Line.dmin_le_dmaj l
  have u := unitSteps_new l
  rw [Line.params_new] at u ⊢
  exact ⟨u, rfl, by simp only; omega, hd, hs.1, hs.2, by simp only [Bresenham.new]; omega⟩

theorem majorLength_le {l : Line} (hs : W.pt l.start) (he : W.pt l.stop) :
    (268435456 : Int) + EG.majorLength l ≤ 1073741824 := by
  have := dmaj_le (l := l) (D := 536870912) (by omega) (by omega)
  have := Line.dmaj_nonneg l
  rw [Line.majorLength_eq]; omega

theorem linePoints_ok {l : Line} (hs : W.pt l.start) (he : W.pt l.stop) :
    linePoints l = some (Line.points l) := by
  unfold linePoints
  rw [majorLength_ok hs he, bresenhamParametersNew_ok hs he, some_bind, some_bind]
  exact linePointsFuel_ok _ _ _ _ (walk_new hs he) (by decide) (majorLength_le hs he)

end EG.Chk
