/-
  EG.Lemmas.Glue2ArcAngles — arcs and sectors GIVEN BY THEIR ANGLES, for the `fixed_point` build.

  `EG.Model.Sector` / `StyledArc` / `StyledSector` take the plane sector (and the sector's bevel) as
  parameters of the shape; `EG.Model.PlaneSectorNew` computes them from the raw angle bits. Here the
  two are put together: what `Arc::new(tl, d, start, sweep)` / `Sector::new(..)` is to the styled
  iterators of the fixed_point build. `none` = the checked build panics in the trigonometry.
-/
import EG.Model.PlaneSectorNew
namespace EG.Glue2
open EG

/-- The arc `Arc::new(tl, d, start, sweep)` with the plane sector the fixed_point build computes. -/
def arcOfAngles (tl : Pt) (d : Nat) (start sweep : Int) : Option Arc :=
  (Fx.planeSectorNew start sweep).map (fun ps => ⟨tl, d, ps⟩)

/-- The sector `Sector::new(tl, d, start, sweep)` with the plane sector and the bevel the fixed_point
build computes (`StyledPixelsIterator::new`: plane sector first, then the bevel). -/
def sectorOfAngles (tl : Pt) (d : Nat) (start sweep : Int) : Option (Sector × SectorBevel) :=
  (Fx.styledSectorTrig start sweep).map (fun t => (⟨tl, d, t.1⟩, t.2))

theorem arcOfAngles_translate (tl : Pt) (d : Nat) (start sweep : Int) (t : Pt) :
    arcOfAngles (tl + t) d start sweep = (arcOfAngles tl d start sweep).map (fun a => a.translate t) := by
  unfold arcOfAngles
  cases Fx.planeSectorNew start sweep <;> rfl

theorem sectorOfAngles_translate (tl : Pt) (d : Nat) (start sweep : Int) (t : Pt) :
    sectorOfAngles (tl + t) d start sweep =
      (sectorOfAngles tl d start sweep).map (fun x => (x.1.translate t, x.2)) := by
  unfold sectorOfAngles
  cases Fx.styledSectorTrig start sweep <;> rfl

end EG.Glue2
