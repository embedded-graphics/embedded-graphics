/-
  EG.Lemmas.TextLayoutTranslate — `Transform for Text`: line positions, returned position, bounding
  box, the calls on the binary target and the calls on the target all move by the translation vector.

  For the styles with exactly one of text / background colour set the colour adapter
  (`MonoFontDrawTarget` `Foreground` / `Background`) lowers a glyph cell to `draw_iter` over
  `area.points()` zipped with the glyph bits: `Rectangle::points` of the moved cell are the moved
  points as long as the cell is empty or inside the `i32` range before and after the move. Every
  cell lies in its line's strip, every strip in the text's bounding box
  (EG/Lemmas/TextLayoutBox.lean), so a guard on the bounding box alone suffices (`callIn_moveOK`;
  assembled in Props/C07/Text.lean).
-/
import EG.Lemmas.TextLayoutBox
import EG.Lemmas.CallTranslate
namespace EG
namespace TextLayout
open Font

theorem alignedPos_translate (f : MonoFont) (st : Style) (ts : TextStyle) (line : List Nat) (p d : Pt) :
    alignedPos f st ts line (p + d) = alignedPos f st ts line p + d := by
  unfold alignedPos
  cases ts.alignment <;> rw [Pt.ext_iff'] <;> constructor <;> simp only [Pt.add_x, Pt.add_y] <;> omega

theorem linesGo_translate (f : MonoFont) (st : Style) (ts : TextStyle) (d : Pt) :
    ∀ (segs : List (List Nat)) (p : Pt),
      linesGo f st ts (p + d) segs = (linesGo f st ts p segs).map (fun lp => (lp.1, lp.2 + d))
  | [], _ => rfl
  | seg :: rest, p => by
    have e : (⟨(p + d).x, (p + d).y + lineHeight f ts⟩ : Pt) = ⟨p.x, p.y + lineHeight f ts⟩ + d := by
      rw [Pt.ext_iff']; constructor <;> simp only [Pt.add_x, Pt.add_y] <;> omega
    simp only [linesGo, List.map_cons, alignedPos_translate, e, linesGo_translate f st ts d rest]

theorem lines_translate (f : MonoFont) (t : Text) (d : Pt) :
    lines f (t.translate d) = (lines f t).map (fun lp => (lp.1, lp.2 + d)) :=
  linesGo_translate f t.style t.ts d _ _

theorem drawString_next_translate (f : MonoFont) (atlas : Pt → Bool) (st : Style) (text : List Nat) (p d : Pt)
    (bl : Baseline) :
    (f.drawString atlas st text (p + d) bl).2 = (f.drawString atlas st text p bl).2 + d := by
  simp only [drawString_next]
  rw [Pt.ext_iff']; constructor <;> simp only [Pt.add_x, Pt.add_y] <;> omega

theorem measureString_translate (f : MonoFont) (st : Style) (text : List Nat) (p d : Pt) (bl : Baseline) :
    measureString f st text (p + d) bl =
      ⟨(measureString f st text p bl).bbox.translate d, (measureString f st text p bl).next + d⟩ := by
  simp only [measureString, Rect.translate, Metrics.mk.injEq, Rect.mk.injEq, and_true]
  constructor <;> rw [Pt.ext_iff'] <;> constructor <;> simp only [Pt.add_x, Pt.add_y] <;> omega

def shiftMM (d : Pt) : Option (Pt × Pt) → Option (Pt × Pt)
  | none => none
  | some (mn, mx) => some (mn + d, mx + d)

theorem updateMinMax_translate (mm : Option (Pt × Pt)) (m : Metrics) (d : Pt) :
    updateMinMax (shiftMM d mm) ⟨m.bbox.translate d, m.next + d⟩ = shiftMM d (updateMinMax mm m) := by
  unfold updateMinMax
  simp only [Rect.bottomRight_translate]
  cases hbr : m.bbox.bottomRight with
  | none => rfl
  | some br =>
    cases mm with
    | none => rfl
    | some mnmx =>
      obtain ⟨mn, mx⟩ := mnmx
      simp only [Option.map_some, shiftMM, Rect.translate, Option.some.injEq, Prod.mk.injEq]
      constructor <;> rw [Pt.ext_iff'] <;> simp only [Pt.add_x, Pt.add_y] <;> omega

theorem minMaxGo_translate (f : MonoFont) (st : Style) (bl : Baseline) (d : Pt) :
    ∀ (ls : List (List Nat × Pt)) (mm : Option (Pt × Pt)),
      minMaxGo f st bl (shiftMM d mm) (ls.map (fun lp => (lp.1, lp.2 + d))) =
        shiftMM d (minMaxGo f st bl mm ls)
  | [], _ => rfl
  | (l, p) :: rest, mm => by
    simp only [List.map_cons, minMaxGo, measureString_translate, updateMinMax_translate]
    exact minMaxGo_translate f st bl d rest _

theorem mmBox_translate (pos d : Pt) : ∀ (mm : Option (Pt × Pt)),
    mmBox (pos + d) (shiftMM d mm) = (mmBox pos mm).translate d
  | none => rfl
  | some (mn, mx) => Rect.withCorners_translate mn mx d

theorem boundingBox_translate (f : MonoFont) (t : Text) (d : Pt) :
    boundingBox f (t.translate d) = (boundingBox f t).translate d := by
  rw [boundingBox_eq_mmBox, boundingBox_eq_mmBox, lines_translate, ← mmBox_translate]
  exact congrArg (mmBox _) (minMaxGo_translate f t.style t.ts.baseline d (lines f t) none)

def bcallTranslate (d : Pt) : BCall → BCall
  | .fillContiguous a bits => .fillContiguous (a.translate d) bits
  | .fillSolid a on => .fillSolid (a.translate d) on

theorem glyphCalls_translate (f : MonoFont) (atlas : Pt → Bool) (c : Nat) (p d : Pt) :
    f.glyphCalls atlas c (p + d) = (f.glyphCalls atlas c p).map (bcallTranslate d) := by
  unfold MonoFont.glyphCalls
  simp only
  split <;> rfl

theorem spacingCalls_translate (f : MonoFont) (hasBg : Bool) (p d : Pt) :
    spacingCalls f hasBg (p + d) = (spacingCalls f hasBg p).map (bcallTranslate d) := by
  unfold spacingCalls
  split <;> rfl

theorem textBCalls_translate (f : MonoFont) (atlas : Pt → Bool) (hasBg : Bool) (d : Pt) :
    ∀ (text : List Nat) (p : Pt),
      textBCalls f atlas hasBg (p + d) text = (textBCalls f atlas hasBg p text).map (bcallTranslate d)
  | [], _ => rfl
  | [c], p => by simp only [textBCalls, glyphCalls_translate]
  | c :: c' :: cs, p => by
    have e1 : (⟨(p + d).x + (f.cw : Int), (p + d).y⟩ : Pt) = ⟨p.x + (f.cw : Int), p.y⟩ + d := by
      rw [Pt.ext_iff']; constructor <;> simp only [Pt.add_x, Pt.add_y] <;> omega
    have e2 : (⟨(p + d).x + (f.cw : Int) + (f.spacing : Int), (p + d).y⟩ : Pt) =
        ⟨p.x + (f.cw : Int) + (f.spacing : Int), p.y⟩ + d := by
      rw [Pt.ext_iff']; constructor <;> simp only [Pt.add_x, Pt.add_y] <;> omega
    simp only [textBCalls, glyphCalls_translate, e1, e2, spacingCalls_translate,
      textBCalls_translate f atlas hasBg d (c' :: cs), List.map_append]

theorem moveOK_of_rectIn {a R : Rect} {d : Pt} (h : RectIn a R) (hR : R.InRange)
    (hR' : (R.translate d).InRange) : a.MoveOK d := by
  by_cases hz : a.size.w = 0 ∨ a.size.h = 0
  · exact Or.inl (Rect.isZeroSized_iff.mpr hz)
  · right
    replace h := h.resolve_left (fun e => hz (Or.inl e))
    replace h := h.resolve_left (fun e => hz (Or.inr e))
    unfold Rect.InRange inI32 at hR hR' ⊢
    simp only [Rect.translate_tl, Rect.translate_size, Pt.add_x, Pt.add_y] at hR' ⊢
    omega

theorem zip_filter_map_translate (pts : List Pt) (bits : List Bool) (d : Pt) (keep : Bool → Bool)
    (c : Color) :
    (((pts.map (fun p => p + d)).zip bits).filter (fun pb => keep pb.2)).map (fun pb => (pb.1, c)) =
      Writes.translate d (((pts.zip bits).filter (fun pb => keep pb.2)).map (fun pb => (pb.1, c))) := by
  unfold Writes.translate
  rw [List.zip_map_left, List.filter_map, List.map_map, List.map_map]
  rfl

theorem lower_both_translate (tc bc : Color) (d : Pt) (b : BCall) :
    (Mode.both tc bc).lower (bcallTranslate d b) = ((Mode.both tc bc).lower b).map (Call.translate d) := by
  cases b <;> rfl

theorem lower_translate (m : Mode) (d : Pt) (b : BCall) (h : (bcallArea b).MoveOK d) :
    m.lower (bcallTranslate d b) = (m.lower b).map (Call.translate d) := by
  cases b with
  | fillContiguous a bits =>
    have hp := Rect.points_translate_of_moveOK h
    simp only [bcallArea] at hp
    cases m with
    | fg tc =>
      simp only [bcallTranslate, Mode.lower, List.map_cons, List.map_nil, Call.translate, hp]
      rw [zip_filter_map_translate a.points bits d (fun b => b) tc]
    | bg bc =>
      simp only [bcallTranslate, Mode.lower, List.map_cons, List.map_nil, Call.translate, hp]
      rw [zip_filter_map_translate a.points bits d (fun b => !b) bc]
    | both tc bc => rfl
  | fillSolid a on =>
    cases m <;> cases on <;> rfl

theorem drawDecorations_translate (f : MonoFont) (st : Style) (w : Nat) (p d : Pt) :
    f.drawDecorations st w (p + d) = (f.drawDecorations st w p).map (Call.translate d) := by
  have e : ∀ off h, decoRect off h (p + d) w = (decoRect off h p w).translate d := by
    intro off h
    simp only [decoRect, Rect.translate, Rect.mk.injEq, and_true]
    rw [Pt.ext_iff']; constructor <;> simp only [Pt.add_x, Pt.add_y] <;> omega
  unfold MonoFont.drawDecorations
  cases st.strikethrough.effective st.textColor <;> cases st.underline.effective st.textColor <;>
    simp [e, Call.translate]

theorem decoPartCalls_translate (f : MonoFont) (st : Style) (n : Nat) (p d : Pt) :
    decoPartCalls f st n (p + d) = (decoPartCalls f st n p).map (Call.translate d) := by
  unfold decoPartCalls
  split
  · rw [drawDecorations_translate]
  · rfl

/-- The hypothesis: text and background colour both set or both unset (every call is an area fill),
or `points()` of every cell moves with the cell. -/
theorem glyphPartCalls_translate (f : MonoFont) (atlas : Pt → Bool) (st : Style) (text : List Nat) (p d : Pt)
    (h : (st.textColor = none ↔ st.bgColor = none) ∨
      ∀ hasBg, ∀ b ∈ textBCalls f atlas hasBg p text, (bcallArea b).MoveOK d) :
    glyphPartCalls f atlas st text (p + d) = (glyphPartCalls f atlas st text p).map (Call.translate d) := by
  have key : ∀ (m : Mode) (hasBg : Bool), (∀ b ∈ textBCalls f atlas hasBg p text,
        m.lower (bcallTranslate d b) = (m.lower b).map (Call.translate d)) →
      (textBCalls f atlas hasBg (p + d) text).flatMap m.lower =
        ((textBCalls f atlas hasBg p text).flatMap m.lower).map (Call.translate d) := by
    intro m hasBg hm
    rw [textBCalls_translate, List.flatMap_map, List.map_flatMap]
    exact flatMap_congr_left _ _ _ hm
  unfold glyphPartCalls
  cases htc : st.textColor <;> cases hbg : st.bgColor <;> simp only
  · rfl
  · exact key _ _ (fun b hb => lower_translate _ d b (h.resolve_left (by simp [htc, hbg]) _ b hb))
  · exact key _ _ (fun b hb => lower_translate _ d b (h.resolve_left (by simp [htc, hbg]) _ b hb))
  · exact key _ _ (fun b _ => lower_both_translate _ _ d b)

theorem drawString_calls_translate (f : MonoFont) (atlas : Pt → Bool) (st : Style) (text : List Nat) (p d : Pt)
    (bl : Baseline)
    (h : (st.textColor = none ↔ st.bgColor = none) ∨
      ∀ hasBg, ∀ b ∈ textBCalls f atlas hasBg ⟨p.x, p.y - f.baselineOffset bl⟩ text, (bcallArea b).MoveOK d) :
    (f.drawString atlas st text (p + d) bl).1 = (f.drawString atlas st text p bl).1.map (Call.translate d) := by
  have e : (⟨(p + d).x, (p + d).y - f.baselineOffset bl⟩ : Pt) = ⟨p.x, p.y - f.baselineOffset bl⟩ + d := by
    rw [Pt.ext_iff']; constructor <;> simp only [Pt.add_x, Pt.add_y] <;> omega
  rw [drawString_calls, drawString_calls, e, glyphPartCalls_translate f atlas st text _ d h,
    decoPartCalls_translate, List.map_append]

theorem draw_calls_translate_of_lines (f : MonoFont) (atlas : Pt → Bool) (t : Text) (d : Pt)
    (h : ∀ lp ∈ lines f t, (f.drawString atlas t.style lp.1 (lp.2 + d) t.ts.baseline).1 =
      (f.drawString atlas t.style lp.1 lp.2 t.ts.baseline).1.map (Call.translate d)) :
    (draw f atlas (t.translate d)).1 = (draw f atlas t).1.map (Call.translate d) := by
  rw [draw_calls, draw_calls, lines_translate, List.flatMap_map, List.map_flatMap]
  exact flatMap_congr_left _ _ _ h

/-- A call inside a box that is in range before and after the move satisfies the side condition
`Call.MoveOK` of `picture_translate_of_moveOK`. -/
theorem callIn_moveOK {R : Rect} {d : Pt} (hR : R.InRange) (hR' : (R.translate d).InRange) (B : Rect) :
    ∀ {c : Call}, CallIn R c → c.MoveOK B d
  | .drawIter _, _ => trivial
  | .fillContiguous _ _, hc => moveOK_of_rectIn hc hR hR'
  | .fillSolid _ _, hc => moveOK_of_rectIn hc hR hR'
  | .clear _, hc => absurd hc id

end TextLayout
end EG
