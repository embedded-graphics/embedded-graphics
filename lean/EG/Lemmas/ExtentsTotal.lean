/-
  EG.Lemmas.ExtentsTotal — `Line::extents` is total in the model: for every line, every stroke
  width and every stroke offset `Joins.extents l w off` (and `Thick.extents l w`) returns `some`
  pair of edge lines. The recursion bounds of the model's loops (`extentsLoop`: `2 w + 4` rounds of
  two parallels; `lastParallel`: `4 w + 8` parallels) are never exhausted, so the `Option` of
  everything built on `extents` (`LineJoin::start / end / from_points`, thick segments, styled
  polylines and triangles) is `some`: the C07 / C02 statements about them, which are equalities /
  implications on `Option`s, are not vacuous.

  Why the bounds suffice (the measure `pm` of Lemmas/ThickTotal.lean only gives "at most
  `threshold + 1` parallels"; here the count is linear in the width):
  * each side walks the perpendicular of the line with its own Bresenham error; a `Normal`
    perpendicular point adds `2 M` (`M = max(|dx|, |dy|)`) to the thickness accumulator, an `Extra`
    one `2 m >= 0`;
  * after an `Extra` parallel of a side the next perpendicular point of that side is `Normal`
    (`Ready`; `ParCall.of_extra`, EG.Lemmas.ThickStep), so the potential
    `psi = accumulator + M [left ready] + M [right ready]` grows by at least `M` with every
    parallel returned, whichever side it is taken from (`next_step`);
  * the iterator stops once `accumulator^2 > (2 t)^2 (dx^2 + dy^2)`, and `dx^2 + dy^2 <= 2 M^2`,
    so `accumulator >= 3 t M + 1` ends it (`done_of_psi`): at most `3 t + 2` parallels are
    returned, where `t = min(w, i32::MAX)`.
-/
import EG.Lemmas.ThickTotal
import EG.Lemmas.JoinsExtents
import Mathlib.Tactic.Linarith
import Mathlib.Tactic.Ring
namespace EG
namespace Thick
open ParallelsIterator

/-- `M` if the next perpendicular point of the side is `Normal`, else 0. -/
def rdy (it : ParallelsIterator) (s : LineSide) : Int :=
  if Ready it s then it.perpendicularParameters.errorThreshold else 0

/-- The potential: thickness accumulated so far plus `M` for every side whose next perpendicular
point is `Normal`. -/
def psi (it : ParallelsIterator) : Int :=
  it.thicknessAccumulator + rdy it .left + rdy it .right

theorem rdy_congr {a b : ParallelsIterator} {s : LineSide}
    (h1 : b.perpendicularParameters = a.perpendicularParameters) (h2 : b.walk s = a.walk s) :
    rdy b s = rdy a s := by
  simp only [rdy, ready_iff, h1, h2]

theorem rdy_bounds (it : ParallelsIterator) (s : LineSide)
    (h : 0 ≤ it.perpendicularParameters.errorThreshold) :
    0 ≤ rdy it s ∧ rdy it s ≤ it.perpendicularParameters.errorThreshold := by
  unfold rdy; split <;> omega

theorem rdy_of_ready {it : ParallelsIterator} {s : LineSide} (h : Ready it s) :
    rdy it s = it.perpendicularParameters.errorThreshold := by
  unfold rdy; rw [if_pos h]

theorem rdy_of_not_ready {it : ParallelsIterator} {s : LineSide} (h : ¬ Ready it s) :
    rdy it s = 0 := by
  unfold rdy; rw [if_neg h]

/-- One parallel returned by `ParallelsIterator::next` raises the potential by at least `M = c.D`: a
`Normal` one adds `2 M` to the accumulator and may cost the side its `M`; an `Extra` one adds `2 m >= 0`,
and the side, which was not ready, is ready after it. -/
theorem next_step (c : StrokeCtx) (hv : c.Valid) (it : ParallelsIterator) (hq : Sides c it)
    (hacc : ¬ it.thicknessAccumulator * it.thicknessAccumulator > it.thicknessThreshold) :
    ∃ b ty it', it.next = some (some (b, ty), it') ∧ Sides c it' ∧ psi it + c.D ≤ psi it' ∧
      it'.thicknessThreshold = it.thicknessThreshold := by
  obtain ⟨pt, it1, k, b, ty, it', hcall, -, hpt, hn, hs', rfl⟩ := next_call c hv it hq hacc
  obtain ⟨w', e', rfl⟩ := hcall.eq_setSide
  obtain ⟨-, f2, f3, f4, -, -, -⟩ := sameFrame_setSide it it.nextSide w' e'
  refine ⟨b, ty, _, hn, hs', ?_, f4⟩
  have hD := hv.hD; have hd0 := hv.hd0
  have hthr : it.perpendicularParameters.errorThreshold = c.D := by rw [hq.hperp]; rfl
  -- `next` itself leaves the walkers alone
  have hnext : ∀ (a : Int) (n s : LineSide),
      rdy ({ it.setSide it.nextSide w' e' with thicknessAccumulator := a, nextSide := n } :
        ParallelsIterator) s = rdy (it.setSide it.nextSide w' e') s :=
    fun a n s => rdy_congr rfl (by cases s <;> rfl)
  -- the other side is as ready as before, the side of the call at least not less than 0
  have hother : rdy (it.setSide it.nextSide w' e') it.nextSide.swap = rdy it it.nextSide.swap :=
    rdy_congr f2 (walk_setSide_ne it (by cases it.nextSide <;> decide) w' e')
  have b0 := rdy_bounds it it.nextSide (by omega)
  have b1 := rdy_bounds (it.setSide it.nextSide w' e') it.nextSide (by rw [f2]; omega)
  have hsum : ∀ a : ParallelsIterator,
      rdy a .left + rdy a .right = rdy a it.nextSide + rdy a it.nextSide.swap := by
    intro a
    cases it.nextSide
    · rfl
    · exact Int.add_comm _ _
  have hs0 := hsum it
  have hs1 := hsum (it.setSide it.nextSide w' e')
  unfold psi
  dsimp only
  simp only [hnext]
  rw [f2, f3, hq.hperp]
  rw [f2, hthr] at b1
  rw [hthr] at b0
  rcases hpt with ⟨-, rfl⟩ | ⟨rfl, rfl⟩
  · show _ ≤ it.thicknessAccumulator + c.perp.errorStep.minor + _ + _
    rw [c.perp_smin]
    omega
  · -- the side was not ready before the `Extra` point and is ready after it
    obtain ⟨-, -, hr, hr', -, -⟩ := hcall.of_extra
    have e0 := rdy_of_not_ready (fun h => hr ((ready_ctx c it _ hq.hperp).mp h))
    have e1 := rdy_of_ready ((ready_ctx c _ _ (f2.trans hq.hperp)).mpr hr')
    rw [f2, hthr] at e1
    show _ ≤ it.thicknessAccumulator + c.perp.errorStep.major + _ + _
    rw [c.perp_smaj]
    omega

/-- A potential of `3 t M + 2 M + 1` ends the iterator: `accumulator >= 3 t M + 1`, and the
threshold `(2 t)^2 (dx^2 + dy^2)` is at most `8 (t M)^2`. -/
theorem done_of_psi (t M : Int) (it : ParallelsIterator) (hM : 1 ≤ M)
    (hthrM : it.perpendicularParameters.errorThreshold = M) (ht : 0 ≤ t)
    (hthr : it.thicknessThreshold ≤ 8 * ((t * M) * (t * M)))
    (hpsi : 3 * (t * M) + 2 * M + 1 ≤ psi it) :
    it.thicknessAccumulator * it.thicknessAccumulator > it.thicknessThreshold := by
  have hM0 : 0 ≤ it.perpendicularParameters.errorThreshold := by rw [hthrM]; omega
  have bl := rdy_bounds it .left hM0
  have br := rdy_bounds it .right hM0
  rw [hthrM] at bl br
  have hu : 0 ≤ t * M := Int.mul_nonneg ht (by omega)
  have hacc : 3 * (t * M) + 1 ≤ it.thicknessAccumulator := by unfold psi at hpsi; omega
  nlinarith [Int.mul_nonneg hu hu]

theorem thicknessThreshold_le (l : Line) (t : Int) :
    t * 2 * (t * 2) * (Line.dxOf (paramLine l) * Line.dxOf (paramLine l) +
        Line.dyOf (paramLine l) * Line.dyOf (paramLine l)) ≤
      8 * ((t * Line.dmaj (paramLine l)) * (t * Line.dmaj (paramLine l))) := by
  have hD := dmaj_paramLine_pos l
  have hd0 := Line.dmin_nonneg (paramLine l)
  have hdD := Line.dmin_le_dmaj (paramLine l)
  rw [← dmaj_dmin_squares]
  have h1 : Line.dmin (paramLine l) * Line.dmin (paramLine l) ≤
      Line.dmaj (paramLine l) * Line.dmaj (paramLine l) := Int.mul_le_mul hdD hdD hd0 (by omega)
  have h2 : 0 ≤ t * t := mul_self_nonneg t
  nlinarith [Int.mul_le_mul_of_nonneg_left h1 h2]

end Thick

namespace Joins
open Thick (LineSide StrokeOffset ParallelsIterator ParallelLineType extentsLoop StrokeCtx Sides psi
  next_step done_of_psi next_done)

/-- `Iterator::last` on the parallels (the `Left / Right` arms of `extents`) never runs out of
fuel when the fuel covers the potential still missing. -/
theorem lastParallel_total (c : StrokeCtx) (hv : c.Valid) (t : Int) (ht : 0 ≤ t) : ∀ (f : Nat) (it : ParallelsIterator)
    (acc : Option (Bresenham × ParallelLineType)), Sides c it →
    it.thicknessThreshold ≤ 8 * ((t * c.D) * (t * c.D)) →
    3 * (t * c.D) + 2 * c.D + 1 ≤ psi it + (f : Int) * c.D →
    ∃ r, lastParallel (f + 1) it acc = some r := by
  intro f
  induction f with
  | zero =>
    intro it acc hq hthr hpsi
    have hd := done_of_psi t c.D it hv.hD (by rw [hq.hperp]; rfl) ht hthr (by simpa using hpsi)
    exact ⟨acc, by rw [lastParallel, next_done it hd]⟩
  | succ n ih =>
    intro it acc hq hthr hpsi
    by_cases hacc : it.thicknessAccumulator * it.thicknessAccumulator > it.thicknessThreshold
    · exact ⟨acc, by rw [lastParallel, next_done it hacc]⟩
    · obtain ⟨b, ty, it', hn, hq', hp, e⟩ := next_step c hv it hq hacc
      rw [lastParallel, hn]
      apply ih it' (some (b, ty)) hq' (by rw [e]; exact hthr)
      have : ((n + 1 : Nat) : Int) * c.D = (n : Int) * c.D + c.D := by push_cast; ring
      rw [this] at hpsi
      omega

/-- The `loop` of `extents` for `StrokeOffset::None` (two parallels per round) never runs out of
fuel when the fuel covers the potential still missing. -/
theorem extentsLoop_total (c : StrokeCtx) (hv : c.Valid) (t : Int) (ht : 0 ≤ t) : ∀ (f : Nat) (it : ParallelsIterator)
    (left right : Pt × ParallelLineType), Sides c it →
    it.thicknessThreshold ≤ 8 * ((t * c.D) * (t * c.D)) →
    3 * (t * c.D) + 2 * c.D + 1 ≤ psi it + (2 * (f : Int) + 1) * c.D →
    ∃ r, extentsLoop (f + 1) it left right = some r := by
  intro f
  induction f with
  | zero =>
    intro it left right hq hthr hpsi
    by_cases hacc : it.thicknessAccumulator * it.thicknessAccumulator > it.thicknessThreshold
    · exact ⟨(left, right), by rw [extentsLoop, next_done it hacc]⟩
    · obtain ⟨b, ty, it', hn, hq', hp, e⟩ := next_step c hv it hq hacc
      have hd := done_of_psi t c.D it' hv.hD (by rw [hq'.hperp]; rfl) ht (by rw [e]; exact hthr) (by simp at hpsi; omega)
      exact ⟨(left, (b.point, ty)), by rw [extentsLoop, hn]; simp only []; rw [next_done it' hd]⟩
  | succ n ih =>
    intro it left right hq hthr hpsi
    by_cases hacc : it.thicknessAccumulator * it.thicknessAccumulator > it.thicknessThreshold
    · exact ⟨(left, right), by rw [extentsLoop, next_done it hacc]⟩
    · obtain ⟨b, ty, it', hn, hq', hp, e⟩ := next_step c hv it hq hacc
      by_cases hacc' : it'.thicknessAccumulator * it'.thicknessAccumulator > it'.thicknessThreshold
      · exact ⟨(left, (b.point, ty)), by rw [extentsLoop, hn]; simp only []; rw [next_done it' hacc']⟩
      · obtain ⟨b2, ty2, it2, hn2, hq2, hp2, e2⟩ := next_step c hv it' hq' hacc'
        have hthr2 : it2.thicknessThreshold ≤ 8 * ((t * c.D) * (t * c.D)) := by rw [e2, e]; exact hthr
        have hneed : 3 * (t * c.D) + 2 * c.D + 1 ≤ psi it2 + (2 * (n : Int) + 1) * c.D := by
          have : (2 * ((n + 1 : Nat) : Int) + 1) * c.D = (2 * (n : Int) + 1) * c.D + c.D + c.D := by
            push_cast; ring
          rw [this] at hpsi
          omega
        obtain ⟨r, hr⟩ := ih it2 (b2.point, ty2) (b.point, ty) hq2 hthr2 hneed
        exact ⟨r, by rw [extentsLoop, hn]; simp only []; rw [hn2]; simp only []; exact hr⟩

theorem satAsI32_bounds (w : Nat) : 0 ≤ satAsI32 w ∧ satAsI32 w ≤ (w : Int) := by
  unfold satAsI32; split <;> omega

theorem extents_total (l : Line) (w : Nat) (off : StrokeOffset) : ∃ r, extents l w off = some r := by
  obtain ⟨iter, hnew, hq, hacc, hthr⟩ := Thick.new_sides l (satAsI32 w) off
  have hv := Thick.ctxOf_valid l
  obtain ⟨ht0, htw⟩ := satAsI32_bounds w
  have hD : 0 < Line.dmaj (Thick.paramLine l) := hv.hD
  have hd0 : 0 ≤ Line.dmin (Thick.paramLine l) := hv.hd0
  have hacc : iter.thicknessAccumulator = Line.dmaj (Thick.paramLine l) + Line.dmin (Thick.paramLine l) := hacc
  have hthr' : iter.thicknessThreshold ≤
      8 * ((satAsI32 w * Line.dmaj (Thick.paramLine l)) * (satAsI32 w * Line.dmaj (Thick.paramLine l))) := by
    rw [hthr]; exact Thick.thicknessThreshold_le l _
  have hM0 : 0 ≤ iter.perpendicularParameters.errorThreshold := by
    rw [hq.hperp]; exact Int.le_of_lt hv.hD
  have bl := Thick.rdy_bounds iter .left hM0
  have br := Thick.rdy_bounds iter .right hM0
  have hpsi0 : Line.dmaj (Thick.paramLine l) ≤ psi iter := by unfold Thick.psi; omega
  have hneed : 3 * (satAsI32 w * Line.dmaj (Thick.paramLine l)) + 2 * Line.dmaj (Thick.paramLine l) + 1 ≤
      psi iter + (4 * (w : Int) + 7) * Line.dmaj (Thick.paramLine l) := by
    have h1 : satAsI32 w * Line.dmaj (Thick.paramLine l) ≤ (w : Int) * Line.dmaj (Thick.paramLine l) :=
      Int.mul_le_mul_of_nonneg_right htw (by omega)
    have h2 : 0 ≤ (w : Int) * Line.dmaj (Thick.paramLine l) := Int.mul_nonneg (by omega) (by omega)
    rw [Int.add_mul, Int.mul_assoc]
    omega
  unfold extents
  rw [hnew]
  simp only [Option.bind_eq_bind, Option.bind_some]
  cases off with
  | none =>
    obtain ⟨r, hr⟩ := extentsLoop_total _ hv (satAsI32 w) ht0 (2 * w + 3) iter (l.start, .normal)
      (l.start, .normal) hq hthr' (by
        have : (2 * ((2 * w + 3 : Nat) : Int) + 1) = 4 * (w : Int) + 7 := by push_cast; ring
        rw [this]; exact hneed)
    have e : 2 * w + 4 = 2 * w + 3 + 1 := rfl
    simp only [e, hr, Option.bind_some, pure]
    exact ⟨_, rfl⟩
  | left | right =>
    obtain ⟨r, hr⟩ := lastParallel_total _ hv (satAsI32 w) ht0 (4 * w + 7) iter none hq hthr' (by
        have : ((4 * w + 7 : Nat) : Int) = 4 * (w : Int) + 7 := by push_cast; ring
        rw [this]; exact hneed)
    have e : 4 * w + 8 = 4 * w + 7 + 1 := rfl
    simp only [e, hr]
    rcases r with _ | ⟨b, ty⟩ <;> exact ⟨_, rfl⟩

/-- The same for the `StrokeOffset::None`-only copy used by the stroked-line model. -/
theorem thick_extents_total (l : Line) (w : Nat) : ∃ r, Thick.extents l w = some r := by
  rw [thick_extents_eq]
  exact extents_total l w .none

theorem thick_styledBoundingBox_total (l : Line) (w : Nat) : ∃ r, Thick.styledBoundingBox l w = some r := by
  obtain ⟨⟨a, b⟩, h⟩ := thick_extents_total l w
  unfold Thick.styledBoundingBox
  rw [h]
  exact ⟨_, rfl⟩

theorem start_total (s m : Pt) (w : Nat) (off : StrokeOffset) : ∃ j, LineJoin.start s m w off = some j := by
  obtain ⟨⟨a, b⟩, h⟩ := extents_total ⟨s, m⟩ w off
  unfold LineJoin.start
  rw [h]
  exact ⟨_, rfl⟩

theorem stop_total (m e : Pt) (w : Nat) (off : StrokeOffset) : ∃ j, LineJoin.stop m e w off = some j := by
  obtain ⟨⟨a, b⟩, h⟩ := extents_total ⟨m, e⟩ w off
  unfold LineJoin.stop
  rw [h]
  exact ⟨_, rfl⟩

theorem fromPoints_total (s m e : Pt) (w : Nat) (off : StrokeOffset) :
    ∃ j, LineJoin.fromPoints s m e w off = some j := by
  obtain ⟨⟨a, b⟩, h1⟩ := extents_total ⟨s, m⟩ w off
  obtain ⟨⟨c, d⟩, h2⟩ := extents_total ⟨m, e⟩ w off
  unfold LineJoin.fromPoints
  rw [h1, h2]
  exact ⟨_, rfl⟩

end Joins
end EG
