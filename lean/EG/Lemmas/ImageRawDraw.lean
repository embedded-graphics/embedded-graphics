/-
  EG.Lemmas.ImageRawDraw — the `ContiguousPixels` state machine equals its closed form: the raw
  pixels at `rowsFrom width (width + row_skip) initial_skip height`, up to the first failing `load`
  (`somePrefix`). Hence the colour stream `ImageRaw::draw` / `draw_sub_image` hand to
  `fill_contiguous`: for a buffer accepted by `new` it is exactly the `width * height` pixels of
  the area, row-major.
-/
import EG.Lemmas.ImageRaw
import EG.Lemmas.Stream
namespace EG.Img
open EG EG.Raw

/-- Raw indices of `n` rows of `w` pixels whose starts are `stride` apart. -/
def rowsFrom (w stride : Nat) : Nat → Nat → List Nat
  | _, 0 => []
  | start, n + 1 => (List.range w).map (fun j => start + j) ++ rowsFrom w stride (start + stride) n

theorem rowsFrom_eq (w stride : Nat) : ∀ (n start : Nat),
    rowsFrom w stride start n =
      (List.range n).flatMap (fun r => (List.range w).map (fun j => start + r * stride + j)) := by
  intro n
  induction n with
  | zero => intro start; rfl
  | succ n ih =>
    intro start
    rw [rowsFrom, ih, List.range_succ_eq_map, List.flatMap_cons, List.flatMap_map]
    simp only [Nat.zero_mul, Nat.add_zero, Nat.succ_mul]
    congr 1
    apply flatMap_congr_left
    intro r _
    apply List.map_congr_left
    intro j _
    omega

theorem rowsFrom_length (w stride : Nat) : ∀ (n start : Nat), (rowsFrom w stride start n).length = n * w := by
  intro n start
  rw [rowsFrom_eq, length_flatMap_const _ _ w (fun _ _ => by rw [List.length_map, List.length_range]),
    List.length_range]

theorem rowsFrom_mem {w stride : Nat} : ∀ (n start k : Nat), k ∈ rowsFrom w stride start n →
    ∃ r j, r < n ∧ j < w ∧ k = start + r * stride + j := by
  intro n start k h
  rw [rowsFrom_eq] at h
  simp only [List.mem_flatMap, List.mem_map, List.mem_range] at h
  obtain ⟨r, hr, j, hj, rfl⟩ := h
  exact ⟨r, j, hr, hj, rfl⟩

/-- The items a `for` loop sees of a sequence of `Option`s. -/
def somePrefix {α : Type} : List (Option α) → List α
  | [] => []
  | none :: _ => []
  | some a :: l => a :: somePrefix l

theorem somePrefix_map_some {α : Type} (l : List (Option α)) (h : ∀ x ∈ l, x ≠ none) :
    (somePrefix l).map some = l := by
  induction l with
  | nil => rfl
  | cons a l ih =>
    cases a with
    | none => exact absurd rfl (h none List.mem_cons_self)
    | some a =>
      simp only [somePrefix, List.map_cons]
      rw [ih (fun x hx => h x (List.mem_cons_of_mem _ hx))]

theorem somePrefix_length_le {α : Type} : ∀ (l : List (Option α)), (somePrefix l).length ≤ l.length
  | [] => Nat.le_refl _
  | none :: _ => Nat.zero_le _
  | some _ :: l => by
    simp only [somePrefix, List.length_cons]
    exact Nat.succ_le_succ (somePrefix_length_le l)

namespace CP

/-- The raw indices a state still reads. -/
def indices (s : CP) : List Nat :=
  (List.range s.remainingX).map (fun j => s.iter.index + j) ++
    rowsFrom s.width (s.width + s.rowSkip) (s.iter.index + s.remainingX + s.rowSkip) s.remainingY

/-- Closed form of what a state still yields: the raw pixels at `indices`, up to the first one
that lies beyond the buffer. -/
def rest (s : CP) : List Nat :=
  somePrefix (s.indices.map (load s.iter.bits s.iter.order s.iter.data))

/-- Invariant of the states reachable from `new`: a valid depth, at most `usize::MAX` pixels, and a positive
width while rows remain (so `width - 1` does not underflow). -/
structure Ok (s : CP) : Prop where
  bits : validBits s.iter.bits = true
  fits : Fits s.iter.bits s.iter.data
  width : 0 < s.remainingY → 0 < s.width

theorem indices_length (s : CP) : s.indices.length = s.remainingX + s.remainingY * s.width := by
  simp [indices, rowsFrom_length]

theorem range_succ_map (n a : Nat) :
    (List.range (n + 1)).map (fun j => a + j) = a :: (List.range n).map (fun j => a + 1 + j) := by
  rw [List.range_succ_eq_map]
  simp only [List.map_cons, List.map_map, Nat.add_zero]
  congr 1
  apply List.map_congr_left
  intro j _
  simp only [Function.comp]; omega

theorem drains : Drains (ofPair CP.next) CP.toListFuel :=
  ⟨fun _ => rfl, fun n s => by
    rw [toListFuel]; unfold ofPair; rcases s.next with ⟨_ | _, _⟩ <;> rfl⟩

theorem next_spec (s : CP) (hs : s.Ok) :
    s.rest = unroll (ofPair CP.next s) rest ∧ ∀ v s', ofPair CP.next s = some (v, s') → s'.Ok := by
  obtain ⟨it, rx, w, ry, rs⟩ := s
  obtain ⟨hb, hf, hw⟩ := hs
  simp only at hb hf hw
  unfold ofPair next
  cases rx with
  | succ rx =>
    simp only [Nat.succ_pos, ↓reduceIte, gt_iff_lt, Nat.add_sub_cancel]
    cases hl : load it.bits it.order it.data it.index with
    | none =>
      rw [Iter.next_none hl]
      refine ⟨?_, fun _ _ e => by cases e⟩
      simp only [rest, indices, range_succ_map, List.cons_append, List.map_cons, hl, somePrefix,
        Option.map_none, unroll]
    | some v =>
      rw [Iter.next_some hl]
      refine ⟨?_, fun _ _ e => by cases e; exact ⟨hb, hf, hw⟩⟩
      simp only [rest, indices, range_succ_map, List.cons_append, List.map_cons, hl, somePrefix,
        Option.map_some, unroll]
      have e : it.index + (rx + 1) + rs = it.index + 1 + rx + rs := by omega
      rw [e]
  | zero =>
    simp only [Nat.lt_irrefl, ↓reduceIte, gt_iff_lt]
    cases ry with
    | zero =>
      refine ⟨?_, fun _ _ e => by cases e⟩
      simp only [↓reduceIte, rest, indices, List.range_zero, List.map_nil, rowsFrom, List.append_nil,
        somePrefix, Option.map_none, unroll]
    | succ ry =>
      simp only [Nat.succ_ne_zero, ↓reduceIte, Nat.add_sub_cancel]
      have hw0 : 0 < w := hw (Nat.succ_pos _)
      obtain ⟨w', rfl⟩ : ∃ w', w = w' + 1 := ⟨w - 1, by omega⟩
      cases hl : load it.bits it.order it.data (it.index + rs) with
      | none =>
        have h1 := Iter.nth_fst it hb hf rs
        rw [hl] at h1
        have : (it.nth rs) = (none, (it.nth rs).2) := by rw [← h1]
        rw [this]
        refine ⟨?_, fun _ _ e => by cases e⟩
        simp only [rest, indices, List.range_zero, List.map_nil, List.nil_append, Nat.add_zero, rowsFrom,
          range_succ_map, List.cons_append, List.map_cons, hl, somePrefix, Option.map_none, unroll]
      | some v =>
        rw [Iter.nth_some hb hf hl]
        refine ⟨?_, fun _ _ e => by cases e; exact ⟨hb, hf, fun _ => Nat.succ_pos _⟩⟩
        simp only [rest, indices, List.range_zero, List.map_nil, List.nil_append, Nat.add_zero, rowsFrom,
          range_succ_map, List.cons_append, List.map_cons, hl, somePrefix, Nat.add_sub_cancel,
          Option.map_some, unroll]
        have e : it.index + rs + 1 + w' + rs = it.index + rs + (w' + 1 + rs) := by omega
        rw [e]

theorem toListFuel_eq (fuel : Nat) (s : CP) (hs : s.Ok) (hf : s.rest.length < fuel) :
    s.toListFuel fuel = s.rest :=
  drains.eq_rest_on Ok (fun s v s' hs h => (next_spec s hs).2 v s' h) (fun s hs => (next_spec s hs).1)
    hs (Nat.le_of_lt hf)

theorem toList_eq (s : CP) (hs : s.Ok) : s.toList = s.rest := by
  unfold toList
  apply toListFuel_eq _ _ hs
  have h1 := somePrefix_length_le (s.indices.map (load s.iter.bits s.iter.order s.iter.data))
  rw [List.length_map, indices_length] at h1
  unfold rest budget
  have : s.remainingY * s.width ≤ s.remainingY * (s.width + 1) := Nat.mul_le_mul_left _ (by omega)
  omega

theorem next_data (s : CP) : s.next.2.iter.data = s.iter.data := by
  unfold CP.next
  split
  · exact (Iter.next_data _).1
  · split
    · rfl
    · exact (Iter.nth_data _ _).1

theorem new_data (im : ImageRaw) (size : Sz) (skip rs : Nat) : (CP.new im size skip rs).iter.data = im.data := by
  unfold CP.new
  simp only
  split
  · exact (Iter.nth_data _ _).1
  · rfl

theorem new_ok (im : ImageRaw) (hb : validBits im.bits = true) (hf : Fits im.bits im.data) (size : Sz)
    (skip rs : Nat) : (CP.new im size skip rs).Ok := by
  have hd := new_data im size skip rs
  have hbits : (CP.new im size skip rs).iter.bits = im.bits := by
    unfold CP.new
    simp only
    split
    · exact (Iter.nth_data _ _).2
    · rfl
  refine ⟨by rw [hbits]; exact hb, by rw [hbits, hd]; exact hf, ?_⟩
  unfold CP.new
  simp only
  split <;> simp only <;> omega

theorem new_count (im : ImageRaw) (size : Sz) (skip rs : Nat) :
    (CP.new im size skip rs).remainingX + (CP.new im size skip rs).remainingY * (CP.new im size skip rs).width
      = size.w * size.h := by
  unfold CP.new
  simp only
  split
  · rename_i h
    obtain ⟨h', hh⟩ : ∃ h', size.h = h' + 1 := ⟨size.h - 1, by omega⟩
    simp only [hh, Nat.add_sub_cancel, Nat.mul_succ, Nat.mul_comm h' size.w]
    omega
  · rename_i h
    have : size.w = 0 ∨ size.h = 0 := by omega
    rcases this with h0 | h0 <;> simp [h0]

theorem toListFuel_enough (im : ImageRaw) (hb : validBits im.bits = true) (hf : Fits im.bits im.data) (size : Sz)
    (skip rs fuel : Nat) (h : size.w * size.h < fuel) :
    (CP.new im size skip rs).toListFuel fuel = (CP.new im size skip rs).toList := by
  have hok := new_ok im hb hf size skip rs
  rw [toList_eq _ hok]
  apply toListFuel_eq _ _ hok
  have h1 := somePrefix_length_le ((CP.new im size skip rs).indices.map
    (load (CP.new im size skip rs).iter.bits (CP.new im size skip rs).iter.order (CP.new im size skip rs).iter.data))
  rw [List.length_map, indices_length, new_count] at h1
  unfold rest
  omega

/-- `rowsFrom` is empty for a zero sized area, for which `new` sets both counters to 0. -/
theorem new_toList (im : ImageRaw) (hb : validBits im.bits = true) (hf : Fits im.bits im.data)
    (size : Sz) (initialSkip rowSkip : Nat) (hi : initialSkip ≤ pixelCount im.bits im.data.length) :
    (CP.new im size initialSkip rowSkip).toList =
      somePrefix ((rowsFrom size.w (size.w + rowSkip) initialSkip size.h).map
        (load im.bits im.order im.data)) := by
  -- the raw iterator after the initial skip
  have hit : (if initialSkip > 0 then ((Iter.new im.bits im.order im.data).nth (initialSkip - 1)).2
      else Iter.new im.bits im.order im.data) = ⟨im.bits, im.order, im.data, initialSkip⟩ := by
    by_cases h0 : initialSkip > 0
    · simp only [h0, ↓reduceIte]
      obtain ⟨v, hv⟩ := load_inside hb im.order im.data (initialSkip - 1) (by omega)
      have := Iter.nth_some (it := Iter.new im.bits im.order im.data) hb hf (k := initialSkip - 1) (v := v)
        (by simpa [Iter.new] using hv)
      rw [this]
      simp only [Iter.new, Nat.zero_add]
      congr 1; omega
    · simp only [h0, ↓reduceIte, Iter.new]
      congr 1; omega
  have hnew : CP.new im size initialSkip rowSkip =
      ⟨⟨im.bits, im.order, im.data, initialSkip⟩,
       (if size.w > 0 ∧ size.h > 0 then (size.w, size.h - 1) else ((0 : Nat), (0 : Nat))).1, size.w,
       (if size.w > 0 ∧ size.h > 0 then (size.w, size.h - 1) else ((0 : Nat), (0 : Nat))).2, rowSkip⟩ := by
    unfold CP.new
    simp only [hit]
  rw [toList_eq _ (new_ok im hb hf size initialSkip rowSkip), hnew]
  unfold rest indices
  by_cases hz : size.w > 0 ∧ size.h > 0
  · simp only [hz, and_self, ↓reduceIte]
    obtain ⟨h', hh⟩ : ∃ h', size.h = h' + 1 := ⟨size.h - 1, by omega⟩
    rw [hh]
    simp only [Nat.add_sub_cancel, rowsFrom]
    have e : initialSkip + size.w + rowSkip = initialSkip + (size.w + rowSkip) := by omega
    rw [e]
  · have hnil : rowsFrom size.w (size.w + rowSkip) initialSkip size.h = [] := by
      apply List.eq_nil_of_length_eq_zero
      rw [rowsFrom_length]
      have : size.h = 0 ∨ size.w = 0 := by omega
      rcases this with h | h
      · rw [h, Nat.zero_mul]
      · rw [h, Nat.mul_zero]
    simp only [hz, ↓reduceIte, List.range_zero, List.map_nil, rowsFrom, List.append_nil, hnil]

end CP

theorem originRect_inRange {sz : Sz} (hw : sz.w ≤ 2147483647) (hh : sz.h ≤ 2147483647) :
    (⟨Pt.zero, sz⟩ : Rect).InRange := by
  unfold Rect.InRange inI32; simp only [Pt.zero]; omega

namespace ImageRaw

/-- The stream made for an area `(ax, ay) + sz` inside the image: its pixels, row-major. -/
theorem stream_eq {im : ImageRaw} (hw : im.WF) (ax ay : Nat) (sz : Sz)
    (hx : ax + sz.w ≤ im.size.w) (hy : ay + sz.h ≤ im.size.h)
    (hi : ay * im.dataWidth + ax ≤ pixelCount im.bits im.data.length) :
    ((CP.new im sz (ay * im.dataWidth + ax) (im.dataWidth - sz.w)).toList).map some =
      (Rect.pointsSpec ⟨Pt.zero, sz⟩).map (fun p => im.pixel ((⟨ax, ay⟩ : Pt) + p)) := by
  have hwi := hw.wI32
  have hhi := hw.hI32
  have hdw := width_le_dataWidth hw.bits
  -- the raw index read at row `r`, column `j` of the area is that of image pixel `(ax + j, ay + r)`
  have hin : ∀ r j, ay * im.dataWidth + ax + r * im.dataWidth + j = (ax + j) + (ay + r) * im.dataWidth := by
    intro r j
    rw [Nat.add_mul]
    omega
  rw [CP.new_toList im hw.bits hw.fits sz _ _ hi,
    Rect.pointsSpec_range (originRect_inRange (by omega) (by omega)),
    show sz.w + (im.dataWidth - sz.w) = im.dataWidth by omega, rowsFrom_eq, somePrefix_map_some]
  · rw [List.map_flatMap, List.map_flatMap]
    apply flatMap_congr_left
    intro r hr
    rw [List.map_map, List.map_map]
    apply List.map_congr_left
    intro j hj
    have hp : (⟨ax, ay⟩ : Pt) + ⟨(Pt.zero).x + (j : Int), (Pt.zero).y + (r : Int)⟩ =
        ⟨((ax + j : Nat) : Int), ((ay + r : Nat) : Int)⟩ := by
      rw [Pt.ext_iff']
      simp only [Pt.add_x, Pt.add_y, Pt.zero]
      omega
    have hr' := List.mem_range.mp hr
    have hj' := List.mem_range.mp hj
    simp only [Function.comp]
    rw [hp, pixel_of_lt hw (by omega) (by omega), hin]
  · intro x hx'
    rw [← rowsFrom_eq, List.mem_map] at hx'
    obtain ⟨k, hk, rfl⟩ := hx'
    obtain ⟨r, j, hr, hj, rfl⟩ := rowsFrom_mem _ _ _ hk
    rw [hin r j, Ne, load_eq_none_iff hw.bits]
    have := index_lt hw (x := ax + j) (y := ay + r) (by omega) (by omega)
    omega

theorem stream_length {im : ImageRaw} (hw : im.WF) (ax ay : Nat) (sz : Sz)
    (hx : ax + sz.w ≤ im.size.w) (hy : ay + sz.h ≤ im.size.h)
    (hi : ay * im.dataWidth + ax ≤ pixelCount im.bits im.data.length) :
    ((CP.new im sz (ay * im.dataWidth + ax) (im.dataWidth - sz.w)).toList).length = sz.w * sz.h := by
  have h := congrArg List.length (stream_eq hw ax ay sz hx hy hi)
  rw [List.length_map, List.length_map, ← Rect.points_eq_spec,
    Rect.points_length (originRect_inRange (by have := hw.wI32; omega) (by have := hw.hI32; omega))] at h
  exact h

/-- `draw_sub_image` accepts exactly the non-empty areas that lie inside the image. -/
def Accepts (im : ImageRaw) (a : Rect) : Prop :=
  0 < a.size.w ∧ 0 < a.size.h ∧ 0 ≤ a.tl.x ∧ 0 ≤ a.tl.y ∧
    a.tl.x + a.size.w ≤ im.size.w ∧ a.tl.y + a.size.h ≤ im.size.h

instance (im : ImageRaw) (a : Rect) : Decidable (im.Accepts a) := by unfold Accepts; exact inferInstance

theorem rejects_iff (im : ImageRaw) (a : Rect) :
    (a.isZeroSized = true ∨ a.tl.x < 0 ∨ a.tl.y < 0 ∨ a.tl.x.toNat + a.size.w > im.size.w ∨
      a.tl.y.toNat + a.size.h > im.size.h) ↔ ¬ im.Accepts a := by
  rw [Rect.isZeroSized_iff]
  unfold Accepts
  omega

theorem drawSubImage_reject {im : ImageRaw} {a : Rect} (h : ¬ im.Accepts a) : im.drawSubImage a = [] := by
  unfold drawSubImage
  rw [if_pos ((rejects_iff im a).mpr h)]

theorem drawSubImage_accept {im : ImageRaw} (hw : im.WF) {a : Rect} (h : im.Accepts a) :
    ∃ cs, im.drawSubImage a = [Call.fillContiguous ⟨Pt.zero, a.size⟩ cs] ∧
      cs.map some = (Rect.pointsSpec ⟨Pt.zero, a.size⟩).map (fun p => im.pixel (a.tl + p)) ∧
      cs.length = a.size.w * a.size.h := by
  unfold drawSubImage
  rw [if_neg (fun hr => (rejects_iff im a).mp hr h)]
  obtain ⟨h1, h2, h3, h4, h5, h6⟩ := h
  have hx : a.tl.x.toNat + a.size.w ≤ im.size.w := by omega
  have hy : a.tl.y.toNat + a.size.h ≤ im.size.h := by omega
  have hi : a.tl.y.toNat * im.dataWidth + a.tl.x.toNat ≤ pixelCount im.bits im.data.length := by
    have := index_lt hw (x := a.tl.x.toNat) (y := a.tl.y.toNat) (by omega) (by omega)
    omega
  refine ⟨_, rfl, ?_, stream_length hw _ _ _ hx hy hi⟩
  rw [stream_eq hw _ _ _ hx hy hi]
  have : (⟨(a.tl.x.toNat : Int), (a.tl.y.toNat : Int)⟩ : Pt) = a.tl := by
    rw [Pt.ext_iff']; simp only; omega
  rw [this]

theorem draw_eq {im : ImageRaw} (hw : im.WF) :
    ∃ cs, im.draw = [Call.fillContiguous im.boundingBox cs] ∧
      cs.map some = im.boundingBox.pointsSpec.map im.pixel ∧
      cs.length = im.size.w * im.size.h := by
  unfold draw
  have e : (0 : Nat) * im.dataWidth + 0 = 0 := by omega
  have h1 := stream_eq hw 0 0 im.size (by omega) (by omega) (by omega)
  have h2 := stream_length hw 0 0 im.size (by omega) (by omega) (by omega)
  rw [e] at h1 h2
  refine ⟨_, rfl, ?_, h2⟩
  rw [h1]
  unfold boundingBox
  apply List.map_congr_left
  intro p _
  congr 1
  rw [Pt.ext_iff']; simp

end ImageRaw

/-- Mapping a function of the raw index over `rowsFrom` is a row-major map over a grid. -/
theorem rowsFrom_map {β : Type} (w stride : Nat) (f : Nat → β) (g : Int → Int → β) (x0 : Int) :
    ∀ (n start : Nat) (y0 : Int),
      (∀ r j, r < n → j < w → f (start + r * stride + j) = g (x0 + j) (y0 + r)) →
      (rowsFrom w stride start n).map f =
        (irange y0 (y0 + n)).flatMap (fun y => (irange x0 (x0 + w)).map (fun x => g x y)) := by
  intro n start y0 h
  unfold irange
  rw [rowsFrom_eq, show (y0 + n - y0).toNat = n by omega, show (x0 + w - x0).toNat = w by omega,
    List.map_flatMap, List.flatMap_map]
  refine flatMap_congr_left _ _ _ fun r hr => ?_
  rw [List.map_map, List.map_map]
  exact List.map_congr_left fun j hj => h r j (List.mem_range.mp hr) (List.mem_range.mp hj)
end EG.Img
