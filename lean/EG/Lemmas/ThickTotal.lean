/-
  EG.Lemmas.ThickTotal — the model of a stroked line is total: for every line and every width,
  `thickPoints` returns `some` list. Neither the bound `loopFuel` of the two inner loops
  (`next_parallel`, `ThickPoints::next`) nor the step budget of `drainFuel` is ever exhausted, so
  the model never answers "stuck" and never truncates.
  * `next_parallel` runs its loop at most twice: an `Extra` perpendicular point is followed by a
    `Normal` one (`nextParallel_call`, EG.Lemmas.ThickStep, under the bounds `Sides` on the two sides);
  * every parallel raises the accumulator by at least 1 (an `Extra` point only occurs when the
    perpendicular `error_step.major` is positive), the iterator stops once `acc² > threshold`, so at
    most `threshold + 1 - acc` parallels remain (`pm`);
  * a fetched parallel has at least one point (`Extra` parallels occur only for lines with at least
    two points), so `ThickPoints::next` runs its loop at most twice and every call lowers the
    measure `remaining + length · pm`.
-/
import EG.Lemmas.ThickWidth1
import EG.Lemmas.ThickStep
namespace EG
namespace Thick
open ParallelsIterator

theorem le_mul_self (a : Int) : a ≤ a * a := by
  by_cases h : a ≤ 0
  · have := Int.mul_nonneg_of_nonpos_of_nonpos h h
    omega
  · have := Int.mul_le_mul_of_nonneg_left (show (1 : Int) ≤ a by omega) (show (0 : Int) ≤ a by omega)
    omega

/-- Upper bound on the number of parallels still to come. -/
def pm (it : ParallelsIterator) : Nat :=
  (it.thicknessThreshold + 1 - it.thicknessAccumulator).toNat

theorem next_total (c : StrokeCtx) (hv : c.Valid) (it : ParallelsIterator) (hi : Sides c it) :
    it.next = some (none, it) ∨
    ∃ b ty it', it.next = some (some (b, ty), it') ∧ Sides c it' ∧ pm it' < pm it ∧
      it'.thicknessThreshold = it.thicknessThreshold ∧ (ty = .extra → 1 ≤ c.d) := by
  by_cases hacc : it.thicknessAccumulator * it.thicknessAccumulator > it.thicknessThreshold
  · exact Or.inl (next_done it hacc)
  · right
    obtain ⟨pt, it1, k, b, ty, it', hcall, -, hpt, hn, hs', rfl⟩ := next_call c hv it hi hacc
    obtain ⟨w', e', rfl⟩ := hcall.eq_setSide
    obtain ⟨-, f2, f3, f4, -, -, -⟩ := sameFrame_setSide it it.nextSide w' e'
    have hle := le_mul_self it.thicknessAccumulator
    have hD := hv.hD
    -- an `Extra` point is returned only on oblique lines
    have hex : ty = .extra → 1 ≤ c.d := by
      rintro rfl
      rcases hpt with ⟨-, h⟩ | ⟨rfl, -⟩
      · cases h
      · exact hcall.of_extra.1
    refine ⟨b, ty, _, hn, hs', ?_, f4, hex⟩
    unfold pm
    dsimp only
    rw [f2, f3, f4, hi.hperp]
    cases ty with
    | normal => show _ < _; simp only [StrokeCtx.perp_smin]; omega
    | extra => have := hex rfl; show _ < _; simp only [StrokeCtx.perp_smaj]; omega

/-- Invariant of `ThickPoints`: the two sides of the parallels iterator, and a parallel is long enough
to have a point left after the `Extra` reduction. -/
structure TInv (c : StrokeCtx) (t : ThickPointsIt) : Prop where
  sides : Sides c t.iter
  len_pos : 1 ≤ t.parallelLength
  len_two : 1 ≤ c.d → 2 ≤ t.parallelLength

/-- Upper bound on the number of points still to come. -/
def mu (t : ThickPointsIt) : Nat := t.parallelPointsRemaining + t.parallelLength * pm t.iter

theorem nextFuel_total (c : StrokeCtx) (hv : c.Valid) (fuel : Nat) (t : ThickPointsIt) (h : TInv c t) :
    t.nextFuel (fuel + 2) = some none ∨
    ∃ p t', t.nextFuel (fuel + 2) = some (some (p, t')) ∧ TInv c t' ∧ mu t' < mu t := by
  rw [ThickPointsIt.nextFuel]
  by_cases hrem : t.parallelPointsRemaining > 0
  · right
    simp only [hrem, ↓reduceIte]
    refine ⟨_, _, rfl, ⟨h.sides, h.len_pos, h.len_two⟩, ?_⟩
    unfold mu; dsimp only; omega
  · simp only [hrem, ↓reduceIte]
    rcases next_total c hv t.iter h.sides with hdone | ⟨b, ty, it', hn, hinv, hpm, -, hex⟩
    · left; rw [hdone]
    · right
      rw [hn]
      dsimp only
      rw [ThickPointsIt.nextFuel]
      have hl1 := h.len_pos
      have hpos : (if ty = ParallelLineType.extra then t.parallelLength - 1 else t.parallelLength) > 0 := by
        split
        · rename_i hty
          have := h.len_two (hex hty)
          omega
        · omega
      have hle : (if ty = ParallelLineType.extra then t.parallelLength - 1 else t.parallelLength)
          ≤ t.parallelLength := by split <;> omega
      simp only [hpos, ↓reduceIte]
      refine ⟨_, _, rfl, ⟨hinv, h.len_pos, h.len_two⟩, ?_⟩
      unfold mu; dsimp only
      have hm := Nat.mul_le_mul_left t.parallelLength (show pm it' + 1 ≤ pm t.iter by omega)
      rw [Nat.mul_succ] at hm
      omega

theorem drainFuel_total (c : StrokeCtx) (hv : c.Valid) : ∀ (fuel : Nat) (t : ThickPointsIt), TInv c t →
    mu t < fuel → ∃ ps, t.drainFuel fuel = some ps := by
  intro fuel
  induction fuel with
  | zero => intro t _ hf; omega
  | succ n ih =>
    intro t h hf
    rw [ThickPointsIt.drainFuel]
    rcases nextFuel_total c hv 2 t h with hd | ⟨p, t', hn, hinv, hmu⟩
    · have : t.next = some none := hd
      rw [this]; exact ⟨[], rfl⟩
    · have : t.next = some (some (p, t')) := hn
      rw [this]
      obtain ⟨ps, hps⟩ := ih t' hinv (by omega)
      exact ⟨p :: ps, by simp only [hps]⟩

theorem new_inv (l : Line) (t : Int) :
    ∃ iter, ParallelsIterator.new l t .none = some iter ∧ Sides (ctxOf l) iter ∧
      0 ≤ iter.thicknessAccumulator ∧ (1 ≤ (ctxOf l).d → 2 ≤ majorLength l) := by
  have hv := ctxOf_valid l
  have hD := hv.hD; have hd0 := hv.hd0; have hdD := hv.hdD
  obtain ⟨iter0, hnew0, hinv, hacc0, _⟩ := new_sides l t .none
  refine ⟨iter0, hnew0, hinv, by rw [hacc0]; omega, ?_⟩
  show 1 ≤ Line.dmin (paramLine l) → _
  intro h1
  by_cases hz : l.start = l.stop
  · have : paramLine l = horizontalLine := by simp [paramLine, hz]
    rw [this] at h1
    have : Line.dmin horizontalLine = 0 := by decide
    omega
  · have hp : paramLine l = l := by simp [paramLine, hz]
    have hdD' : Line.dmin (paramLine l) ≤ Line.dmaj (paramLine l) := hdD
    rw [hp] at h1 hdD'
    rw [Line.majorLength_eq]
    omega

/-- **The model of a stroked line is total**: for every line and every stroke width `thickPoints`
returns a list - no loop bound and not the step budget is ever exhausted. -/
theorem thickPoints_total (l : Line) (w : Nat) : ∃ ps, thickPoints l w = some ps := by
  obtain ⟨iter, hnew, hinv, hacc, hlen⟩ := new_inv l (satAsI32 w)
  unfold thickPoints ThickPointsIt.new
  rw [hnew]
  dsimp only
  by_cases hw : w = 0
  · exact ⟨[], by simp only [hw, ↓reduceIte]⟩
  · simp only [hw, ↓reduceIte]
    apply drainFuel_total (ctxOf l) (ctxOf_valid l)
    · exact ⟨hinv, majorLength_pos l, hlen⟩
    · unfold mu pixelBudget pm
      dsimp only
      have hm := Nat.mul_le_mul_left (majorLength l)
        (show (iter.thicknessThreshold + 1 - iter.thicknessAccumulator).toNat
          ≤ iter.thicknessThreshold.toNat + 1 by omega)
      have := Nat.mul_succ (majorLength l) (iter.thicknessThreshold.toNat + 1)
      have : iter.thicknessThreshold.toNat + 2 = (iter.thicknessThreshold.toNat + 1).succ := rfl
      rw [this]
      omega

end Thick
end EG
