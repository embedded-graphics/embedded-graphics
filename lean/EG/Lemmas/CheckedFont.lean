/-
  EG.Lemmas.CheckedFont — range theorems of the glyph-rendering kernels
  (Model/CheckedFont.lean).

  Domain `FontOk f`: character cell, spacing, baseline and decoration offsets up to 4096, atlas
  up to 65535 x 65535 (every built-in font: cell at most 10 x 20, atlas at most 160 wide and 240
  high), glyph indices up to 65535 (`IndexOk`), positions within +-2^20, texts up to 65536 characters.
  `char_x` cannot overflow for ANY `u32` index (`glyph_char_x_fits`): it is below the atlas
  width. The walk of `line_elements` is bounded by `3 * 2^29 = 1610612736`: a round number that
  leaves room for one more step of 4096 below 2^31.
-/
import EG.Lemmas.CheckedData
import EG.Lemmas.FontTables
import EG.Lemmas.FontLayout
import EG.Model.CheckedFont
namespace EG.Chk.Font
open EG EG.Chk

structure FontOk (f : EG.Font.MonoFont) : Prop where
  cw : f.cw ≤ 4096
  ch : f.ch ≤ 4096
  sp : f.spacing ≤ 4096
  bl : f.baseline ≤ 4096
  ul : f.ulOff ≤ 4096
  st : f.stOff ≤ 4096
  iw : f.imgW ≤ 65535
  ih : f.imgH ≤ 65535

def IndexOk (f : EG.Font.MonoFont) (text : List Nat) : Prop := ∀ c ∈ text, f.index c ≤ 65535

/-- `glyph_index % glyphs_per_row * character width` stays below the atlas width. -/
theorem glyph_char_x_fits {imgW cw : Nat} (hcw : 0 < cw) (hw : cw ≤ imgW) (gi : Nat) :
    gi / (imgW / cw) * (imgW / cw) ≤ gi ∧ (gi - gi / (imgW / cw) * (imgW / cw)) * cw ≤ imgW := by
  have hg : 0 < imgW / cw := Nat.div_pos hw hcw
  have h1 : gi / (imgW / cw) * (imgW / cw) ≤ gi := Nat.div_mul_le_self _ _
  have h2 : gi - gi / (imgW / cw) * (imgW / cw) = gi % (imgW / cw) := by
    have := Nat.div_add_mod gi (imgW / cw)
    rw [Nat.mul_comm] at this
    omega
  have h3 : gi % (imgW / cw) < imgW / cw := Nat.mod_lt _ hg
  have h4 : imgW / cw * cw ≤ imgW := Nat.div_mul_le_self _ _
  refine ⟨h1, ?_⟩
  rw [h2]
  calc gi % (imgW / cw) * cw ≤ imgW / cw * cw := Nat.mul_le_mul_right _ (Nat.le_of_lt h3)
    _ ≤ imgW := h4

theorem glyphAreaOfIndex_ok {f : EG.Font.MonoFont} (hf : FontOk f) {gi : Nat} (hg : gi ≤ 65535) :
    EG.Chk.Font.glyphAreaOfIndex f gi = some (f.glyphAreaOfIndex gi) := by
  have := hf.cw; have := hf.ch; have := hf.iw
  unfold EG.Chk.Font.glyphAreaOfIndex EG.Font.MonoFont.glyphAreaOfIndex
  split
  · rfl
  · rename_i hc
    have hcw : 0 < f.cw := by omega
    have hw : f.cw ≤ f.imgW := by omega
    obtain ⟨h1, h2⟩ := glyph_char_x_fits hcw hw gi
    have hg0 : 0 < f.imgW / f.cw := Nat.div_pos hw hcw
    have hrow : gi / (f.imgW / f.cw) ≤ gi := Nat.div_le_self _ _
    have hy : gi / (f.imgW / f.cw) * f.ch ≤ 65535 * 4096 := Nat.mul_le_mul (by omega) (by omega)
    rw [divU_bind hcw, divU_bind hg0, chkU32_bind (by omega), subU_bind h1, chkU32_bind (by omega),
      chkU32_bind (by omega), u32AsI32_small (by omega), u32AsI32_small (by omega)]
    rfl

theorem glyphArea_ok {f : EG.Font.MonoFont} (hf : FontOk f) {c : Nat} (hi : f.index c ≤ 65535) :
    EG.Chk.Font.glyphArea f c = some (f.glyphArea c) := by
  unfold EG.Chk.Font.glyphArea EG.Font.MonoFont.glyphArea
  rw [Nat.mod_eq_of_lt (by omega)]
  exact glyphAreaOfIndex_ok hf hi

theorem atlasDataWidth_ok {w : Nat} (hw : w ≤ 65535) :
    EG.Chk.Font.atlasDataWidth w = some ((w + 7) / 8 * 8) :=
  (imageDataWidth_ok (bits := 1) rfl (Nat.le_trans hw (by decide))).1.trans
    (by simp only [Img.ImageRaw.dataWidth, Img.bytesPerRow, Nat.mul_one]; rfl)

/-- The font atlas is a 1 bpp raw image: the guard and the skips are those of
`ImageRaw::draw_sub_image`. -/
theorem subImageSkips_eq (imgW imgH : Nat) (a : Rect) :
    EG.Chk.Font.subImageSkips imgW imgH a = drawSubImageSkips ⟨1, .le, [], ⟨imgW, imgH⟩⟩ a := rfl

/-- **The guard and the skips of `draw_sub_image`** for an area with corner and size below 2^30:
the guard is the plain `areaDrawable`, and when it passes nothing overflows. -/
theorem subImageSkips_ok {f : EG.Font.MonoFont} (hf : FontOk f) {a : Rect}
    (hx : a.tl.x ≤ 1073741824) (hy : a.tl.y ≤ 1073741824) (hw : a.size.w ≤ 1073741824)
    (hh : a.size.h ≤ 1073741824) :
    ∃ r, EG.Chk.Font.subImageSkips f.imgW f.imgH a = some r ∧ r.isSome = f.areaDrawable a := by
  have := hf.iw; have := hf.ih
  refine ⟨_, (subImageSkips_eq ..).trans (drawSubImageSkips_total rfl (by simp only; omega)
    (by simp only; omega) (by omega) (by omega) (by omega) (by omega)), ?_⟩
  -- both guards reject the same five cases
  unfold plainSubImageSkips EG.Font.MonoFont.areaDrawable
  split
  · rename_i h
    rcases h with h | h | h | h | h <;> simp [h]
  · rename_i h
    simp only [not_or, Bool.not_eq_true, Int.not_lt, Nat.not_lt, gt_iff_lt] at h
    obtain ⟨h1, h2, h3, h4, h5⟩ := h
    simp [h1, h2, h3, h4, h5]

theorem glyphCalls_ok {f : EG.Font.MonoFont} (hf : FontOk f) (atlas : Pt → Bool) {c : Nat}
    (hi : f.index c ≤ 65535) (p : Pt) : EG.Chk.Font.glyphCalls f atlas c p = some (f.glyphCalls atlas c p) := by
  have := hf.cw; have := hf.ch; have := hf.iw
  unfold EG.Chk.Font.glyphCalls EG.Font.MonoFont.glyphCalls
  rw [glyphArea_ok hf hi]
  simp only [Option.bind_eq_bind, Option.bind_some]
  -- the glyph area is small
  have hsmall : (f.glyphArea c).tl.x ≤ 1073741824 ∧ (f.glyphArea c).tl.y ≤ 1073741824 ∧
      (f.glyphArea c).size.w ≤ 1073741824 ∧ (f.glyphArea c).size.h ≤ 1073741824 := by
    unfold EG.Font.MonoFont.glyphArea EG.Font.MonoFont.glyphAreaOfIndex
    split
    · simp [Rect.zero, Pt.zero, Sz.zero]
    · rename_i hc
      have hcw : 0 < f.cw := by omega
      have hw : f.cw ≤ f.imgW := by omega
      obtain ⟨h1, h2⟩ := glyph_char_x_fits hcw hw (f.index c)
      have hrow : f.index c / (f.imgW / f.cw) ≤ f.index c := Nat.div_le_self _ _
      have hy : f.index c / (f.imgW / f.cw) * f.ch ≤ 65535 * 4096 := Nat.mul_le_mul (by omega) (by omega)
      simp only
      omega
  obtain ⟨r, e, hr⟩ := subImageSkips_ok hf hsmall.1 hsmall.2.1 hsmall.2.2.1 hsmall.2.2.2
  rw [e]
  simp only [Option.bind_some]
  cases r with
  | none => simp only [Option.isSome_none] at hr; rw [← hr]; rfl
  | some v => simp only [Option.isSome_some] at hr; rw [← hr]; rfl

theorem lineNext_ok {f : EG.Font.MonoFont} (hf : FontOk f) {s : EG.Font.LineIt} {B : Int} (hB : 0 ≤ B ∧ B ≤ 1610612736)
    (hx : -B ≤ s.pos.x ∧ s.pos.x ≤ B) :
    Ret (EG.Chk.Font.lineNext f s) (s.next f) fun r =>
      (-(B + 4096) ≤ r.2.pos.x ∧ r.2.pos.x ≤ B + 4096) ∧ (-B ≤ r.1.1.x ∧ r.1.1.x ≤ B) := by
  have := hf.cw; have := hf.sp
  obtain ⟨_, _⟩ := hB
  obtain ⟨_, _⟩ := hx
  unfold EG.Chk.Font.lineNext EG.Font.LineIt.next
  split
  · rw [u32AsI32_small (by omega), chkI32_ok (by omega) (by omega)]
    refine ⟨rfl, ?_, ?_⟩ <;> simp only <;> omega
  · cases hr : s.rest with
    | nil => simp only; refine ⟨rfl, ?_, ?_⟩ <;> simp only <;> omega
    | cons c cs =>
      simp only
      rw [u32AsI32_small (by omega), chkI32_ok (by omega) (by omega)]
      refine ⟨rfl, ?_, ?_⟩ <;> first | omega | (simp only; omega)

/-- The whole element list: `fuel` calls move the position by at most `4096 * fuel`. -/
theorem lineToListFuel_ok {f : EG.Font.MonoFont} (hf : FontOk f) : ∀ (fuel : Nat) (s : EG.Font.LineIt) (B : Int),
    0 ≤ B → B + 4096 * fuel ≤ 1610612736 → (-B ≤ s.pos.x ∧ s.pos.x ≤ B) →
    EG.Chk.Font.lineToListFuel f fuel s = some (s.toListFuel f fuel) := by
  intro fuel
  induction fuel with
  | zero => intro s B _ _ _; rfl
  | succ fuel ih =>
    intro s B hB0 hBf hx
    obtain ⟨e, hn, _⟩ := lineNext_ok hf (s := s) (B := B) ⟨hB0, by omega⟩ hx
    unfold EG.Chk.Font.lineToListFuel EG.Font.LineIt.toListFuel
    rw [e]
    simp only [Option.bind_eq_bind, Option.bind_some]
    cases hr : s.next f with
    | mk item s' =>
      rw [hr] at hn
      obtain ⟨p, el⟩ := item
      cases el with
      | done => rfl
      | char c =>
        simp only
        rw [ih s' (B + 4096) (by omega) (by push_cast at hBf ⊢; omega) hn]
        rfl
      | spacing =>
        simp only
        rw [ih s' (B + 4096) (by omega) (by push_cast at hBf ⊢; omega) hn]
        rfl

theorem lineElements_ok {f : EG.Font.MonoFont} (hf : FontOk f) {pos : Pt} (hx : -1048576 ≤ pos.x ∧ pos.x ≤ 1048576)
    {text : List Nat} (hn : text.length ≤ 65536) :
    EG.Chk.Font.lineElements f pos text = some (EG.Font.lineElements f pos text) := by
  unfold EG.Chk.Font.lineElements EG.Font.lineElements
  exact lineToListFuel_ok hf _ _ 1048576 (by omega) (by push_cast; omega) hx

theorem elemCallsAll_ok {f : EG.Font.MonoFont} (hf : FontOk f) (atlas : Pt → Bool) (hasBg : Bool) :
    ∀ (es : List (Pt × EG.Font.Elem)), (∀ p c, (p, EG.Font.Elem.char c) ∈ es → f.index c ≤ 65535) →
    EG.Chk.Font.elemCallsAll f atlas hasBg es = some (es.flatMap (f.elemCalls atlas hasBg)) := by
  intro es
  induction es with
  | nil => intro _; rfl
  | cons e rest ih =>
    intro h
    obtain ⟨p, el⟩ := e
    unfold EG.Chk.Font.elemCallsAll
    have he : EG.Chk.Font.elemCalls f atlas hasBg (p, el) = some (f.elemCalls atlas hasBg (p, el)) := by
      cases el with
      | char c => exact glyphCalls_ok hf atlas (h p c (List.mem_cons_self ..)) p
      | spacing => rfl
      | done => rfl
    rw [he, ih (fun q c hq => h q c (List.mem_cons_of_mem _ hq))]
    rfl

theorem drawStringBinary_ok {f : EG.Font.MonoFont} (hf : FontOk f) (atlas : Pt → Bool) (hasBg : Bool)
    {text : List Nat} (hn : text.length ≤ 65536) (hi : IndexOk f text) {pos : Pt}
    (hx : -1048576 ≤ pos.x ∧ pos.x ≤ 1048576) :
    EG.Chk.Font.drawStringBinary f atlas hasBg text pos = some (f.drawStringBinary atlas hasBg text pos) := by
  unfold EG.Chk.Font.drawStringBinary EG.Font.MonoFont.drawStringBinary
  rw [lineElements_ok hf hx hn]
  simp only [Option.bind_eq_bind, Option.bind_some]
  rw [elemCallsAll_ok hf atlas hasBg _ (by
    intro p c hm
    rw [EG.Font.lineElements_eq_lineSpec] at hm
    exact hi c (EG.Font.lineSpec_chars f _ _ p c hm))]
  rfl

theorem decoRect_ok {off : Nat} (ho : off ≤ 4096) (h : Nat) {pos : Pt}
    (hx : -1073741824 ≤ pos.x ∧ pos.x ≤ 1073741824) (hy : -1073741824 ≤ pos.y ∧ pos.y ≤ 1073741824)
    (width : Nat) : EG.Chk.Font.decoRect off h pos width = some (EG.Font.decoRect off h pos width) := by
  obtain ⟨_, _⟩ := hx
  obtain ⟨_, _⟩ := hy
  unfold EG.Chk.Font.decoRect EG.Font.decoRect
  rw [ptAddSize_ok ⟨⟨by simp only; omega, by simp only; omega⟩, by simp only; omega, by simp only; omega⟩]
  simp

theorem drawDecorations_ok {f : EG.Font.MonoFont} (hf : FontOk f) (st : EG.Font.Style) (width : Nat) {pos : Pt}
    (hx : -1073741824 ≤ pos.x ∧ pos.x ≤ 1073741824) (hy : -1073741824 ≤ pos.y ∧ pos.y ≤ 1073741824) :
    EG.Chk.Font.drawDecorations f st width pos = some (f.drawDecorations st width pos) := by
  unfold EG.Chk.Font.drawDecorations EG.Font.MonoFont.drawDecorations
  rw [decoRect_ok hf.st f.stH hx hy width, decoRect_ok hf.ul f.ulH hx hy width]
  cases st.strikethrough.effective st.textColor <;> cases st.underline.effective st.textColor <;> rfl

theorem baselineOffset_bounds {f : EG.Font.MonoFont} (hf : FontOk f) (bl : EG.Font.Baseline) :
    0 ≤ f.baselineOffset bl ∧ f.baselineOffset bl ≤ 4096 := by
  have := hf.ch; have := hf.bl
  unfold EG.Font.MonoFont.baselineOffset satAsI32
  cases bl <;> simp only
  · omega
  · rw [if_pos (by omega)]; omega
  · rw [if_pos (by omega)]; omega
  · rw [if_pos (by omega)]; omega

/-- `draw_string_binary` returns a position on the same row, at most `8192 * length` to the right. -/
theorem drawStringBinary_next {f : EG.Font.MonoFont} (hf : FontOk f) (atlas : Pt → Bool) (hasBg : Bool)
    {text : List Nat} (hn : text.length ≤ 65536) {pos : Pt} (hx : -1048576 ≤ pos.x ∧ pos.x ≤ 1048576) :
    (f.drawStringBinary atlas hasBg text pos).2.y = pos.y ∧
    -1073741824 ≤ (f.drawStringBinary atlas hasBg text pos).2.x ∧
    (f.drawStringBinary atlas hasBg text pos).2.x ≤ 1073741824 := by
  have := hf.cw; have := hf.sp
  have hprod : (text.length - 1) * (f.cw + f.spacing) ≤ 65536 * 8192 := Nat.mul_le_mul (by omega) (by omega)
  rw [EG.Font.drawStringBinary_eq]
  unfold EG.Font.endPos EG.Font.cellX
  split
  · exact ⟨rfl, by simp only; omega, by simp only; omega⟩
  · exact ⟨rfl, by simp only; omega, by simp only; omega⟩

theorem drawString_ok {f : EG.Font.MonoFont} (hf : FontOk f) (atlas : Pt → Bool) (st : EG.Font.Style)
    {text : List Nat} (hn : text.length ≤ 65536) (hi : IndexOk f text) {position : Pt}
    (hx : -1048576 ≤ position.x ∧ position.x ≤ 1048576) (hy : -1048576 ≤ position.y ∧ position.y ≤ 1048576)
    (bl : EG.Font.Baseline) :
    EG.Chk.Font.drawString f atlas st text position bl = some (f.drawString atlas st text position bl) := by
  obtain ⟨b0, b1⟩ := baselineOffset_bounds hf bl
  have := hf.cw; have := hf.sp
  obtain ⟨_, _⟩ := hx
  obtain ⟨_, _⟩ := hy
  have epos : position - ⟨0, f.baselineOffset bl⟩ = ⟨position.x, position.y - f.baselineOffset bl⟩ :=
    Pt.ext_iff'.2 ⟨Int.sub_zero _, rfl⟩
  unfold EG.Chk.Font.drawString EG.Font.MonoFont.drawString
  rw [ptSub_ok ⟨by simp only; omega, by simp only; omega⟩, some_bind, epos]
  -- the frame after the (binary or transparent) middle part
  have frame : ∀ (calls : List Call) (next : Pt), next.y = position.y - f.baselineOffset bl →
      (-1073741824 ≤ next.x ∧ next.x ≤ 1073741824) →
      (do
        let deco ← if next.x > position.x then do
            let w ← chkI32 (next.x - position.x)
            EG.Chk.Font.drawDecorations f st (i32AsU32 w) ⟨position.x, position.y - f.baselineOffset bl⟩
          else pure []
        let ret ← ptAdd next ⟨0, f.baselineOffset bl⟩
        pure (calls ++ deco, ret)) =
      some (calls ++ (if next.x > position.x then
          f.drawDecorations st (next.x - position.x).toNat ⟨position.x, position.y - f.baselineOffset bl⟩
        else []), ⟨next.x, next.y + f.baselineOffset bl⟩) := by
    intro calls next hny hnx
    obtain ⟨_, _⟩ := hnx
    have eret : next + ⟨0, f.baselineOffset bl⟩ = (⟨next.x, next.y + f.baselineOffset bl⟩ : Pt) :=
      Pt.ext_iff'.2 ⟨Int.add_zero _, rfl⟩
    by_cases hgt : next.x > position.x
    · rw [if_pos hgt, if_pos hgt, chkI32_bind (by omega), i32AsU32_nonneg (by omega),
        drawDecorations_ok hf st _ (by simp only; omega) (by simp only; omega), some_bind,
        ptAdd_ok (by simp only; omega), eret]
      rfl
    · rw [if_neg hgt, if_neg hgt, ptAdd_ok (by simp only; omega), eret]
      rfl
  have hbx : -1048576 ≤ (⟨position.x, position.y - f.baselineOffset bl⟩ : Pt).x ∧
      (⟨position.x, position.y - f.baselineOffset bl⟩ : Pt).x ≤ 1048576 := ⟨by simp only; omega, by simp only; omega⟩
  have next := fun hasBg => drawStringBinary_next hf atlas hasBg hn hbx
  cases htc : st.textColor <;> cases hbc : st.bgColor <;> simp only
  · have hprod : (f.cw + f.spacing) * text.length ≤ 8192 * 65536 := Nat.mul_le_mul (by omega) hn
    rw [chkU32_bind (by omega), Nat.mod_eq_of_lt (by omega), chkU32_bind (by omega),
      ptAddSize_ok ⟨⟨by simp only; omega, by simp only; omega⟩, by simp only; omega, by simp only; omega⟩, some_bind]
    simp only [Int.natCast_zero, Int.add_zero]
    exact frame [] _ rfl ⟨by simp only; omega, by simp only; omega⟩
  · rw [drawStringBinary_ok hf atlas true hn hi hbx]
    simp only [some_bind, Option.pure_def]
    exact frame _ _ (next true).1 (next true).2
  · rw [drawStringBinary_ok hf atlas false hn hi hbx]
    simp only [some_bind, Option.pure_def]
    exact frame _ _ (next false).1 (next false).2
  · rw [drawStringBinary_ok hf atlas true hn hi hbx]
    simp only [some_bind, Option.pure_def]
    exact frame _ _ (next true).1 (next true).2

theorem drawWhitespace_ok {f : EG.Font.MonoFont} (hf : FontOk f) (st : EG.Font.Style) {width : Nat}
    (hw : width ≤ 1048576) {position : Pt}
    (hx : -1048576 ≤ position.x ∧ position.x ≤ 1048576) (hy : -1048576 ≤ position.y ∧ position.y ≤ 1048576)
    (bl : EG.Font.Baseline) :
    EG.Chk.Font.drawWhitespace f st width position bl = some (f.drawWhitespace st width position bl) := by
  obtain ⟨b0, b1⟩ := baselineOffset_bounds hf bl
  obtain ⟨_, _⟩ := hx
  obtain ⟨_, _⟩ := hy
  have epos : position - ⟨0, f.baselineOffset bl⟩ = ⟨position.x, position.y - f.baselineOffset bl⟩ :=
    Pt.ext_iff'.2 ⟨Int.sub_zero _, rfl⟩
  have hsat : satAsI32 width = width := by unfold satAsI32; rw [if_pos (by omega)]
  unfold EG.Chk.Font.drawWhitespace EG.Font.MonoFont.drawWhitespace
  rw [ptSub_ok ⟨by simp only; omega, by simp only; omega⟩]
  simp only [Option.bind_eq_bind, Option.bind_some, epos]
  rw [ptAdd_ok ⟨by simp only [hsat]; omega, by simp only; omega⟩]
  by_cases hz : width ≠ 0
  · simp only [hz, ↓reduceIte, ne_eq, not_false_eq_true]
    rw [drawDecorations_ok hf st _ (by simp only; omega) (by simp only; omega)]
    rfl
  · simp only [hz, ↓reduceIte]
    rfl

end EG.Chk.Font

namespace EG.Chk.Font
open EG EG.Generated

/-- `FontOk` of a generated font record, and at most 65536 cells in the atlas. -/
def RecOk (r : FontRec) : Prop :=
  r.cw ≤ 4096 ∧ r.ch ≤ 4096 ∧ r.spacing ≤ 4096 ∧ r.baseline ≤ 4096 ∧ r.ulOff ≤ 4096 ∧ r.stOff ≤ 4096 ∧
  r.imgW ≤ 65535 ∧ r.imgH ≤ 65535 ∧ (r.imgW / r.cw) * (r.imgH / r.ch) ≤ 65536
instance (r : FontRec) : Decidable (RecOk r) := by unfold RecOk; exact inferInstance

theorem fontTable_recOk : ∀ r ∈ fontTable, RecOk r := by decide +kernel

/-- **Every built-in font is in the domain of the glyph theorems**, and the glyph index of EVERY
character (mapped or replaced) is below 65536. -/
theorem builtin_fontOk (r : FontRec) (hr : r ∈ fontTable) :
    FontOk (EG.Font.fontOfRec r) ∧ ∀ c, (EG.Font.fontOfRec r).index c ≤ 65535 := by
  obtain ⟨a1, a2, a3, a4, a5, a6, a7, a8, a9⟩ := fontTable_recOk r hr
  refine ⟨⟨a1, a2, a3, a4, a5, a6, a7, a8⟩, ?_⟩
  intro c
  have := EG.Font.builtin_index_lt r hr c
  omega

end EG.Chk.Font
