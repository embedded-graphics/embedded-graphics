/-
  EG.Lemmas.JoinsDisplayScale — the guard `IntersectionParams.PointOK` (the rounded intersection
  point of two edge lines is either discarded by `nearly_colinear_has_error` or its `i32` casts do
  not saturate, before and after a move by `d`) holds for all edge lines at display scale.

  Why this is not a plain range argument: two display-scale lines that are nearly parallel meet
  far away (numerators up to 2^37 over a denominator that may be 1), so `NoSat` alone is not a
  consequence of the C08 bounds (`J.line`: the checked kernel's cast SATURATES there, it does not
  panic). What saves the join code is `nearly_colinear_has_error`: the point is used only if
  `den^2 >= |dot(d1, d2)|`, and with Lagrange's identity `|d1|^2 |d2|^2 = dot^2 + den^2` this
  forces `|d1|^2 |d2|^2 <= den^4 + den^2`; the exact point is
  `A1 + d1 * det(A2 - A1, d2) / den`, whose distance from `A1` is then at most 2^27 (rounding
  included) for start points and deltas within +-4096.
-/
import EG.Lemmas.JoinsTranslate
import EG.Basic.Arith
import Mathlib.Tactic.Linarith
import Mathlib.Tactic.Ring
namespace EG
namespace Joins


/-- `X <= u^2 + u`, `u >= 1`, `X <= 2^50` imply `X <= 2^27 u`. -/
theorem x_le_of_lagrange {X u : Int} (h1 : X ≤ u * u + u) (hu : 1 ≤ u) (hX : X ≤ 1125899906842624) :
    X ≤ 134217728 * u := by
  by_cases hs : u + 1 ≤ 134217728
  · -- small `u`: `u (u + 1) <= 2^27 u`
    have : u * (u + 1) ≤ u * 134217728 := Int.mul_le_mul_of_nonneg_left hs (by omega)
    rw [Int.mul_add, Int.mul_one] at this
    omega
  · -- large `u`: `2^27 u >= 2^54 > 2^50`
    omega

theorem lagrange (p q r s : Int) :
    (p * p + q * q) * (r * r + s * s) = (p * r + q * s) * (p * r + q * s) + (p * s - q * r) * (p * s - q * r) := by ring

theorem cauchy (x y r s : Int) : (x * s - y * r) * (x * s - y * r) ≤ (x * x + y * y) * (r * r + s * s) := by
  rw [lagrange]
  have := mul_self_nonneg (x * r + y * s)
  omega

theorem one_le_mul_self {a : Int} (h : a ≠ 0) : 1 ≤ a * a := by
  rcases Int.lt_or_gt_of_ne h with h | h <;> nlinarith

theorem sq_sum_le {a b B : Int} (ha : -B ≤ a ∧ a ≤ B) (hb : -B ≤ b ∧ b ≤ B) :
    0 ≤ a * a + b * b ∧ a * a + b * b ≤ 2 * (B * B) := by
  have h1 := sq_le_of_abs_le ha.1 ha.2
  have h2 := sq_le_of_abs_le hb.1 hb.2
  have h3 := mul_self_nonneg a
  have h4 := mul_self_nonneg b
  omega

theorem core_sq_bound {p q r s x y c : Int}
    (hp : -4096 ≤ p ∧ p ≤ 4096) (hq : -4096 ≤ q ∧ q ≤ 4096)
    (hr : -4096 ≤ r ∧ r ≤ 4096) (hs : -4096 ≤ s ∧ s ≤ 4096)
    (hx : -8192 ≤ x ∧ x ≤ 8192) (hy : -8192 ≤ y ∧ y ≤ 8192)
    (hc : c * c ≤ p * p + q * q)
    (hden : p * s - q * r ≠ 0)
    (hu1 : p * r + q * s ≤ (p * s - q * r) * (p * s - q * r))
    (hu2 : -(p * r + q * s) ≤ (p * s - q * r) * (p * s - q * r)) :
    (c * (x * s - y * r)) * (c * (x * s - y * r)) ≤
      18014398509481984 * ((p * s - q * r) * (p * s - q * r)) := by
  obtain ⟨hP0, hPle⟩ := sq_sum_le hp hq
  obtain ⟨hR0, hRle⟩ := sq_sum_le hr hs
  obtain ⟨-, hM⟩ := sq_sum_le hx hy
  norm_num at hPle hRle hM
  have hE0 : 0 ≤ (x * s - y * r) * (x * s - y * r) := mul_self_nonneg _
  have hc0 : 0 ≤ c * c := mul_self_nonneg c
  -- X = |d1|^2 |d2|^2 <= 2^50
  have hXle : (p * p + q * q) * (r * r + s * s) ≤ 1125899906842624 :=
    le_trans (mul_le_mul hPle hRle hR0 (by omega)) (by norm_num)
  -- E^2 <= 2^27 (r^2 + s^2)
  have hE2 : (x * s - y * r) * (x * s - y * r) ≤ 134217728 * (r * r + s * s) :=
    le_trans (cauchy x y r s) (mul_le_mul_of_nonneg_right hM hR0)
  -- (cE)^2 <= 2^27 X
  have hN : (c * (x * s - y * r)) * (c * (x * s - y * r)) ≤
      134217728 * ((p * p + q * q) * (r * r + s * s)) := by
    have e : (c * (x * s - y * r)) * (c * (x * s - y * r)) = (c * c) * ((x * s - y * r) * (x * s - y * r)) := by ring
    have e2 : 134217728 * ((p * p + q * q) * (r * r + s * s)) = (p * p + q * q) * (134217728 * (r * r + s * s)) := by ring
    rw [e, e2]
    exact le_trans (mul_le_mul_of_nonneg_right hc hE0) (mul_le_mul_of_nonneg_left hE2 hP0)
  -- X <= u^2 + u
  have hu : 1 ≤ (p * s - q * r) * (p * s - q * r) := one_le_mul_self hden
  have hX2 : (p * p + q * q) * (r * r + s * s) ≤
      ((p * s - q * r) * (p * s - q * r)) * ((p * s - q * r) * (p * s - q * r)) + (p * s - q * r) * (p * s - q * r) := by
    rw [lagrange]
    have := sq_le_of_abs_le (Int.neg_le_of_neg_le hu2) hu1
    omega
  have key := x_le_of_lagrange hX2 hu hXle
  omega

theorem iabs_mul_self (d : Int) : iabs d * iabs d = d * d := ite_neg_mul_self d

theorem iabs_pos {d : Int} (h : d ≠ 0) : 0 < iabs d := by
  unfold iabs; split <;> omega

theorem half_up_bound {m a K : Int} (ha : 0 < a) (h1 : -(K * a) ≤ m) (h2 : m ≤ K * a) :
    -K ≤ (2 * m + a) / (2 * a) ∧ (2 * m + a) / (2 * a) ≤ K := by
  have h2a : 0 < 2 * a := by omega
  constructor
  · apply Int.le_ediv_of_mul_le h2a
    have : -K * (2 * a) = 2 * (-(K * a)) := by ring
    omega
  · have : (2 * m + a) / (2 * a) < K + 1 := by
      apply Int.ediv_lt_of_lt_mul h2a
      have : (K + 1) * (2 * a) = 2 * (K * a) + 2 * a := by ring
      omega
    omega

theorem roundDivRaw_bound {n d K : Int} (hd : d ≠ 0) (h1 : -(K * iabs d) ≤ n) (h2 : n ≤ K * iabs d) :
    -K ≤ roundDivRaw n d ∧ roundDivRaw n d ≤ K := by
  obtain ⟨s, hs, -, ha, h⟩ := roundDivRaw_spec hd
  rw [h]
  rcases hs with rfl | rfl
  · exact half_up_bound ha (by omega) (by omega)
  · exact half_up_bound ha (by omega) (by omega)

/-- The x numerator relative to the first line's start point. -/
theorem xNumerator_rel (l1 l2 : Line) :
    (IntersectionParams.fromLines l1 l2).xNumerator =
      l1.start.x * (IntersectionParams.fromLines l1 l2).denominator +
        l1.delta.x * ((l2.start.x - l1.start.x) * l2.delta.y - (l2.start.y - l1.start.y) * l2.delta.x) := by
  unfold IntersectionParams.xNumerator IntersectionParams.fromLines LinearEquation.fromLine
  simp only [det, dot, rotate90]
  ring

theorem yNumerator_rel (l1 l2 : Line) :
    (IntersectionParams.fromLines l1 l2).yNumerator =
      l1.start.y * (IntersectionParams.fromLines l1 l2).denominator +
        l1.delta.y * ((l2.start.x - l1.start.x) * l2.delta.y - (l2.start.y - l1.start.y) * l2.delta.x) := by
  unfold IntersectionParams.yNumerator IntersectionParams.fromLines LinearEquation.fromLine
  simp only [det, dot, rotate90]
  ring

theorem denominator_eq_det (l1 l2 : Line) :
    (IntersectionParams.fromLines l1 l2).denominator = l1.delta.x * l2.delta.y - l1.delta.y * l2.delta.x := by
  unfold IntersectionParams.fromLines LinearEquation.fromLine
  simp only [det, rotate90]
  ring


theorem roundDivRaw_zero (n : Int) : roundDivRaw n 0 = 0 := by
  unfold roundDivRaw isignum iabs; simp

/-- Display-scale domain of an edge line handed to `IntersectionParams`: start point and delta
within +-4096 (vertices within +-1024, stroke widths up to 128: the edge lines of `Line::extents`
start within the stroke width of a vertex and have the segment's delta, possibly reduced by one
unit step). -/
def EdgeDS (l : Line) : Prop :=
  ((-4096 ≤ l.start.x ∧ l.start.x ≤ 4096) ∧ (-4096 ≤ l.start.y ∧ l.start.y ≤ 4096)) ∧
  ((-4096 ≤ l.delta.x ∧ l.delta.x ≤ 4096) ∧ (-4096 ≤ l.delta.y ∧ l.delta.y ≤ 4096))
instance (l : Line) : Decidable (EdgeDS l) := by unfold EdgeDS; exact inferInstance

/-- One coordinate: `A + round_div(c * E, den)` with `c^2 <= |d1|^2`. -/
theorem coord_bound {l1 l2 : Line} (h1 : EdgeDS l1) (h2 : EdgeDS l2)
    (hden : (IntersectionParams.fromLines l1 l2).denominator ≠ 0)
    (hnc : (IntersectionParams.fromLines l1 l2).nearlyColinearHasError = false)
    {c : Int} (hc : c * c ≤ l1.delta.x * l1.delta.x + l1.delta.y * l1.delta.y) :
    -134217728 ≤ roundDivRaw (c * ((l2.start.x - l1.start.x) * l2.delta.y - (l2.start.y - l1.start.y) * l2.delta.x))
        (IntersectionParams.fromLines l1 l2).denominator ∧
    roundDivRaw (c * ((l2.start.x - l1.start.x) * l2.delta.y - (l2.start.y - l1.start.y) * l2.delta.x))
        (IntersectionParams.fromLines l1 l2).denominator ≤ 134217728 := by
  obtain ⟨⟨hsx1, hsy1⟩, ⟨hdx1, hdy1⟩⟩ := h1
  obtain ⟨⟨hsx2, hsy2⟩, ⟨hdx2, hdy2⟩⟩ := h2
  have hdot : iabs (dot l1.delta l2.delta) ≤
      (IntersectionParams.fromLines l1 l2).denominator * (IntersectionParams.fromLines l1 l2).denominator := by
    unfold IntersectionParams.nearlyColinearHasError at hnc
    have := of_decide_eq_false hnc
    have e1 : (IntersectionParams.fromLines l1 l2).line1 = l1 := rfl
    have e2 : (IntersectionParams.fromLines l1 l2).line2 = l2 := rfl
    rw [e1, e2] at this
    omega
  rw [denominator_eq_det] at hden hdot ⊢
  have hu1 : l1.delta.x * l2.delta.x + l1.delta.y * l2.delta.y ≤
      (l1.delta.x * l2.delta.y - l1.delta.y * l2.delta.x) * (l1.delta.x * l2.delta.y - l1.delta.y * l2.delta.x) := by
    unfold iabs dot at hdot; split at hdot <;> omega
  have hu2 : -(l1.delta.x * l2.delta.x + l1.delta.y * l2.delta.y) ≤
      (l1.delta.x * l2.delta.y - l1.delta.y * l2.delta.x) * (l1.delta.x * l2.delta.y - l1.delta.y * l2.delta.x) := by
    unfold iabs dot at hdot; split at hdot <;> omega
  have hx : -8192 ≤ l2.start.x - l1.start.x ∧ l2.start.x - l1.start.x ≤ 8192 := by omega
  have hy : -8192 ≤ l2.start.y - l1.start.y ∧ l2.start.y - l1.start.y ≤ 8192 := by omega
  have hsq := core_sq_bound hdx1 hdy1 hdx2 hdy2 hx hy hc hden hu1 hu2
  rw [← iabs_mul_self (l1.delta.x * l2.delta.y - l1.delta.y * l2.delta.x)] at hsq
  have h54 : (134217728 : Int) * 134217728 = 18014398509481984 := by norm_num
  rw [← h54, mul_mul_mul_comm 134217728 134217728] at hsq
  have hb := abs_le_of_sq_le (B := 134217728 * iabs _) (Int.mul_nonneg (by decide) (Int.le_of_lt (iabs_pos hden))) hsq
  exact roundDivRaw_bound hden hb.1 hb.2


/-- **The exact rounded intersection point of two display-scale edge lines whose point is USED
(`nearly_colinear_has_error = false`) lies within 2^27 of the first line's start point.** -/
theorem rawPoint_near_start {l1 l2 : Line} (h1 : EdgeDS l1) (h2 : EdgeDS l2)
    (hnc : (IntersectionParams.fromLines l1 l2).nearlyColinearHasError = false) :
    (-134217728 ≤ (IntersectionParams.fromLines l1 l2).rawPoint.x - l1.start.x ∧
      (IntersectionParams.fromLines l1 l2).rawPoint.x - l1.start.x ≤ 134217728) ∧
    (-134217728 ≤ (IntersectionParams.fromLines l1 l2).rawPoint.y - l1.start.y ∧
      (IntersectionParams.fromLines l1 l2).rawPoint.y - l1.start.y ≤ 134217728) := by
  unfold IntersectionParams.rawPoint
  by_cases hden : (IntersectionParams.fromLines l1 l2).denominator = 0
  · -- both deltas degenerate (den = 0 and dot = 0): Lean's `x / 0 = 0`; Rust never gets here
    -- (`intersection()` returns `Colinear` first)
    obtain ⟨⟨hsx1, hsy1⟩, _⟩ := h1
    rw [hden, roundDivRaw_zero, roundDivRaw_zero]
    dsimp only
    omega
  · have hx := coord_bound h1 h2 hden hnc (c := l1.delta.x)
      (Int.le_add_of_nonneg_right (mul_self_nonneg l1.delta.y))
    have hy := coord_bound h1 h2 hden hnc (c := l1.delta.y)
      (Int.le_add_of_nonneg_left (mul_self_nonneg l1.delta.x))
    rw [xNumerator_rel, yNumerator_rel]
    have ex : ∀ a n : Int, a * (IntersectionParams.fromLines l1 l2).denominator + n =
        n + a * (IntersectionParams.fromLines l1 l2).denominator := fun a n => by ring
    rw [ex, ex, roundDivRaw_translate _ _ _ hden, roundDivRaw_translate _ _ _ hden]
    dsimp only
    omega

/-- **`PointOK` at display scale**: for edge lines with start points and deltas within +-4096 and
every move `d` within +-2^30, the rounded intersection point is discarded or no cast saturates. -/
theorem pointOK_display_scale {l1 l2 : Line} (h1 : EdgeDS l1) (h2 : EdgeDS l2) {d : Pt}
    (hd : (-1073741824 ≤ d.x ∧ d.x ≤ 1073741824) ∧ (-1073741824 ≤ d.y ∧ d.y ≤ 1073741824)) :
    (IntersectionParams.fromLines l1 l2).PointOK d := by
  unfold IntersectionParams.PointOK
  cases hnc : (IntersectionParams.fromLines l1 l2).nearlyColinearHasError with
  | true => exact Or.inl rfl
  | false =>
    right
    obtain ⟨⟨hx1, hx2⟩, ⟨hy1, hy2⟩⟩ := rawPoint_near_start h1 h2 hnc
    obtain ⟨⟨hsx1, hsy1⟩, _⟩ := h1
    obtain ⟨⟨_, _⟩, ⟨_, _⟩⟩ := hd
    unfold IntersectionParams.NoSat inI32
    refine ⟨⟨?_, ?_⟩, ⟨?_, ?_⟩, ⟨?_, ?_⟩, ⟨?_, ?_⟩⟩ <;> omega

end Joins
end EG
