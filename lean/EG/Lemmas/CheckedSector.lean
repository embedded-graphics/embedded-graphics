/-
  EG.Lemmas.CheckedSector — range theorems of the sector / arc kernels
  (Model/CheckedSector.lean).

  Domains: normal vectors of the plane sector (and of the bevel line) within +-1024 per
  component (`Sec.normal`; `OriginLinearEquation::with_angle` scales a unit vector by
  `NORMAL_VECTOR_SCALE = 1024`), doubled deltas within +-32767 (`J.pt`: the largest values whose
  squared length fits `i32`, so `DistanceIterator` is the binding constraint, not the dot
  products), circles in `Sec.circle` (corner within +-4096, diameter up to 4097: the bounding box is
  iterated within +-8192 and the doubled centre is within +-16383, so the doubled deltas are in
  `J.pt`). `Sec.base`, `Sec.width`: the circles and stroke widths whose stroke areas are in
  `Sec.circle`.
-/
import EG.Lemmas.CheckedDS
import EG.Lemmas.CheckedThick
import EG.Lemmas.Circle
import EG.Lemmas.Style
import EG.Model.CheckedSector
namespace EG.Chk
open EG

def Sec.normal (n : Pt) : Prop := (-1024 ≤ n.x ∧ n.x ≤ 1024) ∧ (-1024 ≤ n.y ∧ n.y ≤ 1024)
instance (n : Pt) : Decidable (Sec.normal n) := by unfold Sec.normal; exact inferInstance
def Sec.ps (ps : EG.PlaneSector) : Prop := Sec.normal ps.left ∧ Sec.normal ps.right
instance (ps : EG.PlaneSector) : Decidable (Sec.ps ps) := by unfold Sec.ps; exact inferInstance
attribute [reducible] Sec.normal Sec.ps

namespace PlaneSector

theorem distance_ok {n p : Pt} (hn : Sec.normal n) (hp : J.pt p) :
    Ret (distance n p) (EG.PlaneSector.distance n p) fun d => -134213632 ≤ d ∧ d ≤ 134213632 :=
  (Isect.dot_bounded (A := 32767) (B := 1024) hp hn (by decide)).weaken fun h =>
    ⟨Int.le_trans (by decide) h.1, Int.le_trans h.2 (by decide)⟩

theorem contains_ok {ps : EG.PlaneSector} (hps : Sec.ps ps) {p : Pt} (hp : J.pt p) :
    contains ps p = some (ps.contains p) := by
  obtain ⟨hl, hr⟩ := hps
  have elr : Isect.dot ps.left ps.right = some (dotProduct ps.left ps.right) :=
    (Isect.dot_bounded (A := 1024) (B := 1024) hl hr (by decide)).1
  unfold contains EG.PlaneSector.contains EG.PlaneSector.behindBisector
  rw [(distance_ok hl hp).1, (distance_ok hr hp).1, some_bind, some_bind]
  simp only [EG.PlaneSector.checkLeft, EG.PlaneSector.checkRight]
  split
  · rw [elr, some_bind]
    split
    · unfold Sec.normal at hl hr
      have epb : Isect.dot p ⟨ps.left.y + ps.right.y, -(ps.left.x + ps.right.x)⟩ =
          some (dotProduct p ⟨ps.left.y + ps.right.y, -(ps.left.x + ps.right.x)⟩) :=
        (Isect.dot_bounded (A := 32767) (B := 2048) hp (by simp only; omega) (by decide)).1
      rw [chkI32_bind (by omega), chkI32_bind (by omega), chkI32_bind (by omega), epb, some_bind]
      split
      · rename_i h; rw [if_pos (decide_eq_true h)]; rfl
      · rename_i h; rw [decide_eq_false h]; rfl
    · rfl
  · rfl

/-- The thresholds are negated: any `i32` but `i32::MIN`. -/
theorem pointType_ok {ps : EG.PlaneSector} (hps : Sec.ps ps) {p : Pt} (hp : J.pt p) {ti tout : Int}
    (hti : -2147483647 ≤ ti ∧ ti ≤ 2147483647) (hto : -2147483647 ≤ tout ∧ tout ≤ 2147483647) :
    pointType ps p ti tout = some (ps.pointType p ti tout) := by
  unfold pointType EG.PlaneSector.pointType
  rw [(distance_ok hps.2 hp).1, (distance_ok hps.1 hp).1, some_bind, some_bind, chkI32_bind (by omega)]
  simp only
  split
  · rw [chkI32_bind (by omega)]
    split <;> rfl
  · rfl

end PlaneSector

/-- The rectangle iterator only yields points within +-8192. -/
structure PtsOk (it : Rect.PointsIt) : Prop where
  x : -8192 ≤ it.x
  xs : -8192 ≤ it.xStart
  xe : it.xEnd ≤ 8193
  y : -8192 ≤ it.y
  ye : it.yEnd ≤ 8193

theorem PtsOk.nextFuel : ∀ (fuel : Nat) (it : Rect.PointsIt), PtsOk it → ∀ p it',
    it.nextFuel fuel = some (p, it') →
    ((-8192 ≤ p.x ∧ p.x ≤ 8192) ∧ (-8192 ≤ p.y ∧ p.y ≤ 8192)) ∧ PtsOk it' := by
  intro fuel
  induction fuel with
  | zero => intro it _ p it' h; cases h
  | succ fuel ih =>
    intro it hi p it' h
    unfold Rect.PointsIt.nextFuel at h
    split at h
    · split at h
      · cases h
        have := hi.x; have := hi.xe; have := hi.y; have := hi.ye
        exact ⟨⟨⟨by omega, by simp only; omega⟩, ⟨by omega, by simp only; omega⟩⟩,
          ⟨by simp only; omega, hi.xs, hi.xe, hi.y, hi.ye⟩⟩
      · have hy := hi.y
        exact ih { it with y := it.y + 1, x := it.xStart }
          ⟨hi.xs, hi.xs, hi.xe, by show -8192 ≤ it.y + 1; omega, hi.ye⟩ p it' h
    · cases h

theorem PtsOk.next {it : Rect.PointsIt} (hi : PtsOk it) {p : Pt} {it' : Rect.PointsIt}
    (h : it.next = some (p, it')) :
    ((-8192 ≤ p.x ∧ p.x ≤ 8192) ∧ (-8192 ≤ p.y ∧ p.y ≤ 8192)) ∧ PtsOk it' :=
  PtsOk.nextFuel _ it hi p it' h

theorem PtsOk.empty : PtsOk Rect.PointsIt.empty := ⟨by decide, by decide, by decide, by decide, by decide⟩

/-- 4097 is the largest side for which the box ends at 8193, the points within +-8192. -/
theorem PtsOk.ofRect {r : Rect} (hx : -4096 ≤ r.tl.x ∧ r.tl.x ≤ 4096) (hy : -4096 ≤ r.tl.y ∧ r.tl.y ≤ 4096)
    (hw : r.size.w ≤ 4097) (hh : r.size.h ≤ 4097) : PtsOk r.pointsIt := by
  unfold Rect.pointsIt
  split
  · exact PtsOk.empty
  · obtain ⟨c1, c2⟩ := W.rect.ends_eq (r := r) (by omega)
    exact ⟨by simp only; omega, by simp only; omega, by simp only [c1]; omega, by simp only; omega,
      by simp only [c2]; omega⟩

/-- The probe of the circle kernels: the doubled delta `point * 2 - center_2x` of a pixel within
+-8192 from a doubled centre within +-16383 is within +-32767. -/
theorem delta2_ok {c p : Pt} (hcx : -16383 ≤ c.x ∧ c.x ≤ 16383) (hcy : -16383 ≤ c.y ∧ c.y ≤ 16383)
    (hp : (-8192 ≤ p.x ∧ p.x ≤ 8192) ∧ (-8192 ≤ p.y ∧ p.y ≤ 8192)) :
    Ret (ptMul p 2 >>= fun p2 => ptSub p2 c) (⟨p.x * 2, p.y * 2⟩ - c) J.pt := by
  rw [ptMul_ok (by omega), some_bind]
  exact ⟨ptSub_ok (by simp only; omega), by simp only [J.pt, J.coord, Pt.sub_x, Pt.sub_y]; omega⟩

/-- The squared length of such a delta fits `i32`, and its cast `as u32` is the number itself. -/
theorem distSq_ok {δ : Pt} (h : J.pt δ) :
    lengthSquared δ = some (EG.lengthSquared δ) ∧
      i32AsU32 (EG.lengthSquared δ) = (EG.lengthSquared δ).toNat :=
  ⟨lengthSquared_ok h.1 h.2, i32AsU32_nonneg (lengthSquared_bounds h.1 h.2).1⟩

structure DistOk (it : EG.DistIt) : Prop where
  pts : PtsOk it.points
  cx : -16383 ≤ it.center2x.x ∧ it.center2x.x ≤ 16383
  cy : -16383 ≤ it.center2x.y ∧ it.center2x.y ≤ 16383

namespace DistIt

theorem item_ok {c p : Pt} (hcx : -16383 ≤ c.x ∧ c.x ≤ 16383) (hcy : -16383 ≤ c.y ∧ c.y ≤ 16383)
    (hp : (-8192 ≤ p.x ∧ p.x ≤ 8192) ∧ (-8192 ≤ p.y ∧ p.y ≤ 8192)) :
    Ret (item c p) (EG.DistIt.item c p) fun x => J.pt x.2.1 := by
  obtain ⟨e, hδ⟩ := delta2_ok hcx hcy hp
  refine ⟨?_, hδ⟩
  rw [item, ← bind_assoc, e, some_bind, (distSq_ok hδ).1, some_bind, (distSq_ok hδ).2]
  rfl

theorem next_ok {it : EG.DistIt} (hi : DistOk it) :
    Ret (next it) it.next (Next fun x it' => J.pt x.2.1 ∧ DistOk it') := by
  unfold next EG.DistIt.next
  cases hn : it.points.next with
  | none => exact Ret.pure Next.none
  | some r =>
    obtain ⟨hp, hpts⟩ := hi.pts.next hn
    exact (item_ok hi.cx hi.cy hp).bind fun hj => Ret.pure (Next.some ⟨hj, hpts, hi.cx, hi.cy⟩)

theorem findFuel_ok {pred : DistItem → Option Bool} {q : DistItem → Bool}
    (hq : ∀ x : DistItem, J.pt x.2.1 → pred x = some (q x)) :
    ∀ (fuel : Nat) (it : EG.DistIt), DistOk it →
      Ret (findFuel pred fuel it) (EG.DistIt.findFuel q fuel it) (Next fun x it' => J.pt x.2.1 ∧ DistOk it')
  | 0, _, _ => Ret.pure Next.none
  | fuel + 1, it, hi => by
    unfold findFuel EG.DistIt.findFuel
    refine (next_ok hi).bind fun hnext => ?_
    cases hn : it.next with
    | none => exact Ret.pure Next.none
    | some r =>
      obtain ⟨x, it'⟩ := r
      obtain ⟨hj, hi'⟩ := hnext x it' hn
      refine (Ret.of_eq (hq x hj)).bind fun _ => ?_
      simp only
      cases hqx : q x with
      | true => exact Ret.pure (Next.some ⟨hj, hi'⟩)
      | false => exact findFuel_ok hq fuel it' hi'

theorem find_ok {pred : DistItem → Option Bool} {q : DistItem → Bool}
    (hq : ∀ x : DistItem, J.pt x.2.1 → pred x = some (q x)) {it : EG.DistIt} (hi : DistOk it) :
    Ret (find pred it) (it.find q) (Next fun x it' => J.pt x.2.1 ∧ DistOk it') :=
  findFuel_ok hq _ it hi

end DistIt

/-- Diameter up to 4097: see `PtsOk.ofRect`. -/
def Sec.circle (c : EG.Circle) : Prop :=
  (-4096 ≤ c.tl.x ∧ c.tl.x ≤ 4096) ∧ (-4096 ≤ c.tl.y ∧ c.tl.y ≤ 4096) ∧ c.d ≤ 4097
instance (c : EG.Circle) : Decidable (Sec.circle c) := by unfold Sec.circle; exact inferInstance
attribute [reducible] Sec.circle

theorem Circle.distances_ok {c : EG.Circle} (h : Sec.circle c) :
    Ret (Circle.distances c) c.distances DistOk := by
  obtain ⟨hx, hy, hd⟩ := h
  constructor
  · rw [Circle.distances, Circle.center2x_ok (by omega) (by omega)]
    rfl
  · exact ⟨PtsOk.ofRect hx hy hd hd, by simp only [EG.Circle.distances, EG.DistIt.new, EG.Circle.center2x]; omega,
      by simp only [EG.Circle.distances, EG.DistIt.new, EG.Circle.center2x]; omega⟩

theorem Sec.offset_d_le (c : EG.Circle) {o : Int} (ho : o ≤ 0) : (c.offset o).d ≤ c.d := by
  rw [EG.Circle.offset_d]
  split
  · rw [show o = 0 by omega, Int.toNat_zero, satAddU32]
    split <;> omega
  · omega

def Sec.sector (s : EG.Sector) : Prop := Sec.circle s.toCircle ∧ Sec.ps s.ps
instance (s : EG.Sector) : Decidable (Sec.sector s) := by unfold Sec.sector; exact inferInstance
def Sec.arc (a : EG.Arc) : Prop := Sec.circle a.toCircle ∧ Sec.ps a.ps
instance (a : EG.Arc) : Decidable (Sec.arc a) := by unfold Sec.arc; exact inferInstance
attribute [reducible] Sec.sector Sec.arc

namespace Sector

theorem contains_ok {s : EG.Sector} (hs : Sec.sector s) {p : Pt} (hpx : S.probe p.x) (hpy : S.probe p.y) :
    contains s p = some (s.contains p) := by
  obtain ⟨⟨hx, hy, hd⟩, hps⟩ := hs
  have hd' : s.toCircle.d ≤ 8192 := Nat.le_trans hd (by decide)
  have hδ := Circle.delta_bounds (c := s.toCircle) hx hy hd' hpx hpy
  have hj : J.pt ((⟨p.x * 2, p.y * 2⟩ : Pt) - s.toCircle.center2x) := by
    unfold J.pt J.coord
    simp only [Pt.sub_x, Pt.sub_y]
    omega
  unfold contains EG.Sector.contains
  rw [Circle.contains_ok (c := s.toCircle) hx hy hd' hpx hpy, some_bind]
  split
  · unfold S.probe at hpx hpy
    have hx' : -4096 ≤ s.toCircle.tl.x ∧ s.toCircle.tl.x ≤ 4096 := hx
    have hy' : -4096 ≤ s.toCircle.tl.y ∧ s.toCircle.tl.y ≤ 4096 := hy
    rw [ptMul_ok (by omega), some_bind, center2x,
      Circle.center2x_ok (by omega) (by omega), some_bind,
      ptSub_ok (by simp only; omega), some_bind]
    exact PlaneSector.contains_ok hps hj
  · rfl

theorem offset_ok {s : EG.Sector} (ht : W.pt s.tl) (hd : W.size s.d) {o : Int} (ho : W.coord o) :
    offset s o = some (s.offset o) := by
  unfold offset EG.Sector.offset
  rw [Circle.offset_ok (c := s.toCircle) ht hd ho]
  rfl

theorem translate_ok {s : EG.Sector} (ht : W.pt s.tl) {d : Pt} (hd : W.pt d) :
    translate s d = some (s.translate d) := by
  rw [translate, ptAdd_ok (by omega)]
  rfl

structure PtsItOk (it : EG.Sector.PointsIt) : Prop where
  iter : DistOk it.iter
  ps : Sec.ps it.planeSector

theorem pointsIt_ok {s : EG.Sector} (hs : Sec.sector s) : Ret (pointsIt s) s.pointsIt PtsItOk := by
  have hdd : s.d ≤ 4097 := hs.1.2.2
  exact (Circle.distances_ok hs.1).bind fun hd =>
    (Ret.of_eq (diameterToThreshold_ok (by omega))).bind fun _ => Ret.pure ⟨hd, hs.2⟩

theorem pred_ok {it : EG.Sector.PointsIt} (hi : PtsItOk it) (x : DistItem) (hx : J.pt x.2.1) :
    pred it x = some (it.pred x) := by
  unfold pred EG.Sector.PointsIt.pred
  split
  · rename_i h
    rw [PlaneSector.contains_ok hi.ps hx]
    simp [h]
  · rename_i h
    simp [h]

theorem next_ok {it : EG.Sector.PointsIt} (hi : PtsItOk it) :
    Ret (next it) it.next (Next fun _ it' => PtsItOk it') := by
  unfold next EG.Sector.PointsIt.next
  refine (DistIt.find_ok (pred_ok hi) hi.iter).bind fun hf => ?_
  cases hfind : it.iter.find it.pred with
  | none => exact Ret.pure Next.none
  | some r => exact Ret.pure (Next.some ⟨(hf r.1 r.2 hfind).2, hi.ps⟩)

end Sector

namespace Arc

structure PtsItOk (it : EG.Arc.PointsIt) : Prop where
  iter : DistOk it.iter
  ps : Sec.ps it.planeSector

theorem pointsIt_ok {a : EG.Arc} (ha : Sec.arc a) : Ret (pointsIt a) a.pointsIt PtsItOk := by
  obtain ⟨hx, hy, hdd⟩ := ha.1
  have hle := Sec.offset_d_le a.toCircle (o := -1) (by decide)
  exact (Ret.of_eq (Circle.offset_ok (c := a.toCircle) (o := -1) (by omega) (by omega) (by decide))).bind fun _ =>
    (Circle.distances_ok ha.1).bind fun hd =>
    (Ret.of_eq (diameterToThreshold_ok (by omega))).bind fun _ =>
    (Ret.of_eq (diameterToThreshold_ok (by omega))).bind fun _ => Ret.pure ⟨hd, ha.2⟩

theorem pred_ok {outer inner : Nat} {ps : EG.PlaneSector} (hps : Sec.ps ps) (x : DistItem)
    (hx : J.pt x.2.1) :
    pred outer inner ps x =
      some (decide (x.2.2 < outer) && decide (x.2.2 ≥ inner) && ps.contains x.2.1) := by
  unfold pred
  split
  · rename_i h
    rw [PlaneSector.contains_ok hps hx]
    simp [h.1, h.2]
  · rename_i h
    by_cases h1 : x.2.2 < outer
    · have h2 : ¬ x.2.2 ≥ inner := fun h2 => h ⟨h1, h2⟩
      simp [h1, h2]
    · simp [h1]

theorem next_ok {it : EG.Arc.PointsIt} (hi : PtsItOk it) :
    Ret (next it) it.next (Next fun _ it' => PtsItOk it') := by
  unfold next EG.Arc.PointsIt.next
  refine (DistIt.find_ok (q := it.pred) (fun x hx => pred_ok hi.ps x hx) hi.iter).bind fun hf => ?_
  cases hfind : it.iter.find it.pred with
  | none => exact Ret.pure Next.none
  | some r => exact Ret.pure (Next.some ⟨(hf r.1 r.2 hfind).2, hi.ps⟩)

theorem translate_ok {a : EG.Arc} (ht : W.pt a.tl) {d : Pt} (hd : W.pt d) :
    translate a d = some (a.translate d) := by
  rw [translate, ptAdd_ok (by omega)]
  rfl

end Arc

/-- a stroke width whose inside / outside parts keep the thresholds inside `i32` with room to
spare; 1024 is eight times the display-scale maximum -/
def Sec.width (st : Style) : Prop := st.width ≤ 1024
instance (st : Style) : Decidable (Sec.width st) := by unfold Sec.width; exact inferInstance
attribute [reducible] Sec.width

theorem Sec.outside_le {st : Style} (h : Sec.width st) : st.outsideStrokeWidth ≤ 1024 :=
  Nat.le_trans st.outside_le_width h

theorem Sec.inside_le {st : Style} (h : Sec.width st) : st.insideStrokeWidth ≤ 1024 :=
  Nat.le_trans st.inside_le_width h

theorem Sec.strokeOffset_eq {st : Style} (h : Sec.width st) :
    st.strokeOffset = (st.outsideStrokeWidth : Int) ∧ 0 ≤ st.strokeOffset ∧ st.strokeOffset ≤ 1024 := by
  have := Sec.outside_le h
  rw [st.strokeOffset_eq (by omega)]
  omega

theorem Sec.insideI32_eq {st : Style} (h : Sec.width st) :
    satAsI32 st.insideStrokeWidth = (st.insideStrokeWidth : Int) :=
  satAsI32_of_le (by have := Sec.inside_le h; omega)

/-- circles small enough that every stroke area of width up to 1024 is in `Sec.circle` -/
def Sec.base (c : EG.Circle) : Prop :=
  (-2048 ≤ c.tl.x ∧ c.tl.x ≤ 2048) ∧ (-2048 ≤ c.tl.y ∧ c.tl.y ≤ 2048) ∧ c.d ≤ 2048
instance (c : EG.Circle) : Decidable (Sec.base c) := by unfold Sec.base; exact inferInstance
attribute [reducible] Sec.base

theorem Sec.base_W {c : EG.Circle} (h : Sec.base c) : W.pt c.tl ∧ W.size c.d := by
  omega

theorem Sec.offset_grow {c : EG.Circle} (h : Sec.base c) {o : Int} (ho : 0 ≤ o ∧ o ≤ 1024) :
    Sec.circle (c.offset o) := by
  rw [EG.Circle.offset_nonneg c o ho.1, satAddU32, if_pos (by omega)]
  simp only [Sec.circle, Pt.sub_x, Pt.sub_y]
  omega

/-- What both styled constructors compute from the circle: the stroke circle (grown by the
outside stroke width), the fill circle (shrunk by the inside one), the distance iterator of the
stroke circle and both thresholds. -/
theorem Sec.styledCircles {st : Style} {c : EG.Circle} (hw : Sec.width st) (hc : Sec.base c) :
    Circle.offset c st.strokeOffset = some (c.offset st.strokeOffset) ∧
    chkI32 (-(satAsI32 st.insideStrokeWidth)) = some st.fillOffset ∧
    Circle.offset c st.fillOffset = some (c.offset st.fillOffset) ∧
    (Circle.distances (c.offset st.strokeOffset) = some (c.offset st.strokeOffset).distances ∧
      DistOk (c.offset st.strokeOffset).distances) ∧
    diameterToThreshold (c.offset st.strokeOffset).d = some (c.offset st.strokeOffset).threshold ∧
    diameterToThreshold (c.offset st.fillOffset).d = some (c.offset st.fillOffset).threshold := by
  obtain ⟨so1, so2, so3⟩ := Sec.strokeOffset_eq hw
  have hin := Sec.inside_le hw
  have ein := Sec.insideI32_eq hw
  obtain ⟨wt, wd⟩ := Sec.base_W hc
  have hgrow := Sec.offset_grow hc ⟨so2, so3⟩
  have hfd := Sec.offset_d_le c (o := st.fillOffset) (by unfold Style.fillOffset; omega)
  have hsd : (c.offset st.strokeOffset).d ≤ 4097 := hgrow.2.2
  have hbase : c.d ≤ 2048 := hc.2.2
  exact ⟨Circle.offset_ok wt wd (by omega), chkI32_ok (by omega) (by omega),
    Circle.offset_ok wt wd (by unfold Style.fillOffset; omega), Circle.distances_ok hgrow,
    diameterToThreshold_ok (by omega), diameterToThreshold_ok (by omega)⟩

namespace Sector

/- `1048575 * 1024 * 2 + 1024 < 2^31` and `524288 * 1024 * 4 = 2^31`: the largest widths for which the
three stroke thresholds below fit `i32`. -/
theorem thresholdInside_ok {w : Int} (h : 0 ≤ w ∧ w ≤ 1048575) :
    thresholdInside w = some (w * normalVectorScale * 2 - normalVectorScale) := by
  unfold thresholdInside normalVectorScale
  chk_simp

theorem thresholdOutside_ok {w : Int} (h : 0 ≤ w ∧ w ≤ 1048575) :
    thresholdOutside w = some (w * normalVectorScale * 2 + normalVectorScale) := by
  unfold thresholdOutside normalVectorScale
  chk_simp

theorem bevelThreshold_ok {w : Int} (h : 0 ≤ w ∧ w ≤ 524288) :
    bevelThreshold w = some (-w * normalVectorScale * 4) := by
  unfold bevelThreshold normalVectorScale
  chk_simp

structure StyledOk (it : EG.Sector.StyledPixelsIt) : Prop where
  iter : DistOk it.iter
  ps : Sec.ps it.planeSector
  ti : -2147483647 ≤ it.strokeThresholdInside ∧ it.strokeThresholdInside ≤ 2147483647
  tout : -2147483647 ≤ it.strokeThresholdOutside ∧ it.strokeThresholdOutside ≤ 2147483647
  bevel : ∀ k e, it.bevel = some (k, e) →
    Sec.normal e.normalVector ∧ (-1073741824 ≤ e.originDistance ∧ e.originDistance ≤ 1073741824)

theorem styledPixelsIt_ok {st : Style} {s : EG.Sector} {bevel : SectorBevel} (hw : Sec.width st)
    (hc : Sec.base s.toCircle) (hps : Sec.ps s.ps)
    (hb : ∀ k n, bevel = some (k, n) → Sec.normal n) :
    Ret (styledPixelsIt st s bevel) (s.styledPixelsIt st bevel) StyledOk := by
  obtain ⟨e1, e2, e3, ⟨e4, hd⟩, e5, e6⟩ := Sec.styledCircles hw hc
  have hin := Sec.inside_le hw
  have hout := Sec.outside_le hw
  have ein := Sec.insideI32_eq hw
  have eout : satAsI32 st.outsideStrokeWidth = (st.outsideStrokeWidth : Int) := (Sec.strokeOffset_eq hw).1
  have t1 : (EG.Sector.fromCircle (s.toCircle.offset st.strokeOffset) s.ps).toCircle =
      s.toCircle.offset st.strokeOffset := rfl
  have t2 : (EG.Sector.fromCircle (s.toCircle.offset st.fillOffset) s.ps).d =
      (s.toCircle.offset st.fillOffset).d := rfl
  constructor
  · unfold styledPixelsIt offset EG.Sector.styledPixelsIt
    rw [e1, some_bind, pure_bind, e2, some_bind, e3, some_bind, pure_bind, t1, t2]
    dsimp only
    rw [e5, e6, thresholdInside_ok (by omega), thresholdOutside_ok (by omega)]
    cases bevel with
    | none =>
      cases st.isTransparent <;> simp only [Bool.not_false, Bool.not_true, Bool.false_eq_true, ↓reduceIte, e4, some_bind, pure_bind] <;> rfl
    | some kn =>
      rw [bevelThreshold_ok (by omega)]
      cases st.isTransparent <;> simp only [Bool.not_false, Bool.not_true, Bool.false_eq_true, ↓reduceIte, e4, some_bind, pure_bind] <;> rfl
  · refine ⟨?_, hps, ?_, ?_, ?_⟩
    · simp only [EG.Sector.styledPixelsIt]
      split
      · exact hd
      · exact ⟨PtsOk.empty, by decide, by decide⟩
    · simp only [EG.Sector.styledPixelsIt, ein, normalVectorScale]; omega
    · simp only [EG.Sector.styledPixelsIt, eout, normalVectorScale]; omega
    · intro k e he
      cases bevel with
      | none => cases he
      | some kn =>
        cases he
        exact ⟨hb kn.1 kn.2 rfl, by simp only [eout, normalVectorScale]; omega⟩

theorem checkLeft_ok {le : Joins.LinearEquation} (hn : Sec.normal le.normalVector)
    (ho : -1073741824 ≤ le.originDistance ∧ le.originDistance ≤ 1073741824) {p : Pt} (hp : J.pt p) :
    checkLeft le p = some (le.checkSide p .left) := by
  obtain ⟨e, b1, b2⟩ := PlaneSector.distance_ok hn hp
  have e' : Isect.dot p le.normalVector = some (Joins.dot p le.normalVector) := e
  have b1' : -134213632 ≤ Joins.dot p le.normalVector := b1
  have b2' : Joins.dot p le.normalVector ≤ 134213632 := b2
  unfold checkLeft Joins.LinearEquation.checkSide Joins.LinearEquation.distance
  rw [e']
  chk_simp

theorem bevelStroke_ok {it : EG.Sector.StyledPixelsIt} (hi : StyledOk it) {delta : Pt} (hp : J.pt delta) :
    bevelStroke it delta = some (it.bevelStroke delta) := by
  unfold bevelStroke EG.Sector.StyledPixelsIt.bevelStroke
  cases hb : it.bevel with
  | none => rfl
  | some ke =>
    obtain ⟨k, e⟩ := ke
    obtain ⟨hn, ho⟩ := hi.bevel k e hb
    simp only
    rw [checkLeft_ok hn ho hp]
    simp only [Option.bind_eq_bind, Option.bind_some]
    split
    · cases k <;> rfl
    · rfl

theorem pixel_ok {it : EG.Sector.StyledPixelsIt} (hi : StyledOk it) (x : DistItem) (hx : J.pt x.2.1) :
    pixel it x = some (it.pixel x) := by
  unfold pixel EG.Sector.StyledPixelsIt.pixel
  dsimp only
  rw [PlaneSector.pointType_ok hi.ps hx hi.ti hi.tout]
  simp only [Option.bind_eq_bind, Option.bind_some]
  cases it.planeSector.pointType x.2.1 it.strokeThresholdInside it.strokeThresholdOutside with
  | none => rfl
  | some pt =>
    simp only
    by_cases hs : pt = .stroke
    · simp only [hs, ↓reduceIte]
      rw [bevelStroke_ok hi hx]
      simp only [Option.bind_some]
      cases it.bevelStroke x.2.1 with
      | none => rfl
      | some pt2 =>
        simp only
        cases pt2 <;> cases hsc : it.strokeColor <;> cases hfc : it.fillColor <;>
          by_cases hc : x.2.2 ≥ it.innerThreshold <;> simp [hc]
    · simp only [hs, ↓reduceIte, Option.pure_def, Option.bind_some]
      cases pt <;> cases hsc : it.strokeColor <;> cases hfc : it.fillColor <;>
        by_cases hc : x.2.2 ≥ it.innerThreshold <;> simp [hc] at hs ⊢

theorem styledNextFuel_ok : ∀ (fuel : Nat) (it : EG.Sector.StyledPixelsIt), StyledOk it →
    Ret (styledNextFuel fuel it) (it.nextFuel fuel) (Next fun _ it' => StyledOk it')
  | 0, _, _ => Ret.pure Next.none
  | fuel + 1, it, hi => by
    unfold styledNextFuel EG.Sector.StyledPixelsIt.nextFuel
    refine (DistIt.find_ok (pred := fun x => pure (decide (x.2.2 < it.outerThreshold)))
      (q := it.inOuter) (fun x _ => rfl) hi.iter).bind fun hf => ?_
    cases hfind : it.iter.find it.inOuter with
    | none => exact Ret.pure Next.none
    | some r =>
      obtain ⟨x, iter'⟩ := r
      obtain ⟨hj, hd⟩ := hf x iter' hfind
      have hi' : StyledOk { it with iter := iter' } := ⟨hd, hi.ps, hi.ti, hi.tout, hi.bevel⟩
      refine (Ret.of_eq (pixel_ok hi x hj)).bind fun _ => ?_
      simp only
      cases hp : it.pixel x with
      | some w => exact Ret.pure (Next.some hi')
      | none => exact styledNextFuel_ok fuel _ hi'

theorem styledNext_ok {it : EG.Sector.StyledPixelsIt} (hi : StyledOk it) :
    Ret (styledNext it) it.next (Next fun _ it' => StyledOk it') :=
  styledNextFuel_ok _ it hi

end Sector

namespace Arc

structure StyledOk (it : EG.Arc.StyledPixelsIt) : Prop where
  iter : DistOk it.iter
  ps : Sec.ps it.planeSector

theorem styledPixelsIt_ok {st : Style} {a : EG.Arc} (hw : Sec.width st) (hc : Sec.base a.toCircle)
    (hps : Sec.ps a.ps) :
    Ret (styledPixelsIt st a) (a.styledPixelsIt st) StyledOk := by
  obtain ⟨e1, e2, e3, ⟨e4, hd⟩, e5, e6⟩ := Sec.styledCircles hw hc
  constructor
  · unfold styledPixelsIt EG.Arc.styledPixelsIt
    dsimp only
    rw [e1, some_bind, e2, some_bind, e3, some_bind, e5, e6]
    cases st.isTransparent <;> simp only [Bool.not_false, Bool.not_true, Bool.false_eq_true, ↓reduceIte, e4, some_bind, pure_bind] <;> rfl
  · refine ⟨?_, hps⟩
    simp only [EG.Arc.styledPixelsIt]
    split
    · exact hd
    · exact ⟨PtsOk.empty, by decide, by decide⟩

theorem styledNext_ok {it : EG.Arc.StyledPixelsIt} (hi : StyledOk it) :
    Ret (styledNext it) it.next (Next fun _ it' => StyledOk it') := by
  unfold styledNext EG.Arc.StyledPixelsIt.next
  cases hc : it.strokeColor with
  | none => exact Ret.pure Next.none
  | some c =>
    refine (DistIt.find_ok (q := it.pred) (fun x hx => pred_ok hi.ps x hx) hi.iter).bind fun hf => ?_
    cases hfind : it.iter.find it.pred with
    | none => exact Ret.pure Next.none
    | some r => exact Ret.pure (Next.some ⟨(hf r.1 r.2 hfind).2, hi.ps⟩)

end Arc
end EG.Chk
