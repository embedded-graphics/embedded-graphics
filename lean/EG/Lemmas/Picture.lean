/-
  EG.Lemmas.Picture — what a call list paints at a point.

  `Call.paint T c p` reads the colour off `contains` and `indexOf`: no point lists, hence no
  saturation and no range guard. `paint T cs p` is the last call of `cs` that paints `p`. The list
  model of EG.Model.Target computes `paint` wherever `Rectangle::points` does not saturate
  (`Call.sem_eq_paint`, and through it `runDirect_eq_paint`, `runNative_eq_paint`,
  `PMap.apply_lowerDefault`): these are the only statements with a guard, everything else about
  adapters, translation and solid fills is said about `paint`.
  `Call.paint` is a `match` on the call: proofs open it with `simp only [Call.paint]`.
  Also here: the point-wise meaning `Call.sem` / `runDirect` of the list model and the range guard
  `Call.Ok` of a call (that of a rectangle, `Rect.Ok`, stands beside `Rect.grid` in RectPoints).
-/
import EG.Lemmas.TargetRectIndex
import EG.Lemmas.RectTranslate
import EG.Model.CallTranslate
namespace EG
open Tgt

/-- What a call writes (documented meaning) on a target that reports box `T`, as a point-wise (optional) map:
the colour last written to `p` by this call, `none` if the call does not touch `p`. Not yet
clipped to `T` (only `clear` depends on `T`). -/
def Call.sem (T : Rect) (c : Call) (p : Pt) : Option Color := lastWrite (c.lowerNative T) p

def Call.Ok (T : Rect) : Call → Prop
  | .drawIter _ => True
  | .fillContiguous a _ => a.Ok
  | .fillSolid a _ => a.Ok
  | .clear _ => T.Ok
instance (T : Rect) (c : Call) : Decidable (c.Ok T) := by
  cases c <;> unfold Call.Ok <;> exact inferInstance

/-- Only `clear` looks at the box. -/
theorem Call.ok_of_box {c : Call} {B B' : Rect} (h : c.Ok B) (hB' : B'.Ok) : c.Ok B' := by
  cases c with
  | clear col => exact hB'
  | _ => exact h

/-- The meaning of a whole history issued directly (documented meaning, unclipped) on a target
that reports box `T`: the colour last written to `p`. -/
def runDirect (T : Rect) (calls : List Call) (p : Pt) : Option Color :=
  lastWrite (calls.flatMap (Call.lowerNative T)) p

/-- `runNative` point-wise: inside the box the direct meaning of the history, nothing outside. -/
theorem runNative_eq_runDirect (B : Rect) (calls : List Call) (q : Pt) :
    runNative B calls q = if B.contains q = true then runDirect B calls q else none := by
  unfold runNative runDirect
  rw [PMap.empty_apply]
  exact lastWrite_flatMap_congr calls _ _ (fun o => if B.contains q = true then o else none)
    (by intro x y; split <;> rfl) (by split <;> rfl) q q (fun c _ => lastWrite_clipWrites B _ q)

/-- The same for the trait defaults, with the writes they offer to `draw_iter`. -/
theorem runDefault_apply (B : Rect) (calls : List Call) (q : Pt) :
    runDefault B calls q =
      if B.contains q = true then lastWrite (calls.flatMap (Call.lowerDefault B)) q else none := by
  unfold runDefault
  rw [PMap.empty_apply, flatMap_writesDefault, lastWrite_clipWrites]

def Call.paint (T : Rect) : Call → Pt → Option Color
  | .drawIter px, p => lastWrite px p
  | .fillContiguous a cs, p => if a.contains p = true then cs[a.indexOf p]? else none
  | .fillSolid a c, p => if a.contains p = true then some c else none
  | .clear c, p => if T.contains p = true then some c else none

/-- What a call list paints at `p`: the last call that paints `p` wins. -/
def paint (T : Rect) : List Call → Pt → Option Color
  | [], _ => none
  | c :: cs, p => (paint T cs p).or (c.paint T p)

theorem paint_nil (T : Rect) (p : Pt) : paint T [] p = none := rfl

theorem paint_cons (T : Rect) (c : Call) (cs : List Call) (p : Pt) :
    paint T (c :: cs) p = (paint T cs p).or (c.paint T p) := rfl

theorem paint_singleton (T : Rect) (c : Call) (p : Pt) : paint T [c] p = c.paint T p := by
  rw [paint_cons, paint_nil, Option.none_or]

/-- Congruence for `map`: if `f` turns what every call paints at `q` into `F` of it at `p`, and `F`
respects "later call wins" (the identity, clipping to a region, `Option.map g` ..), the same holds
for call lists. -/
theorem paint_map {T T' : Rect} {f : Call → Call} {F : Option Color → Option Color} {p q : Pt}
    (hF : ∀ x y, F (x.or y) = (F x).or (F y)) (hn : F none = none)
    (cs : List Call) (h : ∀ c ∈ cs, (f c).paint T' p = F (c.paint T q)) :
    paint T' (cs.map f) p = F (paint T cs q) := by
  induction cs with
  | nil => exact hn.symm
  | cons c cs ih =>
    rw [List.map_cons, paint_cons, paint_cons, hF, h c List.mem_cons_self,
      ih fun b hb => h b (List.mem_cons_of_mem _ hb)]

/-- The box matters only through `clear`, and there only through membership of the point. -/
theorem paint_box_irrelevant (T T' : Rect) (calls : List Call) (q : Pt)
    (h : T.contains q = T'.contains q) : paint T calls q = paint T' calls q := by
  have := paint_map (T := T) (T' := T') (f := id) (F := id) (p := q) (q := q) (fun _ _ => rfl) rfl
    calls (by intro c _; cases c <;> simp [Call.paint, h])
  rw [List.map_id] at this
  exact this.symm

theorem Call.paint_translate (B : Rect) (d : Pt) (c : Call) (q : Pt) :
    (c.translate d).paint (B.translate d) q = c.paint B (q - d) := by
  cases c with
  | drawIter px => exact lastWrite_map_shift d px q
  | fillContiguous a cs =>
    simp only [Call.translate, Call.paint, Rect.contains_translate', Rect.translate_indexOf]
  | fillSolid a c => simp only [Call.translate, Call.paint, Rect.contains_translate']
  | clear c => simp only [Call.translate, Call.paint, Rect.contains_translate']

theorem paint_translate (B : Rect) (d : Pt) (cs : List Call) (q : Pt) :
    paint (B.translate d) (cs.map (Call.translate d)) q = paint B cs (q - d) :=
  paint_map (F := id) (fun _ _ => rfl) rfl cs fun c _ => Call.paint_translate B d c q

theorem Call.sem_fillContiguous (T a : Rect) (h : a.Ok) (cs : List Color) (p : Pt) :
    (Call.fillContiguous a cs).sem T p = if a.contains p = true then cs[a.indexOf p]? else none := by
  show lastWrite (a.pointsSpec.zip cs) p = _
  rw [Rect.pointsSpec_eq_grid h, Rect.lastWrite_grid_zip]

theorem Call.sem_fillSolid (T a : Rect) (h : a.Ok) (c : Color) (p : Pt) :
    (Call.fillSolid a c).sem T p = if a.contains p = true then some c else none := by
  show lastWrite (a.pointsSpec.map fun q => (q, c)) p = _
  rw [Rect.pointsSpec_eq_grid h, Rect.lastWrite_grid_const]

theorem Call.sem_clear (T : Rect) (h : T.Ok) (c : Color) (p : Pt) :
    (Call.clear c).sem T p = if T.contains p = true then some c else none := by
  show lastWrite (T.pointsSpec.map fun q => (q, c)) p = _
  rw [Rect.pointsSpec_eq_grid h, Rect.lastWrite_grid_const]

theorem Call.sem_eq_paint {T : Rect} {c : Call} (h : c.Ok T) (p : Pt) : c.sem T p = c.paint T p := by
  cases c with
  | drawIter px => rfl
  | fillContiguous a cs => exact Call.sem_fillContiguous T a h cs p
  | fillSolid a col => exact Call.sem_fillSolid T a h col p
  | clear col => exact Call.sem_clear T h col p

theorem runDirect_eq_paint {T : Rect} {cs : List Call} (h : ∀ c ∈ cs, c.Ok T) (p : Pt) :
    runDirect T cs p = paint T cs p := by
  unfold runDirect
  induction cs with
  | nil => rfl
  | cons c cs ih =>
    rw [List.flatMap_cons, lastWrite_append, paint_cons, ih fun b hb => h b (List.mem_cons_of_mem _ hb)]
    exact congrArg _ (Call.sem_eq_paint (h c List.mem_cons_self) p)

/-- One call through the trait defaults on top of a map: what the call paints, else the old
content. -/
theorem PMap.apply_lowerDefault {B : Rect} {c : Call} (h : c.Ok B) (m : PMap) (p : Pt) :
    m.apply (c.lowerDefault B) p = (c.paint B p).or (m p) := by
  rw [PMap.apply_eq, Call.lowerDefault_eq_lowerNative]
  exact congrArg (·.or (m p)) (Call.sem_eq_paint h p)

/-- **The picture of a call list** on a target with box `B`: inside the box what the calls paint,
nothing outside. -/
theorem runNative_eq_paint {B : Rect} {cs : List Call} (h : ∀ c ∈ cs, c.Ok B) (p : Pt) :
    runNative B cs p = if B.contains p = true then paint B cs p else none := by
  rw [runNative_eq_runDirect, runDirect_eq_paint h]

theorem both_targets {B : Rect} {calls : List Call} {m : PMap} (h : runNative B calls = m) :
    runNative B calls = m ∧ runDefault B calls = m :=
  ⟨h, (runDefault_eq_runNative B calls).trans h⟩

end EG
