/-
  EG.Lemmas.Circle — the circle as a set of points: `contains` and the closure of the scanline
  iterator's `find` (`hit`) are both `dist2 < threshold`, `dist2 c2 p` being the squared distance,
  in doubled coordinates, between the centre of pixel `p` and the centre `c2 / 2 + (1/2, 1/2)`.
  The circle is the ellipse with equal axes (`toEllipse`): symmetry and convexity of rows and columns,
  "nothing outside the box is hit", the closed forms of `offset` and the translation facts are the
  ellipse's. Of its own: the centre lines meet every row and column of the bounding box.
-/
import EG.Lemmas.Ellipse
namespace EG

namespace Circle

theorem center2x_x (c : Circle) : c.center2x.x = c.tl.x * 2 + ((c.d - 1 : Nat) : Int) := rfl
theorem center2x_y (c : Circle) : c.center2x.y = c.tl.y * 2 + ((c.d - 1 : Nat) : Int) := rfl

theorem hit_iff {c2 : Pt} {T : Nat} {x y : Int} :
    hit c2 T y x = true ↔ dist2 c2 ⟨x, y⟩ < (T : Int) := by
  unfold hit
  rw [decide_eq_true_iff, lengthSquared_toNat_lt]
  rfl

theorem contains_eq_hit (c : Circle) (x y : Int) :
    c.contains ⟨x, y⟩ = hit c.center2x c.threshold y x := by
  unfold contains hit
  dsimp only
  rw [lengthSquared_sub_comm]

theorem contains_iff {c : Circle} {p : Pt} :
    c.contains p = true ↔ dist2 c.center2x p < (c.threshold : Int) := by
  rw [show p = ⟨p.x, p.y⟩ from rfl, contains_eq_hit, hit_iff]

/-- The ellipse with the circle's bounding box. It is the same set of points (`contains_toEllipse`),
and `offset`, the areas of a style and translation commute with the passage, so that the circle's
facts are the facts of an ellipse with equal axes. -/
def toEllipse (c : Circle) : Ellipse := ⟨c.tl, ⟨c.d, c.d⟩⟩

/-- The closure of the circle's `find` is that of the ellipse with an `EllipseContains` in its circle
case (`a = b`). -/
theorem hit_eq (c2 : Pt) (T : Nat) (y : Int) : hit c2 T y = Ellipse.hit c2 ⟨0, 0, T⟩ y := by
  funext x
  unfold hit Ellipse.hit EllipseContains.contains lengthSquared
  simp only [Pt.sub_x, Pt.sub_y, ↓reduceIte, Int.pow_succ, Int.pow_zero, Int.one_mul]
  congr 1
  rw [Int.toNat_add (mul_self_nonneg _) (mul_self_nonneg _)]

theorem contains_toEllipse (c : Circle) (p : Pt) : (toEllipse c).contains p = c.contains p := by
  rw [Bool.eq_iff_iff, Ellipse.contains_iff, contains_iff]
  obtain ⟨h1, h2, h3⟩ := EllipseContains.new_circle (s := ⟨c.d, c.d⟩) rfl
  unfold EllipseContains.wdist dist2 threshold
  rw [show (toEllipse c).size = ⟨c.d, c.d⟩ from rfl, h1, h2, h3]
  simp only [Nat.cast_one, Int.one_mul]
  rfl

theorem toEllipse_offset (c : Circle) (o : Int) : toEllipse (c.offset o) = (toEllipse c).offset o := by
  unfold offset Ellipse.offset
  split <;> rfl

theorem toEllipse_translate (c : Circle) (d : Pt) :
    toEllipse (c.translate d) = (toEllipse c).translate d := rfl

theorem toEllipse_inj {c c' : Circle} (h : toEllipse c = toEllipse c') : c = c' := by
  cases c
  cases c'
  simp only [toEllipse, Ellipse.mk.injEq, Sz.mk.injEq] at h
  rw [h.1, h.2.1]

theorem hit_symConvex_row {c2 : Pt} (T : Nat) (y : Int) {a b : Int} (hc : c2.x = a + b - 1) :
    SymConvex (hit c2 T y) a b := by
  rw [hit_eq]
  exact Ellipse.hit_symConvex_row _ y hc

theorem hit_symConvex_col {c2 : Pt} (T : Nat) (x : Int) {a b : Int} (hc : c2.y = a + b - 1) :
    SymConvex (fun y => hit c2 T y x) a b := by
  simp only [hit_eq]
  exact Ellipse.hit_symConvex_col _ x hc

theorem contains_convex_row {c : Circle} {y x1 x x2 : Int} (h1 : c.contains ⟨x1, y⟩ = true)
    (h2 : c.contains ⟨x2, y⟩ = true) (hx1 : x1 ≤ x) (hx2 : x ≤ x2) : c.contains ⟨x, y⟩ = true := by
  rw [← contains_toEllipse] at h1 h2 ⊢
  exact Ellipse.contains_convex_row h1 h2 hx1 hx2

theorem contains_convex_col {c : Circle} {x y1 y y2 : Int} (h1 : c.contains ⟨x, y1⟩ = true)
    (h2 : c.contains ⟨x, y2⟩ = true) (hy1 : y1 ≤ y) (hy2 : y ≤ y2) : c.contains ⟨x, y⟩ = true := by
  rw [← contains_toEllipse] at h1 h2 ⊢
  exact Ellipse.contains_convex_col h1 h2 hy1 hy2

theorem center_col_hit {c : Circle} {y : Int} (h1 : c.tl.y ≤ y) (h2 : y < c.tl.y + c.d) :
    c.contains ⟨c.tl.x + ((c.d - 1) / 2 : Nat), y⟩ = true := by
  rw [contains_iff, dist2, center2x_x, center2x_y]
  dsimp only
  exact center_line_lt_threshold (by omega) (by omega) (by omega) (by omega)

theorem center_row_hit {c : Circle} {x : Int} (h1 : c.tl.x ≤ x) (h2 : x < c.tl.x + c.d) :
    c.contains ⟨x, c.tl.y + ((c.d - 1) / 2 : Nat)⟩ = true := by
  rw [contains_iff, dist2, center2x_x, center2x_y, Int.add_comm]
  dsimp only
  exact center_line_lt_threshold (by omega) (by omega) (by omega) (by omega)

theorem contains_imp_box {c : Circle} {p : Pt} (h : c.contains p = true) :
    c.tl.x ≤ p.x ∧ p.x < c.tl.x + c.d ∧ c.tl.y ≤ p.y ∧ p.y < c.tl.y + c.d := by
  rw [← contains_toEllipse] at h
  exact Ellipse.contains_imp_box h

theorem contains_imp_bbox {c : Circle} {p : Pt} (h : c.contains p = true) :
    c.boundingBox.contains p = true := by
  rw [Rect.contains_iff]
  exact contains_imp_box h

theorem contains_false_of_zero {c : Circle} (h : c.d = 0) (p : Pt) : c.contains p = false := by
  cases hc : c.contains p with
  | false => rfl
  | true => have := contains_imp_box hc; omega

theorem hit_false_of_zero {c : Circle} (h : c.d = 0) (c2 : Pt) (y x : Int) :
    hit c2 c.threshold y x = false := by
  rw [Bool.eq_false_iff, Ne, hit_iff, threshold, h, threshold_zero]
  have := dist2_nonneg c2 ⟨x, y⟩
  omega

/-- No `u32 -> i32` saturation and no `i32` overflow in the bounding box (what the real code needs
anyway to avoid a panic in a checked build). -/
def InRange (c : Circle) : Prop := c.boundingBox.InRange
instance (c : Circle) : Decidable c.InRange := by unfold InRange; exact inferInstance

theorem offset_d (c : Circle) (o : Int) :
    (c.offset o).d = if o ≥ 0 then satAddU32 c.d (2 * o.toNat) else c.d - 2 * (-o).toNat := by
  unfold offset; split <;> rfl

theorem offset_nonneg (c : Circle) (o : Int) (h : o ≥ 0) :
    c.offset o = ⟨c.tl - ⟨o, o⟩, satAddU32 c.d (2 * o.toNat)⟩ := by unfold offset; rw [if_pos h]
theorem offset_neg (c : Circle) (o : Int) (h : ¬ o ≥ 0) :
    c.offset o = withCenter c.center (c.d - 2 * (-o).toNat) := by unfold offset; rw [if_neg h]

theorem offset_boundingBox_of_nonneg (c : Circle) (o : Int) (h : 0 ≤ o) :
    (c.offset o).boundingBox = c.boundingBox.offset o := by
  have h' : o ≥ 0 := h
  rw [offset_nonneg c o h']
  unfold Rect.offset
  rw [if_pos h', Nat.mul_comm]
  rfl

theorem withCenter_tl_x (c : Circle) (d' : Nat) :
    (withCenter c.center d').tl.x = c.tl.x + (((c.d - 1) / 2 : Nat) : Int) - (((d' - 1) / 2 : Nat) : Int) := rfl
theorem withCenter_tl_y (c : Circle) (d' : Nat) :
    (withCenter c.center d').tl.y = c.tl.y + (((c.d - 1) / 2 : Nat) : Int) - (((d' - 1) / 2 : Nat) : Int) := rfl
theorem withCenter_d (p : Pt) (d' : Nat) : (withCenter p d').d = d' := rfl

theorem withCenter_center2x (c : Circle) (d' : Nat) (h1 : 1 ≤ c.d) (h2 : 1 ≤ d')
    (hp : d' % 2 = c.d % 2) : (withCenter c.center d').center2x = c.center2x :=
  Ellipse.withCenter_center2x (toEllipse c) ⟨d', d'⟩ h1 h1 h2 h2 hp hp

theorem offset_grow (c : Circle) (k : Nat) (hs : c.d + 2 * k ≤ 4294967295) :
    c.offset (k : Int) = ⟨⟨c.tl.x - k, c.tl.y - k⟩, c.d + 2 * k⟩ := by
  rw [offset_nonneg c k (by omega), Int.toNat_natCast, satAddU32, if_pos hs]
  rfl

theorem offset_shrink (c : Circle) (k : Nat) (hk : 1 ≤ k) (hd : 2 * k < c.d) :
    c.offset (-(k : Int)) = ⟨⟨c.tl.x + k, c.tl.y + k⟩, c.d - 2 * k⟩ := by
  apply toEllipse_inj
  rw [toEllipse_offset, Ellipse.offset_shrink (toEllipse c) k hk hd hd]
  rfl

theorem offset_shrink_collapse (c : Circle) (k : Nat) (hk : 1 ≤ k) (hd : c.d ≤ 2 * k) :
    (c.offset (-(k : Int))).d = 0 := by
  rw [offset_d, if_neg (by omega)]
  omega

theorem offset_zero (c : Circle) (h : c.d ≤ 4294967295) : c.offset 0 = c := by
  apply toEllipse_inj
  rw [toEllipse_offset, Ellipse.offset_zero (toEllipse c) h h]

/-- `hs`: the grown diameter did not saturate. -/
theorem offset_center2x (c : Circle) (o : Int) (h1 : 1 ≤ c.d) (h2 : 1 ≤ (c.offset o).d)
    (hs : o ≥ 0 → (c.offset o).d = c.d + 2 * o.toNat) : (c.offset o).center2x = c.center2x := by
  by_cases h : o ≥ 0
  · rw [Pt.ext_iff', center2x_x, center2x_y, center2x_x, center2x_y, hs h, offset_nonneg c o h]
    exact ⟨center2x_grow _ o h h1, center2x_grow _ o h h1⟩
  · rw [offset_neg c o h] at h2 ⊢
    rw [withCenter_d] at h2
    exact withCenter_center2x c _ h1 h2 (by omega)

theorem translate_tl (c : Circle) (d : Pt) : (c.translate d).tl = c.tl + d := rfl
theorem translate_d (c : Circle) (d : Pt) : (c.translate d).d = c.d := rfl
theorem translate_boundingBox (c : Circle) (t : Pt) :
    (c.translate t).boundingBox = c.boundingBox.translate t := rfl
theorem translate_threshold (c : Circle) (d : Pt) : (c.translate d).threshold = c.threshold := rfl

theorem translate_inRange_iff (c : Circle) (d : Pt) :
    (c.translate d).InRange ↔ (c.boundingBox.translate d).InRange := Iff.rfl

theorem translate_center (c : Circle) (d : Pt) : (c.translate d).center = c.center + d := by
  unfold center
  rw [translate_boundingBox, Rect.center_translate]

theorem withCenter_add (p d : Pt) (n : Nat) : withCenter (p + d) n = (withCenter p n).translate d := by
  unfold withCenter translate
  rw [Rect.withCenter_translate]
  rfl

theorem translate_offset (c : Circle) (d : Pt) (o : Int) :
    (c.translate d).offset o = (c.offset o).translate d := by
  apply toEllipse_inj
  rw [toEllipse_offset, toEllipse_translate, Ellipse.translate_offset, ← toEllipse_offset]
  rfl

theorem translate_center2x (c : Circle) (d : Pt) :
    (c.translate d).center2x = ⟨c.center2x.x + 2 * d.x, c.center2x.y + 2 * d.y⟩ :=
  Ellipse.translate_center2x (toEllipse c) d

theorem hit_shift (c2 : Pt) (thr : Nat) (d : Pt) (y x : Int) :
    hit ⟨c2.x + 2 * d.x, c2.y + 2 * d.y⟩ thr (y + d.y) (x + d.x) = hit c2 thr y x := by
  rw [hit_eq, hit_eq]
  exact Ellipse.hit_shift c2 _ d y x

theorem translate_contains (c : Circle) (d p : Pt) :
    (c.translate d).contains p = c.contains (p - d) := by
  rw [← contains_toEllipse, ← contains_toEllipse]
  exact Ellipse.translate_contains (toEllipse c) d p

end Circle
end EG
