/-
  EG.Lemmas.TextLayoutLines — `Text::lines()`: splitting at `\n` (segment by segment:
  `segment_induction`), stripping one `\r`, positions `line_height` apart; `draw` as the concatenation
  of its lines; replacing `\r\n` by `\n`, segment by segment. CR LF as a line terminator (what `crlf_*`
  of Props/C15.lean rest on): `lines()` depends on the text only through its stripped segments, and the
  stripped segments of a text written as line contents, each ended by LF or by CR LF, are the contents.
-/
import EG.Lemmas.TextLayout
namespace EG
namespace TextLayout
open Font

theorem splitNL_ne_nil : ∀ (t : List Nat), splitNL t ≠ []
  | [] => by simp [splitNL]
  | c :: cs => by
    unfold splitNL
    split
    · simp
    · split <;> simp

theorem splitNL_cons_nl (cs : List Nat) : splitNL (10 :: cs) = [] :: splitNL cs := by
  simp [splitNL]

theorem splitNL_cons_ne (c : Nat) (cs : List Nat) (h : c ≠ 10) :
    ∃ l ls, splitNL cs = l :: ls ∧ splitNL (c :: cs) = (c :: l) :: ls := by
  cases hs : splitNL cs with
  | nil => exact absurd hs (splitNL_ne_nil cs)
  | cons l ls => exact ⟨l, ls, rfl, by simp [splitNL, h, hs]⟩

theorem splitNL_of_no_nl : ∀ (t : List Nat), 10 ∉ t → splitNL t = [t]
  | [], _ => rfl
  | c :: cs, h => by
    have hc : c ≠ 10 := fun e => h (by simp [e])
    have ih := splitNL_of_no_nl cs (fun e => h (List.mem_cons_of_mem _ e))
    simp [splitNL, hc, ih]

theorem splitNL_append_nl : ∀ (seg rest : List Nat), 10 ∉ seg →
    splitNL (seg ++ 10 :: rest) = seg :: splitNL rest
  | [], rest, _ => splitNL_cons_nl rest
  | c :: cs, rest, h => by
    have hc : c ≠ 10 := fun e => h (by simp [e])
    have ih := splitNL_append_nl cs rest (fun e => h (List.mem_cons_of_mem _ e))
    simp [splitNL, hc, ih]

theorem segment_induction {P : List Nat → Prop} (single : ∀ t, 10 ∉ t → P t)
    (step : ∀ seg rest, 10 ∉ seg → P rest → P (seg ++ 10 :: rest)) (t : List Nat) : P t := by
  by_cases h : 10 ∈ t
  · obtain ⟨seg, rest, ht, hseg⟩ := List.eq_append_cons_of_mem h
    have : rest.length < t.length := by rw [ht, List.length_append, List.length_cons]; omega
    rw [ht]
    exact step seg rest hseg (segment_induction single step rest)
  · exact single t h
termination_by t.length

theorem splitNL_no_nl (t : List Nat) : ∀ seg ∈ splitNL t, 10 ∉ seg := by
  induction t using segment_induction with
  | single t h =>
    rw [splitNL_of_no_nl t h]
    intro seg hs
    rwa [List.mem_singleton.mp hs]
  | step seg rest h ih =>
    rw [splitNL_append_nl seg rest h]
    intro s hs
    rcases List.mem_cons.mp hs with rfl | hs
    · exact h
    · exact ih s hs

theorem splitNL_sublist (t : List Nat) : ∀ seg ∈ splitNL t, seg.Sublist t := by
  induction t using segment_induction with
  | single t h =>
    rw [splitNL_of_no_nl t h]
    intro seg hs
    rw [List.mem_singleton.mp hs]
    exact List.Sublist.refl t
  | step seg rest h ih =>
    rw [splitNL_append_nl seg rest h]
    intro s hs
    rcases List.mem_cons.mp hs with rfl | hs
    · exact List.sublist_append_left _ _
    · exact (ih s hs).trans ((List.sublist_cons_self 10 rest).trans (List.sublist_append_right seg _))

theorem stripCR_nil : stripCR [] = [] := by simp [stripCR]

theorem stripCR_singleton (c : Nat) : stripCR [c] = if c = 13 then [] else [c] := by
  unfold stripCR; by_cases h : c = 13 <;> simp [h]

theorem stripCR_cons_cons (c c' : Nat) (cs : List Nat) : stripCR (c :: c' :: cs) = c :: stripCR (c' :: cs) := by
  unfold stripCR
  simp only [List.getLast?_cons_cons]
  split <;> simp [List.dropLast]

theorem stripCR_cons_of_ne_nil (c : Nat) (l : List Nat) (h : l ≠ []) : stripCR (c :: l) = c :: stripCR l := by
  cases l with
  | nil => exact absurd rfl h
  | cons c' cs => exact stripCR_cons_cons c c' cs

theorem stripCR_append (s1 s2 : List Nat) (h : s2 ≠ []) : stripCR (s1 ++ s2) = s1 ++ stripCR s2 := by
  induction s1 with
  | nil => rfl
  | cons c s1 ih =>
    rw [List.cons_append, stripCR_cons_of_ne_nil c (s1 ++ s2) (by simp [h]), ih, List.cons_append]

theorem stripCR_of_not_cr (s : List Nat) (h : s.getLast? ≠ some 13) : stripCR s = s := by
  unfold stripCR; simp [h]

theorem stripCR_append_of_not_cr (s1 s2 : List Nat) (h : s1.getLast? ≠ some 13) :
    stripCR (s1 ++ s2) = s1 ++ stripCR s2 := by
  by_cases h2 : s2 = []
  · subst h2; rw [List.append_nil, stripCR_of_not_cr s1 h, stripCR_nil, List.append_nil]
  · exact stripCR_append s1 s2 h2

theorem stripCR_sublist (l : List Nat) : (stripCR l).Sublist l := by
  unfold stripCR
  split
  · exact List.dropLast_sublist l
  · exact List.Sublist.refl l

theorem lineY_succ (y lh : Int) (i : Nat) : y + lh + (i : Int) * lh = y + ((i + 1 : Nat) : Int) * lh := by
  rw [Int.natCast_add, Int.add_mul, Int.natCast_one, Int.one_mul]
  omega

theorem linesGo_eq_mapIdx (f : MonoFont) (st : Style) (ts : TextStyle) : ∀ (segs : List (List Nat)) (p : Pt),
    linesGo f st ts p segs = segs.mapIdx (fun i seg =>
      (stripCR seg, alignedPos f st ts (stripCR seg) ⟨p.x, p.y + (i : Int) * lineHeight f ts⟩))
  | [], _ => by simp [linesGo]
  | seg :: rest, p => by
    rw [linesGo, linesGo_eq_mapIdx f st ts rest, List.mapIdx_cons]
    simp only [Int.natCast_zero, Int.zero_mul, Int.add_zero, lineY_succ]

theorem linesGo_append (f : MonoFont) (st : Style) (ts : TextStyle) : ∀ (a b : List (List Nat)) (p : Pt),
    linesGo f st ts p (a ++ b) =
      linesGo f st ts p a ++ linesGo f st ts ⟨p.x, p.y + (a.length : Int) * lineHeight f ts⟩ b
  | [], b, p => by simp [linesGo]
  | s :: a, b, p => by
    simp only [List.cons_append, linesGo, linesGo_append f st ts a b, List.length_cons, lineY_succ]

theorem lines_ne_nil (f : MonoFont) (t : Text) : lines f t ≠ [] := by
  rw [lines, linesGo_eq_mapIdx, Ne, List.mapIdx_eq_nil_iff]
  exact splitNL_ne_nil t.text

theorem lines_line_sublist (f : MonoFont) (t : Text) : ∀ lp ∈ lines f t, lp.1.Sublist t.text := by
  intro lp hlp
  rw [lines, linesGo_eq_mapIdx] at hlp
  obtain ⟨i, hi, rfl⟩ := List.mem_mapIdx.mp hlp
  exact (stripCR_sublist _).trans (splitNL_sublist t.text _ (List.getElem_mem hi))

theorem lines_single (f : MonoFont) (t : Text) (h : 10 ∉ t.text) :
    lines f t = [(stripCR t.text, alignedPos f t.style t.ts (stripCR t.text) t.position)] := by
  simp [lines, splitNL_of_no_nl t.text h, linesGo]

theorem lines_append_nl (f : MonoFont) (seg rest : List Nat) (p : Pt) (st : Style) (ts : TextStyle)
    (h : 10 ∉ seg) :
    lines f ⟨seg ++ 10 :: rest, p, st, ts⟩ =
      lines f ⟨seg, p, st, ts⟩ ++ lines f ⟨rest, ⟨p.x, p.y + lineHeight f ts⟩, st, ts⟩ := by
  simp only [lines, splitNL_append_nl seg rest h, splitNL_of_no_nl seg h, linesGo, List.singleton_append]

theorem drawLines_append (f : MonoFont) (atlas : Pt → Bool) (st : Style) (bl : Baseline) :
    ∀ (a b : List (List Nat × Pt)) (n : Pt),
      drawLines f atlas st bl (a ++ b) n =
        ((drawLines f atlas st bl a n).1 ++ (drawLines f atlas st bl b (drawLines f atlas st bl a n).2).1,
         (drawLines f atlas st bl b (drawLines f atlas st bl a n).2).2)
  | [], b, n => by simp [drawLines]
  | (l, p) :: a, b, n => by
    simp only [List.cons_append, drawLines, drawLines_append f atlas st bl a b, List.append_assoc]

/-- With at least one line the initial value of `next_position` is dead. -/
theorem drawLines_indep (f : MonoFont) (atlas : Pt → Bool) (st : Style) (bl : Baseline)
    (ls : List (List Nat × Pt)) (h : ls ≠ []) (n n' : Pt) :
    drawLines f atlas st bl ls n = drawLines f atlas st bl ls n' := by
  cases ls with
  | nil => exact absurd rfl h
  | cons lp rest => obtain ⟨l, p⟩ := lp; simp [drawLines]

theorem drawLines_calls (f : MonoFont) (atlas : Pt → Bool) (st : Style) (bl : Baseline) :
    ∀ (ls : List (List Nat × Pt)) (n : Pt),
      (drawLines f atlas st bl ls n).1 = ls.flatMap (fun lp => (f.drawString atlas st lp.1 lp.2 bl).1)
  | [], _ => rfl
  | (l, p) :: rest, n => by simp [drawLines, drawLines_calls f atlas st bl rest]

theorem drawLines_next (f : MonoFont) (atlas : Pt → Bool) (st : Style) (bl : Baseline) :
    ∀ (ls : List (List Nat × Pt)) (n : Pt),
      (drawLines f atlas st bl ls n).2 =
        match ls.getLast? with
        | some lp => (f.drawString atlas st lp.1 lp.2 bl).2
        | none => n
  | [], _ => rfl
  | [(l, p)], n => by simp [drawLines]
  | (l, p) :: lp' :: rest, n => by
    have ih := drawLines_next f atlas st bl (lp' :: rest) (f.drawString atlas st l p bl).2
    simp only [drawLines, List.getLast?_cons_cons] at ih ⊢
    rw [ih]
    cases h : (lp' :: rest).getLast? with
    | none => simp at h
    | some x => rfl

theorem draw_append_nl (f : MonoFont) (atlas : Pt → Bool) (seg rest : List Nat) (p : Pt) (st : Style)
    (ts : TextStyle) (h : 10 ∉ seg) :
    draw f atlas ⟨seg ++ 10 :: rest, p, st, ts⟩ =
      ((draw f atlas ⟨seg, p, st, ts⟩).1 ++ (draw f atlas ⟨rest, ⟨p.x, p.y + lineHeight f ts⟩, st, ts⟩).1,
       (draw f atlas ⟨rest, ⟨p.x, p.y + lineHeight f ts⟩, st, ts⟩).2) := by
  unfold draw
  simp only [lines_append_nl f seg rest p st ts h, drawLines_append]
  have hne := lines_ne_nil f ⟨rest, ⟨p.x, p.y + lineHeight f ts⟩, st, ts⟩
  rw [drawLines_indep f atlas st ts.baseline _ hne _ (⟨p.x, p.y + lineHeight f ts⟩ : Pt)]

theorem draw_calls (f : MonoFont) (atlas : Pt → Bool) (t : Text) :
    (draw f atlas t).1 =
      (lines f t).flatMap (fun lp => (f.drawString atlas t.style lp.1 lp.2 t.ts.baseline).1) :=
  drawLines_calls f atlas t.style t.ts.baseline _ _

theorem draw_next (f : MonoFont) (atlas : Pt → Bool) (t : Text) :
    ∃ lp, (lines f t).getLast? = some lp ∧
      (draw f atlas t).2 = (f.drawString atlas t.style lp.1 lp.2 t.ts.baseline).2 := by
  cases h : (lines f t).getLast? with
  | none => exact absurd (List.getLast?_eq_none_iff.mp h) (lines_ne_nil f t)
  | some lp =>
    refine ⟨lp, rfl, ?_⟩
    unfold draw
    rw [drawLines_next, h]

theorem draw_single (f : MonoFont) (atlas : Pt → Bool) (t : Text) (h : 10 ∉ t.text) :
    draw f atlas t =
      f.drawString atlas t.style (stripCR t.text) (alignedPos f t.style t.ts (stripCR t.text) t.position)
        t.ts.baseline := by
  simp [draw, lines_single f t h, drawLines]

/-- Every `\r\n` replaced by `\n` (left to right, like `str::replace`). -/
def crlfToLf : List Nat → List Nat
  | 13 :: 10 :: rest => 10 :: crlfToLf rest
  | c :: rest => c :: crlfToLf rest
  | [] => []

def stripAllButLast : List (List Nat) → List (List Nat)
  | [] => []
  | [l] => [l]
  | l :: l' :: ls => stripCR l :: stripAllButLast (l' :: ls)

theorem stripAllButLast_cons (l : List Nat) (ls : List (List Nat)) (h : ls ≠ []) :
    stripAllButLast (l :: ls) = stripCR l :: stripAllButLast ls := by
  cases ls with
  | nil => exact absurd rfl h
  | cons l' ls => rfl

theorem crlfToLf_cons (c : Nat) (rest : List Nat) (h : c = 13 → rest.head? ≠ some 10) :
    crlfToLf (c :: rest) = c :: crlfToLf rest := by
  apply crlfToLf.eq_2
  rintro r rfl rfl
  exact h rfl rfl

theorem crlfToLf_of_no_nl : ∀ (s : List Nat), 10 ∉ s → crlfToLf s = s
  | [], _ => rfl
  | c :: s, h => by
    rw [crlfToLf_cons c s (fun _ e => h (List.mem_cons_of_mem c (List.mem_of_mem_head? e))),
      crlfToLf_of_no_nl s (fun e => h (List.mem_cons_of_mem c e))]

theorem crlfToLf_append_nl : ∀ (seg rest : List Nat), 10 ∉ seg →
    crlfToLf (seg ++ 10 :: rest) = stripCR seg ++ 10 :: crlfToLf rest
  | [], rest, _ => crlfToLf_cons 10 rest (fun e => absurd e (by decide))
  | [c], rest, _ => by
    by_cases hc : c = 13
    · subst hc
      rfl
    · rw [stripCR_singleton, if_neg hc]
      exact (crlfToLf_cons c _ (fun e => absurd e hc)).trans
        (congrArg (c :: ·) (crlfToLf_append_nl [] rest List.not_mem_nil))
  | c :: c' :: s, rest, h => by
    have hc' : c' ≠ 10 := fun e => h (by simp [e])
    rw [stripCR_cons_cons]
    show crlfToLf (c :: (c' :: s ++ 10 :: rest)) = c :: (stripCR (c' :: s) ++ 10 :: crlfToLf rest)
    rw [← crlfToLf_append_nl (c' :: s) rest (fun e => h (List.mem_cons_of_mem c e))]
    exact crlfToLf_cons c _ (fun _ e => hc' (Option.some.inj e))

/-- `\r\r\n` somewhere in the text. Replacing `\r\n` by `\n` there leaves the first `\r` before a `\n`,
where `lines()` strips it as well: the case `crlf_eq_lf` (Props/C15.lean) excludes. -/
def hasCRCRLF : List Nat → Bool
  | 13 :: 13 :: 10 :: _ => true
  | _ :: rest => hasCRCRLF rest
  | [] => false

theorem hasCRCRLF_tail (c : Nat) (rest : List Nat) (h : hasCRCRLF (c :: rest) = false) :
    hasCRCRLF rest = false := by
  cases hr : hasCRCRLF rest with
  | false => rfl
  | true =>
    unfold hasCRCRLF at h
    split at h
    · exact absurd h (by decide)
    · rename_i heq; simp at heq; obtain ⟨rfl, rfl⟩ := heq; rw [hr] at h; exact absurd h (by decide)
    · rename_i heq; simp at heq

theorem stripCR_idem_cons (c : Nat) (l : List Nat) (h1 : l = [13] → c ≠ 13)
    (h2 : stripCR (stripCR l) = stripCR l) : stripCR (stripCR (c :: l)) = stripCR (c :: l) := by
  cases l with
  | nil => rw [stripCR_singleton]; split <;> simp [stripCR_nil, stripCR_singleton, *]
  | cons d l' =>
    cases l' with
    | nil =>
      rw [stripCR_cons_cons, stripCR_singleton]
      by_cases hd : d = 13
      · subst hd
        have := h1 rfl
        simp [stripCR_singleton, this]
      · simp [hd, stripCR_cons_cons, stripCR_singleton]
    | cons d' l'' =>
      have hne : stripCR (d :: d' :: l'') ≠ [] := by rw [stripCR_cons_cons]; simp
      rw [stripCR_cons_of_ne_nil c (d :: d' :: l'') (by simp), stripCR_cons_of_ne_nil c _ hne, h2]

theorem hasCRCRLF_append_nl : ∀ (seg rest : List Nat), hasCRCRLF (seg ++ 10 :: rest) = false →
    stripCR (stripCR seg) = stripCR seg ∧ hasCRCRLF rest = false
  | [], rest, h => ⟨rfl, hasCRCRLF_tail 10 rest h⟩
  | c :: s, rest, h => by
    obtain ⟨ih1, ih2⟩ := hasCRCRLF_append_nl s rest (hasCRCRLF_tail c _ h)
    refine ⟨stripCR_idem_cons c s ?_ ih1, ih2⟩
    rintro rfl rfl
    exact absurd h (by simp [hasCRCRLF])

theorem linesGo_of_map_stripCR (f : MonoFont) (st : Style) (ts : TextStyle) :
    ∀ (a b : List (List Nat)) (p : Pt), a.map stripCR = b.map stripCR →
      linesGo f st ts p a = linesGo f st ts p b
  | [], [], _, _ => rfl
  | [], _ :: _, _, h => by simp at h
  | _ :: _, [], _, h => by simp at h
  | x :: a, y :: b, p, h => by
    simp only [List.map_cons, List.cons.injEq] at h
    simp only [linesGo, h.1, linesGo_of_map_stripCR f st ts a b _ h.2]

/-- A text written as lines: `(content, ended by CR LF?)` for every terminated line, then the last
(unterminated) line. -/
def joinLines : List (List Nat × Bool) → List Nat → List Nat
  | [], last => last
  | (l, crlf) :: rest, last => l ++ (if crlf then [13, 10] else [10]) ++ joinLines rest last

theorem stripCR_append_cr (l : List Nat) : stripCR (l ++ [13]) = l := by
  rw [stripCR_append l [13] (by simp), stripCR_singleton]; simp

theorem splitNL_joinLines : ∀ (L : List (List Nat × Bool)) (last : List Nat),
    (∀ lc ∈ L, 10 ∉ lc.1 ∧ lc.1.getLast? ≠ some 13) → 10 ∉ last →
    (splitNL (joinLines L last)).map stripCR = L.map (fun lc => lc.1) ++ [stripCR last]
  | [], last, _, hl => by simp [joinLines, splitNL_of_no_nl last hl]
  | (l, crlf) :: rest, last, h, hl => by
    have hl1 := h (l, crlf) (by simp)
    have ih := splitNL_joinLines rest last (fun lc hlc => h lc (List.mem_cons_of_mem _ hlc)) hl
    cases crlf with
    | false =>
      have e : joinLines ((l, false) :: rest) last = l ++ 10 :: joinLines rest last := by
        simp [joinLines]
      rw [e, splitNL_append_nl l _ hl1.1, List.map_cons, ih, stripCR_of_not_cr l hl1.2]
      rfl
    | true =>
      have e : joinLines ((l, true) :: rest) last = (l ++ [13]) ++ 10 :: joinLines rest last := by
        simp [joinLines]
      have h10 : 10 ∉ l ++ [13] := by simp [hl1.1]
      rw [e, splitNL_append_nl (l ++ [13]) _ h10, List.map_cons, ih, stripCR_append_cr]
      rfl

end TextLayout
end EG
