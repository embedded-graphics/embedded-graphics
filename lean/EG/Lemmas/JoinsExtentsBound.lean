/-
  EG.Lemmas.JoinsExtentsBound — where the edge lines of `Line::extents` lie.

  `Line::extents(thickness, offset)` walks the `ParallelsIterator`: every perpendicular step moves
  a walk by one unit step, `next_parallel` makes at most `loopFuel = 4` of them, and the loops of
  `extents` call `next` at most `2 (2 w + 4)` resp. `4 w + 8` times. So both edge lines start within
  `16 w + 37` (Chebyshev) of the line's start point - a crude bound (the true distance is about
  `w`), but all that is needed: for vertices within +-1024 and widths up to 128 the edge lines are
  in the domain `EdgeDS` of Lemmas/JoinsDisplayScale.lean (`extents_edgeDS`).
-/
import EG.Lemmas.JoinsDisplayScale
import EG.Lemmas.JoinsExtents
namespace EG
namespace Joins
open Thick (LineSide StrokeOffset ParallelsIterator ParallelLineType extentsLoop)

/-- Chebyshev distance at most `k`. -/
def Cheb (k : Int) (a o : Pt) : Prop :=
  (-k ≤ a.x - o.x ∧ a.x - o.x ≤ k) ∧ (-k ≤ a.y - o.y ∧ a.y - o.y ≤ k)

theorem Cheb.mono {k k' : Int} {a o : Pt} (h : Cheb k a o) (hk : k ≤ k') : Cheb k' a o := by
  obtain ⟨⟨_, _⟩, ⟨_, _⟩⟩ := h
  unfold Cheb
  omega

/-- A unit step of a Bresenham walk: each component is -1, 0 or 1. -/
def Small (v : Pt) : Prop := (-1 ≤ v.x ∧ v.x ≤ 1) ∧ (-1 ≤ v.y ∧ v.y ≤ 1)

theorem params_small (l : Line) :
    Small (BresenhamParameters.new l).positionStep.major ∧ Small (BresenhamParameters.new l).positionStep.minor := by
  unfold BresenhamParameters.new Small
  simp only
  split <;> simp only [Pt.xAxis, Pt.yAxis] <;> (split <;> split <;> omega)

def bpPt : BresenhamPoint → Pt
  | .normal p => p
  | .extra p => p

theorem Cheb.add {k : Int} {a o v : Pt} (h : Cheb k a o) (hv : Small v) : Cheb (k + 1) (a + v) o := by
  obtain ⟨⟨_, _⟩, ⟨_, _⟩⟩ := h
  obtain ⟨⟨_, _⟩, ⟨_, _⟩⟩ := hv
  unfold Cheb
  simp only [Pt.add_x, Pt.add_y]
  omega

theorem Cheb.sub {k : Int} {a o v : Pt} (h : Cheb k a o) (hv : Small v) : Cheb (k + 1) (a - v) o := by
  obtain ⟨⟨_, _⟩, ⟨_, _⟩⟩ := h
  obtain ⟨⟨_, _⟩, ⟨_, _⟩⟩ := hv
  unfold Cheb
  simp only [Pt.sub_x, Pt.sub_y]
  omega

theorem nextAll_near {b : Bresenham} {p : BresenhamParameters} (hM : Small p.positionStep.major)
    (hm : Small p.positionStep.minor) {o : Pt} {k : Int} (h : Cheb k b.point o) :
    Cheb (k + 1) (b.nextAll p).2.point o ∧ Cheb (k + 2) (bpPt (b.nextAll p).1) o := by
  have h2 : Cheb (k + 2) b.point o := h.mono (by omega)
  unfold Bresenham.nextAll
  simp only
  split
  · split
    · exact ⟨h.add hm, ((h.add hm).sub hM).mono (by omega)⟩
    · exact ⟨h.add hm, h2⟩
  · exact ⟨h.add hM, h2⟩

theorem previousAll_near {b : Bresenham} {p : BresenhamParameters} (hM : Small p.positionStep.major)
    (hm : Small p.positionStep.minor) {o : Pt} {k : Int} (h : Cheb k b.point o) :
    Cheb (k + 1) (b.previousAll p).2.point o ∧ Cheb (k + 2) (bpPt (b.previousAll p).1) o := by
  have h2 : Cheb (k + 2) b.point o := h.mono (by omega)
  unfold Bresenham.previousAll
  simp only
  split
  · split
    · exact ⟨h.sub hm, ((h.sub hm).add hM).mono (by omega)⟩
    · exact ⟨h.sub hm, h2⟩
  · exact ⟨h.sub hM, h2⟩

/-- Both perpendicular walks of the iterator are within `k` of `o`; the steps are unit steps. -/
structure NearIt (k : Int) (o : Pt) (it : ParallelsIterator) : Prop where
  l : Cheb k it.left.point o
  r : Cheb k it.right.point o
  pM : Small it.perpendicularParameters.positionStep.major
  pm : Small it.perpendicularParameters.positionStep.minor
  qM : Small it.parallelParameters.positionStep.major
  qm : Small it.parallelParameters.positionStep.minor

theorem NearIt.mono {k k' : Int} {o : Pt} {it : ParallelsIterator} (h : NearIt k o it) (hk : k ≤ k') :
    NearIt k' o it := ⟨h.l.mono hk, h.r.mono hk, h.pM, h.pm, h.qM, h.qm⟩

theorem NearIt.setSideError {k : Int} {o : Pt} {it : ParallelsIterator} (h : NearIt k o it)
    (s : LineSide) (e : Int) : NearIt k o (it.setSideError s e) := by
  cases s <;> exact ⟨h.l, h.r, h.pM, h.pm, h.qM, h.qm⟩

theorem perpStep_near {k : Int} {o : Pt} {it : ParallelsIterator} (h : NearIt k o it) (side : LineSide) :
    NearIt (k + 1) o (it.perpStep side).2 ∧ Cheb (k + 2) (bpPt (it.perpStep side).1) o := by
  cases side
  · have hq := nextAll_near h.pM h.pm h.l
    exact ⟨⟨hq.1, h.r.mono (by omega), h.pM, h.pm, h.qM, h.qm⟩, hq.2⟩
  · have hq := previousAll_near h.pM h.pm h.r
    exact ⟨⟨h.l.mono (by omega), hq.1, h.pM, h.pm, h.qM, h.qm⟩, hq.2⟩

/-- `next_parallel`: every iteration of its loop moves one walk by one unit step. -/
theorem nextParallelFuel_near : ∀ (fuel : Nat) (it : ParallelsIterator) (side : LineSide) r it'
    (k : Int) (o : Pt), ParallelsIterator.nextParallelFuel fuel it side = some (r, it') → NearIt k o it →
    NearIt (k + fuel) o it' ∧ Cheb (k + fuel + 1) (bpPt r.1) o := by
  intro fuel
  induction fuel with
  | zero => intro it side r it' k o h; simp [ParallelsIterator.nextParallelFuel] at h
  | succ fuel ih =>
    intro it side r it' k o h hn
    have hcast : (k + ((fuel + 1 : Nat) : Int)) = k + 1 + fuel := by push_cast; omega
    obtain ⟨hs, hp⟩ := perpStep_near hn side
    rw [Thick.nextParallelFuel_succ] at h
    rw [hcast]
    generalize it.perpStep side = q at h hs hp
    obtain ⟨pt, it1⟩ := q
    cases pt with
    | normal p =>
      simp only [Option.some.injEq, Prod.mk.injEq] at h
      rw [← h.2, ← h.1]
      exact ⟨hs.mono (by omega), hp.mono (by omega)⟩
    | extra p =>
      dsimp only at h
      split at h
      · simp only [Option.some.injEq, Prod.mk.injEq] at h
        rw [← h.2, ← h.1]
        exact ⟨(hs.setSideError _ _).mono (by omega), hp.mono (by omega)⟩
      · exact ih _ _ _ _ (k + 1) o h (hs.setSideError _ _)

theorem new_near {l : Line} {t : Int} {so : StrokeOffset} {it : ParallelsIterator}
    (h : ParallelsIterator.new l t so = some it) : NearIt 4 l.start it := by
  unfold ParallelsIterator.new at h
  simp only at h
  split at h
  · cases h
  · rename_i r it0 hnp
    simp only [Option.some.injEq] at h
    subst h
    have h0 : Cheb 0 l.start l.start := by unfold Cheb; omega
    have := (nextParallelFuel_near _ _ _ _ _ 0 l.start hnp
      ⟨h0, h0, (params_small _).1, (params_small _).2, (params_small _).1, (params_small _).2⟩).1
    exact this.mono (by unfold Thick.loopFuel; omega)

theorem next_near {it : ParallelsIterator} {b : Bresenham} {ty : ParallelLineType} {it' : ParallelsIterator}
    {k : Int} {o : Pt} (h : it.next = some (some (b, ty), it')) (hn : NearIt k o it) :
    NearIt (k + 4) o it' ∧ Cheb (k + 5) b.point o := by
  unfold ParallelsIterator.next at h
  split at h
  · simp at h
  · split at h
    · cases h
    · rename_i point error it1 hnp
      have hs := nextParallelFuel_near _ _ _ _ _ k o hnp hn
      have h4 : (k + ((Thick.loopFuel : Nat) : Int)) = k + 4 := by unfold Thick.loopFuel; omega
      rw [h4] at hs
      cases point with
      | normal p =>
        simp only [Option.some.injEq, Prod.mk.injEq] at h
        obtain ⟨⟨hb, _⟩, h2⟩ := h
        subst hb h2
        refine ⟨?_, hs.2.mono (by omega)⟩
        split <;> exact ⟨hs.1.l, hs.1.r, hs.1.pM, hs.1.pm, hs.1.qM, hs.1.qm⟩
      | extra p =>
        simp only [Option.some.injEq, Prod.mk.injEq] at h
        obtain ⟨⟨hb, _⟩, h2⟩ := h
        subst hb h2
        refine ⟨?_, hs.2.mono (by omega)⟩
        split <;> exact ⟨hs.1.l, hs.1.r, hs.1.pM, hs.1.pm, hs.1.qM, hs.1.qm⟩

theorem extentsLoop_near : ∀ (fuel : Nat) (it : ParallelsIterator) (left right : Pt × ParallelLineType)
    (res : (Pt × ParallelLineType) × (Pt × ParallelLineType)) (k : Int) (o : Pt),
    extentsLoop fuel it left right = some res → NearIt k o it →
    Cheb (k + 1) left.1 o → Cheb (k + 1) right.1 o →
    Cheb (k + 8 * fuel + 1) res.1.1 o ∧ Cheb (k + 8 * fuel + 1) res.2.1 o := by
  intro fuel
  induction fuel with
  | zero => intro it left right res k o h; simp [extentsLoop] at h
  | succ fuel ih =>
    intro it left right res k o h hn hl hr
    have hcast : (k + 8 * ((fuel + 1 : Nat) : Int) + 1) = k + 8 + 8 * fuel + 1 := by push_cast; omega
    rw [hcast]
    unfold extentsLoop at h
    split at h
    · cases h
    · simp only [Option.some.injEq] at h
      subst h
      exact ⟨hl.mono (by omega), hr.mono (by omega)⟩
    · rename_i b ty it1 hnx
      have h1 := next_near hnx hn
      simp only at h
      split at h
      · cases h
      · simp only [Option.some.injEq] at h
        subst h
        exact ⟨hl.mono (by omega), h1.2.mono (by omega)⟩
      · rename_i b2 ty2 it2 hnx2
        have h2 := next_near hnx2 h1.1
        have := ih it2 (b2.point, ty2) (b.point, ty) res (k + 8) o h (by
          have := h2.1; rw [show k + 4 + 4 = k + 8 by omega] at this; exact this)
          (h2.2.mono (by omega)) (h1.2.mono (by omega))
        exact this

theorem lastParallel_near : ∀ (fuel : Nat) (it : ParallelsIterator) (acc res : Option (Bresenham × ParallelLineType))
    (k : Int) (o : Pt), lastParallel fuel it acc = some res → NearIt k o it →
    (∀ a, acc = some a → Cheb (k + 1) a.1.point o) →
    ∀ a, res = some a → Cheb (k + 4 * fuel + 1) a.1.point o := by
  intro fuel
  induction fuel with
  | zero => intro it acc res k o h; simp [lastParallel] at h
  | succ fuel ih =>
    intro it acc res k o h hn hacc a ha
    have hcast : (k + 4 * ((fuel + 1 : Nat) : Int) + 1) = k + 4 + 4 * fuel + 1 := by push_cast; omega
    rw [hcast]
    unfold lastParallel at h
    split at h
    · cases h
    · simp only [Option.some.injEq] at h
      subst h
      exact (hacc a ha).mono (by omega)
    · rename_i r it1 hnx
      obtain ⟨b, ty⟩ := r
      have h1 := next_near hnx hn
      exact ih it1 (some (b, ty)) res (k + 4) o h h1.1
        (by intro a' ha'; cases ha'; exact h1.2.mono (by omega)) a ha

/-- The two parallels `extents` remembers start within `16 w + 37` of the line's start point:
`8 (2 w + 4) + 5` for the loop over both sides, `4 (4 w + 8) + 5` for `Iterator::last`. -/
theorem extentsEnds_near {l : Line} {w : Nat} {it : ParallelsIterator} (hit : NearIt 4 l.start it)
    {off : StrokeOffset} {p : (Pt × ParallelLineType) × (Pt × ParallelLineType)}
    (h : extentsEnds l w it off = some p) :
    Cheb (16 * w + 37) p.1.1 l.start ∧ Cheb (16 * w + 37) p.2.1 l.start := by
  have h0 : ∀ k : Int, 0 ≤ k → Cheb k l.start l.start := fun k hk => by unfold Cheb; omega
  have hlast : ∀ r, lastParallel (4 * w + 8) it none = some r → Cheb (16 * w + 37) (lastEnd l r).1 l.start := by
    intro r hr
    have hb := lastParallel_near _ _ _ r 4 l.start hr hit (by intro a ha; cases ha)
    rw [show (4 + 4 * ((4 * w + 8 : Nat) : Int) + 1) = 16 * w + 37 by push_cast; omega] at hb
    rcases r with _ | ⟨b, ty⟩
    · exact h0 _ (by omega)
    · exact hb _ rfl
  cases off with
  | none =>
    have hb := extentsLoop_near _ _ _ _ p 4 l.start h hit (h0 _ (by omega)) (h0 _ (by omega))
    rw [show (4 + 8 * ((2 * w + 4 : Nat) : Int) + 1) = 16 * w + 37 by push_cast; omega] at hb
    exact hb
  | left =>
    simp only [extentsEnds] at h
    rcases hl : lastParallel (4 * w + 8) it none with _ | r
    · rw [hl] at h; cases h
    · rw [hl] at h; cases h; exact ⟨hlast r hl, h0 _ (by omega)⟩
  | right =>
    simp only [extentsEnds] at h
    rcases hl : lastParallel (4 * w + 8) it none with _ | r
    · rw [hl] at h; cases h
    · rw [hl] at h; cases h; exact ⟨h0 _ (by omega), hlast r hl⟩

/-- An edge line has the line's delta, minus at most one diagonal unit step. -/
theorem edgeLine_delta_near (l : Line) {M m : Pt} (hM : Small M) (hm : Small m) (s : Pt × ParallelLineType) :
    Cheb 2 ((edgeLine l (M + m) s).stop - (edgeLine l (M + m) s).start) (l.stop - l.start) := by
  obtain ⟨⟨_, _⟩, ⟨_, _⟩⟩ := hM
  obtain ⟨⟨_, _⟩, ⟨_, _⟩⟩ := hm
  obtain ⟨p, ty⟩ := s
  unfold Cheb edgeLine
  cases ty <;> simp only [Pt.add_x, Pt.add_y, Pt.sub_x, Pt.sub_y, Pt.zero] <;> omega

theorem extents_near {l : Line} {w : Nat} {off : StrokeOffset} {L R : Line}
    (h : extents l w off = some (L, R)) :
    (Cheb (16 * w + 37) L.start l.start ∧ Cheb 2 (L.stop - L.start) (l.stop - l.start)) ∧
    (Cheb (16 * w + 37) R.start l.start ∧ Cheb 2 (R.stop - R.start) (l.stop - l.start)) := by
  rw [extents_eq] at h
  rcases hn : ParallelsIterator.new l (satAsI32 w) off with _ | it
  · rw [hn] at h; cases h
  · have hit := new_near hn
    rw [hn] at h
    rcases he : extentsEnds l w it off with _ | p
    · rw [Option.bind_some, he] at h; cases h
    · rw [Option.bind_some, he] at h
      obtain ⟨hL, hR⟩ := Prod.mk.inj (Option.some.inj h)
      obtain ⟨h1, h2⟩ := extentsEnds_near hit he
      subst hL hR
      exact ⟨⟨h1, edgeLine_delta_near l hit.qM hit.qm p.1⟩, ⟨h2, edgeLine_delta_near l hit.qM hit.qm p.2⟩⟩

/-- A display-scale vertex: both coordinates within +-1024. -/
def VDS (p : Pt) : Prop := (-1024 ≤ p.x ∧ p.x ≤ 1024) ∧ (-1024 ≤ p.y ∧ p.y ≤ 1024)
instance (p : Pt) : Decidable (VDS p) := by unfold VDS; exact inferInstance

/-- A move within +-2^30. -/
def MoveDS (d : Pt) : Prop :=
  (-1073741824 ≤ d.x ∧ d.x ≤ 1073741824) ∧ (-1073741824 ≤ d.y ∧ d.y ≤ 1073741824)
instance (d : Pt) : Decidable (MoveDS d) := by unfold MoveDS; exact inferInstance

/-- A line that starts within `16 w + 37` of a display-scale segment and has its delta up to 2 is in
`EdgeDS` (1024 + 16 * 128 + 37 = 3109, 2048 + 2 = 2050). -/
theorem edgeDS_of_near {l L : Line} (hs : VDS l.start) (he : VDS l.stop) {w : Nat} (hw : w ≤ 128)
    (h1 : Cheb (16 * w + 37) L.start l.start) (h2 : Cheb 2 (L.stop - L.start) (l.stop - l.start)) :
    EdgeDS L := by
  obtain ⟨⟨_, _⟩, ⟨_, _⟩⟩ := h1
  obtain ⟨⟨_, _⟩, ⟨_, _⟩⟩ := h2
  obtain ⟨⟨_, _⟩, ⟨_, _⟩⟩ := hs
  obtain ⟨⟨_, _⟩, ⟨_, _⟩⟩ := he
  unfold EdgeDS Line.delta
  simp only [Pt.sub_x, Pt.sub_y] at *
  omega

theorem extents_edgeDS {l : Line} (hs : VDS l.start) (he : VDS l.stop) {w : Nat} (hw : w ≤ 128)
    {off : StrokeOffset} {L R : Line} (h : extents l w off = some (L, R)) : EdgeDS L ∧ EdgeDS R := by
  obtain ⟨⟨l1, l2⟩, ⟨r1, r2⟩⟩ := extents_near h
  exact ⟨edgeDS_of_near hs he hw l1 l2, edgeDS_of_near hs he hw r1 r2⟩

end Joins
end EG
