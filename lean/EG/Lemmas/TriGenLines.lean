/-
  EG.Lemmas.TriGenLines — the edge closure and `generate_lines` of the styled-triangle model
  (EG.Model.ThickTriangle, every stroke width) as pure functions.

  Model/ThickTriangle.lean has `edge_intersections` with the join code inlined (`edgeLoop` /
  `edgeNext`, `Option`-valued because `Line::extents` has a loop bound). `LineJoin::from_points` is
  total, so they are `EdgeIt.loop` / `EdgeIt.next` of EG.Model.TriEdge at `seg := segJ`, the
  intersection with the thick segment of each edge (`edgeLoop_eq`, `edgeNext_eq`), and
  `generateLines` is the pure `genLines` (`generateLines_eq`). What the closure does is proved
  once, about `EdgeIt`:
  * EG.Lemmas.TriEdge: one round by cases, `next_first_some`, `next_some_nonempty`;
  * here: `EdgeIt.next_rel`, the closure respects every relation that `is_empty`, `try_extend` and
    `try_take` respect (`ScanRel`): translation and column bounds are instances.
-/
import EG.Lemmas.TriEdge
import EG.Model.ThickTriangle
import EG.Lemmas.ExtentsTotal
import EG.Lemmas.Stream
namespace EG
open Scanline

/-- A relation between scanlines that the operations of the edge closure respect. -/
structure ScanRel (R : Scanline → Scanline → Prop) : Prop where
  isEmpty : ∀ {a b}, R a b → a.isEmpty = b.isEmpty
  tryExtend : ∀ {a b c d}, R a b → R c d →
    (a.tryExtend c).1 = (b.tryExtend d).1 ∧ R (a.tryExtend c).2 (b.tryExtend d).2
  cleared : ∀ {a b}, R a b → R { a with xs := 0, xe := 0 } { b with xs := 0, xe := 0 }

namespace EdgeIt

structure Rel (R : Scanline → Scanline → Prop) (s s' : EdgeIt) : Prop where
  idx : s.idx = s'.idx
  left : R s.left s'.left
  right : R s.right s'.right

variable {R : Scanline → Scanline → Prop} (hR : ScanRel R) {seg seg' : Nat → Scanline}
  (hseg : ∀ i, i < 3 → R (seg i) (seg' i))
include hR

theorem tryTake_rel {a b : Scanline} (h : R a b) :
    Joins.OptRel R a.tryTake.1 b.tryTake.1 ∧ R a.tryTake.2 b.tryTake.2 := by
  unfold Scanline.tryTake
  rw [hR.isEmpty h]
  split
  · exact ⟨h, hR.cleared h⟩
  · exact ⟨trivial, h⟩

theorem finish_rel {y y' : Int} (hy : R (Scanline.newEmpty y) (Scanline.newEmpty y')) {s s' : EdgeIt}
    (h : Rel R s s') :
    Joins.OptRel R (finish y s).1 (finish y' s').1 ∧ Rel R (finish y s).2 (finish y' s').2 := by
  obtain ⟨hi, hl, hr⟩ := h
  obtain ⟨e, hx⟩ := hR.tryExtend hl hr
  unfold finish
  dsimp only
  rw [e]
  -- the state after the merge of `left` and `right`
  have hm : Rel R (if (s'.left.tryExtend s'.right).1 = true then
        { s with left := (s.left.tryExtend s.right).2, right := Scanline.newEmpty y } else s)
      (if (s'.left.tryExtend s'.right).1 = true then
        { s' with left := (s'.left.tryExtend s'.right).2, right := Scanline.newEmpty y' } else s') := by
    split
    · exact ⟨hi, hx, hy⟩
    · exact ⟨hi, hl, hr⟩
  generalize (if (s'.left.tryExtend s'.right).1 = true then
    ({ s with left := (s.left.tryExtend s.right).2, right := Scanline.newEmpty y } : EdgeIt) else s) = m at hm
  generalize (if (s'.left.tryExtend s'.right).1 = true then
    ({ s' with left := (s'.left.tryExtend s'.right).2, right := Scanline.newEmpty y' } : EdgeIt) else s') = m' at hm
  -- `left` is handed out first, then `right`
  obtain ⟨t1, t2⟩ := tryTake_rel hR hm.left
  obtain ⟨t3, t4⟩ := tryTake_rel hR hm.right
  rcases p : m.left.tryTake with ⟨o, l⟩
  rcases p' : m'.left.tryTake with ⟨o', l'⟩
  rw [p, p'] at t1 t2
  rcases t1.cases with ⟨rfl, rfl⟩ | ⟨v, v', rfl, rfl, hv⟩
  · exact ⟨t3, hm.idx, t2, t4⟩
  · exact ⟨hv, hm.idx, t2, hm.right⟩

include hseg

theorem stepState_rel {s s' : EdgeIt} (h : Rel R s s') (hi : s.idx < 3) :
    Rel R (stepState seg s) (stepState seg' s') := by
  obtain ⟨i, l, r⟩ := s
  obtain ⟨i', l', r'⟩ := s'
  obtain ⟨rfl, hl, hr⟩ := h
  have hs := hseg i hi
  have hx := hR.tryExtend hl hs
  unfold stepState
  dsimp only at hl hr ⊢
  rw [hR.isEmpty hl, hx.1, hR.isEmpty hr]
  -- the same tests on both sides now
  by_cases c1 : (!l'.isEmpty) = true
  · rw [if_pos c1, if_pos c1]
    by_cases c2 : (l'.tryExtend (seg' i)).1 = true
    · rw [if_pos c2, if_pos c2]; exact ⟨rfl, hx.2, hr⟩
    · rw [if_neg c2, if_neg c2]
      by_cases c3 : (!r'.isEmpty) = true
      · rw [if_pos c3, if_pos c3]; exact ⟨rfl, hl, (hR.tryExtend hr hs).2⟩
      · rw [if_neg c3, if_neg c3]; exact ⟨rfl, hl, hs⟩
  · rw [if_neg c1, if_neg c1]; exact ⟨rfl, hs, hr⟩

theorem loop_rel : ∀ (fuel : Nat) {s s' : EdgeIt}, Rel R s s' → Rel R (loop seg fuel s) (loop seg' fuel s')
  | 0, _, _, h => h
  | fuel + 1, s, s', h => by
    rw [loop_succ, loop_succ, ← h.idx]
    split
    · exact loop_rel fuel (stepState_rel hR hseg h (by assumption))
    · exact h

theorem next_rel (sw : Nat) {y y' : Int} (hy : R (Scanline.newEmpty y) (Scanline.newEmpty y'))
    {s s' : EdgeIt} (h : Rel R s s') :
    Joins.OptRel R (next sw seg y s).1 (next sw seg' y' s').1 ∧
      Rel R (next sw seg y s).2 (next sw seg' y' s').2 := by
  by_cases hw : sw = 0
  · unfold next
    simp only [hw, ↓reduceIte]
    exact ⟨trivial, h⟩
  · rw [next_eq_finish hw, next_eq_finish hw]
    exact finish_rel hR hy (loop_rel hR hseg 3 h)

end EdgeIt

namespace Joins
open Thick (LineSide StrokeOffset)

/-- The state of the join model's edge closure as the state of `EG.EdgeIt`, and back. -/
def EdgeState.toIt (s : EdgeState) : EdgeIt := ⟨s.idx, s.left, s.right⟩
def EdgeState.ofIt (s : EdgeIt) : EdgeState := ⟨s.idx, s.left, s.right⟩

/-- `generate_lines` as a function of what it reads: the flags, the plain triangle scanline of the
row and the three per-edge scanlines. -/
def genLines (sw : Nat) (hasFill collapsed : Bool) (plain : Scanline) (seg : Nat → Scanline) (y : Int) :
    LineConfig :=
  if collapsed then
    { internal := plain, internalType := .stroke
      first := Scanline.newEmpty 0, second := Scanline.newEmpty 0 }
  else
    let r1 := EdgeIt.next sw seg y ⟨0, Scanline.newEmpty y, Scanline.newEmpty y⟩
    let r2 := EdgeIt.next sw seg y r1.2
    let internal :=
      if hasFill then
        match r1.1, r2.1 with
        | some f, some s => (⟨y, min f.xe s.xe, max f.xs s.xs⟩ : Scanline)
        | none, none => plain
        | _, _ => Scanline.newEmpty y
      else Scanline.newEmpty y
    { first := r1.1.getD (Scanline.newEmpty y), second := r2.1.getD (Scanline.newEmpty y)
      internal := internal, internalType := .fill }

namespace TriIntersections

/-- `ThickSegment::intersection` of edge `i` in row `y`, as the edge closure builds the segment
(both joins exist, `fromPoints_total`): the parameter `seg` of `EG.EdgeIt`. -/
def segJ (it : TriIntersections) (y : Int) (i : Nat) : Scanline :=
  match LineJoin.fromPoints (it.triangle.vertex i) (it.triangle.vertex (i + 1)) (it.triangle.vertex (i + 2))
      it.strokeWidth it.strokeOffset,
    LineJoin.fromPoints (it.triangle.vertex (i + 1)) (it.triangle.vertex (i + 2)) (it.triangle.vertex (i + 3))
      it.strokeWidth it.strokeOffset with
  | some a, some b => (ThickSegment.mk a b).intersection y
  | _, _ => Scanline.newEmpty y

theorem segJ_of_joins {it : TriIntersections} {i : Nat} {a b : LineJoin}
    (ha : LineJoin.fromPoints (it.triangle.vertex i) (it.triangle.vertex (i + 1)) (it.triangle.vertex (i + 2))
      it.strokeWidth it.strokeOffset = some a)
    (hb : LineJoin.fromPoints (it.triangle.vertex (i + 1)) (it.triangle.vertex (i + 2))
      (it.triangle.vertex (i + 3)) it.strokeWidth it.strokeOffset = some b) (y : Int) :
    it.segJ y i = (ThickSegment.mk a b).intersection y := by
  unfold segJ
  rw [ha, hb]

theorem edgeLoop_eq (it : TriIntersections) (y : Int) : ∀ (fuel : Nat) (st : EdgeState),
    it.edgeLoop y fuel st = some (EdgeState.ofIt (EdgeIt.loop (it.segJ y) fuel st.toIt)) := by
  intro fuel
  induction fuel with
  | zero => intro st; rfl
  | succ n ih =>
    intro st
    obtain ⟨j1, h1⟩ := fromPoints_total (it.triangle.vertex st.idx) (it.triangle.vertex (st.idx + 1))
      (it.triangle.vertex (st.idx + 2)) it.strokeWidth it.strokeOffset
    obtain ⟨j2, h2⟩ := fromPoints_total (it.triangle.vertex (st.idx + 1)) (it.triangle.vertex (st.idx + 2))
      (it.triangle.vertex (st.idx + 3)) it.strokeWidth it.strokeOffset
    unfold edgeLoop
    rw [EdgeIt.loop_succ]
    by_cases hi : st.idx < 3
    · rw [if_pos hi, if_pos (show st.toIt.idx < 3 from hi)]
      unfold EdgeIt.stepState
      -- the same case tree on both sides, with `edgeLoop` resp. `EdgeIt.loop` at the leaves
      simp only [h1, h2, Option.bind_eq_bind, Option.bind_some, ih, EdgeState.toIt, segJ_of_joins h1 h2,
        apply_ite (EdgeIt.loop (it.segJ y) n), apply_ite EdgeState.ofIt, apply_ite some]
    · rw [if_neg hi, if_neg (show ¬ st.toIt.idx < 3 from hi)]
      rfl

theorem edgeNext_eq (it : TriIntersections) (y : Int) (st : EdgeState) :
    it.edgeNext y st = some ((EdgeIt.next it.strokeWidth (it.segJ y) y st.toIt).1,
      EdgeState.ofIt (EdgeIt.next it.strokeWidth (it.segJ y) y st.toIt).2) := by
  unfold edgeNext EdgeIt.next
  by_cases hw : it.strokeWidth = 0
  · rw [if_pos hw, if_pos hw]; rfl
  · rw [if_neg hw, if_neg hw, edgeLoop_eq]
    generalize EdgeIt.loop (it.segJ y) 3 st.toIt = s
    simp only [Option.bind_eq_bind, Option.bind_some, EdgeState.ofIt]
    -- the state after the merge of `left` and `right`, in both models
    generalize hm : (if (s.left.tryExtend s.right).1 = true then
      ({ s with left := (s.left.tryExtend s.right).2, right := Scanline.newEmpty y } : EdgeIt) else s) = m
    have hm' : (if (s.left.tryExtend s.right).1 = true then
        ({ idx := s.idx, left := (s.left.tryExtend s.right).2, right := Scanline.newEmpty y } : EdgeState)
        else ⟨s.idx, s.left, s.right⟩) = ⟨m.idx, m.left, m.right⟩ := by
      rw [← hm]; split <;> rfl
    rw [hm']
    dsimp only
    -- `left` is handed out if it is not empty, else `right`
    cases hl : m.left.isEmpty
    · rw [tryTake_of_nonempty hl]; rfl
    · rw [tryTake_of_empty hl]
      dsimp only
      cases hr : m.right.isEmpty
      · rw [tryTake_of_nonempty hr]; rfl
      · rw [tryTake_of_empty hr]; rfl

theorem generateLines_eq (it : TriIntersections) (y : Int) :
    it.generateLines y = some (genLines it.strokeWidth it.hasFill it.isCollapsed
      (it.triangle.scanlineIntersection y) (it.segJ y) y) := by
  unfold generateLines genLines
  split
  · rfl
  · simp only [edgeNext_eq, Option.bind_eq_bind, Option.bind_some, pure]
    rfl

end TriIntersections
end Joins
end EG
