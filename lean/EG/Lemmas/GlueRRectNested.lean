/-
  EG.Lemmas.GlueRRectNested — a rounded rectangle shrunk by `k` on every side, with every corner
  radius reduced by `k` (saturating), lies inside the original one — when the radii of both fit their
  rectangles (so that `confine` changes neither).

  This is the geometric core of `FillInStroke` (C06): `fill_area()` is the shape offset by
  `-inside`, `stroke_area()` the shape offset by `+outside`; the former is the latter shrunk by
  `k = inside + outside`. With fitting radii corresponding corner ellipses are concentric and the
  fill's semi-axes are the stroke's minus `k`, so the corner test is monotone
  (`Ellipse.hit_nested`, the lemma behind the ellipse's own `fill_area ⊆ stroke_area`).

  Also here, as they are about the same two offsets of one shape: when the radii of the two areas
  fit (`strokeArea_fits`, `fillArea_fits_*`, `HalfFits`), and the box of the shrunk shape inside the
  box of the grown one for ANY radii (`rect_shrunk_in_grown`, what C02 needs).
-/
import EG.Lemmas.RoundedRectStyled
import EG.Lemmas.EllipseStyled
import EG.Lemmas.StyledRect
namespace EG.Glue
open EG EG.RoundedRect

/-- Two quadrants of the same kind whose ellipses have the same centre: the one with the smaller
semi-axes is inside the other (a circular outer one needs a circular inner one, so that both use the
circle test). -/
theorem quadrant_nested {tlF tlS : Pt} {rF rS : Sz} {k : Quadrant}
    (hc : (EllipseQuadrant.new tlF rF k).center2x = (EllipseQuadrant.new tlS rS k).center2x)
    (hw : rF.w ≤ rS.w) (hh : rF.h ≤ rS.h) (hcls : rS.w = rS.h → rF.w = rF.h) {p : Pt}
    (h : (EllipseQuadrant.new tlF rF k).contains p = true) :
    (EllipseQuadrant.new tlS rS k).contains p = true := by
  have h' : Ellipse.hit (EllipseQuadrant.new tlF rF k).center2x
      (EllipseContains.new ⟨rF.w * 2, rF.h * 2⟩) p.y p.x = true := h
  -- a circular outer test needs a circular inner one (doubled semi-axes)
  have hcls' : rS.w * 2 = rS.h * 2 → rF.w * 2 = rF.h * 2 := fun e => by
    have := hcls (by omega)
    omega
  have := Ellipse.hit_nested (sF := ⟨rF.w * 2, rF.h * 2⟩) (sS := ⟨rS.w * 2, rS.h * 2⟩)
    (by simp only; omega) (by simp only; omega) hcls' h'
  rw [hc] at this
  exact this

/-- Both radii reduced by `d`, same inner corner of the corner box: the quadrants are concentric
(`center_2x` is the doubled inner corner minus one) and the smaller one is inside the other. -/
theorem quadrant_shrunk {tlF tlS : Pt} {rF rS : Sz} {k : Quadrant} {d : Nat}
    (hw : rF.w = rS.w - d) (hh : rF.h = rS.h - d) (h1w : 1 ≤ rF.w) (h1h : 1 ≤ rF.h)
    (hin : EllipseQuadrant.innerCorner tlF rF k = EllipseQuadrant.innerCorner tlS rS k) {p : Pt}
    (h : (EllipseQuadrant.new tlF rF k).contains p = true) :
    (EllipseQuadrant.new tlS rS k).contains p = true := by
  refine quadrant_nested ?_ (by omega) (by omega) (by omega) h
  rw [EllipseQuadrant.new_center2x _ _ _ h1w h1h,
    EllipseQuadrant.new_center2x _ _ _ (by omega) (by omega), hin]

/-! ### one axis of a shape shrunk by `k`

`[aS, aS + nS)` is an axis of the outer shape, `[aF, aF + nF)` that of the inner one (`aF = aS + k`,
`nF + 2 k = nS`); `ρS` and `ρF = ρS - k` are the radii at one end. A point of the inner axis that lies
in the outer corner box lies in the inner corner box, and the two boxes have the same inner edge
(`1 ≤ ρF`: the point lies in both boxes, so the truncated `ρS - k` did not reach 0). -/

theorem axis_shrunk_subset {aS aF p : Int} {nS nF k : Nat} (ha : aF = aS + k) (hn : nF + 2 * k = nS)
    (h1 : aF ≤ p) (h2 : p < aF + nF) : aS ≤ p ∧ p < aS + nS := by
  omega

theorem axis_shrunk_lo {aS aF p : Int} {ρS ρF k : Nat} (ha : aF = aS + k) (hρ : ρF = ρS - k)
    (h1 : aF ≤ p) (h2 : p < aS + ρS) : p < aF + ρF ∧ 1 ≤ ρF ∧ aF + ρF = aS + ρS := by
  omega

theorem axis_shrunk_hi {aS aF p : Int} {nS nF ρS ρF k : Nat} (ha : aF = aS + k)
    (hn : nF + 2 * k = nS) (hρ : ρF = ρS - k) (h1 : p < aF + nF) (h2 : aS + nS - ρS ≤ p) :
    aF + nF - ρF ≤ p ∧ 1 ≤ ρF ∧ aF + nF - ρF = aS + nS - ρS := by
  omega

/-- `F` is `S` shrunk by `k` on every side with every radius reduced by `k` (saturating at 0). -/
structure ShrunkBy (S F : RoundedRect) (k : Nat) : Prop where
  x : F.rect.tl.x = S.rect.tl.x + k
  y : F.rect.tl.y = S.rect.tl.y + k
  w : F.rect.size.w + 2 * k = S.rect.size.w
  h : F.rect.size.h + 2 * k = S.rect.size.h
  tlw : F.corners.tl.w = S.corners.tl.w - k
  tlh : F.corners.tl.h = S.corners.tl.h - k
  trw : F.corners.tr.w = S.corners.tr.w - k
  trh : F.corners.tr.h = S.corners.tr.h - k
  brw : F.corners.br.w = S.corners.br.w - k
  brh : F.corners.br.h = S.corners.br.h - k
  blw : F.corners.bl.w = S.corners.bl.w - k
  blh : F.corners.bl.h = S.corners.bl.h - k

theorem nested_contains {S F : RoundedRect} {k : Nat} (hk : ShrunkBy S F k) (hS : S.InRange)
    (hF : F.InRange) (hSf : S.corners.Fits S.rect.size) (hFf : F.corners.Fits F.rect.size) {p : Pt}
    (h : F.contains p = true) : S.contains p = true := by
  rw [contains_iff_of_fits F hF hFf] at h
  rw [contains_iff_of_fits S hS hSf]
  obtain ⟨hb, c1, c2, c3, c4⟩ := h
  rw [Rect.contains_iff] at hb ⊢
  obtain ⟨x1, x2, y1, y2⟩ := hb
  obtain ⟨sx1, sx2⟩ := axis_shrunk_subset hk.x hk.w x1 x2
  obtain ⟨sy1, sy2⟩ := axis_shrunk_subset hk.y hk.h y1 y2
  -- in each corner box of `S` that contains `p`: `p` is in the box of `F`, which has the same inner corner
  refine ⟨⟨sx1, sx2, sy1, sy2⟩, ?_, ?_, ?_, ?_⟩
  · intro hy hx
    obtain ⟨hy', ry, ey⟩ := axis_shrunk_lo hk.y hk.tlh y1 hy
    obtain ⟨hx', rx, ex⟩ := axis_shrunk_lo hk.x hk.tlw x1 hx
    refine quadrant_shrunk hk.tlw hk.tlh rx ry ?_ (c1 hy' hx')
    exact Pt.ext_iff'.mpr ⟨ex, ey⟩
  · intro hy hx
    obtain ⟨hy', ry, ey⟩ := axis_shrunk_hi hk.y hk.h hk.blh y2 hy
    obtain ⟨hx', rx, ex⟩ := axis_shrunk_lo hk.x hk.blw x1 hx
    refine quadrant_shrunk hk.blw hk.blh rx ry ?_ (c2 hy' hx')
    exact Pt.ext_iff'.mpr ⟨ex, ey⟩
  · intro hy hx
    obtain ⟨hy', ry, ey⟩ := axis_shrunk_lo hk.y hk.trh y1 hy
    obtain ⟨hx', rx, ex⟩ := axis_shrunk_hi hk.x hk.w hk.trw x2 hx
    refine quadrant_shrunk hk.trw hk.trh rx ry ?_ (c3 hy' hx')
    exact Pt.ext_iff'.mpr ⟨ex, ey⟩
  · intro hy hx
    obtain ⟨hy', ry, ey⟩ := axis_shrunk_hi hk.y hk.h hk.brh y2 hy
    obtain ⟨hx', rx, ex⟩ := axis_shrunk_hi hk.x hk.w hk.brw x2 hx
    refine quadrant_shrunk hk.brw hk.brh rx ry ?_ (c4 hy' hx')
    exact Pt.ext_iff'.mpr ⟨ex, ey⟩

/-- An in-range grown rectangle did not saturate `u32`. -/
theorem grow_no_sat (r : Rect) (k : Nat) (h : (r.offset (k : Int)).InRange) :
    r.size.w + 2 * k ≤ 2147483647 ∧ r.size.h + 2 * k ≤ 2147483647 := by
  have hw := h.w_le
  have hh := h.h_le
  -- `Rect.offset_grow` needs this lemma's conclusion, so the size is read off the definition
  unfold Rect.offset at hw hh
  simp only [show (k : Int) ≥ 0 by omega, ↓reduceIte, Sz.satAdd, Sz.newEqual, Int.toNat_natCast] at hw hh
  rw [EG.satAddU32_of_le hw] at hw
  rw [EG.satAddU32_of_le hh] at hh
  omega

theorem satAdd_newEqual {s : Sz} {k : Nat} (hw : s.w + k ≤ 4294967295) (hh : s.h + k ≤ 4294967295) :
    s.satAdd (Sz.newEqual k) = ⟨s.w + k, s.h + k⟩ := by
  unfold Sz.satAdd Sz.newEqual satAddU32
  rw [if_pos hw, if_pos hh]

theorem offset_grow (r : RoundedRect) (k : Nat) (hw : r.rect.size.w + 2 * k ≤ 4294967295)
    (hh : r.rect.size.h + 2 * k ≤ 4294967295)
    (hc : r.corners.All (fun s => s.w + k ≤ 4294967295 ∧ s.h + k ≤ 4294967295)) :
    r.offset (k : Int) =
      ⟨⟨⟨r.rect.tl.x - k, r.rect.tl.y - k⟩, ⟨r.rect.size.w + 2 * k, r.rect.size.h + 2 * k⟩⟩,
        r.corners.map (fun s => ⟨s.w + k, s.h + k⟩)⟩ := by
  rw [offset_natCast, Rect.offset_grow r.rect k hw hh,
    CornerRadii.map_congr (hc.imp fun s h => satAdd_newEqual h.1 h.2)]

/-- The corners of the shape shrunk by `k` (for `k = 0` the model takes the growing branch, which
leaves `u32` radii alone). -/
theorem offset_shrink (r : RoundedRect) (k : Nat)
    (hc : r.corners.All (fun s => s.w ≤ 4294967295 ∧ s.h ≤ 4294967295)) :
    r.offset (-(k : Int)) =
      ⟨r.rect.offset (-(k : Int)), r.corners.map (fun s => ⟨s.w - k, s.h - k⟩)⟩ := by
  by_cases hk : k = 0
  · subst hk
    have e := offset_natCast r 0
    simp only [Int.natCast_zero] at e
    simp only [Int.natCast_zero, Int.neg_zero]
    rw [e, CornerRadii.map_congr (hc.imp fun s h => satAdd_newEqual (k := 0) h.1 h.2)]
    rfl
  · rw [offset_neg_natCast r k (by omega)]
    rfl

/-! One axis `[x, x + w)` grown by `kO` against the same axis shrunk by `kI` (not collapsed), as
`Rect.offset_grow` and `Rect.offset_shrink` give them, and a radius `a` at one of its ends. -/

theorem axis_offsets_lo {w kI : Nat} (h : 0 < w - 2 * kI) (x : Int) (kO : Nat) :
    x + (((w - 1) / 2 : Nat) : Int) - (((w - 2 * kI - 1) / 2 : Nat) : Int) =
      x - kO + ((kI + kO : Nat) : Int) := by
  -- the halves as atoms: `half_sub_half` has done the case analysis of `/ 2`
  have e := Rect.half_sub_half (n := w) (k := kI) (by omega)
  generalize (((w - 1) / 2 : Nat) : Int) = A at e ⊢
  generalize (((w - 2 * kI - 1) / 2 : Nat) : Int) = B at e ⊢
  omega

theorem axis_offsets_len {w kI : Nat} (h : 0 < w - 2 * kI) (kO : Nat) :
    w - 2 * kI + 2 * (kI + kO) = w + 2 * kO := by
  omega

theorem shrunkBy_offsets (r : RoundedRect) (kO kI : Nat)
    (hS : (r.offset (kO : Int)).InRange)
    (hFw : 0 < (r.offset (-(kI : Int))).rect.size.w) (hFh : 0 < (r.offset (-(kI : Int))).rect.size.h)
    (hSf : (r.offset (kO : Int)).corners.Fits (r.offset (kO : Int)).rect.size) :
    ShrunkBy (r.offset (kO : Int)) (r.offset (-(kI : Int))) (kI + kO) := by
  obtain ⟨gw, gh⟩ := grow_no_sat r.rect kO hS
  have hSf' : (r.corners.map (·.satAdd (Sz.newEqual kO))).Fits
      ⟨r.rect.size.w + 2 * kO, r.rect.size.h + 2 * kO⟩ := by
    rw [offset_natCast, Rect.offset_grow r.rect kO (by omega) (by omega)] at hSf
    exact hSf
  -- the grown radii fit an `i32` side, so they did not saturate
  have hc : r.corners.All (fun s => s.w + kO ≤ 2147483647 ∧ s.h + kO ≤ 2147483647) :=
    (CornerRadii.all_map.mp hSf'.all_le).imp fun s h => by
      have ew := EG.satAddU32_of_le (Nat.le_trans h.1 gw)
      have eh := EG.satAddU32_of_le (Nat.le_trans h.2 gh)
      exact ⟨ew ▸ Nat.le_trans h.1 gw, eh ▸ Nat.le_trans h.2 gh⟩
  rw [offset_shrink r kI (hc.imp fun s h => by omega),
    Rect.offset_shrink r.rect kI (by omega) (by omega)] at hFw hFh ⊢
  rw [offset_grow r kO (by omega) (by omega) (hc.imp fun s h => by omega)]
  have hr := fun a : Nat => (Nat.add_sub_add_right a kO kI).symm
  exact ⟨axis_offsets_lo hFw _ _, axis_offsets_lo hFh _ _, axis_offsets_len hFw _,
    axis_offsets_len hFh _, hr _, hr _, hr _, hr _, hr _, hr _, hr _, hr _⟩

theorem offset_nested (r : RoundedRect) (kO kI : Nat) (hS : (r.offset (kO : Int)).InRange)
    (hF : (r.offset (-(kI : Int))).InRange)
    (hSf : (r.offset (kO : Int)).corners.Fits (r.offset (kO : Int)).rect.size)
    (hFf : (r.offset (-(kI : Int))).corners.Fits (r.offset (-(kI : Int))).rect.size) {p : Pt}
    (hp : (r.offset (-(kI : Int))).contains p = true) : (r.offset (kO : Int)).contains p = true := by
  -- the shrunk shape contains `p`, so it is not collapsed
  have hb := contains_imp_bbox _ hF hp
  unfold boundingBox at hb
  rw [Rect.contains_iff] at hb
  exact nested_contains (shrunkBy_offsets r kO kI hS (by omega) (by omega) hSf) hS hF hSf hFf hp

/-- One axis `[x, x + w)` shrunk by `kI` (as `Rect.offset_shrink` gives it; it may collapse) lies in
the same axis grown by `kO`. -/
theorem axis_shrunk_in_grown {x p : Int} {w kI : Nat} (kO : Nat)
    (h1 : x + (((w - 1) / 2 : Nat) : Int) - (((w - 2 * kI - 1) / 2 : Nat) : Int) ≤ p)
    (h2 : p < x + (((w - 1) / 2 : Nat) : Int) - (((w - 2 * kI - 1) / 2 : Nat) : Int) +
      ((w - 2 * kI : Nat) : Int)) :
    x - kO ≤ p ∧ p < x - kO + ((w + 2 * kO : Nat) : Int) := by
  omega

/-- A rectangle shrunk by `kI` lies inside the same rectangle grown by `kO` (any `kI`, `kO`, also
collapsing shrinks), when the grown one is inside the `i32` range. -/
theorem rect_shrunk_in_grown (r : Rect) (kO kI : Nat) (hS : (r.offset (kO : Int)).InRange) (p : Pt)
    (hp : (r.offset (-(kI : Int))).contains p = true) : (r.offset (kO : Int)).contains p = true := by
  obtain ⟨gw, gh⟩ := grow_no_sat r kO hS
  rw [Rect.offset_grow r kO (by omega) (by omega), Rect.contains_iff]
  rw [Rect.offset_shrink r kI (by omega) (by omega), Rect.contains_iff] at hp
  obtain ⟨x1, x2, y1, y2⟩ := hp
  obtain ⟨sx1, sx2⟩ := axis_shrunk_in_grown kO x1 x2
  obtain ⟨sy1, sy2⟩ := axis_shrunk_in_grown kO y1 y2
  exact ⟨sx1, sx2, sy1, sy2⟩

theorem satAsI32_eq_min (n : Nat) : satAsI32 n = ((min n 2147483647 : Nat) : Int) := by
  unfold satAsI32; split <;> omega

theorem strokeArea_eq (st : Style) (r : RoundedRect) :
    r.strokeArea st = r.offset ((min st.outsideStrokeWidth 2147483647 : Nat) : Int) := by
  unfold strokeArea Style.strokeOffset
  rw [satAsI32_eq_min]

theorem fillArea_eq (st : Style) (r : RoundedRect) :
    r.fillArea st = r.offset (-((min st.insideStrokeWidth 2147483647 : Nat) : Int)) := by
  unfold fillArea Style.fillOffset
  rw [satAsI32_eq_min]

/-- `hSf`, `hFf`: `confine` changes neither area. Every alignment, every width, unequal corner radii
included. -/
theorem fillInStroke_of_fits (st : Style) (r : RoundedRect) (hS : (r.strokeArea st).InRange)
    (hF : (r.fillArea st).InRange)
    (hSf : (r.strokeArea st).corners.Fits (r.strokeArea st).rect.size)
    (hFf : (r.fillArea st).corners.Fits (r.fillArea st).rect.size) : FillInStroke st r := by
  intro p hp
  rw [strokeArea_eq] at hS hSf ⊢
  rw [fillArea_eq] at hF hFf hp
  exact offset_nested r _ _ hS hF hSf hFf hp

theorem _root_.EG.CornerRadii.Fits.grow {c : CornerRadii} {bb : Sz} (h : c.Fits bb) (k : Nat) :
    (c.map (fun s => ⟨s.w + k, s.h + k⟩)).Fits ⟨bb.w + 2 * k, bb.h + 2 * k⟩ := by
  unfold CornerRadii.Fits at h ⊢
  simp only [CornerRadii.map]
  omega

/-- Radii that fit the shape also fit the stroke area (both grow by the outside width). -/
theorem strokeArea_fits (st : Style) (r : RoundedRect) (hS : (r.strokeArea st).InRange)
    (hf : r.corners.Fits r.rect.size) :
    (r.strokeArea st).corners.Fits (r.strokeArea st).rect.size := by
  rw [strokeArea_eq] at hS ⊢
  obtain ⟨gw, gh⟩ := grow_no_sat r.rect _ hS
  rw [offset_grow r _ (by omega) (by omega) (hf.all_le.imp fun s h => by omega)]
  exact hf.grow _

/-- No corner radius exceeds half the side it lies along (e.g. equal radii that fit). -/
def HalfFits (c : CornerRadii) (bb : Sz) : Prop :=
  2 * c.tl.w ≤ bb.w ∧ 2 * c.tl.h ≤ bb.h ∧ 2 * c.tr.w ≤ bb.w ∧ 2 * c.tr.h ≤ bb.h ∧
  2 * c.br.w ≤ bb.w ∧ 2 * c.br.h ≤ bb.h ∧ 2 * c.bl.w ≤ bb.w ∧ 2 * c.bl.h ≤ bb.h
instance (c : CornerRadii) (bb : Sz) : Decidable (HalfFits c bb) := by unfold HalfFits; exact inferInstance

theorem HalfFits.fits {c : CornerRadii} {bb : Sz} (h : HalfFits c bb) : c.Fits bb := by
  unfold HalfFits at h; unfold CornerRadii.Fits; omega

theorem HalfFits.shrink {c : CornerRadii} {bb : Sz} (h : HalfFits c bb) (k : Nat) :
    (c.map (fun s => ⟨s.w - k, s.h - k⟩)).Fits ⟨bb.w - 2 * k, bb.h - 2 * k⟩ := by
  have pair : ∀ {a b n : Nat}, 2 * a ≤ n → 2 * b ≤ n → a - k + (b - k) ≤ n - 2 * k := by
    intro a b n ha hb
    omega
  obtain ⟨tlw, tlh, trw, trh, brw, brh, blw, blh⟩ := h
  -- top, right, bottom, left side
  exact ⟨pair tlw trw, pair trh brh, pair blw brw, pair tlh blh⟩

theorem offset_shrink_of_fits (r : RoundedRect) (k : Nat) (hw : r.rect.size.w ≤ 2147483647)
    (hh : r.rect.size.h ≤ 2147483647) (hc : r.corners.Fits r.rect.size) :
    (r.offset (-(k : Int))).rect.size = ⟨r.rect.size.w - 2 * k, r.rect.size.h - 2 * k⟩ ∧
    (r.offset (-(k : Int))).corners = r.corners.map (fun s => ⟨s.w - k, s.h - k⟩) := by
  rw [offset_shrink r k (hc.all_le.imp fun s h => by omega),
    Rect.offset_shrink r.rect k (by omega) (by omega)]
  exact ⟨rfl, rfl⟩

theorem fillArea_fits_of_half (st : Style) (r : RoundedRect) (hw : r.rect.size.w ≤ 2147483647)
    (hh : r.rect.size.h ≤ 2147483647) (hc : HalfFits r.corners r.rect.size) :
    (r.fillArea st).corners.Fits (r.fillArea st).rect.size := by
  obtain ⟨e1, e2⟩ := offset_shrink_of_fits r (min st.insideStrokeWidth 2147483647) hw hh hc.fits
  rw [fillArea_eq, e1, e2]
  exact hc.shrink _

/-- Inside width 0 (`Outside` alignment, or width 0): `fill_area()` has the shape's own radii. -/
theorem fillArea_fits_of_inside_zero (st : Style) (r : RoundedRect) (h0 : st.insideStrokeWidth = 0)
    (hw : r.rect.size.w ≤ 2147483647) (hh : r.rect.size.h ≤ 2147483647)
    (hc : r.corners.Fits r.rect.size) :
    (r.fillArea st).corners.Fits (r.fillArea st).rect.size := by
  obtain ⟨e1, e2⟩ := offset_shrink_of_fits r 0 hw hh hc
  rw [fillArea_eq, h0, Nat.zero_min, e1, e2]
  exact hc

theorem size_le_of_strokeArea (st : Style) (r : RoundedRect) (hS : (r.strokeArea st).InRange) :
    r.rect.size.w ≤ 2147483647 ∧ r.rect.size.h ≤ 2147483647 := by
  rw [strokeArea_eq] at hS
  obtain ⟨gw, gh⟩ := grow_no_sat r.rect _ hS
  omega

end EG.Glue
