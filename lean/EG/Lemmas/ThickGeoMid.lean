/-
  EG.Lemmas.ThickGeoMid — the middle slab of a stroked line.
  With `T(q) = 2 (dt q - dt start) - L2` the middle slab of the oracle is `T(q)^2 <= 4 L2`
  (projection within one pixel of the midpoint).
  * `parPts_ivt`: along a parallel `T` grows by at most `2 (D + d) <= 2 sqrt2 L` per point, so a
    parallel that starts below the upper edge of the slab and ends above its lower edge has a
    point in it;
  * `par_mid`: every parallel of a stroke (non-zero length) has a point in the middle slab;
  * `thickPoints_mid_raw`: the two pixels of the outermost parallels in the middle slab, their bands,
    and the accumulator bound (`MidFacts`, EG.Lemmas.ThickArith);
  * `thickPoints_mid_extent`: the extent `(X1 - X2)^2 >= (2 w - 6)^2 L2` in general, and three
    regimes (`MidRegime`) in which the full extent `(2 w - 4)^2 L2` of the oracle's
    `C17:thick-middle-width` follows: axis-parallel / diagonal lines (all `X` are multiples of `2 D`,
    the bands are met exactly), strokes with enough `Extra` parallels, and flat thin strokes
    (`(w - 2) d^2 <= 2 D`: `N >= w` and `X1 - X2` is even).
  In general the claim has NO slack: on the lines `(0,0)-(D,1)` with `w = 2 D` the extent is
  `D (N - 2) + 2` against `(w - 2) L`, a margin of `(1 + 1/D)/L` px (0.0084 px for `D = 120`), because
  the slab holds the parallel's single minor step: the outermost left parallel shows only its low
  phase, the outermost right one only its high phase.
  At the end, in the namespace of the property file: the slab and the extent in the oracle's metrics
  `dot`, `cross`, `L2` (EG.Lemmas.ThickGeoMetric): `inMid_iff`, `cross_extent`, `middle_width`.
-/
import EG.Lemmas.ThickGeoBand
import EG.Lemmas.ThickGeoMetric
set_option linter.unusedSimpArgs false
set_option linter.unnecessarySeqFocus false
namespace EG
namespace Thick
open ParallelsIterator StrokeCtx Line

namespace StrokeCtx
/-- `T(q) = 2 (dt q - dt start) - L2`. -/
def tmid (c : StrokeCtx) (s q : Pt) : Int := 2 * (c.dt q - c.dt s) - (c.D * c.D + c.d * c.d)
/-- `q` lies in the middle slab of the stroke that starts at `s`. -/
def InMid (c : StrokeCtx) (s q : Pt) : Prop := MidP (c.D * c.D + c.d * c.d) (c.tmid s q)
end StrokeCtx

theorem next_pt_cases (c : StrokeCtx) (b : Bresenham) :
    ((b.next c.pp).1 = b.point ∨ (b.next c.pp).1 = b.point + c.m) ∧
    (b.next c.pp).2.point = (b.next c.pp).1 + c.M := by
  unfold Bresenham.next StrokeCtx.pp
  by_cases hE : b.error > c.D
  · simp only [hE, ↓reduceIte]; exact ⟨Or.inr trivial, trivial⟩
  · simp only [hE, ↓reduceIte]; exact ⟨Or.inl trivial, trivial⟩

theorem parPts_ivt (c : StrokeCtx) (hv : c.Valid) (s : Pt) :
    ∀ (n : Nat) (b : Bresenham),
    HiP (c.D * c.D + c.d * c.d) (c.tmid s (b.next c.pp).1) →
    (∃ q ∈ parPts n b c.pp, MidP (c.D * c.D + c.d * c.d) (c.tmid s q)) ∨
    (∀ q ∈ parPts n b c.pp, ¬ LoP (c.D * c.D + c.d * c.d) (c.tmid s q))
  | 0, _, _ => Or.inr (fun q hq => by cases hq)
  | n + 1, b, hhi => by
    have hD := hv.hD
    have hd0 := hv.hd0
    have hdD := hv.hdD
    have hS : 0 < c.D * c.D + c.d * c.d := by nlinarith
    unfold parPts
    by_cases hlo : LoP (c.D * c.D + c.d * c.d) (c.tmid s (b.next c.pp).1)
    · exact Or.inl ⟨_, List.mem_cons_self, mid_of_hi_lo (by omega) hhi hlo⟩
    · -- the next point is at most `D + d` further along the line
      obtain ⟨_, h2⟩ := next_pt_cases c b
      obtain ⟨h3, _⟩ := next_pt_cases c (b.next c.pp).2
      have hstep : ∃ sg, 0 ≤ sg ∧ sg * sg ≤ 8 * (c.D * c.D + c.d * c.d) ∧
          c.tmid s ((b.next c.pp).2.next c.pp).1 = c.tmid s (b.next c.pp).1 + sg := by
        have e1 := dt_M hv.ax
        have e2 := dt_m hv.ax
        rcases h3 with h3 | h3
        · refine ⟨2 * c.D, by omega, by nlinarith, ?_⟩
          unfold StrokeCtx.tmid; rw [h3, h2, dt_add, e1]; omega
        · refine ⟨2 * (c.D + c.d), by omega, by nlinarith, ?_⟩
          unfold StrokeCtx.tmid; rw [h3, h2, dt_add, dt_add, e1, e2]; omega
      obtain ⟨sg, _, g2, g3⟩ := hstep
      have hhi' := hi_step _ _ sg _ hlo g2 g3
      rcases parPts_ivt c hv s n (b.next c.pp).2 hhi' with ⟨q, hq, hm⟩ | hall
      · exact Or.inl ⟨q, List.mem_cons_of_mem _ hq, hm⟩
      · right
        intro q hq
        rcases List.mem_cons.mp hq with rfl | hq
        · exact hlo
        · exact hall q hq

/-- **Every parallel has a point in the middle slab**: it starts below the upper edge of the slab,
and its last point - `D` major and `d` minor steps from its start, one less of each for an extra
parallel - lies above the lower edge. -/
theorem par_mid_ctx (c : StrokeCtx) (hv : c.Valid) (s : Pt) (K : Int) (b : Bresenham)
    (ty : ParallelLineType) (hok : ParOK c s K b ty) (n : Nat)
    (hn1 : ty = .normal → (n : Int) = c.D + 1) (hn2 : ty = .extra → (n : Int) = c.D) :
    ∃ q ∈ parPts n b c.pp, c.InMid s q := by
  have hD := hv.hD; have hd0 := hv.hd0; have hdD := hv.hdD
  obtain ⟨e1, e2⟩ := parOK_err hv hok
  obtain ⟨hS2, hS1⟩ := len2_bounds c.D c.d hD
  obtain ⟨hK, _, o1, o2⟩ := hok
  -- the first point is the start of the parallel, below the upper edge of the slab
  have hfirst : (b.next c.pp).1 = b.point := by
    have : ¬ b.error > c.D := by
      cases ty with
      | normal => have := o1 rfl; omega
      | extra => have := o2 rfl; omega
    unfold Bresenham.next StrokeCtx.pp
    simp only [this, ↓reduceIte]
  have hhi : HiP (c.D * c.D + c.d * c.d) (c.tmid s (b.next c.pp).1) := by
    rw [hfirst]
    apply hiP_of_le_one (by omega)
    unfold StrokeCtx.tmid
    cases ty with
    | normal => have := o1 rfl; omega
    | extra => have := o2 rfl; omega
  rcases parPts_ivt c hv s n b hhi with h | hall
  · exact h
  · exfalso
    -- the last point: `x = 0` (normal) or `1` (extra) steps short of `D M + d m`
    obtain ⟨x, hx, hn⟩ : ∃ x : Int, (x = 0 ∧ ty = .normal ∨ x = 1 ∧ ty = .extra) ∧ (n : Int) = c.D + 1 - x := by
      cases ty with
      | normal => exact ⟨0, Or.inl ⟨rfl, rfl⟩, by rw [hn1 rfl]; omega⟩
      | extra => exact ⟨1, Or.inr ⟨rfl, rfl⟩, by rw [hn2 rfl]; omega⟩
    have hk : c.amaj (b.point + smul (c.D - x) c.M + smul (c.d - x) c.m) = c.amaj b.point + (c.D - x) := by
      rw [amaj_add, amaj_add, amaj_smul, amaj_smul, amaj_M hv.ax, amaj_m hv.ax]; omega
    have hj : c.amin (b.point + smul (c.D - x) c.M + smul (c.d - x) c.m) = c.amin b.point + (c.d - x) := by
      rw [amin_add, amin_add, amin_smul, amin_smul, amin_M hv.ax, amin_m hv.ax]; omega
    have hph : c.ph (b.point + smul (c.D - x) c.M + smul (c.d - x) c.m) - c.ph b.point =
        2 * (c.D - c.d) * x := by unfold ph; rw [hk, hj]; ring
    have hdt : c.dt (b.point + smul (c.D - x) c.M + smul (c.d - x) c.m) - c.dt b.point =
        c.D * c.D + c.d * c.d - (c.D + c.d) * x := by unfold dt; rw [hk, hj]; ring
    have hmem := parPts_complete c hv n b e1 e2 _ (by rw [hk]; rcases hx with ⟨rfl, _⟩ | ⟨rfl, _⟩ <;> omega)
      (by rw [hk]; omega) (by
        unfold InBandK bandK
        rcases hx with ⟨rfl, hty⟩ | ⟨rfl, hty⟩
        · have := o1 hty; constructor <;> omega
        · have := o2 hty; constructor <;> omega)
    apply hall _ hmem
    apply loP_of_neg_one_le (by omega)
    unfold StrokeCtx.tmid
    rcases hx with ⟨rfl, hty⟩ | ⟨rfl, hty⟩
    · have := o1 hty; omega
    · have := o2 hty; omega

theorem par_mid (l : Line) (hnd : l.start ≠ l.stop) (K : Int) (b : Bresenham) (ty : ParallelLineType)
    (hok : ParOK (ctxOf l) l.start K b ty) :
    ∃ q ∈ parPts (lenOf (majorLength l) ty) b (ctxOf l).pp, (ctxOf l).InMid l.start q := by
  have hp : paramLine l = l := by simp [paramLine, hnd]
  have hDl : (ctxOf l).D = dmaj l := by unfold ctxOf; rw [hp]
  have hlen : (majorLength l : Int) = (ctxOf l).D + 1 := by
    rw [majorLength_eq, hDl]; have := dmaj_nonneg l; omega
  apply par_mid_ctx (ctxOf l) (ctxOf_valid l) l.start K b ty hok
  · intro hty; rw [hty]; exact hlen
  · intro hty; rw [hty]; show ((majorLength l - 1 : Nat) : Int) = (ctxOf l).D
    have := (ctxOf_valid l).hD; omega

theorem ph_mult (c : StrokeCtx) (h : c.d = 0 ∨ c.d = c.D) (p : Pt) : ∃ k : Int, c.ph p = 2 * c.D * k := by
  unfold StrokeCtx.ph
  rcases h with h | h <;> rw [h]
  · exact ⟨-c.amin p, by ring⟩
  · exact ⟨c.amaj p - c.amin p, by ring⟩

theorem ph_even (c : StrokeCtx) (p : Pt) : ∃ k : Int, c.ph p = 2 * k := by
  unfold StrokeCtx.ph
  exact ⟨c.d * c.amaj p - c.D * c.amin p, by ring⟩

theorem thickPoints_mid_raw (l : Line) (hnd : l.start ≠ l.stop) (w : Nat) (hw : 1 ≤ w)
    (hw2 : w ≤ 2147483647) (ps : List Pt) (hps : thickPoints l w = some ps) :
    ∃ q1 ∈ ps, ∃ q2 ∈ ps, ∃ (nL nR : Nat) (A E : Int),
      (ctxOf l).InMid l.start q1 ∧ (ctxOf l).InMid l.start q2 ∧
      ExtraParallels l w E ∧
      MidFacts (ctxOf l).D (ctxOf l).d w A E ((ctxOf l).ph q1 - (ctxOf l).ph l.start)
        ((ctxOf l).ph q2 - (ctxOf l).ph l.start) ((ctxOf l).ph (ctxOf l).M') nL nR := by
  have hv := ctxOf_valid l
  have hfr := frameOK_ctxOf l
  have hsat : satAsI32 w = (w : Int) := by unfold satAsI32; simp only [hw2, ↓reduceIte]
  obtain ⟨it, xs, hnew, hgC, hacc, hthr, hrun, h⟩ := stroke_run l w
  have hg : NInv (ctxOf l) l.start (flipOf l) _ (0, 0) := ⟨_, _, _, hgC⟩
  rw [h ps hps]
  rw [hsat] at hthr
  obtain ⟨nL, nR, A, _, _, hlr, hA0, hA, hAeq, hcov⟩ :=
    run_upper (ctxOf l) hv _ hfr l.start _ hrun (0, 0) hg hthr 0 (by rw [hacc]; simp)
      (by rw [hacc]; have := hv.hD; have := hv.hd0; omega)
  simp only [Int.zero_add] at hAeq
  have hE0 := exCount_nonneg xs
  have hnR : 1 ≤ nR :=
    count_pos (ctxOf l).D (ctxOf l).d w A _ nL nR hv.hd0 hv.hdD (by omega) hE0 hA0 hA (by omega) hlr
  -- the outermost left and right bands
  obtain ⟨x1, hx1, hok1⟩ := hcov (nL : Int) (by
    by_cases h0 : nL = 0
    · right; rw [h0]; simp; omega
    · left; constructor <;> simp <;> omega)
  obtain ⟨x2, hx2, hok2⟩ := hcov (1 - (nR : Int)) (by right; simp; omega)
  obtain ⟨q1, hq1, hm1⟩ := par_mid l hnd _ x1.2.1 x1.2.2 hok1
  obtain ⟨q2, hq2, hm2⟩ := par_mid l hnd _ x2.2.1 x2.2.2 hok2
  obtain ⟨a1, a2⟩ := parPts_band hv hok1 _ q1 hq1
  obtain ⟨a3, a4⟩ := parPts_band hv hok2 _ q2 hq2
  exact ⟨q1, List.mem_flatMap.mpr ⟨x1, hx1, hq1⟩, q2, List.mem_flatMap.mpr ⟨x2, hx2, hq2⟩, nL, nR, A,
    exCount xs, hm1, hm2, ⟨it, xs, hnew, hrun, rfl⟩,
    ⟨hv.hD, hv.hd0, hv.hdD, hE0, hlr, hnR, hA0, hA, by omega, tau_cases hfr, by omega, by omega, by omega,
      by omega⟩⟩

/-- **The middle slab of a stroked line**: there are two pixels `q1`, `q2` in the middle slab whose
band values `X = ph q - ph start` (`= -+ 2 cross`) differ by at least `2 (w - 3) L`, and by the full
`2 (w - 2) L` of the oracle's `C17:thick-middle-width` in the regimes `MidRegime` (`E` = the number of
`Extra` parallels of the stroke). The flat regime contains the lines with the smallest margin,
`(0,0)-(D,1)` with `w = 2 D`. -/
theorem thickPoints_mid_extent (l : Line) (hnd : l.start ≠ l.stop) (w : Nat) (hw : 1 ≤ w)
    (hw2 : w ≤ 2147483647) (ps : List Pt) (hps : thickPoints l w = some ps) :
    ∃ q1 ∈ ps, ∃ q2 ∈ ps, ∃ E : Int, (ctxOf l).InMid l.start q1 ∧ (ctxOf l).InMid l.start q2 ∧
      ExtraParallels l w E ∧
      (3 ≤ w → (2 * (w : Int) - 6) * (2 * (w : Int) - 6) *
          ((ctxOf l).D * (ctxOf l).D + (ctxOf l).d * (ctxOf l).d) ≤
        ((ctxOf l).ph q1 - (ctxOf l).ph q2) * ((ctxOf l).ph q1 - (ctxOf l).ph q2)) ∧
      (2 ≤ w → MidRegime (ctxOf l).D (ctxOf l).d
          ((ctxOf l).D * (ctxOf l).D + (ctxOf l).d * (ctxOf l).d) w E →
        (2 * (w : Int) - 4) * (2 * (w : Int) - 4) *
          ((ctxOf l).D * (ctxOf l).D + (ctxOf l).d * (ctxOf l).d) ≤
        ((ctxOf l).ph q1 - (ctxOf l).ph q2) * ((ctxOf l).ph q1 - (ctxOf l).ph q2)) := by
  obtain ⟨q1, hq1, q2, hq2, nL, nR, A, E, m1, m2, hE, hf⟩ := thickPoints_mid_raw l hnd w hw hw2 ps hps
  have hX := sub_sub_sub_cancel_right ((ctxOf l).ph q1) ((ctxOf l).ph q2) ((ctxOf l).ph l.start)
  refine ⟨q1, hq1, q2, hq2, E, m1, m2, hE, fun hw3 => ?_, fun hw2' hreg => ?_⟩
  · rw [← hX]; exact hf.extent (by omega)
  · rw [← hX]
    rcases hreg with hax | hex | hfl
    · obtain ⟨k1, hk1⟩ := ph_mult (ctxOf l) hax q1
      obtain ⟨k2, hk2⟩ := ph_mult (ctxOf l) hax q2
      obtain ⟨k0, hk0⟩ := ph_mult (ctxOf l) hax l.start
      exact hf.extent_axis (by omega) (k1 - k0) (k2 - k0) (by rw [hk1, hk0]; ring) (by rw [hk2, hk0]; ring)
    · exact hf.extent_extras (by omega) hex
    · obtain ⟨k1, hk1⟩ := ph_even (ctxOf l) q1
      obtain ⟨k2, hk2⟩ := ph_even (ctxOf l) q2
      exact hf.extent_flat (by omega) ⟨k1 - k2, by rw [hk1, hk2]; ring⟩ hfl

theorem thickPoints_mid_extent_axis (l : Line) (hnd : l.start ≠ l.stop) (w : Nat) (hw : 2 ≤ w)
    (hw2 : w ≤ 2147483647) (ps : List Pt) (hps : thickPoints l w = some ps)
    (hreg : (ctxOf l).d = 0 ∨ (ctxOf l).d = (ctxOf l).D) :
    ∃ q1 ∈ ps, ∃ q2 ∈ ps,
      MidP ((ctxOf l).D * (ctxOf l).D + (ctxOf l).d * (ctxOf l).d) ((ctxOf l).tmid l.start q1) ∧
      MidP ((ctxOf l).D * (ctxOf l).D + (ctxOf l).d * (ctxOf l).d) ((ctxOf l).tmid l.start q2) ∧
      (2 * (w : Int) - 4) * (2 * (w : Int) - 4) *
          ((ctxOf l).D * (ctxOf l).D + (ctxOf l).d * (ctxOf l).d) ≤
        ((ctxOf l).ph q1 - (ctxOf l).ph q2) * ((ctxOf l).ph q1 - (ctxOf l).ph q2) := by
  obtain ⟨q1, h1, q2, h2, E, m1, m2, -, -, h⟩ := thickPoints_mid_extent l hnd w (by omega) hw2 ps hps
  exact ⟨q1, h1, q2, h2, m1, m2, h hw (Or.inl hreg)⟩

theorem thickPoints_mid_extent_extras (l : Line) (hnd : l.start ≠ l.stop) (w : Nat) (hw : 2 ≤ w)
    (hw2 : w ≤ 2147483647) (ps : List Pt) (hps : thickPoints l w = some ps) (E : Int)
    (hE : ExtraParallels l w E)
    (hreg : 5 * (ctxOf l).D + (ctxOf l).d - 2 * ((ctxOf l).D - (ctxOf l).d) * E ≤ 0 ∨
      (5 * (ctxOf l).D + (ctxOf l).d - 2 * ((ctxOf l).D - (ctxOf l).d) * E) *
        (5 * (ctxOf l).D + (ctxOf l).d - 2 * ((ctxOf l).D - (ctxOf l).d) * E) ≤
        16 * ((ctxOf l).D * (ctxOf l).D + (ctxOf l).d * (ctxOf l).d)) :
    ∃ q1 ∈ ps, ∃ q2 ∈ ps,
      MidP ((ctxOf l).D * (ctxOf l).D + (ctxOf l).d * (ctxOf l).d) ((ctxOf l).tmid l.start q1) ∧
      MidP ((ctxOf l).D * (ctxOf l).D + (ctxOf l).d * (ctxOf l).d) ((ctxOf l).tmid l.start q2) ∧
      (2 * (w : Int) - 4) * (2 * (w : Int) - 4) *
          ((ctxOf l).D * (ctxOf l).D + (ctxOf l).d * (ctxOf l).d) ≤
        ((ctxOf l).ph q1 - (ctxOf l).ph q2) * ((ctxOf l).ph q1 - (ctxOf l).ph q2) := by
  obtain ⟨q1, h1, q2, h2, E', m1, m2, hE', -, h⟩ := thickPoints_mid_extent l hnd w (by omega) hw2 ps hps
  obtain rfl := extraParallels_unique l w E E' hE hE'
  exact ⟨q1, h1, q2, h2, m1, m2, h hw (Or.inr (Or.inl hreg))⟩

theorem thickPoints_mid_extent_flat (l : Line) (hnd : l.start ≠ l.stop) (w : Nat) (hw : 2 ≤ w)
    (hw2 : w ≤ 2147483647) (ps : List Pt) (hps : thickPoints l w = some ps)
    (hreg : ((w : Int) - 2) * ((ctxOf l).d * (ctxOf l).d) ≤ 2 * (ctxOf l).D) :
    ∃ q1 ∈ ps, ∃ q2 ∈ ps,
      MidP ((ctxOf l).D * (ctxOf l).D + (ctxOf l).d * (ctxOf l).d) ((ctxOf l).tmid l.start q1) ∧
      MidP ((ctxOf l).D * (ctxOf l).D + (ctxOf l).d * (ctxOf l).d) ((ctxOf l).tmid l.start q2) ∧
      (2 * (w : Int) - 4) * (2 * (w : Int) - 4) *
          ((ctxOf l).D * (ctxOf l).D + (ctxOf l).d * (ctxOf l).d) ≤
        ((ctxOf l).ph q1 - (ctxOf l).ph q2) * ((ctxOf l).ph q1 - (ctxOf l).ph q2) := by
  obtain ⟨q1, h1, q2, h2, E, m1, m2, -, -, h⟩ := thickPoints_mid_extent l hnd w (by omega) hw2 ps hps
  exact ⟨q1, h1, q2, h2, m1, m2, h hw (Or.inr (Or.inr hreg))⟩

end Thick
end EG

namespace EG.C17.Stroke
open EG

theorem inMid_iff (l : Line) (p : Pt) :
    (Thick.ctxOf l).InMid l.start p ↔ (2 * dot l p - L2 l) ^ 2 ≤ 4 * L2 l := by
  unfold Thick.StrokeCtx.InMid Thick.MidP Thick.StrokeCtx.tmid
  rw [dot_eq, L2_eq, sq]

/-- Two pixels whose band values differ by `a L = 2 b L` are `b L` apart in `cross`. -/
theorem cross_extent (l : Line) (p q : Pt) (a b : Int) (hab : a = 2 * b)
    (hext : a * a * ((Thick.ctxOf l).D * (Thick.ctxOf l).D + (Thick.ctxOf l).d * (Thick.ctxOf l).d) ≤
      ((Thick.ctxOf l).ph p - (Thick.ctxOf l).ph q) * ((Thick.ctxOf l).ph p - (Thick.ctxOf l).ph q)) :
    b ^ 2 * L2 l ≤ (cross l p - cross l q) ^ 2 := by
  rw [← L2_eq, ← sub_sub_sub_cancel_right _ _ ((Thick.ctxOf l).ph l.start)] at hext
  subst hab
  rw [ph_cross_om l p, ph_cross_om l q] at hext
  rcases Thick.StrokeCtx.om_cases (Thick.ctxOf_valid l).ax with ho | ho <;> rw [ho] at hext <;> linarith

/-- **The middle slab of a stroked line in the oracle's metrics**: two pixels in the middle slab that
are `w - 3` pixels apart across the line, `w - 2` in the regimes of `Thick.MidRegime`. -/
theorem middle_width (l : Line) (hnd : l.start ≠ l.stop) (w : Nat) (hw : 1 ≤ w) (hw2 : w ≤ 2147483647)
    (ps : List Pt) (h : Thick.thickPoints l w = some ps) :
    ∃ p ∈ ps, ∃ q ∈ ps, ∃ E : Int, (2 * dot l p - L2 l) ^ 2 ≤ 4 * L2 l ∧
      (2 * dot l q - L2 l) ^ 2 ≤ 4 * L2 l ∧ Thick.ExtraParallels l w E ∧
      (3 ≤ w → ((w : Int) - 3) ^ 2 * L2 l ≤ (cross l p - cross l q) ^ 2) ∧
      (3 ≤ w → Thick.MidRegime (majorLen l) (minorLen l) (L2 l) w E →
        ((w : Int) - 2) ^ 2 * L2 l ≤ (cross l p - cross l q) ^ 2) := by
  obtain ⟨p, hp, q, hq, E, m1, m2, hE, h3, h2⟩ := Thick.thickPoints_mid_extent l hnd w hw hw2 ps h
  refine ⟨p, hp, q, hq, E, (inMid_iff l p).mp m1, (inMid_iff l q).mp m2, hE,
    fun hw3 => cross_extent l p q _ ((w : Int) - 3) (by ring) (h3 hw3), fun hw3 hreg => ?_⟩
  rw [majorLen_eq, minorLen_eq, L2_eq] at hreg
  exact cross_extent l p q _ ((w : Int) - 2) (by ring) (h2 (by omega) hreg)

end EG.C17.Stroke
