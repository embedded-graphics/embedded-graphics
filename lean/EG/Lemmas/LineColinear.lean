/-
  EG.Lemmas.LineColinear — `Line::points()` of a colinear sub-segment.
  For a lattice point `B` on the segment `A C` (`Between A B C`: colinear and inside the box of
  `A`, `C`) the Bresenham walk from `A` to `B` is a prefix of the walk from `A` to `C`, and the walk
  from `B` to `C` is its suffix: `points(A C) = points(A B) ++ tail (points(B C))`.
  Reason: the minor-step counter `mAt dmaj dmin k` is the only integer within the error bounds
  `-dmaj < 2 (dmin k - dmaj m) ≤ dmaj` (`mAt_unique`); the bounds are invariant under scaling
  `(dmaj, dmin)` by a positive rational (`mAt_proportional`) and under restarting the walk in a
  point that lies exactly on the ideal line, where the error is 0 (`mAt_shift`).
  Used by EG.Lemmas.TriangleColinear: a zero-area triangle is rasterised as the single line between
  its `(y, x)`-extreme vertices, and that line contains the pixels of all three edge lines.
-/
import EG.Lemmas.LineProps
import Mathlib.Tactic.Linarith
import Mathlib.Tactic.Ring
namespace EG
namespace Line

/-- Scaling `(dmaj, dmin)` by a positive rational does not change the walk. -/
theorem mAt_proportional {D d D' d' : Int} (h0 : 0 ≤ d) (h1 : d ≤ D) (hpos : 0 < D)
    (h0' : 0 ≤ d') (h1' : d' ≤ D') (hpos' : 0 < D') (hp : D' * d = D * d') (k : Nat) :
    mAt D' d' k = mAt D d k := by
  obtain ⟨h3, h4⟩ := err_bounds h0 h1 hpos k
  generalize mAt D d k = m at *
  -- the error of `(D', d')` at `m`, times `D`, is the error of `(D, d)` times `D'`
  have key : D * (2 * (d' * (k : Int) - D' * m)) = D' * (2 * (d * (k : Int) - D * m)) := by
    have e1 : D * (2 * (d' * (k : Int) - D' * m)) = 2 * (D * d' * (k : Int)) - 2 * (D * D' * m) := by ring
    have e2 : D' * (2 * (d * (k : Int) - D * m)) = 2 * (D' * d * (k : Int)) - 2 * (D * D' * m) := by ring
    rw [e1, e2, hp]
  -- the bounds `-D < E ≤ D` times `D'`, read through `key`, and `D` cancelled
  have a1 : D * (-D') < D * (2 * (d' * (k : Int) - D' * m)) := by
    rw [key, Int.mul_neg, Int.mul_comm, ← Int.mul_neg]
    exact Int.mul_lt_mul_of_pos_left h3 hpos'
  have a2 : D * (2 * (d' * (k : Int) - D' * m)) ≤ D * D' := by
    rw [key, Int.mul_comm D D']
    exact Int.mul_le_mul_of_nonneg_left h4 (Int.le_of_lt hpos')
  exact mAt_unique h0' h1' hpos' k m (Int.lt_of_mul_lt_mul_left a1 (Int.le_of_lt hpos))
    (Int.le_of_mul_le_mul_left a2 hpos)

/-- Restarting the walk in a point exactly on the ideal line (`dmin k0 = dmaj m0`: the error is 0
there) continues the same walk. -/
theorem mAt_shift {D d : Int} (h0 : 0 ≤ d) (h1 : d ≤ D) (hpos : 0 < D) (k0 : Nat) (m0 : Int)
    (hon : d * (k0 : Int) = D * m0) (j : Nat) : mAt D d (k0 + j) = m0 + mAt D d j := by
  obtain ⟨h3, h4⟩ := err_bounds h0 h1 hpos j
  apply mAt_unique h0 h1 hpos
  all_goals
    rw [Int.natCast_add, Int.mul_add, Int.mul_add, hon]
    omega

/-- `l'` and `l` are non-degenerate and point in the same direction: parallel deltas whose `x` parts
and whose `y` parts do not have opposite signs. -/
def SameDir (l' l : Line) : Prop :=
  dxOf l' * dyOf l = dyOf l' * dxOf l ∧ 0 ≤ dxOf l' * dxOf l ∧ 0 ≤ dyOf l' * dyOf l ∧
  l'.start ≠ l'.stop ∧ l.start ≠ l.stop

theorem sgn_eq_of_dir {a b a' b' : Int} (hp : a * b' = a' * b) (h : 0 ≤ a * b)
    (he : a ≠ 0 ∨ a' ≠ 0) (hd : b ≠ 0 ∨ b' ≠ 0) : sgn a = sgn b := by
  -- they vanish together
  have hz : a = 0 ↔ b = 0 := by
    constructor <;> intro e <;> subst e <;> simp at hp <;> omega
  have hi : 0 ≤ a ↔ 0 ≤ b := by
    rcases mul_nonneg_iff.mp h with ⟨h1, h2⟩ | ⟨h1, h2⟩ <;> omega
  unfold sgn
  simp only [ge_iff_le, hi]

theorem aabs_mul (a b : Int) : aabs (a * b) = aabs a * aabs b := by
  rw [aabs_eq_natAbs, aabs_eq_natAbs, aabs_eq_natAbs, Int.natAbs_mul, Int.natCast_mul]

theorem le_of_proportional {a E b D : Int} (ha : 0 ≤ a) (hb : 0 ≤ b) (hD : 0 ≤ D)
    (hp : a * D = E * b) (hne : a ≠ 0 ∨ E ≠ 0) (h : a ≤ E) : b ≤ D := by
  by_cases ha0 : 0 < a
  · exact Int.le_of_mul_le_mul_left (hp ▸ Int.mul_le_mul_of_nonneg_right h hb) ha0
  · have ha' : a = 0 := by omega
    subst ha'
    simp at hp
    omega

theorem ne_iff_delta (l : Line) : l.start ≠ l.stop ↔ (dxOf l ≠ 0 ∨ dyOf l ≠ 0) := by
  unfold dxOf dyOf
  rw [Ne, Pt.ext_iff']
  omega

theorem sameDir_facts {l' l : Line} (h : SameDir l' l) :
    (yMajor l' ↔ yMajor l) ∧ pmaj l' = pmaj l ∧ pmin l' = pmin l ∧ 0 < dmaj l' ∧ 0 < dmaj l ∧
    dmaj l' * dmin l = dmaj l * dmin l' := by
  obtain ⟨hp, hx, hy, hn', hn⟩ := h
  have he := (ne_iff_delta l').mp hn'
  have hd := (ne_iff_delta l).mp hn
  have sx := sgn_eq_of_dir hp hx he hd
  have sy := sgn_eq_of_dir hp.symm hy he.symm hd.symm
  have habs : aabs (dxOf l') * aabs (dyOf l) = aabs (dyOf l') * aabs (dxOf l) := by
    rw [← aabs_mul, ← aabs_mul, hp]
  have he' := he.imp (mt (aabs_eq_zero_iff _).mp) (mt (aabs_eq_zero_iff _).mp)
  have hd' := hd.imp (mt (aabs_eq_zero_iff _).mp) (mt (aabs_eq_zero_iff _).mp)
  have hiff : yMajor l' ↔ yMajor l :=
    ⟨le_of_proportional (aabs_nonneg _) (aabs_nonneg _) (aabs_nonneg _) habs he',
      le_of_proportional (aabs_nonneg _) (aabs_nonneg _) (aabs_nonneg _)
        (by rw [Int.mul_comm, ← habs, Int.mul_comm]) hd'⟩
  have p' : 0 < dmaj l' := by
    have := dmaj_nonneg l'
    have := (dmaj_zero_iff l').not.mpr hn'
    omega
  have p : 0 < dmaj l := by
    have := dmaj_nonneg l
    have := (dmaj_zero_iff l).not.mpr hn
    omega
  refine ⟨hiff, ?_, ?_, p', p, ?_⟩
  · simp only [pmaj, hiff, sx, sy]
  · simp only [pmin, hiff, sx, sy]
  · simp only [dmaj, dmin, hiff]
    split
    · rw [← habs, Int.mul_comm]
    · rw [habs, Int.mul_comm]

theorem ptAt_sameDir_start {l' l : Line} (h : SameDir l' l) (hs : l'.start = l.start) (k : Nat) :
    ptAt l' k = ptAt l k := by
  obtain ⟨_, e1, e2, p', p, hp⟩ := sameDir_facts h
  rw [ptAt_eq, ptAt_eq, hs, e1, e2,
    mAt_proportional (dmin_nonneg l) (dmin_le_dmaj l) p (dmin_nonneg l') (dmin_le_dmaj l') p' hp k]

/-- A line of the same direction that starts in pixel `k0` of `l`, a point exactly on the ideal
line (`m0` minor steps, `dmin k0 = dmaj m0`), continues the walk of `l`. -/
theorem ptAt_sameDir_shift {l' l : Line} (h : SameDir l' l) (k0 : Nat) (m0 : Int)
    (hs : l'.start = ⟨l.start.x + (k0 : Int) * (pmaj l).x + m0 * (pmin l).x,
                     l.start.y + (k0 : Int) * (pmaj l).y + m0 * (pmin l).y⟩)
    (hon : dmin l * (k0 : Int) = dmaj l * m0) (j : Nat) : ptAt l' j = ptAt l (k0 + j) := by
  obtain ⟨_, e1, e2, p', p, hp⟩ := sameDir_facts h
  rw [ptAt_eq, ptAt_eq, hs, e1, e2,
    mAt_proportional (dmin_nonneg l) (dmin_le_dmaj l) p (dmin_nonneg l') (dmin_le_dmaj l') p' hp j,
    mAt_shift (dmin_nonneg l) (dmin_le_dmaj l) p k0 m0 hon j, Pt.ext_iff']
  simp only [Int.natCast_add, Int.add_mul]
  exact ⟨by omega, by omega⟩

/-- `B` lies on the closed segment `A C`: colinear, and inside the box spanned by `A` and `C`. -/
def Between (A B C : Pt) : Prop :=
  (B.x - A.x) * (C.y - A.y) = (B.y - A.y) * (C.x - A.x) ∧
  min A.x C.x ≤ B.x ∧ B.x ≤ max A.x C.x ∧ min A.y C.y ≤ B.y ∧ B.y ≤ max A.y C.y

instance (A B C : Pt) : Decidable (Between A B C) := by unfold Between; exact inferInstance

theorem mul_nonneg_of_between {a b c : Int} (h1 : min a c ≤ b) (h2 : b ≤ max a c) :
    0 ≤ (b - a) * (c - a) ∧ 0 ≤ (c - b) * (c - a) := by
  by_cases h : a ≤ c
  · exact ⟨Int.mul_nonneg (by omega) (by omega), Int.mul_nonneg (by omega) (by omega)⟩
  · have e1 : (b - a) * (c - a) = (a - b) * (a - c) := by ring
    have e2 : (c - b) * (c - a) = (b - c) * (a - c) := by ring
    rw [e1, e2]
    exact ⟨Int.mul_nonneg (by omega) (by omega), Int.mul_nonneg (by omega) (by omega)⟩

theorem aabs_add_of_between {a b c : Int} (h1 : min a c ≤ b) (h2 : b ≤ max a c) :
    aabs (b - a) + aabs (c - b) = aabs (c - a) := by
  unfold aabs; omega

namespace Between
variable {A B C : Pt}

theorem eq_of_ends_eq (h : Between A B C) (e : A = C) : A = B ∧ B = C := by
  obtain ⟨_, x0, x1, y0, y1⟩ := h
  rw [Pt.ext_iff'] at e
  rw [Pt.ext_iff', Pt.ext_iff']
  omega

theorem sameDir_left (h : Between A B C) (hne : A ≠ B) : SameDir ⟨A, B⟩ ⟨A, C⟩ := by
  have hAC := fun e => hne (h.eq_of_ends_eq e).1
  obtain ⟨hc, x0, x1, y0, y1⟩ := h
  exact ⟨hc, (mul_nonneg_of_between x0 x1).1, (mul_nonneg_of_between y0 y1).1, hne, hAC⟩

theorem sameDir_right (h : Between A B C) (hne : B ≠ C) : SameDir ⟨B, C⟩ ⟨A, C⟩ := by
  have hAC := fun e => hne (h.eq_of_ends_eq e).2
  obtain ⟨hc, x0, x1, y0, y1⟩ := h
  refine ⟨?_, (mul_nonneg_of_between x0 x1).2, (mul_nonneg_of_between y0 y1).2, hne, hAC⟩
  -- the cross product of `C - B` and `C - A` is minus that of `B - A` and `C - A`
  show (C.x - B.x) * (C.y - A.y) = (C.y - B.y) * (C.x - A.x)
  have : (C.x - B.x) * (C.y - A.y) - (C.y - B.y) * (C.x - A.x) =
      -((B.x - A.x) * (C.y - A.y) - (B.y - A.y) * (C.x - A.x)) := by ring
  omega

theorem dmaj_add (h : Between A B C) : dmaj ⟨A, B⟩ + dmaj ⟨B, C⟩ = dmaj ⟨A, C⟩ := by
  by_cases h1 : A = B
  · subst h1
    rw [(dmaj_zero_iff ⟨A, A⟩).mpr rfl]; omega
  by_cases h2 : B = C
  · subst h2
    rw [(dmaj_zero_iff ⟨B, B⟩).mpr rfl]; omega
  obtain ⟨m1, _⟩ := sameDir_facts (h.sameDir_left h1)
  obtain ⟨m2, _⟩ := sameDir_facts (h.sameDir_right h2)
  obtain ⟨_, b1, b2, b3, b4⟩ := h
  simp only [dmaj, m1, m2]
  split
  · exact aabs_add_of_between b3 b4
  · exact aabs_add_of_between b1 b2

theorem ptAt_left (h : Between A B C) (k : Nat) (hk : (k : Int) ≤ dmaj ⟨A, B⟩) :
    ptAt ⟨A, B⟩ k = ptAt ⟨A, C⟩ k := by
  by_cases hne : A = B
  · subst hne
    rw [(dmaj_zero_iff ⟨A, A⟩).mpr rfl] at hk
    rw [show k = 0 by omega, ptAt_zero, ptAt_zero]
  · exact ptAt_sameDir_start (h.sameDir_left hne) rfl k

theorem ptAt_right (h : Between A B C) (j : Nat) (hj : (j : Int) ≤ dmaj ⟨B, C⟩) :
    ptAt ⟨B, C⟩ j = ptAt ⟨A, C⟩ ((dmaj ⟨A, B⟩).toNat + j) := by
  have n1 := dmaj_nonneg ⟨A, B⟩
  have hk : (((dmaj ⟨A, B⟩).toNat : Nat) : Int) = dmaj ⟨A, B⟩ := by omega
  by_cases h2 : B = C
  · subst h2
    rw [(dmaj_zero_iff ⟨B, B⟩).mpr rfl] at hj
    rw [show j = 0 by omega, ptAt_zero, Nat.add_zero, ← h.ptAt_left _ (by omega), ptAt_last _ _ hk]
  by_cases h1 : A = B
  · subst h1
    rw [(dmaj_zero_iff ⟨A, A⟩).mpr rfl]; simp
  obtain ⟨_, e1, e2, p', p, hp⟩ := sameDir_facts (h.sameDir_left h1)
  apply ptAt_sameDir_shift (h.sameDir_right h2) _ (dmin ⟨A, B⟩)
  · have hlast := ptAt_last ⟨A, B⟩ _ hk
    rw [ptAt_eq] at hlast
    rw [mAt_end (dmin_nonneg _) (dmin_le_dmaj _) p' _ hk, e1, e2] at hlast
    exact hlast.symm
  · rw [hk, Int.mul_comm]; exact hp

/-- **The line through a colinear middle point is the two segment lines with the joint emitted
once**: `points(A C) = points(A B) ++ tail (points(B C))`. -/
theorem points_append (h : Between A B C) :
    points ⟨A, C⟩ = points ⟨A, B⟩ ++ (points ⟨B, C⟩).tail := by
  have hadd := h.dmaj_add
  have n1 := dmaj_nonneg ⟨A, B⟩
  have n2 := dmaj_nonneg ⟨B, C⟩
  have e : (dmaj ⟨A, C⟩).toNat + 1 = ((dmaj ⟨A, B⟩).toNat + 1) + (dmaj ⟨B, C⟩).toNat := by omega
  rw [points_eq, points_eq, points_eq, e, List.range_add, List.map_append,
    List.range_succ_eq_map (n := (dmaj ⟨B, C⟩).toNat), List.map_cons, List.tail_cons, List.map_map, List.map_map]
  congr 1
  · apply List.map_congr_left
    intro k hk
    have := List.mem_range.mp hk
    exact (h.ptAt_left k (by omega)).symm
  · apply List.map_congr_left
    intro j hj
    have := List.mem_range.mp hj
    simp only [Function.comp]
    rw [h.ptAt_right (j + 1) (by omega)]
    congr 1
    omega

theorem mem_left (h : Between A B C) {p : Pt} (hp : p ∈ points ⟨A, B⟩) : p ∈ points ⟨A, C⟩ := by
  rw [h.points_append]
  exact List.mem_append_left _ hp

theorem mem_right (h : Between A B C) {p : Pt} (hp : p ∈ points ⟨B, C⟩) : p ∈ points ⟨A, C⟩ := by
  obtain ⟨j, hj, rfl⟩ := mem_points.mp hp
  have hadd := h.dmaj_add
  have n1 := dmaj_nonneg ⟨A, B⟩
  exact mem_points.mpr ⟨_, by omega, h.ptAt_right j hj⟩

end Between

end Line
end EG
