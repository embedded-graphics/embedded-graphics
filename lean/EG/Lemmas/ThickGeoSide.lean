/-
  EG.Lemmas.ThickGeoSide — a side of `ParallelsIterator` in closed form (`Side`, EG.Lemmas.ThickClosed),
  measured with the forms `ph` (phase / band) and `dt` (position along the line) of EG.Lemmas.ThickForms,
  whose values on the steps of the perpendicular walk are `FrameOK` (EG.Lemmas.ThickGeoFrame).

  The point of the phase logic of `next_parallel`: in the state `(i, j, E)` the side's perpendicular
  walker `w` and parallel error `e` satisfy
      ph(w.point) - ph(start) - e = tau n,    n = +-(i + E),    tau = ph(M') = +-2 D        (`Side.band`)
  i.e. a parallel started at the walker with the current error is exactly the band `n` of height
  `2 D`; a skipped `Extra` step (`j + 1`) leaves `n` untouched, a returned one (`E + 1`) or a major step
  (`i + 1`) moves on to the next band, and a returned `Extra` parallel (with its shifted start point and
  its returned error) lies in the band `n` too (`Side.parOK_extra`). Hence the bands of all parallels
  tile the plane: no pixel twice, no hole.
  The walker's own error is twice its position along the line: `2 (dt(w) - dt(start)) = sg w.error`
  (`Side.dt`); a `Normal` parallel starts within half a major step of the perpendicular through `start`,
  an `Extra` one between `D/2` and `D/2 + d` ahead of it (`ParOK`).
-/
import EG.Lemmas.ThickGeoFrame
import Mathlib.Tactic.Linarith
import Mathlib.Tactic.LinearCombination
set_option linter.unusedSimpArgs false
namespace EG
namespace Thick
open ParallelsIterator StrokeCtx

/-- A parallel `(b, ty)` in band `K`, with the bounds on its initial error and on the position of
its start point along the line. -/
def ParOK (c : StrokeCtx) (s : Pt) (K : Int) (b : Bresenham) (ty : ParallelLineType) : Prop :=
  c.ph b.point - c.ph s - b.error = K ∧ -c.D < b.error ∧
  (ty = .normal → b.error ≤ c.D ∧ -c.D ≤ 2 * (c.dt b.point - c.dt s) ∧
    2 * (c.dt b.point - c.dt s) ≤ c.D) ∧
  (ty = .extra → b.error ≤ 2 * c.d - c.D ∧ 0 < c.d ∧ c.D ≤ 2 * (c.dt b.point - c.dt s) ∧
    2 * (c.dt b.point - c.dt s) ≤ c.D + 2 * c.d)

theorem sg_cases (c : StrokeCtx) : sg c = 1 ∨ sg c = -1 := by unfold sg; split <;> simp

theorem dir_shift (c : StrokeCtx) (it : ParallelsIterator) (hperp : it.perpendicularParameters = c.perp)
    (s : LineSide) : it.dir s = s.sgn * dirL it.flip ∧ (it.shift s = true ↔ s.sgn * sg c = -1) := by
  unfold ParallelsIterator.dir ParallelsIterator.decr ParallelsIterator.shift dirL sg
  rw [hperp]
  cases s <;> cases it.flip <;> cases c.perp.mirrorExtraPoints <;> simp [LineSide.sgn]

/-- Unless the line is diagonal, a side shifts its extra points iff it increases its error. -/
theorem shift_eq_not_decr (c : StrokeCtx) (fl : Bool) (hfr : c.FrameOK fl) (hd : 0 < c.d)
    (hlt : c.d < c.D) (it : ParallelsIterator) (hperp : it.perpendicularParameters = c.perp)
    (hflip : it.flip = fl) (s : LineSide) : it.shift s = !it.decr s := by
  obtain ⟨hdir, hsh⟩ := dir_shift c it hperp s
  obtain ⟨_, hsg⟩ := hfr.obl hd hlt
  rw [hflip] at hdir
  rw [hsg] at hsh
  have hσ : s.sgn = 1 ∨ s.sgn = -1 := by rcases s.sgn_eps with ⟨a, _⟩ | ⟨a, _⟩ <;> simp [a]
  rcases dir_cases it s with ⟨q1, q2⟩ | ⟨q1, q2⟩ <;> rw [q1] <;> rw [q2] at hdir
  · -- `decrease_error`: not shifted
    cases hs : it.shift s
    · rfl
    · have := hsh.mp hs
      rcases hσ with a | a <;> rw [a] at hdir this <;> omega
  · cases hs : it.shift s
    · have : s.sgn * -dirL fl = -1 := by rcases hσ with a | a <;> rw [a] at hdir ⊢ <;> omega
      rw [hsh.mpr this] at hs; cases hs
    · rfl

namespace Side
variable {c : StrokeCtx} {fl : Bool} {s0 : Pt} {s : LineSide} {w : Bresenham} {e i j E : Int}

/-- **The band equation**: a parallel started at the walker with the side's error is the band `+-(i + E)`.
A minor step changes `ph` by `ph m' = tau - dirL (2 D - 2 d)` and the parallel error by `dirL 2 d`,
`- dirL 2 D` more if it wraps; where steps are skipped (`E < j`) the line is not diagonal and
`tau = dirL 2 D`. -/
theorem band (h : Side c fl s0 s w e i j E) (hfr : c.FrameOK fl) (hd0 : 0 ≤ c.d) :
    c.ph w.point - c.ph s0 - e = c.ph c.M' * (s.sgn * (i + E)) := by
  rw [h.pos, h.perr]
  unfold Thick.pos
  rw [ph_add, ph_add, ph_smul, ph_smul]
  by_cases hd : 0 < c.d
  · have h1 := hfr.phm hd
    by_cases hj : E < j
    · have h2 := (hfr.obl hd (h.obl hj)).1
      linear_combination (s.sgn * j) * h1 + (s.sgn * (j - E)) * h2
    · have : E = j := by have := h.cnt; omega
      subst this
      linear_combination (s.sgn * E) * h1
  · have hj := h.d0 (by omega)
    have : E = 0 := by have := h.cnt; omega
    subst hj this
    ring

theorem dt (h : Side c fl s0 s w e i j E) (hfr : c.FrameOK fl) (hd0 : 0 ≤ c.d) :
    2 * (c.dt w.point - c.dt s0) = sg c * w.error := by
  rw [h.pos, h.werr]
  unfold Thick.pos
  rw [dt_add, dt_add, dt_smul, dt_smul, hfr.dtM]
  by_cases hd : 0 < c.d
  · rw [hfr.dtm hd]; ring
  · rw [h.d0 (by omega)]; ring

theorem parOK_normal (h : Side c fl s0 s w e i j E) (hfr : c.FrameOK fl) (hd0 : 0 ≤ c.d)
    (hr : s.sgn * w.error ≤ c.D - s.eps) :
    ParOK c s0 (c.ph c.M' * (s.sgn * (i + E))) ⟨w.point, e⟩ .normal := by
  have hdt := h.dt hfr hd0
  have w1 := h.bnd.w1
  refine ⟨h.band hfr hd0, h.bnd.e1, fun _ => ⟨h.bnd.e2, ?_⟩, nofun⟩
  show -c.D ≤ 2 * (c.dt w.point - c.dt s0) ∧ 2 * (c.dt w.point - c.dt s0) ≤ c.D
  rcases s.sgn_eps with ⟨a, b⟩ | ⟨a, b⟩ <;> rw [a, b] at w1 hr <;>
    rcases sg_cases c with g | g <;> rw [g] at hdt <;> omega

/-- The `Extra` parallel returned at an `Extra` perpendicular point lies in the band of the state, between
`D/2` and `D/2 + d` ahead of the perpendicular through `start`. Its start point is the walker after the
minor step, moved back by a major step, if the side shifts its extra points (`sh`), else the walker
before the step; `er` is its initial error. -/
theorem parOK_extra (h : Side c fl s0 s w e i j E) (hfr : c.FrameOK fl) (hd : 0 < c.d)
    (hx : ¬ s.sgn * w.error ≤ c.D - s.eps) (sh : Bool) (hsh : sh = true ↔ s.sgn * sg c = -1)
    (er : Int) (her1 : -c.D < er) (her2 : er ≤ 2 * c.d - c.D)
    (hk : (if sh then s.sgn * (c.ph c.m' - c.ph c.M') else 0) = er - e) :
    ParOK c s0 (c.ph c.M' * (s.sgn * (i + E)))
      ⟨if sh then s.swap.move (s.move w.point c.m') c.M' else w.point, er⟩ .extra := by
  have hph := h.band hfr (Int.le_of_lt hd)
  have hdt := h.dt hfr (Int.le_of_lt hd)
  have w2 := h.bnd.w2
  have hdtM := hfr.dtM; have hdtm := hfr.dtm hd
  refine ⟨?_, her1, nofun, fun _ => ⟨her2, hd, ?_⟩⟩
  · show c.ph (if sh then _ else _) - c.ph s0 - er = _
    cases sh
    · simp only [Bool.false_eq_true, ↓reduceIte] at hk ⊢; linarith
    · simp only [↓reduceIte] at hk ⊢
      rw [ph_move, ph_move, LineSide.sgn_swap]; linarith
  · show c.D ≤ 2 * (c.dt (if sh then _ else _) - c.dt s0) ∧
      2 * (c.dt (if sh then _ else _) - c.dt s0) ≤ c.D + 2 * c.d
    cases sh
    · have hs : s.sgn * sg c ≠ -1 := fun hc => by simpa using hsh.mpr hc
      simp only [Bool.false_eq_true, ↓reduceIte]
      rcases s.sgn_eps with ⟨a, b⟩ | ⟨a, b⟩ <;> simp only [a, b] at hx w2 hs <;>
        rcases sg_cases c with g | g <;> simp only [g] at hdt hs <;> omega
    · have hs := hsh.mp rfl
      simp only [↓reduceIte]
      rw [dt_move, dt_move, LineSide.sgn_swap, hdtM, hdtm]
      rcases s.sgn_eps with ⟨a, b⟩ | ⟨a, b⟩ <;> simp only [a, b] at hx w2 hs ⊢ <;>
        rcases sg_cases c with g | g <;> simp only [g] at hdt hs ⊢ <;> omega

end Side

theorem StartOK.parOK {c : StrokeCtx} {fl : Bool} {s0 : Pt} {s : LineSide} {it it' : ParallelsIterator}
    {i j E : Int} {b : Bresenham} {ty : ParallelLineType} {x : Int} {k : Nat}
    (h : StartOK c fl s0 s it it' i j E b ty x k) (hv : c.Valid) (hfr : c.FrameOK fl)
    (hperp : it.perpendicularParameters = c.perp) (hflip : it.flip = fl)
    (hS : Side c fl s0 s (it.walk s) (it.sideError s) i j E) :
    ParOK c s0 (c.ph c.M' * (s.sgn * (i + E))) b ty := by
  rcases h with ⟨-, rfl, w, hp, hw, hr⟩ | ⟨-, -, rfl, hp, he, hd, hr, -, b1, b2, hnew⟩
  · have := hw.parOK_normal hfr hv.hd0 hr
    rw [← hp] at this
    exact this
  · obtain ⟨-, hsh⟩ := dir_shift c it hperp s
    have hσ : s.sgn = 1 ∨ s.sgn = -1 := by rcases s.sgn_eps with ⟨a, _⟩ | ⟨a, _⟩ <;> simp [a]
    have hphm := hfr.phm hd
    have g := hS.parOK_extra hfr hd hr (it.shift s) hsh (it.extraErr s) (he ▸ b1) (he ▸ b2) (by
      -- the shift of the point is the error step of the side: both vanish on diagonals, else the
      -- shifted side is the one that returns its stepped error
      have hμ : s.sgn * (c.ph c.m' - c.ph c.M') = s.sgn * dirL fl * (2 * c.d - 2 * c.D) := by
        rcases hσ with a | a <;> rw [a] <;> linarith
      unfold ParallelsIterator.extraErr
      rw [hnew, hμ]
      by_cases hlt : c.d < c.D
      · rw [shift_eq_not_decr c fl hfr hd hlt it hperp hflip s]
        cases it.decr s <;> simp
      · have hDd : c.d = c.D := by have := hv.hdD; omega
        rw [hDd]
        cases it.shift s <;> cases it.decr s <;> simp)
    have hb : b = ⟨it.extraStart s, it.extraErr s⟩ := by
      cases b
      simp only at hp he
      rw [hp, he]
    rw [hb]
    unfold ParallelsIterator.extraStart
    rw [hperp]
    exact g

end Thick
end EG
