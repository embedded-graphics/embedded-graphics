/-
  EG.Lemmas.ThickGeoMain — stroked lines: no pixel twice, and every pixel projects to within half a
  major step of the segment (hence within one pixel of its two ends).
  * `new_ninv`, `stroke_run`: the fresh iterator satisfies the band / position invariant with no
    parallel yielded, and the pixels of the stroke are the points of the parallels of its run;
  * `thickPoints_nodup`: bands of different parallels are disjoint, and within a parallel the major
    coordinate increases strictly;
  * `thickPoints_dt_bounds`: `-D <= 2 (dt q - dt start)` and `2 (dt q - dt start) <= 2 L2 + D`.
-/
import EG.Lemmas.ThickGeoRun
import EG.Lemmas.ThickGeoBres
import EG.Lemmas.ThickArith
import EG.Lemmas.ThickTotal
set_option linter.unusedSimpArgs false
namespace EG
namespace Thick
open ParallelsIterator StrokeCtx Line

/-- The fresh iterator satisfies the invariant: no parallel yielded on either side; the left walker has
taken the major step that skips the centre line. -/
theorem new_ninvC (l : Line) (t : Int) :
    ∃ it, ParallelsIterator.new l t .none = some it ∧
      NInvC (ctxOf l) l.start (flipOf l) it (0, 0) (1, 0) (0, 0) (0, 0) ∧
      it.thicknessAccumulator = (ctxOf l).D + (ctxOf l).d ∧
      it.thicknessThreshold = t * 2 * (t * 2) *
        (dxOf (paramLine l) * dxOf (paramLine l) + dyOf (paramLine l) * dyOf (paramLine l)) := by
  obtain ⟨it, hnew, hs, hso, hcl, hacc, hthr⟩ := new_closed l t
  refine ⟨it, hnew, ⟨hcl, hso, fun s => ?_, Or.inl ⟨hs, rfl⟩⟩, hacc, hthr⟩
  cases s <;> rfl

theorem new_ninv (l : Line) (t : Int) :
    ∃ it, ParallelsIterator.new l t .none = some it ∧
      NInv (ctxOf l) l.start (flipOf l) it (0, 0) ∧
      it.thicknessAccumulator = (ctxOf l).D + (ctxOf l).d ∧
      it.thicknessThreshold = t * 2 * (t * 2) *
        (dxOf (paramLine l) * dxOf (paramLine l) + dyOf (paramLine l) * dyOf (paramLine l)) := by
  obtain ⟨it, hnew, hg, hacc, hthr⟩ := new_ninvC l t
  exact ⟨it, hnew, ⟨_, _, _, hg⟩, hacc, hthr⟩

theorem L2_eq (l : Line) :
    dxOf (paramLine l) * dxOf (paramLine l) + dyOf (paramLine l) * dyOf (paramLine l) =
      (ctxOf l).D * (ctxOf l).D + (ctxOf l).d * (ctxOf l).d :=
  (dmaj_dmin_squares (paramLine l)).symm

/-- **The run of a stroke**: the iterator of `ThickPoints::new` satisfies the invariant with no
parallel yielded, its accumulator starts at `D + d`, its threshold is `(2 t)^2 L2`
(`t = width.saturating_as()`), it has a run `xs`, and the pixels of the stroke are the points of the
parallels of `xs` (width 0: the threshold is 0, the run is empty, and so is the stroke). -/
theorem stroke_run (l : Line) (w : Nat) :
    ∃ it xs, ParallelsIterator.new l (satAsI32 w) .none = some it ∧
      NInvC (ctxOf l) l.start (flipOf l) it (0, 0) (1, 0) (0, 0) (0, 0) ∧
      it.thicknessAccumulator = (ctxOf l).D + (ctxOf l).d ∧
      it.thicknessThreshold = satAsI32 w * 2 * (satAsI32 w * 2) *
        ((ctxOf l).D * (ctxOf l).D + (ctxOf l).d * (ctxOf l).d) ∧
      Run it xs ∧ ∀ ps, thickPoints l w = some ps → ps = segs (ctxOf l).pp (majorLength l) xs := by
  obtain ⟨it, hnew, hg, hacc, hthr⟩ := new_ninvC l (satAsI32 w)
  rw [L2_eq] at hthr
  by_cases hw : w = 0
  · refine ⟨it, [], hnew, hg, hacc, hthr, Run.done (it' := it) (next_done it ?_), fun ps hps => ?_⟩
    · have : 0 < (ctxOf l).D + (ctxOf l).d := by
        have := (ctxOf_valid l).hD; have := (ctxOf_valid l).hd0; omega
      rw [hthr, hacc, hw, show satAsI32 0 = 0 by decide]
      simp only [Int.zero_mul, gt_iff_lt]
      exact Int.mul_pos this this
    · rw [hw, thickPoints_width0] at hps
      simp only [Option.some.injEq] at hps
      rw [← hps]; rfl
  · obtain ⟨ps', hps'⟩ := thickPoints_total l w
    obtain ⟨it', xs, hnew', hrun, h⟩ := thickPoints_run l w hw ps' hps'
    obtain rfl := Option.some.inj (hnew.symm.trans hnew')
    refine ⟨it, xs, hnew, hg, hacc, hthr, hrun, fun ps hps => ?_⟩
    rw [hps'] at hps
    simp only [Option.some.injEq] at hps
    rw [← hps]; exact h

theorem parOK_err {c : StrokeCtx} (hv : c.Valid) {s : Pt} {K : Int} {b : Bresenham}
    {ty : ParallelLineType} (h : ParOK c s K b ty) : -c.D < b.error ∧ b.error ≤ 3 * c.D := by
  have hD := hv.hD
  have hdD := hv.hdD
  obtain ⟨_, h1, h2, h3⟩ := h
  cases ty with
  | normal => have := (h2 rfl).1; omega
  | extra => have := (h3 rfl).1; omega

theorem parPts_band {c : StrokeCtx} (hv : c.Valid) {s : Pt} {K : Int} {b : Bresenham}
    {ty : ParallelLineType} (h : ParOK c s K b ty) (n : Nat) (q : Pt) (hq : q ∈ parPts n b c.pp) :
    -c.D < c.ph q - c.ph s - K ∧ c.ph q - c.ph s - K ≤ c.D := by
  obtain ⟨e1, e2⟩ := parOK_err hv h
  obtain ⟨k, _, _, _, hb⟩ := parPts_mem_geo c hv n b e1 e2 q hq
  unfold InBandK bandK at hb
  have := h.1
  constructor <;> omega

theorem segs_nodup (c : StrokeCtx) (hv : c.Valid) (fl : Bool) (hfr : c.FrameOK fl) (s : Pt) (len : Nat) :
    ∀ (xs : List ParItem), (∀ x ∈ xs, ∃ n : Int, ParOK c s (c.ph c.M' * n) x.2.1 x.2.2) →
    xs.Pairwise (fun x y => bandOf c s x ≠ bandOf c s y) → (segs c.pp len xs).Nodup
  | [], _, _ => by simp [segs]
  | x :: xs, hall, hpw => by
    rw [segs_cons, List.nodup_append]
    obtain ⟨hx, hrest⟩ := List.pairwise_cons.mp hpw
    obtain ⟨n, hok⟩ := hall x List.mem_cons_self
    refine ⟨parPts_nodup c hv _ _ (parOK_err hv hok).2, segs_nodup c hv fl hfr s len xs
      (fun y hy => hall y (List.mem_cons_of_mem _ hy)) hrest, ?_⟩
    intro p hp q hq hpq
    subst hpq
    obtain ⟨y, hy, hqy⟩ := List.mem_flatMap.mp hq
    obtain ⟨m, hoky⟩ := hall y (List.mem_cons_of_mem _ hy)
    have hne := hx y hy
    unfold bandOf at hne
    rw [hok.1, hoky.1] at hne
    have hnm : n ≠ m := fun h => hne (by rw [h])
    obtain ⟨a1, a2⟩ := parPts_band hv hok _ p hp
    obtain ⟨a3, a4⟩ := parPts_band hv hoky _ p hqy
    exact band_sep c.D (c.ph c.M') hv.hD (tau_cases hfr) n m hnm (c.ph p - c.ph s) a1 a2 a3 a4

theorem thickPoints_nodup (l : Line) (w : Nat) (ps : List Pt) (hps : thickPoints l w = some ps) :
    ps.Nodup := by
  obtain ⟨it, xs, _, hgC, _, _, hrun, h⟩ := stroke_run l w
  have hg : NInv (ctxOf l) l.start (flipOf l) _ (0, 0) := ⟨_, _, _, hgC⟩
  rw [h ps hps]
  have hv := ctxOf_valid l
  have hfr := frameOK_ctxOf l
  obtain ⟨h1, h2⟩ := run_bands (ctxOf l) hv _ hfr l.start hrun (0, 0) hg
  exact segs_nodup (ctxOf l) hv _ hfr l.start _ xs
    (fun x hx => by obtain ⟨n, _, hn⟩ := h1 x hx; exact ⟨n, hn⟩) h2

/-- `dt` is the dot product with the direction of the stroke (`paramLine l`: the line itself, or
`HORIZONTAL_LINE` for a zero-length line). -/
theorem dt_eq (l : Line) (p : Pt) :
    (ctxOf l).dt p = dxOf (paramLine l) * p.x + dyOf (paramLine l) * p.y := by
  have h := delta_decomp (paramLine l)
  rw [Pt.ext_iff'] at h
  simp only [Pt.sub_x, Pt.sub_y, Pt.add_x, Pt.add_y, smul_x, smul_y] at h
  obtain ⟨hx, hy⟩ := h
  have hx' : dxOf (paramLine l) = (ctxOf l).D * (ctxOf l).M.x + (ctxOf l).d * (ctxOf l).m.x := hx
  have hy' : dyOf (paramLine l) = (ctxOf l).D * (ctxOf l).M.y + (ctxOf l).d * (ctxOf l).m.y := hy
  rw [hx', hy']
  unfold dt amaj amin
  ring

theorem lenOf_le (l : Line) (ty : ParallelLineType) :
    (ty = .normal → (lenOf (majorLength l) ty : Int) ≤ (ctxOf l).D + 1) ∧
    (ty = .extra → (lenOf (majorLength l) ty : Int) ≤ (ctxOf l).D) := by
  have hD := (ctxOf_valid l).hD
  have hlen : (majorLength l : Int) ≤ (ctxOf l).D + 1 := by
    by_cases hdeg : l.start = l.stop
    · rw [majorLength_eq, (dmaj_zero_iff l).mpr hdeg]
      simp only [Int.toNat_zero, Nat.zero_add, Nat.cast_one]
      omega
    · have hp : paramLine l = l := by simp [paramLine, hdeg]
      have : (ctxOf l).D = dmaj l := by unfold ctxOf; rw [hp]
      rw [majorLength_eq, this]
      have := dmaj_nonneg l
      omega
  have hpos := majorLength_pos l
  constructor
  · intro h; subst h; exact hlen
  · intro h; subst h
    show ((majorLength l - 1 : Nat) : Int) ≤ _
    omega

theorem par_dt_bounds (l : Line) (K : Int) (b : Bresenham) (ty : ParallelLineType)
    (hok : ParOK (ctxOf l) l.start K b ty) (q : Pt)
    (hq : q ∈ parPts (lenOf (majorLength l) ty) b (ctxOf l).pp) :
    (ctxOf l).dt b.point ≤ (ctxOf l).dt q ∧
    (ty = .normal → (ctxOf l).dt q - (ctxOf l).dt b.point ≤
      (ctxOf l).D * (ctxOf l).D + (ctxOf l).d * (ctxOf l).d) ∧
    (ty = .extra → (ctxOf l).dt q - (ctxOf l).dt b.point ≤
      (ctxOf l).D * (ctxOf l).D + (ctxOf l).d * (ctxOf l).d - (ctxOf l).D - (ctxOf l).d) := by
  have hv := ctxOf_valid l
  have hD := hv.hD
  have hd0 := hv.hd0
  obtain ⟨e1, e2⟩ := parOK_err hv hok
  obtain ⟨k, hk, ha, hm, hb⟩ := parPts_mem_geo (ctxOf l) hv _ b e1 e2 q hq
  obtain ⟨hb1, _⟩ := hb
  unfold bandK ph at hb1
  obtain ⟨hlen1, hlen2⟩ := lenOf_le l ty
  -- `q` is `k` major and `j` minor steps from the start; the lower edge of the band bounds `j`
  obtain ⟨j, hj⟩ : ∃ j, (ctxOf l).amin q = (ctxOf l).amin b.point + j :=
    ⟨(ctxOf l).amin q - (ctxOf l).amin b.point, by omega⟩
  have hj0 : 0 ≤ j := by omega
  have hkey : 2 * (ctxOf l).D * j < b.error + 2 * (ctxOf l).d * (k : Int) + (ctxOf l).D := by
    rw [ha, hj] at hb1; linarith
  obtain ⟨a1, a2⟩ := par_dt_arith (ctxOf l).D (ctxOf l).d b.error k j hD hd0 hkey
  have hdt : (ctxOf l).dt q - (ctxOf l).dt b.point = (ctxOf l).D * (k : Int) + (ctxOf l).d * j := by
    unfold dt; rw [ha, hj]; ring
  have hk0 : 0 ≤ (ctxOf l).D * (k : Int) := Int.mul_nonneg (by omega) (by omega)
  have hj0' : 0 ≤ (ctxOf l).d * j := Int.mul_nonneg hd0 hj0
  refine ⟨by omega, ?_, ?_⟩
  · intro hty
    rw [hdt]
    have := hlen1 hty
    obtain ⟨_, _, o1, _⟩ := hok
    exact a1 (o1 hty).1 (by omega)
  · intro hty
    rw [hdt]
    have := hlen2 hty
    obtain ⟨_, _, _, o2⟩ := hok
    obtain ⟨g1, g2, _, _⟩ := o2 hty
    exact a2 g1 (by omega) (by omega)

theorem thickPoints_dt_bounds (l : Line) (w : Nat) (ps : List Pt) (hps : thickPoints l w = some ps) :
    ∀ q ∈ ps, -(ctxOf l).D ≤ 2 * ((ctxOf l).dt q - (ctxOf l).dt l.start) ∧
      2 * ((ctxOf l).dt q - (ctxOf l).dt l.start) ≤
        2 * ((ctxOf l).D * (ctxOf l).D + (ctxOf l).d * (ctxOf l).d) + (ctxOf l).D := by
  obtain ⟨it, xs, _, hgC, _, _, hrun, h⟩ := stroke_run l w
  have hg : NInv (ctxOf l) l.start (flipOf l) _ (0, 0) := ⟨_, _, _, hgC⟩
  rw [h ps hps]
  have hv := ctxOf_valid l
  have hD := hv.hD
  have hd0 := hv.hd0
  have hfr := frameOK_ctxOf l
  obtain ⟨h1, _⟩ := run_bands (ctxOf l) hv _ hfr l.start hrun (0, 0) hg
  intro q hq
  obtain ⟨x, hx, hqx⟩ := List.mem_flatMap.mp hq
  obtain ⟨n, _, hok⟩ := h1 x hx
  obtain ⟨b1, b2, b3⟩ := par_dt_bounds l _ x.2.1 x.2.2 hok q hqx
  obtain ⟨_, _, o1, o2⟩ := hok
  cases hty : x.2.2 with
  | normal =>
    obtain ⟨_, g1, g2⟩ := o1 hty
    have := b2 hty
    constructor <;> omega
  | extra =>
    obtain ⟨_, _, g1, g2⟩ := o2 hty
    have := b3 hty
    constructor <;> omega

end Thick
end EG
