/-
  EG.Lemmas.JoinsJoin — `LineJoin::{start, end, from_points}` commute with translation: corners move
  by `d`, the join kind (miter / bevel / degenerate / colinear) is unchanged.
  The only guard is `EdgesNoSat` / `JoinNoSat`: where a rounded intersection point is used (not
  discarded by `nearly_colinear_has_error`), its `i32` casts do not saturate.

  The corners of `from_points` read side by side (`fromExtents_sides`): on each side they are the
  ends of that side's two edge lines, or both are the point picked for that side. So a property of
  points that the edge-line ends and the used intersection points have, all corners have
  (`fromExtents_left_of`, `fromExtents_right_of`, `fromExtents_all`; `LineJoin.All`).
-/
import EG.Lemmas.JoinsExtents
set_option linter.unusedSimpArgs false
namespace EG
namespace Joins
open Thick (LineSide StrokeOffset)

def EdgeCorners.translate (c : EdgeCorners) (d : Pt) : EdgeCorners := ⟨c.left + d, c.right + d⟩

def LineJoin.translate (j : LineJoin) (d : Pt) : LineJoin :=
  ⟨j.kind, j.firstEdgeEnd.translate d, j.secondEdgeStart.translate d⟩

theorem extents_of_start {s m : Pt} {w : Nat} {off : StrokeOffset} {j : LineJoin}
    (h : LineJoin.start s m w off = some j) :
    ∃ l r, extents ⟨s, m⟩ w off = some (l, r) ∧ j = ⟨.start, ⟨l.start, r.start⟩, ⟨l.start, r.start⟩⟩ := by
  unfold LineJoin.start at h
  rcases he : extents ⟨s, m⟩ w off with _ | ⟨l, r⟩
  · rw [he] at h; cases h
  · rw [he] at h; exact ⟨l, r, rfl, (Option.some.inj h).symm⟩

theorem extents_of_stop {m e : Pt} {w : Nat} {off : StrokeOffset} {j : LineJoin}
    (h : LineJoin.stop m e w off = some j) :
    ∃ l r, extents ⟨m, e⟩ w off = some (l, r) ∧ j = ⟨.stop, ⟨l.stop, r.stop⟩, ⟨l.stop, r.stop⟩⟩ := by
  unfold LineJoin.stop at h
  rcases he : extents ⟨m, e⟩ w off with _ | ⟨l, r⟩
  · rw [he] at h; cases h
  · rw [he] at h; exact ⟨l, r, rfl, (Option.some.inj h).symm⟩

theorem extents_of_fromPoints {a m b : Pt} {w : Nat} {off : StrokeOffset} {j : LineJoin}
    (h : LineJoin.fromPoints a m b w off = some j) :
    ∃ fl fr sl sr, extents ⟨a, m⟩ w off = some (fl, fr) ∧ extents ⟨m, b⟩ w off = some (sl, sr) ∧
      j = LineJoin.fromExtents m w fl fr sl sr := by
  unfold LineJoin.fromPoints at h
  obtain ⟨⟨fl, fr⟩, h1, h⟩ := Option.bind_eq_some_iff.mp h
  obtain ⟨⟨sl, sr⟩, h2, h⟩ := Option.bind_eq_some_iff.mp h
  exact ⟨fl, fr, sl, sr, h1, h2, (Option.some.inj h).symm⟩

theorem line_mk_translate (a b d : Pt) : (⟨a + d, b + d⟩ : Line) = (⟨a, b⟩ : Line).translate d := rfl

theorem start_translate (s m : Pt) (w : Nat) (off : StrokeOffset) (d : Pt) :
    LineJoin.start (s + d) (m + d) w off = (LineJoin.start s m w off).map (·.translate d) := by
  unfold LineJoin.start
  rw [line_mk_translate, extents_translate]
  cases extents ⟨s, m⟩ w off with
  | none => rfl
  | some r => rfl

theorem stop_translate (m e : Pt) (w : Nat) (off : StrokeOffset) (d : Pt) :
    LineJoin.stop (m + d) (e + d) w off = (LineJoin.stop m e w off).map (·.translate d) := by
  unfold LineJoin.stop
  rw [line_mk_translate, extents_translate]
  cases extents ⟨m, e⟩ w off with
  | none => rfl
  | some r => rfl

/-- The result of the private `intersections`, moved by `d`. -/
def shiftInter (r : Pt × LineSide × Pt) (d : Pt) : Pt × LineSide × Pt := (r.1 + d, r.2.1, r.2.2 + d)

/-- "In the two intersections of this join, the rounded point is discarded
(`nearly_colinear_has_error`) or no cast saturates, before or after the move." -/
def EdgesNoSat (fl fr sl sr : Line) (d : Pt) : Prop :=
  (IntersectionParams.fromLines sl fl).PointOK d ∧ (IntersectionParams.fromLines sr fr).PointOK d

instance (fl fr sl sr : Line) (d : Pt) : Decidable (EdgesNoSat fl fr sl sr d) := by
  unfold EdgesNoSat; exact inferInstance

/-- One intersection of `intersections`, with its fallback: `(point or fallback, outer side)`. -/
def pickPoint (l1 l2 : Line) (fallback : Pt) : Option (Pt × LineSide) :=
  match (IntersectionParams.fromLines l1 l2).intersection with
  | .colinear => none
  | .point point outerSide =>
    some (if !(IntersectionParams.fromLines l1 l2).nearlyColinearHasError then point else fallback,
      outerSide)

theorem pickPoint_translate (l1 l2 : Line) (fallback d : Pt)
    (h : (IntersectionParams.fromLines l1 l2).PointOK d) :
    pickPoint (l1.translate d) (l2.translate d) (fallback + d) =
      (pickPoint l1 l2 fallback).map (fun r => (r.1 + d, r.2)) := by
  unfold pickPoint
  rw [nearlyColinearHasError_translate]
  rcases h with he | hns
  · have hshape := intersection_translate_shape l1 l2 d
    cases hi : (IntersectionParams.fromLines l1 l2).intersection with
    | colinear => rw [hi] at hshape; simp only [] at hshape; rw [hshape]; rfl
    | point p s =>
      rw [hi] at hshape
      simp only [] at hshape
      obtain ⟨p', hp'⟩ := hshape
      rw [hp']
      simp only [he, Bool.not_true, Bool.false_eq_true, ↓reduceIte, Option.map_some]
  · rw [intersection_translate l1 l2 d hns]
    cases (IntersectionParams.fromLines l1 l2).intersection with
    | colinear => rfl
    | point p s =>
      simp only [Intersection.translate, Option.map_some]
      cases (IntersectionParams.fromLines l1 l2).nearlyColinearHasError <;> rfl

theorem intersections_eq (fl fr sl sr : Line) :
    intersections fl fr sl sr =
      match pickPoint sl fl fl.stop with
      | none => none
      | some (li, side) =>
        match pickPoint sr fr fr.stop with
        | none => none
        | some (ri, _) => some (li, side, ri) := by
  unfold intersections pickPoint
  simp only []
  cases (IntersectionParams.fromLines sl fl).intersection with
  | colinear => rfl
  | point p1 s1 =>
    simp only []
    cases (IntersectionParams.fromLines sr fr).intersection with
    | colinear => rfl
    | point p2 s2 => rfl

/-- What `pickPoint` hands back: the fallback, or a rounded point that is USED. -/
theorem pickPoint_cases {l1 l2 : Line} {fb : Pt} {r : Pt × LineSide} (h : pickPoint l1 l2 fb = some r) :
    r.1 = fb ∨ ((IntersectionParams.fromLines l1 l2).intersection = .point r.1 r.2 ∧
      (IntersectionParams.fromLines l1 l2).nearlyColinearHasError = false) := by
  unfold pickPoint at h
  split at h
  · cases h
  · rename_i p s hi
    cases h
    cases hn : (IntersectionParams.fromLines l1 l2).nearlyColinearHasError
    · exact Or.inr ⟨hi, rfl⟩
    · exact Or.inl rfl

/-- **The corners of `from_points`, side by side**: on each side the two corners are the ends of that
side's edge lines, or both are the point `intersections` picked for that side. -/
theorem fromExtents_sides (mid : Pt) (w : Nat) (fl fr sl sr : Line) {j : LineJoin}
    (hj : LineJoin.fromExtents mid w fl fr sl sr = j) :
    (j.firstEdgeEnd.left = fl.stop ∧ j.secondEdgeStart.left = sl.start ∨
      ∃ r, pickPoint sl fl fl.stop = some r ∧ j.firstEdgeEnd.left = r.1 ∧ j.secondEdgeStart.left = r.1) ∧
    (j.firstEdgeEnd.right = fr.stop ∧ j.secondEdgeStart.right = sr.start ∨
      ∃ r, pickPoint sr fr fr.stop = some r ∧ j.firstEdgeEnd.right = r.1 ∧ j.secondEdgeStart.right = r.1) := by
  unfold LineJoin.fromExtents at hj
  rw [intersections_eq] at hj
  rcases h1 : pickPoint sl fl fl.stop with _ | ⟨li, side⟩
  · rw [h1] at hj; subst hj; exact ⟨.inl ⟨rfl, rfl⟩, .inl ⟨rfl, rfl⟩⟩
  rcases h2 : pickPoint sr fr fr.stop with _ | ⟨ri, s2⟩
  · rw [h1, h2] at hj; subst hj; exact ⟨.inl ⟨rfl, rfl⟩, .inl ⟨rfl, rfl⟩⟩
  rw [h1, h2] at hj
  cases side
  · dsimp only at hj
    split at hj
    · split at hj
      · subst hj; exact ⟨.inr ⟨_, rfl, rfl, rfl⟩, .inr ⟨_, rfl, rfl, rfl⟩⟩
      · subst hj; exact ⟨.inl ⟨rfl, rfl⟩, .inr ⟨_, rfl, rfl, rfl⟩⟩
    · subst hj; exact ⟨.inl ⟨rfl, rfl⟩, .inl ⟨rfl, rfl⟩⟩
  · dsimp only at hj
    split at hj
    · split at hj
      · subst hj; exact ⟨.inr ⟨_, rfl, rfl, rfl⟩, .inr ⟨_, rfl, rfl, rfl⟩⟩
      · subst hj; exact ⟨.inr ⟨_, rfl, rfl, rfl⟩, .inl ⟨rfl, rfl⟩⟩
    · subst hj; exact ⟨.inl ⟨rfl, rfl⟩, .inl ⟨rfl, rfl⟩⟩

theorem fromExtents_left_of {P : Pt → Prop} (mid : Pt) (w : Nat) {fl sl : Line} (fr sr : Line)
    (h1 : P fl.stop) (h2 : P sl.start)
    (hp : ∀ p s, (IntersectionParams.fromLines sl fl).intersection = .point p s →
      (IntersectionParams.fromLines sl fl).nearlyColinearHasError = false → P p) :
    P (LineJoin.fromExtents mid w fl fr sl sr).firstEdgeEnd.left ∧
      P (LineJoin.fromExtents mid w fl fr sl sr).secondEdgeStart.left := by
  rcases (fromExtents_sides mid w fl fr sl sr rfl).1 with ⟨a, b⟩ | ⟨r, hr, a, b⟩
  · rw [a, b]; exact ⟨h1, h2⟩
  · rw [a, b]
    rcases pickPoint_cases hr with e | ⟨hi, hn⟩
    · rw [e]; exact ⟨h1, h1⟩
    · exact ⟨hp _ _ hi hn, hp _ _ hi hn⟩

theorem fromExtents_right_of {P : Pt → Prop} (mid : Pt) (w : Nat) (fl sl : Line) {fr sr : Line}
    (h1 : P fr.stop) (h2 : P sr.start)
    (hp : ∀ p s, (IntersectionParams.fromLines sr fr).intersection = .point p s →
      (IntersectionParams.fromLines sr fr).nearlyColinearHasError = false → P p) :
    P (LineJoin.fromExtents mid w fl fr sl sr).firstEdgeEnd.right ∧
      P (LineJoin.fromExtents mid w fl fr sl sr).secondEdgeStart.right := by
  rcases (fromExtents_sides mid w fl fr sl sr rfl).2 with ⟨a, b⟩ | ⟨r, hr, a, b⟩
  · rw [a, b]; exact ⟨h1, h2⟩
  · rw [a, b]
    rcases pickPoint_cases hr with e | ⟨hi, hn⟩
    · rw [e]; exact ⟨h1, h1⟩
    · exact ⟨hp _ _ hi hn, hp _ _ hi hn⟩

def LineJoin.All (P : Pt → Prop) (j : LineJoin) : Prop :=
  P j.firstEdgeEnd.left ∧ P j.firstEdgeEnd.right ∧ P j.secondEdgeStart.left ∧ P j.secondEdgeStart.right

theorem fromExtents_all {P : Pt → Prop} (mid : Pt) (w : Nat) {fl fr sl sr : Line}
    (h : P fl.stop ∧ P fr.stop ∧ P sl.start ∧ P sr.start)
    (hl : ∀ p s, (IntersectionParams.fromLines sl fl).intersection = .point p s →
      (IntersectionParams.fromLines sl fl).nearlyColinearHasError = false → P p)
    (hr : ∀ p s, (IntersectionParams.fromLines sr fr).intersection = .point p s →
      (IntersectionParams.fromLines sr fr).nearlyColinearHasError = false → P p) :
    (LineJoin.fromExtents mid w fl fr sl sr).All P :=
  have ⟨a, c⟩ := fromExtents_left_of mid w fr sr h.1 h.2.2.1 hl
  have ⟨b, d⟩ := fromExtents_right_of mid w fl sl h.2.1 h.2.2.2 hr
  ⟨a, b, c, d⟩

theorem intersections_translate (fl fr sl sr : Line) (d : Pt) (h : EdgesNoSat fl fr sl sr d) :
    intersections (fl.translate d) (fr.translate d) (sl.translate d) (sr.translate d) =
      (intersections fl fr sl sr).map (shiftInter · d) := by
  rw [intersections_eq, intersections_eq, translate_stop, translate_stop,
    pickPoint_translate sl fl fl.stop d h.1, pickPoint_translate sr fr fr.stop d h.2]
  cases pickPoint sl fl fl.stop with
  | none => rfl
  | some r1 =>
    obtain ⟨li, side⟩ := r1
    simp only [Option.map_some]
    cases pickPoint sr fr fr.stop with
    | none => rfl
    | some r2 => rfl

theorem delta_mk_translate (a b d : Pt) : Line.delta ⟨a + d, b + d⟩ = Line.delta ⟨a, b⟩ :=
  delta_translate ⟨a, b⟩ d

theorem fromExtents_translate (mid : Pt) (w : Nat) (fl fr sl sr : Line) (d : Pt)
    (h : EdgesNoSat fl fr sl sr d) :
    LineJoin.fromExtents (mid + d) w (fl.translate d) (fr.translate d) (sl.translate d) (sr.translate d) =
      (LineJoin.fromExtents mid w fl fr sl sr).translate d := by
  unfold LineJoin.fromExtents
  rw [intersections_translate fl fr sl sr d h]
  cases intersections fl fr sl sr with
  | none => rfl
  | some r =>
    obtain ⟨li, side, ri⟩ := r
    simp only [Option.map_some, shiftInter, translate_stop, translate_start, checkSide_translate]
    cases side with
    | left =>
      simp only [delta_mk_translate]
      cases (LinearEquation.fromLine fr).checkSide sr.stop LineSide.left
      · simp only [Bool.not_false, ↓reduceIte]
        split <;> rfl
      · rfl
    | right =>
      simp only [delta_mk_translate]
      cases (LinearEquation.fromLine fl).checkSide sl.stop LineSide.right
      · simp only [Bool.not_false, ↓reduceIte]
        split <;> rfl
      · rfl

/-- "No cast saturates in the join at `mid`, before or after the move by `d`." -/
def JoinNoSat (start mid stop : Pt) (w : Nat) (off : StrokeOffset) (d : Pt) : Prop :=
  match extents ⟨start, mid⟩ w off, extents ⟨mid, stop⟩ w off with
  | some (fl, fr), some (sl, sr) => EdgesNoSat fl fr sl sr d
  | _, _ => True

instance (start mid stop : Pt) (w : Nat) (off : StrokeOffset) (d : Pt) :
    Decidable (JoinNoSat start mid stop w off d) := by
  unfold JoinNoSat; split <;> exact inferInstance

theorem fromPoints_translate (start mid stop : Pt) (w : Nat) (off : StrokeOffset) (d : Pt)
    (h : JoinNoSat start mid stop w off d) :
    LineJoin.fromPoints (start + d) (mid + d) (stop + d) w off =
      (LineJoin.fromPoints start mid stop w off).map (·.translate d) := by
  unfold LineJoin.fromPoints
  unfold JoinNoSat at h
  rw [line_mk_translate, line_mk_translate, extents_translate, extents_translate]
  cases h1 : extents ⟨start, mid⟩ w off with
  | none => rfl
  | some r1 =>
    obtain ⟨fl, fr⟩ := r1
    cases h2 : extents ⟨mid, stop⟩ w off with
    | none => rfl
    | some r2 =>
      obtain ⟨sl, sr⟩ := r2
      rw [h1, h2] at h
      simp only [Option.map_some, Option.bind_eq_bind, Option.bind_some, shiftLines, pure]
      rw [fromExtents_translate mid w fl fr sl sr d h]

theorem fromPoints_kind_translate (start mid stop : Pt) (w : Nat) (off : StrokeOffset) (d : Pt)
    (h : JoinNoSat start mid stop w off d) :
    (LineJoin.fromPoints (start + d) (mid + d) (stop + d) w off).map (·.kind) =
      (LineJoin.fromPoints start mid stop w off).map (·.kind) := by
  rw [fromPoints_translate start mid stop w off d h, Option.map_map]
  rfl

end Joins
end EG
