/-
  EG.Lemmas.ThickGeoMetric — the metrics of the harness oracle for stroked lines (header of
  harness/src/m_thick.rs) as Lean definitions, and their translation into the forms `dt`, `ph` of
  EG.Lemmas.ThickForms. Used by the statements of EG/Props/C17/Stroke.lean.
-/
import EG.Lemmas.ThickGeoMain
import Mathlib.Tactic.Ring
namespace EG.C17.Stroke
open EG

/-- The direction a stroke is measured in: `end - start`, or `(1, 0)` for a zero-length line
(`ParallelsIterator::new` replaces it by `HORIZONTAL_LINE`; the oracle does the same). -/
def strokeDir (l : Line) : Pt := if l.start = l.stop then ⟨1, 0⟩ else l.stop - l.start

/-- `dot(p)` of the oracle. -/
def dot (l : Line) (p : Pt) : Int :=
  (strokeDir l).x * (p.x - l.start.x) + (strokeDir l).y * (p.y - l.start.y)

/-- `cross(p)` of the oracle. -/
def cross (l : Line) (p : Pt) : Int :=
  (strokeDir l).x * (p.y - l.start.y) - (strokeDir l).y * (p.x - l.start.x)

/-- `L2` of the oracle. -/
def L2 (l : Line) : Int := (strokeDir l).x ^ 2 + (strokeDir l).y ^ 2

/-- `max(|dx|, |dy|)` of the stroke direction. -/
def majorLen (l : Line) : Int := max (strokeDir l).x.natAbs (strokeDir l).y.natAbs

/-- `min(|dx|, |dy|)` of the stroke direction. -/
def minorLen (l : Line) : Int := min (strokeDir l).x.natAbs (strokeDir l).y.natAbs

theorem strokeDir_eq (l : Line) :
    (strokeDir l).x = Line.dxOf (Thick.paramLine l) ∧ (strokeDir l).y = Line.dyOf (Thick.paramLine l) := by
  unfold strokeDir Thick.paramLine Line.dxOf Line.dyOf
  by_cases h : l.start = l.stop
  · simp only [h, ↓reduceIte, Thick.horizontalLine]; decide
  · simp only [h, ↓reduceIte, Pt.sub_x, Pt.sub_y]; exact ⟨trivial, trivial⟩

theorem dot_eq (l : Line) (p : Pt) :
    dot l p = (Thick.ctxOf l).dt p - (Thick.ctxOf l).dt l.start := by
  rw [Thick.dt_eq, Thick.dt_eq]
  obtain ⟨hx, hy⟩ := strokeDir_eq l
  unfold dot
  rw [hx, hy, Int.mul_sub, Int.mul_sub]
  omega

theorem L2_eq (l : Line) :
    L2 l = (Thick.ctxOf l).D * (Thick.ctxOf l).D + (Thick.ctxOf l).d * (Thick.ctxOf l).d := by
  rw [← Thick.L2_eq]
  obtain ⟨hx, hy⟩ := strokeDir_eq l
  unfold L2
  rw [hx, hy, Int.pow_succ, Int.pow_succ, Int.pow_succ, Int.pow_succ, Int.pow_zero, Int.pow_zero,
    Int.one_mul, Int.one_mul]

theorem majorLen_eq (l : Line) : majorLen l = (Thick.ctxOf l).D := by
  obtain ⟨hx, hy⟩ := strokeDir_eq l
  show _ = Line.dmaj (Thick.paramLine l)
  unfold majorLen Line.dmaj Line.yMajor Line.aabs
  rw [hx, hy]
  split <;> omega


theorem minorLen_eq (l : Line) : minorLen l = (Thick.ctxOf l).d := by
  obtain ⟨hx, hy⟩ := strokeDir_eq l
  show _ = Line.dmin (Thick.paramLine l)
  unfold minorLen Line.dmin Line.yMajor Line.aabs
  rw [hx, hy]
  split <;> omega

theorem majorLen_pos (l : Line) : 0 < majorLen l := by
  rw [majorLen_eq]; exact (Thick.ctxOf_valid l).hD

theorem minorLen_nonneg (l : Line) : 0 ≤ minorLen l := by
  rw [minorLen_eq]; exact (Thick.ctxOf_valid l).hd0

theorem majorLen_sq_le (l : Line) : majorLen l * majorLen l ≤ L2 l := by
  rw [L2_eq, majorLen_eq]
  have := mul_self_nonneg (Thick.ctxOf l).d
  omega

theorem minorLen_of_axis_or_diagonal (l : Line)
    (hdir : (strokeDir l).x = 0 ∨ (strokeDir l).y = 0 ∨
      (strokeDir l).x.natAbs = (strokeDir l).y.natAbs) :
    minorLen l = 0 ∨ minorLen l = majorLen l := by
  unfold majorLen minorLen
  omega

/-- `cross` is `dot` after a quarter turn, so the band form is `-+2 cross` (`dt_rot`), with the sign of
the orientation of the line's step pair. -/
theorem ph_cross_om (l : Line) (p : Pt) :
    (Thick.ctxOf l).ph p - (Thick.ctxOf l).ph l.start = -((Thick.ctxOf l).om * (2 * cross l p)) := by
  have hax := (Thick.ctxOf_valid l).ax
  have h := Thick.StrokeCtx.dt_rot hax (p - l.start)
  have hc : cross l p = (Thick.ctxOf l).dt (Thick.rot (p - l.start)) := by
    obtain ⟨hx, hy⟩ := strokeDir_eq l
    rw [Thick.dt_eq]
    unfold cross Thick.rot
    rw [hx, hy]
    simp only [Pt.sub_x, Pt.sub_y]
    ring
  rw [← Thick.StrokeCtx.ph_sub, hc]
  rcases Thick.StrokeCtx.om_cases hax with ho | ho <;> rw [ho] at h ⊢ <;> omega

theorem ph_cross (l : Line) (p : Pt) :
    (Thick.ctxOf l).ph p - (Thick.ctxOf l).ph l.start = 2 * cross l p ∨
    (Thick.ctxOf l).ph p - (Thick.ctxOf l).ph l.start = -(2 * cross l p) := by
  rw [ph_cross_om]
  rcases Thick.StrokeCtx.om_cases (Thick.ctxOf_valid l).ax with ho | ho <;> rw [ho]
  · exact Or.inr (by omega)
  · exact Or.inl (by omega)

theorem ph_sq (l : Line) (p : Pt) :
    ((Thick.ctxOf l).ph p - (Thick.ctxOf l).ph l.start) *
      ((Thick.ctxOf l).ph p - (Thick.ctxOf l).ph l.start) = 4 * cross l p ^ 2 := by
  rcases ph_cross l p with h | h <;> rw [h] <;> ring

end EG.C17.Stroke
