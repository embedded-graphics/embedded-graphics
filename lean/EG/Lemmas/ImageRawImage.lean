/-
  EG.Lemmas.ImageRawImage — sub-images (any nesting depth) and the `Image` wrapper:
  every drawable built from a well-formed raw image by `sub_image` draws, with one
  `fill_contiguous`, exactly the pixels `pixelSpec` of its box (or nothing when it is empty), and
  `pixelSpec` of a sub-image is the parent's `pixelSpec` shifted by the area's top-left corner.
  Then what an `Image` leaves on a target (`Image.runNative_draw`) and its consequences used by the
  property files C09, C01, C02, C07 (image parts): nesting, translation, bounding box, and the
  example images of the non-vacuity checks.
-/
import EG.Lemmas.RectOps
import EG.Lemmas.ImageRawDraw
import EG.Lemmas.Picture
namespace EG.Img
open EG EG.Raw

theorem apply_nil (m : PMap) : m.apply [] = m := rfl

theorem translate_inRange_size {r : Rect} {d : Pt} : (r.translate d).size = r.size := rfl

namespace Drawable

/-- The raw image at the bottom of a chain of sub-images. -/
def root : Drawable → ImageRaw
  | raw im => im
  | sub p _ => p.root

/-- Position of the drawable's origin in the root image. -/
def origin : Drawable → Pt
  | raw _ => Pt.zero
  | sub p a => a.tl + p.origin

/-- Specification of the picture a drawable shows: a raw image shows its `pixel`s, a sub-image
shows, inside the box of its size, the parent's picture shifted by the area's top-left corner. -/
def pixelSpec : Drawable → Pt → Option Nat
  | raw im, p => im.pixel p
  | sub parent a, p =>
    if (⟨Pt.zero, a.size⟩ : Rect).contains p = true then parent.pixelSpec (a.tl + p) else none

/-- An area is empty or inside a box of size `s` at the origin. -/
def AreaOk (s : Sz) (a : Rect) : Prop :=
  a.isZeroSized = true ∨
    (0 ≤ a.tl.x ∧ 0 ≤ a.tl.y ∧ a.tl.x + a.size.w ≤ s.w ∧ a.tl.y + a.size.h ≤ s.h)

/-- Drawables whose root passed `ImageRaw::new` and whose areas are empty or inside their parent:
everything `sub_image` builds (`good_subImage`). -/
def Good : Drawable → Prop
  | raw im => im.WF
  | sub parent a => parent.Good ∧ AreaOk parent.size a

/-- `SubImage::new` clips the area to the parent's box: the stored area is empty or inside. -/
theorem areaOk_intersection (s : Sz) (area : Rect) :
    AreaOk s ((⟨Pt.zero, s⟩ : Rect).intersection area) := by
  unfold AreaOk
  by_cases hz : ((⟨Pt.zero, s⟩ : Rect).intersection area).isZeroSized = true
  · exact Or.inl hz
  · right
    rw [Rect.isZeroSized_iff] at hz
    have key : ∀ p, ((⟨Pt.zero, s⟩ : Rect).intersection area).contains p = true →
        (⟨Pt.zero, s⟩ : Rect).contains p = true :=
      fun p hp => ((Rect.mem_intersection _ _ _).mp hp).1
    generalize (⟨Pt.zero, s⟩ : Rect).intersection area = a at hz key ⊢
    have h1 := key a.tl (by rw [Rect.contains_iff]; omega)
    have h2 := key ⟨a.tl.x + a.size.w - 1, a.tl.y + a.size.h - 1⟩ (by
      rw [Rect.contains_iff]; simp only; omega)
    rw [Rect.contains_iff] at h1 h2
    simp only [Pt.zero] at h1 h2
    omega

theorem good_subImage {d : Drawable} (h : d.Good) (area : Rect) : (d.subImage area).Good :=
  ⟨h, areaOk_intersection d.size area⟩

theorem root_good : ∀ {d : Drawable}, d.Good → d.root.WF
  | raw _, h => h
  | sub p _, h => root_good (d := p) h.1

theorem drawSubImage_root : ∀ (d : Drawable) (area : Rect),
    d.drawSubImage area = d.root.drawSubImage (area.translate d.origin)
  | raw im, area => by simp only [drawSubImage, root, origin, Pt.zero, Rect.translate_zero]
  | sub p a, area => by
    simp only [drawSubImage, root, origin]
    rw [drawSubImage_root p, Rect.translate_translate]

theorem region_inside : ∀ {d : Drawable}, d.Good → 0 < d.size.w → 0 < d.size.h →
    0 ≤ d.origin.x ∧ 0 ≤ d.origin.y ∧ d.origin.x + d.size.w ≤ d.root.size.w ∧
      d.origin.y + d.size.h ≤ d.root.size.h
  | raw im, _, _, _ => by simp only [origin, root, size, Pt.zero]; omega
  | sub p a, h, hw, hh => by
    simp only [size] at hw hh
    obtain ⟨hp, ha⟩ := h
    rcases ha with ha | ha
    · rw [Rect.isZeroSized_iff] at ha; omega
    · have ih := region_inside (d := p) hp (by omega) (by omega)
      simp only [origin, root, size, Pt.add_x, Pt.add_y]
      omega

theorem pixelSpec_root : ∀ {d : Drawable}, d.Good → ∀ (p : Pt), d.boundingBox.contains p = true →
    d.pixelSpec p = d.root.pixel (d.origin + p)
  | raw im, _, p, _ => by simp only [pixelSpec, root, origin, Pt.zero_add']
  | sub par a, h, p, hc => by
    simp only [boundingBox, size] at hc
    simp only [pixelSpec, hc, ↓reduceIte, root, origin]
    obtain ⟨hp, ha⟩ := h
    rw [Rect.contains_iff] at hc
    simp only [Pt.zero] at hc
    rcases ha with ha | ha
    · rw [Rect.isZeroSized_iff] at ha; omega
    · rw [pixelSpec_root (d := par) hp (a.tl + p) (by
        rw [boundingBox, Rect.contains_iff]; simp only [Pt.zero, Pt.add_x, Pt.add_y]; omega)]
      congr 1
      rw [Pt.add_comm a.tl par.origin, Pt.add_assoc']

theorem pixelSpec_outside : ∀ {d : Drawable}, d.Good → ∀ (p : Pt), d.boundingBox.contains p = false →
    d.pixelSpec p = none
  | raw im, h, p, hc => by
    simp only [pixelSpec]; rw [ImageRaw.pixel_none_iff h]; exact hc
  | sub par a, _, p, hc => by
    simp only [boundingBox, size] at hc
    simp only [pixelSpec, hc, Bool.false_eq_true, ↓reduceIte]

theorem draw_spec : ∀ {d : Drawable}, d.Good →
    (∃ cs, d.draw = [Call.fillContiguous d.boundingBox cs] ∧
        cs.map some = d.boundingBox.pointsSpec.map d.pixelSpec ∧
        cs.length = d.size.w * d.size.h) ∨
      (d.draw = [] ∧ d.boundingBox.isZeroSized = true)
  | raw im, h => by
    left
    obtain ⟨cs, h1, h2, h3⟩ := ImageRaw.draw_eq h
    exact ⟨cs, h1, h2, h3⟩
  | sub par a, h => by
    have hg : (sub par a).Good := h
    obtain ⟨hp, ha⟩ := h
    simp only [draw]
    rw [drawSubImage_root]
    by_cases hz : 0 < a.size.w ∧ 0 < a.size.h
    · left
      have hr := region_inside hg hz.1 hz.2
      simp only [size, origin, root, Pt.add_x, Pt.add_y] at hr
      have hacc : par.root.Accepts (a.translate par.origin) := by
        unfold ImageRaw.Accepts
        simp only [Rect.translate, Pt.add_x, Pt.add_y]
        omega
      obtain ⟨cs, h1, h2, h3⟩ := ImageRaw.drawSubImage_accept (root_good hp) hacc
      refine ⟨cs, h1, ?_, h3⟩
      rw [h2]
      simp only [boundingBox, size, Rect.translate]
      apply List.map_congr_left
      intro p hpm
      have hwf := root_good hp
      have hin : (⟨Pt.zero, a.size⟩ : Rect).contains p = true := by
        rw [← Rect.mem_pointsSpec (originRect_inRange (by have := hwf.wI32; omega) (by have := hwf.hI32; omega))]
        exact hpm
      rw [pixelSpec_root hg p hin]
      simp only [root, origin]
    · right
      have hzz : (a.translate par.origin).isZeroSized = true := by
        rw [Rect.isZeroSized_iff]; simp only [Rect.translate]; omega
      refine ⟨?_, ?_⟩
      · apply ImageRaw.drawSubImage_reject
        unfold ImageRaw.Accepts
        rw [Rect.isZeroSized_iff] at hzz
        omega
      · rw [Rect.isZeroSized_iff]; simp only [boundingBox, size]; omega

theorem stream_length {d : Drawable} (h : d.Good) {a : Rect} {cs : List Color}
    (hc : Call.fillContiguous a cs ∈ d.draw) :
    a = d.boundingBox ∧ cs.length = a.size.w * a.size.h := by
  rcases draw_spec h with ⟨cs', h1, _, h3⟩ | ⟨h1, _⟩
  · rw [h1, List.mem_singleton] at hc
    cases hc
    exact ⟨rfl, h3⟩
  · rw [h1] at hc; cases hc

/-- Sizes of good drawables survive `as i32`; a zero sized area (`AreaOk`) may have one side of any
length, hence the two positivity hypotheses. -/
theorem size_le : ∀ {d : Drawable}, d.Good → 0 < d.size.w → 0 < d.size.h →
    d.size.w ≤ 2147483647 ∧ d.size.h ≤ 2147483647 := by
  intro d h hw hh
  have := region_inside h hw hh
  have hwf := root_good h
  have := hwf.wI32
  have := hwf.hI32
  omega

theorem pixelSpec_sub_sub (d : Drawable) (A1 A2 : Rect) (hok : AreaOk A1.size A2) (p : Pt)
    (hp : (⟨Pt.zero, A2.size⟩ : Rect).contains p = true) :
    (sub (sub d A1) A2).pixelSpec p = d.pixelSpec (A1.tl + (A2.tl + p)) := by
  simp only [pixelSpec, hp, ↓reduceIte]
  rw [Rect.contains_iff] at hp
  simp only [Pt.zero] at hp
  have hin : (⟨Pt.zero, A1.size⟩ : Rect).contains (A2.tl + p) = true := by
    rcases hok with hz | hok
    · rw [Rect.isZeroSized_iff] at hz; omega
    · rw [Rect.contains_iff]; simp only [Pt.zero, Pt.add_x, Pt.add_y]; omega
  simp only [hin, ↓reduceIte]

end Drawable

namespace Image

/-- The picture an image shows, in target coordinates. -/
def picture (i : Image) (q : Pt) : Option Nat :=
  if i.boundingBox.contains q = true then i.drawable.pixelSpec (q - i.offset) else none

theorem runNative_draw (i : Image) (hg : i.drawable.Good) (hr : i.boundingBox.InRange) (B : Rect) (q : Pt) :
    runNative B i.draw q = if B.contains q = true then i.picture q else none := by
  unfold draw picture
  rcases Drawable.draw_spec hg with ⟨cs, h1, h2, _⟩ | ⟨h1, h2⟩
  · -- one `fill_contiguous` of the moved box: the colour with the row-major index of `q - offset`
    rw [h1, runNative_eq_paint (by
      intro c hc
      simp only [List.map_cons, List.map_nil, List.mem_singleton] at hc
      subst hc; exact Or.inr hr)]
    congr 1
    simp only [List.map_cons, List.map_nil, paint_singleton, translatedCall, Call.paint, boundingBox,
      Rect.contains_translate', Rect.translate_indexOf]
    split
    · rename_i hc
      have hsz := Rect.size_pos_of_contains hc
      have hs := Drawable.size_le hg hsz.1 hsz.2
      rw [Rect.pointsSpec_eq_grid (r := i.drawable.boundingBox)
        (Or.inr (originRect_inRange hs.1 hs.2))] at h2
      exact Rect.getElem?_indexOf_of_map_grid h2 hc
    · rfl
  · have hc : i.boundingBox.contains q = false := by
      apply Rect.contains_false_of_zero
      rw [Rect.isZeroSized_iff] at h2
      simp only [boundingBox, Rect.translate]; exact h2
    rw [h1]
    simp only [List.map_nil, hc, Bool.false_eq_true, ↓reduceIte, ite_self]
    rfl

/-- For a raw image the box test of `picture` is already made by `pixel`. -/
theorem picture_raw {im : ImageRaw} (hw : im.WF) (o q : Pt) :
    (Image.new (.raw im) o).picture q = im.pixel (q - o) := by
  have hc : (Image.new (.raw im) o).boundingBox.contains q = im.boundingBox.contains (q - o) :=
    Rect.contains_translate' _ _ _
  unfold picture
  by_cases hq : im.boundingBox.contains (q - o) = true
  · rw [if_pos (hc.trans hq)]
    rfl
  · rw [if_neg (fun h => hq (hc.symm.trans h)), (ImageRaw.pixel_none_iff hw _).mpr (by simpa using hq)]

theorem boundingBox_new (d : Drawable) (o : Pt) : (Image.new d o).boundingBox = ⟨o, d.size⟩ := by
  simp only [boundingBox, new, Drawable.boundingBox, Rect.translate, Pt.zero_add']

theorem runDefault_draw (i : Image) (hg : i.drawable.Good) (hr : i.boundingBox.InRange) (B : Rect) (q : Pt) :
    runDefault B i.draw q = if B.contains q = true then i.picture q else none := by
  rw [Tgt.runDefault_eq_runNative, runNative_draw i hg hr]

theorem drawn_in_boundingBox (i : Image) (hg : i.drawable.Good) (hr : i.boundingBox.InRange) (B : Rect)
    (q : Pt) (h : runNative B i.draw q ≠ none) : i.boundingBox.contains q = true ∧ B.contains q = true := by
  rw [runNative_draw i hg hr] at h
  unfold picture at h
  by_cases hb : B.contains q = true
  · by_cases hc : i.boundingBox.contains q = true
    · exact ⟨hc, hb⟩
    · simp [hb, hc] at h
  · simp [hb] at h

theorem calls_are_bbox_fills (i : Image) (hg : i.drawable.Good) :
    (∃ cs, i.draw = [Call.fillContiguous i.boundingBox cs] ∧ cs.length = i.drawable.size.w * i.drawable.size.h)
      ∨ i.draw = [] := by
  unfold draw
  rcases Drawable.draw_spec hg with ⟨cs, h1, _, h3⟩ | ⟨h1, _⟩
  · left; exact ⟨cs, by rw [h1]; rfl, h3⟩
  · right; rw [h1]; rfl

theorem translatedCall_comp (a b : Pt) (c : Call) :
    translatedCall b (translatedCall a c) = translatedCall (a + b) c := by
  cases c with
  | drawIter px =>
    simp only [translatedCall, List.map_map, Call.drawIter.injEq]
    apply List.map_congr_left
    intro w _
    simp only [Function.comp, Pt.add_assoc']
  | fillContiguous area cs => simp only [translatedCall, Rect.translate_translate]
  | fillSolid area col => simp only [translatedCall, Rect.translate_translate]
  | clear col => rfl

theorem translate_boundingBox (i : Image) (d : Pt) :
    (i.translate d).boundingBox = i.boundingBox.translate d := by
  simp only [boundingBox, translate, Rect.translate_translate]

theorem translateMut_eq (i : Image) (d : Pt) : i.translateMut d = i.translate d := rfl

theorem translate_picture (i : Image) (d q : Pt) : (i.translate d).picture (q + d) = i.picture q := by
  unfold picture
  rw [translate_boundingBox]
  have hp : q + d - (i.translate d).offset = q - i.offset := by
    rw [Pt.ext_iff']
    simp only [translate, Pt.add_x, Pt.add_y, Pt.sub_x, Pt.sub_y]
    omega
  rw [Rect.contains_translate, hp]
  rfl

end Image

def exIm : ImageRaw := ⟨1, .le, [0xAA, 0x00, 0x55, 0xFF, 0xAA, 0x80], ⟨9, 3⟩⟩

theorem exIm_wf : exIm.WF :=
  ⟨by decide, by decide, by decide, by decide, by unfold Fits; decide⟩

def exIm24 : ImageRaw := ⟨24, .be, [1, 2, 3, 4, 5, 6, 7, 8, 9, 10, 11, 12], ⟨2, 2⟩⟩

theorem exIm24_wf : exIm24.WF :=
  ⟨by decide, by decide, by decide, by decide, by unfold Fits; decide⟩

end EG.Img
