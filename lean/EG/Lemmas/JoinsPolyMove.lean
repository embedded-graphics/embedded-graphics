/-
  EG.Lemmas.JoinsPolyMove — the thick segments of a stroked polyline in closed form:
  `chainFrom w sj vs` is the chain of segments over the vertices `vs` from the start join `sj`
  (`from_points` at every inner vertex, `end` at the last), `polyChain` the chain from `start`.
  The state machine of `ThickSegmentIter` is walked here once (`polySegments_eq_chain`);
  `ScanlineIntersections::next_segment` hands the same chain out one segment per call
  (`PolyIntersections.nextSegment_chain`). What the constructors give every join of the chain has
  (`chainFrom_all`). For a polyline whose VERTICES are moved by `d` the segments and the
  untranslated bounding box move with them (`chainFrom_moved`, `segments_moved`).
  Guards: `PolyNoSat` (no saturating cast in any join, before or after the move) and `BoxGuard`
  (the fold over the segment boxes starts from `i32::MAX/MIN` sentinels).
-/
import EG.Lemmas.JoinsSegment
import EG.Lemmas.C01ThickStream
set_option linter.unusedSimpArgs false
namespace EG
namespace Joins
open Thick (LineSide StrokeOffset)

/-- "No cast saturates in any join of the polyline, before or after the move by `d`." -/
def PolyNoSat (w : Nat) (d : Pt) : List Pt → Prop
  | a :: b :: c :: rest => JoinNoSat a b c w .none d ∧ PolyNoSat w d (b :: c :: rest)
  | _ => True

instance (w : Nat) (d : Pt) : (vs : List Pt) → Decidable (PolyNoSat w d vs)
  | [] => isTrue trivial
  | [_] => isTrue trivial
  | [_, _] => isTrue trivial
  | a :: b :: c :: rest =>
    have : Decidable (PolyNoSat w d (b :: c :: rest)) := instDecidablePolyNoSat w d (b :: c :: rest)
    by unfold PolyNoSat; exact inferInstance

theorem kind_stop {m e : Pt} {w : Nat} {off : StrokeOffset} {j : LineJoin}
    (h : LineJoin.stop m e w off = some j) : j.kind = .stop := by
  obtain ⟨l, r, -, rfl⟩ := extents_of_stop h
  rfl

theorem kind_fromExtents_ne_stop (mid : Pt) (w : Nat) (fl fr sl sr : Line) :
    (LineJoin.fromExtents mid w fl fr sl sr).kind ≠ .stop := by
  unfold LineJoin.fromExtents
  rcases intersections fl fr sl sr with _ | ⟨li, side, ri⟩
  · nofun
  · cases side
    all_goals
      dsimp only
      split
      · split <;> nofun
      · nofun

theorem kind_fromPoints_ne_stop {a b c : Pt} {w : Nat} {off : StrokeOffset} {j : LineJoin}
    (h : LineJoin.fromPoints a b c w off = some j) : j.kind ≠ .stop := by
  obtain ⟨fl, fr, sl, sr, -, -, rfl⟩ := extents_of_fromPoints h
  exact kind_fromExtents_ne_stop _ _ _ _ _ _

/-- The segments of the vertex list `vs`, the first one starting with the join `sj`. -/
def chainFrom (w : Nat) : LineJoin → List Pt → Option (List ThickSegment)
  | sj, a :: b :: c :: rest =>
    (LineJoin.fromPoints a b c w .none).bind fun ej =>
      (chainFrom w ej (b :: c :: rest)).bind fun r => some (⟨sj, ej⟩ :: r)
  | sj, [a, b] => (LineJoin.stop a b w .none).bind fun ej => some [⟨sj, ej⟩]
  | _, [_] => some []
  | _, [] => some []

def polyChain (vs : List Pt) (w : Nat) : Option (List ThickSegment) :=
  match vs with
  | a :: b :: _ => (LineJoin.start a b w .none).bind fun sj => chainFrom w sj vs
  | _ => some []

theorem chainFrom_three (w : Nat) (sj : LineJoin) (a b c : Pt) (rest : List Pt) :
    chainFrom w sj (a :: b :: c :: rest) =
      (LineJoin.fromPoints a b c w .none).bind fun ej =>
        (chainFrom w ej (b :: c :: rest)).bind fun r => some (⟨sj, ej⟩ :: r) := by
  rw [chainFrom]

theorem chainFrom_two (w : Nat) (sj : LineJoin) (a b : Pt) :
    chainFrom w sj [a, b] = (LineJoin.stop a b w .none).bind fun ej => some [⟨sj, ej⟩] := by
  rw [chainFrom]

theorem chainFrom_one (w : Nat) (sj : LineJoin) (a : Pt) : chainFrom w sj [a] = some [] := by
  rw [chainFrom]

theorem chainFrom_nil (w : Nat) (sj : LineJoin) : chainFrom w sj [] = some [] := by
  rw [chainFrom]

namespace ThickSegmentIter

theorem next_stopped {it : ThickSegmentIter} (hs : it.stop = true) : it.next = some none := by
  unfold ThickSegmentIter.next; rw [if_pos hs]

theorem next_window {it : ThickSegmentIter} (hs : it.stop = false) {a b c : Pt} {ws : List Pt}
    (hw : windowsNext it.windows = some ((a, b, c), ws)) :
    it.next = (LineJoin.fromPoints a b c it.width .none).map fun j =>
      some (⟨it.startJoin, it.endJoin⟩, { it with startJoin := it.endJoin, windows := ws, endJoin := j }) := by
  unfold ThickSegmentIter.next
  simp only [hs, Bool.false_eq_true, ↓reduceIte, hw]
  cases LineJoin.fromPoints a b c it.width .none <;> rfl

theorem next_last {it : ThickSegmentIter} (hs : it.stop = false) (hw : windowsNext it.windows = none)
    (hk : it.endJoin.kind ≠ .stop) {p q : Pt} (hp : it.points[it.points.length - 2]? = some p)
    (hq : it.points.getLast? = some q) :
    it.next = (LineJoin.stop p q it.width .none).map fun j =>
      some (⟨it.startJoin, it.endJoin⟩, { it with startJoin := it.endJoin, endJoin := j }) := by
  unfold ThickSegmentIter.next
  have hk' : (it.endJoin.kind != JoinKind.stop) = true := by simpa using hk
  simp only [hs, Bool.false_eq_true, ↓reduceIte, hw, hk', hp, hq]
  cases LineJoin.stop p q it.width .none <;> rfl

theorem next_end {it : ThickSegmentIter} (hs : it.stop = false) (hw : windowsNext it.windows = none)
    (hk : it.endJoin.kind = .stop) :
    it.next = some (some (⟨it.startJoin, it.endJoin⟩,
      { it with startJoin := it.endJoin, stop := true })) := by
  unfold ThickSegmentIter.next
  have hk' : (it.endJoin.kind != JoinKind.stop) = false := by simp [hk]
  simp only [hs, Bool.false_eq_true, ↓reduceIte, hw, hk']

/-- The iterator standing before the inner vertex `b` of the windows `b, c, rest` (`s` and `e` are
the joins at the two vertices before) yields the segment `s e` and then the chain from `e`. -/
theorem toListFuel_chainFrom (w : Nat) (rest : List Pt) :
    ∀ (pre : List Pt) (b c : Pt) (s e : LineJoin) (fuel : Nat), e.kind ≠ .stop →
      rest.length + 3 ≤ fuel →
      ThickSegmentIter.toListFuel fuel ⟨b :: c :: rest, s, e, w, pre ++ b :: c :: rest, false⟩ =
        (chainFrom w e (b :: c :: rest)).map (⟨s, e⟩ :: ·) := by
  induction rest with
  | nil =>
    intro pre b c s e fuel he hf
    obtain ⟨f, rfl⟩ : ∃ f, fuel = f + 1 + 1 + 1 := ⟨fuel - 3, by omega⟩
    rw [toListFuel, next_last rfl rfl he (p := b) (q := c) (by simp) (by simp), chainFrom_two]
    cases hj : LineJoin.stop b c w .none with
    | none => rfl
    | some j =>
      simp only [Option.map_some, Option.bind_eq_bind, Option.bind_some]
      rw [toListFuel, next_end rfl rfl (kind_stop hj)]
      simp only [Option.bind_eq_bind, Option.bind_some]
      rw [toListFuel, next_stopped rfl]
      rfl
  | cons c' rest ih =>
    intro pre b c s e fuel he hf
    obtain ⟨f, rfl⟩ : ∃ f, fuel = f + 1 := ⟨fuel - 1, by omega⟩
    rw [toListFuel, next_window rfl (a := b) (b := c) (c := c') rfl, chainFrom_three]
    cases hj : LineJoin.fromPoints b c c' w .none with
    | none => rfl
    | some e' =>
      have e1 : pre ++ b :: c :: c' :: rest = (pre ++ [b]) ++ c :: c' :: rest := by simp
      simp only [Option.map_some, Option.bind_eq_bind, Option.bind_some, e1]
      rw [ih (pre ++ [b]) c c' e e' f (kind_fromPoints_ne_stop hj)
        (by simp only [List.length_cons] at hf; omega)]
      cases chainFrom w e' (c :: c' :: rest) <;> rfl

end ThickSegmentIter

/-- All segments of the stroked polyline (`none` = stuck). -/
def polySegments (vs : List Pt) (w : Nat) : Option (List ThickSegment) :=
  (ThickSegmentIter.new vs w).bind ThickSegmentIter.toList

theorem polySegments_eq_chain (vs : List Pt) (w : Nat) : polySegments vs w = polyChain vs w := by
  rcases vs with _ | ⟨a, _ | ⟨b, rest⟩⟩
  · rfl
  · rfl
  unfold polySegments ThickSegmentIter.new polyChain
  cases rest with
  | nil =>
    simp only [windowsNext, chainFrom_two]
    cases LineJoin.start a b w .none with
    | none => rfl
    | some j0 =>
      cases hj : LineJoin.stop a b w .none with
      | none => rfl
      | some j =>
        simp only [Option.bind_eq_bind, Option.bind_some, pure, ThickSegmentIter.toList, Option.map_some]
        show ThickSegmentIter.toListFuel 3 _ = _
        rw [ThickSegmentIter.toListFuel, ThickSegmentIter.next_end rfl rfl (kind_stop hj)]
        simp only [Option.bind_eq_bind, Option.bind_some]
        rw [ThickSegmentIter.toListFuel, ThickSegmentIter.next_stopped rfl]
        rfl
  | cons c rest =>
    simp only [windowsNext, chainFrom_three]
    cases LineJoin.start a b w .none with
    | none => rfl
    | some j0 =>
      cases hj : LineJoin.fromPoints a b c w .none with
      | none => rfl
      | some j =>
        simp only [Option.bind_eq_bind, Option.bind_some, pure, ThickSegmentIter.toList]
        refine (ThickSegmentIter.toListFuel_chainFrom w rest [a] b c j0 j _ (kind_fromPoints_ne_stop hj)
          (by simp only [List.length_cons]; omega)).trans ?_
        cases chainFrom w j (b :: c :: rest) <;> rfl

/-- Inversion of `chainFrom`: every join of the chain after the first comes from `from_points` of its
window or, at the last vertex, from `end`. `Q` is what is known of the vertices, `P` what the two
constructors then give. -/
theorem chainFrom_all {w : Nat} {Q : Pt → Prop} {P : LineJoin → Prop}
    (hfp : ∀ {a b c j}, Q a → Q b → Q c → LineJoin.fromPoints a b c w .none = some j → P j)
    (hst : ∀ {a b j}, Q a → Q b → LineJoin.stop a b w .none = some j → P j) :
    ∀ (vs : List Pt) (sj : LineJoin) (L : List ThickSegment), (∀ v ∈ vs, Q v) → P sj →
      chainFrom w sj vs = some L → ∀ s ∈ L, P s.startJoin ∧ P s.endJoin
  | [], _, _, _, _, h, s, hs => by rw [chainFrom_nil] at h; cases h; cases hs
  | [_], _, _, _, _, h, s, hs => by rw [chainFrom_one] at h; cases h; cases hs
  | [a, b], sj, L, hq, hsj, h, s, hs => by
    rw [chainFrom_two] at h
    obtain ⟨ej, hj, h⟩ := Option.bind_eq_some_iff.mp h
    cases h
    rw [List.mem_singleton.mp hs]
    exact ⟨hsj, hst (hq a (by simp)) (hq b (by simp)) hj⟩
  | a :: b :: c :: rest, sj, L, hq, hsj, h, s, hs => by
    rw [chainFrom_three] at h
    obtain ⟨ej, hj, h⟩ := Option.bind_eq_some_iff.mp h
    obtain ⟨r, hr, h⟩ := Option.bind_eq_some_iff.mp h
    cases h
    have hej := hfp (hq a (by simp)) (hq b (by simp)) (hq c (by simp)) hj
    rcases List.mem_cons.mp hs with rfl | hs
    · exact ⟨hsj, hej⟩
    · exact chainFrom_all hfp hst (b :: c :: rest) ej r (fun v hv => hq v (List.mem_cons_of_mem _ hv)) hej hr s hs

theorem chainFrom_length {w : Nat} : ∀ (vs : List Pt) (sj : LineJoin) (L : List ThickSegment),
    chainFrom w sj vs = some L → L.length = vs.length - 1
  | [], _, _, h => by rw [chainFrom_nil] at h; cases h; rfl
  | [_], _, _, h => by rw [chainFrom_one] at h; cases h; rfl
  | [a, b], sj, L, h => by
    rw [chainFrom_two] at h
    obtain ⟨ej, -, h⟩ := Option.bind_eq_some_iff.mp h
    cases h; rfl
  | a :: b :: c :: rest, sj, L, h => by
    rw [chainFrom_three] at h
    obtain ⟨ej, -, h⟩ := Option.bind_eq_some_iff.mp h
    obtain ⟨r, hr, h⟩ := Option.bind_eq_some_iff.mp h
    cases h
    rw [List.length_cons, chainFrom_length _ _ _ hr]; rfl

/-- One call of `next_segment` from a state whose remaining segments are the chain `L`: it yields
the head of `L` and leaves the state for the tail. -/
theorem PolyIntersections.nextSegment_chain (it : PolyIntersections) (sj : LineJoin)
    (L : List ThickSegment) (h1 : it.nextStartJoin = some sj)
    (h2 : chainFrom it.width sj it.remainingPoints = some L) :
    (L = [] ∧ it.nextSegment = some none) ∨
    (∃ s L' it', L = s :: L' ∧ it.nextSegment = some (some (s, it')) ∧
      it'.nextStartJoin = some s.endJoin ∧
      chainFrom it'.width s.endJoin it'.remainingPoints = some L' ∧
      it'.points = it.points ∧ it'.width = it.width ∧ it'.scanline = it.scanline ∧
      it'.remainingPoints.length + 1 = it.remainingPoints.length) := by
  obtain ⟨points, rp, nsj, width, scanline⟩ := it
  dsimp only at h1 h2 ⊢
  subst h1
  unfold PolyIntersections.nextSegment
  rcases rp with _ | ⟨a, _ | ⟨b, _ | ⟨c, rest⟩⟩⟩
  · rw [chainFrom_nil] at h2; cases h2; exact Or.inl ⟨rfl, rfl⟩
  · rw [chainFrom_one] at h2; cases h2; exact Or.inl ⟨rfl, rfl⟩
  · rw [chainFrom_two] at h2
    obtain ⟨ej, hs, h2⟩ := Option.bind_eq_some_iff.mp h2
    cases h2
    exact Or.inr ⟨_, _, ⟨points, [b], some ej, width, scanline⟩, rfl,
      by simp only [hs, Option.map_some, List.tail_cons], rfl, chainFrom_one _ _ _, rfl, rfl, rfl, rfl⟩
  · rw [chainFrom_three] at h2
    obtain ⟨ej, hs, h2⟩ := Option.bind_eq_some_iff.mp h2
    obtain ⟨r, hc, h2⟩ := Option.bind_eq_some_iff.mp h2
    cases h2
    exact Or.inr ⟨_, _, ⟨points, b :: c :: rest, some ej, width, scanline⟩, rfl,
      by simp only [hs, Option.map_some, List.tail_cons], rfl, hc, rfl, rfl, rfl, rfl⟩

theorem chainFrom_moved (w : Nat) (d : Pt) : ∀ (vs : List Pt) (sj : LineJoin), PolyNoSat w d vs →
    chainFrom w (sj.translate d) (vs.map (· + d)) = (chainFrom w sj vs).map (·.map (·.translate d))
  | [], _, _ => rfl
  | [_], _, _ => rfl
  | [a, b], sj, _ => by
    show chainFrom w _ [a + d, b + d] = _
    rw [chainFrom_two, chainFrom_two, stop_translate]
    cases LineJoin.stop a b w .none <;> rfl
  | a :: b :: c :: rest, sj, h => by
    show chainFrom w _ ((a + d) :: (b + d) :: (c + d) :: rest.map (· + d)) = _
    rw [chainFrom_three, chainFrom_three, fromPoints_translate a b c w .none d h.1]
    cases LineJoin.fromPoints a b c w .none with
    | none => rfl
    | some j =>
      have ih := chainFrom_moved w d (b :: c :: rest) j h.2
      simp only [List.map_cons] at ih
      simp only [Option.map_some, Option.bind_some, ih]
      cases chainFrom w j (b :: c :: rest) <;> rfl

theorem segments_moved (vs : List Pt) (w : Nat) (d : Pt) (hn : 2 ≤ vs.length)
    (hns : PolyNoSat w d vs) :
    polySegments (vs.map (· + d)) w = (polySegments vs w).map (·.map (·.translate d)) := by
  rcases vs with _ | ⟨a, _ | ⟨b, rest⟩⟩
  · simp at hn
  · simp at hn
  · rw [polySegments_eq_chain, polySegments_eq_chain]
    show (LineJoin.start (a + d) (b + d) w .none).bind _ =
      ((LineJoin.start a b w .none).bind fun sj => chainFrom w sj (a :: b :: rest)).map _
    rw [start_translate]
    cases LineJoin.start a b w .none with
    | none => rfl
    | some j0 => exact chainFrom_moved w d (a :: b :: rest) j0 hns

/-- One step of the `fold` of `untranslated_bounding_box` / `styled_bounding_box`. -/
def boxStep (acc : Pt × Pt) (seg : ThickSegment) : Pt × Pt :=
  (acc.1.componentMin seg.edgesBoundingBox.tl,
   acc.2.componentMax (seg.edgesBoundingBox.bottomRight.getD seg.edgesBoundingBox.tl))

theorem foldEdgeBoxes_eq (segs : List ThickSegment) :
    foldEdgeBoxes segs =
      Rect.withCorners (segs.foldl boxStep (⟨2147483647, 2147483647⟩, ⟨-2147483648, -2147483648⟩)).1
        (segs.foldl boxStep (⟨2147483647, 2147483647⟩, ⟨-2147483648, -2147483648⟩)).2 := rfl

theorem getD_bottomRight_translate (r : Rect) (d : Pt) :
    (r.translate d).bottomRight.getD (r.translate d).tl = r.bottomRight.getD r.tl + d := by
  rw [Rect.bottomRight_translate, Rect.translate_tl]
  cases r.bottomRight <;> rfl

theorem boxStep_translate (acc : Pt × Pt) (seg : ThickSegment) (d : Pt) :
    boxStep (acc.1 + d, acc.2 + d) (seg.translate d) = ((boxStep acc seg).1 + d, (boxStep acc seg).2 + d) := by
  unfold boxStep
  rw [edgesBoundingBox_translate, getD_bottomRight_translate, Rect.translate_tl, componentMin_add,
    componentMax_add]

theorem foldl_boxStep_translate (segs : List ThickSegment) (acc : Pt × Pt) (d : Pt) :
    (segs.map (·.translate d)).foldl boxStep (acc.1 + d, acc.2 + d) =
      ((segs.foldl boxStep acc).1 + d, (segs.foldl boxStep acc).2 + d) := by
  induction segs generalizing acc with
  | nil => rfl
  | cons s rest ih =>
    simp only [List.map_cons, List.foldl_cons, boxStep_translate]
    exact ih (boxStep acc s)

/-- The `i32::MAX / i32::MIN` start values of the fold are absorbed by the first box, before and
after the move (true whenever the corners are `i32` values). -/
def SentinelOK (r : Rect) (d : Pt) : Prop :=
  let br := r.bottomRight.getD r.tl
  r.tl.x ≤ 2147483647 ∧ r.tl.y ≤ 2147483647 ∧ r.tl.x + d.x ≤ 2147483647 ∧ r.tl.y + d.y ≤ 2147483647 ∧
  -2147483648 ≤ br.x ∧ -2147483648 ≤ br.y ∧ -2147483648 ≤ br.x + d.x ∧ -2147483648 ≤ br.y + d.y

instance (r : Rect) (d : Pt) : Decidable (SentinelOK r d) := by
  unfold SentinelOK; exact inferInstance

theorem boxStep_init_eq (seg : ThickSegment) (h1 : seg.edgesBoundingBox.tl.x ≤ 2147483647)
    (h2 : seg.edgesBoundingBox.tl.y ≤ 2147483647)
    (h3 : -2147483648 ≤ (seg.edgesBoundingBox.bottomRight.getD seg.edgesBoundingBox.tl).x)
    (h4 : -2147483648 ≤ (seg.edgesBoundingBox.bottomRight.getD seg.edgesBoundingBox.tl).y) :
    boxStep (⟨2147483647, 2147483647⟩, ⟨-2147483648, -2147483648⟩) seg =
      (seg.edgesBoundingBox.tl, seg.edgesBoundingBox.bottomRight.getD seg.edgesBoundingBox.tl) := by
  unfold boxStep
  simp only [Prod.mk.injEq, Pt.ext_iff', Pt.componentMin, Pt.componentMax]
  omega

theorem boxStep_init (seg : ThickSegment) (d : Pt) (h : SentinelOK seg.edgesBoundingBox d) :
    boxStep (⟨2147483647, 2147483647⟩, ⟨-2147483648, -2147483648⟩) (seg.translate d) =
      ((boxStep (⟨2147483647, 2147483647⟩, ⟨-2147483648, -2147483648⟩) seg).1 + d,
       (boxStep (⟨2147483647, 2147483647⟩, ⟨-2147483648, -2147483648⟩) seg).2 + d) := by
  obtain ⟨h1, h2, h3, h4, h5, h6, h7, h8⟩ := h
  have e := getD_bottomRight_translate seg.edgesBoundingBox d
  rw [boxStep_init_eq seg h1 h2 h5 h6, boxStep_init_eq (seg.translate d), edgesBoundingBox_translate, e]
  · rfl
  · rw [edgesBoundingBox_translate]; exact h3
  · rw [edgesBoundingBox_translate]; exact h4
  · rw [edgesBoundingBox_translate, e]; exact h7
  · rw [edgesBoundingBox_translate, e]; exact h8

theorem foldEdgeBoxes_translate (s : ThickSegment) (rest : List ThickSegment) (d : Pt)
    (h : SentinelOK s.edgesBoundingBox d) :
    foldEdgeBoxes ((s :: rest).map (·.translate d)) = (foldEdgeBoxes (s :: rest)).translate d := by
  rw [foldEdgeBoxes_eq, foldEdgeBoxes_eq]
  simp only [List.map_cons, List.foldl_cons]
  rw [boxStep_init s d h, foldl_boxStep_translate, Rect.withCorners_translate]

theorem untranslatedBoundingBox_eq (pl : Polyline) (w : Nat) (h : w > 0 ∧ pl.vertices.length > 1) :
    untranslatedBoundingBox pl w = (polySegments pl.vertices w).map foldEdgeBoxes := by
  unfold untranslatedBoundingBox
  rw [if_pos h]
  exact bind_bind_pure _ _ _

/-- The first segment's box absorbs the sentinels of the fold (and there is a segment). -/
def BoxGuard (vs : List Pt) (w : Nat) (d : Pt) : Prop :=
  match polySegments vs w with
  | some (s :: _) => SentinelOK s.edgesBoundingBox d
  | some [] => False
  | none => True

instance (vs : List Pt) (w : Nat) (d : Pt) : Decidable (BoxGuard vs w d) := by
  unfold BoxGuard; split <;> exact inferInstance

theorem untranslatedBoundingBox_moved (vs : List Pt) (w : Nat) (d : Pt) (hw : 0 < w)
    (hn : 2 ≤ vs.length) (hns : PolyNoSat w d vs) (hg : BoxGuard vs w d) :
    untranslatedBoundingBox ⟨Pt.zero, vs.map (· + d)⟩ w =
      (untranslatedBoundingBox ⟨Pt.zero, vs⟩ w).map (·.translate d) := by
  rw [untranslatedBoundingBox_eq _ _ ⟨hw, by simp only [List.length_map]; omega⟩,
    untranslatedBoundingBox_eq _ _ ⟨hw, by show vs.length > 1; omega⟩]
  show (polySegments (vs.map (· + d)) w).map foldEdgeBoxes = _
  have hm : polySegments (vs.map (· + d)) w = (polySegments vs w).map (·.map (·.translate d)) :=
    segments_moved vs w d hn hns
  rw [hm]
  unfold BoxGuard at hg
  cases hp : polySegments vs w with
  | none => rfl
  | some segs =>
    rw [hp] at hg
    cases segs with
    | nil => exact absurd hg (by simp)
    | cons s rest =>
      simp only [Option.map_some, Option.some.injEq]
      exact foldEdgeBoxes_translate s rest d hg

end Joins
end EG
