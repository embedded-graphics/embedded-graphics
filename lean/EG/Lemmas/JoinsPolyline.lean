/-
  EG.Lemmas.JoinsPolyline — stroked polylines: what does not depend on the `translate` field.
-/
import EG.Model.ThickPolyline
import EG.Lemmas.RectTranslate
namespace EG
namespace Joins
open Thick (LineSide StrokeOffset)

def PolyDraw.translate : PolyDraw → Pt → PolyDraw
  | .nothing, _ => .nothing
  | .drawIter pts, d => .drawIter (pts.map (· + d))
  | .fillSolids rs, d => .fillSolids (rs.map (·.translate d))

/-- For a real stroke the untranslated box does not look at the `translate` field. -/
theorem untranslatedBoundingBox_field (t : Pt) (vs : List Pt) (w : Nat) (hw : 0 < w)
    (hn : 1 < vs.length) :
    untranslatedBoundingBox ⟨t, vs⟩ w = untranslatedBoundingBox ⟨Pt.zero, vs⟩ w := by
  unfold untranslatedBoundingBox
  have h : w > 0 ∧ vs.length > 1 := ⟨hw, hn⟩
  simp only [h, and_self, ↓reduceIte]

theorem drawThickRects_field (t : Pt) (vs : List Pt) (w : Nat) (hw : 0 < w) (hn : 1 < vs.length) :
    drawThickRects ⟨t, vs⟩ w = drawThickRects ⟨Pt.zero, vs⟩ w := by
  unfold drawThickRects PolyScanlines.new
  rw [untranslatedBoundingBox_field t vs w hw hn]

theorem _root_.EG.C01Thick.rect_translate_zero (r : Rect) : r.translate Pt.zero = r := Rect.translate_zero r

theorem rect_translate_zero (r : Rect) : r.translate Pt.zero = r := Rect.translate_zero r

theorem drawStyled_translate_field (t : Pt) (vs : List Pt) (w : Nat) (hw : 2 ≤ w)
    (hn : 1 < vs.length) :
    drawStyled ⟨t, vs⟩ w = (drawStyled ⟨Pt.zero, vs⟩ w).map (PolyDraw.translate · t) := by
  obtain ⟨k, rfl⟩ : ∃ k, w = k + 2 := ⟨w - 2, by omega⟩
  unfold drawStyled
  simp only []
  rw [drawThickRects_field t vs (k + 2) (by omega) hn]
  cases drawThickRects ⟨Pt.zero, vs⟩ (k + 2) with
  | none => rfl
  | some rs =>
    simp only [Option.bind_eq_bind, Option.bind_some, ne_eq, not_true_eq_false, ↓reduceIte, pure,
      Option.map_some, PolyDraw.translate]
    by_cases ht : t = Pt.zero
    · subst ht
      simp only [not_true_eq_false, ↓reduceIte, Option.some.injEq, PolyDraw.fillSolids.injEq]
      rw [List.map_congr_left (fun r _ => C01Thick.rect_translate_zero r), List.map_id']
    · simp only [ht, not_false_eq_true, ↓reduceIte]

end Joins
end EG
