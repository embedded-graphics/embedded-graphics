/-
  EG.Lemmas.JoinsTransparent — the `loop` of the triangle's `StyledPixelsIterator::next` as one
  equation (`TriPixels.nextFuel_succ`), and its first consequence: a triangle style without any
  colour yields no pixel from `pixels()` (the scanline iterator is still walked; every scanline is
  skipped).
-/
import EG.Model.ThickTriangle
set_option linter.unusedSimpArgs false
namespace EG
namespace Joins

/-- The colour of a scanline kind in the pixel iterator. -/
def _root_.EG.C01Thick.kindColor (fc sc : Option Nat) : PointType → Option Nat
  | .stroke => sc
  | .fill => fc

open C01Thick (kindColor)

/-- The first statement of the `loop` of `StyledPixelsIterator::next`: the next pixel of the current
line, if that line has a colour and a pixel left. -/
def TriPixels.hit (it : TriPixels) : Option ((Pt × Nat) × TriPixels) :=
  match it.currentColor with
  | some color =>
    match it.currentLine.next with
    | some (p, l) => some ((p, color), { it with currentLine := l })
    | none => none
  | none => none

/-- One iteration of the `loop`: the pixel at hand, or on to the next scanline. -/
theorem TriPixels.nextFuel_succ (fuel : Nat) (it : TriPixels) :
    it.nextFuel (fuel + 1) =
      match it.hit with
      | some r => some (some r)
      | none =>
        match it.linesIter.nextLoop with
        | none => none
        | some none => some none
        | some (some ((nextLine, nextType), li)) =>
          TriPixels.nextFuel fuel { it with
            linesIter := li, currentLine := nextLine
            currentColor := kindColor it.fillColor it.strokeColor nextType } := by
  rw [TriPixels.nextFuel]
  unfold TriPixels.hit
  rcases it.currentColor with _ | color
  · rcases it.linesIter.nextLoop with _ | _ | ⟨⟨nl, nt⟩, li⟩
    · rfl
    · rfl
    · cases nt <;> rfl
  · dsimp only
    rcases it.currentLine.next with _ | q
    · rcases it.linesIter.nextLoop with _ | _ | ⟨⟨nl, nt⟩, li⟩
      · rfl
      · rfl
      · cases nt <;> rfl
    · rfl

def TriPixels.Colourless (it : TriPixels) : Prop :=
  it.currentColor = none ∧ it.fillColor = none ∧ it.strokeColor = none

theorem TriPixels.nextFuel_colourless (fuel : Nat) (it : TriPixels) (h : it.Colourless) :
    it.nextFuel fuel = none ∨ it.nextFuel fuel = some none := by
  induction fuel generalizing it with
  | zero => left; rfl
  | succ fuel ih =>
    obtain ⟨h1, h2, h3⟩ := h
    have hhit : it.hit = none := by unfold TriPixels.hit; rw [h1]
    rw [TriPixels.nextFuel_succ, hhit]
    rcases it.linesIter.nextLoop with _ | _ | ⟨⟨nl, nt⟩, li⟩
    · left; rfl
    · right; rfl
    · exact ih _ ⟨by show kindColor it.fillColor it.strokeColor nt = none; rw [h2, h3]; cases nt <;> rfl,
        h2, h3⟩

theorem TriPixels.toListFuel_colourless (fuel : Nat) (it : TriPixels) (h : it.Colourless)
    (ps : List (Pt × Nat)) (hps : it.toListFuel fuel = some ps) : ps = [] := by
  cases fuel with
  | zero =>
    simp only [TriPixels.toListFuel, Option.some.injEq] at hps
    exact hps.symm
  | succ fuel =>
    unfold TriPixels.toListFuel TriPixels.next at hps
    rcases TriPixels.nextFuel_colourless _ it h with e | e
    · rw [e] at hps; cases hps
    · rw [e] at hps
      simp only [Option.bind_eq_bind, Option.bind_some, pure, Option.some.injEq] at hps
      exact hps.symm

theorem isTransparent_colors {style : TriStyle} (h : style.isTransparent = true) :
    style.fillColor = none ∧ style.effectiveStrokeColor = none := by
  unfold TriStyle.isTransparent at h
  unfold TriStyle.effectiveStrokeColor
  simp only [Bool.and_eq_true, Bool.or_eq_true, Option.isNone_iff_eq_none, beq_iff_eq] at h
  refine ⟨h.2, ?_⟩
  rcases h.1 with h1 | h1
  · rw [h1]; split <;> rfl
  · rw [h1]; rfl

theorem TriPixels.new_colourless (t : Tri) (style : TriStyle) (h : style.isTransparent = true)
    (it : TriPixels) (hn : TriPixels.new t style = some it) : it.Colourless := by
  obtain ⟨hf, hs⟩ := isTransparent_colors h
  have hc : ∀ ty, style.colorOf ty = none := by
    intro ty; cases ty
    · exact hs
    · exact hf
  unfold TriPixels.new at hn
  cases hsc : triScanlines t style with
  | none => rw [hsc] at hn; cases hn
  | some li =>
    rw [hsc] at hn
    simp only [Option.bind_eq_bind, Option.bind_some] at hn
    cases hnx : li.next with
    | none => rw [hnx] at hn; cases hn
    | some r =>
      rw [hnx] at hn
      simp only [Option.bind_some, pure, Option.some.injEq] at hn
      subst hn
      exact ⟨hc _, hf, hs⟩

theorem triPixels_transparent (t : Tri) (style : TriStyle) (h : style.isTransparent = true)
    (ps : List (Pt × Nat)) (hps : triPixels t style = some ps) : ps = [] := by
  unfold triPixels at hps
  cases hb : triPixelFuel t style with
  | none => rw [hb] at hps; cases hps
  | some fuel =>
    rw [hb] at hps
    simp only [Option.bind_eq_bind, Option.bind_some] at hps
    cases hn : TriPixels.new t style with
    | none => rw [hn] at hps; cases hps
    | some it =>
      rw [hn] at hps
      simp only [Option.bind_some] at hps
      exact TriPixels.toListFuel_colourless _ it (TriPixels.new_colourless t style h it hn) ps hps

end Joins
end EG
