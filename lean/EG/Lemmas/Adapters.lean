/-
  EG.Lemmas.Adapters — the drawing adapters of EG/Model/Adapters.lean as transformations of what a call paints.

  Each adapter turns what a call paints (`Call.paint`, EG.Lemmas.Picture) into what the call its parent
  receives paints by one transformation (clip region, shift, colour map), for every call and without
  range guards; the guards `Rect.Ok` / `Call.Ok` survive clipping.

  Any nesting of adapters behaves as the composition of the adapters' transformations (induction over
  the stack, no depth bound), per call and for whole histories, without range guards on `paint` and
  with the guard at the two ends of the nesting on the list model; `Xf.id_comp`, `Xf.comp_assoc`
  (what `stackXf` of an appended stack needs); `Adapter.noShift` (the adapters that leave
  coordinates alone).
-/
import EG.Lemmas.AdaptersCroppedIter
import EG.Lemmas.Picture
import EG.Model.Adapters
namespace EG
open Tgt

theorem Call.sem_drawIter (T : Rect) (px : Writes) (p : Pt) :
    (Call.drawIter px).sem T p = lastWrite px p := rfl

/-- A target transformation: region of the parent that can be reached, shift (child coordinates +
`d` = parent coordinates), colour map. -/
structure Xf where
  G : Pt → Bool
  d : Pt
  f : Color → Color

/-- Action on point-wise (optional) pixel maps: parent point `q` shows `f` of what the child map has at `q - d`,
if `q` is in the region; nothing otherwise. -/
def Xf.act (x : Xf) (m : Pt → Option Color) (q : Pt) : Option Color :=
  if x.G q = true then (m (q - x.d)).map x.f else none

def Xf.id : Xf := ⟨fun _ => true, Pt.zero, fun c => c⟩

/-- `outer` is nearer to the root. -/
def Xf.comp (outer inner : Xf) : Xf :=
  ⟨fun q => outer.G q && inner.G (q - outer.d), outer.d + inner.d, fun c => outer.f (inner.f c)⟩

theorem Xf.act_id (m : Pt → Option Color) (q : Pt) : Xf.id.act m q = m q := by
  simp [Xf.act, Xf.id, Pt.sub_zero]

theorem Xf.act_comp (outer inner : Xf) (m : Pt → Option Color) (q : Pt) :
    (outer.comp inner).act m q = outer.act (inner.act m) q := by
  simp only [Xf.act, Xf.comp, Pt.sub_add]
  by_cases h1 : outer.G q = true <;> by_cases h2 : inner.G (q - outer.d) = true <;>
    simp [h1, h2, Option.map_map, Function.comp_def]

theorem Xf.act_or (x : Xf) (a b : Pt → Option Color) (q : Pt) :
    x.act (fun p => (a p).or (b p)) q = (x.act a q).or (x.act b q) := by
  simp only [Xf.act]
  by_cases h : x.G q = true
  · simp only [h, ↓reduceIte]
    cases a (q - x.d) <;> simp
  · simp [h]

namespace Adapter

def xf (a : Adapter) (B : Rect) : Xf :=
  match a with
  | clipped r => ⟨fun q => (r.intersection B).contains q, Pt.zero, fun c => c⟩
  | cropped r => ⟨fun _ => true, (r.intersection B).tl, fun c => c⟩
  | translated d => ⟨fun _ => true, d, fun c => c⟩
  | converted f => ⟨fun _ => true, Pt.zero, f⟩

theorem lowerTranslated_eq (d : Pt) (c : Call) : lowerTranslated d c = c.translate d := by
  cases c <;> rfl

theorem translated_paint (d : Pt) (B : Rect) (c : Call) (q : Pt) :
    (lowerTranslated d c).paint B q = c.paint (B.translate (-d)) (q - d) := by
  have h := Call.paint_translate (B.translate (-d)) d c q
  rwa [Rect.translate_translate, Pt.neg_add_cancel', Rect.translate_zero, ← lowerTranslated_eq] at h

theorem converted_paint (f : Color → Color) (B : Rect) (c : Call) (q : Pt) :
    (lowerConverted f c).paint B q = (c.paint B q).map f := by
  cases c with
  | drawIter px => exact lastWrite_map_color f px q
  | fillContiguous a cs => simp only [lowerConverted, Call.paint]; split <;> simp
  | fillSolid a c => simp only [lowerConverted, Call.paint]; split <;> simp
  | clear c => simp only [lowerConverted, Call.paint]; split <;> simp

theorem cropped_paint (A B : Rect) (c : Call) (q : Pt) :
    (lowerCropped A c).paint B q = c.paint ⟨Pt.zero, A.size⟩ (q - A.tl) := by
  cases c with
  | clear c => simp only [lowerCropped, lowerTranslated, Call.paint, Rect.contains_translate']
  -- the other three methods forward to the translated parent and do not look at the box
  | drawIter px => exact translated_paint A.tl B (.drawIter px) q
  | fillContiguous a cs => exact translated_paint A.tl B (.fillContiguous a cs) q
  | fillSolid a c => exact translated_paint A.tl B (.fillSolid a c) q

theorem clipped_paint (R B : Rect) (c : Call) (q : Pt) :
    (lowerClipped R c).paint B q = if R.contains q = true then c.paint R q else none := by
  cases c with
  | drawIter px => exact lastWrite_filter (fun p => R.contains p) px q
  | fillContiguous a cs =>
    simp only [lowerClipped]
    split
    · rename_i he
      simp only [Call.paint]
      rw [← he, Rect.contains_intersection]
      cases R.contains q <;> simp
    · -- `Clipped::fill_contiguous`, the branch that re-cuts the colour stream
      simp only [Call.paint, croppedList_eq_spec]
      by_cases hq : (R.intersection a).contains q = true
      · have hRa := (Rect.mem_intersection R a q).mp hq
        rw [if_pos hq, if_pos hRa.1, if_pos hRa.2]
        exact croppedSpec_indexOf cs a _ q
          (Rect.bounds_of_subset (Rect.size_pos_of_contains hq)
            fun p hp => ((Rect.mem_intersection R a p).mp hp).2) hq
      · rw [if_neg hq]
        rw [Rect.contains_intersection] at hq
        cases hR : R.contains q <;> cases ha : a.contains q <;> simp_all
  | fillSolid a c =>
    simp only [lowerClipped, Call.paint, Rect.contains_intersection]
    cases R.contains q <;> cases a.contains q <;> rfl
  | clear c =>
    simp only [lowerClipped, Call.paint, Rect.contains_intersection]
    cases R.contains q <;> rfl

/-- **Per-adapter exactness**: what the call the parent receives paints is the adapter's
transformation of what the call issued on the adapter paints. -/
theorem lower_paint (a : Adapter) (B : Rect) (c : Call) (q : Pt) :
    (a.lower B c).paint B q = (a.xf B).act (c.paint (a.bbox B)) q := by
  cases a with
  | clipped r => simp only [lower, xf, bbox, Xf.act, Pt.sub_zero, clipped_paint]; split <;> simp
  | cropped r => simp [lower, xf, bbox, Xf.act, cropped_paint]
  | translated d => simp [lower, xf, bbox, Xf.act, translated_paint]
  | converted f => simp [lower, xf, bbox, Xf.act, Pt.sub_zero, converted_paint]

theorem converted_ok (f : Color → Color) (B : Rect) (c : Call) (h : c.Ok B) : (lowerConverted f c).Ok B := by
  cases c <;> exact h

theorem ok_contains_inRange {r : Rect} (h : r.Ok) {p : Pt} (hp : r.contains p = true) : r.InRange := by
  rcases h with hz | h
  · rw [Rect.isZeroSized_iff] at hz; rw [Rect.contains_false_of_zero hz] at hp; cases hp
  · exact h

end Adapter

/-! ### The range guard survives intersection (so clipping never needs a guard of its own) -/

theorem Rect.ok_of_subset {i a : Rect} (ha : a.Ok)
    (h : ∀ p, i.contains p = true → a.contains p = true) : i.Ok := by
  cases hz : i.isZeroSized
  · have hc := Rect.contains_tl hz
    have hb := Rect.bounds_of_subset (Rect.size_pos_of_contains hc) h
    exact Or.inr ((Adapter.ok_contains_inRange ha (h _ hc)).of_within hb.1 hb.2)
  · exact Or.inl hz

theorem Rect.ok_intersection_left (a b : Rect) (ha : a.Ok) : (a.intersection b).Ok :=
  Rect.ok_of_subset ha fun p hp => ((Rect.mem_intersection a b p).mp hp).1

theorem Rect.ok_intersection_right (a b : Rect) (hb : b.Ok) : (a.intersection b).Ok :=
  Rect.ok_of_subset hb fun p hp => ((Rect.mem_intersection a b p).mp hp).2

theorem Adapter.clipped_lower_ok (R B : Rect) (c : Call) (h1 : c.Ok R) : (Adapter.lowerClipped R c).Ok B := by
  cases c with
  | drawIter px => trivial
  | fillContiguous a cs =>
    simp only [Adapter.lowerClipped]
    by_cases he : R.intersection a = a
    · simp only [he, ↓reduceIte]; exact h1
    · simp only [he, ↓reduceIte]; exact Rect.ok_intersection_right R a h1
  | fillSolid a col => exact Rect.ok_intersection_left a R h1
  | clear col => exact Rect.ok_intersection_left R R h1

/-- The composed transformation of a stack over a root with box `B`: accumulated clip region (in
root coordinates), total shift, composed colour map. -/
def stackXf (B : Rect) : Stack → Xf
  | [] => Xf.id
  | a :: rest => (a.xf B).comp (stackXf (a.bbox B) rest)

/-- Range guard: at every level of the stack the call that level receives satisfies `Call.Ok`
for the box of that level (no `i32`/`u32` saturation on the way down). -/
def stackOk (B : Rect) : Stack → Call → Prop
  | [], c => c.Ok B
  | a :: rest, c => stackOk (a.bbox B) rest c ∧ (lowerStack B (a :: rest) c).Ok B

instance stackOkDec : (B : Rect) → (s : Stack) → (c : Call) → Decidable (stackOk B s c)
  | B, [], c => by unfold stackOk; exact inferInstance
  | B, a :: rest, c => by
    unfold stackOk
    have := stackOkDec (a.bbox B) rest c
    exact inferInstance

theorem stackOk_lowered (B : Rect) (s : Stack) (c : Call) (h : stackOk B s c) :
    (lowerStack B s c).Ok B := by
  cases s with
  | nil => exact h
  | cons a rest => exact h.2

theorem stackOk_top (B : Rect) (s : Stack) (c : Call) (h : stackOk B s c) : c.Ok (stackBox B s) := by
  induction s generalizing B with
  | nil => exact h
  | cons a rest ih => exact ih (a.bbox B) h.1

/-- **Stack exactness, per call**: what the call the root receives paints is the composed
transformation of what the call paints on top of the nesting. -/
theorem stack_paint (B : Rect) (s : Stack) (c : Call) (q : Pt) :
    (lowerStack B s c).paint B q = (stackXf B s).act (c.paint (stackBox B s)) q := by
  induction s generalizing B q with
  | nil => simp only [lowerStack, stackXf, stackBox, Xf.act_id]
  | cons a rest ih =>
    simp only [lowerStack, stackXf, stackBox]
    rw [Adapter.lower_paint, Xf.act_comp]
    congr 1
    funext q'; exact ih (a.bbox B) q'

/-- The same about the list model's meaning `Call.sem`: the range guard is needed for the call as
issued (top) and as received by the root (bottom) only; the levels in between transform calls and
never enumerate points. -/
theorem stack_sem (B : Rect) (s : Stack) (c : Call) (htop : c.Ok (stackBox B s))
    (hbot : (lowerStack B s c).Ok B) (q : Pt) :
    (lowerStack B s c).sem B q = (stackXf B s).act (c.sem (stackBox B s)) q := by
  rw [Call.sem_eq_paint hbot, stack_paint]
  congr 1
  funext p; exact (Call.sem_eq_paint htop p).symm

theorem stack_writes_inside (B : Rect) (s : Stack) (c : Call) (htop : c.Ok (stackBox B s))
    (hbot : (lowerStack B s c).Ok B) :
    ∀ w ∈ (lowerStack B s c).lowerNative B, (stackXf B s).G w.1 = true := by
  intro w hw
  have hs := stack_sem B s c htop hbot w.1
  unfold Call.sem Xf.act at hs
  by_cases hG : (stackXf B s).G w.1 = true
  · exact hG
  · rw [if_neg hG, lastWrite_eq_none_iff] at hs
    exact absurd rfl (hs w hw)

/-- **Stack exactness for histories**: what the lowered history paints is the composed
transformation of what the history paints on top of the nesting. -/
theorem stack_paint_history (B : Rect) (s : Stack) (calls : List Call) (q : Pt) :
    paint B (calls.map (lowerStack B s)) q = (stackXf B s).act (paint (stackBox B s) calls) q :=
  -- `act` at `q` is a function of the value at `q - d` that distributes over "later call wins"
  paint_map (F := fun o => (stackXf B s).act (fun _ => o) q) (q := q - (stackXf B s).d)
    (fun x y => Xf.act_or _ (fun _ => x) (fun _ => y) q) (by unfold Xf.act; split <;> rfl) calls
    fun c _ => stack_paint B s c q

/-- For a root with native fills: after any sequence of calls issued on the top of any nesting, the
root's pixel map is, inside the root box, the composed transformation of the direct meaning of the
history, and empty elsewhere. -/
theorem stack_run_native (B : Rect) (s : Stack) (calls : List Call) (h : ∀ c ∈ calls, stackOk B s c)
    (q : Pt) :
    runStackNative B s calls q =
      if B.contains q = true then (stackXf B s).act (runDirect (stackBox B s) calls) q else none := by
  unfold runStackNative
  rw [runNative_eq_paint (by
    intro c hc
    obtain ⟨c', hc', rfl⟩ := List.mem_map.mp hc
    exact stackOk_lowered B s c' (h c' hc')), stack_paint_history]
  congr 2
  funext p
  exact (runDirect_eq_paint (fun c hc => stackOk_top B s c (h c hc)) p).symm

theorem Xf.ext' {x y : Xf} (hG : ∀ q, x.G q = y.G q) (hd : x.d = y.d) (hf : ∀ c, x.f c = y.f c) : x = y := by
  cases x; cases y
  simp only at hG hd hf
  simp only [Xf.mk.injEq]
  exact ⟨funext hG, hd, funext hf⟩

theorem Xf.id_comp (x : Xf) : Xf.id.comp x = x := by
  apply Xf.ext'
  · intro q; simp [Xf.comp, Xf.id, Pt.sub_zero]
  · simp [Xf.comp, Xf.id, Pt.zero_add']
  · intro c; rfl

theorem Xf.comp_assoc (a b c : Xf) : (a.comp b).comp c = a.comp (b.comp c) := by
  apply Xf.ext'
  · intro q; simp only [Xf.comp, Pt.sub_add, Bool.and_assoc]
  · simp only [Xf.comp, Pt.add_assoc']
  · intro col; rfl


/-- Adapters that do not move coordinates. -/
def Adapter.noShift : Adapter → Bool
  | .clipped _ => true
  | .converted _ => true
  | _ => false

end EG
