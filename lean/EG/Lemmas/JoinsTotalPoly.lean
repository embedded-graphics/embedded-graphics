/-
  EG.Lemmas.JoinsTotalPoly — the model of a stroked polyline is total and its drains are complete:
  `styledBoundingBox`, `drawStyled` and `pixels` return `some` for every vertex list, `translate`
  and stroke width, and `pixels` yields the points of ALL scanlines `draw_thick` sees.
  * everything that calls `Line::extents` is total by EG.Lemmas.ExtentsTotal;
  * the scanline iterator runs the closed form of EG.Lemmas.JoinsPolyRows from every state whose
    remaining points are at most its points (`at_total`: no join is ever stuck), so `toList`
    (fuel `stepBudget`) is the complete scanline run (`polyLines`);
  * the pixel iterator walks that run point by point (`polyPix_run`, `pixels_eq_run`).
-/
import EG.Lemmas.ExtentsTotal
import EG.Lemmas.JoinsPolyScan
namespace EG
namespace Joins
open Thick (LineSide StrokeOffset)

theorem chainFrom_total (w : Nat) : ∀ (vs : List Pt) (sj : LineJoin), ∃ L, chainFrom w sj vs = some L
  | [], _ => ⟨_, chainFrom_nil _ _⟩
  | [_], _ => ⟨_, chainFrom_one _ _ _⟩
  | [a, b], sj => by
    obtain ⟨j, hj⟩ := stop_total a b w .none
    exact ⟨_, by rw [chainFrom_two, hj]; rfl⟩
  | a :: b :: c :: rest, sj => by
    obtain ⟨j, hj⟩ := fromPoints_total a b c w .none
    obtain ⟨L, hL⟩ := chainFrom_total w (b :: c :: rest) j
    exact ⟨_, by rw [chainFrom_three, hj, Option.bind_some, hL]; rfl⟩

theorem polySegments_total (vs : List Pt) (w : Nat) : ∃ segs, polySegments vs w = some segs := by
  rw [polySegments_eq_chain]
  rcases vs with _ | ⟨a, _ | ⟨b, rest⟩⟩
  · exact ⟨_, rfl⟩
  · exact ⟨_, rfl⟩
  · obtain ⟨j0, h0⟩ := start_total a b w .none
    obtain ⟨L, hL⟩ := chainFrom_total w (a :: b :: rest) j0
    exact ⟨L, by show (LineJoin.start a b w .none).bind _ = _; rw [h0]; exact hL⟩

theorem untranslatedBoundingBox_total (pl : Polyline) (w : Nat) :
    ∃ r, untranslatedBoundingBox pl w = some r := by
  by_cases h : w > 0 ∧ pl.vertices.length > 1
  · obtain ⟨segs, hs⟩ := polySegments_total pl.vertices w
    rw [untranslatedBoundingBox_eq pl w h, hs]
    exact ⟨_, rfl⟩
  · unfold untranslatedBoundingBox
    simp only [h, ↓reduceIte]
    exact ⟨_, rfl⟩

theorem styledBoundingBox_total (pl : Polyline) (w : Nat) : ∃ r, styledBoundingBox pl w = some r := by
  obtain ⟨r, hr⟩ := untranslatedBoundingBox_total pl w
  unfold styledBoundingBox
  simp only [hr, Option.bind_eq_bind, Option.bind_some, pure]
  exact ⟨_, rfl⟩

theorem tryTake_some {s r : Scanline} (h : s.tryTake.1 = some r) :
    s.isEmpty = false ∧ s.tryTake.2.isEmpty = true := by
  cases he : s.isEmpty with
  | false => exact ⟨rfl, s.tryTake_snd_isEmpty⟩
  | true => rw [Scanline.tryTake_of_empty he] at h; cases h

namespace PolyIntersections

theorem new_total (pts : List Pt) (w : Nat) (y : Int) :
    ∃ it, PolyIntersections.new pts w y = some it ∧ it.points = pts ∧ it.remainingPoints = pts ∧
      it.width = w ∧ it.scanline = Scanline.newEmpty y := by
  rcases pts with _ | ⟨a, _ | ⟨b, rest⟩⟩
  · exact ⟨_, rfl, rfl, rfl, rfl, rfl⟩
  · exact ⟨_, rfl, rfl, rfl, rfl, rfl⟩
  · obtain ⟨j, hj⟩ := start_total a b w .none
    simp only [PolyIntersections.new, hj, Option.map_some, Option.bind_eq_bind, Option.bind_some, pure]
    exact ⟨_, rfl, rfl, rfl, rfl, rfl⟩

end PolyIntersections

namespace PolyScanlines

/-- Every state with `Ok` is `At` some segment list: no join is ever stuck. -/
theorem at_total (it : PolyScanlines) (hok : Ok it) : ∃ segs, At segs it := by
  obtain ⟨segs, hs⟩ := polySegments_total it.intersections.points it.intersections.width
  refine ⟨segs, ?_, hs, hok⟩
  unfold PolyIntersections.rest
  split
  · rfl
  · obtain ⟨L, hL⟩ := chainFrom_total it.intersections.width it.intersections.remainingPoints _
    rw [hL]; rfl

theorem toListFuel_total : ∀ (fuel : Nat) (it : PolyScanlines), Ok it →
    ∃ l, it.toListFuel fuel = some l := by
  intro fuel it hok
  obtain ⟨segs, hat⟩ := at_total it hok
  rw [C01Thick.polyScanlines_toListFuel_eq]
  exact ⟨_, (run_items hat).listFuel_take fuel⟩

theorem new_total (pl : Polyline) (w : Nat) : ∃ it, PolyScanlines.new pl w = some it ∧ Ok it := by
  obtain ⟨bb, hb⟩ := untranslatedBoundingBox_total pl w
  obtain ⟨segs, hs⟩ := polySegments_total pl.vertices w
  obtain ⟨it, hit, hok, -, -⟩ := new_items hb hs
  exact ⟨it, hit, hok⟩

end PolyScanlines
end Joins

namespace C01Thick
open EG.Joins

/-- **The complete scanline run of a `ScanlineIterator` with the invariant `Ok`**: it exists, it is
what `toList` (the `for` loop of `draw_thick`, fuel `stepBudget`) returns, and every scanline in
it is non-empty. -/
theorem polyLines (it : PolyScanlines) (hok : PolyScanlines.Ok it) :
    ∃ L, it.toList = some L ∧ Run PolyScanlines.next it L ∧ ∀ s ∈ L, s.isEmpty = false := by
  obtain ⟨segs, hat⟩ := PolyScanlines.at_total it hok
  exact ⟨_, PolyScanlines.toList_items hat, PolyScanlines.run_items hat, PolyScanlines.items_nonempty segs it⟩

theorem polyScanlineRun_total (pl : Polyline) (w : Nat) : ∃ L, polyScanlineRun pl w = some L := by
  obtain ⟨bb, hb⟩ := untranslatedBoundingBox_total pl w
  obtain ⟨segs, hs⟩ := polySegments_total pl.vertices w
  exact ⟨_, polyScanlineRun_eq hb hs⟩

theorem polyScanlineRun_nonempty {pl : Polyline} {w : Nat} {L : List Scanline}
    (h : polyScanlineRun pl w = some L) : ∀ s ∈ L, s.isEmpty = false := by
  obtain ⟨bb, hb⟩ := untranslatedBoundingBox_total pl w
  obtain ⟨segs, hs⟩ := polySegments_total pl.vertices w
  rw [polyScanlineRun_eq hb hs] at h
  cases h
  exact polyRows_nonempty segs bb.tl.y bb.rowsEnd

/-- Draining a scanline first: if a state `st li` with a non-empty current line `li` yields its first
point (as `g p`) and goes on with the rest of the line, and every state with an exhausted line runs
`R`, then `st li` runs the points of `li`, then `R`. -/
theorem Run.drain_line {σ α : Type} {next : σ → Option (Option (α × σ))} (st : Scanline → σ)
    (g : Pt → α) (R : List α)
    (hstep : ∀ li : Scanline, li.isEmpty = false →
      next (st li) = some (some (g ⟨li.xs, li.y⟩, st { li with xs := li.xs + 1 })))
    (hR : ∀ li0 : Scanline, li0.isEmpty = true → Run next (st li0) R) :
    ∀ (n : Nat) (li : Scanline), (li.xe - li.xs).toNat = n → Run next (st li) (li.points.map g ++ R) := by
  intro n
  induction n with
  | zero =>
    intro li hn
    have he : li.isEmpty = true := by rw [Joins.isEmpty_iff]; omega
    rw [Scanline.points_of_isEmpty he]
    exact hR li he
  | succ n ih =>
    intro li hn
    have he : li.isEmpty = false := by rw [← Bool.not_eq_true, Joins.isEmpty_iff]; omega
    rw [Scanline.points_cons ((Scanline.isEmpty_false_iff _).mp he), List.map_cons, List.cons_append]
    exact Run.step (hstep li he) (ih _ (by dsimp only; omega))

theorem polyPix_step (si : PolyScanlines) (tr : Pt) (li : Scanline) (he : li.isEmpty = false) :
    PolyThickPixels.next ⟨si, li, tr⟩ =
      some (some (⟨li.xs, li.y⟩ + tr, ⟨si, { li with xs := li.xs + 1 }, tr⟩)) := by
  unfold PolyThickPixels.next
  dsimp only
  rw [Scanline.next_of_nonempty he]

/-- **The run of the pixel iterator** whose scanline iterator runs `L` (non-empty scanlines) and
whose current line is `li`: the points of `li`, then those of every scanline of `L`, each moved
by `translate`. -/
theorem polyPix_run (tr : Pt) {si : PolyScanlines} {L : List Scanline}
    (h : Run PolyScanlines.next si L) (hne : ∀ s ∈ L, s.isEmpty = false) (li : Scanline) :
    Run PolyThickPixels.next ⟨si, li, tr⟩
      (li.points.map (· + tr) ++ (L.flatMap Scanline.points).map (· + tr)) := by
  induction h generalizing li with
  | @done s h1 =>
    refine Run.drain_line (next := PolyThickPixels.next) (fun li => (⟨s, li, tr⟩ : PolyThickPixels)) (· + tr) _
      (polyPix_step s tr) (fun li0 he => ?_) _ li rfl
    apply Run.done
    unfold PolyThickPixels.next
    dsimp only
    rw [Scanline.next_of_isEmpty he, h1]
    rfl
  | @step s s' a l h1 _ ih =>
    refine Run.drain_line (next := PolyThickPixels.next) (fun li => (⟨s, li, tr⟩ : PolyThickPixels)) (· + tr) _
      (polyPix_step s tr) (fun li0 he => ?_) _ li rfl
    have hne_a := hne a List.mem_cons_self
    have h2 := Scanline.next_of_nonempty hne_a
    have h3 := Scanline.points_cons ((Scanline.isEmpty_false_iff _).mp hne_a)
    rw [List.flatMap_cons, h3, List.cons_append, List.map_cons]
    refine Run.step (s' := ⟨s', { a with xs := a.xs + 1 }, tr⟩) ?_ ?_
    · unfold PolyThickPixels.next
      dsimp only
      rw [Scanline.next_of_isEmpty he, h1]
      simp only [Option.bind_eq_bind, Option.bind_some, h2, pure]
    · rw [List.map_append]
      exact ih (fun x hx => hne x (List.mem_cons_of_mem _ hx)) { a with xs := a.xs + 1 }

theorem polyPix_new (pl : Polyline) (w : Nat) (si : PolyScanlines) (hsi : PolyScanlines.new pl w = some si)
    (L : List Scanline) (hL : Run PolyScanlines.next si L)
    (hne : ∀ s ∈ L, s.isEmpty = false) :
    ∃ it, PolyThickPixels.new pl w = some it ∧
      Run PolyThickPixels.next it ((L.flatMap Scanline.points).map (· + pl.translate)) := by
  unfold PolyThickPixels.new
  simp only [hsi, Option.bind_eq_bind, Option.bind_some]
  cases hL with
  | done h1 =>
    rw [h1]
    exact ⟨_, rfl, polyPix_run pl.translate (Run.done h1) (fun s hs => by cases hs) (Scanline.newEmpty 0)⟩
  | @step _ s' a l h1 hr =>
    rw [h1]
    refine ⟨_, rfl, ?_⟩
    rw [List.flatMap_cons, List.map_append]
    exact polyPix_run pl.translate hr (fun x hx => hne x (List.mem_cons_of_mem _ hx)) a

/-- A scanline moved by `d` (`Translated::fill_solid` moves the rectangle; `StyledPixelsIterator`
adds `translate` to every point). -/
def moveS (s : Scanline) (d : Pt) : Scanline := ⟨s.y + d.y, s.xs + d.x, s.xe + d.x⟩

theorem moveS_points (s : Scanline) (d : Pt) : (moveS s d).points = s.points.map (· + d) := by
  unfold Scanline.points moveS
  dsimp only
  rw [irange_shift, List.map_map, List.map_map]
  rfl

/-- **`pixels()` of a stroked polyline of width > 1 is the complete pixel run**: it walks the
scanlines of the scanline run (what the `for` loop of `draw_thick` sees) point by point; the model's
fuel (the total length of those scanlines, plus one) is never used up. -/
theorem pixels_eq_run (pl : Polyline) (w : Nat) (hw : 2 ≤ w) :
    ∃ L, polyScanlineRun pl w = some L ∧
      pixels pl w = some (L.flatMap (fun s => (moveS s pl.translate).points)) := by
  obtain ⟨si, hsi, hok⟩ := PolyScanlines.new_total pl w
  obtain ⟨L, hL, hrun, hne⟩ := polyLines si hok
  have hLr : polyScanlineRun pl w = some L := by unfold polyScanlineRun; rw [hsi]; exact hL
  refine ⟨L, hLr, ?_⟩
  obtain ⟨it, hit, hpix⟩ := polyPix_new pl w si hsi L hrun hne
  obtain ⟨k, rfl⟩ : ∃ k, w = k + 2 := ⟨w - 2, by omega⟩
  unfold pixels
  simp only [polyPixelFuel_eq_run, hLr, Option.map_some, hit, Option.bind_eq_bind, Option.bind_some]
  have hlen : ((L.flatMap Scanline.points).map (· + pl.translate)).length <
      (L.map (fun s => (s.xe - s.xs).toNat)).sum + 1 := by
    rw [List.length_map]
    have := length_flatMap_le_sum L Scanline.points (fun s => (s.xe - s.xs).toNat)
      (fun s _ => by rw [Scanline.points_length])
    omega
  rw [polyThickPixels_toListFuel_eq, hpix.listFuel _ hlen, List.map_flatMap]
  simp only [moveS_points]

/-- The same as an equation between `Option`s, the points moved after the walk. -/
theorem pixels_eq_map (pl : Polyline) (w : Nat) (hw : 2 ≤ w) :
    pixels pl w = (polyScanlineRun pl w).map fun L => (L.flatMap Scanline.points).map (· + pl.translate) := by
  obtain ⟨L, hL, hp⟩ := pixels_eq_run pl w hw
  rw [hL, hp, Option.map_some, List.map_flatMap]
  simp only [moveS_points]

theorem pixels_length (pl : Polyline) (w : Nat) (hw : 2 ≤ w) :
    (pixels pl w).map List.length =
      (polyScanlineRun pl w).map fun L => (L.map fun s => (s.xe - s.xs).toNat).sum := by
  rw [pixels_eq_map pl w hw, Option.map_map]
  congr 1
  funext L
  simp only [Function.comp, List.length_map, List.length_flatMap, Scanline.points_length]

end C01Thick

namespace Joins

theorem drawThickRects_total (pl : Polyline) (w : Nat) : ∃ rs, drawThickRects pl w = some rs := by
  obtain ⟨L, hL⟩ := C01Thick.polyScanlineRun_total pl w
  exact ⟨_, by rw [drawThickRects_eq, hL]; rfl⟩

theorem drawStyled_total (pl : Polyline) (w : Nat) : ∃ d, drawStyled pl w = some d := by
  unfold drawStyled
  split
  · exact ⟨_, rfl⟩
  · exact ⟨_, rfl⟩
  · obtain ⟨rs, hrs⟩ := drawThickRects_total pl w
    simp only [hrs, Option.bind_eq_bind, Option.bind_some]
    split <;> exact ⟨_, rfl⟩

theorem pixels_total (pl : Polyline) (w : Nat) : ∃ ps, pixels pl w = some ps := by
  rcases Nat.lt_or_ge w 2 with hw | hw
  · rcases (show w = 0 ∨ w = 1 by omega) with rfl | rfl <;> exact ⟨_, rfl⟩
  · obtain ⟨L, -, h⟩ := C01Thick.pixels_eq_run pl w hw
    exact ⟨_, h⟩

end Joins
end EG
