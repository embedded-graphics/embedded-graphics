/-
  EG.Lemmas.Mock — the `MockDisplay` model read cell by cell: `MD.cell d p` for the 64 x 64 points
  `Inside p`, on which the unchecked index arithmetic of `get_pixel` / `set_pixel_unchecked` is exact
  (`getPixel_inside`, `setPixelUnchecked_inside`); `draw_pixel` in closed form (`drawPixel_spec`); a
  history that completes leaves in every cell the last value written to it (`lastTo`, `run_ok_cell`);
  when `draw_iter` panics and in which state (`Offends`, `drawIter_isOk_false_iff`).
-/
import EG.Model.MockDisplay
import EG.Lemmas.RectPoints
namespace EG
namespace Mock

def Inside (p : Pt) : Prop := 0 ≤ p.x ∧ p.x < 64 ∧ 0 ≤ p.y ∧ p.y < 64
instance (p : Pt) : Decidable (Inside p) := by unfold Inside; exact inferInstance

def idx (p : Pt) : Nat := (p.x + p.y * 64).toNat

def MD.get (d : MD) (i : Nat) : Option Color := if h : i < 4096 then d.pixels[i] else none

def MD.cell (d : MD) (p : Pt) : Option Color := d.get (idx p)

def MD.upd (d : MD) (i : Nat) (c : Option Color) : MD :=
  if h : i < 4096 then { d with pixels := d.pixels.set i c h } else d

theorem contains_iff_inside {p : Pt} : displayArea.contains p = true ↔ Inside p := by
  rw [Rect.contains_iff]; unfold displayArea Inside; simp only; omega

theorem idx_lt {p : Pt} (hp : Inside p) : idx p < 4096 := by
  unfold idx; unfold Inside at hp; omega

theorem idx_eq_iff {p q : Pt} (hp : Inside p) (hq : Inside q) : idx p = idx q ↔ p = q := by
  refine ⟨fun h => ?_, fun h => by rw [h]⟩
  unfold idx at h; unfold Inside at hp hq
  rw [Pt.ext_iff']; omega

def cellOf (i : Nat) : Pt := ⟨((i % 64 : Nat) : Int), ((i / 64 : Nat) : Int)⟩

theorem inside_cellOf {i : Nat} (hi : i < 4096) : Inside (cellOf i) := by
  unfold Inside cellOf; simp only; omega

theorem idx_cellOf (i : Nat) : idx (cellOf i) = i := by
  unfold idx cellOf; simp only; omega

theorem cellOf_idx {p : Pt} (hp : Inside p) : cellOf (idx p) = p := by
  unfold Inside at hp
  unfold idx cellOf
  rw [Pt.ext_iff']; simp only; omega

theorem get_upd (d : MD) (i j : Nat) (c : Option Color) (hi : i < 4096) :
    (d.upd i c).get j = if j = i then c else d.get j := by
  unfold MD.upd MD.get
  rw [dif_pos hi]
  by_cases hj : j < 4096
  · simp only [hj, ↓reduceDIte, Vector.getElem_set, eq_comm (a := i)]
  · rw [dif_neg hj, dif_neg hj, if_neg (by omega)]

theorem cell_upd (d : MD) {p q : Pt} (hp : Inside p) (hq : Inside q) (c : Option Color) :
    (d.upd (idx q) c).cell p = if p = q then c else d.cell p := by
  unfold MD.cell
  rw [get_upd _ _ _ _ (idx_lt hq)]
  simp only [idx_eq_iff hp hq]

@[simp] theorem upd_allowOverdraw (d : MD) (i : Nat) (c : Option Color) :
    (d.upd i c).allowOverdraw = d.allowOverdraw := by
  unfold MD.upd; split <;> rfl

@[simp] theorem upd_allowOob (d : MD) (i : Nat) (c : Option Color) :
    (d.upd i c).allowOob = d.allowOob := by
  unfold MD.upd; split <;> rfl

theorem get_new (i : Nat) : MD.new.get i = none := by
  unfold MD.get MD.new
  split
  · simp
  · rfl

theorem cell_new (p : Pt) : MD.new.cell p = none := get_new _

theorem pixels_ext {a b : MD} (h : ∀ i, i < 4096 → a.get i = b.get i) : a.pixels = b.pixels := by
  apply Vector.ext
  intro i hi
  have := h i hi
  unfold MD.get at this
  simpa [hi] using this

theorem pixels_ext_cells {a b : MD} (h : ∀ p, Inside p → a.cell p = b.cell p) : a.pixels = b.pixels := by
  apply pixels_ext
  intro i hi
  have := h _ (inside_cellOf hi)
  unfold MD.cell at this
  rwa [idx_cellOf] at this

theorem asUsize_nonneg {a : Int} (h : 0 ≤ a) : asUsize a = a.toNat := by simp [asUsize, h]

/-- `get_pixel` for every `i32` point. A negative coordinate panics: `y as usize * SIZE` overflows, and a
sign-extended `x` (at least `2^64 - 2^31`) makes the sum overflow or leaves the array. Otherwise slot
`x + 64 y` is read as long as it is inside the array — for `x ≥ 64` the slot of another cell. -/
theorem getPixel_eq (d : MD) (p : Pt)
    (hr : -2147483648 ≤ p.x ∧ p.x ≤ 2147483647 ∧ -2147483648 ≤ p.y ∧ p.y ≤ 2147483647) :
    d.getPixel p = if 0 ≤ p.x ∧ 0 ≤ p.y ∧ p.x + p.y * 64 < 4096 then some (d.get (idx p)) else none := by
  unfold MD.getPixel
  by_cases hy : 0 ≤ p.y
  · have h1 : ckMul (asUsize p.y) SIZE = some (p.y.toNat * 64) := by
      unfold ckMul SIZE U64; rw [asUsize_nonneg hy, if_pos (by omega)]
    by_cases hx : 0 ≤ p.x
    · have hy64 : 0 ≤ p.y * 64 := Int.mul_nonneg hy (by decide)
      have hidx : p.x.toNat + p.y.toNat * 64 = idx p := by
        unfold idx; rw [Int.toNat_add hx hy64, Int.toNat_mul hy (by decide)]; rfl
      have h2 : ckAdd (asUsize p.x) (p.y.toNat * 64) = some (idx p) := by
        unfold ckAdd U64; rw [asUsize_nonneg hx, if_pos (by omega), hidx]
      have hi : idx p < 4096 ↔ p.x + p.y * 64 < 4096 := Int.toNat_lt (Int.add_nonneg hx hy64)
      simp only [h1, h2, MD.get, hx, hy, true_and, hi]
      split <;> rfl
    · have hax : asUsize p.x = 18446744073709551616 - (-p.x).toNat := by
        unfold asUsize U64; rw [if_neg hx]
      have hbig : ¬ 18446744073709551616 - (-p.x).toNat + p.y.toNat * 64 < 4096 := by omega
      simp only [h1, hax, ckAdd, U64, hx, false_and, ↓reduceIte]
      split
      · rfl
      · rename_i i heq
        split at heq
        · cases heq; rw [dif_neg hbig]
        · cases heq
  · have h1 : ckMul (asUsize p.y) SIZE = none := by
      unfold ckMul asUsize SIZE U64; rw [if_neg hy, if_neg (by omega)]
    simp only [h1, hy, false_and, and_false, ↓reduceIte]

theorem getPixel_inside (d : MD) {p : Pt} (hp : Inside p) : d.getPixel p = some (d.cell p) := by
  unfold Inside at hp
  rw [getPixel_eq d p (by omega), if_pos (by omega)]
  rfl

theorem isSome_cell_iff (d : MD) {p : Pt} (hp : Inside p) :
    (d.cell p).isSome = true ↔ ∃ c, d.getPixel p = some (some c) := by
  rw [getPixel_inside d hp, Option.isSome_iff_exists]
  simp only [Option.some.injEq]

theorem setPixelUnchecked_inside (d : MD) {p : Pt} (hp : Inside p) (c : Option Color) :
    d.setPixelUnchecked p c = some (d.upd (idx p) c) := by
  have hi := idx_lt hp
  unfold Inside at hp
  have e : asUsize (p.x + p.y * 64) = idx p := by rw [asUsize_nonneg (by omega)]; rfl
  unfold MD.setPixelUnchecked MD.upd
  simp only [e, hi, ↓reduceDIte]

theorem setPixel_spec (d : MD) (p : Pt) (c : Option Color) :
    d.setPixel p c = if Inside p then some (d.upd (idx p) c) else none := by
  unfold MD.setPixel
  by_cases hp : Inside p
  · rw [if_pos hp, if_pos (by unfold Inside at hp; omega)]
    exact setPixelUnchecked_inside d hp c
  · rw [if_neg hp, if_neg (by unfold Inside at hp; omega)]

theorem drawPixel_spec (d : MD) (p : Pt) (c : Color) :
    d.drawPixel p c =
      if ¬ Inside p then (if d.allowOob = false then .panic d else .ok d)
      else if d.allowOverdraw = false ∧ (d.cell p).isSome = true then .panic d
      else .ok (d.upd (idx p) (some c)) := by
  unfold MD.drawPixel
  by_cases hp : Inside p
  · have hc : displayArea.contains p = true := contains_iff_inside.mpr hp
    simp only [hc, Bool.not_true, Bool.false_eq_true, ↓reduceIte, hp, not_true_eq_false,
      getPixel_inside d hp, setPixelUnchecked_inside d hp]
    cases hov : d.allowOverdraw <;> cases hs : (d.cell p).isSome <;> simp
  · have hc : displayArea.contains p = false := by
      cases h : displayArea.contains p
      · rfl
      · exact absurd (contains_iff_inside.mp h) hp
    simp only [hc, Bool.not_false, ↓reduceIte, hp, not_false_eq_true]
    cases d.allowOob <;> simp

/-- A write to a cell: `some c` draws, `none` erases (`set_pixel(p, None)`). -/
abbrev CellWrites := List (Pt × Option Color)

/-- The content of `p` after the writes `ws`, starting from `init`: the last write to `p` wins. -/
def lastTo (ws : CellWrites) (p : Pt) (init : Option Color) : Option Color :=
  ws.foldl (fun acc w => if w.1 = p then w.2 else acc) init

theorem lastTo_nil (p : Pt) (init : Option Color) : lastTo [] p init = init := rfl

theorem lastTo_cons (w : Pt × Option Color) (ws : CellWrites) (p : Pt) (init : Option Color) :
    lastTo (w :: ws) p init = lastTo ws p (if w.1 = p then w.2 else init) := rfl

theorem lastTo_append (a b : CellWrites) (p : Pt) (init : Option Color) :
    lastTo (a ++ b) p init = lastTo b p (lastTo a p init) := by
  unfold lastTo; rw [List.foldl_append]

theorem lastTo_of_not_mem {ws : CellWrites} {p : Pt} (h : ∀ w ∈ ws, w.1 ≠ p) (init : Option Color) :
    lastTo ws p init = init := by
  induction ws with
  | nil => rfl
  | cons w ws ih =>
    rw [lastTo_cons, if_neg (h w List.mem_cons_self), ih (fun v hv => h v (List.mem_cons_of_mem _ hv))]

theorem lastTo_eq_find (ws : CellWrites) (p : Pt) (init : Option Color) :
    lastTo ws p init = match ws.reverse.find? (fun w => decide (w.1 = p)) with
      | some w => w.2
      | none => init := by
  induction ws generalizing init with
  | nil => rfl
  | cons w ws ih =>
    rw [lastTo_cons, ih, List.reverse_cons, List.find?_append]
    cases h : ws.reverse.find? (fun w => decide (w.1 = p)) with
    | some v => simp
    | none =>
      by_cases hw : w.1 = p <;> simp [hw]

def drawWrites (ws : Writes) : CellWrites := ws.map (fun w => (w.1, some w.2))

/-- For drawing-only histories `lastTo` is `lastWrite` of `EG.Model.Target` (the pixel map
semantics shared with the recording targets). -/
theorem lastTo_drawWrites (ws : Writes) (p : Pt) :
    lastTo (drawWrites ws) p none = lastWrite ws p := by
  rw [lastTo_eq_find]
  unfold lastWrite drawWrites
  rw [← List.map_reverse, List.find?_map]
  have : ((fun (w : Pt × Option Color) => decide (w.1 = p)) ∘ fun (w : Pt × Color) => (w.1, some w.2))
      = (fun w : Pt × Color => w.1 == p) := by
    funext w; rfl
  rw [this]
  cases ws.reverse.find? (fun w => w.1 == p) <;> rfl

def Op.writes : Op → CellWrites
  | .drawPixel p c => [(p, some c)]
  | .call c => drawWrites (c.lowerDefault displayArea)
  | .setPixel p c => [(p, c)]
  | .setOverdraw _ => []
  | .setOob _ => []

theorem drawPixel_ok {d d' : MD} {q : Pt} {c : Color} (h : d.drawPixel q c = .ok d') :
    d' = if Inside q then d.upd (idx q) (some c) else d := by
  rw [drawPixel_spec] at h
  by_cases hq : Inside q
  · rw [if_neg (not_not_intro hq)] at h
    rw [if_pos hq]
    split at h
    · cases h
    · cases h; rfl
  · rw [if_pos hq] at h
    rw [if_neg hq]
    split at h
    · cases h
    · cases h; rfl

theorem drawPixel_ok_cell {d d' : MD} {q : Pt} {c : Color} (h : d.drawPixel q c = .ok d')
    {p : Pt} (hp : Inside p) : d'.cell p = if q = p then some c else d.cell p := by
  rw [drawPixel_ok h]
  by_cases hq : Inside q
  · rw [if_pos hq, cell_upd d hp hq]
    simp only [eq_comm]
  · rw [if_neg hq, if_neg (fun e : q = p => hq (e ▸ hp))]

theorem drawPixel_ok_flags {d d' : MD} {q : Pt} {c : Color} (h : d.drawPixel q c = .ok d') :
    d'.allowOverdraw = d.allowOverdraw ∧ d'.allowOob = d.allowOob := by
  rw [drawPixel_ok h]
  split
  · exact ⟨upd_allowOverdraw _ _ _, upd_allowOob _ _ _⟩
  · exact ⟨rfl, rfl⟩

theorem drawPixel_panic_state {d d' : MD} {q : Pt} {c : Color} (h : d.drawPixel q c = .panic d') :
    d' = d := by
  rw [drawPixel_spec] at h
  split at h
  · split at h
    · cases h; rfl
    · cases h
  · split at h
    · cases h; rfl
    · cases h

theorem drawIter_ok_cell : ∀ (ws : Writes) {d d' : MD}, d.drawIter ws = .ok d' →
    ∀ {p : Pt}, Inside p → d'.cell p = lastTo (drawWrites ws) p (d.cell p)
  | [], d, d', h, p, _ => by
    unfold MD.drawIter at h; cases h; rfl
  | w :: rest, d, d', h, p, hp => by
    unfold MD.drawIter at h
    cases h1 : d.drawPixel w.1 w.2 with
    | ok d1 =>
      rw [h1] at h
      rw [drawIter_ok_cell rest h hp, drawPixel_ok_cell h1 hp]
      rfl
    | panic d1 => rw [h1] at h; cases h

theorem drawIter_ok_flags : ∀ (ws : Writes) {d d' : MD}, d.drawIter ws = .ok d' →
    d'.allowOverdraw = d.allowOverdraw ∧ d'.allowOob = d.allowOob
  | [], d, d', h => by unfold MD.drawIter at h; cases h; exact ⟨rfl, rfl⟩
  | w :: rest, d, d', h => by
    unfold MD.drawIter at h
    cases h1 : d.drawPixel w.1 w.2 with
    | ok d1 =>
      rw [h1] at h
      have a := drawIter_ok_flags rest h
      have b := drawPixel_ok_flags h1
      exact ⟨a.1.trans b.1, a.2.trans b.2⟩
    | panic d1 => rw [h1] at h; cases h

theorem step_ok_cell {d d' : MD} {o : Op} (h : d.step o = .ok d') {p : Pt} (hp : Inside p) :
    d'.cell p = lastTo o.writes p (d.cell p) := by
  cases o with
  | drawPixel q c =>
    simp only [MD.step] at h
    rw [drawPixel_ok_cell h hp]; rfl
  | call c =>
    simp only [MD.step, MD.drawCall] at h
    exact drawIter_ok_cell _ h hp
  | setPixel q c =>
    simp only [MD.step, setPixel_spec] at h
    by_cases hq : Inside q
    · simp only [hq, ↓reduceIte] at h
      cases h
      rw [cell_upd d hp hq]
      simp only [Op.writes, lastTo_cons, lastTo_nil, eq_comm]
    · simp only [hq, ↓reduceIte] at h; cases h
  | setOverdraw v => simp only [MD.step] at h; cases h; rfl
  | setOob v => simp only [MD.step] at h; cases h; rfl

theorem run_ok_cell : ∀ (ops : List Op) {d d' : MD}, d.run ops = .ok d' →
    ∀ {p : Pt}, Inside p → d'.cell p = lastTo (ops.flatMap Op.writes) p (d.cell p)
  | [], d, d', h, p, _ => by unfold MD.run at h; cases h; rfl
  | o :: rest, d, d', h, p, hp => by
    unfold MD.run at h
    cases h1 : d.step o with
    | ok d1 =>
      rw [h1] at h
      rw [List.flatMap_cons, lastTo_append, run_ok_cell rest h hp, step_ok_cell h1 hp]
    | panic d1 => rw [h1] at h; cases h

/-- The guard under which `draw_pixel` panics, in the order of the source: the bounds test decides
alone for a point outside; the overdraw test is only reached inside the display. -/
def Offends (allowOverdraw allowOob : Bool) (p : Pt) (content : Option Color) : Prop :=
  (¬ Inside p ∧ allowOob = false) ∨ (Inside p ∧ allowOverdraw = false ∧ content.isSome = true)

theorem offends_congr {o b : Bool} {p : Pt} {c c' : Option Color} (h : Inside p → c = c') :
    Offends o b p c ↔ Offends o b p c' := by
  unfold Offends
  by_cases hp : Inside p
  · rw [h hp]
  · simp only [hp, false_and, or_false]

theorem drawPixel_isOk_false_iff (d : MD) (p : Pt) (c : Color) :
    (d.drawPixel p c).isOk = false ↔ Offends d.allowOverdraw d.allowOob p (d.cell p) := by
  rw [drawPixel_spec]
  unfold Offends
  by_cases hp : Inside p
  · simp only [hp, not_true_eq_false, ↓reduceIte, false_and, true_and, false_or]
    by_cases h : d.allowOverdraw = false ∧ (d.cell p).isSome = true
    · simp [h, Res.isOk]
    · simp only [h, ↓reduceIte, Res.isOk]; simp
  · simp only [hp, not_false_eq_true, ↓reduceIte, true_and, false_and, or_false]
    cases d.allowOob <;> simp [Res.isOk]

/-- `draw_iter` panics iff some pixel of the batch offends in the state produced by the pixels
before it (`lastTo` of the prefix = what the history so far has drawn to that point). -/
theorem drawIter_isOk_false_iff : ∀ (ws : Writes) (d : MD),
    (d.drawIter ws).isOk = false ↔
      ∃ pre w post, ws = pre ++ w :: post ∧
        Offends d.allowOverdraw d.allowOob w.1 (lastTo (drawWrites pre) w.1 (d.cell w.1))
  | [], d => by
    refine iff_of_false (by simp [MD.drawIter, Res.isOk]) ?_
    rintro ⟨pre, w, post, h, _⟩
    cases pre <;> cases h
  | x :: rest, d => by
    unfold MD.drawIter
    cases h1 : d.drawPixel x.1 x.2 with
    | panic d1 =>
      have ho := (drawPixel_isOk_false_iff d x.1 x.2).mp (by rw [h1]; rfl)
      exact iff_of_true rfl ⟨[], x, rest, rfl, ho⟩
    | ok d1 =>
      have hf := drawPixel_ok_flags h1
      have hno : ¬ Offends d.allowOverdraw d.allowOob x.1 (d.cell x.1) := by
        rw [← drawPixel_isOk_false_iff d x.1 x.2, h1]; simp [Res.isOk]
      -- a later pixel meets the same content counted from `d1` or, with `x` in front, from `d`
      have key : ∀ (pre : Writes) (w : Pt × Color),
          Offends d.allowOverdraw d.allowOob w.1 (lastTo (drawWrites pre) w.1 (d1.cell w.1)) ↔
          Offends d.allowOverdraw d.allowOob w.1 (lastTo (drawWrites (x :: pre)) w.1 (d.cell w.1)) :=
        fun pre w => offends_congr (fun hw => by rw [drawPixel_ok_cell h1 hw]; rfl)
      show (d1.drawIter rest).isOk = false ↔ _
      rw [drawIter_isOk_false_iff rest d1, hf.1, hf.2]
      constructor
      · rintro ⟨pre, w, post, hws, ho⟩
        exact ⟨x :: pre, w, post, by rw [hws]; rfl, (key pre w).mp ho⟩
      · rintro ⟨pre, w, post, hws, ho⟩
        cases pre with
        | nil => cases hws; exact absurd ho hno
        | cons y pre' =>
          cases hws
          exact ⟨pre', w, post, rfl, (key pre' w).mpr ho⟩

theorem drawIter_panic_state : ∀ (ws : Writes) {d d' : MD}, d.drawIter ws = .panic d' →
    ∃ pre w post, ws = pre ++ w :: post ∧ d.drawIter pre = .ok d' ∧ (d'.drawPixel w.1 w.2).isOk = false
  | [], d, d', h => by unfold MD.drawIter at h; cases h
  | x :: rest, d, d', h => by
    unfold MD.drawIter at h
    cases h1 : d.drawPixel x.1 x.2 with
    | panic d1 =>
      rw [h1] at h
      cases h
      have := drawPixel_panic_state h1
      subst this
      exact ⟨[], x, rest, rfl, rfl, by rw [h1]; rfl⟩
    | ok d1 =>
      rw [h1] at h
      obtain ⟨pre, w, post, hws, hok, hp⟩ := drawIter_panic_state rest h
      refine ⟨x :: pre, w, post, by rw [hws]; rfl, ?_, hp⟩
      unfold MD.drawIter; rw [h1]; exact hok

theorem toDigit4_lt {ch : Char} {d : Nat} (h : toDigit4 ch = some d) : d < 4 := by
  simp only [toDigit4] at h
  split at h
  · cases h; omega
  · cases h

theorem toDigit16_lt {ch : Char} {d : Nat} (h : toDigit16 ch = some d) : d < 16 := by
  simp only [toDigit16] at h
  split at h
  · cases h; omega
  · split at h
    · cases h; omega
    · split at h
      · cases h; omega
      · cases h

theorem pixels_length (d : MD) : d.pixels.toList.length = 64 * 64 := by simp

end Mock
end EG
