/-
  EG.Lemmas.Framebuffer — `set_pixel` is `store` at the pixel's index, `pixel` is `load` at the
  same index (through `as_image` / `ImageRaw::pixel` / `RawDataIterator::nth`), the index map is
  injective on the framebuffer's area and stays inside the used prefix `BUFFER_SIZE`.
  Write histories: by induction over ANY list of writes the framebuffer's `pixel` refines the
  abstract last-write map (`PMap.apply`, EG/Model/Target.lean); every `DrawTarget` call is a list
  of `set_pixel`s.
-/
import EG.Lemmas.RawIter
import EG.Model.Framebuffer
namespace EG.Fb
open EG EG.Raw

/-- Well-formed framebuffer: one of the seven raw types, a byte buffer, `N >= BUFFER_SIZE`
(the compile-time `CHECK_N`), and a buffer that a 64-bit host can hold. -/
structure Fb.Wf (fb : Fb) : Prop where
  bits : validBits fb.bits = true
  bytes : BytesOk fb.data
  size : fb.bufSize ≤ fb.data.length
  fits : fb.data.length * 8 ≤ usizeMax

/-- Row width in pixels including the padding pixels (`ImageRaw::data_width`). -/
def Fb.rowPixels (fb : Fb) : Nat :=
  if fb.bits < 8 then bytesPerRow fb.width fb.bits * (8 / fb.bits) else fb.width

/-- Index of pixel `p` in the raw data (`x + y * data_width`). -/
def Fb.index (fb : Fb) (p : Pt) : Nat := p.x.toNat + p.y.toNat * fb.rowPixels

theorem width_le_rowPixels (fb : Fb) (hb : validBits fb.bits = true) : fb.width ≤ fb.rowPixels :=
  le_paddedWidth hb fb.width

theorem pixelCount_bufSize (fb : Fb) (hb : validBits fb.bits = true) :
    pixelCount fb.bits fb.bufSize = fb.height * fb.rowPixels := by
  rw [Nat.mul_comm]
  exact pixelCount_rows hb fb.width fb.height

theorem index_lt_prefix (fb : Fb) (hb : validBits fb.bits = true) {p : Pt} (hp : fb.inside p) :
    fb.index p < pixelCount fb.bits fb.bufSize := by
  rw [pixelCount_bufSize fb hb, Nat.mul_comm]
  obtain ⟨_, _, hx, hy⟩ := hp
  exact lin_lt hx hy (width_le_rowPixels fb hb)

theorem index_lt (fb : Fb) (hw : fb.Wf) {p : Pt} (hp : fb.inside p) :
    fb.index p < pixelCount fb.bits fb.data.length :=
  Nat.lt_of_lt_of_le (index_lt_prefix fb hw.bits hp) (pixelCount_mono _ hw.size)

theorem index_inj (fb : Fb) (hb : validBits fb.bits = true) {p q : Pt} (hp : fb.inside p)
    (hq : fb.inside q) (h : fb.index p = fb.index q) : p = q := by
  obtain ⟨hpx, hpy, hx, _⟩ := hp
  obtain ⟨hqx, hqy, hx', _⟩ := hq
  have := lin_inj hx hx' (width_le_rowPixels fb hb) h
  rw [Pt.ext_iff']
  omega

theorem setPixel_outside (fb : Fb) {p : Pt} (c : Nat) (hp : ¬ fb.inside p) : fb.setPixel p c = fb := by
  unfold Fb.inside at hp
  by_cases h0 : 0 ≤ p.x ∧ 0 ≤ p.y
  · have h1 : ¬ (p.x.toNat < fb.width ∧ p.y.toNat < fb.height) :=
      fun h => hp ⟨h0.1, h0.2, h.1, h.2⟩
    simp only [Fb.setPixel, h0, h1, and_self, ↓reduceIte]
  · simp only [Fb.setPixel, h0, ↓reduceIte]

theorem setPixel_arms (fb : Fb) {p : Pt} (c : Nat) (hp : fb.inside p) :
    fb.setPixel p c = { fb with data :=
      (if fb.bits < 8 then
        (store fb.bits fb.order c fb.data
          ((fb.width * fb.bits + 7) / 8 * (8 / fb.bits) * p.y.toNat + p.x.toNat)).2
      else if fb.bits = 8 then fb.data.set (p.y.toNat * fb.width + p.x.toNat) c
      else splice fb.data ((p.y.toNat * fb.width + p.x.toNat) * (fb.bits / 8))
        (encodeBytes fb.order (fb.bits / 8) c)) } := by
  obtain ⟨hx0, hy0, hx, hy⟩ := hp
  have h0 : 0 ≤ p.x ∧ 0 ≤ p.y := ⟨hx0, hy0⟩
  have h1 : p.x.toNat < fb.width ∧ p.y.toNat < fb.height := ⟨hx, hy⟩
  simp only [Fb.setPixel, h0, h1, and_self, ↓reduceIte, encodeBytes]
  split
  · rfl
  · split
    · rfl
    · rfl

theorem setPixel_inside (fb : Fb) (hw : fb.Wf) {p : Pt} (c : Nat) (hp : fb.inside p) :
    fb.setPixel p c = { fb with data := (store fb.bits fb.order c fb.data (fb.index p)).2 } := by
  rw [setPixel_arms fb c hp]
  congr 1
  by_cases h8 : fb.bits < 8
  · -- impl_bit!: `store` itself, at the same index
    rw [if_pos h8]
    congr 2
    unfold Fb.index Fb.rowPixels bytesPerRow
    rw [if_pos h8, Nat.add_comm, Nat.mul_comm]
  · -- RawU8, impl_bytes!: the write `store` makes into the pixel's own cell of one resp. `bits / 8` bytes
    have hi : fb.index p = p.y.toNat * fb.width + p.x.toNat := by
      unfold Fb.index Fb.rowPixels
      rw [if_neg h8, Nat.add_comm, Nat.mul_comm]
    obtain ⟨w, hc, hs⟩ := store_inside_eq hw.bits fb.order c (index_lt fb hw hp)
    have hle := (cell?_some hc).2.1
    rw [if_neg h8, hs, hi]
    unfold cellBytes perCell at hle
    unfold cellBytes perCell setPx
    rw [if_neg h8, if_neg h8, Nat.div_one] at hle
    rw [if_neg h8, if_neg h8, if_neg h8, Nat.div_one]
    split
    · rename_i h
      rw [h, Nat.div_self (by decide), Nat.mul_one] at hle ⊢
      exact set_eq_splice (by omega) c
    · rfl

theorem ite_eq_data {fb : Fb} {c : Prop} [Decidable c] {a b : Fb}
    (ha : ∃ d, a = { fb with data := d }) (hb : ∃ d, b = { fb with data := d }) :
    ∃ d, (if c then a else b) = { fb with data := d } := by
  split
  · exact ha
  · exact hb

/-- `set_pixel` touches nothing but the data: arm by arm along the `if`s of `Fb.setPixel`. -/
theorem setPixel_eq_data (fb : Fb) (p : Pt) (c : Nat) : ∃ d, fb.setPixel p c = { fb with data := d } :=
  ite_eq_data
    (ite_eq_data (ite_eq_data ⟨_, rfl⟩ (ite_eq_data ⟨_, rfl⟩ ⟨_, rfl⟩)) ⟨fb.data, rfl⟩)
    ⟨fb.data, rfl⟩

theorem setPixel_bits (fb : Fb) (p : Pt) (c : Nat) : (fb.setPixel p c).bits = fb.bits := by
  obtain ⟨d, hd⟩ := setPixel_eq_data fb p c
  rw [hd]
theorem setPixel_order (fb : Fb) (p : Pt) (c : Nat) : (fb.setPixel p c).order = fb.order := by
  obtain ⟨d, hd⟩ := setPixel_eq_data fb p c
  rw [hd]
theorem setPixel_width (fb : Fb) (p : Pt) (c : Nat) : (fb.setPixel p c).width = fb.width := by
  obtain ⟨d, hd⟩ := setPixel_eq_data fb p c
  rw [hd]
theorem setPixel_height (fb : Fb) (p : Pt) (c : Nat) : (fb.setPixel p c).height = fb.height := by
  obtain ⟨d, hd⟩ := setPixel_eq_data fb p c
  rw [hd]

theorem setPixel_inside_iff (fb : Fb) (p : Pt) (c : Nat) (q : Pt) :
    (fb.setPixel p c).inside q ↔ fb.inside q := by
  unfold Fb.inside; rw [setPixel_width, setPixel_height]

theorem setPixel_bufSize (fb : Fb) (p : Pt) (c : Nat) : (fb.setPixel p c).bufSize = fb.bufSize := by
  unfold Fb.bufSize; rw [setPixel_width, setPixel_height, setPixel_bits]

theorem setPixel_index (fb : Fb) (p : Pt) (c : Nat) (q : Pt) :
    (fb.setPixel p c).index q = fb.index q := by
  unfold Fb.index Fb.rowPixels; rw [setPixel_width, setPixel_bits]

theorem setPixel_length (fb : Fb) (hw : fb.Wf) (p : Pt) (c : Nat) :
    (fb.setPixel p c).data.length = fb.data.length := by
  by_cases hp : fb.inside p
  · rw [setPixel_inside fb hw c hp]; exact store_length _ _ _ _
  · rw [setPixel_outside fb c hp]

theorem setPixel_wf (fb : Fb) (hw : fb.Wf) (p : Pt) {c : Nat} (hc : c < 2 ^ fb.bits) :
    (fb.setPixel p c).Wf := by
  by_cases hp : fb.inside p
  · refine ⟨by rw [setPixel_bits]; exact hw.bits, ?_, ?_, ?_⟩
    · rw [setPixel_inside fb hw c hp]; exact store_bytesOk hw.bits _ _ hw.bytes hc
    · rw [setPixel_bufSize, setPixel_length fb hw]; exact hw.size
    · rw [setPixel_length fb hw]; exact hw.fits
  · rw [setPixel_outside fb c hp]; exact hw

theorem asImage_eq (fb : Fb) (hw : fb.Wf) :
    fb.asImage = some ⟨fb.bits, fb.order, fb.data.take fb.bufSize, fb.width, fb.height⟩ := by
  have hs := hw.size
  unfold Fb.asImage Img.new
  have hlen : (fb.data.take fb.bufSize).length = bytesPerRow fb.width fb.bits * fb.height := by
    simp only [List.length_take]
    have : fb.bufSize = bytesPerRow fb.width fb.bits * fb.height := rfl
    omega
  simp only [hs, ↓reduceIte, hlen, ne_eq, not_true_eq_false]

theorem pixel_eq_load (fb : Fb) (hw : fb.Wf) (q : Pt) :
    fb.pixel q = if fb.inside q then load fb.bits fb.order fb.data (fb.index q) else none := by
  unfold Fb.pixel
  rw [asImage_eq fb hw]
  simp only [Img.pixel]
  by_cases hq : fb.inside q
  · have hq' := hq
    obtain ⟨hx0, hy0, hx, hy⟩ := hq
    have hc : ¬ (q.x < 0 ∨ q.y < 0 ∨ q.x ≥ (fb.width : Int) ∨ q.y ≥ (fb.height : Int)) := by omega
    simp only [hc, hq', ↓reduceIte]
    have hfit : (Iter.new fb.bits fb.order (fb.data.take fb.bufSize)).Fits := by
      have := hw.fits
      show (fb.data.take fb.bufSize).length * 8 ≤ usizeMax
      simp only [List.length_take]; omega
    have hidx : q.x.toNat + q.y.toNat * (Img.dataWidth ⟨fb.bits, fb.order, fb.data.take fb.bufSize, fb.width, fb.height⟩)
        = fb.index q := rfl
    rw [hidx]
    have := Iter.nth_fst (Iter.new fb.bits fb.order (fb.data.take fb.bufSize)) hw.bits hfit.count_le (fb.index q)
    simp only [Iter.new, Nat.zero_add] at this ⊢
    rw [this]
    exact load_take hw.bits _ _ hw.size (index_lt_prefix fb hw.bits hq')
  · have hc : q.x < 0 ∨ q.y < 0 ∨ q.x ≥ (fb.width : Int) ∨ q.y ≥ (fb.height : Int) := by
      unfold Fb.inside at hq; omega
    simp only [hc, hq, ↓reduceIte]

theorem pixel_setPixel (fb : Fb) (hw : fb.Wf) (p : Pt) {c : Nat} (hc : c < 2 ^ fb.bits) (q : Pt) :
    (fb.setPixel p c).pixel q = if q = p ∧ fb.inside p then some c else fb.pixel q := by
  by_cases hp : fb.inside p
  · rw [pixel_eq_load _ (setPixel_wf fb hw p hc), pixel_eq_load fb hw]
    simp only [setPixel_inside_iff, setPixel_bits, setPixel_order, setPixel_index]
    by_cases hq : fb.inside q
    · -- get / set of the raw array; indices coincide only for the same pixel
      have hidx : fb.index q = fb.index p ↔ q = p :=
        ⟨index_inj fb hw.bits hq hp, fun h => by rw [h]⟩
      simp only [hq, hp, and_true, ↓reduceIte]
      rw [setPixel_inside fb hw c hp]
      show load fb.bits fb.order (store fb.bits fb.order c fb.data (fb.index p)).2 (fb.index q) = _
      rw [Raw.load_store hw.bits _ hw.bytes hc (index_lt fb hw hp)]
      simp only [hidx]
    · have hqp : ¬ (q = p ∧ fb.inside p) := by
        rintro ⟨rfl, _⟩; exact hq hp
      simp only [hq, hqp, ↓reduceIte]
  · rw [setPixel_outside fb c hp]
    simp only [hp, and_false, ↓reduceIte]

theorem setPixel_tail (fb : Fb) (hw : fb.Wf) (p : Pt) (c : Nat) {k : Nat} (hk : fb.bufSize ≤ k) :
    (fb.setPixel p c).data[k]? = fb.data[k]? := by
  by_cases hp : fb.inside p
  · rw [setPixel_inside fb hw c hp]
    apply store_other_bytes
    intro hown
    have := ownByte_lt hw.bits (index_lt_prefix fb hw.bits hp) hown
    omega
  · rw [setPixel_outside fb c hp]

/-- The colours of a write list are values of the raw type (what `C::into()` can produce). -/
def ColorsOk (bits : Nat) (ws : Writes) : Prop := ∀ w ∈ ws, w.2 < 2 ^ bits

theorem ColorsOk.tail {bits : Nat} {w : Pt × Color} {ws : Writes} (h : ColorsOk bits (w :: ws)) :
    ColorsOk bits ws := fun x hx => h x (List.mem_cons_of_mem _ hx)

theorem ColorsOk.head {bits : Nat} {w : Pt × Color} {ws : Writes} (h : ColorsOk bits (w :: ws)) :
    w.2 < 2 ^ bits := h w List.mem_cons_self

/-- `pixel` agrees with the abstract map `m`: inside the area the colour last written according
to `m`, the all-zero colour where `m` has no entry; `None` outside. -/
def Refines (fb : Fb) (m : PMap) : Prop :=
  ∀ q, fb.pixel q = if fb.inside q then some ((m q).getD 0) else none

theorem drawIter_cons (fb : Fb) (w : Pt × Color) (ws : Writes) :
    fb.drawIter (w :: ws) = (fb.setPixel w.1 w.2).drawIter ws := rfl

theorem drawIter_append (fb : Fb) (a b : Writes) :
    fb.drawIter (a ++ b) = (fb.drawIter a).drawIter b := by
  unfold Fb.drawIter; rw [List.foldl_append]

theorem drawIter_bits (fb : Fb) (ws : Writes) : (fb.drawIter ws).bits = fb.bits := by
  induction ws generalizing fb with
  | nil => rfl
  | cons w ws ih => rw [drawIter_cons, ih, setPixel_bits]

theorem drawIter_width (fb : Fb) (ws : Writes) : (fb.drawIter ws).width = fb.width := by
  induction ws generalizing fb with
  | nil => rfl
  | cons w ws ih => rw [drawIter_cons, ih, setPixel_width]

theorem drawIter_height (fb : Fb) (ws : Writes) : (fb.drawIter ws).height = fb.height := by
  induction ws generalizing fb with
  | nil => rfl
  | cons w ws ih => rw [drawIter_cons, ih, setPixel_height]

theorem drawIter_bbox (fb : Fb) (ws : Writes) : (fb.drawIter ws).bbox = fb.bbox := by
  unfold Fb.bbox; rw [drawIter_width, drawIter_height]

theorem drawIter_bufSize (fb : Fb) (ws : Writes) : (fb.drawIter ws).bufSize = fb.bufSize := by
  unfold Fb.bufSize; rw [drawIter_width, drawIter_height, drawIter_bits]

theorem drawIter_inside_iff (fb : Fb) (ws : Writes) (q : Pt) :
    (fb.drawIter ws).inside q ↔ fb.inside q := by
  unfold Fb.inside; rw [drawIter_width, drawIter_height]

theorem refines_setPixel (fb : Fb) (hw : fb.Wf) (m : PMap) (hr : Refines fb m) (p : Pt) {c : Nat}
    (hc : c < 2 ^ fb.bits) :
    Refines (fb.setPixel p c) (fun q => if q = p then some c else m q) := by
  intro q
  rw [pixel_setPixel fb hw p hc, hr q]
  simp only [setPixel_inside_iff]
  by_cases hqp : q = p
  · subst hqp
    by_cases hq : fb.inside q
    · simp only [hq, and_self, ↓reduceIte, Option.getD_some]
    · simp only [hq, and_false, ↓reduceIte]
  · simp only [hqp, false_and, ↓reduceIte]

theorem refines_drawIter (fb : Fb) (hw : fb.Wf) (m : PMap) (hr : Refines fb m) (ws : Writes)
    (hc : ColorsOk fb.bits ws) : (fb.drawIter ws).Wf ∧ Refines (fb.drawIter ws) (m.apply ws) := by
  induction ws generalizing fb m with
  | nil => exact ⟨hw, hr⟩
  | cons w ws ih =>
    rw [drawIter_cons]
    have hw' := setPixel_wf fb hw w.1 hc.head
    have hr' := refines_setPixel fb hw m hr w.1 hc.head
    have hc' : ColorsOk (fb.setPixel w.1 w.2).bits ws := by rw [setPixel_bits]; exact hc.tail
    exact ih _ hw' _ hr' hc'

def Fb.run (fb : Fb) (calls : List Call) : Fb := calls.foldl Fb.call fb

theorem run_eq_drawIter (fb : Fb) (calls : List Call) :
    fb.run calls = fb.drawIter (calls.flatMap (Call.lowerDefault fb.bbox)) := by
  induction calls generalizing fb with
  | nil => rfl
  | cons c cs ih =>
    show Fb.run (fb.call c) cs = _
    rw [ih, List.flatMap_cons, drawIter_append]
    unfold Fb.call
    rw [drawIter_bbox]

theorem new_wf {bits : Nat} (hb : validBits bits = true) (o : Order) (w h n : Nat)
    (hn : bufferSize w h bits ≤ n) (hf : n * 8 ≤ usizeMax) : (Fb.new bits o w h n).Wf := by
  refine ⟨hb, ?_, ?_, ?_⟩
  · intro b hb'
    simp only [Fb.new, List.mem_replicate] at hb'
    omega
  · simp only [Fb.new, Fb.bufSize, List.length_replicate]; exact hn
  · simp only [Fb.new, List.length_replicate]; exact hf

theorem new_refines {bits : Nat} (hb : validBits bits = true) (o : Order) (w h n : Nat)
    (hn : bufferSize w h bits ≤ n) (hf : n * 8 ≤ usizeMax) :
    Refines (Fb.new bits o w h n) PMap.empty := by
  intro q
  have hw := new_wf hb o w h n hn hf
  rw [pixel_eq_load _ hw]
  by_cases hq : (Fb.new bits o w h n).inside q
  · simp only [hq, ↓reduceIte, PMap.empty, Option.getD_none]
    have := index_lt _ hw hq
    simp only [Fb.new, List.length_replicate] at this ⊢
    exact load_replicate_zero hb o this
  · simp only [hq, ↓reduceIte]

end EG.Fb
