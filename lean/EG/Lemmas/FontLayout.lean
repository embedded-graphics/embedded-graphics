/-
  EG.Lemmas.FontLayout — `line_elements` in closed form (cell positions `cellX`, end position `endPos`), the calls of
  `draw_string_binary` by recursion on the text, and the guard of the decorations in `draw_string`.
-/
import EG.Model.Font
namespace EG
namespace Font

/-- Closed form of what the `for` loop of `draw_string_binary` sees: character cells `cw + spacing`
apart, a spacing element after every character but the last, `Done` at the end of the last cell. -/
def lineSpec (f : MonoFont) (pos : Pt) : List Nat → List (Pt × Elem)
  | [] => [(pos, .done)]
  | [c] => [(pos, .char c), (⟨pos.x + (f.cw : Int), pos.y⟩, .done)]
  | c :: c' :: cs =>
    (pos, .char c) :: (⟨pos.x + (f.cw : Int), pos.y⟩, .spacing) ::
      lineSpec f ⟨pos.x + (f.cw : Int) + (f.spacing : Int), pos.y⟩ (c' :: cs)

theorem toListFuel_eq_lineSpec (f : MonoFont) : ∀ (text : List Nat) (pos : Pt) (fuel : Nat),
    2 * text.length + 1 ≤ fuel → (⟨pos, text, false⟩ : LineIt).toListFuel f fuel = lineSpec f pos text
  | [], pos, fuel + 1, _ => rfl
  | [c], pos, fuel + 2, _ => rfl
  | c :: c' :: cs, pos, fuel + 2, h => by
    have ih := toListFuel_eq_lineSpec f (c' :: cs) ⟨pos.x + (f.cw : Int) + (f.spacing : Int), pos.y⟩ fuel
      (by simp only [List.length_cons] at h ⊢; omega)
    simp only [lineSpec, ← ih]
    rfl

theorem lineElements_eq_lineSpec (f : MonoFont) (pos : Pt) (text : List Nat) :
    lineElements f pos text = lineSpec f pos text :=
  toListFuel_eq_lineSpec f text pos _ (Nat.le_refl _)

def cellX (f : MonoFont) (pos : Pt) (i : Nat) : Int := pos.x + ((i * (f.cw + f.spacing) : Nat) : Int)

theorem cellX_zero (f : MonoFont) (pos : Pt) : cellX f pos 0 = pos.x := by
  simp [cellX]

theorem cellX_succ (f : MonoFont) (pos : Pt) (i : Nat) :
    cellX f pos (i + 1) = cellX f ⟨pos.x + (f.cw : Int) + (f.spacing : Int), pos.y⟩ i := by
  unfold cellX
  rw [Nat.succ_mul]
  simp only [Int.natCast_add]
  omega

theorem cellX_ge (f : MonoFont) (pos : Pt) (i : Nat) : pos.x ≤ cellX f pos i :=
  Int.le_add_of_nonneg_right (Int.natCast_nonneg _)

theorem lineSpec_char (f : MonoFont) : ∀ (text : List Nat) (pos : Pt) (i : Nat) (h : i < text.length),
    (lineSpec f pos text)[2 * i]? = some (⟨cellX f pos i, pos.y⟩, .char text[i])
  | [c], pos, 0, _ => by simp [lineSpec, cellX]
  | c :: c' :: cs, pos, 0, _ => by simp [lineSpec, cellX]
  | c :: c' :: cs, pos, i + 1, h => by
    rw [cellX_succ]
    exact lineSpec_char f (c' :: cs) ⟨pos.x + (f.cw : Int) + (f.spacing : Int), pos.y⟩ i
      (Nat.lt_of_succ_lt_succ h)

theorem lineSpec_spacing (f : MonoFont) : ∀ (text : List Nat) (pos : Pt) (i : Nat) (_ : i + 1 < text.length),
    (lineSpec f pos text)[2 * i + 1]? = some (⟨cellX f pos i + (f.cw : Int), pos.y⟩, .spacing)
  | c :: c' :: cs, pos, 0, _ => by simp [lineSpec, cellX]
  | c :: c' :: cs, pos, i + 1, h => by
    rw [cellX_succ]
    exact lineSpec_spacing f (c' :: cs) ⟨pos.x + (f.cw : Int) + (f.spacing : Int), pos.y⟩ i
      (Nat.lt_of_succ_lt_succ h)

theorem lineSpec_chars (f : MonoFont) : ∀ (text : List Nat) (pos p : Pt) (c : Nat),
    (p, Elem.char c) ∈ lineSpec f pos text → c ∈ text
  | [], _, _, _, h => by simp [lineSpec] at h
  | [c0], _, _, _, h => by
    simp only [lineSpec, List.mem_cons, Prod.mk.injEq, Elem.char.injEq, reduceCtorEq, and_false,
      List.not_mem_nil, or_false] at h
    rw [h.2]; exact List.mem_cons_self ..
  | c0 :: c1 :: cs, pos, p, c, h => by
    simp only [lineSpec, List.mem_cons, Prod.mk.injEq, Elem.char.injEq, reduceCtorEq, and_false,
      false_or] at h
    rcases h with ⟨_, rfl⟩ | h
    · exact List.mem_cons_self ..
    · exact List.mem_cons_of_mem _ (lineSpec_chars f (c1 :: cs) _ p c h)

/-- Position after the text: the end of the last character cell (no trailing spacing). -/
def endPos (f : MonoFont) (pos : Pt) (n : Nat) : Pt :=
  if n = 0 then pos else ⟨cellX f pos (n - 1) + (f.cw : Int), pos.y⟩

theorem lineSpec_length (f : MonoFont) : ∀ (text : List Nat) (pos : Pt),
    (lineSpec f pos text).length = if text.length = 0 then 1 else 2 * text.length
  | [], _ => rfl
  | [c], _ => rfl
  | c :: c' :: cs, pos => by
    have ih := lineSpec_length f (c' :: cs) ⟨pos.x + (f.cw : Int) + (f.spacing : Int), pos.y⟩
    simp only [lineSpec, List.length_cons, ih]
    simp only [Nat.add_eq_zero_iff, Nat.succ_ne_self, and_false, ↓reduceIte]
    omega

theorem lineSpec_done (f : MonoFont) : ∀ (text : List Nat) (pos : Pt),
    (lineSpec f pos text).find? (fun e => e.2 == Elem.done) = some (endPos f pos text.length, .done)
  | [], pos => rfl
  | [c], pos => by simp [lineSpec, endPos, cellX]
  | c :: c' :: cs, pos => by
    have ih := lineSpec_done f (c' :: cs) ⟨pos.x + (f.cw : Int) + (f.spacing : Int), pos.y⟩
    have hne : (Elem.spacing == Elem.done) = false := rfl
    simp only [lineSpec, List.find?_cons, hne, ih, endPos, List.length_cons, Nat.succ_ne_zero, ↓reduceIte,
      Nat.add_sub_cancel, cellX_succ f pos]
    rfl

def spacingCalls (f : MonoFont) (hasBg : Bool) (p : Pt) : List BCall :=
  if f.spacing > 0 ∧ hasBg then [BCall.fillSolid ⟨p, ⟨f.spacing, f.ch⟩⟩ false] else []

def textBCalls (f : MonoFont) (atlas : Pt → Bool) (hasBg : Bool) (pos : Pt) : List Nat → List BCall
  | [] => []
  | [c] => f.glyphCalls atlas c pos
  | c :: c' :: cs =>
    f.glyphCalls atlas c pos ++ spacingCalls f hasBg ⟨pos.x + (f.cw : Int), pos.y⟩ ++
      textBCalls f atlas hasBg ⟨pos.x + (f.cw : Int) + (f.spacing : Int), pos.y⟩ (c' :: cs)

theorem flatMap_lineSpec (f : MonoFont) (atlas : Pt → Bool) (hasBg : Bool) : ∀ (text : List Nat) (pos : Pt),
    (lineSpec f pos text).flatMap (f.elemCalls atlas hasBg) = textBCalls f atlas hasBg pos text
  | [], _ => by simp [lineSpec, textBCalls, MonoFont.elemCalls]
  | [c], _ => by simp [lineSpec, textBCalls, MonoFont.elemCalls]
  | c :: c' :: cs, pos => by
    have ih := flatMap_lineSpec f atlas hasBg (c' :: cs) ⟨pos.x + (f.cw : Int) + (f.spacing : Int), pos.y⟩
    simp only [lineSpec, textBCalls, List.flatMap_cons, ih, MonoFont.elemCalls, spacingCalls, List.append_assoc]

theorem drawStringBinary_eq (f : MonoFont) (atlas : Pt → Bool) (hasBg : Bool) (text : List Nat) (pos : Pt) :
    f.drawStringBinary atlas hasBg text pos =
      (textBCalls f atlas hasBg pos text, endPos f pos text.length) := by
  unfold MonoFont.drawStringBinary
  simp only [lineElements_eq_lineSpec, flatMap_lineSpec, lineSpec_done]

/-- The guard of the decorations in `draw_string` (`next.x > position.x`) for an advance of `w`. -/
theorem drawDecorations_guard (f : MonoFont) (st : Style) (pos : Pt) (x : Int) (w : Nat) :
    (if x + (w : Int) > x then f.drawDecorations st (x + (w : Int) - x).toNat pos else []) =
      if 0 < w then f.drawDecorations st w pos else [] := by
  have hw : (x + (w : Int) - x).toNat = w := by omega
  have hc : x + (w : Int) > x ↔ 0 < w := by omega
  simp only [hw, hc]

end Font
end EG
