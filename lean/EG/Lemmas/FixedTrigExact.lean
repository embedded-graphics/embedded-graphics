/-
  EG.Lemmas.FixedTrigExact — the `fixed_point` build against the EXACT geometry: for every raw angle
  `a` (I16F16 bits, i.e. the angle `a / 65536` radians) on which `with_angle` does not panic, the
  integer normal vector it computes is within 10.32 (of 1024), componentwise, of the exact scaled
  normal `1024 (-sin (a / 65536), cos (a / 65536))` (`Real.sin`, `Real.cos`). This is the hypothesis
  `NormalWithin` of `sector_angular_partial` (EG/Props/C18/Sector.lean), so the angular claim of C18
  follows relative to the exact boundary lines with the property's 1.5 px, with no hypothesis left.

  Error budget of one component, in units of 1/1024:
      63/64      truncation of `1024 sin` to an integer                         (`t64_err`)
    + 1/128      the table entry against the real sine of its whole degree      (`sinT_accurate`)
    + 9.3184     whole-degree rounding: `|a / 65536 - k π / 180| <= 0.0091` rad (`angle_error`):
                 half a degree + 2^-16 degree of the truncating division + the code's `PI` (205887
                 bits = 3.1415863) against π over up to 29 turns (`|k| <= 10432`)
    + 0.0046     `FRAC_PI_2` (102944 bits) against π / 2, cosine only
    = 10.3152 <= 10.32 < 16.
-/
import Mathlib.Analysis.SpecialFunctions.Trigonometric.Bounds
import EG.Lemmas.SineTable
import EG.Lemmas.FixedTrigSector
namespace EG.Fx
open EG EG.Generated Real

noncomputable def sinR (k : Int) : ℝ := 65536 * Real.sin ((k : ℝ) * π / 180)

theorem sinR_reflect (k : Int) : sinR (180 - k) = sinR k := by
  unfold sinR
  rw [show ((180 - k : Int) : ℝ) * π / 180 = π - (k : ℝ) * π / 180 by push_cast; ring, Real.sin_pi_sub]

theorem sinR_half_turn (k : Int) : sinR (k + 180) = -sinR k := by
  unfold sinR
  rw [show ((k + 180 : Int) : ℝ) * π / 180 = (k : ℝ) * π / 180 + π by push_cast; ring, Real.sin_add_pi,
    mul_neg]

theorem sinR_period (m q : Int) : sinR (m + 360 * q) = sinR m := by
  unfold sinR
  rw [show ((m + 360 * q : Int) : ℝ) * π / 180 = (m : ℝ) * π / 180 + (q : ℝ) * (2 * π) by push_cast; ring,
    Real.sin_add_int_mul_two_pi]

/-- The table sine of every integer degree is the correctly rounded real sine: the first quadrant is
`SineTable.sine_table_accurate`, the rest by the symmetries `sinT` and `sinR` share. -/
theorem sinT_accurate (k : Int) : |(sinT k : ℝ) - sinR k| ≤ 1 / 2 := by
  have q1 : ∀ m : Int, 0 ≤ m → m ≤ 90 → |(sinT m : ℝ) - sinR m| ≤ 1 / 2 := fun m h0 h1 => by
    have h := SineTable.sine_table_accurate m.toNat (by omega)
    rwa [show sinTable.getD m.toNat 0 = sinT m from (sinT_q1 m ⟨h0, h1⟩).symm,
      show ((m.toNat : Nat) : ℝ) = (m : ℝ) by exact_mod_cast Int.toNat_of_nonneg h0] at h
  have half : ∀ m : Int, 0 ≤ m → m ≤ 180 → |(sinT m : ℝ) - sinR m| ≤ 1 / 2 := fun m h0 h1 => by
    by_cases h : m ≤ 90
    · exact q1 m h0 h
    · rw [← sinT_reflect m, ← sinR_reflect m]
      exact q1 (180 - m) (by omega) (by omega)
  obtain ⟨m, q, rfl, h0, h1⟩ := turn_rep k
  rw [sinT_period, sinR_period]
  by_cases h : m ≤ 180
  · exact half m h0 h
  · have := half (m - 180) (by omega) (by omega)
    have e1 := sinT_half_turn (m - 180)
    have e2 := sinR_half_turn (m - 180)
    rw [show m - 180 + 180 = m by omega] at e1 e2
    rwa [e1, e2, Int.cast_neg, neg_sub_neg, abs_sub_comm]

/-- The degrees of angles that do not overflow are at most 10432 in absolute value. -/
theorem deg_bound (b : Int) (h : DegFits b) : -10432 ≤ deg b ∧ deg b ≤ 10432 := by
  unfold DegFits at h
  have := deg_nearest b
  constructor <;> omega

/-- Whole-degree rounding against the exact angle: the raw angle `b` is `b / 65536` radians, the
code rounds it to `deg b` degrees; the two differ by at most 0.0091 rad (0.5214 degrees). -/
theorem angle_error (b : Int) (h : DegFits b) :
    |(b : ℝ) / 65536 - (deg b : ℝ) * π / 180| ≤ 0.0091 := by
  have k1' := (Int.cast_le (R := ℝ)).mpr (deg_bound b h).1
  have k2' := (Int.cast_le (R := ℝ)).mpr (deg_bound b h).2
  have n1' := (Int.cast_le (R := ℝ)).mpr (deg_nearest b).1
  have n2' := (Int.cast_le (R := ℝ)).mpr (deg_nearest b).2
  push_cast at k1' k2' n1' n2'
  generalize (deg b : ℝ) = k at *
  generalize (b : ℝ) = x at *
  -- `d`: the code's `PI / 180` is a little below the real one; it is multiplied by up to 10432 degrees
  obtain ⟨d, hd⟩ : ∃ d, d = π / 180 - 205887 / 11796480 := ⟨_, rfl⟩
  have d0 : 0 ≤ d := by rw [hd]; linarith [Real.pi_gt_d20]
  have d1 : d ≤ 0.0000000353 := by rw [hd]; linarith [Real.pi_lt_d20]
  have p1 : k * d ≤ 10432 * d := mul_le_mul_of_nonneg_right k2' d0
  have p2 : -10432 * d ≤ k * d := mul_le_mul_of_nonneg_right k1' d0
  have e : x / 65536 - k * π / 180 = (11796480 * x - 13493010432 * k) / 773094113280 - k * d := by
    rw [hd]; ring
  rw [e, abs_le]
  constructor
  · linear_combination (1 / 773094113280) * n2' + p1 + 10432 * d1
  · linear_combination (1 / 773094113280) * n1' + p2 + 10432 * d1

/-- `FRAC_PI_2` (102944 bits) against π / 2. -/
theorem frac_pi_2_error : |(102944 : ℝ) / 65536 - π / 2| ≤ 0.0000045 := by
  have hl := Real.pi_gt_d20
  have hh := Real.pi_lt_d20
  rw [abs_le]; constructor <;> linarith

/-- One component: the truncated `1024 * sinT (deg b)` against `1024 sin t`, for `t` at or near
the angle `b / 65536` (the cosine is the sine at `t = (b - FRAC_PI_2) / 65536 + π / 2`). -/
theorem component_error (b : Int) (h : DegFits b) (t : ℝ) :
    |(t64 (sinT (deg b)) : ℝ) - 1024 * Real.sin t| ≤ 10.3107 + 1024 * |(b : ℝ) / 65536 - t| := by
  have h1 : |(64 : ℝ) * (t64 (sinT (deg b)) : ℝ) - (sinT (deg b) : ℝ)| ≤ 63 := by
    exact_mod_cast t64_err (sinT (deg b))
  have h2 := sinT_accurate (deg b)
  unfold sinR at h2
  have h3 := Real.abs_sin_sub_sin_le ((deg b : ℝ) * π / 180) t
  have h4 := angle_error b h
  have h5 := abs_sub_le ((deg b : ℝ) * π / 180) ((b : ℝ) / 65536) t
  rw [abs_sub_comm] at h4
  generalize |(b : ℝ) / 65536 - t| = r at *
  rw [abs_le] at h1 h2 h3 ⊢
  constructor
  · linear_combination (1 / 64) * h1.1 + (1 / 64) * h2.1 + 1024 * h3.1 + 1024 * h5 + 1024 * h4
  · linear_combination (1 / 64) * h1.2 + (1 / 64) * h2.2 + 1024 * h3.2 + 1024 * h5 + 1024 * h4

/-- The normal vector against the exact normal, every raw angle: the budget of the file header. -/
theorem normalOf_exact {a : Int} (hf : AngleFits a) :
    NormalWithin (K := ℝ) (normalOf a)
      (1024 * -Real.sin ((a : ℝ) / 65536), 1024 * Real.cos ((a : ℝ) / 65536)) 10.32 := by
  constructor
  · have hx := component_error a hf.1 ((a : ℝ) / 65536)
    rw [sub_self, abs_zero] at hx
    show |((-(t64 (sinT (deg a))) : Int) : ℝ) - 1024 * -Real.sin ((a : ℝ) / 65536)| ≤ 10.32
    rw [Int.cast_neg, mul_neg, ← neg_sub', abs_neg]
    linear_combination hx
  · have hy := component_error (a + 102944) hf.2 ((a : ℝ) / 65536 + π / 2)
    rw [Real.sin_add_pi_div_two, Int.cast_add, Int.cast_ofNat, add_div, add_sub_add_left_eq_sub] at hy
    have := frac_pi_2_error
    show |((t64 (sinT (deg (a + 102944))) : Int) : ℝ) - 1024 * Real.cos ((a : ℝ) / 65536)| ≤ 10.32
    linear_combination hy + 1024 * this

/-- Table degrees at most one apart: the raw angles are at most 2290 bits (2.002 degrees) apart. -/
theorem close_of_deg_close (s w : Int) (h : deg (s + w) - deg s ≤ 1) : w ≤ 2290 := by
  have := deg_spec s
  have := deg_spec (s + w)
  omega

/-- Exact signed distance from the boundary line of the exact angle `t` (radians), scale 1024. -/
noncomputable def exactLineDist (t : ℝ) (delta : Pt) : ℝ :=
  exactDist (K := ℝ) (1024 * -Real.sin t, 1024 * Real.cos t) delta

/-- The chord between two points of the unit circle is at most the arc. -/
theorem chord_sq_le (a b : ℝ) :
    (Real.sin a - Real.sin b) ^ 2 + (Real.cos b - Real.cos a) ^ 2 ≤ (a - b) ^ 2 := by
  have hcos := Real.one_sub_sq_div_two_le_cos (x := a - b)
  rw [Real.cos_sub] at hcos
  linear_combination 2 * hcos + Real.sin_sq_add_cos_sq a + Real.sin_sq_add_cos_sq b

/-- Two exact boundary lines at most 0.035 rad apart (the 2290 bits of `close_of_deg_close`, `/ 65536`)
are never both 1.5 px away (with the sector between them) inside a circle of diameter 128, since
`128 * 0.035 = 4.48 < 6 = 2 * 3072 / 1024`: such sweeps make no acceptance claim. -/
theorem exact_adjacent (tr tl : ℝ) (h0 : 0 ≤ tl - tr) (h1 : tl - tr ≤ 0.035) (delta : Pt)
    (hd : delta.x * delta.x + delta.y * delta.y < 128 * 128) :
    ¬ (exactLineDist tl delta ≤ -3072 ∧ 3072 ≤ exactLineDist tr delta) := by
  rintro ⟨hl, hr⟩
  unfold exactLineDist exactDist at hl hr
  simp only at hl hr
  have hd' : (delta.x : ℝ) ^ 2 + (delta.y : ℝ) ^ 2 ≤ 128 ^ 2 := by
    rw [sq, sq, sq]
    exact_mod_cast hd.le
  generalize (delta.x : ℝ) = dx at *
  generalize (delta.y : ℝ) = dy at *
  -- the two distances differ by `1024 (dx, dy) · (u, v)`, `(u, v)` the chord between the two normals
  generalize hu : Real.sin tl - Real.sin tr = u at *
  generalize hv : Real.cos tr - Real.cos tl = v at *
  have hsum : 6 ≤ dx * u + dy * v := by rw [← hu, ← hv]; linarith
  have huv : u ^ 2 + v ^ 2 ≤ 0.035 ^ 2 := by
    rw [← hu, ← hv]
    exact le_trans (chord_sq_le tl tr) (pow_le_pow_left₀ h0 h1 2)
  -- Cauchy-Schwarz
  have cs : (dx * u + dy * v) ^ 2 ≤ (dx ^ 2 + dy ^ 2) * (u ^ 2 + v ^ 2) := by
    linear_combination sq_nonneg (dx * v - dy * u)
  have hsq : (6 : ℝ) ^ 2 ≤ (dx * u + dy * v) ^ 2 := pow_le_pow_left₀ (by norm_num) hsum 2
  have : (dx ^ 2 + dy ^ 2) * (u ^ 2 + v ^ 2) ≤ 128 ^ 2 * 0.035 ^ 2 :=
    mul_le_mul hd' huv (by positivity) (by norm_num)
  have : (6 : ℝ) ^ 2 ≤ 128 ^ 2 * 0.035 ^ 2 := le_trans hsq (le_trans cs this)
  norm_num at this

/-- Raw boundary angles `s`, `s + w` whose table degrees are at most one apart make no acceptance
claim against the exact lines. -/
theorem exact_unresolved (s w : Int) (hw : 0 ≤ w) (h : deg (s + w) - deg s ≤ 1) (delta : Pt)
    (hd : delta.x * delta.x + delta.y * delta.y < 128 * 128) :
    ¬ (exactLineDist (((s + w : Int) : ℝ) / 65536) delta ≤ -3072 ∧
      3072 ≤ exactLineDist ((s : ℝ) / 65536) delta) := by
  have hw' : (0 : ℝ) ≤ (w : ℝ) := by exact_mod_cast hw
  have hc : (w : ℝ) ≤ 2290 := by exact_mod_cast close_of_deg_close s w h
  have e : ((s + w : Int) : ℝ) / 65536 - (s : ℝ) / 65536 = (w : ℝ) / 65536 := by push_cast; ring
  exact exact_adjacent _ _ (by rw [e]; positivity) (by rw [e]; linarith) delta hd

/-- The angular claim of C18 for the fixed_point build against the EXACT boundary lines: right
boundary angle `r`, left boundary `r + w` (raw bits, both in the range of `with_angle`); the two lines are
those of the exact angles (radians); 1.5 px = 3072 (scale 1024, half pixels). -/
theorem sectorOf_exact_margin {r w : Int} (hw0 : 0 ≤ w) (hr : AngleFits r) (hl : AngleFits (r + w))
    (delta : Pt) (hd : delta.x * delta.x + delta.y * delta.y < 128 * 128) :
    MarginClaim (K := ℝ) (sectorOf r w).op ((sectorOf r w).contains delta)
      (exactLineDist (((r + w : Int) : ℝ) / 65536) delta) (exactLineDist ((r : ℝ) / 65536) delta) 3072 := by
  have hm := budget_le_3072 (K := ℝ) (eps := 10.32) (by norm_num) delta hd
  refine sectorOf_margin hw0 one_pos (.of_within (normalOf_exact hl)) (.of_within (normalOf_exact hr)) delta hm hm
    fun _ h1 h2 => ?_
  -- boundaries at most one table degree apart make no acceptance claim
  by_contra hno
  have := deg_unordered hw0 hno
  exact exact_unresolved r w hw0 (by omega) delta hd ⟨h1, h2⟩

end EG.Fx
