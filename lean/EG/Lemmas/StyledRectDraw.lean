/-
  EG.Lemmas.StyledRectDraw — what `draw()` of a styled rectangle leaves on a target: the call list
  as solid fills, its exact pixel map (`styledPicture`), which pixels `pixels()` yields, and that every write lies in
  the stroke area (= styled bounding box). The styled rectangle commutes with translation: areas, border
  rectangles, the call list of `draw()` and the colour choice of `pixels()` per point.
-/
import EG.Lemmas.StyledRect
import EG.Lemmas.StyledRectPixels
import EG.Lemmas.PMap
import EG.Lemmas.StyledPicture
import EG.Lemmas.PMapTranslate
namespace EG
namespace StyledRect
open Rect

theorem Guard.noSat {s : Style} {r : Rect} (h : Guard s r) : NoSat s r := by
  obtain ⟨hw, hr⟩ := h
  have hsz : (strokeArea s r).size = r.size.satAdd (Sz.newEqual (s.outsideStrokeWidth * 2)) := by
    unfold strokeArea Rect.offset
    rw [s.strokeOffset_eq hw]
    simp [withCenter]
  unfold InRange at hr
  rw [hsz] at hr
  simp only [Sz.satAdd, Sz.newEqual, satAddU32] at hr
  refine ⟨hw, ?_, ?_⟩
  · by_cases hc : r.size.w + s.outsideStrokeWidth * 2 ≤ 4294967295
    · omega
    · simp only [hc, ↓reduceIte] at hr
      omega
  · by_cases hc : r.size.h + s.outsideStrokeWidth * 2 ≤ 4294967295
    · omega
    · simp only [hc, ↓reduceIte] at hr
      omega

/-- `q` lies weakly within `sa` (also meaningful for zero-sized `q`). -/
def Within (q sa : Rect) : Prop :=
  (sa.tl.x ≤ q.tl.x ∧ q.tl.x + q.size.w ≤ sa.tl.x + sa.size.w) ∧
  (sa.tl.y ≤ q.tl.y ∧ q.tl.y + q.size.h ≤ sa.tl.y + sa.size.h)

theorem Within.contains {q sa : Rect} (h : Within q sa) {p : Pt} (hp : q.contains p = true) :
    sa.contains p = true := by
  unfold Within at h
  rw [contains_iff] at hp ⊢
  omega

/-- Shrinking by `i` about the centre pixel stays inside growing by `o` (one axis of `fillArea_within`). -/
theorem fill_within_axis (x0 : Int) (n i o : Nat) :
    x0 - (o : Int) ≤ x0 + (((n - 1) / 2 : Nat) : Int) - (((n - 2 * i - 1) / 2 : Nat) : Int) ∧
    x0 + (((n - 1) / 2 : Nat) : Int) - (((n - 2 * i - 1) / 2 : Nat) : Int) + ((n - 2 * i : Nat) : Int)
      ≤ x0 - (o : Int) + ((n + 2 * o : Nat) : Int) := by
  omega

theorem fillArea_within (s : Style) (r : Rect) (h : NoSat s r) :
    Within (fillArea s r) (strokeArea s r) := by
  rw [strokeArea_eq s r h, fillArea_eq s r h]
  exact ⟨fill_within_axis _ _ _ _, fill_within_axis _ _ _ _⟩

theorem strokeRects_within (s : Style) (r : Rect) (h : NoSat s r) :
    ∀ a ∈ strokeRects s r, Within a (strokeArea s r) := by
  obtain ⟨R1, -, R3⟩ := rows_facts s r h
  obtain ⟨C1, -, -⟩ := cols_facts s r h
  intro a ha
  unfold strokeRects at ha
  rcases List.mem_append.mp ha with ha | ha
  · simp only [List.mem_cons, List.not_mem_nil, or_false] at ha
    rcases ha with rfl | rfl
    · exact ⟨⟨Int.le_refl _, Int.le_refl _⟩, Int.le_refl _,
        show (strokeArea s r).tl.y + ((topBorder s r).size.h : Int) ≤ _ by omega⟩
    · unfold Within
      simp only [bottomBorder, topBorder, Int.natCast_zero, Int.add_zero]
      omega
  · split at ha
    · rename_i hf
      have h3 := R3 hf
      simp only [List.mem_cons, List.not_mem_nil, or_false] at ha
      rcases ha with rfl | rfl
      · unfold Within
        simp only [leftBorder, Int.natCast_zero, Int.add_zero]
        omega
      · unfold Within
        simp only [rightBorder, Rect.translate, Pt.add_x, Pt.add_y, leftBorder, Int.natCast_zero,
          Int.add_zero]
        omega
    · cases ha

/-- The `(area, colour)` pairs of the `fill_solid` calls of `draw_styled`, in order. -/
def drawSolids (s : Style) (r : Rect) : List (Rect × Color) :=
  (match s.fill with
   | some fc => [(fillArea s r, fc)]
   | none => []) ++
  (match s.effectiveStrokeColor with
   | none => []
   | some sc => (strokeRects s r).map (fun a => (a, sc)))

theorem drawCalls_eq_solidCalls (s : Style) (r : Rect) :
    drawCalls s r = solidCalls (drawSolids s r) := by
  unfold drawCalls drawSolids fillCalls solidCalls
  cases s.fill <;> cases s.effectiveStrokeColor <;>
    simp [strokeCalls_eq, List.map_map, Function.comp_def]

theorem mem_drawSolids {s : Style} {r : Rect} {ac : Rect × Color} :
    ac ∈ drawSolids s r ↔
      ((s.fill = some ac.2 ∧ ac.1 = fillArea s r) ∨
       (s.effectiveStrokeColor = some ac.2 ∧ ac.1 ∈ strokeRects s r)) := by
  obtain ⟨a, c⟩ := ac
  unfold drawSolids
  rw [List.mem_append]
  constructor
  · rintro (h | h)
    · left
      cases hf : s.fill with
      | none => rw [hf] at h; cases h
      | some fc =>
        rw [hf] at h
        simp only [List.mem_singleton, Prod.mk.injEq] at h
        obtain ⟨rfl, rfl⟩ := h
        exact ⟨rfl, rfl⟩
    · right
      cases he : s.effectiveStrokeColor with
      | none => rw [he] at h; cases h
      | some sc =>
        rw [he] at h
        simp only [List.mem_map, Prod.mk.injEq] at h
        obtain ⟨a', ha', rfl, rfl⟩ := h
        exact ⟨rfl, ha'⟩
  · rintro (⟨h1, h2⟩ | ⟨h1, h2⟩)
    · left
      simp only at h1 h2
      rw [h1, h2]
      exact List.mem_singleton.mpr rfl
    · right
      simp only at h1 h2
      rw [h1]
      exact List.mem_map.mpr ⟨a, h2, rfl⟩

theorem drawSolids_inRange {s : Style} {r : Rect} (h : Guard s r) :
    ∀ ac ∈ drawSolids s r, ac.1.InRange := by
  intro ac hac
  have hn := h.noSat
  rcases mem_drawSolids.mp hac with ⟨_, e⟩ | ⟨_, hm⟩
  · rw [e]
    have := fillArea_within s r hn
    exact InRange.of_within h.2 this.1 this.2
  · have := strokeRects_within s r hn _ hm
    exact InRange.of_within h.2 this.1 this.2

/-- Later solids win: the stroke colour wherever a border rectangle covers the point (exactly the
stroke area minus the fill area, `mem_strokeRects_iff`), else the fill colour inside the fill area. -/
theorem lastSolid_drawSolids (s : Style) (r : Rect) (h : NoSat s r) (p : Pt) :
    lastSolid (drawSolids s r) p = scanExpected s.stroke s.fill s.width (strokeArea s r).contains
      (fillArea s r).contains p := by
  have key := mem_strokeRects_iff s r h p
  unfold drawSolids scanExpected
  rw [lastSolid_append, s.effectiveStrokeColor_eq]
  by_cases hfa : (fillArea s r).contains p = true
  · -- in the fill area no border rectangle contains p
    have hno : ¬ ∃ a ∈ strokeRects s r, a.contains p = true := fun hex => (key.mp hex).2 hfa
    cases s.fill <;> cases s.stroke <;> by_cases hw : s.width > 0 <;>
      simp [lastSolid_nil, lastSolid_singleton, lastSolid_map_const, hfa, hno, hw]
  · have hex : (∃ a ∈ strokeRects s r, a.contains p = true) ↔ (strokeArea s r).contains p = true := by
      rw [key]; exact and_iff_left hfa
    cases s.fill <;> cases s.stroke <;> by_cases hw : s.width > 0 <;>
      simp [lastSolid_nil, lastSolid_singleton, lastSolid_map_const, hfa, hex, hw]

/-- **Exact picture of `draw()`**: the prescribed colour is `want` of the C06 oracle (harness/src/m_styled.rs). -/
theorem styledPicture {s : Style} {r : Rect} (h : Guard s r) :
    StyledPicture (drawCalls s r) s.stroke s.fill s.width (strokeArea s r).contains
      (fillArea s r).contains (styledBoundingBox s r) := by
  refine ⟨fun B p => ?_, fun _ => (fillArea_within s r h.noSat).contains, fun _ hp => hp⟩
  rw [drawCalls_eq_solidCalls, runNative_solidCalls _ _ (drawSolids_inRange h),
    lastSolid_drawSolids s r h.noSat]

theorem pixelOf_eq_some {s : Style} {r : Rect} {p q : Pt} {c : Color} :
    pixelOf s r p = some (q, c) ↔
      (q = p ∧ (if (fillArea s r).contains p = true then s.fill else s.stroke) = some c) := by
  unfold pixelOf
  simp only
  cases h : (if (fillArea s r).contains p = true then s.fill else s.stroke) with
  | none => simp
  | some c' =>
    simp only [Option.some.injEq, Prod.mk.injEq]
    constructor
    · rintro ⟨rfl, rfl⟩; exact ⟨rfl, rfl⟩
    · rintro ⟨rfl, rfl⟩; exact ⟨rfl, rfl⟩

/-- `pixels()` uses `stroke_color` itself, not `effective_stroke_color()`: with width 0 the stroke area
is the fill area, so the two agree on every pixel it yields. -/
theorem mem_pixelsList {s : Style} {r : Rect} (h : Guard s r) {p : Pt} {c : Color} :
    (p, c) ∈ pixelsList s r ↔
      (s.isTransparent = false ∧ (strokeArea s r).contains p = true ∧
        (if (fillArea s r).contains p = true then s.fill else s.stroke) = some c) := by
  rw [pixelsList_eq_spec]
  unfold pixelsSpec
  rw [List.mem_filterMap]
  by_cases ht : s.isTransparent = true
  · simp [ht]
  · have ht' : s.isTransparent = false := by simpa using ht
    simp only [ht', Bool.not_false, ↓reduceIte, true_and]
    constructor
    · rintro ⟨q, hq, hpx⟩
      obtain ⟨rfl, hc⟩ := pixelOf_eq_some.mp hpx
      exact ⟨(mem_points h.2).mp hq, hc⟩
    · rintro ⟨hsa, hc⟩
      exact ⟨p, (mem_points h.2).mpr hsa, pixelOf_eq_some.mpr ⟨rfl, hc⟩⟩

/-- `pixels()` holds exactly the prescribed colours: a transparent style prescribes none. -/
theorem mem_pixelsList_iff_expected {s : Style} {r : Rect} (h : Guard s r) (p : Pt) (c : Color) :
    (p, c) ∈ pixelsList s r ↔ scanExpected s.stroke s.fill s.width (strokeArea s r).contains
      (fillArea s r).contains p = some c := by
  have h0 : s.width = 0 → (strokeArea s r).contains = (fillArea s r).contains := fun hw => by
    unfold strokeArea fillArea
    rw [(s.offsets_of_width_zero hw).1, (s.offsets_of_width_zero hw).2]
  rw [mem_pixelsList h,
    ← scanExpected_eq_some_iff_pixel (fun hf => (fillArea_within s r h.noSat).contains hf) h0]
  refine and_iff_right_of_imp fun he => ?_
  cases ht : s.isTransparent with
  | false => rfl
  | true =>
    rw [Style.isTransparent_iff] at ht
    rw [scanExpected_transparent _ _ p ht.2 ht.1] at he
    cases he

theorem mem_drawCalls_lowerNative {s : Style} {r : Rect} (h : Guard s r) (B : Rect) {c : Call}
    (hc : c ∈ drawCalls s r) {w : Pt × Color} (hw : w ∈ c.lowerNative B) :
    (strokeArea s r).contains w.1 = true := by
  rw [drawCalls_eq_solidCalls] at hc
  unfold solidCalls at hc
  obtain ⟨ac, hac, rfl⟩ := List.mem_map.mp hc
  have hin := drawSolids_inRange h ac hac
  simp only [Call.lowerNative, List.mem_map] at hw
  obtain ⟨q, hq, rfl⟩ := hw
  have hq' := (mem_pointsSpec hin).mp hq
  have hn := h.noSat
  rcases mem_drawSolids.mp hac with ⟨_, e⟩ | ⟨_, hm⟩
  · rw [e] at hq'
    exact (fillArea_within s r hn).contains hq'
  · exact (strokeRects_within s r hn _ hm).contains hq'

theorem strokeArea_translate (s : Style) (r : Rect) (d : Pt) :
    strokeArea s (r.translate d) = (strokeArea s r).translate d := offset_translate r d _

theorem fillArea_translate (s : Style) (r : Rect) (d : Pt) :
    fillArea s (r.translate d) = (fillArea s r).translate d := offset_translate r d _

theorem styledBoundingBox_translate (s : Style) (r : Rect) (d : Pt) :
    styledBoundingBox s (r.translate d) = (styledBoundingBox s r).translate d := offset_translate r d _

theorem topBorder_translate (s : Style) (r : Rect) (d : Pt) :
    topBorder s (r.translate d) = (topBorder s r).translate d := by
  simp only [topBorder, strokeArea_translate]
  simp only [translate]

theorem bottomStrokeWidth_translate (s : Style) (r : Rect) (d : Pt) :
    bottomStrokeWidth s (r.translate d) = bottomStrokeWidth s r := by
  simp only [bottomStrokeWidth, topBorder, strokeArea_translate]
  simp only [translate]

theorem bottomBorder_translate (s : Style) (r : Rect) (d : Pt) :
    bottomBorder s (r.translate d) = (bottomBorder s r).translate d := by
  simp only [bottomBorder, bottomStrokeWidth_translate, topBorder, strokeArea_translate]
  simp only [translate, Rect.mk.injEq, and_true]
  rw [Pt.ext_iff']; simp only [Pt.add_x, Pt.add_y]; omega

theorem leftBorder_translate (s : Style) (r : Rect) (d : Pt) :
    leftBorder s (r.translate d) = (leftBorder s r).translate d := by
  simp only [leftBorder, topBorder, strokeArea_translate, fillArea_translate]
  simp only [translate, Rect.mk.injEq, and_true]
  rw [Pt.ext_iff']; simp only [Pt.add_x, Pt.add_y]; omega

theorem rightBorder_translate (s : Style) (r : Rect) (d : Pt) :
    rightBorder s (r.translate d) = (rightBorder s r).translate d := by
  unfold rightBorder
  rw [leftBorder_translate, strokeArea_translate]
  simp only [translate_size, translate_translate]
  congr 1
  rw [Pt.ext_iff']; simp only [Pt.add_x, Pt.add_y]; omega

theorem drawSolids_translate (s : Style) (r : Rect) (d : Pt) :
    drawSolids s (r.translate d) = (drawSolids s r).map (fun ac => (ac.1.translate d, ac.2)) := by
  unfold drawSolids strokeRects
  rw [fillArea_translate, topBorder_translate, bottomBorder_translate, leftBorder_translate,
    rightBorder_translate]
  simp only [translate_size]
  cases s.fill <;> cases s.effectiveStrokeColor <;>
    by_cases hf : (fillArea s r).size.h > 0 <;> simp [hf]

/-- **`draw()` of the moved rectangle makes the moved calls**, for every rectangle, style and
vector (no guard: every formula of `draw_styled` is relative to `top_left`). -/
theorem drawCalls_translate (s : Style) (r : Rect) (d : Pt) :
    drawCalls s (r.translate d) = (drawCalls s r).map (Call.translate d) := by
  rw [drawCalls_eq_solidCalls, drawCalls_eq_solidCalls, drawSolids_translate]
  simp [solidCalls, Call.translate, List.map_map, Function.comp_def]

theorem pixelOf_translate (s : Style) (r : Rect) (d p : Pt) :
    pixelOf s (r.translate d) (p + d) = (pixelOf s r p).map (fun w => (w.1 + d, w.2)) := by
  unfold pixelOf
  simp only [fillArea_translate, contains_translate]
  cases (if (fillArea s r).contains p = true then s.fill else s.stroke) <;> rfl

end StyledRect
end EG
