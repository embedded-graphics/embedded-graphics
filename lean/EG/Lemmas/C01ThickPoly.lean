/-
  EG.Lemmas.C01ThickPoly — styled polylines of width > 1: the `fill_solid` rectangles of
  `draw_styled` (`Joins.drawStyled`) write, in the same order, exactly the points `pixels()`
  (`Joins.pixels`) yields.

  Both walk the same `ScanlineIterator` (`PolyScanlines`): `draw_thick` turns every scanline into a
  1-px-high rectangle, `StyledPixelsIterator` walks every scanline point by point
  (`pixels_eq_run`, EG/Lemmas/JoinsTotalPoly.lean). Here: `drawStyled_eq_map` (the rectangles are the
  scanlines of the same run) and the write sequences (`poly_writes`).
-/
import EG.Lemmas.JoinsTotalPoly
import EG.Lemmas.JoinsPolyline
import EG.Lemmas.ScanlinePaths
namespace EG
namespace C01Thick
open EG.Tgt EG.Joins

theorem moveS_isEmpty (s : Scanline) (d : Pt) : (moveS s d).isEmpty = s.isEmpty := isEmpty_shiftS s d

theorem moveS_toRectangle (s : Scanline) (d : Pt) :
    (moveS s d).toRectangle = s.toRectangle.translate d := toRectangle_shiftS s d

theorem moveS_zero (s : Scanline) : moveS s Pt.zero = s := by
  unfold moveS Pt.zero
  cases s
  simp

theorem toRectangle_of_nonempty {s : Scanline} (h : s.isEmpty = false) :
    s.toRectangle = ⟨⟨s.xs, s.y⟩, ⟨(s.xe - s.xs).toNat, 1⟩⟩ := by
  unfold Scanline.toRectangle
  simp [h]

theorem toRectangle_not_zeroSized {s : Scanline} (h : s.isEmpty = false) :
    s.toRectangle.isZeroSized = false := by
  rw [toRectangle_of_nonempty h]
  have hx : s.xs < s.xe := by rw [← Bool.not_eq_true, Joins.isEmpty_iff] at h; omega
  unfold Rect.isZeroSized
  simp
  omega

/-- The `is_zero_sized` filter of `draw_thick` drops nothing: every scanline of the run is non-empty. -/
theorem drawStyled_eq_map (pl : Polyline) (w : Nat) (hw : 2 ≤ w) :
    drawStyled pl w = (polyScanlineRun pl w).map fun L =>
      .fillSolids (L.map fun s => (moveS s pl.translate).toRectangle) := by
  obtain ⟨L, hLr⟩ := polyScanlineRun_total pl w
  have hne := polyScanlineRun_nonempty hLr
  have hfilter : (L.map Scanline.toRectangle).filter (fun r => !r.isZeroSized) = L.map Scanline.toRectangle := by
    rw [List.filter_eq_self]
    intro r hr
    obtain ⟨s, hs, rfl⟩ := List.mem_map.mp hr
    rw [toRectangle_not_zeroSized (hne s hs)]
    rfl
  obtain ⟨k, rfl⟩ : ∃ k, w = k + 2 := ⟨w - 2, by omega⟩
  unfold drawStyled
  simp only [drawThickRects_eq, hLr, Option.map_some, hfilter, Option.bind_eq_bind, Option.bind_some]
  by_cases ht : pl.translate = Pt.zero
  · simp only [ht, ne_eq, not_true_eq_false, ↓reduceIte, pure, moveS_zero]
  · simp only [ne_eq, ht, not_false_eq_true, ↓reduceIte, pure, List.map_map, Function.comp_def,
      moveS_toRectangle]

/-- The native `fill_solid` of the rectangle of a non-empty scanline writes the points of the
scanline, left to right (the rectangle must not saturate `i32`). -/
theorem fillSolid_toRectangle_lower (s : Scanline) (h : s.isEmpty = false) (hr : s.toRectangle.InRange)
    (B : Rect) (c : Color) :
    Call.lowerNative B (.fillSolid s.toRectangle c) = s.points.map (fun p => (p, c)) := by
  have hwf : s.WF := by unfold Scanline.WF; rw [← toRectangle_of_nonempty h]; exact hr
  have := Scanline.draw_lowerNative s hwf B c
  unfold Scanline.draw at this
  simp only [h, Bool.false_eq_true, ↓reduceIte, List.flatMap_cons, List.flatMap_nil,
    List.append_nil] at this
  rw [toRectangle_of_nonempty h]
  exact this

/-- The target calls of a `PolyDraw` with stroke colour `c`. -/
def polyCalls (c : Color) : PolyDraw → List Call
  | .nothing => []
  | .drawIter pts => [Call.drawIter (pts.map (fun p => (p, c)))]
  | .fillSolids rs => rs.map (fun r => Call.fillSolid r c)

/-- The `fill_solid` rectangles of a `PolyDraw`. -/
def polyRects : PolyDraw → List Rect
  | .fillSolids rs => rs
  | _ => []

/-- **Stroked polyline, every width: the writes of `draw()` are the pixels of `pixels()`, in the
same order** — nothing for width 0; one `draw_iter` of `points()` for width 1; for width > 1 every
`fill_solid` rectangle is one scanline, written left to right, and `pixels()` walks the same
scanlines in the same order. `hr`: no rectangle saturates `i32`. -/
theorem poly_writes (pl : Polyline) (w : Nat) (c : Color) (B : Rect) (d : PolyDraw) (ps : List Pt)
    (hd : drawStyled pl w = some d) (hps : pixels pl w = some ps)
    (hr : ∀ r ∈ polyRects d, r.InRange) :
    (polyCalls c d).flatMap (Call.lowerNative B) = ps.map (fun p => (p, c)) := by
  rcases Nat.lt_or_ge w 2 with hw | hw
  · rcases (show w = 0 ∨ w = 1 by omega) with rfl | rfl
    · simp only [drawStyled, Option.some.injEq] at hd
      simp only [pixels, Option.some.injEq] at hps
      subst hd hps
      rfl
    · simp only [drawStyled, Option.some.injEq] at hd
      simp only [pixels, Option.some.injEq] at hps
      subst hd hps
      simp [polyCalls, Call.lowerNative]
  · obtain ⟨L, hL⟩ := polyScanlineRun_total pl w
    have hne := polyScanlineRun_nonempty hL
    rw [drawStyled_eq_map pl w hw, hL] at hd
    rw [pixels_eq_map pl w hw, hL] at hps
    cases hd
    cases hps
    simp only [polyCalls, polyRects] at hr ⊢
    rw [List.map_map, List.flatMap_map, List.map_flatMap, List.map_flatMap]
    apply flatMap_congr_left
    intro s hs
    simp only [Function.comp]
    rw [← moveS_points]
    apply fillSolid_toRectangle_lower
    · rw [moveS_isEmpty]; exact hne s hs
    · exact hr _ (List.mem_map.mpr ⟨s, hs, rfl⟩)

/-- `draw_styled` of `polyline.into_styled(style)`, `sc = style.stroke_color`, `w = style.stroke_width`:
nothing without a stroke colour. -/
def polyStyledCalls (pl : Polyline) (w : Nat) (sc : Option Color) : Option (List Call) :=
  match sc with
  | none => some []
  | some c => (drawStyled pl w).map (polyCalls c)

/-- `pixels()` of the same styled polyline: `next` returns `None` without a stroke colour. -/
def polyStyledPixels (pl : Polyline) (w : Nat) (sc : Option Color) : Option Writes :=
  match sc with
  | none => some []
  | some c => (pixels pl w).map (·.map (fun p => (p, c)))

/-- Guard: no `fill_solid` rectangle of `draw_styled` saturates `i32`. -/
def PolyRectsInRange (pl : Polyline) (w : Nat) : Prop :=
  match drawStyled pl w with
  | some d => ∀ r ∈ polyRects d, r.InRange
  | none => True

instance (pl : Polyline) (w : Nat) : Decidable (PolyRectsInRange pl w) := by
  unfold PolyRectsInRange; split <;> exact inferInstance

theorem PolyRectsInRange.iff_of_eq {pl : Polyline} {w : Nat} {d : PolyDraw} (h : drawStyled pl w = some d) :
    PolyRectsInRange pl w ↔ ∀ r ∈ polyRects d, r.InRange := by
  unfold PolyRectsInRange; rw [h]

theorem polyStyled_writes (pl : Polyline) (w : Nat) (sc : Option Color) (B : Rect)
    (hr : PolyRectsInRange pl w) (calls : List Call) (px : Writes)
    (hc : polyStyledCalls pl w sc = some calls) (hp : polyStyledPixels pl w sc = some px) :
    calls.flatMap (Call.lowerNative B) = px := by
  cases sc with
  | none =>
    simp only [polyStyledCalls, polyStyledPixels, Option.some.injEq] at hc hp
    subst hc hp
    rfl
  | some c =>
    unfold polyStyledCalls at hc
    unfold polyStyledPixels at hp
    dsimp only at hc hp
    cases hd : drawStyled pl w with
    | none => rw [hd] at hc; cases hc
    | some d =>
      cases hps : pixels pl w with
      | none => rw [hps] at hp; cases hp
      | some ps =>
        rw [hd] at hc
        rw [hps] at hp
        simp only [Option.map_some, Option.some.injEq] at hc hp
        subst hc hp
        exact poly_writes pl w c B d ps hd hps ((PolyRectsInRange.iff_of_eq hd).mp hr)

end C01Thick
end EG
