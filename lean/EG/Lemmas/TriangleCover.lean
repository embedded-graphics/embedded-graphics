/-
  EG.Lemmas.TriangleCover — a filled triangle covers the mathematical triangle.

  Lemmas about a single line: every row of a strictly downward line has a pixel less than a column right of
  the ideal line and one less than a column left of it (`row_pixel_sides`); so a lattice point `p`
  of that row on or to the right (left) of the ideal line has a pixel of the line at or left
  (right) of it (`pixel_left`, `pixel_right`). With the hull characterisation of `points()`
  (EG.Lemmas.TriangleSpan) this gives `covered_of_between`: a point on or between two edge lines is
  covered; `edges_around` finds the two edges for a point of the closed triangle, which gives
  `closed_triangle_covered`.
-/
import EG.Lemmas.TriangleSpan
import Mathlib.Tactic.Linarith
namespace EG
namespace Line

/-- `dx (p.y - y0) - dy (p.x - x0)`: positive when `p` is left of the downward line, negative when
it is right of it, zero on it. -/
def side (l : Line) (p : Pt) : Int :=
  dxOf l * (p.y - l.start.y) - dyOf l * (p.x - l.start.x)

theorem dmaj_cases (l : Line) (hdy : 0 < dyOf l) :
    (yMajor l ∧ dmaj l = dyOf l) ∨
    (¬ yMajor l ∧ 0 < dxOf l ∧ dmaj l = dxOf l ∧ dyOf l < dxOf l) ∨
    (¬ yMajor l ∧ dxOf l < 0 ∧ dmaj l = -dxOf l ∧ dyOf l < -dxOf l) := by
  unfold dmaj
  by_cases h : yMajor l
  · left; simp only [h, ↓reduceIte]; unfold aabs; exact ⟨trivial, by omega⟩
  · right
    simp only [h, ↓reduceIte]
    unfold yMajor aabs at h
    unfold aabs
    by_cases hx : 0 < dxOf l
    · left; refine ⟨not_false, hx, ?_, ?_⟩ <;> omega
    · right; refine ⟨not_false, ?_, ?_, ?_⟩ <;> omega

/-- The first pixel of a row: it is the start point or its predecessor is in the row above. -/
theorem first_in_row {l : Line} (h : 0 ≤ dyOf l) (y : Int) (h1 : l.start.y ≤ y) (h2 : y ≤ l.stop.y) :
    ∃ j : Nat, (j : Int) ≤ dmaj l ∧ (ptAt l j).y = y ∧
      (j = 0 ∨ ∃ i : Nat, j = i + 1 ∧ (ptAt l i).y = y - 1) := by
  have key : ∀ k : Nat, y ≤ (ptAt l k).y → ∃ j : Nat, j ≤ k ∧ (ptAt l j).y = y ∧
      (j = 0 ∨ ∃ i : Nat, j = i + 1 ∧ (ptAt l i).y = y - 1) := by
    intro k
    induction k with
    | zero =>
      intro hk
      rw [ptAt_zero] at hk
      exact ⟨0, Nat.le_refl _, by rw [ptAt_zero]; omega, Or.inl rfl⟩
    | succ k ih =>
      intro hk
      by_cases hc : y ≤ (ptAt l k).y
      · obtain ⟨j, hj, e⟩ := ih hc
        exact ⟨j, by omega, e⟩
      · have := ptAt_y_step l k
        rw [sgn_of_nonneg h] at this
        exact ⟨k + 1, Nat.le_refl _, by omega, Or.inr ⟨k, rfl, by omega⟩⟩
  have hd := dmaj_nonneg l
  have hlast := ptAt_last l (dmaj l).toNat (by omega)
  obtain ⟨j, hj, e⟩ := key (dmaj l).toNat (by rw [hlast]; exact h2)
  exact ⟨j, by omega, e⟩

/-- The last pixel of a row: it is the end point or its successor is in the row below. -/
theorem last_in_row {l : Line} (h : 0 ≤ dyOf l) (y : Int) (h1 : l.start.y ≤ y) (h2 : y ≤ l.stop.y) :
    ∃ j : Nat, (j : Int) ≤ dmaj l ∧ (ptAt l j).y = y ∧
      ((j : Int) = dmaj l ∨ (ptAt l (j + 1)).y = y + 1) := by
  have hd := dmaj_nonneg l
  by_cases hy : y = l.stop.y
  · exact ⟨(dmaj l).toNat, by omega, by rw [ptAt_last l _ (by omega)]; exact hy.symm, Or.inl (by omega)⟩
  · obtain ⟨j, hj, e, hfirst⟩ := first_in_row h (y + 1) (by omega) (by omega)
    rcases hfirst with rfl | ⟨i, rfl, hi⟩
    · rw [ptAt_zero] at e; omega
    · exact ⟨i, by omega, by omega, Or.inr e⟩

theorem side_start (l : Line) : side l l.start = 0 := by
  unfold side; ring

theorem side_stop (l : Line) : side l l.stop = 0 := by
  unfold side dxOf dyOf; ring

theorem side_step (l : Line) {p q : Pt} {a b : Int} (hx : q.x = p.x + a) (hy : q.y = p.y + b) :
    side l q = side l p + dxOf l * b - dyOf l * a := by
  unfold side; rw [hx, hy]; ring

/-- Every row of a strictly downward line has a pixel less than one column right of the ideal line
and a pixel less than one column left of it. For a y-major line any pixel of the row is within half
a column; for an x-major line take the first and the last pixel of the row and use the half-row bound
of their neighbours in the adjacent rows. -/
theorem row_pixel_sides {l : Line} (hdy : 0 < dyOf l) (y : Int) (h1 : l.start.y ≤ y)
    (h2 : y ≤ l.stop.y) :
    (∃ q ∈ points l, q.y = y ∧ -dyOf l < side l q) ∧ (∃ q ∈ points l, q.y = y ∧ side l q < dyOf l) := by
  have h0 := Int.le_of_lt hdy
  rcases dmaj_cases l hdy with ⟨hm, hd⟩ | ⟨hm, hx, hd, hlt⟩ | ⟨hm, hx, hd, hlt⟩
  · obtain ⟨q, hq, hy⟩ := exists_point_in_row l y (by omega) (by omega)
    obtain ⟨k, hk, rfl⟩ := mem_points.mp hq
    have hc : -dmaj l ≤ 2 * side l (ptAt l k) ∧ 2 * side l (ptAt l k) ≤ dmaj l := ptAt_cross l k hk
    exact ⟨⟨_, hq, hy, by omega⟩, ⟨_, hq, hy, by omega⟩⟩
  · -- to the right: the first pixel of the row is not far right, the last one not far left
    have hsg := sgn_of_nonneg (Int.le_of_lt hx)
    constructor
    · obtain ⟨j, hj, hy, hfirst⟩ := first_in_row h0 y h1 h2
      refine ⟨ptAt l j, mem_points.mpr ⟨j, hj, rfl⟩, hy, ?_⟩
      rcases hfirst with rfl | ⟨i, rfl, hi⟩
      · rw [ptAt_zero, side_start]; omega
      · have hstep := ((ptAt_step l i).2 hm).1
        have hc : -dmaj l ≤ 2 * side l (ptAt l i) := (ptAt_cross l i (by omega)).1
        have e := side_step l (p := ptAt l i) (q := ptAt l (i + 1)) (a := 1) (b := 1) (by omega) (by omega)
        omega
    · obtain ⟨j, hj, hy, hlast⟩ := last_in_row h0 y h1 h2
      refine ⟨ptAt l j, mem_points.mpr ⟨j, hj, rfl⟩, hy, ?_⟩
      by_cases hjd : (j : Int) = dmaj l
      · rw [ptAt_last l j hjd, side_stop]; exact hdy
      · have hnext := hlast.resolve_left hjd
        have hstep := ((ptAt_step l j).2 hm).1
        have hc : 2 * side l (ptAt l (j + 1)) ≤ dmaj l := (ptAt_cross l (j + 1) (by omega)).2
        have e := side_step l (p := ptAt l j) (q := ptAt l (j + 1)) (a := 1) (b := 1) (by omega) (by omega)
        omega
  · -- to the left: the other way round
    have hsg := sgn_of_neg hx
    constructor
    · obtain ⟨j, hj, hy, hlast⟩ := last_in_row h0 y h1 h2
      refine ⟨ptAt l j, mem_points.mpr ⟨j, hj, rfl⟩, hy, ?_⟩
      by_cases hjd : (j : Int) = dmaj l
      · rw [ptAt_last l j hjd, side_stop]; omega
      · have hnext := hlast.resolve_left hjd
        have hstep := ((ptAt_step l j).2 hm).1
        have hc : -dmaj l ≤ 2 * side l (ptAt l (j + 1)) := (ptAt_cross l (j + 1) (by omega)).1
        have e := side_step l (p := ptAt l j) (q := ptAt l (j + 1)) (a := -1) (b := 1) (by omega) (by omega)
        omega
    · obtain ⟨j, hj, hy, hfirst⟩ := first_in_row h0 y h1 h2
      refine ⟨ptAt l j, mem_points.mpr ⟨j, hj, rfl⟩, hy, ?_⟩
      rcases hfirst with rfl | ⟨i, rfl, hi⟩
      · rw [ptAt_zero, side_start]; exact hdy
      · have hstep := ((ptAt_step l i).2 hm).1
        have hc : 2 * side l (ptAt l i) ≤ dmaj l := (ptAt_cross l i (by omega)).2
        have e := side_step l (p := ptAt l i) (q := ptAt l (i + 1)) (a := -1) (b := 1) (by omega) (by omega)
        omega

theorem pixel_left {l : Line} (hdy : 0 < dyOf l) (p : Pt) (h1 : l.start.y ≤ p.y)
    (h2 : p.y ≤ l.stop.y) (hs : side l p ≤ 0) : ∃ q ∈ points l, q.y = p.y ∧ q.x ≤ p.x := by
  obtain ⟨⟨q, hq, hy, hsq⟩, -⟩ := row_pixel_sides hdy p.y h1 h2
  refine ⟨q, hq, hy, ?_⟩
  by_contra hc
  have e := side_step l (p := p) (q := q) (a := q.x - p.x) (b := 0) (by omega) (by omega)
  have := Int.mul_le_mul_of_nonneg_left (show 1 ≤ q.x - p.x by omega) (Int.le_of_lt hdy)
  omega

theorem pixel_right {l : Line} (hdy : 0 < dyOf l) (p : Pt) (h1 : l.start.y ≤ p.y)
    (h2 : p.y ≤ l.stop.y) (hs : 0 ≤ side l p) : ∃ q ∈ points l, q.y = p.y ∧ p.x ≤ q.x := by
  obtain ⟨-, ⟨q, hq, hy, hsq⟩⟩ := row_pixel_sides hdy p.y h1 h2
  refine ⟨q, hq, hy, ?_⟩
  by_contra hc
  have e := side_step l (p := q) (q := p) (a := p.x - q.x) (b := 0) (by omega) (by omega)
  have := Int.mul_le_mul_of_nonneg_left (show 1 ≤ p.x - q.x by omega) (Int.le_of_lt hdy)
  omega

end Line

namespace Triangle
open Line

theorem covered_of_between (t : Triangle) (h : t.boundingBox.InRange) (p : Pt) {la lb : Line}
    (ha : la ∈ usedLines t) (hb : lb ∈ usedLines t) (da : 0 < dyOf la) (db : 0 < dyOf lb)
    (ra : la.start.y ≤ p.y ∧ p.y ≤ la.stop.y) (rb : lb.start.y ≤ p.y ∧ p.y ≤ lb.stop.y)
    (sa : side la p ≤ 0) (sb : 0 ≤ side lb p) : p ∈ t.points := by
  obtain ⟨q1, hq1, hy1, hx1⟩ := pixel_left da p ra.1 ra.2 sa
  obtain ⟨q2, hq2, hy2, hx2⟩ := pixel_right db p rb.1 rb.2 sb
  exact (mem_points_iff_between t h p).mpr
    ⟨q1, q2, mem_rowPix.mpr ⟨la, ha, hq1, hy1⟩, mem_rowPix.mpr ⟨lb, hb, hq2, hy2⟩, hx1, hx2⟩

/-- `p` lies in the closed mathematical triangle: the three edge functions agree in sign. -/
def ClosedIn (t : Triangle) (p : Pt) : Prop :=
  (0 ≤ edgeFn t.v1 t.v2 p ∧ 0 ≤ edgeFn t.v2 t.v3 p ∧ 0 ≤ edgeFn t.v3 t.v1 p) ∨
  (edgeFn t.v1 t.v2 p ≤ 0 ∧ edgeFn t.v2 t.v3 p ≤ 0 ∧ edgeFn t.v3 t.v1 p ≤ 0)

theorem closedIn_of_mem_orders {t t' : Triangle} (h : t' ∈ orders t) (p : Pt) :
    ClosedIn t' p ↔ ClosedIn t p := by
  refine iff_of_mem_orders (fun t => ClosedIn t p) ?_ ?_ h <;> intro a b c <;>
    unfold ClosedIn <;> dsimp only
  · rw [edgeFn_swap a b, edgeFn_swap c a, edgeFn_swap b c]; omega
  · rw [edgeFn_swap a b, edgeFn_swap c a, edgeFn_swap b c]; omega

theorem nonneg_of_mul_eq_add {A d e f u v : Int} (I : A * d = e * u + f * v) (hu : 0 ≤ u) (hv : 0 ≤ v)
    (hs : (0 < A ∧ 0 ≤ e ∧ 0 ≤ f) ∨ (A < 0 ∧ e ≤ 0 ∧ f ≤ 0)) : 0 ≤ d := by
  by_contra hd
  rcases hs with ⟨hA, he, hf⟩ | ⟨hA, he, hf⟩
  · have := Int.mul_neg_of_pos_of_neg hA (show d < 0 by omega)
    have := Int.mul_nonneg he hu
    have := Int.mul_nonneg hf hv
    omega
  · have := Int.mul_pos_of_neg_of_neg hA (show d < 0 by omega)
    have := Int.mul_nonpos_of_nonpos_of_nonneg he hu
    have := Int.mul_nonpos_of_nonpos_of_nonneg hf hv
    omega

theorem same_sign_of_mul_eq_mul {x y L u : Int} (h : x * L = y * u) (hL : 0 < L) (hu : 0 < u) :
    (0 < y → 0 < x) ∧ (y < 0 → x < 0) := by
  constructor
  · intro hy
    by_contra hx
    have := Int.mul_pos hy hu
    have := Int.mul_nonpos_of_nonpos_of_nonneg (show x ≤ 0 by omega) (Int.le_of_lt hL)
    omega
  · intro hy
    by_contra hx
    have := Int.mul_neg_of_neg_of_pos hy hu
    have := Int.mul_nonneg (show 0 ≤ x by omega) (Int.le_of_lt hL)
    omega

/-- A point of the closed triangle `p1 p2 p3` (rows in this order, non-zero area) lies on or right of
one strictly downward edge and on or left of another one, both passing through its row: the long
edge `p1 p3` and the short edge of its row, in the order given by the orientation. -/
theorem edges_around {p1 p2 p3 p : Pt} (hy12 : p1.y ≤ p2.y) (hy23 : p2.y ≤ p3.y)
    (ha : edgeFn p1 p2 p3 ≠ 0) (hp : ClosedIn ⟨p1, p2, p3⟩ p) :
    ∃ la lb : Line, la ∈ [(⟨p1, p2⟩ : Line), ⟨p1, p3⟩, ⟨p2, p3⟩] ∧
      lb ∈ [(⟨p1, p2⟩ : Line), ⟨p1, p3⟩, ⟨p2, p3⟩] ∧ 0 < dyOf la ∧ 0 < dyOf lb ∧
      (la.start.y ≤ p.y ∧ p.y ≤ la.stop.y) ∧ (lb.start.y ≤ p.y ∧ p.y ≤ lb.stop.y) ∧
      side la p ≤ 0 ∧ 0 ≤ side lb p := by
  have hsum := edgeFn_sum p1 p2 p3 p
  have hy13 : p1.y < p3.y := by
    by_contra hc
    exact ha (edgeFn_of_row (by omega) (by omega))
  have hsign : (0 < edgeFn p1 p2 p3 ∧ 0 ≤ edgeFn p1 p2 p ∧ 0 ≤ edgeFn p2 p3 p ∧ 0 ≤ edgeFn p3 p1 p) ∨
      (edgeFn p1 p2 p3 < 0 ∧ edgeFn p1 p2 p ≤ 0 ∧ edgeFn p2 p3 p ≤ 0 ∧ edgeFn p3 p1 p ≤ 0) := by
    unfold ClosedIn at hp; dsimp only at hp; omega
  rw [← hsum] at hsign
  have r1 : 0 ≤ p.y - p1.y :=
    nonneg_of_mul_eq_add (edgeFn_row_top p1 p2 p3 p) (by omega) (by omega) (by omega)
  have r3 : 0 ≤ p3.y - p.y :=
    nonneg_of_mul_eq_add (edgeFn_row_bottom p1 p2 p3 p) (by omega) (by omega) (by omega)
  have s13 : side ⟨p1, p3⟩ p = -edgeFn p3 p1 p := by rw [← edgeFn_swap]; rfl
  have d13 : 0 < dyOf ⟨p1, p3⟩ := by unfold dyOf; dsimp only; omega
  -- the short edge of the row
  obtain ⟨ls, hls, dls, rls, hss⟩ : ∃ ls : Line, ls ∈ [(⟨p1, p2⟩ : Line), ⟨p1, p3⟩, ⟨p2, p3⟩] ∧
      0 < dyOf ls ∧ (ls.start.y ≤ p.y ∧ p.y ≤ ls.stop.y) ∧
      (side ls p = edgeFn p1 p2 p ∨ side ls p = edgeFn p2 p3 p) := by
    by_cases hrow : p2.y ≤ p.y ∧ p2.y < p3.y
    · exact ⟨⟨p2, p3⟩, .tail _ (.tail _ (.head _)), by unfold dyOf; dsimp only; omega,
        ⟨hrow.1, by dsimp only; omega⟩, Or.inr rfl⟩
    · exact ⟨⟨p1, p2⟩, .head _, by unfold dyOf; dsimp only; omega,
        ⟨by dsimp only; omega, by dsimp only; omega⟩, Or.inl rfl⟩
  rcases hsign with ⟨_, c12, c23, c31⟩ | ⟨_, c12, c23, c31⟩
  · exact ⟨⟨p1, p3⟩, ls, .tail _ (.head _), hls, d13, dls, ⟨by dsimp only; omega, by dsimp only; omega⟩,
      rls, by omega, by rcases hss with e | e <;> rw [e] <;> assumption⟩
  · exact ⟨ls, ⟨p1, p3⟩, hls, .tail _ (.head _), dls, d13, rls,
      ⟨by dsimp only; omega, by dsimp only; omega⟩, by rcases hss with e | e <;> rw [e] <;> assumption,
      by omega⟩

theorem closed_triangle_covered (t : Triangle) (h : t.boundingBox.InRange) (ha : t.areaDoubled ≠ 0)
    (p : Pt) (hp : ClosedIn t p) : p ∈ t.points := by
  have hso := sortedYx_mem_orders t
  obtain ⟨hy12, hy23⟩ := sortedYx_y_le t
  have ha' : edgeFn t.sortedYx.v1 t.sortedYx.v2 t.sortedYx.v3 ≠ 0 := by
    rw [edgeFn_area, Ne, areaDoubled_eq_zero_iff_of_mem_orders hso]; exact ha
  obtain ⟨la, lb, hla, hlb, da, db, ra, rb, sa, sb⟩ :=
    edges_around hy12 hy23 ha' ((closedIn_of_mem_orders hso p).mpr hp)
  have hu : usedLines t = [⟨t.sortedYx.v1, t.sortedYx.v2⟩, ⟨t.sortedYx.v1, t.sortedYx.v3⟩,
      ⟨t.sortedYx.v2, t.sortedYx.v3⟩] := usedLines_of_nonzero ha
  rw [← hu] at hla hlb
  exact covered_of_between t h p hla hlb da db ra rb sa sb

end Triangle
end EG
