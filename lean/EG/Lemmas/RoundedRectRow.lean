/-
  EG.Lemmas.RoundedRectRow — the row structure of `RoundedRectangleContains`:
  * `Range::rfind` (`rangeRFind`); "first hit .. last hit + 1" of a convex predicate is its range of
    hits (`firstLast_isHitRange`); first / last hit of a monotone predicate,
  * the test of a corner quadrant only improves towards the inner corner of its box, along a row and
    along a column (`b x^2 + a y^2` is monotone in `|x|` and `|y|`; the ellipse is centred there),
  * hence in every row the left corner's condition is `xStart y ≤ x` and the right corner's is
    `x < xEnd y` (the two corners are checked independently, so this also holds when opposite
    corner boxes overlap),
  * the `Scanlines` iterator in closed form.
-/
import EG.Lemmas.Scanline
import EG.Lemmas.RectPoints
import EG.Lemmas.RoundedRectConfine
namespace EG

theorem irange_snoc {a b : Int} (h : a < b) : irange a b = irange a (b - 1) ++ [b - 1] := by
  unfold irange
  have : (b - a).toNat = (b - 1 - a).toNat + 1 := by omega
  rw [this, List.range_succ, List.map_append]
  congr 1
  simp only [List.map_cons, List.map_nil, List.cons.injEq, and_true]
  omega

theorem rangeRFind_none {p : Int → Bool} {a b : Int} :
    rangeRFind p a b = none ↔ ∀ x, a ≤ x → x < b → p x = false := by
  unfold rangeRFind
  rw [List.find?_eq_none]
  constructor
  · intro h x h1 h2
    have := h x (List.mem_reverse.mpr (mem_irange.mpr ⟨h1, h2⟩))
    simpa using this
  · intro h x hx
    rw [List.mem_reverse, mem_irange] at hx
    simp [h x hx.1 hx.2]

/-- By induction on the length of the range, peeling its last element (`irange_snoc`): that is where
`rfind` starts. -/
theorem rangeRFind_some_aux (p : Int → Bool) : ∀ (n : Nat) (a b x0 : Int), (b - a).toNat = n →
    (rangeRFind p a b = some x0 ↔
      a ≤ x0 ∧ x0 < b ∧ p x0 = true ∧ ∀ x, x0 < x → x < b → p x = false) := by
  intro n
  induction n with
  | zero =>
    intro a b x0 hn
    unfold rangeRFind
    rw [irange_empty (a := a) (b := b) (by omega)]
    simp only [List.reverse_nil, List.find?_nil]
    constructor
    · intro h; cases h
    · intro h; omega
  | succ n ih =>
    intro a b x0 hn
    have hab : a < b := by omega
    unfold rangeRFind
    rw [irange_snoc hab, List.reverse_append, List.reverse_cons, List.reverse_nil, List.nil_append,
      List.singleton_append, List.find?_cons]
    by_cases hpb : p (b - 1) = true
    · rw [hpb]
      simp only [Option.some.injEq]
      constructor
      · intro h; subst h
        exact ⟨by omega, by omega, hpb, fun x h1 h2 => by omega⟩
      · rintro ⟨_, h2, _, h4⟩
        by_cases hx : b - 1 = x0
        · exact hx
        · have := h4 (b - 1) (by omega) (by omega)
          rw [hpb] at this; cases this
    · have hpb' : p (b - 1) = false := by simpa using hpb
      rw [hpb']
      have := ih a (b - 1) x0 (by omega)
      unfold rangeRFind at this
      simp only
      rw [this]
      constructor
      · rintro ⟨h1, h2, h3, h4⟩
        refine ⟨h1, by omega, h3, ?_⟩
        intro x hx1 hx2
        by_cases hxb : x = b - 1
        · subst hxb; exact hpb'
        · exact h4 x hx1 (by omega)
      · rintro ⟨h1, h2, h3, h4⟩
        have : b - 1 ≠ x0 := by
          intro hc; subst hc; rw [hpb'] at h3; cases h3
        exact ⟨h1, by omega, h3, fun x hx1 hx2 => h4 x hx1 (by omega)⟩

/-- `Range::rfind`: the result is the last hit. -/
theorem rangeRFind_some {p : Int → Bool} {a b x0 : Int} :
    rangeRFind p a b = some x0 ↔
      a ≤ x0 ∧ x0 < b ∧ p x0 = true ∧ ∀ x, x0 < x → x < b → p x = false :=
  rangeRFind_some_aux p _ a b x0 rfl

/-- Between two hits within `a..b` everything is a hit. -/
def ConvexOn (p : Int → Bool) (a b : Int) : Prop :=
  ∀ x1 x x2, a ≤ x1 → x2 < b → p x1 = true → p x2 = true → x1 ≤ x → x ≤ x2 → p x = true

/-- `find(..).zip(rfind(..).map(|x| x + 1))`: first hit .. last hit + 1. -/
def firstLast (p : Int → Bool) (a b : Int) : Option (Int × Int) :=
  match rangeFind p a b, (rangeRFind p a b).map (· + 1) with
  | some l, some u => some (l, u)
  | _, _ => none

/-- "First hit .. last hit + 1" is a correct search for a predicate that is convex on `a..b`. -/
theorem firstLast_isHitRange {p : Int → Bool} {a b : Int} (hp : ConvexOn p a b) :
    IsHitRange p a b (firstLast p a b) := by
  unfold firstLast
  cases hf : rangeFind p a b with
  | none => exact rangeFind_none.mp hf
  | some l =>
    cases hr : rangeRFind p a b with
    | none => exact rangeRFind_none.mp hr
    | some r =>
      obtain ⟨f1, f2, f3, f4⟩ := rangeFind_some.mp hf
      obtain ⟨r1, r2, r3, r4⟩ := rangeRFind_some.mp hr
      -- the last hit is not left of the first
      have hlr : l ≤ r := by
        by_cases hc : l ≤ r
        · exact hc
        · have := f4 r r1 (by omega); rw [r3] at this; cases this
      show a ≤ l ∧ l < r + 1 ∧ r + 1 ≤ b ∧ ∀ x, a ≤ x → x < b → (p x = true ↔ l ≤ x ∧ x < r + 1)
      refine ⟨f1, by omega, by omega, fun x h1 h2 => ⟨fun hx => ⟨?_, ?_⟩, fun hx => ?_⟩⟩
      · by_cases hc : l ≤ x
        · exact hc
        · have := f4 x h1 (by omega); rw [hx] at this; cases this
      · by_cases hc : x < r + 1
        · exact hc
        · have := r4 x (by omega) h2; rw [hx] at this; cases this
      · exact hp l x r f1 r2 f3 r3 hx.1 (by omega)

/-- `find(..).unwrap_or(end)` for a predicate whose hits in `a..b` are closed to the right: the hits
are exactly the `x` from the result on. -/
theorem firstHit_spec {p : Int → Bool} {a b : Int} (hab : a ≤ b)
    (hm : ∀ x x', a ≤ x → x ≤ x' → x' < b → p x = true → p x' = true) :
    a ≤ (rangeFind p a b).getD b ∧ (rangeFind p a b).getD b ≤ b ∧
      ∀ x, a ≤ x → x < b → (p x = true ↔ (rangeFind p a b).getD b ≤ x) := by
  cases hf : rangeFind p a b with
  | none =>
    simp only [Option.getD_none]
    refine ⟨hab, Int.le_refl _, ?_⟩
    intro x h1 h2
    rw [rangeFind_none.mp hf x h1 h2]
    constructor
    · intro h; cases h
    · intro h; omega
  | some x0 =>
    simp only [Option.getD_some]
    obtain ⟨h1, h2, h3, h4⟩ := rangeFind_some.mp hf
    refine ⟨h1, by omega, ?_⟩
    intro x hx1 hx2
    constructor
    · intro hp
      by_cases hlt : x < x0
      · rw [h4 x hx1 hlt] at hp; cases hp
      · omega
    · intro hle
      exact hm x0 x h1 hle hx2 h3

/-- `rfind(..).map(|x| x + 1).unwrap_or(start)` for a predicate whose hits in `a..b` are closed to
the left: the hits are exactly the `x` below the result. -/
theorem lastHit_spec {p : Int → Bool} {a b : Int} (hab : a ≤ b)
    (hm : ∀ x x', a ≤ x' → x' ≤ x → x < b → p x = true → p x' = true) :
    a ≤ ((rangeRFind p a b).map (· + 1)).getD a ∧ ((rangeRFind p a b).map (· + 1)).getD a ≤ b ∧
      ∀ x, a ≤ x → x < b → (p x = true ↔ x < ((rangeRFind p a b).map (· + 1)).getD a) := by
  cases hf : rangeRFind p a b with
  | none =>
    simp only [Option.map_none, Option.getD_none]
    refine ⟨Int.le_refl _, hab, ?_⟩
    intro x h1 h2
    rw [rangeRFind_none.mp hf x h1 h2]
    constructor
    · intro h; cases h
    · intro h; omega
  | some x0 =>
    simp only [Option.map_some, Option.getD_some]
    obtain ⟨h1, h2, h3, h4⟩ := rangeRFind_some.mp hf
    refine ⟨by omega, by omega, ?_⟩
    intro x hx1 hx2
    constructor
    · intro hp
      by_cases hgt : x0 < x
      · rw [h4 x hgt hx2] at hp; cases hp
      · omega
    · intro hlt
      exact hm x0 x hx1 (by omega) h2 h3

/-- The ellipse test is monotone in `x^2` and `y^2`. -/
theorem EllipseContains.contains_mono2 (e : EllipseContains) {p q : Pt} (hx : q.x ^ 2 ≤ p.x ^ 2)
    (hy : q.y ^ 2 ≤ p.y ^ 2) (h : e.contains p = true) : e.contains q = true := by
  unfold EllipseContains.contains at h ⊢
  have hx' : (q.x ^ 2).toNat ≤ (p.x ^ 2).toNat := Int.toNat_le_toNat hx
  have hy' : (q.y ^ 2).toNat ≤ (p.y ^ 2).toNat := Int.toNat_le_toNat hy
  by_cases hab : e.a = e.b
  · simp only [hab, ↓reduceIte, decide_eq_true_eq] at h ⊢
    omega
  · simp only [hab, ↓reduceIte, decide_eq_true_eq] at h ⊢
    have h1 := Nat.mul_le_mul_left e.b hx'
    have h2 := Nat.mul_le_mul_left e.a hy'
    omega

namespace EllipseQuadrant

/-- The inner corner of the quadrant's box = centre of its ellipse. -/
def innerCorner (tl : Pt) (r : Sz) : Quadrant → Pt
  | .topLeft => ⟨tl.x + r.w, tl.y + r.h⟩
  | .topRight => ⟨tl.x, tl.y + r.h⟩
  | .bottomRight => tl
  | .bottomLeft => ⟨tl.x + r.w, tl.y⟩

/-- `center_2x` along one axis, for a quadrant whose ellipse starts at the box start `t` (inner
corner at `t + w`) and for one whose ellipse starts `w` before it (inner corner at `t`); `2 w - 1` is
the saturating `size - 1` of the doubled radius. -/
theorem center2x_axis {t : Int} {w : Nat} (hw : 1 ≤ w) :
    t * 2 + ((w * 2 - 1 : Nat) : Int) = 2 * (t + w) - 1 ∧
    (t - w) * 2 + ((w * 2 - 1 : Nat) : Int) = 2 * t - 1 := by
  omega

theorem new_center2x_x (tl : Pt) (r : Sz) (k : Quadrant) (hw : 1 ≤ r.w) :
    (new tl r k).center2x.x = 2 * (innerCorner tl r k).x - 1 := by
  -- left quadrants have their ellipse start at the box start, right ones `w` before it
  cases k
  · exact (center2x_axis hw).1
  · exact (center2x_axis hw).2
  · exact (center2x_axis hw).2
  · exact (center2x_axis hw).1

theorem new_center2x_y (tl : Pt) (r : Sz) (k : Quadrant) (hh : 1 ≤ r.h) :
    (new tl r k).center2x.y = 2 * (innerCorner tl r k).y - 1 := by
  -- top quadrants have their ellipse start at the box start, bottom ones `h` above it
  cases k
  · exact (center2x_axis hh).1
  · exact (center2x_axis hh).1
  · exact (center2x_axis hh).2
  · exact (center2x_axis hh).2

/-- `center_2x` is the doubled ellipse centre minus one: `2 p - center_2x` is the doubled vector
from the ellipse centre to the *centre of pixel* `p` (`2 p + 1 - 2 c`). -/
theorem new_center2x (tl : Pt) (r : Sz) (k : Quadrant) (hw : 1 ≤ r.w) (hh : 1 ≤ r.h) :
    (new tl r k).center2x = ⟨2 * (innerCorner tl r k).x - 1, 2 * (innerCorner tl r k).y - 1⟩ :=
  Pt.ext_iff'.mpr ⟨new_center2x_x tl r k hw, new_center2x_y tl r k hh⟩

/-- A pixel coordinate `t'` between `t` and the centre coordinate `c` (pixel `t` has its centre at
`t + 1/2`) has the smaller doubled offset from `c`. -/
theorem sq_le_of_between {c t t' : Int} (h : (t ≤ t' ∧ t' < c) ∨ (c ≤ t' ∧ t' ≤ t)) :
    (t' * 2 - (2 * c - 1)) ^ 2 ≤ (t * 2 - (2 * c - 1)) ^ 2 := by
  have sq : ∀ u : Int, u ^ 2 = u * u := fun u => by
    rw [Int.pow_succ, Int.pow_succ, Int.pow_zero, Int.one_mul]
  rw [sq, sq]
  rcases h with h | h
  · -- both offsets are negative: compare their negations
    have := Int.mul_self_le_mul_self (a := -(t' * 2 - (2 * c - 1))) (b := -(t * 2 - (2 * c - 1)))
      (by omega) (by omega)
    rw [Int.neg_mul_neg, Int.neg_mul_neg] at this
    exact this
  · exact Int.mul_self_le_mul_self (by omega) (by omega)

/-- accepted points of a row are closed towards the right end of the box -/
def LeftMono (q : EllipseQuadrant) : Prop :=
  ∀ y x x', q.colsStart ≤ x → x ≤ x' → x' < q.colsEnd →
    q.contains ⟨x, y⟩ = true → q.contains ⟨x', y⟩ = true

/-- accepted points of a row are closed towards the left end of the box -/
def RightMono (q : EllipseQuadrant) : Prop :=
  ∀ y x x', q.colsStart ≤ x' → x' ≤ x → x < q.colsEnd →
    q.contains ⟨x, y⟩ = true → q.contains ⟨x', y⟩ = true

theorem new_bbox (tl : Pt) (r : Sz) (k : Quadrant) : (new tl r k).bbox = ⟨tl, r⟩ := rfl

theorem new_colsStart (tl : Pt) (r : Sz) (k : Quadrant) : (new tl r k).colsStart = tl.x := rfl

theorem new_colsEnd (tl : Pt) (r : Sz) (k : Quadrant) (h : (⟨tl, r⟩ : Rect).InRange) :
    (new tl r k).colsEnd = tl.x + r.w := by
  unfold colsEnd; rw [new_bbox, Rect.columnsEnd_eq h]

theorem colsEnd_eq {q : EllipseQuadrant} (h : q.bbox.InRange) :
    q.colsEnd = q.colsStart + q.bbox.size.w :=
  Rect.columnsEnd_eq h

/-- Within a row the test only improves towards the column of the inner corner. -/
theorem new_contains_row (tl : Pt) (r : Sz) (k : Quadrant) (hw : 1 ≤ r.w) {y x x' : Int}
    (hb : (x ≤ x' ∧ x' < (innerCorner tl r k).x) ∨ ((innerCorner tl r k).x ≤ x' ∧ x' ≤ x))
    (h : (new tl r k).contains ⟨x, y⟩ = true) : (new tl r k).contains ⟨x', y⟩ = true := by
  unfold contains at h ⊢
  -- `by exact`: elaborated only after `h` has fixed the two points
  apply EllipseContains.contains_mono2 _ ?_ (by exact Int.le_refl _) h
  rw [new_center2x_x tl r k hw]
  exact sq_le_of_between hb

/-- Within a column the test only improves towards the row of the inner corner. -/
theorem new_contains_column (tl : Pt) (r : Sz) (k : Quadrant) (hh : 1 ≤ r.h) {x y y' : Int}
    (hb : (y ≤ y' ∧ y' < (innerCorner tl r k).y) ∨ ((innerCorner tl r k).y ≤ y' ∧ y' ≤ y))
    (h : (new tl r k).contains ⟨x, y⟩ = true) : (new tl r k).contains ⟨x, y'⟩ = true := by
  unfold contains at h ⊢
  apply EllipseContains.contains_mono2 _ (by exact Int.le_refl _) ?_ h
  rw [new_center2x_y tl r k hh]
  exact sq_le_of_between hb

/-- The inner corner of a left quadrant lies on the right edge of its box. -/
theorem new_leftMono (tl : Pt) (r : Sz) (k : Quadrant) (hk : k = .topLeft ∨ k = .bottomLeft)
    (h : (⟨tl, r⟩ : Rect).InRange) : (new tl r k).LeftMono := by
  intro y x x' h1 h2 h3 hc
  rw [new_colsStart] at h1
  rw [new_colsEnd tl r k h] at h3
  have hI : (innerCorner tl r k).x = tl.x + r.w := by rcases hk with rfl | rfl <;> rfl
  exact new_contains_row tl r k (by omega) (Or.inl ⟨h2, by rw [hI]; exact h3⟩) hc

/-- The inner corner of a right quadrant lies on the left edge of its box. -/
theorem new_rightMono (tl : Pt) (r : Sz) (k : Quadrant) (hk : k = .topRight ∨ k = .bottomRight)
    (h : (⟨tl, r⟩ : Rect).InRange) : (new tl r k).RightMono := by
  intro y x x' h1 h2 h3 hc
  rw [new_colsStart] at h1
  rw [new_colsEnd tl r k h] at h3
  have hI : (innerCorner tl r k).x = tl.x := by rcases hk with rfl | rfl <;> rfl
  exact new_contains_row tl r k (by omega) (Or.inr ⟨by rw [hI]; exact h1, h2⟩) hc

end EllipseQuadrant

namespace RRContains

theorem forall_leftCorner {c : RRContains} {y : Int} {P : EllipseQuadrant → Prop} :
    (∀ q, c.leftCorner y = some q → P q) ↔
      (y < c.slStart → P c.topLeft) ∧ (¬ y < c.slStart → y ≥ c.slEnd → P c.bottomLeft) := by
  unfold leftCorner
  by_cases h1 : y < c.slStart
  · simp only [h1, ↓reduceIte, Option.some.injEq, forall_eq', not_true_eq_false, false_imp_iff,
      true_imp_iff, and_true]
  · by_cases h2 : y ≥ c.slEnd
    · simp only [h1, h2, ↓reduceIte, Option.some.injEq, forall_eq', not_false_eq_true, false_imp_iff,
        true_imp_iff, true_and]
    · simp only [h1, h2, ↓reduceIte, reduceCtorEq, false_imp_iff, implies_true, and_self]

theorem forall_rightCorner {c : RRContains} {y : Int} {P : EllipseQuadrant → Prop} :
    (∀ q, c.rightCorner y = some q → P q) ↔
      (y < c.srStart → P c.topRight) ∧ (¬ y < c.srStart → y ≥ c.srEnd → P c.bottomRight) := by
  unfold rightCorner
  by_cases h1 : y < c.srStart
  · simp only [h1, ↓reduceIte, Option.some.injEq, forall_eq', not_true_eq_false, false_imp_iff,
      true_imp_iff, and_true]
  · by_cases h2 : y ≥ c.srEnd
    · simp only [h1, h2, ↓reduceIte, Option.some.injEq, forall_eq', not_false_eq_true, false_imp_iff,
        true_imp_iff, true_and]
    · simp only [h1, h2, ↓reduceIte, reduceCtorEq, false_imp_iff, implies_true, and_self]

/-- A left corner box starts at the first column, ends within the columns, and its accepted points
reach the inner edge of the box. -/
def LeftOK (c : RRContains) (q : EllipseQuadrant) : Prop :=
  q.colsStart = c.colsStart ∧ q.colsStart ≤ q.colsEnd ∧ q.colsEnd ≤ c.colsEnd ∧ q.LeftMono

def RightOK (c : RRContains) (q : EllipseQuadrant) : Prop :=
  q.colsEnd = c.colsEnd ∧ q.colsStart ≤ q.colsEnd ∧ c.colsStart ≤ q.colsStart ∧ q.RightMono

theorem LeftOK.of_box {c : RRContains} {q : EllipseQuadrant} (hb : q.bbox.InRange)
    (h0 : q.colsStart = c.colsStart) (h1 : q.colsStart + q.bbox.size.w ≤ c.colsEnd)
    (hm : q.LeftMono) : c.LeftOK q := by
  unfold LeftOK
  rw [EllipseQuadrant.colsEnd_eq hb]
  exact ⟨h0, Int.le_add_of_nonneg_right (Int.natCast_nonneg _), h1, hm⟩

theorem RightOK.of_box {c : RRContains} {q : EllipseQuadrant} (hb : q.bbox.InRange)
    (h0 : q.colsStart + q.bbox.size.w = c.colsEnd) (h1 : c.colsStart ≤ q.colsStart)
    (hm : q.RightMono) : c.RightOK q := by
  unfold RightOK
  rw [EllipseQuadrant.colsEnd_eq hb]
  exact ⟨h0, Int.le_add_of_nonneg_right (Int.natCast_nonneg _), h1, hm⟩

/-- What `xStart_spec` and `xEnd_spec` need of the four corners. -/
structure Geo (c : RRContains) : Prop where
  cols : c.colsStart ≤ c.colsEnd
  tl : c.LeftOK c.topLeft
  bl : c.LeftOK c.bottomLeft
  tr : c.RightOK c.topRight
  br : c.RightOK c.bottomRight

theorem leftCorner_ok {c : RRContains} (hg : c.Geo) {y : Int} {q : EllipseQuadrant}
    (h : c.leftCorner y = some q) : c.LeftOK q :=
  forall_leftCorner.mpr ⟨fun _ => hg.tl, fun _ _ => hg.bl⟩ q h

theorem rightCorner_ok {c : RRContains} (hg : c.Geo) {y : Int} {q : EllipseQuadrant}
    (h : c.rightCorner y = some q) : c.RightOK q :=
  forall_rightCorner.mpr ⟨fun _ => hg.tr, fun _ _ => hg.br⟩ q h

/-- `contains` as a conjunction: inside the rows and columns, and accepted by the left corner of the
row if `x` is left of that corner box's end, and by the right corner of the row if `x` is not left
of that corner box's start. -/
theorem contains_iff (c : RRContains) (p : Pt) :
    c.contains p = true ↔
      (c.rowsStart ≤ p.y ∧ p.y < c.rowsEnd) ∧ (c.colsStart ≤ p.x ∧ p.x < c.colsEnd) ∧
      (∀ q, c.leftCorner p.y = some q → p.x < q.colsEnd → q.contains p = true) ∧
      (∀ q, c.rightCorner p.y = some q → q.colsStart ≤ p.x → q.contains p = true) := by
  -- the model takes `all` over the row's two optional corners, each filtered by its column test
  unfold contains
  by_cases hr : c.rowsStart ≤ p.y ∧ p.y < c.rowsEnd
  · by_cases hc : c.colsStart ≤ p.x ∧ p.x < c.colsEnd
    · simp only [hr, hc, and_self, decide_true, Bool.and_self, Bool.not_true, Bool.false_eq_true,
        ↓reduceIte, List.all_append, Bool.and_eq_true, true_and]
      apply and_congr
      · cases hl : c.leftCorner p.y with
        | none => simp
        | some q =>
          by_cases hx : p.x < q.colsEnd
          · simp [Option.filter, hx]
          · simp [Option.filter, hx]
      · cases hl : c.rightCorner p.y with
        | none => simp
        | some q =>
          by_cases hx : q.colsStart ≤ p.x
          · simp [Option.filter, hx]
          · simp [Option.filter, hx]
    · simp [hc]
  · simp [hr]

theorem xStart_spec {c : RRContains} (hg : c.Geo) (y : Int) :
    c.colsStart ≤ c.xStart y ∧ c.xStart y ≤ c.colsEnd ∧
      ∀ x, c.colsStart ≤ x → x < c.colsEnd →
        ((∀ q, c.leftCorner y = some q → x < q.colsEnd → q.contains ⟨x, y⟩ = true) ↔
          c.xStart y ≤ x) := by
  unfold xStart
  cases hl : c.leftCorner y with
  | none =>
    simp only [Option.map_none, Option.getD_none]
    refine ⟨Int.le_refl _, hg.cols, ?_⟩
    intro x h1 _
    constructor
    · intro _; exact h1
    · intro _ q hq; cases hq
  | some q =>
    simp only [Option.map_some, Option.getD_some]
    obtain ⟨e1, e2, e3, hm⟩ := leftCorner_ok hg hl
    obtain ⟨f1, f2, f3⟩ := firstHit_spec (p := fun x => q.contains ⟨x, y⟩) e2
      (fun x x' a b c' d => hm y x x' a b c' d)
    refine ⟨by omega, by omega, ?_⟩
    intro x h1 h2
    constructor
    · intro h
      by_cases hx : x < q.colsEnd
      · exact (f3 x (by omega) hx).mp (h q rfl hx)
      · omega
    · intro h q' hq' hx
      cases hq'
      exact (f3 x (by omega) hx).mpr h

theorem xEnd_spec {c : RRContains} (hg : c.Geo) (y : Int) :
    c.colsStart ≤ c.xEnd y ∧ c.xEnd y ≤ c.colsEnd ∧
      ∀ x, c.colsStart ≤ x → x < c.colsEnd →
        ((∀ q, c.rightCorner y = some q → q.colsStart ≤ x → q.contains ⟨x, y⟩ = true) ↔
          x < c.xEnd y) := by
  unfold xEnd
  cases hl : c.rightCorner y with
  | none =>
    simp only [Option.map_none, Option.getD_none]
    refine ⟨hg.cols, Int.le_refl _, ?_⟩
    intro x _ h2
    constructor
    · intro _; exact h2
    · intro _ q hq; cases hq
  | some q =>
    simp only [Option.map_some, Option.getD_some]
    obtain ⟨e1, e2, e3, hm⟩ := rightCorner_ok hg hl
    obtain ⟨f1, f2, f3⟩ := lastHit_spec (p := fun x => q.contains ⟨x, y⟩) e2
      (fun x x' a b c' d => hm y x x' a b c' d)
    refine ⟨by omega, by omega, ?_⟩
    intro x h1 h2
    constructor
    · intro h
      by_cases hx : q.colsStart ≤ x
      · exact (f3 x hx (by omega)).mp (h q rfl hx)
      · omega
    · intro h q' hq' hx
      cases hq'
      exact (f3 x hx (by omega)).mpr h

/-- The scanline of a row does not look at `rows.start`, the only field `next` changes. -/
theorem row_advance (c : RRContains) (k : Int) : ({ c with rowsStart := k } : RRContains).row = c.row := rfl

/-- What the `Scanlines` iterator still yields: the scanlines of the rows left. -/
def rest (c : RRContains) : List Scanline := (irange c.rowsStart c.rowsEnd).map c.row

theorem drains : Drains RRContains.next RRContains.toListFuel :=
  ⟨fun _ => rfl, fun n c => by rw [RRContains.toListFuel]; cases c.next <;> rfl⟩

theorem yields : Yields RRContains.next RRContains.rest := by
  intro c
  unfold next rest
  by_cases hy : c.rowsStart < c.rowsEnd
  · rw [if_pos hy, irange_cons hy]; rfl
  · rw [if_neg hy, irange_empty (a := c.rowsStart) (b := c.rowsEnd) (by omega)]; rfl

/-- A `for` loop over `Scanlines` sees one scanline per row (the iterator never ends early). -/
theorem toList_eq (c : RRContains) : c.toList = (irange c.rowsStart c.rowsEnd).map c.row :=
  drains.eq_rest yields (by unfold rest; rw [List.length_map, irange_length]; omega)

end RRContains
end EG
