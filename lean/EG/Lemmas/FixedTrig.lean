/-
  EG.Lemmas.FixedTrig — closed forms of the `fixed_point` trigonometry model (EG.Model.FixedReal,
  FixedTrig, PlaneSectorNew), for ALL raw angles. Every partial function `f` of the model is shown to be
  `if Fits a then some (closed a) else none` (`degreeOf_closed`, `sin_closed`, `cos_closed`,
  `withAngle_closed`, `planeSectorNew_closed`), with the inversion `f a = some v ↔ Fits a ∧ closed a = v`
  read off it (`.._eq_some`); the rest is about the total functions `deg`, `sinT`, `normalOf`,
  `sectorOf`, `bevelOf` and the domains `DegFits`, `CosFits`, `AngleFits` separately.

  `deg a`, the whole degree the code rounds the raw angle `a` to, is `a * 180 / PI_bits` rounded to the
  nearest integer, ties away from zero (`deg_spec`). The cosine's degree `deg (a + FRAC_PI_2)` is
  `deg a + 90` or `deg a + 91` (`deg_shift`): the I16F16 constant for 90 degrees (102944 bits =
  90.00044 degrees by the code's own conversion) is added before rounding, which rounds the raw angles
  just below `k + 1/2` degrees up (180 of the 411775 raw angles of a turn). `sin` / `cos` are table
  lookups of these degrees (`sinT k`, any integer `k`, I16F16 bits) and `with_angle` gives `normalOf a`,
  the integer part toward zero of `1024 * (cosT, sinT)` rotated by 90 degrees.
  The table's entries enter through one finite check (`tab_adj_nat`) and the evaluation of `with_angle`
  at its special angle π; everything about raw bits is by `omega`.
-/
import EG.Model.PlaneSectorNew
namespace EG.Fx
open EG EG.Generated

/-- The literal values the statements of this file are written with, in one place: a regenerated
`EG.Generated.TrigTable` with another value fails here. -/
theorem lits :
    fracPi2Bits = 102944 ∧ piBits = 205887 ∧ tauBits = 411775 ∧ degFactor = 180 ∧ degModulus = 360 ∧
    trigNormalVectorScale = 1024 ∧ withAngleSpecialBits = 205887 ∧ normalizeModBits = 411775 ∧
    bevelExteriorBits = 62910 ∧ bevelInteriorLoBits = 348865 ∧ bevelInteriorHiBits = 411775 ∧
    seenSinLen = 91 ∧ sinTable.length = 91 := by decide

/-- The bevel branch of the styled sector halves the sweep through f32: exact below `2^24` bits. -/
theorem bevel_limits_small : bevelExteriorBits < 16777216 ∧ bevelInteriorHiBits < 16777216 := by decide

/-- Truncation toward zero for a positive divisor, in `omega`'s language. -/
def truncDiv (x b : Int) : Int := if 0 ≤ x then x / b else -((-x) / b)

theorem tdiv_eq_truncDiv (x b : Int) : Int.tdiv x b = truncDiv x b := by
  unfold truncDiv
  split
  · rename_i h; exact Int.tdiv_eq_ediv_of_nonneg h
  · rename_i h
    have : x = -(-x) := by omega
    rw [this, Int.neg_tdiv, Int.tdiv_eq_ediv_of_nonneg (by omega)]
    simp

/-- Round half away from zero, to whole units of 65536. -/
def roundHalfAway (q : Int) : Int := if 0 ≤ q then (q + 32768) / 65536 else -((-q + 32768) / 65536)

theorem round_eq (q : Int) (h : -2147483648 ≤ q ∧ q ≤ 2147483647 - 65536) :
    round q = some (65536 * roundHalfAway q) := by
  unfold round intPart roundHalfAway chk
  by_cases h0 : 0 ≤ q
  · simp only [h0, ↓reduceIte]
    split
    · congr 1; omega
    · split
      · omega
      · rw [if_pos (by omega)]; congr 1; omega
  · simp only [h0, ↓reduceIte]
    split
    · congr 1; omega
    · split
      · congr 1; omega
      · rw [if_pos (by omega)]; congr 1; omega

theorem toI32_eq (x : Int) : toI32 x = truncDiv x 65536 := by
  unfold toI32 toNumI32 roundToZero intPart truncDiv
  split <;> split <;> omega

theorem chk_of_fits {x : Int} (h : -2147483648 ≤ x ∧ x ≤ 2147483647) : chk x = some x := by
  unfold chk; rw [if_pos h]

theorem chk_of_not_fits {x : Int} (h : ¬ (-2147483648 ≤ x ∧ x ≤ 2147483647)) : chk x = none := by
  unfold chk; rw [if_neg h]

/-- `(Real::from(180) * angle) / PI` as I16F16 bits: degrees in units of 1/65536. -/
def q16 (a : Int) : Int := truncDiv (11796480 * a) 205887

/-- The whole degree the code rounds the raw angle `a` to (before `rem_euclid(360)`). -/
def deg (a : Int) : Int := roundHalfAway (q16 a)

/-- `Real::from(180) * angle` fits: `|a| <= 11930464` bits (about 182 radians, 29 turns). -/
def DegFits (a : Int) : Prop := -2147483648 ≤ 180 * a ∧ 180 * a ≤ 2147483647
instance (a : Int) : Decidable (DegFits a) := by unfold DegFits; exact inferInstance

theorem degreeOf_closed (a : Int) : degreeOf a = if DegFits a then some (deg a) else none := by
  unfold degreeOf fromI32 mul
  have e1 : chk (degFactor * 65536) = some 11796480 := by decide
  have e2 : (11796480 * a / 65536 : Int) = 180 * a := by omega
  simp only [e1, Option.bind_eq_bind, Option.bind_some, e2]
  by_cases h : DegFits a
  · rw [if_pos h, chk_of_fits h, Option.bind_some]
    unfold DegFits at h
    unfold div
    rw [show piBits = 205887 from rfl, if_neg (by decide), tdiv_eq_truncDiv]
    have hq : truncDiv (180 * a * 65536) 205887 = q16 a := by unfold q16; congr 1; omega
    rw [hq]
    have hb : -2147483648 ≤ q16 a ∧ q16 a ≤ 2147483647 - 65536 := by
      unfold q16 truncDiv; split <;> omega
    have e5 : chk (q16 a) = some (q16 a) := chk_of_fits (by omega)
    simp only [e5, Option.bind_some, round_eq _ hb, toI32_eq]
    have : truncDiv (65536 * roundHalfAway (q16 a)) 65536 = deg a := by
      unfold deg truncDiv; split <;> omega
    rw [← this]; rfl
  · rw [if_neg h, chk_of_not_fits h, Option.bind_none]

theorem degreeOf_eq (a : Int) (h : DegFits a) : degreeOf a = some (deg a) := by
  rw [degreeOf_closed, if_pos h]

theorem degreeOf_eq_some {a k : Int} : degreeOf a = some k ↔ DegFits a ∧ deg a = k := by
  rw [degreeOf_closed, Option.ite_none_right_eq_some, Option.some.injEq]

/-- `deg a` is `180 a / 205887` (the raw angle in degrees by the code's own `PI`) rounded to the nearest
integer, ties away from zero, exactly: the inner truncating division loses nothing that the rounding
keeps. Scaled by `2 * 32768 * 205887 = 13493010432`. -/
theorem deg_spec (a : Int) :
    (0 ≤ a → 13493010432 * deg a ≤ 11796480 * a + 6746505216 ∧
      11796480 * a + 6746505216 < 13493010432 * (deg a + 1)) ∧
    (a < 0 → 13493010432 * (deg a - 1) < 11796480 * a - 6746505216 ∧
      11796480 * a - 6746505216 ≤ 13493010432 * deg a) := by
  unfold deg roundHalfAway q16 truncDiv
  split <;> split <;> omega

/-- `deg_spec` without the case split; 205886 = what the inner truncating division can lose. -/
theorem deg_nearest (a : Int) :
    11796480 * a - 13493010432 * deg a ≤ 6746505216 + 205886 ∧
    -(6746505216 + 205886) ≤ 11796480 * a - 13493010432 * deg a := by
  have := deg_spec a
  omega

/-- The degree of the cosine's argument `a + FRAC_PI_2`: 102944 bits are a little more than 90 degrees
(`2 * 102944 = PI_bits + 1`), hence the second case. -/
theorem deg_shift (a : Int) : deg (a + 102944) = deg a + 90 ∨ deg (a + 102944) = deg a + 91 := by
  have := deg_spec a
  have := deg_spec (a + 102944)
  omega

theorem deg_mono (a b : Int) (h : a ≤ b) : deg a ≤ deg b := by
  have := deg_spec a
  have := deg_spec b
  omega

/-- Below 180 degrees of sweep (`PI` = 205887 bits) the two boundary degrees differ by 0..180. -/
theorem deg_diff_intersection (s w : Int) (hw : 0 ≤ w) (hw2 : w < 205887) :
    0 ≤ deg (s + w) - deg s ∧ deg (s + w) - deg s ≤ 180 := by
  have := deg_spec s
  have := deg_spec (s + w)
  omega

/-- The table sine of the whole degree `k` (any integer; I16F16 bits): what `sin` returns for an
angle that rounds to `k` degrees. -/
def sinT (k : Int) : Int := (sinOfDegree k).getD 0
/-- The table cosine of the whole degree `k`. -/
def cosT (k : Int) : Int := sinT (k + 90)

/-- The table entry `SIN[i]`. -/
def tab (i : Int) : Int := sinTable.getD i.toNat 0

/-- The integer part toward zero of `s * 1024 / 65536`: a component of a normal vector. -/
def t64 (s : Int) : Int := truncDiv s 64

/-- The one finite check of the table, over the 90 pairs of neighbours of its 91 literals: the entries
increase, by at most 1144 bits per degree (`1024 * 1144 / 65536 = 17.9` of 1024), and their integer parts
in units of 1/1024 increase strictly, except from 88 to 89 degrees (both 1023). -/
theorem tab_adj_nat : ∀ n : Nat, n < 90 →
    (0 ≤ tab ((n : Int) + 1) - tab n ∧ tab ((n : Int) + 1) - tab n ≤ 1144) ∧
    (n = 88 ∨ t64 (tab n) < t64 (tab ((n : Int) + 1))) := by decide +kernel

theorem tab_step {i j : Int} (h : j = i + 1 ∧ 0 ≤ i ∧ j ≤ 90) :
    0 ≤ tab j - tab i ∧ tab j - tab i ≤ 1144 := by
  have := (tab_adj_nat i.toNat (by omega)).1
  rwa [Int.toNat_of_nonneg h.2.1, ← h.1] at this

theorem tab_mono {i j : Int} (h : 0 ≤ i ∧ i ≤ j ∧ j ≤ 90) : tab i ≤ tab j := by
  obtain ⟨d, rfl⟩ : ∃ d : Nat, j = i + d := ⟨(j - i).toNat, by omega⟩
  induction d with
  | zero => exact Int.le_of_eq (congrArg tab (by omega))
  | succ d ih =>
    have := tab_step (i := i + d) (j := i + (d + 1 : Nat)) (by omega)
    have := ih (by omega)
    omega

theorem tab_bound (i : Int) (h : 0 ≤ i ∧ i ≤ 90) : 0 ≤ tab i ∧ tab i ≤ 65536 :=
  ⟨tab_mono (i := 0) (by omega), tab_mono (j := 90) (by omega)⟩

theorem tab_get (k : Nat) (h : k ≤ 90) : sinTable[k]? = some (tab k) := by
  have hlen : k < sinTable.length := by
    rw [show sinTable.length = 91 from rfl]; omega
  show sinTable[k]? = some (sinTable.getD k 0)
  rw [List.getD_eq_getElem?_getD, List.getElem?_eq_getElem hlen]
  rfl

theorem sinEntry_eq (i : Int) (h : 0 ≤ i ∧ i ≤ 90) : sinEntry i = some (tab i) := by
  unfold sinEntry
  rw [if_neg (by omega), tab_get i.toNat (by omega), Int.toNat_of_nonneg h.1]

theorem sinEntry_neg (i : Int) (h : 0 ≤ i ∧ i ≤ 90) : (sinEntry i).bind neg = some (-tab i) := by
  have := tab_bound i h
  rw [sinEntry_eq i h, Option.bind_some]
  exact chk_of_fits (by omega)

/-- The quadrant chain of `sin`, on the table entries. -/
def quad (m : Int) : Int :=
  if m ≤ 90 then tab m else if m ≤ 180 then tab (180 - m)
  else if m ≤ 270 then -tab (m - 180) else -tab (360 - m)

/-- The quadrant chain never leaves the table. -/
theorem sinQuadrant_eq (m : Int) (h : 0 ≤ m ∧ m < 360) : sinQuadrant m = some (quad m) := by
  unfold sinQuadrant quad sinQ1 sinQ2 sinM2 sinQ3 sinM3 sinM4
  split
  · exact sinEntry_eq _ (by omega)
  · split
    · exact sinEntry_eq _ (by omega)
    · split
      · exact sinEntry_neg _ (by omega)
      · exact sinEntry_neg _ (by omega)

theorem sinOfDegree_eq (k : Int) : sinOfDegree k = some (sinT k) := by
  unfold sinT sinOfDegree
  rw [show degModulus = 360 from rfl,
    sinQuadrant_eq _ ⟨Int.emod_nonneg k (by decide), Int.emod_lt_of_pos k (by decide)⟩]
  rfl

theorem sinT_congr {a b : Int} (h : a % 360 = b % 360) : sinT a = sinT b := by
  unfold sinT sinOfDegree
  rw [show degModulus = 360 from rfl, h]

theorem sinT_period (m q : Int) : sinT (m + 360 * q) = sinT m :=
  sinT_congr (Int.add_mul_emod_self_left m 360 q)

theorem turn_rep (k : Int) : ∃ m q, k = m + 360 * q ∧ 0 ≤ m ∧ m < 360 :=
  ⟨k % 360, k / 360, by omega⟩

theorem sinT_of_lt (k : Int) (h : 0 ≤ k ∧ k < 360) : sinT k = quad k := by
  unfold sinT sinOfDegree
  rw [show degModulus = 360 from rfl, Int.emod_eq_of_lt h.1 h.2, sinQuadrant_eq k h]
  rfl

/-! `sinT` on the four quadrants, end points included (the arms agree there since `SIN[0] = 0`). -/

theorem sinT_q1 (k : Int) (h : 0 ≤ k ∧ k ≤ 90) : sinT k = tab k := by
  rw [sinT_of_lt k (by omega), quad, if_pos h.2]

theorem sinT_q2 (k : Int) (h : 90 ≤ k ∧ k ≤ 180) : sinT k = tab (180 - k) := by
  rw [sinT_of_lt k (by omega), quad]
  split
  · exact congrArg tab (by omega)
  · rw [if_pos h.2]

theorem sinT_q3 (k : Int) (h : 180 ≤ k ∧ k ≤ 270) : sinT k = -tab (k - 180) := by
  by_cases h' : k = 180
  · rw [h', sinT_q2 180 (by omega)]; rfl
  · rw [sinT_of_lt k (by omega), quad, if_neg (by omega), if_neg (by omega), if_pos h.2]

theorem sinT_q4 (k : Int) (h : 270 ≤ k ∧ k ≤ 360) : sinT k = -tab (360 - k) := by
  by_cases h' : k = 360
  · rw [h']; rfl
  · rw [sinT_of_lt k (by omega), quad, if_neg (by omega), if_neg (by omega)]
    split
    · exact congrArg (fun i => -tab i) (by omega)
    · rfl

theorem sinT_bound (k : Int) : -65536 ≤ sinT k ∧ sinT k ≤ 65536 := by
  obtain ⟨m, q, rfl, h0, h1⟩ := turn_rep k
  rw [sinT_period]
  by_cases h : m ≤ 90
  · have := tab_bound m (by omega)
    rw [sinT_q1 m (by omega)]; omega
  · by_cases h : m ≤ 180
    · have := tab_bound (180 - m) (by omega)
      rw [sinT_q2 m (by omega)]; omega
    · by_cases h : m ≤ 270
      · have := tab_bound (m - 180) (by omega)
        rw [sinT_q3 m (by omega)]; omega
      · have := tab_bound (360 - m) (by omega)
        rw [sinT_q4 m (by omega)]; omega

theorem sinT_step (k : Int) : -1144 ≤ sinT (k + 1) - sinT k ∧ sinT (k + 1) - sinT k ≤ 1144 := by
  obtain ⟨m, q, rfl, h0, h1⟩ := turn_rep k
  rw [show m + 360 * q + 1 = m + 1 + 360 * q by omega, sinT_period, sinT_period]
  by_cases h : m < 90
  · have := tab_step (i := m) (j := m + 1) (by omega)
    rw [sinT_q1 (m + 1) (by omega), sinT_q1 m (by omega)]; omega
  · by_cases h : m < 180
    · have := tab_step (i := 180 - (m + 1)) (j := 180 - m) (by omega)
      rw [sinT_q2 (m + 1) (by omega), sinT_q2 m (by omega)]; omega
    · by_cases h : m < 270
      · have := tab_step (i := m - 180) (j := m + 1 - 180) (by omega)
        rw [sinT_q3 (m + 1) (by omega), sinT_q3 m (by omega)]; omega
      · have := tab_step (i := 360 - (m + 1)) (j := 360 - m) (by omega)
        rw [sinT_q4 (m + 1) (by omega), sinT_q4 m (by omega)]; omega

theorem sinT_half_turn_lt (m : Int) (h : 0 ≤ m ∧ m < 180) : sinT (m + 180) = -sinT m := by
  by_cases h' : m ≤ 90
  · rw [sinT_q3 (m + 180) (by omega), sinT_q1 m (by omega)]
    exact congrArg (fun i => -tab i) (by omega)
  · rw [sinT_q4 (m + 180) (by omega), sinT_q2 m (by omega)]
    exact congrArg (fun i => -tab i) (by omega)

/-- `sin (x + 180°) = -sin x` holds exactly for the table. -/
theorem sinT_half_turn (k : Int) : sinT (k + 180) = -sinT k := by
  obtain ⟨m, q, rfl, h0, h1⟩ := turn_rep k
  rw [show m + 360 * q + 180 = m + 180 + 360 * q by omega, sinT_period, sinT_period]
  by_cases h : m < 180
  · exact sinT_half_turn_lt m ⟨h0, h⟩
  · have := sinT_half_turn_lt (m - 180) (by omega)
    rw [show m - 180 + 180 = m by omega] at this
    rw [show m + 180 = m - 180 + 360 * 1 by omega, sinT_period, this, Int.neg_neg]

/-- `sin (180° - x) = sin x` holds exactly for the table. -/
theorem sinT_reflect (k : Int) : sinT (180 - k) = sinT k := by
  obtain ⟨m, q, rfl, h0, h1⟩ := turn_rep k
  rw [show 180 - (m + 360 * q) = 180 - m + 360 * (-q) by omega, sinT_period, sinT_period]
  by_cases h : m ≤ 90
  · rw [sinT_q2 (180 - m) (by omega), sinT_q1 m (by omega)]
    exact congrArg tab (by omega)
  · by_cases h : m ≤ 180
    · rw [sinT_q1 (180 - m) (by omega), sinT_q2 m (by omega)]
    · rw [show 180 - m = 540 - m + 360 * (-1) by omega, sinT_period]
      by_cases h : m ≤ 270
      · rw [sinT_q4 (540 - m) (by omega), sinT_q3 m (by omega)]
        exact congrArg (fun i => -tab i) (by omega)
      · rw [sinT_q3 (540 - m) (by omega), sinT_q4 m (by omega)]
        exact congrArg (fun i => -tab i) (by omega)

theorem sin_closed (a : Int) : sin a = if DegFits a then some (sinT (deg a)) else none := by
  unfold sin
  rw [degreeOf_closed]
  split
  · exact sinOfDegree_eq _
  · rfl

theorem sin_eq_some {a s : Int} : sin a = some s ↔ DegFits a ∧ sinT (deg a) = s := by
  rw [sin_closed, Option.ite_none_right_eq_some, Option.some.injEq]

/-- `angle + FRAC_PI_2` and `Real::from(180) * (angle + FRAC_PI_2)` fit. -/
def CosFits (a : Int) : Prop := DegFits (a + 102944)
instance (a : Int) : Decidable (CosFits a) := by unfold CosFits; exact inferInstance

theorem cos_closed (a : Int) : cos a = if CosFits a then some (sinT (deg (a + 102944))) else none := by
  unfold cos add
  rw [show fracPi2Bits = 102944 from rfl]
  by_cases hf : -2147483648 ≤ a + 102944 ∧ a + 102944 ≤ 2147483647
  · rw [chk_of_fits hf]
    exact sin_closed _
  · rw [chk_of_not_fits hf, if_neg (fun h => hf (by unfold CosFits DegFits at h; omega))]
    rfl

theorem cos_eq_some {a c : Int} : cos a = some c ↔ CosFits a ∧ sinT (deg (a + 102944)) = c := by
  rw [cos_closed, Option.ite_none_right_eq_some, Option.some.injEq]

/-- The normal vector built from the table entries of the degrees `d` (sine) and `c` (cosine). -/
def tableNormal (d c : Int) : Pt := ⟨-(t64 (sinT d)), t64 (sinT c)⟩

theorem t64_bound {s : Int} (h : -65536 ≤ s ∧ s ≤ 65536) : -1024 ≤ t64 s ∧ t64 s ≤ 1024 := by
  unfold t64 truncDiv
  split <;> omega

theorem fromI32_scale : fromI32 trigNormalVectorScale = some 67108864 := by decide

/-- `x * Real::from(NORMAL_VECTOR_SCALE)` for a sine or cosine `x`. -/
theorem mul_scale (s : Int) (h : -65536 ≤ s ∧ s ≤ 65536) : mul s 67108864 = some (1024 * s) := by
  unfold mul
  rw [show s * 67108864 / 65536 = 1024 * s by omega]
  exact chk_of_fits (by omega)

theorem toI32_scale (s : Int) : toI32 (1024 * s) = t64 s := by
  rw [toI32_eq]
  unfold t64 truncDiv
  split <;> split <;> omega

/-- The raw angles for which `with_angle` does not panic. -/
def AngleFits (a : Int) : Prop := DegFits a ∧ CosFits a
instance (a : Int) : Decidable (AngleFits a) := by unfold AngleFits; exact inferInstance

theorem angleFits_iff (a : Int) : AngleFits a ↔ -2147483648 ≤ 180 * a ∧ 180 * (a + 102944) ≤ 2147483647 := by
  unfold AngleFits CosFits DegFits; omega

/-- The normal vector `with_angle` computes for the raw angle `a`. -/
def normalOf (a : Int) : Pt := tableNormal (deg a) (deg (a + 102944))

theorem withAngle_closed (a : Int) : withAngle a = if AngleFits a then some (normalOf a) else none := by
  unfold withAngle
  by_cases hs : a = withAngleSpecialBits
  -- the special arm `angle == 180°` returns what the general arm would: both sides evaluated
  · rw [if_pos hs, hs]; decide
  · rw [if_neg hs, cos_closed, sin_closed]
    by_cases hc : CosFits a
    · rw [if_pos hc]
      by_cases hd : DegFits a
      · rw [if_pos hd, if_pos ⟨hd, hc⟩]
        simp only [fromI32_scale, mul_scale _ (sinT_bound _), toI32_scale, Option.bind_eq_bind, Option.bind_some,
          Option.pure_def]
        rfl
      · rw [if_neg hd, if_neg (fun h => hd h.1)]
        simp only [fromI32_scale, mul_scale _ (sinT_bound _), Option.bind_eq_bind, Option.bind_some, Option.bind_none]
    · rw [if_neg hc, if_neg (fun h : AngleFits a => hc h.2)]
      rfl

theorem withAngle_eq (a : Int) (h : AngleFits a) : withAngle a = some (normalOf a) := by
  rw [withAngle_closed, if_pos h]

theorem withAngle_eq_some {a : Int} {n : Pt} : withAngle a = some n ↔ AngleFits a ∧ normalOf a = n := by
  rw [withAngle_closed, Option.ite_none_right_eq_some, Option.some.injEq]

/-- The raw angles of the right (lower) and of the left (upper) boundary: `angle_start` and
`angle_end` after the swap for negative sweeps. -/
def boundaryAngles (start sweep : Int) : Int × Int :=
  if sweep < 0 then (start + sweep, start) else (start, start + sweep)

/-- `|sweep|` in bits. -/
def sweepAbs (sweep : Int) : Int := if sweep < 0 then -sweep else sweep

/-- `Angle::abs` panics on `i32::MIN` only. -/
theorem angleAbs_eq (a : Int) : angleAbs a =
    if -2147483648 < a ∧ a ≤ 2147483647 then some (sweepAbs a) else none := by
  unfold angleAbs abs sweepAbs
  by_cases h : -2147483648 < a ∧ a ≤ 2147483647
  · rw [if_pos h]; exact chk_of_fits (by split <;> omega)
  · rw [if_neg h]; exact chk_of_not_fits (by split <;> omega)

theorem sweepAbs_nonneg (sweep : Int) : 0 ≤ sweepAbs sweep := by
  unfold sweepAbs; split <;> omega

/-- The two boundary angles are `r` and `r + |sweep|`. -/
theorem boundaryAngles_eq (start sweep : Int) : boundaryAngles start sweep =
    ((boundaryAngles start sweep).1, (boundaryAngles start sweep).1 + sweepAbs sweep) := by
  unfold boundaryAngles sweepAbs
  split
  · exact Prod.ext rfl (by show start = start + sweep + -sweep; omega)
  · rfl

/-- What `PlaneSector::new` returns below a full turn: right boundary angle `r`, left boundary `r + w`.
Order in this family: the right (start, lower) boundary comes first in every pair (`boundaryAngles`,
`sectorOf`, `orientOK`, `cross(right, left)`); left comes first only in the `PlaneSector` structure (the
Rust field order) and, following it, in `MarginClaim` and the lemmas that conclude it (`Nl Nr`, `hl hr`). -/
def sectorOf (r w : Int) : PlaneSector :=
  ⟨if 205887 ≤ w then .union else .intersection, normalOf (r + w), normalOf r⟩

/-- `PlaneSector::new` in closed form: it panics when the sweep has no absolute value and, below
a full turn, when `start + sweep` overflows or `with_angle` panics on one of the boundary angles. -/
theorem planeSectorNew_closed (start sweep : Int) : planeSectorNew start sweep =
    if -2147483648 < sweep ∧ sweep ≤ 2147483647 then
      if 411775 ≤ sweepAbs sweep then some PlaneSector.entire
      else if (-2147483648 ≤ start + sweep ∧ start + sweep ≤ 2147483647) ∧
          AngleFits (boundaryAngles start sweep).1 ∧
          AngleFits ((boundaryAngles start sweep).1 + sweepAbs sweep) then
        some (sectorOf (boundaryAngles start sweep).1 (sweepAbs sweep))
      else none
    else none := by
  unfold planeSectorNew
  rw [angleAbs_eq]
  by_cases h1 : -2147483648 < sweep ∧ sweep ≤ 2147483647
  · simp only [if_pos h1, Option.bind_eq_bind, Option.bind_some, show tauBits = 411775 from rfl,
      show piBits = 205887 from rfl, ge_iff_le]
    by_cases h2 : 411775 ≤ sweepAbs sweep
    · simp only [if_pos h2]; rfl
    · simp only [if_neg h2]
      unfold add
      by_cases h3 : -2147483648 ≤ start + sweep ∧ start + sweep ≤ 2147483647
      · rw [chk_of_fits h3, Option.bind_some, show (if sweep < 0 then (start + sweep, start)
          else (start, start + sweep)) = boundaryAngles start sweep from rfl, boundaryAngles_eq start sweep]
        generalize (boundaryAngles start sweep).1 = r
        simp only [withAngle_closed, h3, true_and]
        by_cases hr : AngleFits r
        · by_cases hl : AngleFits (r + sweepAbs sweep)
          · simp only [hr, hl, ↓reduceIte, Option.bind_some, Option.pure_def, and_self]
            rfl
          · simp only [hr, hl, ↓reduceIte, Option.bind_some, Option.bind_none, and_false]
        · simp only [hr, ↓reduceIte, Option.bind_none, false_and]
      · simp only [chk_of_not_fits h3, Option.bind_none, h3, false_and, ↓reduceIte]
  · simp only [if_neg h1, Option.bind_eq_bind, Option.bind_none]

theorem planeSectorNew_eq_some {start sweep : Int} {ps : PlaneSector} :
    planeSectorNew start sweep = some ps ↔
      (-2147483648 < sweep ∧ sweep ≤ 2147483647) ∧
      (411775 ≤ sweepAbs sweep ∧ ps = PlaneSector.entire ∨
       sweepAbs sweep < 411775 ∧
         ((-2147483648 ≤ start + sweep ∧ start + sweep ≤ 2147483647) ∧
           AngleFits (boundaryAngles start sweep).1 ∧
           AngleFits ((boundaryAngles start sweep).1 + sweepAbs sweep)) ∧
         ps = sectorOf (boundaryAngles start sweep).1 (sweepAbs sweep)) := by
  rw [planeSectorNew_closed, Option.ite_none_right_eq_some]
  refine and_congr_right fun _ => ?_
  by_cases h2 : 411775 ≤ sweepAbs sweep
  · rw [if_pos h2, Option.some.injEq]
    exact ⟨fun h => .inl ⟨h2, h.symm⟩,
      fun h => h.elim (fun h => h.2.symm) fun h => absurd h2 (Int.not_le.mpr h.1)⟩
  · rw [if_neg h2, Option.ite_none_right_eq_some, Option.some.injEq]
    exact ⟨fun h => .inr ⟨Int.not_le.mp h2, h.1, h.2.symm⟩,
      fun h => h.elim (fun h => absurd h.1 h2) fun h => ⟨h.2.1, h.2.2.symm⟩⟩

/-- Below a full turn the result is `sectorOf r w`, with `r`, `r + w` the two boundary angles. -/
theorem planeSectorNew_partial {start sweep : Int} {ps : PlaneSector}
    (h : planeSectorNew start sweep = some ps) (hne : ps.op ≠ .entirePlane) :
    ∃ r w, boundaryAngles start sweep = (r, r + w) ∧ w = sweepAbs sweep ∧ 0 ≤ w ∧ w < 411775 ∧
      AngleFits r ∧ AngleFits (r + w) ∧ ps = sectorOf r w := by
  obtain ⟨-, ⟨-, rfl⟩ | ⟨hw, ⟨-, hr, hl⟩, hps⟩⟩ := planeSectorNew_eq_some.mp h
  · exact absurd rfl hne
  · exact ⟨_, _, boundaryAngles_eq start sweep, rfl, sweepAbs_nonneg sweep, hw, hr, hl, hps⟩

/-- 11800000: a round number below the limit 11827520 of `AngleFits` (`angleFits_iff`), about 28 turns. -/
theorem withAngle_of_le {a : Int} (h : -11800000 ≤ a ∧ a ≤ 11800000) : withAngle a = some (normalOf a) :=
  withAngle_eq a ((angleFits_iff a).mpr (by omega))

theorem sweepAbs_lt {sweep : Int} : sweepAbs sweep < 411775 ↔ -411775 < sweep ∧ sweep < 411775 := by
  unfold sweepAbs; split <;> omega

/-- `PlaneSector::new` returns, and what. 11000000: a round bound on the start angle that keeps both
boundary angles (`start`, `start ± |sweep|` with `|sweep| < 411775`) inside `AngleFits`, and the bevel
angles of `sectorBevel_defined` (`start + sweep / 2 ± 102944`) within the 11800000 of `withAngle_of_le`. -/
theorem planeSectorNew_defined {start sweep : Int} (hs : -11000000 ≤ start ∧ start ≤ 11000000)
    (hw : -2147483647 ≤ sweep ∧ sweep ≤ 2147483647) :
    planeSectorNew start sweep = some (if 411775 ≤ sweepAbs sweep then PlaneSector.entire
      else sectorOf (boundaryAngles start sweep).1 (sweepAbs sweep)) := by
  refine planeSectorNew_eq_some.mpr ⟨by omega, ?_⟩
  split
  · exact .inl ⟨‹_›, rfl⟩
  · have hsw := sweepAbs_lt.mp (Int.not_le.mp ‹_›)
    have hb : start - 411775 ≤ (boundaryAngles start sweep).1 ∧ (boundaryAngles start sweep).1 ≤ start := by
      unfold boundaryAngles; split <;> simp only <;> omega
    have h0 := sweepAbs_nonneg sweep
    exact .inr ⟨Int.not_le.mp ‹_›,
      ⟨by omega, (angleFits_iff _).mpr (by omega), (angleFits_iff _).mpr (by omega)⟩, rfl⟩

/-- The bevel `sector::StyledPixelsIterator::new` selects: interior above 305 degrees of sweep, exterior
below 55, the normal of the bevel line from the bisecting angle turned by a quarter. -/
def bevelOf (start sweep : Int) : SectorBevel :=
  if 348865 < sweepAbs sweep ∧ sweepAbs sweep < 411775 then
    some (.interior, normalOf (start + halfSweep sweep + 102944))
  else if sweepAbs sweep < 62910 then some (.exterior, normalOf (start + halfSweep sweep - 102944))
  else none

theorem halfSweep_le {sweep : Int} (h : -411775 < sweep ∧ sweep < 411775) :
    -205888 ≤ halfSweep sweep ∧ halfSweep sweep ≤ 205888 := by
  unfold halfSweep
  simp only
  split
  · omega
  · split <;> omega

/-- The bevel selection returns on the same domain, and what. -/
theorem sectorBevel_defined {start sweep : Int} (hs : -11000000 ≤ start ∧ start ≤ 11000000)
    (hw : -2147483647 ≤ sweep ∧ sweep ≤ 2147483647) :
    sectorBevel start sweep = some (bevelOf start sweep) := by
  unfold sectorBevel bevelOf
  rw [angleAbs_eq, if_pos (by omega)]
  simp only [Option.bind_eq_bind, Option.bind_some, show bevelExteriorBits = 62910 from rfl,
    show bevelInteriorLoBits = 348865 from rfl, show bevelInteriorHiBits = 411775 from rfl,
    show fracPi2Bits = 102944 from rfl, Bool.or_eq_true, Bool.and_eq_true, decide_eq_true_eq, gt_iff_lt]
  by_cases hi : 348865 < sweepAbs sweep ∧ sweepAbs sweep < 411775
  · have hh := halfSweep_le (sweepAbs_lt.mp hi.2)
    rw [if_pos (.inr hi), if_pos hi, add, chk_of_fits (by omega), Option.bind_some, if_pos hi, add,
      chk_of_fits (by omega), Option.bind_some, withAngle_of_le (by omega)]
    rfl
  · rw [if_neg hi]
    by_cases he : sweepAbs sweep < 62910
    · have hh := halfSweep_le ((sweepAbs_lt (sweep := sweep)).mp (by omega))
      rw [if_pos (.inl he), if_pos he, add, chk_of_fits (by omega), Option.bind_some, if_neg hi, sub,
        chk_of_fits (by omega), Option.bind_some, withAngle_of_le (by omega)]
      rfl
    · rw [if_neg (not_or.mpr ⟨he, hi⟩), if_neg he]
      rfl

end EG.Fx
