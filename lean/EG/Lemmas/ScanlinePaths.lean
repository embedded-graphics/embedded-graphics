/-
  EG.Lemmas.ScanlinePaths — the two renderers of scanline-based styled shapes, generically:
  * the `fill_solid` rectangle of a scanline lowers (natively and through the trait defaults) to the
    scanline's coloured points,
  * hence the draw path of a list of styled scanlines writes exactly `pixelsSpec`,
  * the `StyledPixelsIterator` state machine yields exactly `pixelsSpec`,
  * membership in `pixelsSpec`.
  `Scanline.WF` / `StyledScanline.WF` are the range guards of these statements.
-/
import EG.Lemmas.Scanline
import EG.Lemmas.PMap
namespace EG

/-- The scanline's rectangle does not saturate / overflow `i32` (true of every scanline inside an
`i32` bounding box that does not touch `i32::MAX`). -/
def Scanline.WF (s : Scanline) : Prop :=
  (⟨⟨s.xs, s.y⟩, ⟨(s.xe - s.xs).toNat, 1⟩⟩ : Rect).InRange
instance (s : Scanline) : Decidable s.WF := by unfold Scanline.WF; exact inferInstance

/-- A scanline of a row of an in-range box whose ends lie between the box's first column and the
column after its last is in range (also an empty one with `xe < xs`). -/
theorem Scanline.wf_of_within {B : Rect} (hB : B.InRange) {y xs xe : Int}
    (hy : B.tl.y ≤ y ∧ y < B.tl.y + B.size.h) (h1 : B.tl.x ≤ xs ∧ xs ≤ B.tl.x + B.size.w)
    (h2 : B.tl.x ≤ xe ∧ xe ≤ B.tl.x + B.size.w) : (⟨y, xs, xe⟩ : Scanline).WF := by
  unfold Scanline.WF
  unfold Rect.InRange inI32 at hB ⊢
  dsimp only
  omega

def StyledScanline.WF (l : StyledScanline) : Prop := l.strokeLeft.WF ∧ l.fill.WF ∧ l.strokeRight.WF
instance (l : StyledScanline) : Decidable l.WF := by unfold StyledScanline.WF; exact inferInstance

def Scanline.pixels (s : Scanline) : Option Color → Writes
  | some c => s.points.map (·, c)
  | none => []

theorem Scanline.mem_pixels {s : Scanline} {o : Option Color} {p : Pt} {col : Color} :
    (p, col) ∈ s.pixels o ↔ o = some col ∧ p.y = s.y ∧ s.xs ≤ p.x ∧ p.x < s.xe := by
  cases o with
  | none => simp [Scanline.pixels]
  | some c =>
    simp only [Scanline.pixels, List.mem_map, Prod.mk.injEq, Option.some.injEq]
    constructor
    · rintro ⟨q, hq, rfl, rfl⟩; exact ⟨rfl, Scanline.mem_points.mp hq⟩
    · rintro ⟨rfl, h⟩; exact ⟨p, Scanline.mem_points.mpr h, rfl, rfl⟩

theorem Scanline.pixels_length_le (s : Scanline) (o : Option Color) :
    (s.pixels o).length ≤ StyledPixelsIt.lenOf s := by
  cases o with
  | none => exact Nat.zero_le _
  | some c => simp only [Scanline.pixels, List.length_map, Scanline.points_length, StyledPixelsIt.lenOf,
      Nat.le_refl]

theorem Scanline.pixels_of_empty {s : Scanline} (h : ¬ s.xs < s.xe) (o : Option Color) : s.pixels o = [] := by
  cases o with
  | none => rfl
  | some c => simp only [Scanline.pixels, Scanline.points_empty h, List.map_nil]

theorem Scanline.pixels_none (s : Scanline) : s.pixels none = [] := rfl

theorem Scanline.pixels_cons {s : Scanline} (h : s.xs < s.xe) (c : Color) :
    s.pixels (some c) = (⟨s.xs, s.y⟩, c) :: ({ s with xs := s.xs + 1 } : Scanline).pixels (some c) := by
  simp only [Scanline.pixels, Scanline.points_cons h, List.map_cons]

/-- All four colour options at once: the three parts of a styled scanline, each in its optional
colour. -/
theorem StyledScanline.pixelsSpec_eq (sc fc : Option Color) (l : StyledScanline) :
    l.pixelsSpec sc fc = l.strokeLeft.pixels sc ++ l.fill.pixels fc ++ l.strokeRight.pixels sc := by
  cases sc <;> cases fc <;> simp [StyledScanline.pixelsSpec, Scanline.pixels]

/-- The `w x 1` rectangle at `(xs, y)` has the points of the single row `y`. -/
theorem Scanline.draw_lowerNative (s : Scanline) (h : s.WF) (B : Rect) (c : Color) :
    (s.draw c).flatMap (Call.lowerNative B) = s.points.map (fun p => (p, c)) := by
  unfold Scanline.draw Scanline.isEmpty
  by_cases hx : s.xs < s.xe
  · simp only [hx, decide_true, Bool.not_true, Bool.false_eq_true, ↓reduceIte, List.flatMap_cons,
      List.flatMap_nil, List.append_nil, Call.lowerNative]
    rw [Rect.pointsSpec_eq_grid (Or.inr h), Rect.grid_row,
      show s.xs + (((s.xe - s.xs).toNat : Nat) : Int) = s.xe by omega]
    rfl
  · simp only [hx, decide_false, Bool.not_false, ↓reduceIte, List.flatMap_nil]
    rw [Scanline.points_empty hx]; rfl

theorem StyledScanline.drawStroke_lower (l : StyledScanline) (h : l.WF) (B : Rect) (sc : Color) :
    (l.drawStroke sc).flatMap (Call.lowerNative B) = l.pixelsSpec (some sc) none := by
  unfold StyledScanline.drawStroke StyledScanline.pixelsSpec
  rw [List.flatMap_append, Scanline.draw_lowerNative _ h.1, Scanline.draw_lowerNative _ h.2.2]

theorem StyledScanline.drawStrokeAndFill_lower (l : StyledScanline) (h : l.WF) (B : Rect) (sc fc : Color) :
    (l.drawStrokeAndFill sc fc).flatMap (Call.lowerNative B) = l.pixelsSpec (some sc) (some fc) := by
  unfold StyledScanline.drawStrokeAndFill StyledScanline.pixelsSpec
  rw [List.flatMap_append, List.flatMap_append, Scanline.draw_lowerNative _ h.1,
    Scanline.draw_lowerNative _ h.2.1, Scanline.draw_lowerNative _ h.2.2]

/-- **Draw path = `pixelsSpec` (native lowering).** For every list of styled scanlines the writes
of the `fill_solid` rectangles are, as a list, the coloured points of the scanlines in order. -/
theorem drawLines_lowerNative (sc : Color) (fc : Option Color) (lines : List StyledScanline)
    (h : ∀ l ∈ lines, l.WF) (B : Rect) :
    (drawLines sc fc lines).flatMap (Call.lowerNative B) = pixelsSpec (some sc) fc lines := by
  unfold drawLines pixelsSpec
  cases fc with
  | none =>
    simp only
    rw [List.flatMap_assoc]
    exact flatMap_congr_left _ _ _ (fun l hl => l.drawStroke_lower (h l hl) B sc)
  | some fc =>
    simp only
    rw [List.flatMap_assoc]
    exact flatMap_congr_left _ _ _ (fun l hl => l.drawStrokeAndFill_lower (h l hl) B sc fc)

theorem drawFillLines_lowerNative (fc : Color) (lines : List Scanline) (h : ∀ l ∈ lines, l.WF) (B : Rect) :
    (drawFillLines fc lines).flatMap (Call.lowerNative B) =
      lines.flatMap (fun l => l.points.map (fun p => (p, fc))) := by
  unfold drawFillLines
  rw [List.flatMap_assoc]
  exact flatMap_congr_left _ _ _ (fun l hl => l.draw_lowerNative (h l hl) B fc)

namespace StyledPixelsIt

def curSpec (it : StyledPixelsIt) : Writes :=
  it.strokeLeft.pixels it.strokeColor ++ it.fill.pixels it.fillColor ++ it.strokeRight.pixels it.strokeColor

/-- Closed form of what the iterator state still has to yield. -/
def rest (it : StyledPixelsIt) : Writes :=
  it.curSpec ++ pixelsSpec it.strokeColor it.fillColor it.src

/-- The three loops peel the head off `rest`: of the scanline parts in hand first, then, when they are
used up, of the next styled scanline. -/
theorem loopStroke_yields (sc : Color) : ∀ (src : List StyledScanline) (sl f sr : Scanline),
    rest ⟨src, sl, f, sr, some sc, none⟩ = unroll (loopStroke sc src sl f sr) rest
  | src, sl, f, sr => by
    unfold loopStroke Scanline.next
    by_cases h1 : sl.xs < sl.xe
    · simp only [h1, ↓reduceIte, rest, curSpec, unroll, Scanline.pixels_cons h1, List.cons_append]
    · by_cases h2 : sr.xs < sr.xe
      · simp only [h1, h2, ↓reduceIte, rest, curSpec, unroll, Scanline.pixels_of_empty h1,
          Scanline.pixels_cons h2, Scanline.pixels_none, List.nil_append, List.cons_append]
      · simp only [h1, h2, ↓reduceIte]
        have e : rest ⟨src, sl, f, sr, some sc, none⟩ = pixelsSpec (some sc) none src := by
          simp only [rest, curSpec, Scanline.pixels_of_empty h1, Scanline.pixels_of_empty h2,
            Scanline.pixels_none, List.nil_append]
        rw [e]
        cases src with
        | nil => rfl
        | cons l src =>
          have := loopStroke_yields sc src l.strokeLeft f l.strokeRight
          simpa only [rest, curSpec, pixelsSpec, List.flatMap_cons, StyledScanline.pixelsSpec_eq,
            Scanline.pixels_none, List.append_nil] using this

theorem loopBoth_yields (sc fc : Color) : ∀ (src : List StyledScanline) (sl f sr : Scanline),
    rest ⟨src, sl, f, sr, some sc, some fc⟩ = unroll (loopBoth sc fc src sl f sr) rest
  | src, sl, f, sr => by
    unfold loopBoth Scanline.next
    by_cases h1 : sl.xs < sl.xe
    · simp only [h1, ↓reduceIte, rest, curSpec, unroll, Scanline.pixels_cons h1, List.cons_append]
    · by_cases h3 : f.xs < f.xe
      · simp only [h1, h3, ↓reduceIte, rest, curSpec, unroll, Scanline.pixels_of_empty h1,
          Scanline.pixels_cons h3, List.nil_append, List.cons_append]
      · by_cases h2 : sr.xs < sr.xe
        · simp only [h1, h2, h3, ↓reduceIte, rest, curSpec, unroll, Scanline.pixels_of_empty h1,
            Scanline.pixels_of_empty h3, Scanline.pixels_cons h2, List.nil_append, List.cons_append]
        · simp only [h1, h2, h3, ↓reduceIte]
          have e : rest ⟨src, sl, f, sr, some sc, some fc⟩ = pixelsSpec (some sc) (some fc) src := by
            simp only [rest, curSpec, Scanline.pixels_of_empty h1, Scanline.pixels_of_empty h2,
              Scanline.pixels_of_empty h3, List.nil_append]
          rw [e]
          cases src with
          | nil => rfl
          | cons l src => exact loopBoth_yields sc fc src l.strokeLeft l.fill l.strokeRight

theorem loopFill_yields (fc : Color) : ∀ (src : List StyledScanline) (sl f sr : Scanline),
    rest ⟨src, sl, f, sr, none, some fc⟩ = unroll (loopFill fc src sl f sr) rest
  | src, sl, f, sr => by
    unfold loopFill Scanline.next
    by_cases h3 : f.xs < f.xe
    · simp only [h3, ↓reduceIte, rest, curSpec, unroll, Scanline.pixels_cons h3, Scanline.pixels_none,
        List.nil_append, List.append_nil, List.cons_append]
    · simp only [h3, ↓reduceIte]
      have e : rest ⟨src, sl, f, sr, none, some fc⟩ = pixelsSpec none (some fc) src := by
        simp only [rest, curSpec, Scanline.pixels_of_empty h3, Scanline.pixels_none, List.nil_append]
      rw [e]
      cases src with
      | nil => rfl
      | cons l src =>
        have := loopFill_yields fc src sl l.fill sr
        simpa only [rest, curSpec, pixelsSpec, List.flatMap_cons, StyledScanline.pixelsSpec_eq,
          Scanline.pixels_none, List.nil_append, List.append_nil] using this

theorem yields : Yields StyledPixelsIt.next rest := by
  intro it
  obtain ⟨src, sl, f, sr, scol, fcol⟩ := it
  unfold next
  cases scol with
  | none =>
    cases fcol with
    | none => simp [rest, curSpec, pixelsSpec, StyledScanline.pixelsSpec, unroll, Scanline.pixels_none]
    | some fc => exact loopFill_yields fc src sl f sr
  | some sc =>
    cases fcol with
    | none => exact loopStroke_yields sc src sl f sr
    | some fc => exact loopBoth_yields sc fc src sl f sr

theorem drains : Drains StyledPixelsIt.next StyledPixelsIt.toListFuel :=
  ⟨fun _ => rfl, fun n it => by rw [toListFuel]; cases it.next <;> rfl⟩

theorem pixelsSpec_line_length (scol fcol : Option Color) (l : StyledScanline) :
    (l.pixelsSpec scol fcol).length ≤ lenOf l.strokeLeft + lenOf l.fill + lenOf l.strokeRight := by
  rw [StyledScanline.pixelsSpec_eq, List.length_append, List.length_append]
  have h1 := l.strokeLeft.pixels_length_le scol
  have h2 := l.fill.pixels_length_le fcol
  have h3 := l.strokeRight.pixels_length_le scol
  omega

theorem pixelsSpec_length (scol fcol : Option Color) (lines : List StyledScanline) :
    (pixelsSpec scol fcol lines).length ≤
      (lines.map (fun l => lenOf l.strokeLeft + lenOf l.fill + lenOf l.strokeRight)).sum := by
  induction lines with
  | nil => simp [pixelsSpec]
  | cons l lines ih =>
    have := pixelsSpec_line_length scol fcol l
    unfold pixelsSpec at ih ⊢
    simp only [List.flatMap_cons, List.length_append, List.map_cons, List.sum_cons]
    omega

theorem rest_length_le (it : StyledPixelsIt) : it.rest.length ≤ it.budget := by
  unfold rest budget
  rw [List.length_append]
  have h1 := pixelsSpec_length it.strokeColor it.fillColor it.src
  have h2 := it.strokeLeft.pixels_length_le it.strokeColor
  have h3 := it.fill.pixels_length_le it.fillColor
  have h4 := it.strokeRight.pixels_length_le it.strokeColor
  unfold curSpec
  rw [List.length_append, List.length_append]
  omega

theorem toList_new (lines : List StyledScanline) (scol fcol : Option Color) :
    (StyledPixelsIt.new lines scol fcol).toList = pixelsSpec scol fcol lines := by
  unfold toList
  rw [drains.eq_rest yields (by have := rest_length_le (StyledPixelsIt.new lines scol fcol); omega)]
  unfold rest new curSpec
  simp only [Scanline.newEmpty, Scanline.pixels_of_empty (s := ⟨0, 0, 0⟩) (by simp), List.nil_append]

end StyledPixelsIt

theorem StyledScanline.mem_pixelsSpec {scol fcol : Option Color} {l : StyledScanline} {p : Pt} {col : Color} :
    (p, col) ∈ l.pixelsSpec scol fcol ↔
      p.y = l.y ∧ ((scol = some col ∧ (l.ss ≤ p.x ∧ p.x < l.fs ∨ l.fe ≤ p.x ∧ p.x < l.se)) ∨
        (fcol = some col ∧ l.fs ≤ p.x ∧ p.x < l.fe)) := by
  simp only [StyledScanline.pixelsSpec_eq, List.mem_append, Scanline.mem_pixels,
    StyledScanline.strokeLeft, StyledScanline.strokeRight, StyledScanline.fill]
  constructor
  · rintro ((⟨h, hy, hx⟩ | ⟨h, hy, hx⟩) | ⟨h, hy, hx⟩)
    · exact ⟨hy, Or.inl ⟨h, Or.inl hx⟩⟩
    · exact ⟨hy, Or.inr ⟨h, hx⟩⟩
    · exact ⟨hy, Or.inl ⟨h, Or.inr hx⟩⟩
  · rintro ⟨hy, ⟨h, hx | hx⟩ | ⟨h, hx⟩⟩
    · exact Or.inl (Or.inl ⟨h, hy, hx⟩)
    · exact Or.inr ⟨h, hy, hx⟩
    · exact Or.inl (Or.inr ⟨h, hy, hx⟩)

theorem mem_pixelsSpec {scol fcol : Option Color} {lines : List StyledScanline} {w : Pt × Color} :
    w ∈ pixelsSpec scol fcol lines ↔ ∃ l ∈ lines, w ∈ l.pixelsSpec scol fcol := by
  unfold pixelsSpec; rw [List.mem_flatMap]

end EG
