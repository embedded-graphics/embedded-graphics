/-
  EG.Lemmas.ThickWidth1 — the fresh state of `ParallelsIterator` (`new_fresh`) and its first parallel,
  the centre line (`next_fresh`), which is `Line::points()` (`centre_walk`); width 0 yields nothing. That
  a stroked line of width 1 yields exactly the centre line and every wider one starts with it is in
  EG.Lemmas.ThickRun.
-/
import EG.Lemmas.LineProps
import EG.Lemmas.ThickSide
namespace EG
namespace Thick
open ParallelsIterator

/-- The call in `ParallelsIterator::new` that skips the centre line. -/
theorem nextParallel_left_fresh (it : ParallelsIterator) (start : Pt)
    (hl : it.left = ⟨start, 0⟩) (hthr : 0 ≤ it.perpendicularParameters.errorThreshold) :
    it.nextParallel .left =
      some ((.normal start, it.leftError),
        { it with left := ⟨start + it.perpendicularParameters.positionStep.major,
                           0 + it.perpendicularParameters.errorStep.major⟩ }) := by
  have hc : ¬ ((0 : Int) > it.perpendicularParameters.errorThreshold) := by omega
  simp only [nextParallel, loopFuel, nextParallelFuel, Bresenham.nextAll, hl, hc, ↓reduceIte, sideError]

theorem nextParallel_right_fresh (it : ParallelsIterator) (start : Pt)
    (hr : it.right = ⟨start, 0⟩) (hthr : 0 < it.perpendicularParameters.errorThreshold) :
    it.nextParallel .right =
      some ((.normal start, it.rightError),
        { it with right := ⟨start - it.perpendicularParameters.positionStep.major,
                            0 - it.perpendicularParameters.errorStep.major⟩ }) := by
  have hc : ¬ ((0 : Int) ≤ -it.perpendicularParameters.errorThreshold) := by omega
  simp only [nextParallel, loopFuel, nextParallelFuel, Bresenham.previousAll, hr, hc, ↓reduceIte,
    sideError]

theorem next_fresh (it : ParallelsIterator) (start : Pt) (hw : it.walk it.nextSide = ⟨start, 0⟩)
    (he : it.sideError it.nextSide = 0) (hthr : 0 < it.perpendicularParameters.errorThreshold)
    (hacc : ¬ it.thicknessAccumulator * it.thicknessAccumulator > it.thicknessThreshold) :
    ∃ it1 : ParallelsIterator,
      it.next = some (some (⟨start, 0⟩, .normal), it1) ∧
      it1.parallelParameters = it.parallelParameters ∧
      it1.thicknessThreshold = it.thicknessThreshold ∧
      it1.thicknessAccumulator =
        it.thicknessAccumulator + it.perpendicularParameters.errorStep.minor := by
  have hr : Ready it it.nextSide := by
    rw [ready_iff, hw]
    rcases it.nextSide.sgn_eps with ⟨a, b⟩ | ⟨a, b⟩ <;> rw [a, b] <;> dsimp only <;> omega
  have hnp : it.nextParallel it.nextSide = _ := npf_ready 3 it it.nextSide hr
  unfold ParallelsIterator.next
  rw [if_neg hacc, hnp, hw, he]
  have hf : ∀ w e, (it.setSide it.nextSide w e).parallelParameters = it.parallelParameters ∧
      (it.setSide it.nextSide w e).perpendicularParameters = it.perpendicularParameters ∧
      (it.setSide it.nextSide w e).thicknessThreshold = it.thicknessThreshold ∧
      (it.setSide it.nextSide w e).thicknessAccumulator = it.thicknessAccumulator := by
    intro w e; cases it.nextSide <;> exact ⟨rfl, rfl, rfl, rfl⟩
  obtain ⟨f1, f2, f3, f4⟩ := hf _ 0
  dsimp only
  split
  · exact ⟨_, rfl, f1, f3, by show _ + _ = _; rw [f2, f4]⟩
  · exact ⟨_, rfl, f1, f3, by show _ + _ = _; rw [f2, f4]⟩

theorem next_first (it : ParallelsIterator) (start : Pt)
    (hr : it.right = ⟨start, 0⟩) (hre : it.rightError = 0) (hs : it.nextSide = .right)
    (hthr : 0 < it.perpendicularParameters.errorThreshold)
    (hacc : ¬ it.thicknessAccumulator * it.thicknessAccumulator > it.thicknessThreshold) :
    ∃ it1 : ParallelsIterator,
      it.next = some (some (⟨start, 0⟩, .normal), it1) ∧
      it1.parallelParameters = it.parallelParameters ∧
      it1.thicknessThreshold = it.thicknessThreshold ∧
      it1.thicknessAccumulator =
        it.thicknessAccumulator + it.perpendicularParameters.errorStep.minor :=
  next_fresh it start (by rw [hs]; exact hr) (by rw [hs]; exact hre) hthr hacc

theorem next_done (it : ParallelsIterator)
    (hacc : it.thicknessAccumulator * it.thicknessAccumulator > it.thicknessThreshold) :
    it.next = some (none, it) := by
  unfold ParallelsIterator.next
  rw [if_pos hacc]

open Line in
theorem dxOf_perpendicular (n : Line) : dxOf n.perpendicular = dyOf n := by
  unfold dxOf dyOf Line.perpendicular
  simp only [Pt.add_x, Pt.sub_y]
  omega

open Line in
theorem dyOf_perpendicular (n : Line) : dyOf n.perpendicular = -dxOf n := by
  unfold dxOf dyOf Line.perpendicular
  simp only [Pt.add_y, Pt.sub_x]
  omega

theorem aabs_neg (a : Int) : Line.aabs (-a) = Line.aabs a := by
  unfold Line.aabs; split <;> split <;> omega

theorem dmaj_perpendicular (m : Line) : Line.dmaj m.perpendicular = Line.dmaj m := by
  unfold Line.dmaj Line.yMajor
  simp only [dxOf_perpendicular, dyOf_perpendicular, aabs_neg]
  by_cases h1 : Line.aabs (Line.dxOf m) ≥ Line.aabs (Line.dyOf m) <;>
    by_cases h2 : Line.aabs (Line.dyOf m) ≥ Line.aabs (Line.dxOf m) <;>
    simp only [h1, h2, ↓reduceIte] <;> omega

theorem dmin_perpendicular (m : Line) : Line.dmin m.perpendicular = Line.dmin m := by
  unfold Line.dmin Line.yMajor
  simp only [dxOf_perpendicular, dyOf_perpendicular, aabs_neg]
  by_cases h1 : Line.aabs (Line.dxOf m) ≥ Line.aabs (Line.dyOf m) <;>
    by_cases h2 : Line.aabs (Line.dyOf m) ≥ Line.aabs (Line.dxOf m) <;>
    simp only [h1, h2, ↓reduceIte] <;> omega

theorem dmin_perpendicular_bb (n : Line) : Line.dmin n.perpendicular = Line.dmin n :=
  dmin_perpendicular n

theorem aabs_mul_self (a : Int) : Line.aabs a * Line.aabs a = a * a := ite_neg_mul_self a

open Line in
theorem dmaj_dmin_squares (m : Line) :
    dmaj m * dmaj m + dmin m * dmin m = dxOf m * dxOf m + dyOf m * dyOf m := by
  unfold dmaj dmin
  by_cases h : yMajor m
  · simp only [h, ↓reduceIte, aabs_mul_self]; omega
  · simp only [h, ↓reduceIte, aabs_mul_self]

theorem sq_expand1 (D d : Int) : (D + d) * (D + d) = D * D + 2 * (D * d) + d * d := by grind
theorem sq_expand2 (D d : Int) :
    (D + d + 2 * D) * (D + d + 2 * D) = 9 * (D * D) + 6 * (D * d) + d * d := by grind

/-- `(dmaj + dmin)^2 ≤ (2·1)^2 (dx^2 + dy^2) < (dmaj + dmin + 2 dmaj)^2`: the accumulator admits the
centre line and nothing else. -/
theorem width1_arith (D d S : Int) (hd0 : 0 ≤ d) (hdD : d ≤ D) (hD : 0 < D)
    (hS : S = D * D + d * d) :
    ¬ ((D + d) * (D + d) > 1 * 2 * (1 * 2) * S) ∧
      (D + d + 2 * D) * (D + d + 2 * D) > 1 * 2 * (1 * 2) * S := by
  have h1 : D * d ≤ D * D := Int.mul_le_mul_of_nonneg_left hdD (by omega)
  have h2 : 0 ≤ D * d := Int.mul_nonneg (by omega) hd0
  have h3 : 0 ≤ d * d := Int.mul_nonneg hd0 hd0
  have h4 : 0 < D * D := Int.mul_pos hD hD
  have h5 : d * d ≤ D * d := Int.mul_le_mul_of_nonneg_right hdD hd0
  rw [sq_expand1, sq_expand2, hS]
  refine ⟨?_, ?_⟩ <;> omega

theorem paramLine_nondeg (l : Line) : (paramLine l).start ≠ (paramLine l).stop := by
  unfold paramLine
  by_cases h : l.start = l.stop
  · simp only [h, ↓reduceIte, horizontalLine]; decide
  · simp only [h, ↓reduceIte]; exact h

theorem dmaj_paramLine_pos (l : Line) : 0 < Line.dmaj (paramLine l) := by
  have h1 := Line.dmaj_nonneg (paramLine l)
  have h2 := paramLine_nondeg l
  have h3 : Line.dmaj (paramLine l) ≠ 0 := fun h => h2 ((Line.dmaj_zero_iff _).mp h)
  omega

def StrokeOffset.side : StrokeOffset → LineSide
  | .left => .left
  | _ => .right

/-- The `flip` flag `ParallelsIterator::new` computes. -/
def flipOf (l : Line) : Bool :=
  decide ((BresenhamParameters.new (paramLine l).perpendicular).positionStep.minor =
    -(BresenhamParameters.new (paramLine l)).positionStep.major)

/-- `ParallelsIterator::new(line, t, offset)`, field by field: the walker of the side it starts
with stands at `start`, the other one has taken the major step that skips the centre line. -/
theorem new_fresh (l : Line) (t : Int) (off : StrokeOffset) :
    ∃ iter, ParallelsIterator.new l t off = some iter ∧
      iter.nextSide = off.side ∧ iter.strokeOffset = off ∧ iter.flip = flipOf l ∧
      iter.parallelParameters = BresenhamParameters.new (paramLine l) ∧
      iter.perpendicularParameters = BresenhamParameters.new (paramLine l).perpendicular ∧
      iter.thicknessAccumulator = Line.dmaj (paramLine l) + Line.dmin (paramLine l) ∧
      iter.thicknessThreshold =
        t * 2 * (t * 2) * (Line.dxOf (paramLine l) * Line.dxOf (paramLine l) +
          Line.dyOf (paramLine l) * Line.dyOf (paramLine l)) ∧
      iter.walk off.side = ⟨l.start, 0⟩ ∧ iter.sideError off.side = 0 ∧
      (iter.walk off.side.swap).point = off.side.swap.move l.start
        (BresenhamParameters.new (paramLine l).perpendicular).positionStep.major ∧
      (iter.walk off.side.swap).error = off.side.swap.sgn *
        (BresenhamParameters.new (paramLine l).perpendicular).errorStep.major ∧
      iter.sideError off.side.swap = 0 := by
  have hthr : 0 < (BresenhamParameters.new (paramLine l).perpendicular).errorThreshold := by
    rw [Line.params_new, dmaj_perpendicular]; exact dmaj_paramLine_pos l
  have hacc : tdiv2 ((BresenhamParameters.new (paramLine l)).errorStep.minor +
      (BresenhamParameters.new (paramLine l)).errorStep.major) =
      Line.dmaj (paramLine l) + Line.dmin (paramLine l) := by
    rw [Line.params_new]
    have := Line.dmin_nonneg (paramLine l)
    have := Line.dmaj_nonneg (paramLine l)
    unfold tdiv2
    simp only
    omega
  unfold ParallelsIterator.new
  cases off <;> simp only [LineSide.swap]
  case left =>
    rw [nextParallel_right_fresh _ l.start rfl hthr]
    exact ⟨_, rfl, rfl, rfl, rfl, rfl, rfl, hacc, rfl, rfl, rfl, rfl,
      (Int.zero_sub _).trans (Int.neg_one_mul _).symm, rfl⟩
  all_goals
    rw [nextParallel_left_fresh _ l.start rfl (Int.le_of_lt hthr)]
    exact ⟨_, rfl, rfl, rfl, rfl, rfl, rfl, hacc, rfl, rfl, rfl, rfl, (Int.one_mul _ ▸ Int.zero_add _), rfl⟩

/-- `ParallelsIterator::new(line, t, StrokeOffset::None)` for any thickness: the fields that the
first call of `next` reads. -/
theorem new_any (l : Line) (t : Int) :
    ∃ iter, ParallelsIterator.new l t .none = some iter ∧
      iter.right = ⟨l.start, 0⟩ ∧ iter.rightError = 0 ∧ iter.nextSide = .right ∧
      iter.strokeOffset = .none ∧
      iter.parallelParameters = BresenhamParameters.new (paramLine l) ∧
      iter.perpendicularParameters = BresenhamParameters.new (paramLine l).perpendicular ∧
      iter.thicknessAccumulator = Line.dmaj (paramLine l) + Line.dmin (paramLine l) ∧
      iter.thicknessThreshold =
        t * 2 * (t * 2) * (Line.dxOf (paramLine l) * Line.dxOf (paramLine l) +
          Line.dyOf (paramLine l) * Line.dyOf (paramLine l)) := by
  obtain ⟨iter, h, hs, hso, _, hpp, hperp, hacc, hthr, hw, he, _⟩ := new_fresh l t .none
  exact ⟨iter, h, hw, he, hs, hso, hpp, hperp, hacc, hthr⟩

theorem new_left (l : Line) (t : Int) :
    ∃ iter, ParallelsIterator.new l t .left = some iter ∧
      iter.left = ⟨l.start, 0⟩ ∧ iter.leftError = 0 ∧ iter.nextSide = .left ∧
      iter.strokeOffset = .left ∧
      iter.parallelParameters = BresenhamParameters.new (paramLine l) ∧
      iter.perpendicularParameters = BresenhamParameters.new (paramLine l).perpendicular ∧
      iter.thicknessAccumulator = Line.dmaj (paramLine l) + Line.dmin (paramLine l) ∧
      iter.thicknessThreshold =
        t * 2 * (t * 2) * (Line.dxOf (paramLine l) * Line.dxOf (paramLine l) +
          Line.dyOf (paramLine l) * Line.dyOf (paramLine l)) := by
  obtain ⟨iter, h, hs, hso, _, hpp, hperp, hacc, hthr, hw, he, _⟩ := new_fresh l t .left
  exact ⟨iter, h, hw, he, hs, hso, hpp, hperp, hacc, hthr⟩

theorem new_right (l : Line) (t : Int) :
    ∃ iter, ParallelsIterator.new l t .right = some iter ∧
      iter.right = ⟨l.start, 0⟩ ∧ iter.rightError = 0 ∧ iter.nextSide = .right ∧
      iter.strokeOffset = .right ∧
      iter.parallelParameters = BresenhamParameters.new (paramLine l) ∧
      iter.perpendicularParameters = BresenhamParameters.new (paramLine l).perpendicular ∧
      iter.thicknessAccumulator = Line.dmaj (paramLine l) + Line.dmin (paramLine l) ∧
      iter.thicknessThreshold =
        t * 2 * (t * 2) * (Line.dxOf (paramLine l) * Line.dxOf (paramLine l) +
          Line.dyOf (paramLine l) * Line.dyOf (paramLine l)) := by
  obtain ⟨iter, h, hs, hso, _, hpp, hperp, hacc, hthr, hw, he, _⟩ := new_fresh l t .right
  exact ⟨iter, h, hw, he, hs, hso, hpp, hperp, hacc, hthr⟩

theorem centre_walk (l : Line) :
    Line.PointsIt.toListFuel (majorLength l)
      ⟨BresenhamParameters.new (paramLine l), ⟨l.start, 0⟩, majorLength l⟩ = Line.points l := by
  by_cases h : l.start = l.stop
  · obtain ⟨s, e⟩ := l
    simp only at h
    subst h
    rw [Line.points_zero_length]
    have hl : majorLength ⟨s, s⟩ = 1 := by
      rw [Line.majorLength_eq, (Line.dmaj_zero_iff _).mpr rfl]; rfl
    rw [hl]
    have hp : paramLine ⟨s, s⟩ = horizontalLine := by simp [paramLine]
    rw [hp]
    simp [Line.PointsIt.toListFuel, Line.PointsIt.next, Bresenham.next, BresenhamParameters.new,
      horizontalLine, Pt.abs]
  · have hp : paramLine l = l := by simp [paramLine, h]
    rw [hp]
    rfl

theorem majorLength_pos (l : Line) : 0 < majorLength l := by
  rw [Line.majorLength_eq]; omega

/-- Stroke width 0: no pixel (`effective_stroke_color()` is `None`). -/
theorem thickPoints_width0 (l : Line) : thickPoints l 0 = some [] := by
  obtain ⟨iter, hnew, _⟩ := new_any l 0
  have hz : satAsI32 0 = 0 := by decide
  unfold thickPoints ThickPointsIt.new
  rw [hz, hnew]
  simp only [↓reduceIte]

end Thick
end EG
