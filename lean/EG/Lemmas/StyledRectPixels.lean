/-
  EG.Lemmas.StyledRectPixels — the `StyledPixelsIterator` state machine equals its closed form:
  `pixelsList = pixelsSpec` (the points of the stroke area mapped through the colour choice,
  colourless points skipped).
-/
import EG.Model.StyledRect
import EG.Lemmas.RectPoints
namespace EG

namespace StyledRect
open Rect

/-- The loop body as a partial function on points. -/
def PixelsIt.pixelAt (it : PixelsIt) (p : Pt) : Option (Pt × Color) :=
  match it.colorAt p with
  | some c => some (p, c)
  | none => none

/-- Closed form of what the iterator state still has to yield. -/
def PixelsIt.rest (it : PixelsIt) : Writes := it.iter.rest.filterMap it.pixelAt

/-- The loop runs at most once per point the inner iterator has left. -/
theorem PixelsIt.nextFuel_spec : ∀ (fuel : Nat) (it : PixelsIt), it.iter.rest.length < fuel →
    it.rest = unroll (it.nextFuel fuel) PixelsIt.rest := by
  intro fuel
  induction fuel with
  | zero => intro it h; omega
  | succ fuel ih =>
    intro it h
    unfold PixelsIt.nextFuel PixelsIt.rest
    rw [Rect.PointsIt.yields it.iter] at h ⊢
    revert h
    cases it.iter.next with
    | none => intro _; rfl
    | some pi =>
      intro h
      simp only [unroll, List.filterMap_cons, PixelsIt.pixelAt, List.length_cons] at h ⊢
      cases it.colorAt pi.1 with
      | some c => rfl
      | none => exact ih { it with iter := pi.2 } (by dsimp only; omega)

theorem PixelsIt.yields : Yields PixelsIt.next PixelsIt.rest :=
  fun it => PixelsIt.nextFuel_spec _ it it.iter.rest_length_lt_budget

theorem PixelsIt.drains : Drains PixelsIt.next PixelsIt.toListFuel :=
  ⟨fun _ => rfl, fun n it => by rw [PixelsIt.toListFuel]; cases it.next <;> rfl⟩

/-- A turn of the loop that does not return consumes a point of the inner iterator. -/
theorem PixelsIt.nextFuel_stable : ∀ (f1 f2 : Nat) (it : PixelsIt),
    it.iter.rest.length < f1 → it.iter.rest.length < f2 → it.nextFuel f1 = it.nextFuel f2 :=
  loop_stable (fun it : PixelsIt => it.iter.rest.length) fun n m it h => by
    unfold PixelsIt.nextFuel
    have hn := Rect.PointsIt.yields it.iter
    cases hnx : it.iter.next with
    | none => rfl
    | some pi =>
      rw [hnx] at hn
      dsimp only
      cases it.colorAt pi.1 with
      | some c => rfl
      | none => exact h _ (by rw [hn]; exact Nat.lt_succ_self _)

theorem pixelsList_eq_spec (s : Style) (r : Rect) : pixelsList s r = pixelsSpec s r := by
  unfold pixelsList pixelsSpec
  simp only
  rw [PixelsIt.drains.eq_rest PixelsIt.yields (Nat.le_trans (List.length_filterMap_le _ _)
    (Nat.le_of_lt (pixelsIt s r).iter.rest_length_lt_budget))]
  unfold PixelsIt.rest pixelsIt
  have hf : ∀ (it : PointsIt),
      PixelsIt.pixelAt { iter := it, strokeColor := s.stroke, fillArea := fillArea s r, fillColor := s.fill }
        = pixelOf s r := by
    intro it
    funext p
    simp only [PixelsIt.pixelAt, PixelsIt.colorAt, pixelOf]
    rfl
  simp only [hf]
  by_cases ht : s.isTransparent = true
  · simp [ht, PointsIt.empty_rest]
  · have ht' : s.isTransparent = false := by simpa using ht
    simp only [ht', Bool.not_false, ↓reduceIte, points_eq_rest]

end StyledRect
end EG
