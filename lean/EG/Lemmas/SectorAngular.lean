/-
  EG.Lemmas.SectorAngular — what the angular claims of C18 need from arithmetic, over ANY ordered
  commutative ring `K` (the reals with `N = 1024 (-sin t, cos t)` and scale 1; the integers with the
  table normal and scale 64). An integer normal that, scaled by `s`, is within `(ex, ey)` of a reference
  normal `N` moves the signed distance `delta · n` by at most the budget `ex |dx| + ey |dy|`
  (`distance_error`), so beyond that budget the half-plane tests are those of the reference lines and
  the two tests without the bisector test (`containsPlain`) satisfy `MarginClaim` (`containsPlain_margin`).
  `contains` is `containsPlain` minus what lies behind the bisector, and the bisector test is implied by
  the two half-plane tests wherever the normals are correctly oriented (`cross > 0`) or do not point the
  same way: there `MarginClaim` passes on to `contains` (`MarginClaim.contains`). For parallel, equally
  directed normals `contains` is "on the line, on the forward side" (`contains_parallel_iff`).
-/
import EG.Lemmas.Sector
import EG.Lemmas.RectTranslate
import Mathlib.Tactic.Ring
namespace EG

section Generic
variable {K : Type} [CommRing K] [LinearOrder K] [IsStrictOrderedRing K]

theorem abs_mul_le_of_abs_le (a b eps : K) (hb : |b| ≤ eps) : |a * b| ≤ |a| * eps := by
  obtain ⟨h1, h2⟩ := abs_le.mp hb
  -- for `0 ≤ c` multiply `-eps ≤ b ≤ eps` by `c`; the claim does not change under `a ↦ -a`
  have pos : ∀ c : K, 0 ≤ c → |c * b| ≤ c * eps := fun c hc =>
    abs_le.mpr ⟨by rw [← mul_neg]; exact mul_le_mul_of_nonneg_left h1 hc, mul_le_mul_of_nonneg_left h2 hc⟩
  rcases le_total 0 a with ha | ha
  · rw [abs_of_nonneg ha]
    exact pos a ha
  · rw [abs_of_nonpos ha, ← abs_neg, ← neg_mul]
    exact pos (-a) (neg_nonneg.mpr ha)

/-- The integer normal vector `n` is within `eps` (componentwise) of the exact scaled normal `N`. -/
def NormalWithin (n : Pt) (N : K × K) (eps : K) : Prop :=
  |(n.x : K) - N.1| ≤ eps ∧ |(n.y : K) - N.2| ≤ eps

/-- Exact signed distance (scaled like `N`) of `delta` from the line with normal `N`. -/
def exactDist (N : K × K) (delta : Pt) : K := (delta.x : K) * N.1 + (delta.y : K) * N.2

/-- `|delta| _1` in `K`. -/
def norm1 (delta : Pt) : K := |(delta.x : K)| + |(delta.y : K)|

/-- The integer normal `n`, scaled by `s`, is within `ex` and `ey` of the two components of the
reference normal `N` (`NormalWithin` is scale 1 and one bound for both). -/
def NormalNear (s : K) (n : Pt) (N : K × K) (ex ey : K) : Prop :=
  |s * (n.x : K) - N.1| ≤ ex ∧ |s * (n.y : K) - N.2| ≤ ey

/-- What such a normal can move the signed distance of `delta` by. -/
def budget (ex ey : K) (delta : Pt) : K := ex * |(delta.x : K)| + ey * |(delta.y : K)|

omit [IsStrictOrderedRing K] in
theorem NormalNear.of_within {n : Pt} {N : K × K} {eps : K} (h : NormalWithin n N eps) :
    NormalNear 1 n N eps eps := by
  unfold NormalNear
  rw [one_mul, one_mul]
  exact h

omit [IsStrictOrderedRing K] in
theorem budget_eq_norm1 (eps : K) (delta : Pt) : budget eps eps delta = eps * norm1 delta :=
  (mul_add _ _ _).symm

/-- Error propagation for `OriginLinearEquation::distance`: `|s (delta · n) − delta · N| ≤ ex |dx| +
ey |dy|` when `s n` is within `(ex, ey)` of `N` componentwise. -/
theorem distance_error (s : K) (n : Pt) (N : K × K) (ex ey : K) (h : NormalNear s n N ex ey) (delta : Pt) :
    |s * ((PlaneSector.distance n delta : Int) : K) - exactDist N delta| ≤ budget ex ey delta := by
  unfold PlaneSector.distance dotProduct exactDist budget
  push_cast
  rw [mul_add, ← mul_assoc, ← mul_assoc, mul_comm s, mul_comm s, mul_assoc, mul_assoc,
    add_sub_add_comm, ← mul_sub, ← mul_sub, mul_comm ex, mul_comm ey]
  exact (abs_add_le _ _).trans
    (add_le_add (abs_mul_le_of_abs_le _ _ ex h.1) (abs_mul_le_of_abs_le _ _ ey h.2))

/-- Beyond a margin `m` that covers the budget, the sign of the code's distance is the sign of the
reference distance (the scale is positive). -/
theorem checkSide_of_margin {s : K} (hs : 0 < s) {n : Pt} {N : K × K} {ex ey : K}
    (h : NormalNear s n N ex ey) (delta : Pt) {m : K} (hm : budget ex ey delta ≤ m) :
    (m ≤ exactDist N delta → PlaneSector.checkRight n delta = true) ∧
    (exactDist N delta < -m → PlaneSector.checkRight n delta = false) ∧
    (exactDist N delta ≤ -m → PlaneSector.checkLeft n delta = true) ∧
    (m < exactDist N delta → PlaneSector.checkLeft n delta = false) := by
  obtain ⟨h1, h2⟩ := abs_le.mp ((distance_error s n N ex ey h delta).trans hm)
  unfold PlaneSector.checkRight PlaneSector.checkLeft
  generalize PlaneSector.distance n delta = d at h1 h2
  refine ⟨fun hE => ?_, fun hE => ?_, fun hE => ?_, fun hE => ?_⟩
  · have : 0 ≤ s * (d : K) := by linarith
    exact decide_eq_true (by exact_mod_cast (mul_nonneg_iff_of_pos_left hs).mp this)
  · have : s * (d : K) < 0 := by linarith
    exact decide_eq_false (Int.not_le.mpr (Int.cast_lt_zero.mp (neg_of_mul_neg_right this hs.le)))
  · have : s * (d : K) ≤ 0 := by linarith
    exact decide_eq_true (Int.cast_nonpos.mp (nonpos_of_mul_nonpos_right this hs))
  · have : 0 < s * (d : K) := by linarith
    exact decide_eq_false (Int.not_le.mpr (Int.cast_pos.mp ((mul_pos_iff_of_pos_left hs).mp this)))

end Generic

/-- Cone decomposition: for correctly oriented (`cross(right, left) > 0`, i.e. the end ray is less
than 180 degrees clockwise-on-screen after the start ray), equally directed normals, a point in
both half planes is on the bisector's side. -/
theorem bisector_nonneg (px py lx ly rx ry : Int) (hc : rx * ly - ry * lx > 0)
    (hd : lx * rx + ly * ry > 0) (h1 : px * lx + py * ly ≤ 0) (h2 : px * rx + py * ry ≥ 0) :
    px * (ly + ry) + py * (-(lx + rx)) ≥ 0 := by
  -- `cross(r, l)` times the claim is a combination of the two hypotheses with nonnegative weights
  have id : (rx * ly - ry * lx) * (px * (ly + ry) + py * (-(lx + rx))) =
      (-(px * lx + py * ly)) * ((rx * rx + ry * ry) + (lx * rx + ly * ry)) +
      (px * rx + py * ry) * ((lx * lx + ly * ly) + (lx * rx + ly * ry)) := by ring
  have w : ∀ x y : Int, 0 ≤ (x * x + y * y) + (lx * rx + ly * ry) := fun x y =>
    Int.add_nonneg (Int.add_nonneg (mul_self_nonneg x) (mul_self_nonneg y)) (Int.le_of_lt hd)
  refine Int.le_of_mul_le_mul_left (a := rx * ly - ry * lx) ?_ hc
  rw [Int.mul_zero, id]
  exact Int.add_nonneg (Int.mul_nonneg (Int.neg_nonneg_of_nonpos h1) (w rx ry)) (Int.mul_nonneg h2 (w lx ly))

namespace PlaneSector

/-- `cross(right, left)`: positive iff the left (end) ray is less than half a turn after the right
(start) ray in the direction of the sweep. -/
def cross (ps : PlaneSector) : Int := ps.right.x * ps.left.y - ps.right.y * ps.left.x

/-- `PlaneSector::contains` without its bisector test: just the two half-plane tests. -/
def containsPlain (ps : PlaneSector) (p : Pt) : Bool :=
  ps.op.execute (checkLeft ps.left p) (checkRight ps.right p)

theorem behindBisector_iff (ps : PlaneSector) (p : Pt) :
    ps.behindBisector p = true ↔ ps.op = .intersection ∧ 0 < dotProduct ps.left ps.right ∧
      dotProduct p ⟨ps.left.y + ps.right.y, -(ps.left.x + ps.right.x)⟩ < 0 := by
  unfold behindBisector
  split
  · rename_i hop
    split
    · rename_i hd
      rw [decide_eq_true_iff]
      exact ⟨fun h => ⟨hop, hd, h⟩, fun ⟨_, _, h⟩ => h⟩
    · rename_i hd
      exact ⟨fun h => (nomatch h), fun ⟨_, hd', _⟩ => absurd hd' hd⟩
  · rename_i hop
    exact ⟨fun h => (nomatch h), fun ⟨hop', _⟩ => absurd hop' hop⟩

theorem contains_eq (ps : PlaneSector) (p : Pt) :
    ps.contains p = (!ps.behindBisector p && ps.containsPlain p) := by
  unfold contains containsPlain
  cases ps.behindBisector p <;> rfl

theorem contains_iff (ps : PlaneSector) (p : Pt) :
    ps.contains p = true ↔ ps.behindBisector p = false ∧ ps.containsPlain p = true := by
  rw [contains_eq, Bool.and_eq_true, Bool.not_eq_true']

theorem contains_eq_plain_of_not_behind (ps : PlaneSector) (p : Pt) (h : ps.behindBisector p = false) :
    ps.contains p = ps.containsPlain p := by
  rw [contains_eq, h, Bool.not_false, Bool.true_and]

theorem contains_false_of_plain_false (ps : PlaneSector) (p : Pt) (h : ps.containsPlain p = false) :
    ps.contains p = false := by
  rw [contains_eq, h, Bool.and_false]

/-- For correctly oriented (hence non-parallel) normals the bisector test is implied by the two
half-plane tests. -/
theorem contains_eq_plain_of_cross_pos (ps : PlaneSector) (hc : 0 < ps.cross) (p : Pt) :
    ps.contains p = ps.containsPlain p := by
  cases hb : ps.behindBisector p with
  | false => exact contains_eq_plain_of_not_behind ps p hb
  | true =>
    -- behind the bisector one of the half-plane tests fails
    obtain ⟨hop, hd, hneg⟩ := (behindBisector_iff ps p).mp hb
    unfold contains containsPlain
    rw [hb, hop]
    cases h1 : checkLeft ps.left p <;> cases h2 : checkRight ps.right p <;> try rfl
    -- both pass: then `p` is on the bisector's side after all
    rw [checkLeft, decide_eq_true_iff] at h1
    rw [checkRight, decide_eq_true_iff] at h2
    exact absurd hneg (Int.not_lt.mpr
      (bisector_nonneg p.x p.y ps.left.x ps.left.y ps.right.x ps.right.y hc hd h1 h2))

/-- Operations other than `Intersection`, and intersections of half planes whose normals do not
point the same way (sweeps of 90 degrees and more), never use the bisector test. -/
theorem contains_eq_plain_of_dot_nonpos (ps : PlaneSector)
    (h : ps.op ≠ .intersection ∨ dotProduct ps.left ps.right ≤ 0) (p : Pt) :
    ps.contains p = ps.containsPlain p := by
  apply contains_eq_plain_of_not_behind
  rw [← Bool.not_eq_true, behindBisector_iff]
  rintro ⟨hop, hd, -⟩
  rcases h with h | h
  · exact h hop
  · exact Int.not_lt.mpr h hd

/-- Parallel, equally directed normals (sweep 0, or too small to be resolved): `contains` accepts
exactly the points on the common boundary line that lie on the forward side — the ray, not the whole
line through the centre (which is what `containsPlain` accepts). -/
theorem contains_parallel_iff (ps : PlaneSector) (hop : ps.op = .intersection)
    (hpar : ps.left = ps.right) (hnz : ps.left ≠ ⟨0, 0⟩) (p : Pt) :
    ps.contains p = true ↔
      dotProduct p ps.left = 0 ∧ 0 ≤ dotProduct p ⟨ps.left.y, -ps.left.x⟩ := by
  have hd : 0 < dotProduct ps.left ps.left := by
    have hx := mul_self_nonneg ps.left.x
    have hy := mul_self_nonneg ps.left.y
    refine lt_of_le_of_ne (Int.add_nonneg hx hy) fun h0 => hnz ?_
    obtain ⟨h0x, h0y⟩ := (add_eq_zero_iff_of_nonneg hx hy).mp h0.symm
    exact Pt.ext_iff'.mpr ⟨mul_self_eq_zero.mp h0x, mul_self_eq_zero.mp h0y⟩
  have e : dotProduct p ⟨ps.left.y + ps.left.y, -(ps.left.x + ps.left.x)⟩ =
      2 * dotProduct p ⟨ps.left.y, -ps.left.x⟩ := by unfold dotProduct; simp only; ring
  rw [contains_iff, ← Bool.not_eq_true, behindBisector_iff, containsPlain, hop, ← hpar, e]
  show _ ∧ (decide (dotProduct p ps.left ≤ 0) && decide (dotProduct p ps.left ≥ 0)) = true ↔ _
  rw [Bool.and_eq_true, decide_eq_true_iff, decide_eq_true_iff]
  constructor
  · rintro ⟨hb, h1, h2⟩
    have : ¬ 2 * dotProduct p ⟨ps.left.y, -ps.left.x⟩ < 0 := fun h => hb ⟨rfl, hd, h⟩
    exact ⟨Int.le_antisymm h1 h2, by omega⟩
  · rintro ⟨h0, hf⟩
    exact ⟨fun h => by omega, Int.le_of_eq h0, Int.le_of_eq h0.symm⟩
end PlaneSector

/-- The angular claim at one pixel with tolerance `m`: `dl`, `dr` are the pixel's signed distances
from the left and from the right boundary line (positive on the right side of a line), `b` is the
verdict. Inside both lines by `m` (`Union`: inside one of them) means accepted, outside one of them
by more than `m` (`Union`: outside both) means rejected. -/
def MarginClaim {K : Type} [LE K] [LT K] [Neg K] (op : PlaneOp) (b : Bool) (dl dr m : K) : Prop :=
  (op = .intersection → (dl ≤ -m ∧ m ≤ dr → b = true) ∧ (m < dl ∨ dr < -m → b = false)) ∧
  (op = .union → (dl ≤ -m ∨ m ≤ dr → b = true) ∧ (m < dl ∧ dr < -m → b = false))

/-- From `containsPlain` to `contains`: the bisector test can only matter in the acceptance half of
an intersection, and not where the normals are correctly oriented. -/
theorem MarginClaim.contains {K : Type} [LE K] [LT K] [Neg K] (ps : PlaneSector) (delta : Pt) {dl dr m : K}
    (h : MarginClaim ps.op (ps.containsPlain delta) dl dr m)
    (horient : ps.op = .intersection → dl ≤ -m → m ≤ dr →
      0 < ps.cross ∨ dotProduct ps.left ps.right ≤ 0) :
    MarginClaim ps.op (ps.contains delta) dl dr m := by
  refine ⟨fun hi => ⟨fun hacc => ?_, fun hrej => ps.contains_false_of_plain_false delta ((h.1 hi).2 hrej)⟩,
    fun hu => ⟨fun hacc => ?_, fun hrej => ps.contains_false_of_plain_false delta ((h.2 hu).2 hrej)⟩⟩
  · rw [← (h.1 hi).1 hacc]
    rcases horient hi hacc.1 hacc.2 with ho | ho
    · exact PlaneSector.contains_eq_plain_of_cross_pos ps ho delta
    · exact PlaneSector.contains_eq_plain_of_dot_nonpos ps (Or.inr ho) delta
  · rw [← (h.2 hu).1 hacc]
    exact PlaneSector.contains_eq_plain_of_dot_nonpos ps (Or.inl (by rw [hu]; decide)) delta

/-- `(u + v)² ≤ 2 (u² + v²)`. -/
theorem add_lt_of_sq_add_sq_lt {u v n : Int} (hu : 0 ≤ u) (hv : 0 ≤ v) (hn : 0 ≤ n)
    (h : 2 * (u * u + v * v) < n * n) : u + v < n := by
  have e : (u + v) * (u + v) + (u - v) * (u - v) = 2 * (u * u + v * v) := by ring
  have := mul_self_nonneg (u - v)
  by_contra hc
  have := Int.mul_le_mul (Int.not_lt.mp hc) (Int.not_lt.mp hc) hn (Int.add_nonneg hu hv)
  omega

section Margin
variable {K : Type} [CommRing K] [LinearOrder K] [IsStrictOrderedRing K]

/-- `|dx| + |dy| ≤ 181` for every pixel of a circle of diameter up to 128 (doubled coordinates):
`2 · 128² < 182²`. -/
theorem norm1_le_181 (delta : Pt) (h : delta.x * delta.x + delta.y * delta.y < 128 * 128) :
    norm1 (K := K) delta ≤ 181 := by
  have sq : ∀ a : Int, |a| * |a| = a * a := fun a => by
    rw [Int.abs_eq_natAbs, Int.natAbs_mul_self']
  have hi : |delta.x| + |delta.y| ≤ 181 :=
    Int.le_of_lt_add_one
      (add_lt_of_sq_add_sq_lt (abs_nonneg _) (abs_nonneg _) (by decide) (by rw [sq, sq]; omega))
  unfold norm1
  exact_mod_cast hi

/-- With the two normals near the reference normals `Nl`, `Nr` and `m` covering both budgets, the
plain half-plane test is right beyond `m` from the two reference LINES. -/
theorem containsPlain_margin (ps : PlaneSector) {s : K} (hs : 0 < s) {Nl Nr : K × K}
    {exl eyl exr eyr m : K} (hl : NormalNear s ps.left Nl exl eyl) (hr : NormalNear s ps.right Nr exr eyr)
    (delta : Pt) (hml : budget exl eyl delta ≤ m) (hmr : budget exr eyr delta ≤ m) :
    MarginClaim ps.op (ps.containsPlain delta) (exactDist Nl delta) (exactDist Nr delta) m := by
  obtain ⟨-, -, L1, L0⟩ := checkSide_of_margin hs hl delta hml
  obtain ⟨R1, R0, -, -⟩ := checkSide_of_margin hs hr delta hmr
  unfold PlaneSector.containsPlain
  refine ⟨fun hop => ⟨?_, ?_⟩, fun hop => ⟨?_, ?_⟩⟩ <;> rw [hop] <;> unfold PlaneOp.execute
  · rintro ⟨h1, h2⟩
    rw [L1 h1, R1 h2]; rfl
  · rintro (h | h)
    · rw [L0 h]; rfl
    · rw [R0 h]; exact Bool.and_false _
  · rintro (h | h)
    · rw [L1 h]; rfl
    · rw [R1 h]; exact Bool.or_true _
  · rintro ⟨h1, h2⟩
    rw [L0 h1, R0 h2]; rfl

/-- The margin for the property's numbers: normals accurate to `eps ≤ 16` (of 1024) and a circle of
diameter up to 128 give a budget of at most `16 · 181 < 3 · 1024`, i.e. below 3 half-pixel
units = 1.5 px. -/
theorem budget_le_3072 {eps : K} (he : eps ≤ 16) (delta : Pt)
    (hd : delta.x * delta.x + delta.y * delta.y < 128 * 128) : budget eps eps delta ≤ 3072 := by
  rw [budget_eq_norm1]
  exact (mul_le_mul he (norm1_le_181 delta hd) (add_nonneg (abs_nonneg _) (abs_nonneg _)) (by norm_num)).trans
    (by norm_num)

end Margin

theorem sector_contains_translate (s : Sector) (t p : Pt) :
    (s.translate t).contains (p + t) = s.contains p := Sector.contains_translate s t p

/-- The guards: `Rect.points` of a saturating bounding box is clipped. -/
theorem sector_points_translate (s : Sector) (t : Pt) (h1 : s.toCircle.InRange)
    (h2 : (s.translate t).toCircle.InRange) : (s.translate t).points = s.points.map (· + t) := by
  rw [Sector.points_eq_filter, Sector.points_eq_filter]
  exact Rect.filter_points_translate h1 h2 (Sector.contains_translate s t)
end EG
