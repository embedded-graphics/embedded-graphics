/-
  EG.Lemmas.RoundedRectEllipse — even sides, every radius half a side: the rounded rectangle is the
  ellipse of the same box, as a set of points and as `points()`. All four corner quadrants then carry
  the same `EllipseContains` and the same doubled centre as `Ellipse::contains` of the bounding box,
  and every point of the box lies in a corner box.
-/
import EG.Lemmas.RoundedRectShape
import EG.Lemmas.EllipsePoints
namespace EG
namespace RoundedRect

/-- The rounded rectangle with sides `2a x 2b` and every corner radius `(a, b)`. -/
def halfRadii (tl : Pt) (a b : Nat) : RoundedRect := ⟨⟨tl, ⟨a * 2, b * 2⟩⟩, CornerRadii.new ⟨a, b⟩⟩

theorem half_fits (tl : Pt) (a b : Nat) :
    (halfRadii tl a b).corners.Fits (halfRadii tl a b).rect.size := by
  unfold CornerRadii.Fits halfRadii CornerRadii.new
  dsimp only
  omega

/-- A quadrant of radius `(a, b)` whose inner corner is the centre `tl + (a, b)` of the box `2a x 2b`
at `tl` carries the test of the ellipse of that box. -/
theorem quadrant_eq_ellipse {tl tl' : Pt} {a b : Nat} (k : Quadrant) (ha : 1 ≤ a) (hb : 1 ≤ b)
    (hx : (EllipseQuadrant.innerCorner tl' ⟨a, b⟩ k).x = tl.x + a)
    (hy : (EllipseQuadrant.innerCorner tl' ⟨a, b⟩ k).y = tl.y + b) (p : Pt) :
    (EllipseQuadrant.new tl' ⟨a, b⟩ k).contains p = (⟨tl, ⟨a * 2, b * 2⟩⟩ : Ellipse).contains p := by
  have e : (⟨tl, ⟨a * 2, b * 2⟩⟩ : Ellipse).center2x = ⟨2 * (tl.x + a) - 1, 2 * (tl.y + b) - 1⟩ := by
    rw [Pt.ext_iff', Ellipse.center2x_x, Ellipse.center2x_y]
    dsimp only
    omega
  unfold EllipseQuadrant.contains Ellipse.contains
  rw [EllipseQuadrant.new_center2x _ _ _ ha hb, hx, hy, e]
  rfl

/-- The four corner boxes cover the bounding box and every quadrant is a quadrant of the one
ellipse. -/
theorem half_radii_contains_box (tl : Pt) (a b : Nat) (h : (halfRadii tl a b).InRange) (p : Pt)
    (hb : (halfRadii tl a b).boundingBox.contains p = true) :
    (halfRadii tl a b).contains p = (⟨tl, ⟨a * 2, b * 2⟩⟩ : Ellipse).contains p := by
  unfold boundingBox at hb
  rw [Bool.eq_iff_iff, contains_iff_of_fits _ h (half_fits tl a b)]
  have hb' := Rect.contains_iff.mp hb
  unfold Glue.CornerConds
  unfold halfRadii CornerRadii.new at hb' ⊢
  dsimp only at hb' ⊢
  have ha : 1 ≤ a := by omega
  have hb1 : 1 ≤ b := by omega
  -- the inner corners of all four corner boxes are the centre `tl + (a, b)` of the box
  rw [quadrant_eq_ellipse (tl := tl) (tl' := tl) .topLeft ha hb1 rfl rfl,
    quadrant_eq_ellipse (tl := tl) (tl' := ⟨tl.x, tl.y + ↑(b * 2) - ↑b⟩) .bottomLeft ha hb1 rfl
      (by dsimp only [EllipseQuadrant.innerCorner]; omega),
    quadrant_eq_ellipse (tl := tl) (tl' := ⟨tl.x + ↑(a * 2) - ↑a, tl.y⟩) .topRight ha hb1
      (by dsimp only [EllipseQuadrant.innerCorner]; omega) rfl,
    quadrant_eq_ellipse (tl := tl) (tl' := ⟨tl.x + ↑(a * 2) - ↑a, tl.y + ↑(b * 2) - ↑b⟩)
      .bottomRight ha hb1 (by dsimp only [EllipseQuadrant.innerCorner]; omega)
      (by dsimp only [EllipseQuadrant.innerCorner]; omega)]
  constructor
  · rintro ⟨_, c1, c2, c3, c4⟩
    by_cases hx : p.x < tl.x + a <;> by_cases hy : p.y < tl.y + b
    · exact c1 hy hx
    · exact c2 (by omega) hx
    · exact c3 hy (by omega)
    · exact c4 (by omega) (by omega)
  · intro he
    exact ⟨hb, fun _ _ => he, fun _ _ => he, fun _ _ => he, fun _ _ => he⟩

/-- Outside the box both are false. -/
theorem half_radii_contains (tl : Pt) (a b : Nat) (h : (halfRadii tl a b).InRange) (p : Pt) :
    (halfRadii tl a b).contains p = (⟨tl, ⟨a * 2, b * 2⟩⟩ : Ellipse).contains p := by
  rw [Bool.eq_iff_iff]
  constructor
  · intro hc
    rw [← half_radii_contains_box tl a b h p (contains_imp_bbox _ h hc)]
    exact hc
  · intro hc
    rw [half_radii_contains_box tl a b h p (Ellipse.contains_imp_bbox hc)]
    exact hc

theorem half_radii_points (tl : Pt) (a b : Nat) (h : (halfRadii tl a b).InRange) :
    (halfRadii tl a b).points = (⟨tl, ⟨a * 2, b * 2⟩⟩ : Ellipse).points := by
  rw [points_eq_filter _ h, Ellipse.points_eq_filter (e := ⟨tl, ⟨a * 2, b * 2⟩⟩) h,
    funext (half_radii_contains tl a b h)]
  rfl

end RoundedRect
end EG
