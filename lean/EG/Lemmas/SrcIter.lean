/-
  EG.Lemmas.SrcIter — a translated iterator against the model iterator it transcribes, on top of EG/Lemmas/Stream.lean.

  A translated `next` returns the pair (item?, state after), on fuel when its body loops (`none` = out of fuel); the model's
  `next` returns `Option (item × state)` or such a pair. The tie of an iterator is ONE fact about one step: through the
  view `g` of the translated state, a translated step shows what the model's step shows (`stepView`). From it the lists
  that `for` loops collect from the two iterators agree for every step budget (`Drains.view`, and `Drains.comap` of
  Stream.lean where the items are viewed too). The collecting functions enter through `Drains` only: the prelude's
  generic collectors have one instance each, a hand-written `srcCollect` has its own.
-/
import EG.Lemmas.Stream
namespace EG
namespace SrcIter

/-- What one translated `next` (item?, state after) shows its caller, the state read through `g`. -/
def stepView {α σ τ : Type} (g : σ → τ) (r : Option α × σ) : Option (α × τ) := r.1.map (fun a => (a, g r.2))

/-- A translated `next` on fuel, as a `for` loop sees it: it stops where the fuel ran out. -/
def ofFuelled {σ α : Type} (next : σ → Option (Option α × σ)) (s : σ) : Option (α × σ) :=
  (next s).bind (stepView id)

/-- the one-step fact of a translated `next` on fuel -/
theorem ofFuelled_view {σ τ α : Type} {next : σ → Option (Option α × σ)} {g : σ → τ} {s : σ}
    {m : Option (α × τ)} (h : (next s).map (stepView g) = some m) :
    (ofFuelled next s).map (fun p => (p.1, g p.2)) = m := by
  unfold ofFuelled
  cases hn : next s with
  | none => rw [hn] at h; cases h
  | some r =>
    rw [hn] at h
    obtain ⟨_ | a, s'⟩ := r <;> exact Option.some.inj h

/-- the one-step fact of a pair-shaped translated `next` against an `Option`-shaped model `next` -/
theorem ofPair_view {σ τ α : Type} {next : σ → Option α × σ} {mn : τ → Option (α × τ)} {g : σ → τ} {s : σ}
    (h : stepView g (next s) = mn (g s)) : (ofPair next s).map (fun p => (p.1, g p.2)) = mn (g s) := by
  rw [← h]
  unfold ofPair stepView
  cases (next s).1 <;> rfl

/-- the one-step fact of a pair-shaped translated `next` against a pair-shaped model `next`, items viewed by `f` -/
theorem ofPair_comap {σ σ' α α' : Type} {next : σ → Option α × σ} {next' : σ' → Option α' × σ'} {g : σ' → σ}
    {f : α' → α} {s : σ'} (h : ((next' s).1.map f, g (next' s).2) = next (g s)) :
    ofPair next (g s) = (ofPair next' s).map fun p => (f p.1, g p.2) := by
  unfold ofPair
  rw [← h]
  cases (next' s).1 <;> rfl

end SrcIter

/-- **The translated iterator collects what the model iterator collects**: two drains whose steps agree through the
state view `g` (`Drains.comap` with the items as they are). -/
theorem Drains.view {σ σ' α : Type} {next : σ → Option (α × σ)} {run : Nat → σ → List α}
    {next' : σ' → Option (α × σ')} {run' : Nat → σ' → List α} (hr' : Drains next' run')
    (hr : Drains next run) (g : σ' → σ)
    (hstep : ∀ s', (next' s').map (fun p => (p.1, g p.2)) = next (g s')) :
    ∀ (fuel : Nat) (s' : σ'), run' fuel s' = run fuel (g s') :=
  fun fuel s' => ((hr.comap hr' g id (fun s' => (hstep s').symm) fuel s').trans (List.map_id _)).symm

end EG
