/-
  EG.Lemmas.FaultTarget — facts about the error-aware target model (EG/Model/FaultTarget.lean):
  each adapter method is ONE parent method applied to the lowered call (`FTarget.wrap_call`), a
  stack is one root call (`FTarget.stack_call`), the recording roots are `enter()?; log.push`
  (`FTarget.root_call`), and what a `?`-run over such a target leaves in the root's record
  (`FTarget.runCalls_record_fail`, `FTarget.runCalls_record_ok`).
-/
import EG.Model.FaultTarget
namespace EG
namespace FTarget
open Adapter

theorem wrap_bbox (P : FTarget) (a : Adapter) : (P.wrap a).bbox = a.bbox P.bbox := by
  cases a <;> rfl

/-- **One adapter call = one parent call, result returned unchanged.** Whatever the parent is
(failing or not), a method of the adapter is the parent's method applied to the lowered call: the
same function of the root's record, so the same `Result` and the same record afterwards. -/
theorem wrap_call (P : FTarget) (a : Adapter) (c : Call) :
    (P.wrap a).call c = P.call (a.lower P.bbox c) := by
  cases a with
  | clipped r =>
    cases c with
    | drawIter px => rfl
    | fillContiguous area cs =>
      show (if (r.intersection P.bbox).intersection area = area then P.fillContiguous area cs
        else P.fillContiguous ((r.intersection P.bbox).intersection area)
          (croppedList cs area.size (((r.intersection P.bbox).intersection area).translate (-area.tl)))) = _
      simp only [Adapter.lower, Adapter.lowerClipped]
      split <;> rfl
    | fillSolid area col => rfl
    | clear col => rfl
  | cropped r => cases c <;> rfl
  | translated d => cases c <;> rfl
  | converted f => cases c <;> rfl

theorem stack_bbox (P : FTarget) (s : Stack) : (P.stack s).bbox = stackBox P.bbox s := by
  induction s generalizing P with
  | nil => rfl
  | cons a rest ih => simp only [stack, stackBox, ih, wrap_bbox]

theorem stack_call (P : FTarget) (s : Stack) (c : Call) :
    (P.stack s).call c = P.call (lowerStack P.bbox s c) := by
  induction s generalizing P with
  | nil => rfl
  | cons a rest ih => simp only [stack, lowerStack, ih, wrap_call, wrap_bbox]

/-- Both recording roots: every method is `enter()?` followed by logging one call — on `R1` the
three trait defaults reach `draw_iter` by tail calls, one `enter` per call issued. -/
theorem root_call (native : Bool) (B : Rect) (c : Call) :
    (root native B).call c = RootState.record (rootLogged native B c) := by
  cases native <;> cases c <;> rfl

theorem root_bbox (native : Bool) (B : Rect) : (root native B).bbox = B := by
  cases native <;> rfl

theorem root_stack_call (native : Bool) (B : Rect) (s : Stack) (c : Call) :
    ((root native B).stack s).call c
      = RootState.record ((rootLogged native B ∘ lowerStack B s) c) := by
  rw [stack_call, root_bbox, root_call]; rfl

theorem enter_ok (st : RootState) (he : st.errored = false) (hf : st.failAt ≠ some st.calls) :
    st.enter = (.ok (), { st with calls := st.calls + 1 }) := by
  simp [RootState.enter, he, hf]

theorem enter_err (st : RootState) (he : st.errored = false) (hf : st.failAt = some st.calls) :
    st.enter = (.error st.calls, { st with calls := st.calls + 1, errored := true }) := by
  simp [RootState.enter, he, hf]

theorem record_ok (call : Call) (st : RootState) (he : st.errored = false)
    (hf : st.failAt ≠ some st.calls) :
    RootState.record call st =
      (.ok (), { st with calls := st.calls + 1, log := st.log ++ [call] }) := by
  simp only [RootState.record, enter_ok st he hf]

theorem record_err (call : Call) (st : RootState) (he : st.errored = false)
    (hf : st.failAt = some st.calls) :
    RootState.record call st =
      (.error st.calls, { st with calls := st.calls + 1, errored := true }) := by
  simp only [RootState.record, enter_err st he hf]

theorem record_calls (call : Call) (st : RootState) :
    (RootState.record call st).2.calls = st.calls + 1 := by
  unfold RootState.record RootState.enter
  by_cases he : st.errored = true <;> by_cases hf : st.failAt = some st.calls <;> simp [he, hf]

theorem runCalls_record_ok (T : FTarget) (g : Call → Call)
    (hT : ∀ c, T.call c = RootState.record (g c)) (cs : List Call) (st : RootState)
    (he : st.errored = false)
    (hno : ∀ k, st.failAt = some k → k < st.calls ∨ st.calls + cs.length ≤ k) :
    T.runCalls cs st =
      (.ok (), { st with calls := st.calls + cs.length, log := st.log ++ cs.map g }) := by
  induction cs generalizing st with
  | nil => simp [runCalls]
  | cons c cs ih =>
    simp only [List.length_cons] at hno
    have hf : st.failAt ≠ some st.calls := fun h => by have := hno _ h; omega
    rw [runCalls, hT, record_ok (g c) st he hf]
    simp only
    rw [ih { st with calls := st.calls + 1, log := st.log ++ [g c] } he
      (fun k hk => by have := hno k hk; simp only; omega)]
    simp [Nat.add_assoc, Nat.add_comm 1]

/-- Fault position `k` inside the run (the run starts at call number `st.calls ≤ k`): the run
returns `Err(k)` at once; `k + 1` calls were counted, none after the error; the log holds the
calls before the failing one. -/
theorem runCalls_record_fail (T : FTarget) (g : Call → Call)
    (hT : ∀ c, T.call c = RootState.record (g c)) (k : Nat) (cs : List Call) (st : RootState)
    (he : st.errored = false) (hf : st.failAt = some k)
    (hik : st.calls ≤ k) (hk : k < st.calls + cs.length) :
    T.runCalls cs st =
      (.error k, { st with calls := k + 1, errored := true,
                           log := st.log ++ (cs.map g).take (k - st.calls) }) := by
  induction cs generalizing st with
  | nil => simp only [List.length_nil] at hk; omega
  | cons c cs ih =>
    simp only [List.length_cons] at hk
    by_cases hkc : k = st.calls
    · subst hkc
      simp [runCalls, hT, record_err (g c) st he hf]
    · have hf' : st.failAt ≠ some st.calls := fun h => hkc (Option.some.inj (hf.symm.trans h))
      rw [runCalls, hT, record_ok (g c) st he hf']
      simp only
      rw [ih { st with calls := st.calls + 1, log := st.log ++ [g c] } he hf (by simp only; omega)
        (by simp only; omega)]
      simp [show k - st.calls = (k - (st.calls + 1)) + 1 by omega, List.take_succ_cons]

/-- A caller that DROPS errors: every call reaches the target, whatever fails. -/
theorem runCallsIgnoring_calls (T : FTarget) (g : Call → Call)
    (hT : ∀ c, T.call c = RootState.record (g c)) (cs : List Call) (st : RootState) :
    (T.runCallsIgnoring cs st).2.calls = st.calls + cs.length := by
  induction cs generalizing st with
  | nil => rfl
  | cons c cs ih =>
    simp only [runCallsIgnoring, ih, hT, record_calls, List.length_cons]
    omega

end FTarget
end EG
