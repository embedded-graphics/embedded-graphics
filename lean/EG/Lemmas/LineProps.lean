/-
  EG.Lemmas.LineProps — geometric facts about `Line::points()` derived from the closed form
  (`points_eq`) and the error invariant (`err_bounds`).
-/
import EG.Lemmas.LinePoints
namespace EG
namespace Line

theorem ptAt_of_yMajor {l : Line} (h : yMajor l) (k : Nat) :
    ptAt l k = ⟨l.start.x + mAt (aabs (dyOf l)) (aabs (dxOf l)) k * sgn (dxOf l),
                l.start.y + (k : Int) * sgn (dyOf l)⟩ := by
  rw [ptAt_eq]
  unfold pmaj pmin dmaj dmin
  simp only [h, ↓reduceIte, Int.mul_zero, Int.add_zero]

theorem ptAt_of_xMajor {l : Line} (h : ¬ yMajor l) (k : Nat) :
    ptAt l k = ⟨l.start.x + (k : Int) * sgn (dxOf l),
                l.start.y + mAt (aabs (dxOf l)) (aabs (dyOf l)) k * sgn (dyOf l)⟩ := by
  rw [ptAt_eq]
  unfold pmaj pmin dmaj dmin
  simp only [h, ↓reduceIte, Int.mul_zero, Int.add_zero]

theorem ptAt_zero (l : Line) : ptAt l 0 = l.start := by
  rw [ptAt_eq]
  rw [mAt_zero (dmaj_nonneg l)]
  simp

theorem aabs_nonneg (a : Int) : 0 ≤ aabs a := by unfold aabs; omega
theorem aabs_eq_zero_iff (a : Int) : aabs a = 0 ↔ a = 0 := by unfold aabs; omega

theorem dmaj_zero_iff (l : Line) : dmaj l = 0 ↔ l.start = l.stop := by
  have hx := aabs_eq_zero_iff (dxOf l)
  have hy := aabs_eq_zero_iff (dyOf l)
  have nx := aabs_nonneg (dxOf l)
  have ny := aabs_nonneg (dyOf l)
  rw [dmaj_eq_max, Pt.ext_iff']
  unfold dxOf dyOf at *
  omega

theorem add_sub_self' (a b : Int) : a + b - a = b := by omega

theorem sgn_cases (a : Int) :
    (0 ≤ a ∧ sgn a = 1 ∧ aabs a = a) ∨ (a < 0 ∧ sgn a = -1 ∧ aabs a = -a) := by
  unfold sgn aabs
  split <;> split <;> omega

theorem aabs_eq_natAbs (a : Int) : aabs a = a.natAbs := by unfold aabs; omega

theorem sgn_natAbs (a : Int) : (sgn a).natAbs = 1 := by unfold sgn; split <;> rfl

theorem aabs_mul_sgn (a : Int) : aabs a * sgn a = a := by
  rcases sgn_cases a with ⟨_, h1, h2⟩ | ⟨_, h1, h2⟩ <;> rw [h1, h2] <;> omega

theorem delta_eq (l : Line) : dmaj l * (pmaj l).x + dmin l * (pmin l).x = dxOf l ∧
    dmaj l * (pmaj l).y + dmin l * (pmin l).y = dyOf l := by
  have hx := aabs_mul_sgn (dxOf l)
  have hy := aabs_mul_sgn (dyOf l)
  unfold dmaj dmin pmaj pmin
  split <;> simp only [Int.mul_zero, Int.add_zero, Int.zero_add] <;> exact ⟨hx, hy⟩

theorem ptAt_last (l : Line) (k : Nat) (hk : (k : Int) = dmaj l) : ptAt l k = l.stop := by
  by_cases hz : dmaj l = 0
  · have hk0 : k = 0 := by omega
    rw [hk0, ptAt_zero]
    exact (dmaj_zero_iff l).mp hz
  · have hpos : 0 < dmaj l := by have := dmaj_nonneg l; omega
    obtain ⟨hx, hy⟩ := delta_eq l
    rw [ptAt_eq]
    rw [mAt_end (dmin_nonneg l) (dmin_le_dmaj l) hpos k hk, hk, Pt.ext_iff']
    unfold dxOf at hx
    unfold dyOf at hy
    dsimp only
    exact ⟨by omega, by omega⟩

theorem ptAt_succ (l : Line) (k : Nat) :
    ptAt l (k + 1) = ptAt l k + pmaj l ∨ ptAt l (k + 1) = ptAt l k + pmaj l + pmin l := by
  rw [ptAt_eq, ptAt_eq]
  rcases mAt_succ (dmaj l) (dmin l) k with e | e <;> rw [e]
  · left
    simp only [Pt.ext_iff', Pt.add_x, Pt.add_y, succ_mul']
    exact ⟨by omega, by omega⟩
  · right
    simp only [Pt.ext_iff', Pt.add_x, Pt.add_y, succ_mul', Int.add_mul, Int.one_mul]
    exact ⟨by omega, by omega⟩

/-- One step of the walk: exactly one pixel along the major axis (towards the end point), zero or
one pixel along the minor axis (towards the end point). -/
theorem ptAt_step (l : Line) (k : Nat) :
    (yMajor l →
      (ptAt l (k + 1)).y - (ptAt l k).y = sgn (dyOf l) ∧
      ((ptAt l (k + 1)).x - (ptAt l k).x = 0 ∨ (ptAt l (k + 1)).x - (ptAt l k).x = sgn (dxOf l))) ∧
    (¬ yMajor l →
      (ptAt l (k + 1)).x - (ptAt l k).x = sgn (dxOf l) ∧
      ((ptAt l (k + 1)).y - (ptAt l k).y = 0 ∨ (ptAt l (k + 1)).y - (ptAt l k).y = sgn (dyOf l))) := by
  refine ⟨fun h => ?_, fun h => ?_⟩ <;>
    rcases ptAt_succ l k with e | e <;>
    simp only [e, pmaj, pmin, h, ↓reduceIte, Pt.add_x, Pt.add_y] <;>
    omega

/-- The error bounds of a walk with `|b|` major and `|a|` minor steps, read as a cross product with
the signed deltas `a`, `b`. -/
theorem cross_of_err {a b k m : Int} (h1 : -aabs b < 2 * (aabs a * k - aabs b * m))
    (h2 : 2 * (aabs a * k - aabs b * m) ≤ aabs b) :
    -aabs b ≤ 2 * (a * (k * sgn b) - b * (m * sgn a)) ∧
    2 * (a * (k * sgn b) - b * (m * sgn a)) ≤ aabs b := by
  rcases sgn_cases a with ⟨_, sa, aa⟩ | ⟨_, sa, aa⟩ <;>
    rcases sgn_cases b with ⟨_, sb, ab⟩ | ⟨_, sb, ab⟩ <;>
    simp only [sa, sb, aa, ab, Int.mul_one, Int.mul_neg, Int.neg_mul, Int.neg_neg] at h1 h2 ⊢ <;>
    omega

/-- Every point is within half a pixel of the ideal line, measured along the minor axis:
`|2 (dx (y - y0) - dy (x - x0))| ≤ max(|dx|, |dy|)`. -/
theorem ptAt_cross (l : Line) (k : Nat) (hk : (k : Int) ≤ dmaj l) :
    -dmaj l ≤ 2 * (dxOf l * ((ptAt l k).y - l.start.y) - dyOf l * ((ptAt l k).x - l.start.x)) ∧
    2 * (dxOf l * ((ptAt l k).y - l.start.y) - dyOf l * ((ptAt l k).x - l.start.x)) ≤ dmaj l := by
  by_cases hz : dmaj l = 0
  · have hk0 : k = 0 := by have := dmaj_nonneg l; omega
    subst hk0
    rw [ptAt_zero, hz]
    simp
  · have hpos : 0 < dmaj l := by have := dmaj_nonneg l; omega
    obtain ⟨hb1, hb2⟩ := err_bounds (dmin_nonneg l) (dmin_le_dmaj l) hpos k
    by_cases h : yMajor l
    · rw [ptAt_of_yMajor h]
      simp only [dmaj, dmin, h, ↓reduceIte] at hb1 hb2 ⊢
      rw [add_sub_self', add_sub_self']
      exact cross_of_err hb1 hb2
    · rw [ptAt_of_xMajor h]
      simp only [dmaj, dmin, h, ↓reduceIte] at hb1 hb2 ⊢
      rw [add_sub_self', add_sub_self']
      -- the same with the axes exchanged: the cross product changes sign
      have := cross_of_err hb1 hb2
      omega

theorem walk_between {s e t : Int} (h : 0 ≤ t ∧ t ≤ aabs (e - s)) :
    min s e ≤ s + t * sgn (e - s) ∧ s + t * sgn (e - s) ≤ max s e := by
  unfold aabs at h
  unfold sgn
  split <;> omega

theorem ptAt_in_box (l : Line) (k : Nat) (hk : (k : Int) ≤ dmaj l) :
    min l.start.x l.stop.x ≤ (ptAt l k).x ∧ (ptAt l k).x ≤ max l.start.x l.stop.x ∧
    min l.start.y l.stop.y ≤ (ptAt l k).y ∧ (ptAt l k).y ≤ max l.start.y l.stop.y := by
  have hm : 0 ≤ mAt (dmaj l) (dmin l) k ∧ mAt (dmaj l) (dmin l) k ≤ dmin l :=
    ⟨mAt_nonneg (dmaj_nonneg l) k, mAt_le (dmin_nonneg l) (dmin_le_dmaj l) k hk⟩
  have hk' : 0 ≤ (k : Int) ∧ (k : Int) ≤ dmaj l := ⟨Int.natCast_nonneg k, hk⟩
  by_cases h : yMajor l
  · rw [ptAt_of_yMajor h]
    simp only [dmaj, dmin, h, ↓reduceIte] at hm hk'
    exact ⟨(walk_between hm).1, (walk_between hm).2, (walk_between hk').1, (walk_between hk').2⟩
  · rw [ptAt_of_xMajor h]
    simp only [dmaj, dmin, h, ↓reduceIte] at hm hk'
    exact ⟨(walk_between hk').1, (walk_between hk').2, (walk_between hm).1, (walk_between hm).2⟩

theorem mem_points_in_box {l : Line} {p : Pt} (hp : p ∈ points l) :
    min l.start.x l.stop.x ≤ p.x ∧ p.x ≤ max l.start.x l.stop.x ∧
    min l.start.y l.stop.y ≤ p.y ∧ p.y ≤ max l.start.y l.stop.y := by
  obtain ⟨k, hk, rfl⟩ := mem_points.mp hp
  exact ptAt_in_box l k hk

theorem dxOf_translate (l : Line) (d : Pt) : dxOf (l.translate d) = dxOf l := by
  unfold dxOf translate; simp only [Pt.add_x]; omega
theorem dyOf_translate (l : Line) (d : Pt) : dyOf (l.translate d) = dyOf l := by
  unfold dyOf translate; simp only [Pt.add_y]; omega

theorem params_congr {l l' : Line} (hx : dxOf l' = dxOf l) (hy : dyOf l' = dyOf l) :
    dmaj l' = dmaj l ∧ dmin l' = dmin l ∧ pmaj l' = pmaj l ∧ pmin l' = pmin l := by
  simp only [dmaj, dmin, pmaj, pmin, yMajor, hx, hy]
  -- what is left differs only in the decidability instance of the `if`s
  refine ⟨?_, ?_, ?_, ?_⟩ <;> congr

theorem ptAt_translate (l : Line) (d : Pt) (k : Nat) : ptAt (l.translate d) k = ptAt l k + d := by
  obtain ⟨e1, e2, e3, e4⟩ := params_congr (dxOf_translate l d) (dyOf_translate l d)
  rw [ptAt_eq, ptAt_eq, e1, e2, e3, e4]
  simp only [translate, Pt.ext_iff', Pt.add_x, Pt.add_y]
  refine ⟨?_, ?_⟩ <;> omega

theorem points_translate (l : Line) (d : Pt) :
    points (l.translate d) = (points l).map (· + d) := by
  obtain ⟨e1, _⟩ := params_congr (dxOf_translate l d) (dyOf_translate l d)
  rw [points_eq, points_eq, e1, List.map_map]
  apply List.map_congr_left
  intro k _
  exact ptAt_translate l d k

theorem points_zero_length (s : Pt) : points ⟨s, s⟩ = [s] := by
  have hz : dmaj ⟨s, s⟩ = 0 := (dmaj_zero_iff _).mpr rfl
  rw [points_eq, hz]
  simp [ptAt_zero]

end Line
end EG
