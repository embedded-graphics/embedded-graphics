/-
  EG.Lemmas.ThickArith — the integer arithmetic behind the geometry of stroked lines, about plain
  `Int` variables: each lemma is the arithmetic of one step of a `ThickGeo*` file (`minor_steps_le`:
  of `ThickBBoxBres`), which instantiates the variables from the closed form of a run
  (EG.Lemmas.ThickClosed, ThickGeoRun). Throughout, `D >= d >= 0` are the major / minor lengths of the
  line, `S = D^2 + d^2 = L^2` its squared length, `tau = ph M' = +-2 D`, `X` a band value
  `ph q - ph start`, `n` a band index, `A` the value of the thickness accumulator of `ParallelsIterator`
  that ends the run, `A^2 > (2 w)^2 S`. Two themes:
  * bounds `a <= p sqrt S` written without square roots as `a a <= p p S`, and what they say about `A`;
  * bands of height `2 D`: the values `X` with `-D < X - tau n <= D`;
  then, built on them, one parallel, the reach of the stroke (`reach_arith`, `discount_arith`), the
  middle slab (`MidFacts`) and the counters of the two sides (`disc_core`, `disc_side`).
-/
import Mathlib.Tactic.Linarith
import Mathlib.Tactic.LinearCombination
import Mathlib.Tactic.Ring
import EG.Basic.Arith
namespace EG
namespace Thick

/-- Sum of two square-root bounds, without square roots. -/
theorem sq_add_le (a b p r S : Int) (hb : 0 ≤ b) (hp : 0 ≤ p) (hr : 0 ≤ r) (hS : 0 ≤ S)
    (h1 : a * a ≤ p * p * S) (h2 : b * b ≤ r * r * S) : (a + b) * (a + b) ≤ (p + r) * (p + r) * S := by
  have h0 : 0 ≤ p * r * S := Int.mul_nonneg (Int.mul_nonneg hp hr) hS
  -- `a b <= p r S`, because `(a b)^2 = a^2 b^2 <= (p r S)^2`
  have hab : a * b ≤ p * r * S := by
    refine (abs_le_of_sq_le h0 ?_).2
    have := Int.mul_le_mul h1 h2 (Int.mul_nonneg hb hb) (Int.mul_nonneg (Int.mul_nonneg hp hp) hS)
    linear_combination this
  linear_combination h1 + h2 + 2 * hab

theorem abs_exists (X : Int) : ∃ Y : Int, 0 ≤ Y ∧ Y * Y = X * X ∧ -Y ≤ X ∧ X ≤ Y := by
  by_cases h : 0 ≤ X
  · exact ⟨X, h, rfl, by omega, by omega⟩
  · exact ⟨-X, by omega, by rw [Int.neg_mul_neg], by omega, by omega⟩

/-- `k D + d <= (k + 1) L`: the difference of the squares is
`k (D - d)^2 + (k + 1) D^2 + k (k + 1) d^2`. -/
theorem lin_sq_le (D d k : Int) (hk : 0 ≤ k) :
    (k * D + d) * (k * D + d) ≤ (k + 1) * (k + 1) * (D * D + d * d) := by
  have h1 := Int.mul_nonneg hk (mul_self_nonneg (D - d))
  have h2 := Int.mul_nonneg (show 0 ≤ k + 1 by omega) (mul_self_nonneg D)
  have h3 := Int.mul_nonneg (Int.mul_nonneg hk (show 0 ≤ k + 1 by omega)) (mul_self_nonneg d)
  linear_combination h1 + h2 + h3

/-- A value `A >= 0` below `Z + Y` with `Z <= p sqrt S`, `Y <= r sqrt S` is at most
`(p + r) sqrt S`. -/
theorem acc_sq_le (S A Z Y p r : Int) (hS : 0 ≤ S) (hA0 : 0 ≤ A) (hZ0 : 0 ≤ Z) (hY0 : 0 ≤ Y)
    (hp : 0 ≤ p) (hr : 0 ≤ r) (hZ : Z * Z ≤ p * p * S) (hY : Y * Y ≤ r * r * S) (hA : A ≤ Z + Y) :
    A * A ≤ (p + r) * (p + r) * S :=
  Int.le_trans (Int.mul_le_mul hA hA hA0 (Int.add_nonneg hZ0 hY0)) (sq_add_le Z Y p r S hY0 hp hr hS hZ hY)

/-- From `A <= Z + Y`, `A^2 > (2 w)^2 S`, `Y^2 <= c^2 S`: `Z^2 >= (2 w - c)^2 S`. -/
theorem extent_arith_gen (S w A Z Y c : Int) (hS0 : 0 ≤ S) (hc : 0 ≤ c) (hcw : c ≤ 2 * w) (hA0 : 0 ≤ A)
    (hA : A * A > w * 2 * (w * 2) * S) (hZ0 : 0 ≤ Z) (hY0 : 0 ≤ Y) (hY : Y * Y ≤ c * c * S)
    (hZ : A ≤ Z + Y) : (2 * w - c) * (2 * w - c) * S ≤ Z * Z := by
  by_contra hcon
  have h3 := acc_sq_le S A Z Y (2 * w - c) c hS0 hA0 hZ0 hY0 (by omega) hc (by omega) hY hZ
  have h5 : (2 * w - c + c) * (2 * w - c + c) = w * 2 * (w * 2) := by ring
  rw [h5] at h3
  omega

/-- `0 <= t <= a + k D`, `a^2 <= (2 w)^2 S`, `D^2 <= S`: `t <= (2 w + k) sqrt S <= (2 w + m) sqrt S`
for `m >= k` (squares written as powers, as in the oracle's predicates). -/
theorem reach_pow_le (t a D S w k m : Int) (ht : 0 ≤ t) (hD : 0 ≤ D) (hS : D * D ≤ S) (hw : 0 ≤ w)
    (hk : 0 ≤ k) (hkm : k ≤ m) (ha : a * a ≤ (2 * w) ^ 2 * S) (h : t ≤ a + k * D) :
    t ^ 2 ≤ (2 * w + m) ^ 2 * S := by
  rw [sq] at ha
  obtain ⟨Y, hY0, hYY, _, hY2⟩ := abs_exists a
  have hS0 : 0 ≤ S := Int.le_trans (mul_self_nonneg D) hS
  have hkD : (k * D) * (k * D) ≤ k * k * S := by
    have := Int.mul_le_mul_of_nonneg_left hS (mul_self_nonneg k)
    linear_combination this
  have h1 := acc_sq_le S t Y (k * D) (2 * w) k hS0 ht hY0 (Int.mul_nonneg hk hD) (by omega) hk
    (by rw [hYY]; exact ha) hkD (by omega)
  have h2 : (2 * w + k) * (2 * w + k) ≤ (2 * w + m) * (2 * w + m) :=
    Int.mul_le_mul (by omega) (by omega) (by omega) (by omega)
  have h3 := Int.mul_le_mul_of_nonneg_right h2 hS0
  rw [sq, sq]
  omega

/-- Every value lies in exactly one band. -/
theorem band_index (D tau X : Int) (hD : 0 < D) (ht : tau = 2 * D ∨ tau = -(2 * D)) :
    ∃ n : Int, -D < X - tau * n ∧ X - tau * n ≤ D := by
  have h1 := Int.emod_add_mul_ediv (X + D - 1) (2 * D)
  have h2 := Int.emod_nonneg (X + D - 1) (show 2 * D ≠ 0 by omega)
  have h3 := Int.emod_lt_of_pos (X + D - 1) (show 0 < 2 * D by omega)
  rcases ht with rfl | rfl
  · exact ⟨(X + D - 1) / (2 * D), by omega, by omega⟩
  · refine ⟨-((X + D - 1) / (2 * D)), ?_, ?_⟩ <;> rw [Int.neg_mul_neg] <;> omega

/-- Different bands are disjoint. -/
theorem band_sep (D tau : Int) (hD : 0 < D) (ht : tau = 2 * D ∨ tau = -(2 * D)) (n m : Int)
    (hne : n ≠ m) (X : Int) (h1 : -D < X - tau * n) (h2 : X - tau * n ≤ D) (h3 : -D < X - tau * m)
    (h4 : X - tau * m ≤ D) : False := by
  rcases Int.lt_or_gt_of_ne hne with h | h
  · have : D * (n + 1) ≤ D * m := Int.mul_le_mul_of_nonneg_left (by omega) (by omega)
    rcases ht with rfl | rfl
    · exact absurd (show (0 : Int) < 0 by linear_combination 2 * this + h2 + h3) (by decide)
    · exact absurd (show (0 : Int) < 0 by linear_combination 2 * this + h1 + h4) (by decide)
  · have : D * (m + 1) ≤ D * n := Int.mul_le_mul_of_nonneg_left (by omega) (by omega)
    rcases ht with rfl | rfl
    · exact absurd (show (0 : Int) < 0 by linear_combination 2 * this + h1 + h4) (by decide)
    · exact absurd (show (0 : Int) < 0 by linear_combination 2 * this + h2 + h3) (by decide)

/-- A multiple of `2 D` in `(-D, D]` is zero. -/
theorem mult_band (D m : Int) (hD : 0 < D) (h1 : -D < 2 * D * m) (h2 : 2 * D * m ≤ D) : m = 0 := by
  by_contra hne
  rcases Int.lt_or_gt_of_ne hne with h | h
  · have : 2 * D * m ≤ 2 * D * (-1) := Int.mul_le_mul_of_nonneg_left (by omega) (by omega)
    omega
  · have : 2 * D * 1 ≤ 2 * D * m := Int.mul_le_mul_of_nonneg_left (by omega) (by omega)
    omega

/-- The bands of the points within `w/2 - 1` of the line have been yielded: a band index `n` beyond
the `nL` left / `nR` right parallels has `2 D |n| <= |X| + D`, which bounds the accumulator
`A <= D + d + 2 D (nL + nR)` by `2 |X| + k D + d` (`k = 1` left, `3` right), below `2 w L`. -/
theorem idx_bound (D d w A X tau n : Int) (nL nR : Nat) (hD : 0 < D) (_hd0 : 0 ≤ d)
    (hw : 2 ≤ w) (hA0 : 0 ≤ A) (hA : A * A > w * 2 * (w * 2) * (D * D + d * d))
    (hX : X * X ≤ (w - 2) * (w - 2) * (D * D + d * d)) (ht : tau = 2 * D ∨ tau = -(2 * D))
    (hb1 : -D < X - tau * n) (hb2 : X - tau * n ≤ D)
    (hAle : A ≤ D + d + 2 * D * ((nL : Int) + nR)) (hlr : nR = nL ∨ nR = nL + 1) :
    (0 < n → n ≤ nL) ∧ (n ≤ 0 → -(nR : Int) < n) := by
  obtain ⟨Y, hY0, hYY, hY1, hY2⟩ := abs_exists X
  have hS : 0 ≤ D * D + d * d := Int.add_nonneg (mul_self_nonneg D) (mul_self_nonneg d)
  have hYsq : (2 * Y) * (2 * Y) ≤ (2 * w - 4) * (2 * w - 4) * (D * D + d * d) := by
    rw [← hYY] at hX; linear_combination 4 * hX
  have key : ∀ k : Int, 0 ≤ k → k ≤ 3 → A ≤ 2 * Y + (k * D + d) → False := by
    intro k hk0 hk3 hAk
    have h5 := acc_sq_le _ A (2 * Y) (k * D + d) (2 * w - 4) (k + 1) hS hA0 (by omega)
      (by have := Int.mul_nonneg hk0 (show 0 ≤ D by omega); omega) (by omega) (by omega)
      hYsq (lin_sq_le D d k hk0) hAk
    have h6 : (2 * w - 4 + (k + 1)) * (2 * w - 4 + (k + 1)) ≤ w * 2 * (w * 2) :=
      Int.mul_le_mul (by omega) (by omega) (by omega) (by omega)
    have h7 := Int.mul_le_mul_of_nonneg_right h6 hS
    omega
  have hn1 : 2 * D * n ≤ Y + D := by
    rcases ht with rfl | rfl
    · linear_combination hY2 + hb1
    · linear_combination hY1 + hb2
  have hn2 : -(Y + D) ≤ 2 * D * n := by
    rcases ht with rfl | rfl
    · linear_combination hY1 + hb2
    · linear_combination hY2 + hb1
  constructor
  · intro hpos
    by_contra hc
    have h1 : D * ((nL : Int) + 1) ≤ D * n := Int.mul_le_mul_of_nonneg_left (by omega) (by omega)
    have h2 : D * ((nL : Int) + nR) ≤ D * (2 * nL + 1) :=
      Int.mul_le_mul_of_nonneg_left (by rcases hlr with h | h <;> omega) (by omega)
    exact key 1 (by omega) (by omega) (by linear_combination hAle + 2 * hn1 + 4 * h1 + 2 * h2)
  · intro hneg
    by_contra hc
    have h1 : D * n ≤ D * (-(nR : Int)) := Int.mul_le_mul_of_nonneg_left (by omega) (by omega)
    have h2 : D * ((nL : Int) + nR) ≤ D * (2 * nR) :=
      Int.mul_le_mul_of_nonneg_left (by rcases hlr with h | h <;> omega) (by omega)
    exact key 3 (by omega) (by omega) (by linear_combination hAle + 2 * hn2 + 4 * h1 + 2 * h2)

/-! ### One parallel: `k` major and `j` minor steps from its start

A point `k` major and `j` minor steps from the start of a parallel with initial error `e` lies in
the parallel's band iff `-D < e + 2 d k - 2 D j <= D`; its position along the line is `D k + d j`
further than the start's. -/

/-- How many minor steps fit into the first `D + 1 - i` columns of a parallel whose initial error is at most
`D - 2 i (D - d)`: at most `d - i` (`i = 0`: every parallel; `i = 1`: an extra one). -/
theorem minor_steps_le (D d e k j i : Int) (hD : 0 < D) (hd0 : 0 ≤ d)
    (hb : 2 * D * j < e + 2 * d * k + D) (he : e ≤ D - 2 * i * (D - d)) (hk : k ≤ D - i) : j ≤ d - i := by
  by_contra hc
  have h1 : D * (d - i + 1) ≤ D * j := Int.mul_le_mul_of_nonneg_left (by omega) (by omega)
  have h2 : d * k ≤ d * (D - i) := Int.mul_le_mul_of_nonneg_left hk hd0
  exact absurd (show (0 : Int) < 0 by linear_combination hb + he + 2 * h1 + 2 * h2) (by decide)

/-- How far along the line a parallel reaches: within `dmaj + 1` columns (initial error at most the
threshold) it takes at most `d` minor steps, within `dmaj` columns with initial error at most
`2 d - D` at most `d - 1`. -/
theorem par_dt_arith (D d e k j : Int) (hD : 0 < D) (hd0 : 0 ≤ d)
    (hb : 2 * D * j < e + 2 * d * k + D) :
    (e ≤ D → k ≤ D → D * k + d * j ≤ D * D + d * d) ∧
    (e ≤ 2 * d - D → k ≤ D - 1 → 1 ≤ d → D * k + d * j ≤ D * D + d * d - D - d) := by
  constructor
  · intro he hk
    have hj : j ≤ d - 0 := minor_steps_le D d e k j 0 hD hd0 hb (by omega) (by omega)
    have h1 : D * k ≤ D * D := Int.mul_le_mul_of_nonneg_left hk (by omega)
    have h3 : d * j ≤ d * d := Int.mul_le_mul_of_nonneg_left (by omega) hd0
    omega
  · intro he hk _
    have hj : j ≤ d - 1 := minor_steps_le D d e k j 1 hD hd0 hb (by omega) (by omega)
    have h1 : D * k ≤ D * (D - 1) := Int.mul_le_mul_of_nonneg_left hk (by omega)
    have h3 : d * j ≤ d * (d - 1) := Int.mul_le_mul_of_nonneg_left hj hd0
    linear_combination h1 + h3

/-- A point of a parallel's band whose projection lies a major step inside both ends of the segment
lies in one of the parallel's `n` columns. `g` is twice the position of the parallel's start along
the line: within `D/2` of the perpendicular through `start` for a normal parallel (`n = D + 1`),
between `D/2` and `D/2 + d` ahead of it for an extra one (`n = D`). -/
theorem band_column_arith (D d e k j g n : Int) (hD : 0 < D) (hd0 : 0 ≤ d) (hdD : d ≤ D)
    (he1 : -D < e) (he2 : e ≤ D) (hb1 : -D < e + 2 * d * k - 2 * D * j)
    (hb2 : e + 2 * d * k - 2 * D * j ≤ D)
    (hg : (n = D + 1 ∧ -D ≤ g ∧ g ≤ D) ∨ (n = D ∧ D ≤ g ∧ g ≤ D + 2 * d))
    (h1 : 2 * D ≤ g + 2 * (D * k + d * j))
    (h2 : g + 2 * (D * k + d * j) ≤ 2 * (D * D + d * d) - 2 * D) : 0 ≤ k ∧ k < n := by
  constructor
  · -- before the first column: `k <= -1` forces `j <= 0`, so the point is a major step behind
    by_contra hc
    have hk : d * k ≤ d * (-1) := Int.mul_le_mul_of_nonneg_left (by omega) hd0
    have hj0 : j ≤ 0 := by
      by_contra hj'
      have : D * 1 ≤ D * j := Int.mul_le_mul_of_nonneg_left (by omega) (by omega)
      exact absurd (show (0 : Int) < 0 by linear_combination 2 * hd0 + he2 + hb1 + 2 * hk + 2 * this) (by decide)
    have hDk : D * k ≤ D * (-1) := Int.mul_le_mul_of_nonneg_left (by omega) (by omega)
    have hdj : d * j ≤ d * 0 := Int.mul_le_mul_of_nonneg_left hj0 hd0
    rcases hg with ⟨_, _, g2⟩ | ⟨_, _, g2⟩
    · exact absurd (show (0 : Int) < 0 by linear_combination 3 * hD + h1 + 2 * hDk + 2 * hdj + g2) (by decide)
    · exact absurd (show (0 : Int) < 0 by linear_combination hD + 2 * hdD + h1 + 2 * hDk + 2 * hdj + g2)
        (by decide)
  · -- after the last column: `k >= n` forces `j >= d`, so the point is beyond the end
    by_contra hc
    have hn : D ≤ n := by rcases hg with ⟨g0, _⟩ | ⟨g0, _⟩ <;> omega
    have hkn : d * n ≤ d * k := Int.mul_le_mul_of_nonneg_left (by omega) hd0
    have hdn : d * D ≤ d * n := Int.mul_le_mul_of_nonneg_left hn hd0
    have hjd : d ≤ j := by
      by_contra hj'
      have : D * j ≤ D * (d - 1) := Int.mul_le_mul_of_nonneg_left (by omega) (by omega)
      exact absurd (show (0 : Int) < 0 by linear_combination he1 + hb2 + 2 * hkn + 2 * hdn + 2 * this) (by decide)
    have hDn : D * n ≤ D * k := Int.mul_le_mul_of_nonneg_left (by omega) (by omega)
    have hdd : d * d ≤ d * j := Int.mul_le_mul_of_nonneg_left hjd hd0
    rcases hg with ⟨g0, g1, _⟩ | ⟨g0, g1, _⟩ <;> subst g0 <;>
      exact absurd (show (0 : Int) < 0 by linear_combination 3 * hD + h2 + 2 * hDn + 2 * hdd + g1) (by decide)

/-- A pixel of band `n` against the accumulator value `a` at which its parallel was fetched: the
parallel is the `(2 n - 1)`-th (left, `n > 0`) resp. `(-2 n)`-th (right) after the centre line, and
all but the `E` extra parallels before it have added `2 D`. -/
theorem reach_arith (D d E a X tau n : Int) (hD : 0 < D) (ht : tau = 2 * D ∨ tau = -(2 * D))
    (b1 : -D < X - tau * n) (b2 : X - tau * n ≤ D)
    (hn1 : 0 < n → D + d + 2 * D * (2 * n - 1) - 2 * (D - d) * E ≤ a)
    (hn2 : n ≤ 0 → D + d + 2 * D * (-(2 * n)) - 2 * (D - d) * E ≤ a) :
    2 * X ≤ a + 3 * D - d + 2 * (D - d) * E ∧ -(2 * X) ≤ a + 3 * D - d + 2 * (D - d) * E := by
  by_cases h0 : 0 < n
  · have h3 := hn1 h0
    have : D * 1 ≤ D * n := Int.mul_le_mul_of_nonneg_left (by omega) (by omega)
    rcases ht with rfl | rfl
    · exact ⟨by linear_combination h3 + 2 * b2, by linear_combination 8 * hD + h3 + 8 * this + 2 * b1⟩
    · exact ⟨by linear_combination 8 * hD + h3 + 8 * this + 2 * b2, by linear_combination h3 + 2 * b1⟩
  · have h3 := hn2 (by omega)
    have : D * n ≤ D * 0 := Int.mul_le_mul_of_nonneg_left (by omega) (by omega)
    rcases ht with rfl | rfl
    · exact ⟨by linear_combination 2 * hD + h3 + 8 * this + 2 * b2, by linear_combination 2 * hD + h3 + 2 * b1⟩
    · exact ⟨by linear_combination 2 * hD + h3 + 2 * b2, by linear_combination 2 * hD + h3 + 8 * this + 2 * b1⟩

/-- A pixel of band `n` with the skipped steps of its side discounted, in terms of its cross product
`c` (`X = -+2 c`; the left bands `n > 0` lie on the side `c < 0`): `sk = a` (left) resp. `b` (right) is
the number of skipped steps of the pixel's side, up to the pixels of the centre band, for which either
discount is harmless. -/
theorem discount_arith (D d n A a b c X tau : Int) (hD : 0 < D) (hd0 : 0 ≤ d) (hdD : d ≤ D) (hA0 : 0 ≤ A)
    (ha : 0 ≤ a) (hb : 0 ≤ b)
    (hor : (tau = 2 * D ∧ X = -(2 * c)) ∨ (tau = -(2 * D) ∧ X = 2 * c))
    (b1 : -D < X - tau * n) (b2 : X - tau * n ≤ D)
    (h1 : 0 < n → 2 * (2 * D * n + D - 2 * d * a) ≤ A + 5 * D - d)
    (h2 : n ≤ 0 → 2 * (2 * D * (-n) + D - 2 * d * b) ≤ A + 5 * D - d) :
    2 * (2 * (c.natAbs : Int) - 2 * d * (if c < 0 then a else b)) ≤ A + 5 * D - d := by
  have hda : 0 ≤ d * a := Int.mul_nonneg hd0 ha
  have hdb : 0 ≤ d * b := Int.mul_nonneg hd0 hb
  have hn : (0 < n ∧ D * 1 ≤ D * n ∧ 2 * (2 * D * n + D - 2 * d * a) ≤ A + 5 * D - d) ∨
      (n ≤ 0 ∧ D * n ≤ D * 0 ∧ 2 * (2 * D * (-n) + D - 2 * d * b) ≤ A + 5 * D - d) := by
    by_cases h0 : 0 < n
    · exact Or.inl ⟨h0, Int.mul_le_mul_of_nonneg_left (by omega) (by omega), h1 h0⟩
    · exact Or.inr ⟨by omega, Int.mul_le_mul_of_nonneg_left (by omega) (by omega), h2 (by omega)⟩
  by_cases hc : c < 0
  · -- left of the line; a band `n <= 0` there is the centre band, and the bound holds without `h2`
    rw [if_pos hc, show (c.natAbs : Int) = -c by omega]
    rcases hn with ⟨_, _, hh⟩ | ⟨_, hDn, _⟩ <;> rcases hor with ⟨rfl, rfl⟩ | ⟨rfl, rfl⟩
    · linear_combination hh + 2 * b2
    · linear_combination hh + 2 * b1
    · linear_combination hdD + hA0 + 4 * hda + 4 * hc + 8 * hDn + 4 * b2
    · linear_combination hdD + hA0 + 4 * hda + 4 * hc + 8 * hDn + 4 * b1
  · -- on the line or right of it: no band `n > 0` reaches there
    rw [if_neg hc, show (c.natAbs : Int) = c by omega]
    have hc0 : 0 ≤ c := by omega
    rcases hn with ⟨_, hDn, _⟩ | ⟨_, _, hh⟩ <;> rcases hor with ⟨rfl, rfl⟩ | ⟨rfl, rfl⟩
    · exact absurd (show (0 : Int) < 0 by linear_combination hD + 2 * hDn + b1 + 2 * hc0) (by decide)
    · exact absurd (show (0 : Int) < 0 by linear_combination hD + 2 * hDn + b2 + 2 * hc0) (by decide)
    · linear_combination hh + 2 * b1
    · linear_combination hh + 2 * b2

/-! ### The middle slab

`T(q) = 2 (dt q - dt start) - S` measures the projection of `q` from the midpoint of the segment;
the middle slab of the oracle is `T^2 <= 4 S`. -/

/-- `t <= 2 L`, `t >= -2 L`, `|t| <= 2 L` for `S = L^2`, without square roots. -/
def HiP (S t : Int) : Prop := t ≤ 0 ∨ t * t ≤ 4 * S
def LoP (S t : Int) : Prop := 0 ≤ t ∨ t * t ≤ 4 * S
def MidP (S t : Int) : Prop := t * t ≤ 4 * S

theorem mid_of_hi_lo {S t : Int} (hS : 0 ≤ S) (h1 : HiP S t) (h2 : LoP S t) : MidP S t := by
  unfold HiP LoP MidP at *
  rcases h1 with h1 | h1
  · rcases h2 with h2 | h2
    · have : t = 0 := by omega
      subst this; omega
    · exact h2
  · exact h1

theorem hiP_of_le_one {S t : Int} (hS : 1 ≤ S) (h : t ≤ 1) : HiP S t := by
  unfold HiP
  by_cases h0 : t ≤ 0
  · exact Or.inl h0
  · have : t = 1 := by omega
    subst this; omega

theorem loP_of_neg_one_le {S t : Int} (hS : 1 ≤ S) (h : -1 ≤ t) : LoP S t := by
  unfold LoP
  by_cases h0 : 0 ≤ t
  · exact Or.inl h0
  · have : t = -1 := by omega
    subst this; omega

/-- `D <= L2` and `D + 2 d - 1 <= L2` (`(d - 1)^2 >= 0`). -/
theorem len2_bounds (D d : Int) (hD : 0 < D) :
    D ≤ D * D + d * d ∧ D + 2 * d - 1 ≤ D * D + d * d := by
  have h1 : D * 1 ≤ D * D := Int.mul_le_mul_of_nonneg_left (by omega) (by omega)
  have h2 := mul_self_nonneg (d - 1)
  have h3 := mul_self_nonneg d
  exact ⟨by linear_combination h1 + h3, by linear_combination h1 + h2⟩

/-- A step of at most `2 sqrt2 L` cannot jump over the slab of height `4 L`: from `t0 < -2 L` to
`t1 > 2 L` the step `sg = t1 + |t0|` would have `sg^2 > t1^2 + t0^2 > 8 S`. -/
theorem hi_step (S t0 sg t1 : Int) (h0 : ¬ LoP S t0) (hs : sg * sg ≤ 8 * S) (h1 : t1 = t0 + sg) :
    HiP S t1 := by
  unfold LoP at h0
  unfold HiP
  by_contra hc
  subst h1
  have : 0 ≤ (t0 + sg) * (-t0) := Int.mul_nonneg (by omega) (by omega)
  have h2 : 4 * S < t0 * t0 := by omega
  have h3 : 4 * S < (t0 + sg) * (t0 + sg) := by omega
  exact absurd (show (0 : Int) < 0 by linear_combination hs + 2 * this + h2 + h3) (by decide)

/-- What the run of a stroke of width `w` says about two pixels of its outermost left and right
parallels (bands `nL` and `1 - nR`; `X1`, `X2` their band values `ph q - ph start`): the sides
alternate, and the accumulator `A` that ended the run exceeds `2 w L` although each of the
`nL + nR` parallels added at most `2 D` to it, the `E` extra ones only `2 d`. -/
structure MidFacts (D d w A E X1 X2 tau : Int) (nL nR : Nat) : Prop where
  hD : 0 < D
  hd0 : 0 ≤ d
  hdD : d ≤ D
  hE0 : 0 ≤ E
  hlr : nR = nL ∨ nR = nL + 1
  hnR : 1 ≤ nR
  hA0 : 0 ≤ A
  hA : A * A > w * 2 * (w * 2) * (D * D + d * d)
  hAle : A ≤ D + d + 2 * D * ((nL : Int) + nR) - 2 * (D - d) * E
  ht : tau = 2 * D ∨ tau = -(2 * D)
  a1 : -D < X1 - tau * (nL : Int)
  a2 : X1 - tau * (nL : Int) ≤ D
  a3 : -D < X2 - tau * (1 - (nR : Int))
  a4 : X2 - tau * (1 - (nR : Int)) ≤ D

/-- At least the centre line is yielded: an accumulator of `D + d <= 2 L` does not end the run. -/
theorem count_pos (D d w A E : Int) (nL nR : Nat) (hd0 : 0 ≤ d) (hdD : d ≤ D) (hw : 1 ≤ w)
    (hE0 : 0 ≤ E) (hA0 : 0 ≤ A) (hA : A * A > w * 2 * (w * 2) * (D * D + d * d))
    (hAle : A ≤ D + d + 2 * D * ((nL : Int) + nR) - 2 * (D - d) * E) (hlr : nR = nL ∨ nR = nL + 1) :
    1 ≤ nR := by
  by_contra hc
  have h0 : nR = 0 := by omega
  have h1 : nL = 0 := by omega
  subst h0 h1
  simp only [Nat.cast_zero, Int.add_zero, Int.mul_zero] at hAle
  have hS : 0 ≤ D * D + d * d := Int.add_nonneg (mul_self_nonneg D) (mul_self_nonneg d)
  have hE1 : 0 ≤ (D - d) * E := Int.mul_nonneg (by omega) hE0
  have h2 : A * A ≤ (1 * D + d) * (1 * D + d) :=
    Int.mul_le_mul (by linear_combination hAle + 2 * hE1) (by linear_combination hAle + 2 * hE1) hA0 (by omega)
  have h3 := lin_sq_le D d 1 (by omega)
  have h4 : (1 + 1) * (1 + 1) ≤ w * 2 * (w * 2) :=
    Int.mul_le_mul (by omega) (by omega) (by omega) (by omega)
  have h5 := Int.mul_le_mul_of_nonneg_right h4 hS
  omega

/-- `N >= w`: the accumulator `D + d + 2 D N` exceeds `2 w L >= 2 w D`. -/
theorem count_ge_width (D d w A N : Int) (hD : 0 < D) (hdD : d ≤ D) (hw : 0 ≤ w)
    (hA0 : 0 ≤ A) (hA : A * A > w * 2 * (w * 2) * (D * D + d * d)) (hAle : A ≤ D + d + 2 * D * N) :
    w ≤ N := by
  by_contra hc
  have h1 : D * N ≤ D * (w - 1) := Int.mul_le_mul_of_nonneg_left (by omega) (by omega)
  have h2 : A ≤ 2 * D * w := by linear_combination hdD + hAle + 2 * h1
  have h3 : A * A ≤ (2 * D * w) * (2 * D * w) :=
    Int.mul_le_mul h2 h2 hA0 (Int.mul_nonneg (by omega) hw)
  have h4 : 0 ≤ (w * w) * (d * d) := Int.mul_nonneg (mul_self_nonneg w) (mul_self_nonneg d)
  exact absurd (show (0 : Int) < 0 by linear_combination hA + h3 + 4 * h4) (by decide)

/-- The three regimes in which the full extent `2 (w - 2) L` of the middle slab follows from the
band structure and the accumulator alone: axis-parallel and diagonal lines, strokes with enough
extra parallels, flat thin strokes. -/
def MidRegime (D d S w E : Int) : Prop :=
  (d = 0 ∨ d = D) ∨
  (5 * D + d - 2 * (D - d) * E ≤ 0 ∨
    (5 * D + d - 2 * (D - d) * E) * (5 * D + d - 2 * (D - d) * E) ≤ 16 * S) ∨
  (w - 2) * (d * d) ≤ 2 * D

namespace MidFacts
variable {D d w A E X1 X2 tau : Int} {nL nR : Nat}

/-- The two band values as one absolute difference `Z`: the bands `nL` and `1 - nR` are
`nL + nR - 1` apart, each value lies within `D` of its band. -/
theorem absDiff (h : MidFacts D d w A E X1 X2 tau nL nR) :
    ∃ Z : Int, 0 ≤ Z ∧ Z * Z = (X1 - X2) * (X1 - X2) ∧ 2 * (D * ((nL : Int) + nR - 2)) < Z ∧
      (Z = X1 - X2 ∨ Z = X2 - X1) := by
  obtain ⟨-, -, -, -, -, hnR, -, -, -, ht, a1, a2, a3, a4⟩ := h
  have hlt : 2 * (D * ((nL : Int) + nR - 2)) < X1 - X2 ∨ 2 * (D * ((nL : Int) + nR - 2)) < X2 - X1 := by
    rcases ht with rfl | rfl
    · left; linear_combination a1 + a4
    · right; linear_combination a2 + a3
  by_cases h0 : 0 ≤ X1 - X2
  · refine ⟨X1 - X2, h0, rfl, ?_, Or.inl rfl⟩
    rcases hlt with h | h <;> omega
  · refine ⟨X2 - X1, by omega, by ring, ?_, Or.inr rfl⟩
    rcases hlt with h | h <;> omega

theorem len2_nonneg (_h : MidFacts D d w A E X1 X2 tau nL nR) : 0 ≤ D * D + d * d :=
  Int.add_nonneg (mul_self_nonneg D) (mul_self_nonneg d)

/-- The extent of the middle slab is at least `2 (w - 3) L`: `A < Z + 5 D + d <= Z + 6 L`. -/
theorem extent (h : MidFacts D d w A E X1 X2 tau nL nR) (hw : 3 ≤ w) :
    (2 * w - 6) * (2 * w - 6) * (D * D + d * d) ≤ (X1 - X2) * (X1 - X2) := by
  obtain ⟨Z, hZ0, hZZ, hZ1, _⟩ := h.absDiff
  have hEE : 0 ≤ (D - d) * E := Int.mul_nonneg (by have := h.hdD; omega) h.hE0
  have hD := h.hD; have hd0 := h.hd0; have hAle := h.hAle
  rw [← hZZ]
  exact extent_arith_gen _ w A Z (5 * D + d) 6 h.len2_nonneg (by omega) (by omega) h.hA0 h.hA hZ0
    (by omega) (by have := lin_sq_le D d 5 (by omega); linear_combination this) (by linear_combination hZ1 + 2 * hEE + hAle)

/-- Strokes with enough extra parallels, `Y = 5 D + d - 2 (D - d) E <= 4 L`: full extent
`2 (w - 2) L`. -/
theorem extent_extras (h : MidFacts D d w A E X1 X2 tau nL nR) (hw : 2 ≤ w)
    (hreg : 5 * D + d - 2 * (D - d) * E ≤ 0 ∨
      (5 * D + d - 2 * (D - d) * E) * (5 * D + d - 2 * (D - d) * E) ≤ 16 * (D * D + d * d)) :
    (2 * w - 4) * (2 * w - 4) * (D * D + d * d) ≤ (X1 - X2) * (X1 - X2) := by
  obtain ⟨Z, hZ0, hZZ, hZ1, _⟩ := h.absDiff
  have hAZ : A ≤ Z + (5 * D + d - 2 * (D - d) * E) := by have := h.hAle; linear_combination hZ1 + this
  rw [← hZZ]
  by_cases hneg : 5 * D + d - 2 * (D - d) * E ≤ 0
  · -- `A <= Z`
    have h1 : A * A ≤ Z * Z := Int.mul_le_mul (by omega) (by omega) h.hA0 hZ0
    have h2 : (2 * w - 4) * (2 * w - 4) ≤ w * 2 * (w * 2) :=
      Int.mul_le_mul (by omega) (by omega) (by omega) (by omega)
    have h3 := Int.mul_le_mul_of_nonneg_right h2 h.len2_nonneg
    have := h.hA
    omega
  · exact extent_arith_gen _ w A Z _ 4 h.len2_nonneg (by omega) (by omega) h.hA0 h.hA hZ0 (by omega)
      (by rcases hreg with h1 | h1
          · omega
          · linear_combination h1) hAZ

/-- Flat thin strokes, `(w - 2) d^2 <= 2 D`: there are `N >= w` parallels, and the extent, an even
number above `2 D (N - 2)`, is at least `2 D (w - 2) + 2`. -/
theorem extent_flat (h : MidFacts D d w A E X1 X2 tau nL nR) (hw : 2 ≤ w)
    (hev : ∃ k : Int, X1 - X2 = 2 * k) (hreg : (w - 2) * (d * d) ≤ 2 * D) :
    (2 * w - 4) * (2 * w - 4) * (D * D + d * d) ≤ (X1 - X2) * (X1 - X2) := by
  obtain ⟨Z, hZ0, hZZ, hZ1, hZ2⟩ := h.absDiff
  obtain ⟨k, hk⟩ := hev
  have hD := h.hD
  have hEE : 0 ≤ (D - d) * E := Int.mul_nonneg (by have := h.hdD; omega) h.hE0
  have hN : w ≤ (nL : Int) + nR :=
    count_ge_width D d w A _ hD h.hdD (by omega) h.hA0 h.hA (by have := h.hAle; linear_combination 2 * hEE + this)
  have hDW : D * (w - 2) ≤ D * ((nL : Int) + nR - 2) :=
    Int.mul_le_mul_of_nonneg_left (by omega) (by omega)
  have hZge : 2 * (D * (w - 2)) + 2 ≤ Z := by rcases hZ2 with h | h <;> omega
  have hDW0 : 0 ≤ D * (w - 2) := Int.mul_nonneg (by omega) (by omega)
  have h1 : (2 * (D * (w - 2)) + 2) * (2 * (D * (w - 2)) + 2) ≤ Z * Z :=
    Int.mul_le_mul hZge hZge (by omega) hZ0
  have h2 : (w - 2) * ((w - 2) * (d * d)) ≤ (w - 2) * (2 * D) :=
    Int.mul_le_mul_of_nonneg_left hreg (by omega)
  rw [← hZZ]
  linear_combination h1 + 4 * h2

/-- Axis-parallel and diagonal lines: all band values are multiples of `2 D`, the bands are met
exactly, the extent is `2 D (N - 1)`, and `A <= 2 D (N - 1) + 3 D + d`. -/
theorem extent_axis (h : MidFacts D d w A E X1 X2 tau nL nR) (hw : 2 ≤ w) (k1 k2 : Int)
    (h1 : X1 = 2 * D * k1) (h2 : X2 = 2 * D * k2) :
    (2 * w - 4) * (2 * w - 4) * (D * D + d * d) ≤ (X1 - X2) * (X1 - X2) := by
  have hD := h.hD; have hd0 := h.hd0; have hnR := h.hnR; have hAle := h.hAle
  have hEE : 0 ≤ (D - d) * E := Int.mul_nonneg (by have := h.hdD; omega) h.hE0
  have hN0 : 0 ≤ D * ((nL : Int) + nR - 1) := Int.mul_nonneg (by omega) (by omega)
  have key : (X1 - X2) * (X1 - X2) =
      (2 * (D * ((nL : Int) + nR - 1))) * (2 * (D * ((nL : Int) + nR - 1))) := by
    have a1 := h.a1; have a2 := h.a2; have a3 := h.a3; have a4 := h.a4
    rw [h1] at a1 a2
    rw [h2] at a3 a4
    rcases h.ht with ht | ht <;> rw [ht] at a1 a2 a3 a4
    · have e1 : k1 - (nL : Int) = 0 := mult_band D _ hD (by linear_combination a1) (by linear_combination a2)
      have e2 : k2 - (1 - (nR : Int)) = 0 := mult_band D _ hD (by linear_combination a3) (by linear_combination a4)
      have : k1 - k2 = (nL : Int) + nR - 1 := by omega
      rw [h1, h2, ← this]; ring
    · have e1 : k1 + (nL : Int) = 0 := mult_band D _ hD (by linear_combination a1) (by linear_combination a2)
      have e2 : k2 + (1 - (nR : Int)) = 0 := mult_band D _ hD (by linear_combination a3) (by linear_combination a4)
      have : k1 - k2 = -((nL : Int) + nR - 1) := by omega
      rw [h1, h2, show 2 * D * k1 - 2 * D * k2 = 2 * D * (k1 - k2) by ring, this]; ring
  rw [key]
  exact extent_arith_gen _ w A _ (3 * D + d) 4 h.len2_nonneg (by omega) (by omega) h.hA0 h.hA
    (by omega) (by omega) (by have := lin_sq_le D d 3 (by omega); linear_combination this) (by linear_combination hAle + 2 * hEE)

end MidFacts

/-! ### The two sides of a run, counted

Per side, after `i` major and `j` minor steps of its walker of which `E` returned an extra parallel:
walker error `+-(2 d i - 2 D j)`, parallel error `+-(2 d j - 2 D E)`. -/

/-- The core of the discount: `z` is the difference between the numbers of extra parallels of the
other side and of this side, `e1` / `e2` this / the other side's parallel error, `s` the sum of the
two walker errors. The identity for `2 L2 z` gives `z <= 1`, and `z = 1` forces `e1 >= D - 2 d`. -/
theorem disc_core (D d z s e1 e2 c : Int) (hD : 0 < D) (hd0 : 0 ≤ d) (hdD : d ≤ D) (hc : 0 ≤ c)
    (hid : 2 * (D * D + d * d) * z = d * s - D * (e2 - e1) - 2 * (d * d) * c)
    (hs : s ≤ 2 * D + 2 * d) (h1a : -D ≤ e1) (h1b : e1 ≤ D) (h2 : -D ≤ e2) :
    2 * ((D - d) * z) - 2 * e1 ≤ 2 * D := by
  have h4 := mul_self_nonneg (D - d)
  have h5 : 0 < D * D := Int.mul_pos hD hD
  have h6 : 0 ≤ d * d := Int.mul_nonneg hd0 hd0
  have h7 : 0 ≤ (d * d) * c := Int.mul_nonneg h6 hc
  have hds : d * s ≤ d * (2 * D + 2 * d) := Int.mul_le_mul_of_nonneg_left hs hd0
  have he2 : D * (-D) ≤ D * e2 := Int.mul_le_mul_of_nonneg_left h2 (by omega)
  have hz : z ≤ 1 := by
    by_contra hcon
    have h3 : 2 * (D * D + d * d) * 2 ≤ 2 * (D * D + d * d) * z :=
      Int.mul_le_mul_of_nonneg_left (by omega) (by omega)
    have he1 : D * e1 ≤ D * D := Int.mul_le_mul_of_nonneg_left h1b (by omega)
    linarith
  by_cases hz1 : z = 1
  · subst hz1
    have hDe : D * (D - 2 * d) ≤ D * e1 := by linear_combination 2 * h7 + hds + he2 + hid
    have := Int.le_of_mul_le_mul_left hDe hD
    omega
  · have : (D - d) * z ≤ (D - d) * 0 := Int.mul_le_mul_of_nonneg_left (by omega) (by omega)
    omega

/-- The side `s` that has just yielded a parallel (`eps = 0` left, `1` right), in the counters of the
closed form: `(i, j, E)` major steps, minor steps and `Extra` parallels of this side, `(i', j', E')` of
the other one; `a`, `p` its walker and parallel error (seen in the direction of the walk resp. of the
error steps), `a'`, `p'` those of the other side. The parallel lies in the band `+-(i + E - 1)`, the
side has skipped `j - E` steps, and the right side is the accumulator after the call. -/
theorem disc_side (D d eps i j E i' j' E' a p a' p' : Int) (hD : 0 < D) (hd0 : 0 ≤ d) (hdD : d ≤ D)
    (heps : eps = 0 ∨ eps = 1) (ha : a = 2 * d * i - 2 * D * j) (hp : p = 2 * d * j - 2 * D * E)
    (ha' : a' = 2 * d * i' - 2 * D * j') (hp' : p' = 2 * d * j' - 2 * D * E')
    (b2 : a ≤ D + 2 * d - eps) (b3 : -D ≤ p) (b4 : p ≤ D) (b5 : -D - (1 - eps) < a') (b7 : -D ≤ p')
    (hn : i + E - 1 + eps = i' + E') :
    4 * D * (i + E - 1) + 2 * D - 4 * d * (j - E) ≤
      (D + d + 2 * D * (i + i' - 1) + 2 * d * (E + E')) + (3 - 2 * eps) * D - d := by
  have hi' : i' = i + E - 1 + eps - E' := by omega
  have := disc_core D d (E' - E) (a - a') p p' (1 - eps) hD hd0 hdD (by omega)
    (by rw [ha, hp, ha', hp', hi']; ring) (by omega) b3 b4 b7
  rw [hp] at this
  rw [hi']
  linear_combination this

end Thick
end EG
