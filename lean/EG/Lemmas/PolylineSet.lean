/-
  EG.Lemmas.PolylineSet — the point set of `Polyline::points()` is the union of the segment lines
  (`mem_segments`), and the picture one
  `draw_iter` call with a one-colour point list leaves on a target (`picture_of_points`).
-/
import EG.Lemmas.Polyline
import EG.Lemmas.PMap
import EG.Lemmas.LineRows
namespace EG.Polyline
open EG

/-- The segment lines of a polyline (vertices shifted by the `translate` field). -/
def segments (tr : Pt) : List Pt → List Line
  | [] => []
  | [_] => []
  | a :: b :: rest => ⟨a + tr, b + tr⟩ :: segments tr (b :: rest)

theorem line_points_cons (l : Line) : Line.points l = l.start :: (Line.points l).tail := by
  rw [Line.points_eq, List.range_succ_eq_map]
  simp [Line.ptAt_zero]

/-- The first segment line together with the later ones without their first points covers exactly
the segment lines: the dropped first point of a segment is the last point of the one before. -/
theorem mem_segments (tr p : Pt) : ∀ (rest : List Pt) (a b : Pt),
    p ∈ Line.points ⟨a + tr, b + tr⟩ ++ tailSegs tr (b :: rest) ↔
      ∃ l ∈ segments tr (a :: b :: rest), p ∈ Line.points l := by
  intro rest
  induction rest with
  | nil => intro a b; simp [tailSegs, segments]
  | cons c r ih =>
    intro a b
    have hstop := Line.stop_mem_points ⟨a + tr, b + tr⟩
    rw [segments]
    simp only [List.mem_cons, exists_eq_or_imp, ← ih b c, tailSegs, List.mem_append]
    constructor
    · rintro (h | h | h)
      · exact Or.inl h
      · exact Or.inr (Or.inl (List.mem_of_mem_tail h))
      · exact Or.inr (Or.inr h)
    · rintro (h | h | h)
      · exact Or.inl h
      · rw [line_points_cons] at h
        rcases List.mem_cons.mp h with rfl | h
        · exact Or.inl hstop
        · exact Or.inr (Or.inl h)
      · exact Or.inr (Or.inr h)

/-- The picture of one `draw_iter` call with a point list in one colour: exactly the points of the
list inside the target's box, in that colour. -/
theorem picture_of_points (B : Rect) (pts : List Pt) (c : Color) (p : Pt) :
    PMap.empty.apply (clipWrites B (pts.map (fun q => (q, c)))) p =
      if p ∈ pts ∧ B.contains p = true then some c else none := by
  rw [Tgt.PMap.empty_apply, Tgt.lastWrite_clipWrites, Tgt.lastWrite_map_const]
  by_cases h1 : B.contains p = true <;> by_cases h2 : p ∈ pts <;> simp [h1, h2]

end EG.Polyline
