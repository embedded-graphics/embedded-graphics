/-
  EG.Lemmas.JoinsWidth1 — stroke width 1: the join code collapses to the thin edge lines.
  * `Line::extents(1, _)` returns the line itself twice, for every stroke offset: the parallels
    iterator yields the centre line and nothing else (`width1_parallels`, `extents_width1`);
  * every corner of `LineJoin::from_points(a, m, b, 1, _)` is `m`, whatever the kind (the two edge
    pairs meet exactly in `m`; no rounding, no miter limit); the same holds of the corners of ONE
    side at any width when that side's edge lines are the two sides `Line(a, m)`, `Line(m, b)`
    themselves (`fromExtents_left_corners`, `fromExtents_right_corners`);
  * hence a segment between two such joins is a skeleton segment whose scanline is the Bresenham
    intersection of the plain edge `Line(m1, m2)` (`segment_width1_off`, `segment_width1`:
    EG.Lemmas.JoinsWidth1Align).
  This is the reading of the join code that the one-pixel triangle outline (C19) relies on.
-/
import EG.Lemmas.ThickWidth1
import EG.Lemmas.JoinsJoin
import EG.Model.ThickTriangle
set_option linter.unusedSimpArgs false
namespace EG
namespace Joins
open Thick (LineSide StrokeOffset ParallelsIterator ParallelLineType extentsLoop)

theorem line_rebuild (l : Line) : (⟨l.start, l.start + (l.stop - l.start) - Pt.zero⟩ : Line) = l := by
  obtain ⟨s, e⟩ := l
  simp only [Line.mk.injEq, true_and, Pt.ext_iff', Pt.add_x, Pt.add_y, Pt.sub_x, Pt.sub_y, Pt.zero]
  constructor <;> omega

/-- Stroke width 1, any offset: the parallels iterator yields the centre line and then nothing. The
accumulator `dmaj + dmin` is below the threshold `4 (dx² + dy²)`, `dmaj + dmin + 2 dmaj` above it. -/
theorem width1_parallels (l : Line) (off : StrokeOffset) :
    ∃ iter it1, ParallelsIterator.new l 1 off = some iter ∧
      iter.next = some (some (⟨l.start, 0⟩, ParallelLineType.normal), it1) ∧ it1.next = some (none, it1) := by
  obtain ⟨iter, hnew, hs, -, -, -, hperp, hacc, hthr, hw, he, -⟩ := Thick.new_fresh l 1 off
  have hD := Thick.dmaj_paramLine_pos l
  have hmin : iter.perpendicularParameters.errorStep.minor = 2 * Line.dmaj (Thick.paramLine l) := by
    rw [hperp, Line.params_new, Thick.dmaj_perpendicular]
  obtain ⟨ha1, ha2⟩ := Thick.width1_arith (Line.dmaj (Thick.paramLine l)) (Line.dmin (Thick.paramLine l)) _
    (Line.dmin_nonneg _) (Line.dmin_le_dmaj _) hD (Thick.dmaj_dmin_squares (Thick.paramLine l)).symm
  obtain ⟨it1, hn1, -, e2, e3⟩ := Thick.next_fresh iter l.start (by rw [hs]; exact hw) (by rw [hs]; exact he)
    (by rw [hperp, Line.params_new, Thick.dmaj_perpendicular]; exact hD) (by rw [hacc, hthr]; exact ha1)
  exact ⟨iter, it1, hnew, hn1, Thick.next_done it1 (by rw [e3, e2, hacc, hthr, hmin]; exact ha2)⟩

theorem extents_width1 (l : Line) (off : StrokeOffset) : extents l 1 off = some (l, l) := by
  obtain ⟨iter, it1, hnew, hn1, hn2⟩ := width1_parallels l off
  have hlast : lastParallel (4 * 1 + 8) iter none = some (some (⟨l.start, 0⟩, ParallelLineType.normal)) := by
    show lastParallel 12 iter none = _
    unfold lastParallel
    rw [hn1]
    simp only []
    unfold lastParallel
    rw [hn2]
  have hloop : extentsLoop (2 * 1 + 4) iter (l.start, ParallelLineType.normal)
      (l.start, ParallelLineType.normal) =
      some ((l.start, ParallelLineType.normal), (l.start, ParallelLineType.normal)) := by
    show extentsLoop 6 iter _ _ = _
    unfold extentsLoop
    rw [hn1]
    simp only []
    rw [hn2]
  unfold extents
  rw [show satAsI32 1 = 1 by decide, hnew]
  cases off <;> simp only [Option.bind_eq_bind, Option.bind_some, hloop, hlast, pure, line_rebuild]

theorem extents_width1_none (l : Line) : extents l 1 .none = some (l, l) := extents_width1 l .none

theorem roundDivRaw_mul (m d : Int) (hd : d ≠ 0) : roundDivRaw (m * d) d = m := by
  obtain ⟨s, -, hsd, ha, h⟩ := roundDivRaw_spec hd
  rw [h, show 2 * (s * (m * d)) + iabs d = iabs d + m * (2 * iabs d) by rw [← hsd]; ring,
    Int.add_mul_ediv_right _ _ (by omega), Int.ediv_eq_zero_of_lt (by omega) (by omega)]
  omega

theorem roundDiv_mul (m d : Int) (hd : d ≠ 0) (hm : inI32 m) : roundDiv (m * d) d = m := by
  rw [roundDiv_eq, roundDivRaw_mul m d hd, satI32_of_inI32 hm]

/-- The numerators of the intersection of `Line(m, b)` with `Line(a, m)`: `m` times the denominator. -/
theorem xNumerator_through (a m b : Pt) :
    (IntersectionParams.fromLines ⟨m, b⟩ ⟨a, m⟩).xNumerator =
      m.x * (IntersectionParams.fromLines ⟨m, b⟩ ⟨a, m⟩).denominator := by
  unfold IntersectionParams.xNumerator IntersectionParams.fromLines LinearEquation.fromLine
  simp only [det, dot, rotate90, Line.delta, Pt.sub_x, Pt.sub_y]
  ring

theorem yNumerator_through (a m b : Pt) :
    (IntersectionParams.fromLines ⟨m, b⟩ ⟨a, m⟩).yNumerator =
      m.y * (IntersectionParams.fromLines ⟨m, b⟩ ⟨a, m⟩).denominator := by
  unfold IntersectionParams.yNumerator IntersectionParams.fromLines LinearEquation.fromLine
  simp only [det, dot, rotate90, Line.delta, Pt.sub_x, Pt.sub_y]
  ring

theorem intersection_through (a m b : Pt) (hx : inI32 m.x) (hy : inI32 m.y) :
    (IntersectionParams.fromLines ⟨m, b⟩ ⟨a, m⟩).intersection = .colinear ∨
    ∃ side, (IntersectionParams.fromLines ⟨m, b⟩ ⟨a, m⟩).intersection = .point m side := by
  unfold IntersectionParams.intersection
  by_cases hd : (IntersectionParams.fromLines ⟨m, b⟩ ⟨a, m⟩).denominator = 0
  · left; simp only [hd, ↓reduceIte]
  · right
    simp only [hd, ↓reduceIte]
    rw [xNumerator_through, yNumerator_through, roundDiv_mul _ _ hd hx, roundDiv_mul _ _ hd hy]
    exact ⟨_, rfl⟩

theorem point_through {a m b p : Pt} {s : LineSide} (hx : inI32 m.x) (hy : inI32 m.y)
    (hi : (IntersectionParams.fromLines ⟨m, b⟩ ⟨a, m⟩).intersection = .point p s) : p = m := by
  rcases intersection_through a m b hx hy with h | ⟨side, h⟩ <;> rw [h] at hi <;> cases hi
  rfl

theorem fromExtents_right_corners (a m b : Pt) (w : Nat) (fl sl : Line) (hx : inI32 m.x) (hy : inI32 m.y) :
    (LineJoin.fromExtents m w fl ⟨a, m⟩ sl ⟨m, b⟩).firstEdgeEnd.right = m ∧
    (LineJoin.fromExtents m w fl ⟨a, m⟩ sl ⟨m, b⟩).secondEdgeStart.right = m :=
  fromExtents_right_of (P := (· = m)) m w fl sl rfl rfl fun _ _ hi _ => point_through hx hy hi

theorem fromExtents_left_corners (a m b : Pt) (w : Nat) (fr sr : Line) (hx : inI32 m.x) (hy : inI32 m.y) :
    (LineJoin.fromExtents m w ⟨a, m⟩ fr ⟨m, b⟩ sr).firstEdgeEnd.left = m ∧
    (LineJoin.fromExtents m w ⟨a, m⟩ fr ⟨m, b⟩ sr).secondEdgeStart.left = m :=
  fromExtents_left_of (P := (· = m)) m w fr sr rfl rfl fun _ _ hi _ => point_through hx hy hi

theorem fromExtents_width1_corners (a m b : Pt) (hx : inI32 m.x) (hy : inI32 m.y) :
    (LineJoin.fromExtents m 1 ⟨a, m⟩ ⟨a, m⟩ ⟨m, b⟩ ⟨m, b⟩).firstEdgeEnd = ⟨m, m⟩ ∧
    (LineJoin.fromExtents m 1 ⟨a, m⟩ ⟨a, m⟩ ⟨m, b⟩ ⟨m, b⟩).secondEdgeStart = ⟨m, m⟩ := by
  obtain ⟨l1, l2⟩ := fromExtents_left_corners a m b 1 ⟨a, m⟩ ⟨m, b⟩ hx hy
  obtain ⟨r1, r2⟩ := fromExtents_right_corners a m b 1 ⟨a, m⟩ ⟨m, b⟩ hx hy
  generalize LineJoin.fromExtents m 1 ⟨a, m⟩ ⟨a, m⟩ ⟨m, b⟩ ⟨m, b⟩ = j at *
  obtain ⟨k, ⟨f1, f2⟩, ⟨s1, s2⟩⟩ := j
  dsimp only at *
  subst l1 l2 r1 r2
  exact ⟨rfl, rfl⟩

theorem fromPoints_width1_off (a m b : Pt) (off : StrokeOffset) (hx : inI32 m.x) (hy : inI32 m.y) :
    ∃ j, LineJoin.fromPoints a m b 1 off = some j ∧
      j.firstEdgeEnd = ⟨m, m⟩ ∧ j.secondEdgeStart = ⟨m, m⟩ := by
  unfold LineJoin.fromPoints
  rw [extents_width1, extents_width1]
  simp only [Option.bind_eq_bind, Option.bind_some, pure]
  exact ⟨_, rfl, fromExtents_width1_corners a m b hx hy⟩

theorem fromPoints_width1 (a m b : Pt) (hx : inI32 m.x) (hy : inI32 m.y) :
    ∃ j, LineJoin.fromPoints a m b 1 .none = some j ∧
      j.firstEdgeEnd = ⟨m, m⟩ ∧ j.secondEdgeStart = ⟨m, m⟩ :=
  fromPoints_width1_off a m b .none hx hy

end Joins
end EG
