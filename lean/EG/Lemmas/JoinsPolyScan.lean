/-
  EG.Lemmas.JoinsPolyScan — a stroked polyline whose vertices are moved by `d` yields the moved
  scanlines, hence `draw_thick` fills the moved rectangles. The segments move with the vertices
  (EG.Lemmas.JoinsPolyMove), their scanlines in a moved row are related by `SR`, and merging a row
  (`mergeRow`, EG.Lemmas.JoinsPolyRows) respects `SR`; what is left after dropping the empty
  scanlines is shifted exactly.
-/
import EG.Lemmas.JoinsPolyRows
set_option linter.unusedSimpArgs false
namespace EG
namespace Joins
open Thick (LineSide StrokeOffset)
open C01Thick (polyScanlineRun)

/-- A state of the row iterator of the moved polyline against the same state of the unmoved one: same
structure on the moved points, accumulator related by `SR`; the unmoved side carries the
no-saturation facts for everything it can still look at. The theorems below are about the closed
form of the rows (`polyRows`) and follow no state. -/
structure PIR (d : Pt) (it' it : PolyIntersections) : Prop where
  points : it'.points = it.points.map (· + d)
  remaining : it'.remainingPoints = it.remainingPoints.map (· + d)
  join : it'.nextStartJoin = it.nextStartJoin.map (·.translate d)
  width : it'.width = it.width
  scan : SR d it'.scanline it.scanline
  nsP : PolyNoSat it.width d it.points
  nsR : PolyNoSat it.width d it.remainingPoints

/-- Merging the scanlines of the moved segments in the moved row gives, after the empty scanlines are
dropped, the shifted scanlines of the row. -/
theorem mergeRow_moved (d : Pt) (y : Int) : ∀ (segs : List ThickSegment) {cur' cur : Scanline},
    SR d cur' cur →
    (mergeRow cur' ((segs.map (·.translate d)).map (·.intersection (y + d.y)))).filter (!·.isEmpty) =
      ((mergeRow cur (segs.map (·.intersection y))).filter (!·.isEmpty)).map (shiftS · d)
  | [], cur', cur, h => by
    simp only [List.map_nil, mergeRow]
    rcases (tryTake_SR h).1.cases with ⟨e', e⟩ | ⟨x', x, e', e, rfl⟩
    · rw [e', e]; rfl
    · rw [e', e]
      simp only [Option.toList_some, List.filter_cons, isEmpty_shiftS, List.filter_nil]
      split <;> rfl
  | s :: segs, cur', cur, h => by
    have hn := intersection_translate_segment s d y
    obtain ⟨hf, hm⟩ := tryExtend_SR h hn
    simp only [List.map_cons, mergeRow, hf]
    split
    · exact mergeRow_moved d y segs hm
    · simp only [List.filter_cons, SR_isEmpty h, mergeRow_moved d y segs hn]
      cases he : cur.isEmpty with
      | true => rfl
      | false => simp only [Bool.not_false, ↓reduceIte, List.map_cons, SR_of_nonempty h he]

theorem polyRows_moved (segs : List ThickSegment) (d : Pt) (r0 rEnd : Int) :
    polyRows (segs.map (·.translate d)) (r0 + d.y) (rEnd + d.y) =
      (polyRows segs r0 rEnd).map (shiftS · d) := by
  unfold polyRows polyRow
  rw [irange_shift, List.flatMap_map, List.map_flatMap]
  exact flatMap_congr_left _ _ _ fun y _ => mergeRow_moved d y segs (SR_newEmpty d y)

/-- `Rectangle::rows()` of the moved box does not saturate. -/
def RowsGuard (vs : List Pt) (w : Nat) (d : Pt) : Prop :=
  match untranslatedBoundingBox ⟨Pt.zero, vs⟩ w with
  | some bb => (bb.translate d).rowsEnd = bb.rowsEnd + d.y
  | none => True

instance (vs : List Pt) (w : Nat) (d : Pt) : Decidable (RowsGuard vs w d) := by
  unfold RowsGuard; split <;> exact inferInstance

theorem polyPixelFuel_eq_run (pl : Polyline) (w : Nat) :
    polyPixelFuel pl w =
      (polyScanlineRun pl w).map fun lines => (lines.map (fun s => (s.xe - s.xs).toNat)).sum + 1 :=
  (bind_bind_pure _ _ _).trans (by unfold polyScanlineRun; cases PolyScanlines.new pl w <;> rfl)

theorem polyScanlineRun_moved (vs : List Pt) (w : Nat) (d : Pt) (hw : 0 < w) (hn : 2 ≤ vs.length)
    (hns : PolyNoSat w d vs) (hg : BoxGuard vs w d) (hrows : RowsGuard vs w d) :
    polyScanlineRun ⟨Pt.zero, vs.map (· + d)⟩ w =
      (polyScanlineRun ⟨Pt.zero, vs⟩ w).map (·.map (shiftS · d)) := by
  rw [polyScanlineRun_eq_map _ _ ⟨hw, by simp only [List.length_map]; omega⟩,
    polyScanlineRun_eq_map _ _ ⟨hw, by show vs.length > 1; omega⟩]
  show (polySegments (vs.map (· + d)) w).map _ = _
  rw [segments_moved vs w d hn hns]
  unfold BoxGuard at hg
  unfold RowsGuard at hrows
  rw [untranslatedBoundingBox_eq _ _ ⟨hw, by show vs.length > 1; omega⟩] at hrows
  change match (polySegments vs w).map foldEdgeBoxes with | some bb => _ | none => True at hrows
  cases hp : polySegments vs w with
  | none => rfl
  | some segs =>
    rw [hp] at hg hrows
    cases segs with
    | nil => exact absurd hg (by simp)
    | cons s rest =>
      -- the box moves (`BoxGuard`), its rows move (`RowsGuard`), every row moves
      simp only [Option.map_some, Option.some.injEq] at hrows ⊢
      rw [foldEdgeBoxes_translate s rest d hg, hrows, Rect.translate_tl, Pt.add_y]
      exact polyRows_moved _ d _ _

theorem polyScanlineList_moved (vs : List Pt) (w : Nat) (d : Pt) (hw : 0 < w) (hn : 2 ≤ vs.length)
    (hns : PolyNoSat w d vs) (hg : BoxGuard vs w d) (hrows : RowsGuard vs w d) :
    OptRel (fun l' l => l' = l.map (shiftS · d))
      ((PolyScanlines.new ⟨Pt.zero, vs.map (· + d)⟩ w).bind PolyScanlines.toList)
      ((PolyScanlines.new ⟨Pt.zero, vs⟩ w).bind PolyScanlines.toList) := by
  have e : ∀ pl, (PolyScanlines.new pl w).bind PolyScanlines.toList = polyScanlineRun pl w :=
    fun pl => by unfold polyScanlineRun; cases PolyScanlines.new pl w <;> rfl
  rw [e, e, polyScanlineRun_moved vs w d hw hn hns hg hrows]
  cases polyScanlineRun ⟨Pt.zero, vs⟩ w
  · trivial
  · exact rfl

theorem rects_shift (l : List Scanline) (d : Pt) :
    ((l.map (shiftS · d)).map Scanline.toRectangle).filter (fun r => !r.isZeroSized) =
      ((l.map Scanline.toRectangle).filter (fun r => !r.isZeroSized)).map (·.translate d) := by
  induction l with
  | nil => rfl
  | cons s rest ih =>
    simp only [List.map_cons, List.filter_cons, toRectangle_shiftS, Rect.isZeroSized_translate]
    by_cases h : (!s.toRectangle.isZeroSized) = true
    · simp only [h, ↓reduceIte, List.map_cons, ih]
    · simp only [h, Bool.false_eq_true, ↓reduceIte, ih]

theorem drawThickRects_eq (pl : Polyline) (w : Nat) :
    drawThickRects pl w = (polyScanlineRun pl w).map
      (fun lines => (lines.map Scanline.toRectangle).filter (fun r => !r.isZeroSized)) :=
  (bind_bind_pure _ _ _).trans (by unfold polyScanlineRun; cases PolyScanlines.new pl w <;> rfl)

theorem drawThickRects_moved (vs : List Pt) (w : Nat) (d : Pt) (hw : 0 < w) (hn : 2 ≤ vs.length)
    (hns : PolyNoSat w d vs) (hg : BoxGuard vs w d) (hrows : RowsGuard vs w d) :
    drawThickRects ⟨Pt.zero, vs.map (· + d)⟩ w =
      (drawThickRects ⟨Pt.zero, vs⟩ w).map (·.map (·.translate d)) := by
  rw [drawThickRects_eq, drawThickRects_eq, polyScanlineRun_moved vs w d hw hn hns hg hrows]
  cases polyScanlineRun ⟨Pt.zero, vs⟩ w with
  | none => rfl
  | some l => exact congrArg some (rects_shift l d)

end Joins
end EG
