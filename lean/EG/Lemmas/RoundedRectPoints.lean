/-
  EG.Lemmas.RoundedRectPoints — `RoundedRectangle::points()` / `contains()`:
  * the `RoundedRectangleContains` of a rounded rectangle whose bounding box is in range has the
    geometry (`Geo`) the row lemma needs (the confined radii fit into the rectangle), hence
    `contains (x, y) ↔ xStart y ≤ x < xEnd y` in every row: `x_start .. x_end` is a correct row search
    (`rowScan`),
  * the `Points` iterator in closed form,
  * `points = bounding_box.points.filter contains`.
-/
import EG.Lemmas.RoundedRectRow
import EG.Lemmas.RowScan
namespace EG
namespace RoundedRect

/-- The bounding box does not saturate / overflow `i32` (decidable guard, as for the other shapes). -/
def InRange (r : RoundedRect) : Prop := r.rect.InRange
instance (r : RoundedRect) : Decidable r.InRange := by unfold InRange; exact inferInstance

/-! `get_confined_corner_quadrant` arm by arm. -/

theorem cq_tl (r : RoundedRect) : r.cornerQuadrant .topLeft =
    EllipseQuadrant.new r.rect.tl (r.corners.confine r.rect.size).tl .topLeft := rfl
theorem cq_tr (r : RoundedRect) : r.cornerQuadrant .topRight =
    EllipseQuadrant.new ⟨r.rect.tl.x + r.rect.size.w - (r.corners.confine r.rect.size).tr.w, r.rect.tl.y⟩
      (r.corners.confine r.rect.size).tr .topRight := rfl
theorem cq_br (r : RoundedRect) : r.cornerQuadrant .bottomRight =
    EllipseQuadrant.new ⟨r.rect.tl.x + r.rect.size.w - (r.corners.confine r.rect.size).br.w,
        r.rect.tl.y + r.rect.size.h - (r.corners.confine r.rect.size).br.h⟩
      (r.corners.confine r.rect.size).br .bottomRight := rfl
theorem cq_bl (r : RoundedRect) : r.cornerQuadrant .bottomLeft =
    EllipseQuadrant.new ⟨r.rect.tl.x, r.rect.tl.y + r.rect.size.h - (r.corners.confine r.rect.size).bl.h⟩
      (r.corners.confine r.rect.size).bl .bottomLeft := rfl

theorem new_eq (r : RoundedRect) (h : r.InRange) :
    RRContains.new r =
      { rowsStart := r.rect.tl.y, rowsEnd := r.rect.tl.y + r.rect.size.h,
        colsStart := r.rect.tl.x, colsEnd := r.rect.tl.x + r.rect.size.w,
        slStart := r.rect.tl.y + (r.corners.confine r.rect.size).tl.h,
        slEnd := r.rect.tl.y + r.rect.size.h - (r.corners.confine r.rect.size).bl.h,
        srStart := r.rect.tl.y + (r.corners.confine r.rect.size).tr.h,
        srEnd := r.rect.tl.y + r.rect.size.h - (r.corners.confine r.rect.size).br.h,
        topLeft := r.cornerQuadrant .topLeft, topRight := r.cornerQuadrant .topRight,
        bottomLeft := r.cornerQuadrant .bottomLeft, bottomRight := r.cornerQuadrant .bottomRight } := by
  unfold RRContains.new
  rw [Rect.rowsEnd_eq h, Rect.columnsEnd_eq h]
  rfl

theorem new_rows (r : RoundedRect) (h : r.InRange) :
    (RRContains.new r).rowsStart = r.rect.tl.y ∧
      (RRContains.new r).rowsEnd = r.rect.tl.y + r.rect.size.h := by
  rw [new_eq r h]
  exact ⟨rfl, rfl⟩

theorem new_cols (r : RoundedRect) (h : r.InRange) :
    (RRContains.new r).colsStart = r.rect.tl.x ∧
      (RRContains.new r).colsEnd = r.rect.tl.x + r.rect.size.w := by
  rw [new_eq r h]
  exact ⟨rfl, rfl⟩

theorem axis_lo_box {a : Int} {n ρ : Nat} (h : ρ ≤ n) : a ≤ a ∧ a + ρ ≤ a + n := by
  omega

theorem axis_hi_box {a : Int} {n ρ : Nat} (h : ρ ≤ n) : a ≤ a + n - ρ ∧ a + n - ρ + ρ ≤ a + n := by
  omega

/-- Every corner box lies in the rectangle (a confined radius is at most the side it lies along),
so it is in the `i32` range when the rectangle is. -/
theorem cornerQuadrant_bbox_inRange (r : RoundedRect) (h : r.InRange) (k : Quadrant) :
    (r.cornerQuadrant k).bbox.InRange := by
  obtain ⟨c1, c2, c3, c4, c5, c6, c7, c8⟩ := CornerRadii.confine_radius_le r.corners r.rect.size
  cases k
  · rw [cq_tl, EllipseQuadrant.new_bbox]
    exact Rect.InRange.of_within h (axis_lo_box c1) (axis_lo_box c2)
  · rw [cq_tr, EllipseQuadrant.new_bbox]
    exact Rect.InRange.of_within h (axis_hi_box c3) (axis_lo_box c4)
  · rw [cq_br, EllipseQuadrant.new_bbox]
    exact Rect.InRange.of_within h (axis_hi_box c5) (axis_hi_box c6)
  · rw [cq_bl, EllipseQuadrant.new_bbox]
    exact Rect.InRange.of_within h (axis_lo_box c7) (axis_hi_box c8)

theorem new_geo (r : RoundedRect) (h : r.InRange) : (RRContains.new r).Geo := by
  obtain ⟨c1, _, c3, _, c5, _, c7, _⟩ := CornerRadii.confine_radius_le r.corners r.rect.size
  obtain ⟨hcs, hce⟩ := new_cols r h
  have btl := cornerQuadrant_bbox_inRange r h .topLeft
  have btr := cornerQuadrant_bbox_inRange r h .topRight
  have bbr := cornerQuadrant_bbox_inRange r h .bottomRight
  have bbl := cornerQuadrant_bbox_inRange r h .bottomLeft
  rw [cq_tl] at btl
  rw [cq_tr] at btr
  rw [cq_br] at bbr
  rw [cq_bl] at bbl
  -- a left corner box starts at the first column and ends within the columns, a right one ends at
  -- the last column and starts within them; each is monotone towards its inner edge
  refine ⟨by rw [hcs, hce]; exact Int.le_add_of_nonneg_right (Int.natCast_nonneg _), ?_, ?_, ?_, ?_⟩
  · show (RRContains.new r).LeftOK (r.cornerQuadrant .topLeft)
    rw [cq_tl]
    exact .of_box btl hcs.symm (by rw [hce]; exact (axis_lo_box c1).2)
      (EllipseQuadrant.new_leftMono _ _ _ (Or.inl rfl) btl)
  · show (RRContains.new r).LeftOK (r.cornerQuadrant .bottomLeft)
    rw [cq_bl]
    exact .of_box bbl hcs.symm (by rw [hce]; exact (axis_lo_box c7).2)
      (EllipseQuadrant.new_leftMono _ _ _ (Or.inr rfl) bbl)
  · show (RRContains.new r).RightOK (r.cornerQuadrant .topRight)
    rw [cq_tr]
    exact .of_box btr (by rw [hce]; exact Int.sub_add_cancel _ _) (by rw [hcs]; exact (axis_hi_box c3).1)
      (EllipseQuadrant.new_rightMono _ _ _ (Or.inl rfl) btr)
  · show (RRContains.new r).RightOK (r.cornerQuadrant .bottomRight)
    rw [cq_br]
    exact .of_box bbr (by rw [hce]; exact Int.sub_add_cancel _ _) (by rw [hcs]; exact (axis_hi_box c5).1)
      (EllipseQuadrant.new_rightMono _ _ _ (Or.inr rfl) bbr)

/-- In every row `contains` accepts exactly the scanline of that row. -/
theorem contains_iff_row (r : RoundedRect) (h : r.InRange) (x y : Int) :
    r.contains ⟨x, y⟩ = true ↔
      (r.rect.tl.y ≤ y ∧ y < r.rect.tl.y + r.rect.size.h) ∧
        (RRContains.new r).xStart y ≤ x ∧ x < (RRContains.new r).xEnd y := by
  obtain ⟨a1, a2, a3⟩ := RRContains.xStart_spec (new_geo r h) y
  obtain ⟨b1, b2, b3⟩ := RRContains.xEnd_spec (new_geo r h) y
  unfold contains
  rw [RRContains.contains_iff, (new_rows r h).1, (new_rows r h).2]
  constructor
  · rintro ⟨hr, hc, hl, hrr⟩
    exact ⟨hr, (a3 x hc.1 hc.2).mp hl, (b3 x hc.1 hc.2).mp hrr⟩
  · rintro ⟨hr, h1, h2⟩
    have hc : (RRContains.new r).colsStart ≤ x ∧ x < (RRContains.new r).colsEnd := ⟨by omega, by omega⟩
    exact ⟨hr, hc, (a3 x hc.1 hc.2).mpr h1, (b3 x hc.1 hc.2).mpr h2⟩

/-- On the bounding box `contains` is the two corner tests of the row: the left corner's if the point
lies in that corner's columns, the right corner's likewise (both, when the boxes of opposite corners
overlap). -/
theorem contains_iff_corners (r : RoundedRect) (h : r.InRange) (p : Pt)
    (hb : r.boundingBox.contains p = true) :
    r.contains p = true ↔
      (∀ q, (RRContains.new r).leftCorner p.y = some q → p.x < q.colsEnd → q.contains p = true) ∧
      (∀ q, (RRContains.new r).rightCorner p.y = some q → q.colsStart ≤ p.x → q.contains p = true) := by
  unfold contains
  rw [RRContains.contains_iff, (new_rows r h).1, (new_rows r h).2, (new_cols r h).1, (new_cols r h).2]
  unfold boundingBox at hb
  rw [Rect.contains_iff] at hb
  constructor
  · rintro ⟨_, _, h3, h4⟩; exact ⟨h3, h4⟩
  · rintro ⟨h3, h4⟩; exact ⟨by omega, by omega, h3, h4⟩

/-- `contains` with the row first, as `RowScan` takes its test. -/
def hit (r : RoundedRect) (y x : Int) : Bool := r.contains ⟨x, y⟩

theorem rowScan (r : RoundedRect) (h : r.InRange) :
    RowScan (hit r) r.rect.tl.x (r.rect.tl.x + r.rect.size.w) r.rect.tl.y (r.rect.tl.y + r.rect.size.h)
      (fun y => some ((RRContains.new r).row y)) := by
  refine ⟨fun hx => ((contains_iff_row r h _ _).mp hx).1, fun _ _ hr => (by cases hr),
    fun {y s} h1 h2 hr => ?_⟩
  cases hr
  obtain ⟨a1, a2, _⟩ := RRContains.xStart_spec (new_geo r h) y
  obtain ⟨b1, b2, _⟩ := RRContains.xEnd_spec (new_geo r h) y
  rw [(new_cols r h).1] at a1 b1
  rw [(new_cols r h).2] at a2 b2
  refine ⟨rfl, ⟨a1, a2, b1, b2⟩, fun x => ?_⟩
  unfold hit
  rw [contains_iff_row r h]
  exact ⟨fun hc => hc.2, fun hc => ⟨⟨h1, h2⟩, hc⟩⟩

theorem scanlines_toList_eq (r : RoundedRect) (h : r.InRange) :
    r.scanlines.toList =
      rowLines (fun y => some ((RRContains.new r).row y)) r.rect.tl.y (r.rect.tl.y + r.rect.size.h) := by
  unfold scanlines rowLines
  rw [RRContains.toList_eq, (new_rows r h).1, (new_rows r h).2, List.filterMap_eq_map']

/-- What `Points` still yields: the points of the current scanline, then those of the scanlines left. -/
def PointsIt.rest (it : PointsIt) : List Pt :=
  it.current.points ++ it.scanlines.rest.flatMap Scanline.points

/-- The loop of `Points::next` skips empty scanlines; every turn consumes a row. -/
theorem PointsIt.nextFuel_yields : ∀ (fuel : Nat) (it : PointsIt), it.scanlines.rest.length < fuel →
    it.rest = unroll (it.nextFuel fuel) PointsIt.rest := by
  intro fuel
  induction fuel with
  | zero => intro it h; omega
  | succ fuel ih =>
    intro it h
    unfold PointsIt.nextFuel PointsIt.rest
    rw [Scanline.yields it.current]
    cases it.current.next with
    | some q => rfl
    | none =>
      rw [RRContains.yields it.scanlines] at h ⊢
      revert h
      cases it.scanlines.next with
      | none => intro _; rfl
      | some q => intro h; exact ih ⟨q.2, q.1⟩ (Nat.lt_of_succ_lt_succ h)

theorem PointsIt.yields : Yields PointsIt.next PointsIt.rest := fun it =>
  PointsIt.nextFuel_yields _ it (by
    unfold RRContains.rest
    rw [List.length_map, irange_length]
    exact Nat.lt_succ_self _)

theorem PointsIt.drains : Drains PointsIt.next PointsIt.toListFuel :=
  ⟨fun _ => rfl, fun n it => by rw [PointsIt.toListFuel]; cases it.next <;> rfl⟩

/-- `nextFuel` does not depend on the fuel once it exceeds the number of rows left: a turn of the
loop that does not return consumes a row. -/
theorem PointsIt.nextFuel_stable : ∀ (f1 f2 : Nat) (it : PointsIt),
    (it.scanlines.rowsEnd - it.scanlines.rowsStart).toNat < f1 →
    (it.scanlines.rowsEnd - it.scanlines.rowsStart).toNat < f2 → it.nextFuel f1 = it.nextFuel f2 :=
  loop_stable (fun it : PointsIt => (it.scanlines.rowsEnd - it.scanlines.rowsStart).toNat) fun n m it h => by
    unfold PointsIt.nextFuel
    cases it.current.next with
    | some v => rfl
    | none =>
      dsimp only
      unfold RRContains.next
      by_cases hy : it.scanlines.rowsStart < it.scanlines.rowsEnd
      · simp only [hy, ↓reduceIte]
        exact h _ (by dsimp only; omega)
      · simp only [hy, ↓reduceIte]

theorem PointsIt.toListFuel_eq (fuel : Nat) (it : PointsIt) (h : it.rest.length < fuel) :
    it.toListFuel fuel = it.rest :=
  PointsIt.drains.eq_rest PointsIt.yields (Nat.le_of_lt h)

theorem PointsIt.rest_length (it : PointsIt) : it.rest.length = it.budget := by
  unfold PointsIt.rest PointsIt.budget RRContains.rest
  rw [List.length_append, Scanline.points_length, List.flatMap_map, List.length_flatMap]
  congr 2
  apply List.map_congr_left
  intro y _
  exact Scanline.points_length _

theorem points_eq_rows (r : RoundedRect) :
    r.points = (irange (RRContains.new r).rowsStart (RRContains.new r).rowsEnd).flatMap
      (fun y => ((RRContains.new r).row y).points) := by
  unfold points
  simp only
  rw [PointsIt.toListFuel_eq _ _ (by rw [PointsIt.rest_length]; omega)]
  unfold PointsIt.rest pointsIt scanlines RRContains.rest
  simp only
  have : (Scanline.newEmpty 0).points = [] := Scanline.points_empty (by decide)
  rw [this, List.nil_append, List.flatMap_map]

theorem points_eq_filter (r : RoundedRect) (h : r.InRange) :
    r.points = r.boundingBox.points.filter r.contains := by
  have hp := (rowScan r h).flatMap_points
  unfold rowLines at hp
  rw [List.filterMap_eq_map', List.flatMap_map] at hp
  rw [points_eq_rows, (new_rows r h).1, (new_rows r h).2]
  unfold boundingBox
  rw [Rect.points_eq_grid (Or.inr h)]
  exact hp

end RoundedRect
end EG
