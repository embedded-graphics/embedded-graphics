/-
  EG.Lemmas.ThickBBoxRun — the order of the parallels of a stroked line (`StrokeOffset::None`).

  One side, in the coordinates of the closed form (`pos i j`, EG.Lemmas.ThickClosed): the quadrant order
  `Cone` of the perpendicular walk, seen in the direction of the side (`LineSide.diff`), is the order of
  the coordinates (`cone_pos`), and the shortening `red(extra) = major + minor` of an extra parallel in
  `Line::extents` undoes the shift of its start point up to a diagonal step (`adj_extra`: this is where
  `mirror_extra_points` and the shortening fit together).

  The whole run of the `ParallelsIterator`: the list of parallels it yields, and the order theorem: in
  the quadrant order of the perpendicular walk, every parallel starts between the LAST right and the
  LAST left parallel, and so does its (shortened) end - the two pairs of corners `Line::extents` returns.
-/
import EG.Lemmas.ThickClosed
import EG.Lemmas.ThickBBoxFrame
import EG.Lemmas.ThickRun
set_option linter.unusedSimpArgs false

namespace EG
namespace Thick
open ParallelsIterator

namespace StrokeCtx

/-- The shortening of a parallel in `Line::extents`. -/
def redOf (c : StrokeCtx) : ParallelLineType → Pt
  | .normal => ⟨0, 0⟩
  | .extra => c.M + c.m

end StrokeCtx

/-- `a - b` seen in the direction of the side's walk. -/
def LineSide.diff : LineSide → Pt → Pt → Pt
  | .left, a, b => a - b
  | .right, a, b => b - a

/-- Point (in)equalities by coordinates. -/
macro "pt_arith" : tactic =>
  `(tactic| (simp only [Pt.ext_iff', Pt.add_x, Pt.add_y, Pt.sub_x, Pt.sub_y, Pt.zero,
      StrokeCtx.redOf, LineSide.move, LineSide.diff, LineSide.swap] at * <;> omega))

theorem cone_of_zero (A a : Pt) {v : Pt} (e : v = ⟨0, 0⟩) : Cone A a v := by
  subst e; unfold Cone; simp

theorem diff_pos (c : StrokeCtx) (s0 : Pt) (s : LineSide) (a b a2 b2 : Int) :
    s.diff (pos c s0 s a2 b2) (pos c s0 s a b) = smul (a2 - a) c.M' + smul (b2 - b) c.m' := by
  unfold pos
  rw [Pt.ext_iff']
  cases s <;> simp only [LineSide.diff, LineSide.sgn, Pt.add_x, Pt.add_y, Pt.sub_x, Pt.sub_y, smul_x,
    smul_y] <;> constructor <;> ring

theorem cone_comb {A a : Pt} (h : AxisPair A a) {x y : Int} (hx : 0 ≤ x) (hy : 0 ≤ y) :
    Cone A a (smul x A + smul y a) := by
  obtain ⟨⟨h1, h2⟩, h3, h4⟩ := axisPair_mul_nonneg h
  unfold Cone
  simp only [Pt.add_x, Pt.add_y, smul_x, smul_y] at *
  rw [Int.mul_add, Int.mul_add, Int.mul_left_comm, Int.mul_left_comm _ y, Int.mul_left_comm _ x A.y,
    Int.mul_left_comm _ y a.y]
  exact ⟨Int.add_nonneg (Int.mul_nonneg hx h1) (Int.mul_nonneg hy h3),
    Int.add_nonneg (Int.mul_nonneg hx h2) (Int.mul_nonneg hy h4)⟩

theorem cone_pos {c : StrokeCtx} (hax : AxisPair c.M' c.m') (s0 : Pt) (s : LineSide) {a b a2 b2 : Int}
    (h1 : a ≤ a2) (h2 : b ≤ b2) : Cone c.M' c.m' (s.diff (pos c s0 s a2 b2) (pos c s0 s a b)) := by
  rw [diff_pos]
  exact cone_comb hax (by omega) (by omega)

/-- The bound on the initial error of a parallel. -/
def ErrOK (c : StrokeCtx) (b : Bresenham) (ty : ParallelLineType) : Prop :=
  (ty = .normal → b.error ≤ c.D) ∧ (ty = .extra → b.error ≤ 2 * c.d - c.D ∧ 0 < c.d)

/-- The relation between the step vectors of the line and of its perpendicular, by the shift of the
side's extra points (`mirror_extra_points` on the left, its negation on the right). -/
theorem red_shift (c : StrokeCtx) (hv : c.Valid) (hd : 0 < c.d) (it : ParallelsIterator)
    (hperp : it.perpendicularParameters = c.perp) (s : LineSide) :
    (it.shift s = true → s.move ⟨0, 0⟩ (c.M + c.m) = c.m' - c.M') ∧
    (it.shift s = false → s.move ⟨0, 0⟩ (c.M + c.m) = c.M' - c.m') := by
  obtain ⟨hm1, hm2⟩ := hv.red hd
  cases s <;> simp only [ParallelsIterator.shift, hperp, Bool.not_eq_true', Bool.not_eq_false'] <;>
    constructor <;> intro hm
  · have := hm1 hm; pt_arith
  · have := hm2 hm; pt_arith
  · have := hm2 hm; pt_arith
  · have := hm1 hm; pt_arith

/-- The shortened end of an `Extra` parallel, in coordinates: a shifted one starts at `(i - 1, j + 1)` and
ends at `(i, j)`, one that is not shifted the other way round. -/
theorem adj_extra (c : StrokeCtx) (s0 : Pt) (s : LineSide) (i j : Int) :
    (s.move ⟨0, 0⟩ (c.M + c.m) = c.m' - c.M' →
      pos c s0 s (i - 1) (j + 1) - c.redOf .extra = pos c s0 s i j) ∧
    (s.move ⟨0, 0⟩ (c.M + c.m) = c.M' - c.m' →
      pos c s0 s i j - c.redOf .extra = pos c s0 s (i - 1) (j + 1)) := by
  unfold pos StrokeCtx.redOf
  constructor <;> intro h <;> rw [Pt.ext_iff'] at h ⊢ <;> obtain ⟨hx, hy⟩ := h <;>
    cases s <;> simp only [LineSide.move, LineSide.sgn, Pt.add_x, Pt.add_y, Pt.sub_x, Pt.sub_y, smul_x,
      smul_y, Int.one_mul, Int.neg_mul, Int.sub_mul, Int.add_mul] at hx hy ⊢ <;> constructor <;> omega

/-- Start point and type of a parallel. -/
abbrev Last := Pt × ParallelLineType

/-- The last left and the last right parallel of a list of parallels (`Line::extents`). -/
def lasts : List ParItem → Last × Last → Last × Last
  | [], acc => acc
  | (.left, b, ty) :: xs, (_, R) => lasts xs ((b.point, ty), R)
  | (.right, b, ty) :: xs, (L, _) => lasts xs (L, (b.point, ty))

/-- The start of a parallel minus its shortening. -/
def adj (c : StrokeCtx) (x : Last) : Pt := x.1 - c.redOf x.2

theorem lasts_cons (s : LineSide) (b : Bresenham) (ty : ParallelLineType) (xs : List ParItem)
    (acc : Last × Last) : lasts ((s, b, ty) :: xs) acc = lasts xs (s.put (b.point, ty) acc) := by
  cases s <;> rfl

/-- The last parallel `last` of a side against the side's counters `(i, j)` (`Side`, EG.Lemmas.ThickClosed):
its start `(a, b)` and its shortened end `(a', b')`, in the coordinates of the walk from the centre line
`ctr`, lie behind the walker, and a full major step behind it when the walker has an `Extra` point ahead
(`¬ R`): an `Extra` point follows a major step. -/
def LastC (c : StrokeCtx) (ctr : Pt) (s : LineSide) (last : Last) (i j : Int) (R : Prop) : Prop :=
  ∃ a b a' b' : Int, last.1 = pos c ctr s a b ∧ adj c last = pos c ctr s a' b' ∧
    (0 ≤ a ∧ 0 ≤ b ∧ 0 ≤ a' ∧ 0 ≤ b') ∧ (a ≤ i ∧ b ≤ j ∧ a' ≤ i ∧ b' ≤ j) ∧
    (¬ R → a ≤ i - 1 ∧ a' ≤ i - 1)

theorem LastC.beyond {c : StrokeCtx} {ctr : Pt} {s : LineSide} {last : Last} {i j : Int} {R : Prop}
    (h : LastC c ctr s last i j R) (hax : AxisPair c.M' c.m') :
    Cone c.M' c.m' (s.diff last.1 ctr) ∧ Cone c.M' c.m' (s.diff (adj c last) ctr) := by
  obtain ⟨a, b, a', b', e1, e2, ⟨n1, n2, n3, n4⟩, -, -⟩ := h
  have hz := pos_zero c ctr s
  exact ⟨by rw [e1]; nth_rewrite 2 [← hz]; exact cone_pos hax ctr s n1 n2,
    by rw [e2]; nth_rewrite 2 [← hz]; exact cone_pos hax ctr s n3 n4⟩

theorem adj_normal (c : StrokeCtx) (P : Pt) : adj c (P, .normal) = P := by
  unfold adj StrokeCtx.redOf
  rw [Pt.ext_iff']
  simp

/-- **The returned parallel starts, and ends, beyond the last one of its side** (`StartOK`): a `Normal`
one at the walker `(i, j + k)`; an `Extra` one, which follows a major step, at `(i - 1, j + 1)` with its
shortened end at `(i, j)` if it is shifted, the other way round if not. -/
theorem next_order (c : StrokeCtx) (hv : c.Valid) (fl : Bool) (ctr : Pt) (s : LineSide)
    (it it' : ParallelsIterator) (hperp : it.perpendicularParameters = c.perp) (last : Last)
    (i j E : Int) (b : Bresenham) (ty : ParallelLineType) (x : Int) (k : Nat)
    (hS : Side c fl ctr s (it.walk s) (it.sideError s) i j E)
    (hL : LastC c ctr s last i j (s.sgn * (it.walk s).error ≤ c.D - s.eps))
    (hst : StartOK c fl ctr s it it' i j E b ty x k) :
    Cone c.M' c.m' (s.diff b.point last.1) ∧ Cone c.M' c.m' (s.diff (adj c (b.point, ty)) (adj c last)) ∧
    ErrOK c b ty ∧
    LastC c ctr s (b.point, ty) (i + 1 - x) (j + k + x) (s.sgn * (it'.walk s).error ≤ c.D - s.eps) := by
  obtain ⟨a, b0, a', b', e1, e2, ⟨n1, n2, n3, n4⟩, ⟨l1, l2, l3, l4⟩, hR⟩ := hL
  rcases hst with ⟨rfl, rfl, w, hp, hw, -⟩ | ⟨rfl, rfl, rfl, hp, -, hd, hr, hr', -, he, -⟩
  · have hP : b.point = pos c ctr s i (j + k) := hp.trans hw.pos
    have hadj := adj_normal c b.point
    have c1 : Cone c.M' c.m' (s.diff b.point last.1) := by
      rw [e1, hP]; exact cone_pos hv.ax' ctr s l1 (by omega)
    have c2 : Cone c.M' c.m' (s.diff (adj c (b.point, .normal)) (adj c last)) := by
      rw [hadj, e2, hP]; exact cone_pos hv.ax' ctr s l3 (by omega)
    exact ⟨c1, c2, ⟨fun _ => hw.bnd.e2, nofun⟩, i, j + k, i, j + k, hP, hadj.trans hP,
      ⟨by omega, by omega, by omega, by omega⟩, ⟨by omega, by omega, by omega, by omega⟩,
      fun _ => ⟨by omega, by omega⟩⟩
  · obtain ⟨g1, g2⟩ := hR hr
    obtain ⟨r1, r2⟩ := red_shift c hv hd it hperp s
    obtain ⟨q1, q2⟩ := adj_extra c ctr s i j
    have hE : ErrOK c b .extra := ⟨nofun, fun _ => ⟨he, hd⟩⟩
    unfold ParallelsIterator.extraStart at hp
    rw [hperp, hS.pos] at hp
    by_cases hsh : it.shift s = true
    · rw [if_pos hsh] at hp
      have hP : b.point = pos c ctr s (i - 1) (j + 1) :=
        hp.trans (by
          show s.swap.move (s.move _ c.m') c.M' = _
          rw [pos_move_minor, pos_swap_move_major])
      have hadj : adj c (b.point, .extra) = pos c ctr s i j := by
        show b.point - _ = _
        rw [hP]
        exact q1 (r1 hsh)
      have c1 : Cone c.M' c.m' (s.diff b.point last.1) := by
        rw [e1, hP]; exact cone_pos hv.ax' ctr s (by omega) (by omega)
      have c2 : Cone c.M' c.m' (s.diff (adj c (b.point, .extra)) (adj c last)) := by
        rw [hadj, e2]; exact cone_pos hv.ax' ctr s (by omega) (by omega)
      exact ⟨c1, c2, hE, i - 1, j + 1, i, j, hP, hadj, ⟨by omega, by omega, by omega, by omega⟩,
        ⟨by omega, by omega, by omega, by omega⟩, fun h => absurd hr' h⟩
    · rw [if_neg hsh] at hp
      have hadj : adj c (b.point, .extra) = pos c ctr s (i - 1) (j + 1) := by
        show b.point - _ = _
        rw [hp]
        exact q2 (r2 (by simpa using hsh))
      have c1 : Cone c.M' c.m' (s.diff b.point last.1) := by
        rw [e1, hp]; exact cone_pos hv.ax' ctr s (by omega) (by omega)
      have c2 : Cone c.M' c.m' (s.diff (adj c (b.point, .extra)) (adj c last)) := by
        rw [hadj, e2]; exact cone_pos hv.ax' ctr s (by omega) (by omega)
      exact ⟨c1, c2, hE, i, j, i - 1, j + 1, hp, hadj, ⟨by omega, by omega, by omega, by omega⟩,
        ⟨by omega, by omega, by omega, by omega⟩, fun h => absurd hr' h⟩

/-- The invariant of the iterator between two calls of `next`: its two sides in closed form (walking from
the centre line `ctr`), and `LR`, the last left / right parallels so far (the centre line stands in
before the first one), behind their walkers. -/
structure GInv (c : StrokeCtx) (ctr : Pt) (it : ParallelsIterator) (LR : Last × Last) : Prop where
  hoff : it.strokeOffset = .none
  closed : ∃ (fl : Bool) (I J E : Int × Int), Closed c fl ctr it I J E ∧
    ∀ s : LineSide, LastC c ctr s (s.pick LR) (s.pick I) (s.pick J)
      (s.sgn * (it.walk s).error ≤ c.D - s.eps)

theorem GInv.hperp {c : StrokeCtx} {ctr : Pt} {it : ParallelsIterator} {LR : Last × Last}
    (h : GInv c ctr it LR) : it.perpendicularParameters = c.perp := by
  obtain ⟨_, _, _, _, h, _⟩ := h.closed
  exact h.hperp

theorem GInv.hpp {c : StrokeCtx} {ctr : Pt} {it : ParallelsIterator} {LR : Last × Last}
    (h : GInv c ctr it LR) : it.parallelParameters = c.pp := by
  obtain ⟨_, _, _, _, h, _⟩ := h.closed
  exact h.hpp

theorem GInv.beyond {c : StrokeCtx} {ctr : Pt} {it : ParallelsIterator} {LR : Last × Last}
    (h : GInv c ctr it LR) (hax : AxisPair c.M' c.m') (s : LineSide) :
    Cone c.M' c.m' (s.diff (s.pick LR).1 ctr) ∧ Cone c.M' c.m' (s.diff (adj c (s.pick LR)) ctr) := by
  obtain ⟨_, _, _, _, _, hL⟩ := h.closed
  exact (hL s).beyond hax

theorem next_spec (c : StrokeCtx) (hv : c.Valid) (ctr : Pt) (it it' : ParallelsIterator)
    (LR : Last × Last) (hg : GInv c ctr it LR) (b : Bresenham) (ty : ParallelLineType)
    (h : it.next = some (some (b, ty), it')) :
    ErrOK c b ty ∧ it'.nextSide = it.nextSide.swap ∧
    GInv c ctr it' (it.nextSide.put (b.point, ty) LR) ∧
    Cone c.M' c.m' (it.nextSide.diff b.point (it.nextSide.pick LR).1) ∧
    Cone c.M' c.m' (it.nextSide.diff (adj c (b.point, ty)) (adj c (it.nextSide.pick LR))) := by
  obtain ⟨fl, I, J, E, hcl, hL⟩ := hg.closed
  obtain ⟨hacc, _, w', e', -, -, hit'⟩ := next_some it it' b ty h
  obtain ⟨b', ty', it'', x, k, hn, -, hst, hcl', -, -, hoff', hside'⟩ :=
    next_pos c hv fl ctr it I J E hcl hacc
  rw [h] at hn
  simp only [Option.some.injEq, Prod.mk.injEq] at hn
  obtain ⟨⟨rfl, rfl⟩, rfl⟩ := hn
  obtain ⟨g1, g2, g3, g4⟩ := next_order c hv fl ctr it.nextSide it it' hcl.hperp _ _ _ _ b ty x k
    (hcl.side _) (hL _) hst
  refine ⟨g3, by rw [hside', hg.hoff, if_pos rfl], ⟨hoff'.trans hg.hoff, fl, _, _, _, hcl', fun s => ?_⟩,
    g1, g2⟩
  by_cases hs : s = it.nextSide
  · rw [hs, LineSide.pick_put, LineSide.pick_put, LineSide.pick_put]
    exact g4
  · rw [LineSide.pick_put_ne hs, LineSide.pick_put_ne hs, LineSide.pick_put_ne hs]
    -- the walker of the other side has not moved
    have hw : it'.walk s = it.walk s := by
      rw [hit', (walk_next_update _ _ _ s).1, walk_setSide_ne it hs]
    rw [hw]
    exact hL s

/-- **The order theorem for the run.** With `(Lf, Rf)` the last left / right parallels of the run
from a state satisfying the invariant: `Lf >= L`, `R >= Rf`, `Lf >= ctr >= Rf` (starts and
shortened ends), and every parallel `x` of the run lies between: `Lf >= x >= Rf` (starts and
shortened ends), with the bound on its initial error. -/
theorem run_order (c : StrokeCtx) (hv : c.Valid) (ctr : Pt) :
    ∀ (F : Nat) (it : ParallelsIterator) (L R : Last), GInv c ctr it (L, R) →
    Cone c.M' c.m' ((lasts (runPar F it) (L, R)).1.1 - L.1) ∧
    Cone c.M' c.m' (adj c (lasts (runPar F it) (L, R)).1 - adj c L) ∧
    Cone c.M' c.m' (R.1 - (lasts (runPar F it) (L, R)).2.1) ∧
    Cone c.M' c.m' (adj c R - adj c (lasts (runPar F it) (L, R)).2) ∧
    ∀ x ∈ runPar F it,
      Cone c.M' c.m' ((lasts (runPar F it) (L, R)).1.1 - x.2.1.point) ∧
      Cone c.M' c.m' (x.2.1.point - (lasts (runPar F it) (L, R)).2.1) ∧
      Cone c.M' c.m' (adj c (lasts (runPar F it) (L, R)).1 - adj c (x.2.1.point, x.2.2)) ∧
      Cone c.M' c.m' (adj c (x.2.1.point, x.2.2) - adj c (lasts (runPar F it) (L, R)).2) ∧
      ErrOK c x.2.1 x.2.2
  | 0, it, L, R, _ => by
    simp only [runPar, lasts]
    exact ⟨cone_zero _ _ _, cone_zero _ _ _, cone_zero _ _ _, cone_zero _ _ _, by intro x hx; cases hx⟩
  | F + 1, it, L, R, hg => by
    unfold runPar
    cases hn : it.next with
    | none =>
      simp only [lasts]
      exact ⟨cone_zero _ _ _, cone_zero _ _ _, cone_zero _ _ _, cone_zero _ _ _, by intro x hx; cases hx⟩
    | some r =>
      obtain ⟨o, it'⟩ := r
      cases o with
      | none =>
        simp only [lasts]
        exact ⟨cone_zero _ _ _, cone_zero _ _ _, cone_zero _ _ _, cone_zero _ _ _,
          by intro x hx; cases hx⟩
      | some r' =>
        obtain ⟨b, ty⟩ := r'
        simp only
        obtain ⟨herr, _, hg', c1, c2⟩ := next_spec c hv ctr it it' (L, R) hg b ty hn
        -- the centre line lies between the last parallels of the two sides
        obtain ⟨oL, oLa⟩ := hg'.beyond hv.ax' .left
        obtain ⟨oR, oRa⟩ := hg'.beyond hv.ax' .right
        rw [lasts_cons]
        cases hs : it.nextSide with
        | left =>
          rw [hs] at hg' c1 c2 oL oR oLa oRa
          obtain ⟨i1, i2, i3, i4, i5⟩ := run_order c hv ctr F it' (b.point, ty) R hg'
          refine ⟨cone_trans hv.ax' c1 i1, cone_trans hv.ax' c2 i2, i3, i4, ?_⟩
          intro x hx
          rcases List.mem_cons.mp hx with rfl | hx
          · exact ⟨i1, cone_trans hv.ax' i3 (cone_trans hv.ax' oR oL), i2,
              cone_trans hv.ax' i4 (cone_trans hv.ax' oRa oLa), herr⟩
          · exact i5 x hx
        | right =>
          rw [hs] at hg' c1 c2 oL oR oLa oRa
          obtain ⟨i1, i2, i3, i4, i5⟩ := run_order c hv ctr F it' L (b.point, ty) hg'
          refine ⟨i1, i2, cone_trans hv.ax' i3 c1, cone_trans hv.ax' i4 c2, ?_⟩
          intro x hx
          rcases List.mem_cons.mp hx with rfl | hx
          · exact ⟨cone_trans hv.ax' (cone_trans hv.ax' oR oL) i1, i3,
              cone_trans hv.ax' (cone_trans hv.ax' oRa oLa) i2, i4, herr⟩
          · exact i5 x hx

end Thick
end EG
