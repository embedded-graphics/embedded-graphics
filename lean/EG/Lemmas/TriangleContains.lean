/-
  EG.Lemmas.TriangleContains — `Triangle::contains`: characterisation, bounding box, degenerate
  triangles, independence of the vertex order (the barycentric test is symmetric up to the sign of
  the area: the identities of EG.Lemmas.TriangleArith), the three-half-plane reading.
-/
import EG.Lemmas.Triangle
namespace EG
namespace Triangle

theorem contains_iff (t : Triangle) (p : Pt) :
    t.contains p = true ↔
      t.boundingBox.contains p = true ∧ t.areaDoubled ≠ 0 ∧
        (t.isInside p = true ∨ p ∈ t.edgePoints) := by
  unfold contains containsWith
  by_cases hb : t.boundingBox.contains p = true
  · by_cases ha : t.areaDoubled = 0
    · simp [hb, ha]
    · by_cases hi : t.isInside p = true
      · simp [hb, ha, hi]
      · simp only [hb, ha, hi, Bool.not_true, Bool.false_eq_true, ↓reduceIte, List.any_eq_true,
          beq_iff_eq, ne_eq, not_false_eq_true, true_and, false_or]
        constructor
        · rintro ⟨q, hq, rfl⟩; exact hq
        · intro h; exact ⟨p, h, rfl⟩
  · simp [hb]

theorem contains_in_bbox (t : Triangle) (p : Pt) (h : t.contains p = true) :
    t.boundingBox.contains p = true := ((contains_iff t p).mp h).1

theorem contains_colinear_false (t : Triangle) (p : Pt) (h : t.areaDoubled = 0) :
    t.contains p = false := by
  cases hc : t.contains p with
  | false => rfl
  | true => exact absurd h ((contains_iff t p).mp hc).2.1

theorem isInside_iff (t : Triangle) (p : Pt) :
    t.isInside p = true ↔
      (t.areaDoubled < 0 ∧ t.baryS p ≤ 0 ∧ t.baryT p ≤ 0 ∧ t.areaDoubled ≤ t.baryS p + t.baryT p) ∨
      (0 ≤ t.areaDoubled ∧ 0 ≤ t.baryS p ∧ 0 ≤ t.baryT p ∧ t.baryS p + t.baryT p ≤ t.areaDoubled) := by
  unfold isInside
  dsimp only
  split <;> rw [decide_eq_true_eq] <;> omega

theorem isInside_swap12 (a b c p : Pt) : isInside ⟨b, a, c⟩ p = isInside ⟨a, b, c⟩ p := by
  rw [Bool.eq_iff_iff, isInside_iff, isInside_iff, baryS_swap12 a b c p, baryT_swap12 a b c p,
    areaDoubled_swap12 a b c]
  omega

theorem isInside_swap23 (a b c p : Pt) : isInside ⟨a, c, b⟩ p = isInside ⟨a, b, c⟩ p := by
  rw [Bool.eq_iff_iff, isInside_iff, isInside_iff, baryS_swap23 a b c p, baryT_swap23 a b c p,
    areaDoubled_swap23 a b c]
  omega

theorem isInside_of_mem_orders {t t' : Triangle} (h : t' ∈ orders t) (p : Pt) :
    t'.isInside p = t.isInside p :=
  eq_of_mem_orders (fun t => t.isInside p) (fun a b c => isInside_swap12 a b c p)
    (fun a b c => isInside_swap23 a b c p) h

theorem contains_of_mem_orders {t t' : Triangle} (h : t' ∈ orders t) (p : Pt) :
    t'.contains p = t.contains p := by
  unfold contains containsWith
  rw [boundingBox_of_mem_orders h, isInside_of_mem_orders h, edgePoints_of_mem_orders h]
  simp only [areaDoubled_eq_zero_iff_of_mem_orders h]

/-- For a non-degenerate triangle the `is_inside` block accepts exactly the points of the closed
mathematical triangle: the three edge functions `v1 v2`, `v2 v3`, `v3 v1` at `p` are all `≥ 0` or
all `≤ 0` (according to the orientation). -/
theorem isInside_iff_half_planes (t : Triangle) (p : Pt) (h : t.areaDoubled ≠ 0) :
    t.isInside p = true ↔
      (0 ≤ edgeFn t.v1 t.v2 p ∧ 0 ≤ edgeFn t.v2 t.v3 p ∧ 0 ≤ edgeFn t.v3 t.v1 p ∧
        0 < edgeFn t.v1 t.v2 t.v3) ∨
      (edgeFn t.v1 t.v2 p ≤ 0 ∧ edgeFn t.v2 t.v3 p ≤ 0 ∧ edgeFn t.v3 t.v1 p ≤ 0 ∧
        edgeFn t.v1 t.v2 t.v3 < 0) := by
  rw [isInside_iff, edgeFn_12, edgeFn_23, edgeFn_31, edgeFn_area]
  omega

end Triangle
end EG
