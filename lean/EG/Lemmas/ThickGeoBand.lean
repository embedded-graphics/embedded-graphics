/-
  EG.Lemmas.ThickGeoBand — how far from the ideal line a stroked line reaches.
  A parallel in band `n` is fetched after `2|n| - 1` (left) or `2|n|` (right) other parallels, at a
  moment when `acc^2 <= threshold` (`run_fetch`); every earlier parallel has added `2 D` to the accumulator,
  except the `Extra` ones, which add only `2 d` although they, too, move the stroke one full band
  (`D / L` px) outwards. Hence, with `E` the number of `Extra` parallels of the run,
      4 D |n| <= acc + D - d + 2 (D - d) E,      acc <= 2 w L,
  and a pixel of band `n` has `2 |cross| <= 2 D |n| + D`.
-/
import EG.Lemmas.ThickGeoMain
set_option linter.unusedSimpArgs false
set_option linter.unnecessarySeqFocus false
namespace EG
namespace Thick
open ParallelsIterator StrokeCtx Line

/-- `E` is the number of `Extra` parallels the iterator of the stroke yields. -/
def ExtraParallels (l : Line) (w : Nat) (E : Int) : Prop :=
  ∃ it xs, ParallelsIterator.new l (satAsI32 w) .none = some it ∧ Run it xs ∧ E = exCount xs

theorem extraParallels_unique (l : Line) (w : Nat) (E E' : Int) (h : ExtraParallels l w E)
    (h' : ExtraParallels l w E') : E = E' := by
  obtain ⟨it, xs, h1, h2, rfl⟩ := h
  obtain ⟨it', xs', h1', h2', rfl⟩ := h'
  obtain rfl := Option.some.inj (h1.symm.trans h1')
  rw [run_unique h2 h2']

theorem exCount_zero (c : StrokeCtx) (s : Pt) (hd : c.d = 0) :
    ∀ xs : List ParItem, (∀ x ∈ xs, ∃ K, ParOK c s K x.2.1 x.2.2) → exCount xs = 0
  | [], _ => rfl
  | x :: xs, h => by
    unfold exCount
    rw [exCount_zero c s hd xs (fun y hy => h y (List.mem_cons_of_mem _ hy))]
    obtain ⟨K, _, _, _, hx⟩ := h x List.mem_cons_self
    split
    · rename_i hty; have := hx hty; omega
    · rfl

/-- **How far from the ideal line the stroke reaches**: for every pixel `q`, with
`X = ph q - ph start = -+ 2 cross(q)` and `E` the number of `Extra` parallels, there is an
accumulator value `a` with `a^2 <= (2 w)^2 L2` and `2 |X| <= a + 3 D - d + 2 (D - d) E`. -/
theorem thickPoints_reach (l : Line) (w : Nat) (hw2 : w ≤ 2147483647) :
    ∃ E, ExtraParallels l w E ∧ 0 ≤ E ∧ ((ctxOf l).d = 0 → E = 0) ∧
      ∀ ps, thickPoints l w = some ps → ∀ q ∈ ps, ∃ a : Int,
      a * a ≤ (w : Int) * 2 * ((w : Int) * 2) *
        ((ctxOf l).D * (ctxOf l).D + (ctxOf l).d * (ctxOf l).d) ∧
      2 * ((ctxOf l).ph q - (ctxOf l).ph l.start) ≤
        a + 3 * (ctxOf l).D - (ctxOf l).d + 2 * ((ctxOf l).D - (ctxOf l).d) * E ∧
      -(2 * ((ctxOf l).ph q - (ctxOf l).ph l.start)) ≤
        a + 3 * (ctxOf l).D - (ctxOf l).d + 2 * ((ctxOf l).D - (ctxOf l).d) * E := by
  have hv := ctxOf_valid l
  have hfr := frameOK_ctxOf l
  have hsat : satAsI32 w = (w : Int) := by unfold satAsI32; simp only [hw2, ↓reduceIte]
  obtain ⟨it, xs, hnew, hgC, hacc, hthr, hrun, h⟩ := stroke_run l w
  have hg : NInv (ctxOf l) l.start (flipOf l) _ (0, 0) := ⟨_, _, _, hgC⟩
  rw [hsat] at hthr
  obtain ⟨hall, _⟩ := run_bands (ctxOf l) hv _ hfr l.start hrun (0, 0) hg
  refine ⟨exCount xs, ⟨it, xs, hnew, hrun, rfl⟩, exCount_nonneg _, ?_, ?_⟩
  · intro hd
    exact exCount_zero (ctxOf l) l.start hd xs (fun x hx => by
      obtain ⟨n, _, hn⟩ := hall x hx; exact ⟨_, hn⟩)
  intro ps hps q hq
  rw [h ps hps] at hq
  obtain ⟨x, hx, hqx⟩ := List.mem_flatMap.mp hq
  have hup := run_fetch (ctxOf l) hv _ hfr l.start hrun (0, 0) hg 0 (by rw [hacc]; simp)
  obtain ⟨n, a, hok, ha, hn1, hn2⟩ := hup x hx
  rw [hthr] at ha
  obtain ⟨b1, b2⟩ := parPts_band hv hok _ q hqx
  simp only [Int.zero_add] at hn1 hn2
  obtain ⟨r1, r2⟩ := reach_arith (ctxOf l).D (ctxOf l).d _ a _ _ n hv.hD (tau_cases hfr) b1 b2 hn1 hn2
  exact ⟨a, ha, r1, r2⟩

end Thick
end EG
