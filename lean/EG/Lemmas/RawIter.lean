/-
  EG.Lemmas.RawIter — `RawDataIterator`: state machine vs closed form. Item `k` of what is still
  to come is `load (index + k)`, `none` from the pixel count on (`toList_getElem?`, by induction on
  the fuel); `next`, `nth`, `size_hint` are read off it. The closed form is an indexed one (`nth`
  and `ImageRaw::pixel` ask for item `k`), so it is stated by `getElem?` and not as a list through
  EG/Lemmas/Stream.lean.
-/
import EG.Lemmas.RawLoadStore
namespace EG.Raw

def Iter.count (it : Iter) : Nat := pixelCount it.bits it.data.length

/-- The slice is small enough for its pixel count to fit `usize` (every real slice of less than
2^61 bytes): the guard under which the saturating operations of `nth` / `size_hint` are exact. -/
def Iter.Fits (it : Iter) : Prop := it.data.length * 8 ≤ usizeMax
instance (it : Iter) : Decidable it.Fits := by unfold Iter.Fits; exact inferInstance

theorem pixelCount_le (bits len : Nat) : pixelCount bits len ≤ len * 8 := by
  unfold pixelCount
  split
  · exact Nat.mul_le_mul_left len (Nat.div_le_self 8 bits)
  · exact Nat.le_trans (Nat.div_le_self len (bits / 8)) (Nat.le_mul_of_pos_right len (by decide))

theorem Iter.Fits.count_le {it : Iter} (hf : it.Fits) : it.count ≤ usizeMax :=
  Nat.le_trans (pixelCount_le it.bits it.data.length) hf

theorem Iter.next_some {it : Iter} {v : Nat} (h : load it.bits it.order it.data it.index = some v) :
    it.next = (some v, { it with index := it.index + 1 }) := by
  simp only [Iter.next, h]

theorem Iter.next_none {it : Iter} (h : load it.bits it.order it.data it.index = none) :
    it.next = (none, it) := by
  simp only [Iter.next, h]

theorem Iter.next_data (it : Iter) :
    it.next.2.data = it.data ∧ it.next.2.bits = it.bits ∧ it.next.2.order = it.order := by
  unfold Iter.next
  split <;> exact ⟨rfl, rfl, rfl⟩

theorem Iter.nth_data (it : Iter) (n : Nat) : (it.nth n).2.data = it.data ∧ (it.nth n).2.bits = it.bits := by
  unfold Iter.nth
  exact ⟨(Iter.next_data _).1, (Iter.next_data _).2.1⟩

theorem Iter.toListFuel_getElem? {bits : Nat} (hb : validBits bits = true) (o : Order) (data : List Nat) :
    ∀ (fuel index : Nat), pixelCount bits data.length - index < fuel → ∀ k,
      ((⟨bits, o, data, index⟩ : Iter).toListFuel fuel)[k]? = load bits o data (index + k)
  | 0, _, hf, _ => by omega
  | fuel + 1, index, hf, k => by
    cases hl : load bits o data index with
    | none =>
      have := (load_eq_none_iff hb o data index).mp hl
      rw [Iter.toListFuel, Iter.next_none (it := ⟨bits, o, data, index⟩) hl]
      exact (load_outside hb o data _ (by omega)).symm
    | some v =>
      have : ¬ pixelCount bits data.length ≤ index := fun h => by
        rw [load_outside hb o data _ h] at hl
        cases hl
      rw [Iter.toListFuel, Iter.next_some (it := ⟨bits, o, data, index⟩) hl]
      cases k with
      | zero => exact hl.symm
      | succ k =>
        rw [List.getElem?_cons_succ, Iter.toListFuel_getElem? hb o data fuel (index + 1) (by omega)]
        congr 1
        omega

theorem Iter.toList_getElem? (it : Iter) (hb : validBits it.bits = true) (k : Nat) :
    it.toList[k]? = load it.bits it.order it.data (it.index + k) :=
  Iter.toListFuel_getElem? hb it.order it.data _ it.index
    (by have := pixelCount_le it.bits it.data.length; omega) k

theorem Iter.toList_length (it : Iter) (hb : validBits it.bits = true) :
    it.toList.length = it.count - it.index := by
  -- the least `k` with `toList[k]? = none`
  have h (k : Nat) : it.toList.length ≤ k ↔ it.count - it.index ≤ k := by
    rw [← List.getElem?_eq_none_iff, Iter.toList_getElem? it hb, load_eq_none_iff hb]
    unfold Iter.count
    omega
  exact Nat.le_antisymm ((h _).mpr (Nat.le_refl _)) ((h _).mp (Nat.le_refl _))

theorem Iter.next_fst (it : Iter) : it.next.1 = load it.bits it.order it.data it.index := by
  unfold Iter.next
  split <;> rename_i hl <;> simp only [hl]

theorem Iter.next_snd_getElem? (it : Iter) (hb : validBits it.bits = true) (m : Nat) :
    it.next.2.toList[m]? = load it.bits it.order it.data (it.index + 1 + m) := by
  cases hl : load it.bits it.order it.data it.index with
  | some v =>
    rw [Iter.next_some hl]
    exact Iter.toList_getElem? ⟨it.bits, it.order, it.data, it.index + 1⟩ hb m
  | none =>
    have hout := (load_eq_none_iff hb _ _ _).mp hl
    rw [Iter.next_none hl, Iter.toList_getElem? it hb, load_outside hb _ _ _ (by omega),
      load_outside hb _ _ _ (by omega)]

/-! The saturating operations of `nth` and `size_hint` are exact as long as the pixel count fits
`usize` (`hf`; `Iter.Fits` implies it). -/

/-- Saturation of the index is invisible: beyond `usize::MAX` there is no pixel. -/
theorem Iter.load_sat (it : Iter) (hb : validBits it.bits = true) (hf : it.count ≤ usizeMax)
    (k m : Nat) :
    load it.bits it.order it.data (satAddUsize it.index k + m)
      = load it.bits it.order it.data (it.index + k + m) := by
  unfold Iter.count at hf
  unfold satAddUsize
  split
  · rfl
  · rw [load_outside hb _ _ _ (by omega), load_outside hb _ _ _ (by omega)]

theorem Iter.nth_fst (it : Iter) (hb : validBits it.bits = true) (hf : it.count ≤ usizeMax)
    (k : Nat) : (it.nth k).1 = load it.bits it.order it.data (it.index + k) := by
  unfold Iter.nth
  rw [Iter.next_fst]
  exact Iter.load_sat it hb hf k 0

theorem Iter.nth_some {it : Iter} (hb : validBits it.bits = true) (hf : it.count ≤ usizeMax)
    {k v : Nat} (h : load it.bits it.order it.data (it.index + k) = some v) :
    it.nth k = (some v, { it with index := it.index + k + 1 }) := by
  have hlt : ¬ it.count ≤ it.index + k := fun hle => by
    rw [load_outside hb _ _ _ hle] at h; cases h
  have hs : satAddUsize it.index k = it.index + k := by
    unfold satAddUsize
    rw [if_pos (by omega)]
  unfold Iter.nth
  rw [hs]
  exact Iter.next_some h

theorem Iter.nth_snd_toList (it : Iter) (hb : validBits it.bits = true) (hf : it.count ≤ usizeMax)
    (k : Nat) : (it.nth k).2.toList = it.toList.drop (k + 1) := by
  apply List.ext_getElem?
  intro m
  rw [List.getElem?_drop, Iter.toList_getElem? it hb]
  unfold Iter.nth
  have h := Iter.next_snd_getElem? ⟨it.bits, it.order, it.data, satAddUsize it.index k⟩ hb m
  refine h.trans ?_
  show load it.bits it.order it.data (satAddUsize it.index k + 1 + m) = _
  rw [Nat.add_assoc, Iter.load_sat it hb hf k (1 + m)]
  congr 1
  omega

theorem Iter.sizeHint_eq (it : Iter) (hf : it.count ≤ usizeMax) :
    it.sizeHint = (it.count - it.index, some (it.count - it.index)) := by
  unfold Iter.count pixelCount at hf
  unfold Iter.sizeHint Iter.count pixelCount satMulUsize
  split
  · rename_i h8
    rw [if_pos h8] at hf
    rw [if_pos hf]
  · rfl

end EG.Raw
