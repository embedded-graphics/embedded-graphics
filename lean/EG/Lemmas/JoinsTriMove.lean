/-
  EG.Lemmas.JoinsTriMove — a styled triangle moved by `d`: vertex sorting, `is_collapsed`, the
  closed segment iterator, the styled bounding box move with it, and row by row the line
  configuration of `generate_lines` does (`generateLines_moved`, `pending_moved`). Guards: `TriNoSat`
  (no saturating cast in any of the three joins) and the sentinel / row-range guards of the bounding
  box (`TriGuards`). What follows for the scanline run, `draw` and `pixels()`: EG.Lemmas.JoinsPixels.
-/
import EG.Model.ThickTriangle
import EG.Lemmas.JoinsTriRows
set_option linter.unusedSimpArgs false
namespace EG
namespace Joins
open Thick (LineSide StrokeOffset)

theorem areaDoubled_translate (t : Tri) (d : Pt) : (t.translate d).areaDoubled = t.areaDoubled := by
  unfold Tri.areaDoubled Tri.translate
  simp only [Pt.add_x, Pt.add_y]
  ring

theorem sortTwoYx_translate (p q d : Pt) :
    Tri.sortTwoYx (p + d) (q + d) = ((Tri.sortTwoYx p q).1 + d, (Tri.sortTwoYx p q).2 + d) := by
  unfold Tri.sortTwoYx
  simp only [Pt.add_x, Pt.add_y]
  by_cases h : p.y < q.y ∨ p.y = q.y ∧ p.x < q.x
  · have h' : p.y + d.y < q.y + d.y ∨ p.y + d.y = q.y + d.y ∧ p.x + d.x < q.x + d.x := by omega
    simp only [h, h', ↓reduceIte]
  · have h' : ¬ (p.y + d.y < q.y + d.y ∨ p.y + d.y = q.y + d.y ∧ p.x + d.x < q.x + d.x) := by omega
    simp only [h, h', ↓reduceIte]

theorem sortedYx_translate (t : Tri) (d : Pt) : (t.translate d).sortedYx = t.sortedYx.translate d := by
  unfold Tri.sortedYx Tri.translate
  simp only [sortTwoYx_translate]

theorem sortedClockwise_translate (t : Tri) (d : Pt) :
    (t.translate d).sortedClockwise = t.sortedClockwise.translate d := by
  unfold Tri.sortedClockwise
  rw [areaDoubled_translate, sortedYx_translate]
  split
  · rfl
  · split <;> rfl

theorem vertex_translate (t : Tri) (d : Pt) (i : Nat) : (t.translate d).vertex i = t.vertex i + d := by
  unfold Tri.vertex Tri.translate
  split <;> rfl

theorem tri_boundingBox_translate (t : Tri) (d : Pt) :
    (t.translate d).boundingBox = t.boundingBox.translate d := by
  show Rect.withCorners (((t.v1 + d).componentMin (t.v2 + d)).componentMin (t.v3 + d))
    (((t.v1 + d).componentMax (t.v2 + d)).componentMax (t.v3 + d)) = _
  rw [componentMin_add, componentMin_add, componentMax_add, componentMax_add, Rect.withCorners_translate]
  rfl

theorem tri_scanlineIntersection_translate (t : Tri) (d : Pt) (y : Int) :
    SR d ((t.translate d).scanlineIntersection (y + d.y)) (t.scanlineIntersection y) := by
  unfold Tri.scanlineIntersection
  rw [areaDoubled_translate, sortedYx_translate]
  simp only [Tri.translate, line_mk_translate]
  split
  · exact SR_bint (SR_newEmpty d y) _
  · exact SR_bint (SR_bint (SR_bint (SR_newEmpty d y) _) _) _

theorem sortTwoYx_cases (p q : Pt) : Tri.sortTwoYx p q = (p, q) ∨ Tri.sortTwoYx p q = (q, p) := by
  unfold Tri.sortTwoYx; split
  · left; rfl
  · right; rfl

theorem sortedYx_iff (P : Pt → Prop) (t : Tri) :
    (P t.sortedYx.v1 ∧ P t.sortedYx.v2 ∧ P t.sortedYx.v3) ↔ (P t.v1 ∧ P t.v2 ∧ P t.v3) := by
  unfold Tri.sortedYx
  rcases sortTwoYx_cases t.v1 t.v2 with e1 | e1 <;> rw [e1] <;> dsimp only
  · rcases sortTwoYx_cases t.v3 t.v1 with e2 | e2 <;> rw [e2] <;> dsimp only
    · rcases sortTwoYx_cases t.v1 t.v2 with e3 | e3 <;> simp only [e3, and_comm, and_left_comm]
    · rcases sortTwoYx_cases t.v3 t.v2 with e3 | e3 <;> simp only [e3, and_comm, and_left_comm]
  · rcases sortTwoYx_cases t.v3 t.v2 with e2 | e2 <;> rw [e2] <;> dsimp only
    · rcases sortTwoYx_cases t.v2 t.v1 with e3 | e3 <;> simp only [e3, and_comm, and_left_comm]
    · rcases sortTwoYx_cases t.v3 t.v1 with e3 | e3 <;> simp only [e3, and_comm, and_left_comm]

theorem sortedYx_all (P : Pt → Prop) (t : Tri) (h1 : P t.v1) (h2 : P t.v2) (h3 : P t.v3) :
    P t.sortedYx.v1 ∧ P t.sortedYx.v2 ∧ P t.sortedYx.v3 :=
  (sortedYx_iff P t).mpr ⟨h1, h2, h3⟩

theorem sortedClockwise_iff (P : Pt → Prop) (t : Tri) :
    (P t.sortedClockwise.v1 ∧ P t.sortedClockwise.v2 ∧ P t.sortedClockwise.v3) ↔
      (P t.v1 ∧ P t.v2 ∧ P t.v3) := by
  unfold Tri.sortedClockwise
  split
  · exact and_left_comm
  · split
    · exact Iff.rfl
    · exact sortedYx_iff P t

theorem sortedClockwise_all (P : Pt → Prop) (t : Tri) (h1 : P t.v1) (h2 : P t.v2) (h3 : P t.v3) :
    P t.sortedClockwise.v1 ∧ P t.sortedClockwise.v2 ∧ P t.sortedClockwise.v3 :=
  (sortedClockwise_iff P t).mpr ⟨h1, h2, h3⟩

/-- "No cast saturates in any of the three joins of the triangle, before or after the move." -/
def TriNoSat (t : Tri) (w : Nat) (off : StrokeOffset) (d : Pt) : Prop :=
  JoinNoSat t.v3 t.v1 t.v2 w off d ∧ JoinNoSat t.v1 t.v2 t.v3 w off d ∧ JoinNoSat t.v2 t.v3 t.v1 w off d

instance (t : Tri) (w : Nat) (off : StrokeOffset) (d : Pt) : Decidable (TriNoSat t w off d) := by
  unfold TriNoSat; exact inferInstance

theorem TriNoSat_vertex {t : Tri} {w : Nat} {off : StrokeOffset} {d : Pt} (h : TriNoSat t w off d)
    (i : Nat) : JoinNoSat (t.vertex i) (t.vertex (i + 1)) (t.vertex (i + 2)) w off d := by
  obtain ⟨h312, h123, h231⟩ := h
  unfold Tri.vertex
  rcases (by omega : i % 3 = 0 ∨ i % 3 = 1 ∨ i % 3 = 2) with h0 | h0 | h0
  · rw [h0, show (i + 1) % 3 = 1 by omega, show (i + 2) % 3 = 2 by omega]; exact h123
  · rw [h0, show (i + 1) % 3 = 2 by omega, show (i + 2) % 3 = 0 by omega]; exact h231
  · rw [h0, show (i + 1) % 3 = 0 by omega, show (i + 2) % 3 = 1 by omega]; exact h312

theorem tri_joins_translate (t : Tri) (w : Nat) (off : StrokeOffset) (d : Pt) (h : TriNoSat t w off d) :
    (t.translate d).joins w off = (t.joins w off).map (·.map (·.translate d)) := by
  obtain ⟨h312, h123, h231⟩ := h
  unfold Tri.joins Tri.translate
  simp only [fromPoints_translate _ _ _ w off d h312, fromPoints_translate _ _ _ w off d h123,
    fromPoints_translate _ _ _ w off d h231]
  cases LineJoin.fromPoints t.v3 t.v1 t.v2 w off with
  | none => rfl
  | some j1 =>
    cases LineJoin.fromPoints t.v1 t.v2 t.v3 w off with
    | none => rfl
    | some j2 => cases LineJoin.fromPoints t.v2 t.v3 t.v1 w off <;> rfl

theorem joinCollapsed_translate (t : Tri) (w : Nat) (off : StrokeOffset) (d : Pt) (i : Nat)
    (j : LineJoin) :
    (t.translate d).joinCollapsed w off i (j.translate d) = t.joinCollapsed w off i j := by
  unfold Tri.joinCollapsed
  have ed : (j.translate d).isDegenerate = j.isDegenerate := rfl
  rw [ed]
  by_cases hd : j.isDegenerate = true
  · simp only [hd, ↓reduceIte]
  · simp only [hd, Bool.false_eq_true, ↓reduceIte, vertex_translate]
    rw [line_mk_translate, extents_translate]
    cases extents ⟨t.vertex (i + 1), t.vertex (i + 2)⟩ w off with
    | none => rfl
    | some r => exact congrArg some (checkSide_translate r.2 d j.firstEdgeEnd.right LineSide.left)

theorem isCollapsed_translate (t : Tri) (w : Nat) (off : StrokeOffset) (d : Pt)
    (h : TriNoSat t w off d) : (t.translate d).isCollapsed w off = t.isCollapsed w off := by
  unfold Tri.isCollapsed
  rw [tri_joins_translate t w off d h]
  rcases t.joins w off with _ | _ | ⟨j1, _ | ⟨j2, _ | ⟨j3, _ | ⟨j4, rest⟩⟩⟩⟩
  all_goals simp only [Option.map_none, Option.map_some, Option.bind_eq_bind, Option.bind_none,
    Option.bind_some, List.map_nil, List.map_cons, joinCollapsed_translate]

/-- The three closed segments of a triangle, in iterator order. -/
def closedSegments3 (t : Tri) (w : Nat) (off : StrokeOffset) : Option (List ThickSegment) := do
  let j0 ← LineJoin.fromPoints t.v3 t.v1 t.v2 w off
  let j1 ← LineJoin.fromPoints t.v1 t.v2 t.v3 w off
  let j2 ← LineJoin.fromPoints t.v2 t.v3 t.v1 w off
  pure [⟨j0, j1⟩, ⟨j1, j2⟩, ⟨j2, j0⟩]

/-- The closed segments join each of `joins` to the next one, cyclically. -/
theorem closedSegments3_eq_joins (t : Tri) (w : Nat) (off : StrokeOffset) :
    closedSegments3 t w off =
      (t.joins w off).map fun js => List.zipWith ThickSegment.mk js (js.tail ++ js.take 1) := by
  unfold closedSegments3 Tri.joins
  cases LineJoin.fromPoints t.v3 t.v1 t.v2 w off with
  | none => rfl
  | some j0 =>
    cases LineJoin.fromPoints t.v1 t.v2 t.v3 w off with
    | none => rfl
    | some j1 => cases LineJoin.fromPoints t.v2 t.v3 t.v1 w off <;> rfl

namespace ClosedThickSegmentIter

theorem next_stopped {it : ClosedThickSegmentIter} (hs : it.stop = true) : it.next = some none := by
  unfold ClosedThickSegmentIter.next; rw [if_pos hs]

theorem next_window {it : ClosedThickSegmentIter} (hs : it.stop = false) {a b c : Pt} {ws : List Pt}
    (hw : windowsNext it.windows = some ((a, b, c), ws)) :
    it.next = (LineJoin.fromPoints a b c it.width it.strokeOffset).map fun j =>
      some (⟨it.startJoin, j⟩, { it with idx := it.idx + 1, windows := ws, startJoin := j }) := by
  unfold ClosedThickSegmentIter.next
  simp only [hs, Bool.false_eq_true, ↓reduceIte, hw]
  cases LineJoin.fromPoints a b c it.width it.strokeOffset <;> rfl

/-- No window is left, all points but one have been started from: the join at the last point, which
wraps around to the first. -/
theorem next_wrap {it : ClosedThickSegmentIter} (hs : it.stop = false)
    (hw : windowsNext it.windows = none) (hi : it.idx + 1 = it.points.length) {a b c : Pt}
    (ha : it.points[it.points.length - 2]? = some a) (hb : it.points.getLast? = some b)
    (hc : it.points.head? = some c) :
    it.next = (LineJoin.fromPoints a b c it.width it.strokeOffset).map fun j =>
      some (⟨it.startJoin, j⟩, { it with idx := it.idx + 1, startJoin := j }) := by
  unfold ClosedThickSegmentIter.next
  simp only [hs, Bool.false_eq_true, ↓reduceIte, hw, hi, ha, hb, hc]
  cases LineJoin.fromPoints a b c it.width it.strokeOffset <;> rfl

/-- After the wrap-around: the segment back to the first join, and the iterator stops. -/
theorem next_close {it : ClosedThickSegmentIter} (hs : it.stop = false)
    (hw : windowsNext it.windows = none) (hi : it.idx + 1 ≠ it.points.length) :
    it.next = some (some (⟨it.startJoin, it.firstJoin⟩,
      { it with idx := it.idx + 1, stop := true, startJoin := it.firstJoin })) := by
  unfold ClosedThickSegmentIter.next
  simp only [hs, Bool.false_eq_true, ↓reduceIte, hw, hi]

end ClosedThickSegmentIter

theorem closedIter_eq (t : Tri) (w : Nat) (off : StrokeOffset) :
    (ClosedThickSegmentIter.new t.vertices w off).bind ClosedThickSegmentIter.toList =
      closedSegments3 t w off := by
  unfold closedSegments3 ClosedThickSegmentIter.new Tri.vertices
  simp only [List.getLast?_cons_cons, List.getLast?_singleton, Option.bind_eq_bind, Option.bind_some]
  cases LineJoin.fromPoints t.v3 t.v1 t.v2 w off with
  | none => rfl
  | some j0 =>
    open ClosedThickSegmentIter in
    show toListFuel 5 _ = _
    rw [toListFuel, next_window rfl (a := t.v1) (b := t.v2) (c := t.v3) rfl]
    cases LineJoin.fromPoints t.v1 t.v2 t.v3 w off with
    | none => rfl
    | some j1 =>
      simp only [Option.map_some, Option.bind_eq_bind, Option.bind_some]
      rw [toListFuel, next_wrap rfl rfl rfl (a := t.v2) (b := t.v3) (c := t.v1) rfl rfl rfl]
      cases LineJoin.fromPoints t.v2 t.v3 t.v1 w off with
      | none => rfl
      | some j2 =>
        simp only [Option.map_some, Option.bind_eq_bind, Option.bind_some]
        rw [toListFuel, next_close rfl rfl (by show (4 : Nat) ≠ 3; decide)]
        simp only [Option.bind_eq_bind, Option.bind_some]
        rw [toListFuel, next_stopped rfl]
        rfl
theorem closedSegments3_translate (t : Tri) (w : Nat) (off : StrokeOffset) (d : Pt)
    (h : TriNoSat t w off d) :
    closedSegments3 (t.translate d) w off = (closedSegments3 t w off).map (·.map (·.translate d)) := by
  rw [closedSegments3_eq_joins, closedSegments3_eq_joins, tri_joins_translate t w off d h]
  cases t.joins w off with
  | none => rfl
  | some js =>
    simp only [Option.map_some, ← List.map_tail, ← List.map_take, ← List.map_append, List.zipWith_map,
      List.map_zipWith]
    rfl

theorem triStyledBoundingBox_eq (t : Tri) (style : TriStyle) :
    triStyledBoundingBox t style =
      if style.strokeWidth < 2 ∨ style.strokeAlignment = .inside then some t.boundingBox
      else (closedSegments3 t.sortedClockwise style.strokeWidth style.strokeAlignment.toOffset).map
        foldEdgeBoxes := by
  unfold triStyledBoundingBox
  split
  · rfl
  · rw [← closedIter_eq]
    exact bind_bind_pure _ _ _

/-- The sentinel guard of the fold over the triangle's segment boxes. -/
def TriBoxGuard (t : Tri) (style : TriStyle) (d : Pt) : Prop :=
  match closedSegments3 t.sortedClockwise style.strokeWidth style.strokeAlignment.toOffset with
  | some (s :: _) => SentinelOK s.edgesBoundingBox d
  | some [] => False
  | none => True

instance (t : Tri) (style : TriStyle) (d : Pt) : Decidable (TriBoxGuard t style d) := by
  unfold TriBoxGuard; split <;> exact inferInstance

theorem triStyledBoundingBox_translate (t : Tri) (style : TriStyle) (d : Pt)
    (hns : TriNoSat t.sortedClockwise style.strokeWidth style.strokeAlignment.toOffset d)
    (hg : TriBoxGuard t style d) :
    triStyledBoundingBox (t.translate d) style = (triStyledBoundingBox t style).map (·.translate d) := by
  rw [triStyledBoundingBox_eq, triStyledBoundingBox_eq]
  split
  · simp only [Option.map_some, tri_boundingBox_translate]
  · rw [sortedClockwise_translate, closedSegments3_translate _ _ _ d hns]
    unfold TriBoxGuard at hg
    rcases hs : closedSegments3 t.sortedClockwise style.strokeWidth style.strokeAlignment.toOffset with
      _ | _ | ⟨s, rest⟩
    · rfl
    · rw [hs] at hg; exact hg.elim
    · rw [hs] at hg; exact congrArg some (foldEdgeBoxes_translate s rest d hg)

/-- What the edge closure reads from the iterator. -/
structure TIRcore (d : Pt) (it' it : TriIntersections) : Prop where
  tri : it'.triangle = it.triangle.translate d
  w : it'.strokeWidth = it.strokeWidth
  off : it'.strokeOffset = it.strokeOffset
  fill : it'.hasFill = it.hasFill
  col : it'.isCollapsed = it.isCollapsed
  ns : TriNoSat it.triangle it.strokeWidth it.strokeOffset d

theorem scanRel_SR (d : Pt) : ScanRel (SR d) where
  isEmpty := SR_isEmpty
  tryExtend := tryExtend_SR
  cleared := fun h => ⟨h.1, Or.inl ⟨rfl, rfl⟩⟩

theorem segJ_moved {d : Pt} {it' it : TriIntersections} (hc : TIRcore d it' it) (y : Int) (i : Nat) :
    SR d (it'.segJ (y + d.y) i) (it.segJ y i) := by
  obtain ⟨j1, h1⟩ := fromPoints_total (it.triangle.vertex i) (it.triangle.vertex (i + 1))
    (it.triangle.vertex (i + 2)) it.strokeWidth it.strokeOffset
  obtain ⟨j2, h2⟩ := fromPoints_total (it.triangle.vertex (i + 1)) (it.triangle.vertex (i + 2))
    (it.triangle.vertex (i + 3)) it.strokeWidth it.strokeOffset
  have h1' := fromPoints_translate (it.triangle.vertex i) (it.triangle.vertex (i + 1))
    (it.triangle.vertex (i + 2)) it.strokeWidth it.strokeOffset d (TriNoSat_vertex hc.ns i)
  have h2' := fromPoints_translate (it.triangle.vertex (i + 1)) (it.triangle.vertex (i + 2))
    (it.triangle.vertex (i + 3)) it.strokeWidth it.strokeOffset d (TriNoSat_vertex hc.ns (i + 1))
  rw [h1] at h1'
  rw [h2] at h2'
  rw [TriIntersections.segJ_of_joins h1 h2,
    TriIntersections.segJ_of_joins (a := j1.translate d) (b := j2.translate d)
      (by rw [hc.tri, hc.w, hc.off]; simp only [vertex_translate]; exact h1')
      (by rw [hc.tri, hc.w, hc.off]; simp only [vertex_translate]; exact h2')]
  exact intersection_translate_segment ⟨j1, j2⟩ d y

/-- The edge closure of the moved triangle hands out the moved scanline (exactly: it is not empty)
and ends in the moved state. -/
theorem edgeNext_moved {d : Pt} {it' it : TriIntersections} (hc : TIRcore d it' it) (y : Int)
    {st' st : EdgeIt} (hs : EdgeIt.Rel (SR d) st' st) :
    OptRel (fun x' x => x' = shiftS x d)
        (EdgeIt.next it'.strokeWidth (it'.segJ (y + d.y)) (y + d.y) st').1
        (EdgeIt.next it.strokeWidth (it.segJ y) y st).1 ∧
      EdgeIt.Rel (SR d) (EdgeIt.next it'.strokeWidth (it'.segJ (y + d.y)) (y + d.y) st').2
        (EdgeIt.next it.strokeWidth (it.segJ y) y st).2 := by
  rw [hc.w]
  obtain ⟨h1, h2⟩ := EdgeIt.next_rel (scanRel_SR d) (fun i _ => segJ_moved hc y i) it.strokeWidth
    (SR_newEmpty d y) hs
  refine ⟨?_, h2⟩
  rcases h1.cases with ⟨e', e⟩ | ⟨x', x, e', e, hx⟩
  · rw [e', e]; trivial
  · rw [e', e]
    exact SR_of_nonempty hx (EdgeIt.next_some_nonempty e)

structure LCR (d : Pt) (c' c : LineConfig) : Prop where
  first : SR0 d c'.first c.first
  second : SR0 d c'.second c.second
  internal : SR0 d c'.internal c.internal
  ty : c'.internalType = c.internalType

theorem SR0_of_exact {d : Pt} {o' o : Option Scanline} (h : OptRel (fun x' x => x' = shiftS x d) o' o)
    (y' y : Int) : SR0 d (o'.getD (Scanline.newEmpty y')) (o.getD (Scanline.newEmpty y)) := by
  rcases h.cases with ⟨rfl, rfl⟩ | ⟨v', v, rfl, rfl, hv⟩
  · exact SR0_newEmpty d y' y
  · exact Or.inr hv

theorem generateLines_moved {d : Pt} {it' it : TriIntersections} (hc : TIRcore d it' it) (y : Int) :
    OptRel (LCR d) (it'.generateLines (y + d.y)) (it.generateLines y) := by
  rw [TriIntersections.generateLines_eq, TriIntersections.generateLines_eq, hc.col, hc.fill, hc.tri]
  have htri := (tri_scanlineIntersection_translate it.triangle d y).2
  unfold genLines
  by_cases hcol : it.isCollapsed = true
  · rw [if_pos hcol, if_pos hcol]
    exact ⟨SR0_newEmpty d 0 0, SR0_newEmpty d 0 0, htri, rfl⟩
  · rw [if_neg hcol, if_neg hcol]
    obtain ⟨hf, hst⟩ := edgeNext_moved hc y (st' := ⟨0, Scanline.newEmpty (y + d.y), Scanline.newEmpty (y + d.y)⟩)
      (st := ⟨0, Scanline.newEmpty y, Scanline.newEmpty y⟩) ⟨rfl, SR_newEmpty d y, SR_newEmpty d y⟩
    obtain ⟨hsec, -⟩ := edgeNext_moved hc y hst
    dsimp only
    generalize (EdgeIt.next it'.strokeWidth (it'.segJ (y + d.y)) (y + d.y)
      ⟨0, Scanline.newEmpty (y + d.y), Scanline.newEmpty (y + d.y)⟩) = r1' at hf hsec ⊢
    generalize (EdgeIt.next it.strokeWidth (it.segJ y) y ⟨0, Scanline.newEmpty y, Scanline.newEmpty y⟩) = r1
      at hf hsec ⊢
    generalize (EdgeIt.next it'.strokeWidth (it'.segJ (y + d.y)) (y + d.y) r1'.2).1 = s' at hsec ⊢
    generalize (EdgeIt.next it.strokeWidth (it.segJ y) y r1.2).1 = s at hsec ⊢
    generalize r1'.1 = f' at hf ⊢
    generalize r1.1 = f at hf ⊢
    refine ⟨SR0_of_exact hf _ _, SR0_of_exact hsec _ _, ?_, rfl⟩
    show SR0 d (if it.hasFill = true then _ else _) (if it.hasFill = true then _ else _)
    cases it.hasFill with
    | false => exact SR0_newEmpty d _ _
    | true =>
      simp only [↓reduceIte]
      -- the fill runs between the two stroke scanlines, if there are two
      rcases hf.cases with ⟨rfl, rfl⟩ | ⟨u', u, rfl, rfl, rfl⟩ <;>
        rcases hsec.cases with ⟨rfl, rfl⟩ | ⟨v', v, rfl, rfl, rfl⟩
      · exact htri
      · exact SR0_newEmpty d _ _
      · exact SR0_newEmpty d _ _
      · exact Or.inr (by simp only [shiftS, Scanline.mk.injEq, true_and]; omega)

def shiftTyped (r : Scanline × PointType) (d : Pt) : Scanline × PointType := (shiftS r.1 d, r.2)

theorem pending_moved {d : Pt} {c' c : LineConfig} (h : LCR d c' c) :
    c'.pending = c.pending.map (shiftTyped · d) := by
  have key : ∀ {s' s : Scanline} (ty : PointType), SR0 d s' s →
      (if s'.isEmpty then [] else [(s', ty)]) = (if s.isEmpty then [] else [(s, ty)]).map (shiftTyped · d) := by
    intro s' s ty hs
    rw [SR0_isEmpty hs]
    cases he : s.isEmpty with
    | true => rfl
    | false =>
      simp only [Bool.false_eq_true, ↓reduceIte, List.map_cons, List.map_nil, shiftTyped,
        SR0_of_nonempty hs he]
  unfold LineConfig.pending
  rw [key _ h.internal, key _ h.first, key _ h.second, h.ty, List.map_append, List.map_append]

/-- `Rectangle::rows()` of the moved styled box does not saturate. -/
def TriRowsGuard (t : Tri) (style : TriStyle) (d : Pt) : Prop :=
  match triStyledBoundingBox t style with
  | some bb => (bb.translate d).rowsEnd = bb.rowsEnd + d.y
  | none => True

instance (t : Tri) (style : TriStyle) (d : Pt) : Decidable (TriRowsGuard t style d) := by
  unfold TriRowsGuard; split <;> exact inferInstance

/-- All guards of the triangle theorems. -/
structure TriGuards (t : Tri) (style : TriStyle) (d : Pt) : Prop where
  ns : TriNoSat t.sortedClockwise style.strokeWidth style.strokeAlignment.toOffset d
  box : TriBoxGuard t style d
  rows : TriRowsGuard t style d

instance (t : Tri) (style : TriStyle) (d : Pt) : Decidable (TriGuards t style d) :=
  decidable_of_iff (TriNoSat t.sortedClockwise style.strokeWidth style.strokeAlignment.toOffset d ∧
    TriBoxGuard t style d ∧ TriRowsGuard t style d)
    ⟨fun ⟨a, b, c⟩ => ⟨a, b, c⟩, fun ⟨a, b, c⟩ => ⟨a, b, c⟩⟩

/-- The `fill_solid` call of one typed scanline (if any). -/
def triCall (style : TriStyle) (x : Scanline × PointType) : Option (Rect × Nat) :=
  match style.colorOf x.2 with
  | some color =>
    let rect := x.1.toRectangle
    if !rect.isZeroSized then some (rect, color) else none
  | none => none

def shiftCall (c : Rect × Nat) (d : Pt) : Rect × Nat := (c.1.translate d, c.2)

theorem triDraw_eq (t : Tri) (style : TriStyle) :
    triDraw t style =
      if style.isTransparent then some []
      else ((triScanlines t style).bind TriScanlines.toList).map (·.filterMap (triCall style)) := by
  unfold triDraw
  split
  · rfl
  · exact bind_bind_pure _ _ _

end Joins
end EG
