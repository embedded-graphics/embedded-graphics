/-
  EG.Lemmas.GlueFbImage — the framebuffer model's private image `EG.Fb.Img` (C10) IS the shared
  raw image model `EG.Img.ImageRaw` (C09) over the same depth / order / bytes / size.

  `EG.Model.Framebuffer` carries its own minimal transcription of `ImageRaw::{new, data_width, pixel}`.
  Here the two transcriptions are identified: same `data_width`, same `new` (length check), same
  `pixel` function (up to the `as i32` wrap of sizes above `i32::MAX`, which the framebuffer model
  compares in `Int`: `pixel_agree`, `pixel_agree_needs_guard`), and the image
  `Framebuffer::as_image()` returns (`asRaw`) is a well-formed (`ImageRaw.WF`) raw image with the
  framebuffer's `pixel` (`asRaw_wf`, `fb_pixel_eq_raw_pixel`).
-/
import EG.Lemmas.Framebuffer
import EG.Lemmas.ImageRawImage
namespace EG.Glue
open EG EG.Raw

/-- The C09 raw image with the fields of the C10 image. -/
def toRaw (im : Fb.Img) : Img.ImageRaw := ⟨im.bits, im.order, im.data, ⟨im.w, im.h⟩⟩

theorem bytesPerRow_agree (w bits : Nat) : Fb.bytesPerRow w bits = Img.bytesPerRow w bits := rfl

theorem dataWidth_agree (im : Fb.Img) : im.dataWidth = (toRaw im).dataWidth := rfl

theorem new_agree (bits : Nat) (o : Order) (data : List Nat) (w h : Nat) :
    (Fb.Img.new bits o data w h).map toRaw = (Img.ImageRaw.new bits o data ⟨w, h⟩).toOption := by
  unfold Fb.Img.new
  rw [Img.ImageRaw.new_eq, bytesPerRow_agree]
  by_cases hl : data.length = Img.bytesPerRow w bits * h
  · rw [if_neg (not_not_intro hl), if_pos hl]
    rfl
  · rw [if_pos hl, if_neg hl]
    rfl

theorem pixel_agree (im : Fb.Img) (hw : im.w ≤ 2147483647) (hh : im.h ≤ 2147483647) (p : Pt) :
    im.pixel p = (toRaw im).pixel p := by
  unfold Fb.Img.pixel Img.ImageRaw.pixel
  have e1 : Img.asI32 (toRaw im).size.w = (im.w : Int) := Img.ImageRaw.asI32_of_le hw
  have e2 : Img.asI32 (toRaw im).size.h = (im.h : Int) := Img.ImageRaw.asI32_of_le hh
  rw [e1, e2]
  rfl

/-- Without the guard the two differ: the framebuffer model compares in `Int`, the real
`ImageRaw::pixel` (and the C09 model) with `width as i32`. Witness `2^31 x 1` at one bit. -/
theorem pixel_agree_needs_guard :
    ∃ (im : Fb.Img) (p : Pt), (toRaw im).pixel p = none ∧ ¬ (p.x < 0 ∨ p.y < 0 ∨ p.x ≥ (im.w : Int) ∨ p.y ≥ (im.h : Int)) := by
  refine ⟨⟨1, .le, [], 2147483648, 1⟩, ⟨0, 0⟩, ?_, by simp⟩
  exact Img.ImageRaw.pixel_none_of_width_wraps (toRaw ⟨1, .le, [], 2147483648, 1⟩) rfl _

/-- The `ImageRaw` that `Framebuffer::as_image()` returns, as a C09 image. -/
def asRaw (fb : Fb.Fb) : Img.ImageRaw :=
  ⟨fb.bits, fb.order, fb.data.take fb.bufSize, ⟨fb.width, fb.height⟩⟩

theorem asRaw_eq_new (fb : Fb.Fb) (hw : fb.Wf) :
    Img.ImageRaw.new fb.bits fb.order (fb.data.take fb.bufSize) ⟨fb.width, fb.height⟩ = .ok (asRaw fb) := by
  rw [Img.ImageRaw.new_ok_iff]
  refine ⟨?_, rfl⟩
  have hs := hw.size
  have : fb.bufSize = Img.bytesPerRow fb.width fb.bits * fb.height := rfl
  simp only [List.length_take]; omega

/-- `ImageRaw.WF` is the hypothesis of every C09 theorem; `hW`, `hH`: WIDTH and HEIGHT survive the
`as i32` casts of `ImageRaw::pixel`. -/
theorem asRaw_wf (fb : Fb.Fb) (hw : fb.Wf) (hW : fb.width ≤ 2147483647) (hH : fb.height ≤ 2147483647) :
    (asRaw fb).WF := by
  refine Img.ImageRaw.wf_of_new (asRaw_eq_new fb hw) hw.bits hW hH ?_
  unfold Img.Fits
  have h1 := pixelCount_le fb.bits (fb.data.take fb.bufSize).length
  have h2 := hw.fits
  have h3 : (fb.data.take fb.bufSize).length ≤ fb.data.length := by
    simp only [List.length_take]; omega
  omega

theorem fb_pixel_eq_raw_pixel (fb : Fb.Fb) (hw : fb.Wf) (hW : fb.width ≤ 2147483647)
    (hH : fb.height ≤ 2147483647) (p : Pt) : fb.pixel p = (asRaw fb).pixel p := by
  unfold Fb.Fb.pixel
  rw [Fb.asImage_eq fb hw]
  exact pixel_agree ⟨fb.bits, fb.order, fb.data.take fb.bufSize, fb.width, fb.height⟩ hW hH p

theorem inside_iff_contains (fb : Fb.Fb) (p : Pt) :
    fb.inside p ↔ (asRaw fb).boundingBox.contains p = true := by
  rw [Img.ImageRaw.contains_boundingBox]
  unfold Fb.Fb.inside asRaw
  simp only
  omega

end EG.Glue
