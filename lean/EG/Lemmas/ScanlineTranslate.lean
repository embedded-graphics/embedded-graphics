/-
  EG.Lemmas.ScanlineTranslate — moving scanlines and styled scanlines by a vector: the draw path
  (`drawLines`, `drawFillLines`) of the moved lines makes the moved calls, the pixels path
  (`pixelsSpec`, `StyledPixelsIt`) yields the moved pixels; `Range::find` / `rfind` / the mirrored
  range of a moved predicate over a moved range.
-/
import EG.Lemmas.ScanlinePaths
import EG.Model.RoundedRect
namespace EG

def Scanline.shift (d : Pt) (s : Scanline) : Scanline := ⟨s.y + d.y, s.xs + d.x, s.xe + d.x⟩

def StyledScanline.shift (d : Pt) (l : StyledScanline) : StyledScanline :=
  ⟨l.y + d.y, l.ss + d.x, l.se + d.x, l.fs + d.x, l.fe + d.x⟩

theorem rangeFind_shift {p p' : Int → Bool} (d : Int) (h : ∀ x, p' (x + d) = p x) (a b : Int) :
    rangeFind p' (a + d) (b + d) = (rangeFind p a b).map (· + d) := by
  unfold rangeFind
  rw [irange_shift, List.find?_map]
  have : (p' ∘ fun x => x + d) = p := by funext x; exact h x
  rw [this]

theorem rangeRFind_shift {p p' : Int → Bool} (d : Int) (h : ∀ x, p' (x + d) = p x) (a b : Int) :
    rangeRFind p' (a + d) (b + d) = (rangeRFind p a b).map (· + d) := by
  unfold rangeRFind
  rw [irange_shift, ← List.map_reverse, List.find?_map]
  have : (p' ∘ fun x => x + d) = p := by funext x; exact h x
  rw [this]

theorem mirroredRange_shift {p p' : Int → Bool} (d : Int) (h : ∀ x, p' (x + d) = p x) (a b : Int) :
    mirroredRange p' (a + d) (b + d) = (mirroredRange p a b).map (fun r => (r.1 + d, r.2 + d)) := by
  unfold mirroredRange
  rw [rangeFind_shift d h]
  cases rangeFind p a b with
  | none => rfl
  | some x =>
    simp only [Option.map_some, Option.some.injEq, Prod.mk.injEq, true_and]
    omega

namespace Scanline

theorem shift_isEmpty (d : Pt) (s : Scanline) : (s.shift d).isEmpty = s.isEmpty := by
  unfold isEmpty shift
  congr 1
  rw [decide_eq_decide]
  dsimp only
  omega

theorem draw_shift (d : Pt) (s : Scanline) (c : Color) :
    (s.shift d).draw c = (s.draw c).map (Call.translate d) := by
  unfold draw
  rw [shift_isEmpty]
  cases s.isEmpty
  · simp only [Bool.false_eq_true, ↓reduceIte, List.map_cons, List.map_nil, Call.translate,
      Rect.translate, shift]
    have e : (s.xe + d.x - (s.xs + d.x)).toNat = (s.xe - s.xs).toNat := by omega
    rw [e]
    rfl
  · rfl

theorem points_shift (d : Pt) (s : Scanline) : (s.shift d).points = s.points.map (· + d) := by
  unfold points shift
  dsimp only
  rw [irange_shift, List.map_map, List.map_map]
  rfl

theorem shift_WF_iff (d : Pt) (s : Scanline) :
    (s.shift d).WF ↔ (⟨⟨s.xs + d.x, s.y + d.y⟩, ⟨(s.xe - s.xs).toNat, 1⟩⟩ : Rect).InRange := by
  unfold WF shift
  dsimp only
  have e : (s.xe + d.x - (s.xs + d.x)).toNat = (s.xe - s.xs).toNat := by omega
  rw [e]

end Scanline

namespace StyledScanline

theorem shift_strokeLeft (d : Pt) (l : StyledScanline) :
    (l.shift d).strokeLeft = l.strokeLeft.shift d := rfl
theorem shift_strokeRight (d : Pt) (l : StyledScanline) :
    (l.shift d).strokeRight = l.strokeRight.shift d := rfl
theorem shift_fill (d : Pt) (l : StyledScanline) : (l.shift d).fill = l.fill.shift d := rfl

theorem drawStroke_shift (d : Pt) (l : StyledScanline) (sc : Color) :
    (l.shift d).drawStroke sc = (l.drawStroke sc).map (Call.translate d) := by
  unfold drawStroke
  rw [shift_strokeLeft, shift_strokeRight, Scanline.draw_shift, Scanline.draw_shift, List.map_append]

theorem drawStrokeAndFill_shift (d : Pt) (l : StyledScanline) (sc fc : Color) :
    (l.shift d).drawStrokeAndFill sc fc = (l.drawStrokeAndFill sc fc).map (Call.translate d) := by
  unfold drawStrokeAndFill
  rw [shift_strokeLeft, shift_strokeRight, shift_fill, Scanline.draw_shift, Scanline.draw_shift,
    Scanline.draw_shift, List.map_append, List.map_append]

theorem new_shift (d : Pt) (y ss se : Int) (fill : Option (Int × Int)) :
    StyledScanline.new (y + d.y) (ss + d.x) (se + d.x) (fill.map (fun r => (r.1 + d.x, r.2 + d.x))) =
      (StyledScanline.new y ss se fill).shift d := by
  cases fill with
  | none => rfl
  | some r => rfl

theorem pixelsSpec_shift (d : Pt) (sc fc : Option Color) (l : StyledScanline) :
    (l.shift d).pixelsSpec sc fc = Writes.translate d (l.pixelsSpec sc fc) := by
  unfold pixelsSpec Writes.translate
  rw [shift_strokeLeft, shift_strokeRight, shift_fill, Scanline.points_shift, Scanline.points_shift,
    Scanline.points_shift]
  cases sc <;> cases fc <;> simp only [List.map_append, List.map_map, List.map_nil] <;> rfl

end StyledScanline

theorem map_flatMap_map {α β γ : Type} (f : α → α) (g : α → List β) (h : β → γ) (g' : α → List γ)
    (e : ∀ a, g' (f a) = (g a).map h) (l : List α) :
    (l.map f).flatMap g' = (l.flatMap g).map h := by
  rw [List.flatMap_map, List.map_flatMap]
  simp only [e]

theorem drawLines_shift (d : Pt) (sc : Color) (fc : Option Color) (lines : List StyledScanline) :
    drawLines sc fc (lines.map (StyledScanline.shift d)) =
      (drawLines sc fc lines).map (Call.translate d) := by
  unfold drawLines
  cases fc with
  | none => exact map_flatMap_map _ _ _ _ (fun l => l.drawStroke_shift d sc) lines
  | some fc => exact map_flatMap_map _ _ _ _ (fun l => l.drawStrokeAndFill_shift d sc fc) lines

theorem drawFillLines_shift (d : Pt) (fc : Color) (lines : List Scanline) :
    drawFillLines fc (lines.map (Scanline.shift d)) =
      (drawFillLines fc lines).map (Call.translate d) := by
  unfold drawFillLines
  exact map_flatMap_map _ _ _ _ (fun l => l.draw_shift d fc) lines

theorem pixelsSpec_shift (d : Pt) (sc fc : Option Color) (lines : List StyledScanline) :
    pixelsSpec sc fc (lines.map (StyledScanline.shift d)) =
      Writes.translate d (pixelsSpec sc fc lines) := by
  unfold pixelsSpec
  exact map_flatMap_map _ _ _ _ (fun l => l.pixelsSpec_shift d sc fc) lines

theorem StyledPixelsIt.toList_new_shift (d : Pt) (lines : List StyledScanline)
    (sc fc : Option Color) :
    (StyledPixelsIt.new (lines.map (StyledScanline.shift d)) sc fc).toList =
      Writes.translate d (StyledPixelsIt.new lines sc fc).toList := by
  rw [StyledPixelsIt.toList_new, StyledPixelsIt.toList_new, pixelsSpec_shift]

end EG
