/-
  EG.Lemmas.FontTables — facts about the generated tables of the built-in fonts
  (`EG.Generated.FontTable`: the `mappingTable` entries with their mapping strings, the `fontTable`
  records), decided by kernel evaluation, and their lifting to statements about every character
  through the lemmas of `FontMapping`.
-/
import EG.Lemmas.FontMapping
namespace EG
namespace Font
open EG.Generated

def glyphCount (m : MappingRec) : Nat := (expand m.data).length

/-- No number of the list is listed twice or has its bit set in `seen`: one pass, the numbers met so
far being the set bits of `seen` (a duplicate check the kernel evaluates in linear time). -/
def freshFrom (seen : Nat) : List Nat → Bool
  | [] => true
  | c :: cs => !seen.testBit c && freshFrom (seen ||| 1 <<< c) cs

theorem nodup_of_freshFrom : ∀ (l : List Nat) (seen : Nat), freshFrom seen l = true →
    l.Nodup ∧ ∀ c ∈ l, seen.testBit c = false
  | [], _, _ => ⟨List.nodup_nil, fun _ h => nomatch h⟩
  | c :: cs, seen, h => by
    simp only [freshFrom, Bool.and_eq_true, Bool.not_eq_true'] at h
    obtain ⟨hn, hf⟩ := nodup_of_freshFrom cs _ h.2
    have hbit : ∀ d ∈ cs, seen.testBit d = false ∧ c ≠ d := by
      intro d hd
      have := hf d hd
      simp only [Nat.testBit_or, Nat.one_shiftLeft, Nat.testBit_two_pow, Bool.or_eq_false_iff,
        decide_eq_false_iff_not] at this
      exact this
    refine ⟨List.nodup_cons.mpr ⟨fun hc => (hbit c hc).2 rfl, hn⟩, fun d hd => ?_⟩
    rcases List.mem_cons.mp hd with rfl | hd
    · exact h.1
    · exact (hbit d hd).1

/-- Per-mapping facts: the expansion lists no character twice, the replacement index designates a
glyph, that glyph is the question mark, and the string consists of scalar values. -/
def MappingOK (m : MappingRec) : Prop :=
  (expand m.data).Nodup ∧ m.replacement < glyphCount m ∧
  (expand m.data)[m.replacement]? = some 63 ∧
  ∀ c ∈ m.data, c ≤ 0x10FFFF ∧ ¬ isSurrogate c

theorem mappingTable_checked : ∀ m ∈ mappingTable,
    freshFrom 0 (expand m.data) = true ∧ (expand m.data)[m.replacement]? = some 63 ∧
      ∀ c ∈ m.data, c ≤ 0x10FFFF ∧ ¬ isSurrogate c := by decide +kernel

theorem mappingTable_ok : ∀ m ∈ mappingTable, MappingOK m := fun m hm =>
  let ⟨h1, h2, h3⟩ := mappingTable_checked m hm
  ⟨(nodup_of_freshFrom _ _ h1).1, (List.getElem?_eq_some_iff.mp h2).1, h2, h3⟩

/-- Per-font facts: the mapping id is valid, the character size is positive, the atlas has EXACTLY as
many cells as the mapping lists characters, and the atlas file has exactly the length `ImageRaw::new`
demands for a 1-bpp image of the stated size (rows padded to whole bytes).
The property needs only `≤` (every designated cell inside the image: `builtin_glyph_drawable`); `=` is
demanded because mapping string and atlas are independent artefacts and model and code read the same
string: a range that loses one character (all later glyphs shift by one cell) or an atlas with a
surplus row passes every other check. -/
def FontOK (r : FontRec) : Prop :=
  r.mapping < mappingTable.length ∧ 0 < r.cw ∧ 0 < r.ch ∧
  glyphCount (mappingTable.getD r.mapping ⟨"", [], 0⟩) = (r.imgW / r.cw) * (r.imgH / r.ch) ∧
  r.rawLen = ((r.imgW + 7) / 8) * r.imgH
instance (r : FontRec) : Decidable (FontOK r) := by unfold FontOK; exact inferInstance

theorem fontTable_ok : ∀ r ∈ fontTable, FontOK r := by decide +kernel

/-- Decoration rows of the built-in fonts: the strikethrough lies inside the character cell
(`TextLayout.FontBoxOK`), both decorations are at least one row high, the baseline is a row of the
cell, there is no character spacing. Nothing is demanded of the underline offset: the underline may
lie below the cell. -/
def FontDecoOK (r : FontRec) : Prop :=
  r.stOff + r.stH ≤ r.ch ∧ 0 < r.stH ∧ 0 < r.ulH ∧ r.baseline < r.ch ∧ r.spacing = 0
instance (r : FontRec) : Decidable (FontDecoOK r) := by unfold FontDecoOK; exact inferInstance

theorem fontTable_deco_ok : ∀ r ∈ fontTable, FontDecoOK r := by decide +kernel

theorem builtinMapping_of_lt (r : FontRec) (h : r.mapping < mappingTable.length) :
    ∃ m ∈ mappingTable, builtinMapping r.mapping = mappingOfRec m ∧
      mappingTable.getD r.mapping ⟨"", [], 0⟩ = m := by
  refine ⟨mappingTable[r.mapping], List.getElem_mem h, ?_, ?_⟩
  · unfold builtinMapping; simp [h]
  · simp [List.getD, h]

theorem builtin_index_lt (r : FontRec) (hr : r ∈ fontTable) (c : Nat) :
    (fontOfRec r).index c < (r.imgW / r.cw) * (r.imgH / r.ch) := by
  obtain ⟨hm, _, _, hcount, _⟩ := fontTable_ok r hr
  obtain ⟨m, hmem, hbm, hget⟩ := builtinMapping_of_lt r hm
  rw [hget] at hcount
  show (builtinMapping r.mapping).index c < _
  rw [hbm, ← hcount]
  exact index_lt (mappingOfRec m) (mappingTable_ok m hmem).2.1 c

/-- `draw_sub_image`'s guard never suppresses a glyph of a built-in font. -/
theorem builtin_glyph_drawable (r : FontRec) (hr : r ∈ fontTable) (c : Nat) :
    (fontOfRec r).areaDrawable ((fontOfRec r).glyphArea c) = true :=
  cell_inside_of_lt _ _ (builtin_index_lt r hr c)

end Font
end EG
