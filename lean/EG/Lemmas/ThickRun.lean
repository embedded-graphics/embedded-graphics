/-
  EG.Lemmas.ThickRun — the whole run of `ParallelsIterator` / `ThickPoints`:
  * `Run it xs`: `xs` is the complete list of parallels the iterator yields from the state `it`
    (`runPar` lists its prefixes); not the `Run` of EG.Lemmas.Stream, because `next` answers
    `some (none, _)` at the end (`none` is a loop out of fuel) and an item records the `nextSide`
    of the state it comes from;
  * `drainFuel_rem`, `thickPoints_run`: what `ThickPoints` yields is the concatenation of the points of
    these parallels (`segs`, `parPts`), in order;
  * the first parallel of every stroke of width at least 1 is the centre line, `Line::points()`
    (`thickPoints_prefix`), and a stroke of width 1 has no other (`thickPoints_width1`).
-/
import EG.Lemmas.ThickTotal
set_option linter.unusedSimpArgs false
namespace EG
namespace Thick
open ParallelsIterator

/-- The first `n` points `Bresenham::next` yields from the state `b`. -/
def parPts : Nat → Bresenham → BresenhamParameters → List Pt
  | 0, _, _ => []
  | n + 1, b, pp => (b.next pp).1 :: parPts n (b.next pp).2 pp

theorem parPts_eq_toListFuel : ∀ (n : Nat) (b : Bresenham) (pp : BresenhamParameters),
    parPts n b pp = Line.PointsIt.toListFuel n ⟨pp, b, n⟩
  | 0, _, _ => rfl
  | n + 1, b, pp => by
    unfold parPts Line.PointsIt.toListFuel
    simp only [Line.PointsIt.next, Nat.zero_lt_succ, ↓reduceIte, Nat.add_sub_cancel]
    rw [parPts_eq_toListFuel n]

/-- A parallel of the run: the side it was taken from, its Bresenham start state, its type. -/
abbrev ParItem := LineSide × Bresenham × ParallelLineType

/-- The parallels the iterator yields within `fuel` calls of `next` (until the first `None`). -/
def runPar : Nat → ParallelsIterator → List ParItem
  | 0, _ => []
  | f + 1, it =>
    match it.next with
    | some (some r, it') => (it.nextSide, r.1, r.2) :: runPar f it'
    | _ => []

/-- Number of points of a parallel: `parallel_length`, one less for an extra parallel. -/
def lenOf (len : Nat) : ParallelLineType → Nat
  | .normal => len
  | .extra => len - 1

/-- The complete list of parallels the iterator yields from the state `it`. -/
inductive Run : ParallelsIterator → List ParItem → Prop
  | done {it it' : ParallelsIterator} : it.next = some (none, it') → Run it []
  | step {it it' : ParallelsIterator} {b : Bresenham} {ty : ParallelLineType} {xs : List ParItem} :
      it.next = some (some (b, ty), it') → Run it' xs → Run it ((it.nextSide, b, ty) :: xs)

/-- The points of a list of parallels, concatenated. -/
def segs (pp : BresenhamParameters) (len : Nat) (xs : List ParItem) : List Pt :=
  xs.flatMap (fun x => parPts (lenOf len x.2.2) x.2.1 pp)

theorem segs_cons (pp : BresenhamParameters) (len : Nat) (x : ParItem) (xs : List ParItem) :
    segs pp len (x :: xs) = parPts (lenOf len x.2.2) x.2.1 pp ++ segs pp len xs := by
  simp [segs]

theorem next_pp (it it' : ParallelsIterator) (r : Bresenham × ParallelLineType)
    (h : it.next = some (some r, it')) : it'.parallelParameters = it.parallelParameters := by
  obtain ⟨_, _, w', e', _, _, rfl⟩ := next_some it it' r.1 r.2 h
  exact (sameFrame_setSide it it.nextSide w' e').1

/-- `ps` is what `ThickPoints` still has to yield from the state `tp`. -/
def Rem (tp : ThickPointsIt) (ps : List Pt) : Prop :=
  ∃ xs, Run tp.iter xs ∧
    ps = parPts tp.parallelPointsRemaining tp.parallel tp.iter.parallelParameters ++
      segs tp.iter.parallelParameters tp.parallelLength xs

theorem lenOf_eq (len : Nat) (ty : ParallelLineType) :
    (if ty = ParallelLineType.extra then len - 1 else len) = lenOf len ty := by
  cases ty <;> simp [lenOf]

theorem nextFuel_none_rem : ∀ (lf : Nat) (tp : ThickPointsIt), tp.nextFuel lf = some none → Rem tp []
  | 0, _, h => by simp [ThickPointsIt.nextFuel] at h
  | lf + 1, tp, h => by
    unfold ThickPointsIt.nextFuel at h
    by_cases hr : tp.parallelPointsRemaining > 0
    · simp only [hr, ↓reduceIte, Option.some.injEq] at h; cases h
    · simp only [hr, ↓reduceIte] at h
      have hr0 : tp.parallelPointsRemaining = 0 := by omega
      cases hn : tp.iter.next with
      | none => rw [hn] at h; cases h
      | some r =>
        obtain ⟨o, iter'⟩ := r
        rw [hn] at h
        cases o with
        | none => exact ⟨[], Run.done hn, by rw [hr0]; simp [parPts, segs]⟩
        | some r1 =>
          obtain ⟨par, ty⟩ := r1
          simp only at h
          rw [lenOf_eq] at h
          obtain ⟨xs, hrun, hps⟩ := nextFuel_none_rem lf _ h
          simp only at hrun hps
          have hpp := next_pp _ _ _ hn
          refine ⟨_, Run.step hn hrun, ?_⟩
          rw [hr0, segs_cons, ← hpp]
          simpa [parPts] using hps

theorem nextFuel_some_rem : ∀ (lf : Nat) (tp tp' : ThickPointsIt) (q : Pt),
    tp.nextFuel lf = some (some (q, tp')) → ∀ ps', Rem tp' ps' → Rem tp (q :: ps')
  | 0, _, _, _, h => by simp [ThickPointsIt.nextFuel] at h
  | lf + 1, tp, tp', q, h => by
    unfold ThickPointsIt.nextFuel at h
    by_cases hr : tp.parallelPointsRemaining > 0
    · simp only [hr, ↓reduceIte, Option.some.injEq, Prod.mk.injEq] at h
      obtain ⟨hq, htp⟩ := h
      subst htp
      intro ps' ⟨xs, hrun, hps⟩
      simp only at hrun hps
      refine ⟨xs, hrun, ?_⟩
      obtain ⟨n, hn⟩ : ∃ n, tp.parallelPointsRemaining = n + 1 :=
        ⟨tp.parallelPointsRemaining - 1, by omega⟩
      rw [hn] at hps ⊢
      rw [hps]
      simp only [Nat.add_sub_cancel]
      show q :: _ = (tp.parallel.next tp.iter.parallelParameters).1 :: _ ++ _
      rw [hq]
      rfl
    · simp only [hr, ↓reduceIte] at h
      have hr0 : tp.parallelPointsRemaining = 0 := by omega
      cases hn : tp.iter.next with
      | none => rw [hn] at h; cases h
      | some r =>
        obtain ⟨o, iter'⟩ := r
        rw [hn] at h
        cases o with
        | none => simp only [Option.some.injEq] at h; cases h
        | some r1 =>
          obtain ⟨par, ty⟩ := r1
          simp only at h
          rw [lenOf_eq] at h
          intro ps' hrem
          obtain ⟨xs, hrun, hps⟩ := nextFuel_some_rem lf _ tp' q h ps' hrem
          simp only at hrun hps
          have hpp := next_pp _ _ _ hn
          refine ⟨_, Run.step hn hrun, ?_⟩
          rw [hr0, segs_cons, ← hpp]
          simpa [parPts] using hps

theorem drainFuel_rem : ∀ (fuel : Nat) (tp : ThickPointsIt) (ps : List Pt),
    tp.drainFuel fuel = some ps → Rem tp ps
  | 0, _, _, h => by simp [ThickPointsIt.drainFuel] at h
  | fuel + 1, tp, ps, h => by
    unfold ThickPointsIt.drainFuel at h
    cases hn : tp.next with
    | none => rw [hn] at h; cases h
    | some r =>
      rw [hn] at h
      cases r with
      | none =>
        simp only [Option.some.injEq] at h
        subst h
        exact nextFuel_none_rem _ _ hn
      | some r1 =>
        obtain ⟨p, tp'⟩ := r1
        simp only at h
        cases hr : ThickPointsIt.drainFuel fuel tp' with
        | none => rw [hr] at h; cases h
        | some rest =>
          rw [hr] at h
          simp only [Option.some.injEq] at h
          subst h
          exact nextFuel_some_rem _ _ _ _ hn rest (drainFuel_rem fuel tp' rest hr)

theorem run_unique {it : ParallelsIterator} {xs ys : List ParItem} (h1 : Run it xs) (h2 : Run it ys) :
    xs = ys := by
  induction h1 generalizing ys with
  | done hn =>
    cases h2 with
    | done _ => rfl
    | step hn' _ => rw [hn] at hn'; cases hn'
  | step hn _ ih =>
    cases h2 with
    | done hn' => rw [hn] at hn'; cases hn'
    | step hn' hr' =>
      rw [hn] at hn'
      simp only [Option.some.injEq, Prod.mk.injEq] at hn'
      obtain ⟨⟨rfl, rfl⟩, rfl⟩ := hn'
      rw [ih hr']

theorem Run.runPar_eq {it : ParallelsIterator} {xs : List ParItem} (h : Run it xs) :
    ∀ F, xs.length ≤ F → runPar F it = xs := by
  induction h with
  | done hn =>
    intro F _
    cases F with
    | zero => rfl
    | succ F => unfold runPar; rw [hn]
  | step hn _ ih =>
    intro F hF
    cases F with
    | zero => simp at hF
    | succ F =>
      unfold runPar
      rw [hn]
      show _ :: runPar F _ = _
      rw [ih F (by simpa using hF)]

theorem thickPoints_run (l : Line) (w : Nat) (hw : w ≠ 0) (ps : List Pt)
    (hps : thickPoints l w = some ps) :
    ∃ it xs, ParallelsIterator.new l (satAsI32 w) .none = some it ∧ Run it xs ∧
      ps = segs (ctxOf l).pp (majorLength l) xs := by
  obtain ⟨it0, hnew, _, _, _, hpp, _⟩ := new_fresh l (satAsI32 w) .none
  unfold thickPoints ThickPointsIt.new at hps
  rw [hnew] at hps
  simp only [hw, ↓reduceIte] at hps
  obtain ⟨xs, hrun, h⟩ := drainFuel_rem _ _ ps hps
  simp only at hrun h
  refine ⟨it0, xs, hnew, hrun, ?_⟩
  rw [h, hpp, ctxOf_pp]
  simp [parPts]

theorem parPts_centre (l : Line) :
    parPts (majorLength l) ⟨l.start, 0⟩ (ctxOf l).pp = Line.points l := by
  rw [parPts_eq_toListFuel, ctxOf_pp, centre_walk]

theorem segs_centre (l : Line) (s : LineSide) (xs : List ParItem) :
    segs (ctxOf l).pp (majorLength l) ((s, ⟨l.start, 0⟩, .normal) :: xs) =
      Line.points l ++ segs (ctxOf l).pp (majorLength l) xs := by
  rw [segs_cons]
  exact congrArg (· ++ _) (parPts_centre l)

theorem run_centre (l : Line) (t : Int) (ht : 1 ≤ t) (it : ParallelsIterator)
    (hnew : ParallelsIterator.new l t .none = some it) (xs : List ParItem) (hrun : Run it xs) :
    ∃ it1 xs', xs = (.right, ⟨l.start, 0⟩, .normal) :: xs' ∧ Run it1 xs' ∧
      it1.thicknessThreshold = it.thicknessThreshold ∧
      it1.thicknessAccumulator =
        it.thicknessAccumulator + it.perpendicularParameters.errorStep.minor := by
  obtain ⟨it', hnew', hs, -, -, -, hperp, hacc, hthr, hw, he, -⟩ := new_fresh l t .none
  obtain rfl := Option.some.inj (hnew.symm.trans hnew')
  have hD := dmaj_paramLine_pos l
  have hd0 := Line.dmin_nonneg (paramLine l)
  have hdD := Line.dmin_le_dmaj (paramLine l)
  have hpthr : 0 < it.perpendicularParameters.errorThreshold := by
    rw [hperp, Line.params_new, dmaj_perpendicular]; exact hD
  obtain ⟨ha1, _⟩ := width1_arith (Line.dmaj (paramLine l)) (Line.dmin (paramLine l)) _ hd0 hdD hD
    (dmaj_dmin_squares (paramLine l)).symm
  -- the threshold for `t` is at least the one for width 1, which admits the centre line
  have hmono : ¬ it.thicknessAccumulator * it.thicknessAccumulator > it.thicknessThreshold := by
    rw [hacc, hthr]
    have hS : 0 ≤ Line.dxOf (paramLine l) * Line.dxOf (paramLine l) +
        Line.dyOf (paramLine l) * Line.dyOf (paramLine l) := by
      rw [← dmaj_dmin_squares]
      have := Int.mul_nonneg (Line.dmaj_nonneg (paramLine l)) (Line.dmaj_nonneg (paramLine l))
      have := Int.mul_nonneg hd0 hd0
      omega
    have hww : 1 * 2 * (1 * 2) ≤ t * 2 * (t * 2) := by
      have h1 : (2 : Int) ≤ t * 2 := by omega
      have := Int.mul_le_mul h1 h1 (by omega) (by omega)
      omega
    have := Int.mul_le_mul_of_nonneg_right hww hS
    omega
  obtain ⟨it1, hn, -, h2, h3⟩ := next_fresh it l.start (by rw [hs]; exact hw) (by rw [hs]; exact he)
    hpthr hmono
  cases hrun with
  | done hn' => rw [hn] at hn'; cases hn'
  | step hn' hr' =>
    rw [hn] at hn'
    simp only [Option.some.injEq, Prod.mk.injEq] at hn'
    obtain ⟨⟨rfl, rfl⟩, rfl⟩ := hn'
    exact ⟨it1, _, by rw [hs]; rfl, hr', h2, h3⟩

theorem thickPoints_prefix (l : Line) (w : Nat) (hw : 1 ≤ w) (hw2 : w ≤ 2147483647) (ps : List Pt)
    (h : thickPoints l w = some ps) : ∃ more, ps = Line.points l ++ more := by
  have hsat : satAsI32 w = (w : Int) := by unfold satAsI32; simp only [hw2, ↓reduceIte]
  obtain ⟨it, xs, hnew, hrun, rfl⟩ := thickPoints_run l w (by omega) ps h
  obtain ⟨it1, xs', rfl, -, -, -⟩ := run_centre l _ (by rw [hsat]; omega) it hnew xs hrun
  exact ⟨_, segs_centre l _ xs'⟩

theorem thickPoints_width1 (l : Line) : thickPoints l 1 = some (Line.points l) := by
  obtain ⟨ps, hps⟩ := thickPoints_total l 1
  obtain ⟨it, xs, hnew, hrun, rfl⟩ := thickPoints_run l 1 (by decide) ps hps
  have hone : satAsI32 1 = 1 := by decide
  rw [hone] at hnew
  obtain ⟨it1, xs', rfl, hrun', h2, h3⟩ := run_centre l 1 (Int.le_refl _) it hnew xs hrun
  -- after the centre line the accumulator exceeds the threshold of width 1
  obtain ⟨_, hnew', -, -, -, -, hperp, hacc, hthr, -⟩ := new_fresh l 1 .none
  obtain rfl := Option.some.inj (hnew.symm.trans hnew')
  obtain ⟨_, ha2⟩ := width1_arith (Line.dmaj (paramLine l)) (Line.dmin (paramLine l)) _
    (Line.dmin_nonneg _) (Line.dmin_le_dmaj _) (dmaj_paramLine_pos l) (dmaj_dmin_squares (paramLine l)).symm
  have hdone : it1.thicknessAccumulator * it1.thicknessAccumulator > it1.thicknessThreshold := by
    rw [h2, h3, hacc, hthr, hperp, Line.params_new, dmaj_perpendicular]
    exact ha2
  cases hrun' with
  | step hn _ => rw [next_done it1 hdone] at hn; cases hn
  | done _ =>
    rw [hps, segs_centre]
    simp [segs]

end Thick
end EG
