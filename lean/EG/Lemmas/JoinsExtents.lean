/-
  EG.Lemmas.JoinsExtents — `Line::extents` commutes with translation: the `ParallelsIterator`
  keeps two Bresenham walkers whose positions are the only absolute coordinates; everything else
  depends on the line's delta.
-/
import EG.Lemmas.JoinsTranslate
import EG.Lemmas.ThickSide
set_option linter.unusedSimpArgs false
namespace EG
namespace Joins
open Thick (LineSide StrokeOffset ParallelsIterator ParallelLineType extentsLoop)

theorem pt_add_right_comm (a b d : Pt) : a + d + b = a + b + d := by
  rw [Pt.ext_iff']; simp only [Pt.add_x, Pt.add_y]; omega
theorem pt_add_sub_right_comm (a b d : Pt) : a + d - b = a - b + d := by
  rw [Pt.ext_iff']; simp only [Pt.add_x, Pt.add_y, Pt.sub_x, Pt.sub_y]; omega
theorem pt_add_zero (a : Pt) : a + Pt.zero = a := by
  rw [Pt.ext_iff']; simp only [Pt.add_x, Pt.add_y, Pt.zero]; omega
theorem pt_sub_zero (a : Pt) : a - Pt.zero = a := by
  rw [Pt.ext_iff']; simp only [Pt.sub_x, Pt.sub_y, Pt.zero]; omega

def shiftB (b : Bresenham) (d : Pt) : Bresenham := ⟨b.point + d, b.error⟩

def shiftBP : BresenhamPoint → Pt → BresenhamPoint
  | .normal p, d => .normal (p + d)
  | .extra p, d => .extra (p + d)

def shiftIt (it : ParallelsIterator) (d : Pt) : ParallelsIterator :=
  { it with left := shiftB it.left d, right := shiftB it.right d }

/-- Closes equalities of tuples / walkers / points that differ only by linear point arithmetic. -/
macro "pt_arith" : tactic => `(tactic| (
  simp only [Prod.mk.injEq, BresenhamPoint.extra.injEq, BresenhamPoint.normal.injEq,
    Bresenham.mk.injEq, Line.mk.injEq, Option.some.injEq, Pt.ext_iff', Pt.add_x, Pt.add_y, Pt.sub_x,
    Pt.sub_y, Pt.zero, and_true, true_and]
  repeat' apply And.intro
  all_goals omega))

theorem nextAll_shift (b : Bresenham) (p : BresenhamParameters) (d : Pt) :
    (shiftB b d).nextAll p = (shiftBP (b.nextAll p).1 d, shiftB (b.nextAll p).2 d) := by
  unfold Bresenham.nextAll shiftB
  by_cases h : b.error > p.errorThreshold
  · cases hm : p.mirrorExtraPoints
    · simp only [h, ↓reduceIte, shiftBP, Bool.false_eq_true]; pt_arith
    · simp only [h, ↓reduceIte, shiftBP]; pt_arith
  · simp only [h, ↓reduceIte, shiftBP]; pt_arith

theorem previousAll_shift (b : Bresenham) (p : BresenhamParameters) (d : Pt) :
    (shiftB b d).previousAll p = (shiftBP (b.previousAll p).1 d, shiftB (b.previousAll p).2 d) := by
  unfold Bresenham.previousAll shiftB
  by_cases h : b.error ≤ -p.errorThreshold
  · cases hm : p.mirrorExtraPoints
    · simp only [h, ↓reduceIte, shiftBP, Bool.not_false]; pt_arith
    · simp only [h, ↓reduceIte, shiftBP, Bool.not_true, Bool.false_eq_true]; pt_arith
  · simp only [h, ↓reduceIte, shiftBP]; pt_arith

def shiftNP (r : (BresenhamPoint × Int) × ParallelsIterator) (d : Pt) :
    (BresenhamPoint × Int) × ParallelsIterator := ((shiftBP r.1.1 d, r.1.2), shiftIt r.2 d)

theorem sideError_shift (it : ParallelsIterator) (d : Pt) (side : LineSide) :
    (shiftIt it d).sideError side = it.sideError side := by cases side <;> rfl

theorem setSideError_shift (it : ParallelsIterator) (d : Pt) (side : LineSide) (e : Int) :
    (shiftIt it d).setSideError side e = shiftIt (it.setSideError side e) d := by cases side <;> rfl

theorem perpStep_shift (it : ParallelsIterator) (d : Pt) (side : LineSide) :
    (shiftIt it d).perpStep side = (shiftBP (it.perpStep side).1 d, shiftIt (it.perpStep side).2 d) := by
  cases side
  · simp only [ParallelsIterator.perpStep, shiftIt, nextAll_shift]
  · simp only [ParallelsIterator.perpStep, shiftIt, previousAll_shift]

theorem nextParallelFuel_shift (fuel : Nat) (it : ParallelsIterator) (side : LineSide) (d : Pt) :
    ParallelsIterator.nextParallelFuel fuel (shiftIt it d) side =
      (ParallelsIterator.nextParallelFuel fuel it side).map (shiftNP · d) := by
  induction fuel generalizing it with
  | zero => rfl
  | succ fuel ih =>
    have e1 : (shiftIt it d).stepErr side = it.stepErr side := by cases side <;> rfl
    have e2 : (shiftIt it d).decr side = it.decr side := by cases side <;> rfl
    rw [Thick.nextParallelFuel_succ, Thick.nextParallelFuel_succ, perpStep_shift, sideError_shift, e1, e2]
    generalize it.perpStep side = r
    obtain ⟨bp, it1⟩ := r
    cases bp with
    | normal p => rfl
    | extra p =>
      simp only [shiftBP, setSideError_shift]
      split
      · rfl
      · exact ih _

theorem nextParallel_shift (it : ParallelsIterator) (side : LineSide) (d : Pt) :
    (shiftIt it d).nextParallel side = (it.nextParallel side).map (shiftNP · d) :=
  nextParallelFuel_shift _ it side d

def shiftItem (r : Option (Bresenham × ParallelLineType) × ParallelsIterator) (d : Pt) :
    Option (Bresenham × ParallelLineType) × ParallelsIterator :=
  (r.1.map (fun x => (shiftB x.1 d, x.2)), shiftIt r.2 d)

theorem next_shift (it : ParallelsIterator) (d : Pt) :
    (shiftIt it d).next = it.next.map (shiftItem · d) := by
  unfold ParallelsIterator.next
  rw [nextParallel_shift]
  have e1 : (shiftIt it d).thicknessAccumulator = it.thicknessAccumulator := rfl
  have e2 : (shiftIt it d).thicknessThreshold = it.thicknessThreshold := rfl
  have e3 : (shiftIt it d).nextSide = it.nextSide := rfl
  rw [e1, e2, e3]
  by_cases h : it.thicknessAccumulator * it.thicknessAccumulator > it.thicknessThreshold
  · simp only [h, ↓reduceIte]; rfl
  · simp only [h, ↓reduceIte]
    cases hr : it.nextParallel it.nextSide with
    | none => rfl
    | some r =>
      obtain ⟨⟨bp, e⟩, it'⟩ := r
      simp only [Option.map_some, shiftNP]
      obtain ⟨pp, perp, acc, thr, flip, left, le, right, re, ns, so⟩ := it'
      cases bp <;> cases so <;> rfl

/-- The iterator built by `ParallelsIterator::new` before the centre line is skipped, as a function
of what it depends on: the start point, the two parameter sets and the squared length. -/
def newSelf (s : Pt) (pp perp : BresenhamParameters) (lsq t : Int) (off : StrokeOffset) :
    ParallelsIterator :=
  { parallelParameters := pp, perpendicularParameters := perp
    thicknessAccumulator := tdiv2 (pp.errorStep.minor + pp.errorStep.major)
    thicknessThreshold := (t * 2) * (t * 2) * lsq
    flip := decide (perp.positionStep.minor = -pp.positionStep.major)
    left := Bresenham.new s, leftError := 0, right := Bresenham.new s, rightError := 0
    nextSide := match off with
      | .none => LineSide.right
      | .left => LineSide.left
      | .right => LineSide.right
    strokeOffset := off }

def newCore (s : Pt) (pp perp : BresenhamParameters) (lsq t : Int) (off : StrokeOffset) :
    Option ParallelsIterator :=
  match (newSelf s pp perp lsq t off).nextParallel (newSelf s pp perp lsq t off).nextSide.swap with
  | none => none
  | some (_, it) => some it

theorem new_eq_core (l : Line) (t : Int) (off : StrokeOffset) :
    ParallelsIterator.new l t off =
      newCore l.start (BresenhamParameters.new (Thick.paramLine l))
        (BresenhamParameters.new (Thick.paramLine l).perpendicular) (Thick.paramLine l).delta.lengthSquared t off := rfl

theorem newCore_shift (s : Pt) (pp perp : BresenhamParameters) (lsq t : Int) (off : StrokeOffset)
    (d : Pt) : newCore (s + d) pp perp lsq t off = (newCore s pp perp lsq t off).map (shiftIt · d) := by
  unfold newCore
  have e : newSelf (s + d) pp perp lsq t off = shiftIt (newSelf s pp perp lsq t off) d := rfl
  rw [e, nextParallel_shift]
  have e2 : (shiftIt (newSelf s pp perp lsq t off) d).nextSide = (newSelf s pp perp lsq t off).nextSide := rfl
  rw [e2]
  cases (newSelf s pp perp lsq t off).nextParallel (newSelf s pp perp lsq t off).nextSide.swap with
  | none => rfl
  | some r => rfl

theorem bparams_translate (l : Line) (d : Pt) :
    BresenhamParameters.new (l.translate d) = BresenhamParameters.new l := by
  unfold BresenhamParameters.new
  simp only [translate_start, translate_stop, pt_add_sub_add]

theorem perpendicular_translate (l : Line) (d : Pt) :
    (l.translate d).perpendicular = l.perpendicular.translate d := by
  unfold Line.perpendicular
  simp only [pt_add_sub_add, Line.translate]
  congr 1
  pt_arith

theorem paramLine_translate (l : Line) (d : Pt) :
    Thick.paramLine (l.translate d) = if l.start = l.stop then Thick.horizontalLine else (Thick.paramLine l).translate d := by
  unfold Thick.paramLine
  have hz : ((l.translate d).start = (l.translate d).stop) ↔ (l.start = l.stop) := by
    simp only [translate_start, translate_stop, Pt.ext_iff', Pt.add_x, Pt.add_y]; omega
  by_cases h : l.start = l.stop
  · simp only [h, hz.mpr h, ↓reduceIte]
  · have h' : ¬ (l.translate d).start = (l.translate d).stop := fun c => h (hz.mp c)
    simp only [h, h', ↓reduceIte]

theorem new_shift (l : Line) (t : Int) (off : StrokeOffset) (d : Pt) :
    ParallelsIterator.new (l.translate d) t off = (ParallelsIterator.new l t off).map (shiftIt · d) := by
  rw [new_eq_core, new_eq_core, paramLine_translate, translate_start]
  by_cases h : l.start = l.stop
  · have hp : Thick.paramLine l = Thick.horizontalLine := by unfold Thick.paramLine; simp only [h, ↓reduceIte]
    simp only [h, ↓reduceIte, hp]
    exact newCore_shift _ _ _ _ _ _ _
  · simp only [h, ↓reduceIte, bparams_translate, perpendicular_translate, delta_translate]
    exact newCore_shift _ _ _ _ _ _ _

/-- A remembered parallel `(start point, type)`, moved by `d`. -/
def shiftPT (s : Pt × ParallelLineType) (d : Pt) : Pt × ParallelLineType := (s.1 + d, s.2)

theorem extentsLoop_shift (fuel : Nat) (it : ParallelsIterator) (left right : Pt × ParallelLineType)
    (d : Pt) :
    extentsLoop fuel (shiftIt it d) (shiftPT left d) (shiftPT right d) =
      (extentsLoop fuel it left right).map (fun r => (shiftPT r.1 d, shiftPT r.2 d)) := by
  induction fuel generalizing it left right with
  | zero => rfl
  | succ fuel ih =>
    unfold extentsLoop
    rw [next_shift]
    cases h1 : it.next with
    | none => rfl
    | some r1 =>
      obtain ⟨o1, it1⟩ := r1
      cases o1 with
      | none => rfl
      | some bt1 =>
        obtain ⟨b1, ty1⟩ := bt1
        simp only [Option.map_some, shiftItem]
        rw [next_shift]
        cases h2 : it1.next with
        | none => rfl
        | some r2 =>
          obtain ⟨o2, it2⟩ := r2
          cases o2 with
          | none => rfl
          | some bt2 =>
            obtain ⟨b2, ty2⟩ := bt2
            simp only [Option.map_some, shiftItem]
            exact ih it2 (b2.point, ty2) (b1.point, ty1)

/-- The accumulator of `Iterator::last`, moved by `d`. -/
def shiftAcc (a : Option (Bresenham × ParallelLineType)) (d : Pt) :
    Option (Bresenham × ParallelLineType) := a.map (fun x => (shiftB x.1 d, x.2))

theorem lastParallel_shift (fuel : Nat) (it : ParallelsIterator)
    (acc : Option (Bresenham × ParallelLineType)) (d : Pt) :
    lastParallel fuel (shiftIt it d) (shiftAcc acc d) =
      (lastParallel fuel it acc).map (shiftAcc · d) := by
  induction fuel generalizing it acc with
  | zero => rfl
  | succ fuel ih =>
    unfold lastParallel
    rw [next_shift]
    cases h1 : it.next with
    | none => rfl
    | some r1 =>
      obtain ⟨o1, it1⟩ := r1
      cases o1 with
      | none => rfl
      | some bt1 => exact ih it1 (some bt1)

/-- The edge line `Line::extents` makes of a remembered parallel `(start point, type)`: the line's
delta from that point, shortened by `reduce` for an `Extra` parallel. -/
def edgeLine (l : Line) (reduce : Pt) (s : Pt × ParallelLineType) : Line :=
  ⟨s.1, s.1 + (l.stop - l.start) - (match s.2 with | .normal => Pt.zero | .extra => reduce)⟩

/-- The parallel `Iterator::last` found, as `extents` remembers it (the line's start if none). -/
def lastEnd (l : Line) (r : Option (Bresenham × ParallelLineType)) : Pt × ParallelLineType :=
  match r with
  | none => (l.start, .normal)
  | some (b, ty) => (b.point, ty)

/-- The parallels `(left, right)` from which `Line::extents` makes its two edge lines. -/
def extentsEnds (l : Line) (w : Nat) (it : ParallelsIterator) :
    StrokeOffset → Option ((Pt × ParallelLineType) × (Pt × ParallelLineType))
  | .none => extentsLoop (2 * w + 4) it (l.start, .normal) (l.start, .normal)
  | .left => (lastParallel (4 * w + 8) it none).map fun r => (lastEnd l r, (l.start, .normal))
  | .right => (lastParallel (4 * w + 8) it none).map fun r => ((l.start, .normal), lastEnd l r)

theorem extents_eq (l : Line) (w : Nat) (off : StrokeOffset) :
    extents l w off = (ParallelsIterator.new l (satAsI32 w) off).bind fun it =>
      (extentsEnds l w it off).map fun p =>
        (edgeLine l (it.parallelParameters.positionStep.major + it.parallelParameters.positionStep.minor) p.1,
         edgeLine l (it.parallelParameters.positionStep.major + it.parallelParameters.positionStep.minor) p.2) := by
  unfold extents
  cases ParallelsIterator.new l (satAsI32 w) off with
  | none => rfl
  | some it =>
    cases off with
    | none =>
      simp only [Option.bind_eq_bind, Option.bind_some, extentsEnds]
      cases extentsLoop (2 * w + 4) it (l.start, .normal) (l.start, .normal) <;> rfl
    | left =>
      simp only [Option.bind_eq_bind, Option.bind_some, extentsEnds]
      rcases lastParallel (4 * w + 8) it none with _ | _ | ⟨b, ty⟩ <;> rfl
    | right =>
      simp only [Option.bind_eq_bind, Option.bind_some, extentsEnds]
      rcases lastParallel (4 * w + 8) it none with _ | _ | ⟨b, ty⟩ <;> rfl

/-- The stroked-line model (EG.Model.ThickLine) carries its own `extents`, with the `StrokeOffset::None`
arm only: it is that arm of `Line::extents` as modelled here. -/
theorem thick_extents_eq (l : Line) (w : Nat) : Thick.extents l w = extents l w .none := by
  unfold Thick.extents extents
  cases ParallelsIterator.new l (satAsI32 w) .none with
  | none => rfl
  | some it =>
    simp only [Option.bind_eq_bind, Option.bind_some]
    cases extentsLoop (2 * w + 4) it (l.start, .normal) (l.start, .normal) <;> rfl

theorem extentsEnds_shift (l : Line) (w : Nat) (it : ParallelsIterator) (off : StrokeOffset) (d : Pt) :
    extentsEnds (l.translate d) w (shiftIt it d) off =
      (extentsEnds l w it off).map fun p => (shiftPT p.1 d, shiftPT p.2 d) := by
  have hl : lastParallel (4 * w + 8) (shiftIt it d) none =
      (lastParallel (4 * w + 8) it none).map (shiftAcc · d) := lastParallel_shift _ it none d
  cases off with
  | none => exact extentsLoop_shift _ it (l.start, .normal) (l.start, .normal) d
  | left =>
    simp only [extentsEnds, hl]
    rcases lastParallel (4 * w + 8) it none with _ | _ | ⟨b, ty⟩ <;> rfl
  | right =>
    simp only [extentsEnds, hl]
    rcases lastParallel (4 * w + 8) it none with _ | _ | ⟨b, ty⟩ <;> rfl

theorem edgeLine_translate (l : Line) (reduce : Pt) (s : Pt × ParallelLineType) (d : Pt) :
    edgeLine (l.translate d) reduce (shiftPT s d) = (edgeLine l reduce s).translate d := by
  obtain ⟨p, ty⟩ := s
  unfold edgeLine shiftPT Line.translate
  simp only [translate_start, translate_stop]
  cases ty <;> pt_arith

def shiftLines (r : Line × Line) (d : Pt) : Line × Line := (r.1.translate d, r.2.translate d)

theorem extents_translate (l : Line) (w : Nat) (off : StrokeOffset) (d : Pt) :
    extents (l.translate d) w off = (extents l w off).map (shiftLines · d) := by
  rw [extents_eq, extents_eq, new_shift]
  cases ParallelsIterator.new l (satAsI32 w) off with
  | none => rfl
  | some it =>
    simp only [Option.map_some, Option.bind_some, extentsEnds_shift]
    cases extentsEnds l w it off with
    | none => rfl
    | some p => simp only [Option.map_some, edgeLine_translate, shiftLines]; rfl

end Joins
end EG
