/-
  EG.Lemmas.StyledArc — styled arcs and styled sectors walk a box and give each point at most one
  pixel (`BoxPixels`); what follows from that shape alone is proved once, then the styled arc's pixel
  iterator is shown to have it. The plane sector is an arbitrary parameter throughout.
-/
import EG.Lemmas.Sector
import EG.Lemmas.PMapTranslate
import EG.Model.StyledArc
namespace EG

theorem DistIt.rest_empty : DistIt.empty.rest = [] := by
  simp [DistIt.rest, DistIt.empty, Rect.PointsIt.rest, Rect.PointsIt.empty]

/-- What a styled iterator takes from its distance iterator — `find` with `pred`, then the loop body
`g` — as a function of the points of the circle's box. -/
theorem DistIt.filterMap_styled {β : Type} (transparent : Bool) (c : Circle) (pred : DistItem → Bool)
    (g : DistItem → Option β) :
    ((if !transparent then c.distances else DistIt.empty).rest.filter pred).filterMap g =
      if transparent then []
      else c.boundingBox.points.filterMap
        (fun p => if pred (DistIt.item c.center2x p) then g (DistIt.item c.center2x p) else none) := by
  cases transparent with
  | true => exact congrArg (fun l => (l.filter pred).filterMap g) DistIt.rest_empty
  | false =>
    show (c.distances.rest.filter pred).filterMap g = _
    rw [Circle.distances, DistIt.rest_new, List.filter_map, List.filterMap_map, List.filterMap_filter]
    rfl

theorem DistIt.length_filterMap_le_budget {β : Type} (pred : DistItem → Bool) (g : DistItem → Option β)
    (it : DistIt) : ((it.rest.filter pred).filterMap g).length ≤ it.points.budget + 1 :=
  Nat.le_trans (List.length_filterMap_le _ _) (DistIt.length_filter_le_budget pred it)

theorem Style.strokeOffset_nonneg (st : Style) : 0 ≤ st.strokeOffset := by
  unfold Style.strokeOffset satAsI32; split <;> omega

/-- `ws` is the pixel sequence of a shape that walks the points of `bb` — no point at all when
`transparent` — and yields for the point `p` the pixel `f p`, which sits at `p`. -/
structure BoxPixels (ws : Writes) (transparent : Bool) (bb : Rect) (f : Pt → Option (Pt × Color)) :
    Prop where
  eq : ws = if transparent then [] else bb.points.filterMap f
  fst : ∀ p w, f p = some w → w.1 = p

namespace BoxPixels
variable {ws : Writes} {tr : Bool} {bb : Rect} {f : Pt → Option (Pt × Color)}

theorem of_transparent (h : BoxPixels ws tr bb f) (ht : tr = true) : ws = [] := by
  rw [h.eq, if_pos ht]

theorem mem_imp (h : BoxPixels ws tr bb f) {w : Pt × Color} (hw : w ∈ ws) :
    w.1 ∈ bb.points ∧ f w.1 = some w := by
  rw [h.eq] at hw
  split at hw
  · cases hw
  · obtain ⟨p, hp, hfp⟩ := List.mem_filterMap.mp hw
    rw [h.fst p w hfp]
    exact ⟨hp, hfp⟩

theorem sublist (h : BoxPixels ws tr bb f) : (ws.map (·.1)).Sublist bb.points := by
  rw [h.eq]
  split
  · exact List.nil_sublist _
  · generalize bb.points = l
    induction l with
    | nil => exact List.Sublist.slnil
    | cons p l ih =>
      cases hfp : f p with
      | none => rw [List.filterMap_cons_none hfp]; exact List.Sublist.cons _ ih
      | some w =>
        rw [List.filterMap_cons_some hfp, List.map_cons, h.fst p w hfp]
        exact List.Sublist.cons_cons _ ih

/-- No point is offered twice (the points of `ws` are a sublist of the duplicate-free `bb.points`), so
no write is overwritten: the map at `p` is the colour of `p`'s own pixel. -/
theorem draw_map (h : BoxPixels ws tr bb f) (hb : bb.InRange) (B : Rect) (p : Pt) :
    runNative B [Call.drawIter ws] p =
      if B.contains p = true then
        (if tr then none else if bb.contains p = true then (f p).map (·.2) else none)
      else none := by
  rw [runNative_drawIter]
  by_cases hB : B.contains p = true
  · rw [if_pos hB]
    by_cases ht : tr = true
    · rw [if_pos ht, h.of_transparent ht]
      rfl
    · rw [if_neg ht]
      by_cases hp : bb.contains p = true
      · rw [if_pos hp]
        cases hfp : f p with
        | none =>
          rw [Option.map_none, PMap.apply_clip_eq_none]
          rintro ⟨-, c, hc⟩
          have := (h.mem_imp hc).2
          rw [hfp] at this
          cases this
        | some w =>
          have hw : w = (p, w.2) := by rw [← h.fst p w hfp]
          rw [Option.map_some, PMap.apply_clip_nodup B ws ((Rect.points_nodup _).sublist h.sublist), ← hw]
          refine ⟨?_, hB⟩
          rw [h.eq, if_neg ht]
          exact List.mem_filterMap.mpr ⟨p, (Rect.mem_points hb).mpr hp, hfp⟩
      · rw [if_neg hp, PMap.apply_clip_eq_none]
        rintro ⟨-, c, hc⟩
        exact hp ((Rect.mem_points hb).mp (h.mem_imp hc).1)
  · rw [if_neg hB, PMap.apply_clip_eq_none]
    exact fun h' => hB h'.1

theorem drawn_in_box (h : BoxPixels ws tr bb f) (hb : bb.InRange) (B : Rect) (p : Pt)
    (hp : runNative B [Call.drawIter ws] p ≠ none) : bb.contains p = true := by
  rw [h.draw_map hb B p] at hp
  by_contra hc
  rw [if_neg hc, ite_self, ite_self] at hp
  exact hp rfl

theorem transparent (h : BoxPixels ws tr bb f) (ht : tr = true) (B : Rect) (p : Pt) :
    ws = [] ∧ runNative B [Call.drawIter ws] p = none :=
  ⟨h.of_transparent ht, by rw [h.of_transparent ht]; rfl⟩

theorem translate {ws' : Writes} {bb' : Rect} {f' : Pt → Option (Pt × Color)} {t : Pt}
    (h : BoxPixels ws tr bb f) (h' : BoxPixels ws' tr bb' f') (hbb : bb' = bb.translate t)
    (hf : ∀ p, f' (p + t) = (f p).map (fun w => (w.1 + t, w.2)))
    (h1 : bb.InRange) (h2 : bb'.InRange) : ws' = Writes.translate t ws := by
  subst hbb
  rw [h.eq, h'.eq]
  split
  · rfl
  · exact Rect.filterMap_points_translate h1 h2 hf

end BoxPixels

theorem runNative_drawIter_translate (B : Rect) (ws : Writes) (t : Pt) :
    runNative (B.translate t) [Call.drawIter (Writes.translate t ws)] =
      PMap.shift t (runNative B [Call.drawIter ws]) := by
  rw [runNative_drawIter, runNative_drawIter, apply_clip_translate]

namespace Arc

def StyledPixelsIt.rest (it : StyledPixelsIt) : Writes :=
  (it.iter.rest.filter it.pred).filterMap (fun x => it.strokeColor.map (fun c => (x.1, c)))

theorem StyledPixelsIt.drains : Drains StyledPixelsIt.next StyledPixelsIt.toListFuel :=
  ⟨fun _ => rfl, fun n it => by rw [StyledPixelsIt.toListFuel]; cases it.next <;> rfl⟩

theorem StyledPixelsIt.yields : Yields StyledPixelsIt.next StyledPixelsIt.rest := by
  intro it
  unfold StyledPixelsIt.next StyledPixelsIt.rest
  cases it.strokeColor with
  | none => exact List.filterMap_eq_nil_iff.mpr fun _ _ => rfl
  | some c =>
    rw [it.iter.find_spec it.pred]
    cases it.iter.find it.pred <;> rfl

/-- The stroke test of a styled arc on points: inside the outer edge circle, not inside the inner
edge circle (by the thresholds on the doubled distance to the outer edge's `center_2x`), inside the
plane sector. -/
def strokeAccepts (st : Style) (a : Arc) (p : Pt) : Bool :=
  (a.styledPixelsIt st).pred (DistIt.item (a.outsideEdge st).center2x p)

theorem strokeAccepts_eq (st : Style) (a : Arc) (p : Pt) :
    a.strokeAccepts st p =
      (Circle.hit (a.outsideEdge st).center2x (a.outsideEdge st).threshold p.y p.x &&
        decide ((DistIt.item (a.outsideEdge st).center2x p).2.2 ≥ (a.insideEdge st).threshold) &&
        a.ps.contains ((⟨p.x * 2, p.y * 2⟩ : Pt) - (a.outsideEdge st).center2x)) := by
  unfold strokeAccepts StyledPixelsIt.pred styledPixelsIt
  simp only [DistIt.item_dist_lt, DistIt.item_delta]

/-- What `pixels()` yields for the point `p` of the iterated box (`none`: nothing). -/
def pixelAt (st : Style) (a : Arc) (p : Pt) : Option (Pt × Color) :=
  if a.strokeAccepts st p then st.stroke.map (fun c => (p, c)) else none

theorem pixelAt_eq_some (st : Style) (a : Arc) (p : Pt) (w : Pt × Color) :
    a.pixelAt st p = some w ↔ a.strokeAccepts st p = true ∧ st.stroke = some w.2 ∧ w.1 = p := by
  unfold pixelAt
  cases a.strokeAccepts st p with
  | false => exact ⟨fun h => (nomatch h), fun h => nomatch h.1⟩
  | true =>
    cases st.stroke with
    | none => exact ⟨fun h => (nomatch h), fun ⟨_, hs, _⟩ => nomatch hs⟩
    | some c =>
      constructor
      · intro h; cases h; exact ⟨rfl, rfl, rfl⟩
      · rintro ⟨-, hc, rfl⟩; cases hc; rfl

theorem styledPixels_eq_filterMap (st : Style) (a : Arc) :
    a.styledPixels st =
      if st.isTransparent then []
      else (a.outsideEdge st).boundingBox.points.filterMap (a.pixelAt st) :=
  (StyledPixelsIt.drains.eq_rest StyledPixelsIt.yields (DistIt.length_filterMap_le_budget _ _ _)).trans
    (DistIt.filterMap_styled st.isTransparent (a.outsideEdge st) _ _)

/-- The same with the cases of the stroke colour spelt out. -/
theorem styledPixels_eq (st : Style) (a : Arc) :
    a.styledPixels st =
      match st.stroke with
      | none => []
      | some c =>
        if st.isTransparent then []
        else ((a.outsideEdge st).boundingBox.points.filter (a.strokeAccepts st)).map (fun p => (p, c)) := by
  rw [styledPixels_eq_filterMap]
  unfold pixelAt
  cases st.stroke with
  | none =>
    split
    · rfl
    · exact List.filterMap_eq_nil_iff.mpr fun p _ => ite_self _
  | some c =>
    simp only [Option.map_some]
    rw [← List.filterMap_eq_map, List.filterMap_filter]
    rfl

theorem styledBoundingBox_eq (st : Style) (a : Arc) :
    a.styledBoundingBox st = (a.outsideEdge st).boundingBox :=
  (Circle.offset_boundingBox_of_nonneg a.toCircle _ st.strokeOffset_nonneg).symm

theorem boxPixels (st : Style) (a : Arc) :
    BoxPixels (a.styledPixels st) st.isTransparent (a.styledBoundingBox st) (a.pixelAt st) :=
  ⟨by rw [styledBoundingBox_eq]; exact styledPixels_eq_filterMap st a,
   fun p w h => by obtain ⟨-, -, hp⟩ := (pixelAt_eq_some st a p w).mp h; exact hp⟩

/-- What a styled arc paints at `p` on an unbounded target. -/
def styledExpected (st : Style) (a : Arc) (p : Pt) : Option Color :=
  if st.isTransparent then none
  else if (a.styledBoundingBox st).contains p = true ∧ a.strokeAccepts st p = true then st.stroke
  else none

theorem draw_map (st : Style) (a : Arc) (B : Rect) (h : (a.styledBoundingBox st).InRange) (p : Pt) :
    runNative B (a.drawStyled st) p = if B.contains p = true then a.styledExpected st p else none := by
  have e : (if (a.styledBoundingBox st).contains p = true then (a.pixelAt st p).map (·.2) else none) =
      if (a.styledBoundingBox st).contains p = true ∧ a.strokeAccepts st p = true then st.stroke
      else none := by
    unfold pixelAt
    cases (a.styledBoundingBox st).contains p <;> cases a.strokeAccepts st p <;>
      cases st.stroke <;> rfl
  unfold styledExpected
  rw [← e]
  exact (boxPixels st a).draw_map h B p

theorem translate_outsideEdge (st : Style) (a : Arc) (t : Pt) :
    (a.translate t).outsideEdge st = (a.outsideEdge st).translate t :=
  Circle.translate_offset a.toCircle t st.strokeOffset

theorem translate_insideEdge (st : Style) (a : Arc) (t : Pt) :
    (a.translate t).insideEdge st = (a.insideEdge st).translate t :=
  Circle.translate_offset a.toCircle t st.fillOffset

/-- The edge circles move with the arc, so the thresholds and the plane sector stay and the item of
the moved point keeps `delta` and `distance`. -/
theorem strokeAccepts_translate (st : Style) (a : Arc) (t p : Pt) :
    (a.translate t).strokeAccepts st (p + t) = a.strokeAccepts st p := by
  rw [strokeAccepts_eq, strokeAccepts_eq, translate_outsideEdge, translate_insideEdge,
    Circle.translate_center2x, ← DistIt.item_dist_lt, ← DistIt.item_delta, DistIt.item_translate]
  rfl

theorem pixelAt_translate (st : Style) (a : Arc) (t p : Pt) :
    (a.translate t).pixelAt st (p + t) = (a.pixelAt st p).map (fun w => (w.1 + t, w.2)) := by
  unfold pixelAt
  rw [strokeAccepts_translate]
  cases a.strokeAccepts st p <;> cases st.stroke <;> rfl

theorem translate_styledBoundingBox (st : Style) (a : Arc) (t : Pt) :
    (a.translate t).styledBoundingBox st = (a.styledBoundingBox st).translate t :=
  Rect.offset_translate a.boundingBox t st.strokeOffset

end Arc
end EG
