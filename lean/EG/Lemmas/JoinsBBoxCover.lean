/-
  EG.Lemmas.JoinsBBoxCover — the fold of the segment boxes (`foldEdgeBoxes`, the model of
  `styled_bounding_box` of stroked polylines and triangles) covers the END POINTS OF EVERY OUTLINE
  LINE of every segment of a chain of segments.

  The outline of a (non-skeleton) segment `⟨A, B⟩` consists of its two edges (end points = its four
  corners, inside its own `edges_bounding_box`), the start cap of `A` and the end cap of `B`. A cap
  of a join with a bevel / degenerate filler line is split at the MIDPOINT of that filler line, and
  the filler runs from `J.first_edge_end.side` (a corner of the segment BEFORE the join) to
  `J.second_edge_start.side` (a corner of the segment AFTER it): "other segments expand the box".
  So the midpoint lies in the envelope of the boxes of the two segments meeting at the join -
  except when one of the two is a skeleton segment (its box holds its right edge only) and the
  filler is on the LEFT side: that configuration is not covered by the argument and is the
  decidable guard `adjOK` (the midpoint is then checked directly).

  Nothing in the step from the corners to the outline is about boxes: for any property `P` of
  points, the end points of the outline have `P` when the corners and the filler midpoints do
  (`outline_ends_of_corners`), and the corners suffice for a `P` that `midpoint` keeps
  (`MidClosed`, `outline_ends_of_joins`). "In the box `U`" (`Covered U`) is one such `P`; "within
  2^27 + 4096 of the origin" (Lemmas/CheckedSegment.lean) another.

  The chain of segments of a stroked polyline (`chainFrom`, `polyChain`: EG.Lemmas.JoinsPolyMove) is
  linked - consecutive segments share their join - and neither its first start join nor its last end
  join has a filler line (`chainFrom_spec`, `polyChain_spec`).
-/
import EG.Lemmas.JoinsBox
import EG.Lemmas.JoinsPolyMove
set_option linter.unusedSimpArgs false
namespace EG
namespace Joins
open Thick (LineSide StrokeOffset)

def Covered (U : Rect) (l : Line) : Prop := U.contains l.start = true ∧ U.contains l.stop = true

theorem contains_between {U : Rect} {a b p : Pt} (ha : U.contains a = true) (hb : U.contains b = true)
    (hx : min a.x b.x ≤ p.x ∧ p.x ≤ max a.x b.x) (hy : min a.y b.y ≤ p.y ∧ p.y ≤ max a.y b.y) :
    U.contains p = true :=
  Rect.contains_between ha hb hx hy

theorem mid_between (a b : Int) : min a b ≤ a + tdiv2 (b - a) ∧ a + tdiv2 (b - a) ≤ max a b := by
  have := tdiv2_bounds (b - a)
  omega

theorem contains_midpoint {U : Rect} {l : Line} (h : Covered U l) : U.contains (midpoint l) = true :=
  contains_between h.1 h.2 (mid_between _ _) (mid_between _ _)

def BoxIn (U : Rect) (s : ThickSegment) : Prop :=
  ∀ p, s.edgesBoundingBox.contains p = true → U.contains p = true

theorem edgesBoundingBox_bottomRight (s : ThickSegment) :
    ∃ br, s.edgesBoundingBox.bottomRight = some br ∧
      br.x = s.edgesBoundingBox.tl.x + s.edgesBoundingBox.size.w - 1 ∧
      br.y = s.edgesBoundingBox.tl.y + s.edgesBoundingBox.size.h - 1 ∧
      0 < s.edgesBoundingBox.size.w ∧ 0 < s.edgesBoundingBox.size.h := by
  have hsz : 0 < s.edgesBoundingBox.size.w ∧ 0 < s.edgesBoundingBox.size.h := by
    unfold ThickSegment.edgesBoundingBox lineBoundingBox
    cases h : s.isSkeleton <;>
      simp only [h, Bool.false_eq_true, ↓reduceIte, Rect.withCorners] <;> omega
  refine ⟨_, Rect.bottomRight_some hsz, rfl, rfl, hsz.1, hsz.2⟩

theorem boxStep_1y (acc : Pt × Pt) (s : ThickSegment) :
    (boxStep acc s).1.y = min acc.1.y s.edgesBoundingBox.tl.y := rfl
theorem boxStep_2x (acc : Pt × Pt) (s : ThickSegment) :
    (boxStep acc s).2.x = max acc.2.x (s.edgesBoundingBox.bottomRight.getD s.edgesBoundingBox.tl).x := rfl
theorem boxStep_2y (acc : Pt × Pt) (s : ThickSegment) :
    (boxStep acc s).2.y = max acc.2.y (s.edgesBoundingBox.bottomRight.getD s.edgesBoundingBox.tl).y := rfl

theorem foldl_boxStep_mono (segs : List ThickSegment) (acc : Pt × Pt) :
    (segs.foldl boxStep acc).1.x ≤ acc.1.x ∧ (segs.foldl boxStep acc).1.y ≤ acc.1.y ∧
    acc.2.x ≤ (segs.foldl boxStep acc).2.x ∧ acc.2.y ≤ (segs.foldl boxStep acc).2.y := by
  induction segs generalizing acc with
  | nil => exact ⟨Int.le_refl _, Int.le_refl _, Int.le_refl _, Int.le_refl _⟩
  | cons s rest ih =>
    obtain ⟨h1, h2, h3, h4⟩ := ih (boxStep acc s)
    exact ⟨Int.le_trans h1 (Int.min_le_left _ _), Int.le_trans h2 (Int.min_le_left _ _),
      Int.le_trans (Int.le_max_left _ _) h3, Int.le_trans (Int.le_max_left _ _) h4⟩

theorem foldl_boxStep_covers (segs : List ThickSegment) (acc : Pt × Pt) (s : ThickSegment)
    (hs : s ∈ segs) :
    (segs.foldl boxStep acc).1.x ≤ s.edgesBoundingBox.tl.x ∧
    (segs.foldl boxStep acc).1.y ≤ s.edgesBoundingBox.tl.y ∧
    s.edgesBoundingBox.tl.x + s.edgesBoundingBox.size.w - 1 ≤ (segs.foldl boxStep acc).2.x ∧
    s.edgesBoundingBox.tl.y + s.edgesBoundingBox.size.h - 1 ≤ (segs.foldl boxStep acc).2.y := by
  induction segs generalizing acc with
  | nil => cases hs
  | cons s0 rest ih =>
    simp only [List.foldl_cons]
    rcases List.mem_cons.mp hs with rfl | hs
    · obtain ⟨h1, h2, h3, h4⟩ := foldl_boxStep_mono rest (boxStep acc s)
      obtain ⟨br, hbr, bx, by_, _, _⟩ := edgesBoundingBox_bottomRight s
      rw [boxStep_2x, hbr, Option.getD_some, bx] at h3
      rw [boxStep_2y, hbr, Option.getD_some, by_] at h4
      exact ⟨Int.le_trans h1 (Int.min_le_right _ _), Int.le_trans h2 (Int.min_le_right _ _),
        Int.le_trans (Int.le_max_right _ _) h3, Int.le_trans (Int.le_max_right _ _) h4⟩
    · exact ih (boxStep acc s0) hs

theorem foldEdgeBoxes_boxIn (segs : List ThickSegment) (s : ThickSegment) (hs : s ∈ segs) :
    BoxIn (foldEdgeBoxes segs) s := by
  intro p hp
  rw [foldEdgeBoxes_eq, Rect.contains_withCorners]
  obtain ⟨h1, h2, h3, h4⟩ := foldl_boxStep_covers segs
    (⟨2147483647, 2147483647⟩, ⟨-2147483648, -2147483648⟩) s hs
  rw [Rect.contains_iff] at hp
  omega

/-- The right edge is what the box of every segment holds, skeleton or not. -/
theorem box_right_start {U : Rect} {s : ThickSegment} (hb : BoxIn U s) :
    U.contains s.startJoin.secondEdgeStart.right = true := by
  cases h : s.isSkeleton with
  | true => exact hb _ (edgesBoundingBox_skeleton s h).1
  | false => exact hb _ (edgesBoundingBox_thick s h).1

theorem box_right_stop {U : Rect} {s : ThickSegment} (hb : BoxIn U s) :
    U.contains s.endJoin.firstEdgeEnd.right = true := by
  cases h : s.isSkeleton with
  | true => exact hb _ (edgesBoundingBox_skeleton s h).2
  | false => exact hb _ (edgesBoundingBox_thick s h).2.1

theorem box_left {U : Rect} {s : ThickSegment} (hb : BoxIn U s) (h : s.isSkeleton = false) :
    U.contains s.endJoin.firstEdgeEnd.left = true ∧ U.contains s.startJoin.secondEdgeStart.left = true :=
  ⟨hb _ (edgesBoundingBox_thick s h).2.2.1, hb _ (edgesBoundingBox_thick s h).2.2.2⟩

theorem skeleton_box_start {U : Rect} {s : ThickSegment} (hb : BoxIn U s) (_ : s.isSkeleton = true) :
    U.contains s.startJoin.secondEdgeStart.right = true :=
  box_right_start hb

theorem skeleton_box_stop {U : Rect} {s : ThickSegment} (hb : BoxIn U s) (_ : s.isSkeleton = true) :
    U.contains s.endJoin.firstEdgeEnd.right = true :=
  box_right_stop hb

theorem thick_box_corners {U : Rect} {s : ThickSegment} (hb : BoxIn U s) (h : s.isSkeleton = false) :
    U.contains s.startJoin.secondEdgeStart.right = true ∧
    U.contains s.endJoin.firstEdgeEnd.right = true ∧
    U.contains s.endJoin.firstEdgeEnd.left = true ∧
    U.contains s.startJoin.secondEdgeStart.left = true :=
  ⟨box_right_start hb, box_right_stop hb, (box_left hb h).1, (box_left hb h).2⟩

def fillerSide (j : LineJoin) : Option LineSide :=
  match j.kind with
  | .bevel side | .degenerate side => some side
  | _ => none

theorem fillerLine_eq (j : LineJoin) :
    j.fillerLine = match fillerSide j with
      | some .left => some ⟨j.firstEdgeEnd.left, j.secondEdgeStart.left⟩
      | some .right => some ⟨j.firstEdgeEnd.right, j.secondEdgeStart.right⟩
      | none => none := by
  unfold LineJoin.fillerLine fillerSide
  cases j.kind with
  | miter => rfl
  | bevel side => cases side <;> rfl
  | degenerate side => cases side <;> rfl
  | colinear => rfl
  | start => rfl
  | stop => rfl

/-- The guard for two segments `s`, `s'` meeting at the join `s.end_join` (`= s'.start_join`):
either both or none of them are skeleton segments, or the join has no filler line on the LEFT side,
or the midpoint of that filler line lies in `U`. -/
def adjOK (U : Rect) (s s' : ThickSegment) : Bool :=
  (s.isSkeleton == s'.isSkeleton) ||
    match fillerSide s.endJoin with
    | some .left => U.contains (midpoint ⟨s.endJoin.firstEdgeEnd.left, s.endJoin.secondEdgeStart.left⟩)
    | _ => true

theorem filler_midpoint_covered {U : Rect} {s s' : ThickSegment} (hj : s.endJoin = s'.startJoin)
    (hb : BoxIn U s) (hb' : BoxIn U s') (hg : adjOK U s s' = true) (f : Line)
    (hf : s.endJoin.fillerLine = some f) (hsk : s.isSkeleton = false ∨ s'.isSkeleton = false) :
    U.contains (midpoint f) = true := by
  rw [fillerLine_eq] at hf
  unfold adjOK at hg
  cases hside : fillerSide s.endJoin with
  | none => rw [hside] at hf; cases hf
  | some side =>
    rw [hside] at hf hg
    cases side with
    | right =>
      -- between two right corners, which every box holds
      cases hf
      have d := box_right_start hb'
      rw [← hj] at d
      exact contains_midpoint ⟨box_right_stop hb, d⟩
    | left =>
      -- between two left corners: boxed if both segments are thick, else the guard says so
      cases hf
      cases h1 : s.isSkeleton <;> cases h2 : s'.isSkeleton
      · have d := (box_left hb' h2).2
        rw [← hj] at d
        exact contains_midpoint ⟨(box_left hb h1).1, d⟩
      · rw [h1, h2] at hg
        simpa using hg
      · rw [h1, h2] at hg
        simpa using hg
      · rw [h1, h2] at hsk
        cases hsk <;> contradiction

def capList (r : Line × Option Line) : List Line :=
  [r.1] ++ (match r.2 with | some l => [l] | none => [])

theorem outline_eq (s : ThickSegment) (h : s.isSkeleton = false) :
    s.outline = capList s.startJoin.startCapLines ++ capList s.endJoin.endCapLines ++
      [s.edges.1, s.edges.2] := by
  unfold ThickSegment.outline capList
  simp only [h, Bool.false_eq_true, ↓reduceIte, List.append_assoc]
  rfl

/-- Both ends of a line satisfy `P`. (`Covered U` is `Ends (U.contains · = true)`.) -/
def Ends (P : Pt → Prop) (l : Line) : Prop := P l.start ∧ P l.stop

/-- `P` holds between any two of its points, as far as `midpoint` goes. -/
def MidClosed (P : Pt → Prop) : Prop := ∀ l : Line, Ends P l → P (midpoint l)

theorem cap_ends {P : Pt → Prop} (j : LineJoin) (c : EdgeCorners) (hl : P c.left) (hr : P c.right)
    (hm : ∀ f, j.fillerLine = some f → P (midpoint f)) : ∀ l ∈ capList (j.cap c), Ends P l := by
  unfold LineJoin.cap capList
  cases hf : j.fillerLine with
  | none =>
    intro l hl'
    simp only [List.cons_append, List.nil_append, List.mem_cons, List.not_mem_nil, or_false] at hl'
    subst hl'
    exact ⟨hl, hr⟩
  | some f =>
    have hm' := hm f hf
    intro l hl'
    simp only [List.cons_append, List.nil_append, List.mem_cons, List.not_mem_nil, or_false] at hl'
    rcases hl' with rfl | rfl
    · exact ⟨hl, hm'⟩
    · exact ⟨hm', hr⟩

/-- **Every end point of the outline satisfies `P`**, when the right corners do and, unless the segment is a
skeleton, the left corners and the midpoints of the two filler lines. -/
theorem outline_ends_of_corners {P : Pt → Prop} (s : ThickSegment)
    (hr : P s.startJoin.secondEdgeStart.right ∧ P s.endJoin.firstEdgeEnd.right)
    (hl : s.isSkeleton = false →
      (P s.endJoin.firstEdgeEnd.left ∧ P s.startJoin.secondEdgeStart.left) ∧
      (∀ f, s.startJoin.fillerLine = some f → P (midpoint f)) ∧
      (∀ f, s.endJoin.fillerLine = some f → P (midpoint f))) :
    ∀ l ∈ s.outline, Ends P l := by
  cases h : s.isSkeleton with
  | true =>
    rw [outline_skeleton s h]
    intro l hl'
    simp only [List.mem_cons, List.not_mem_nil, or_false] at hl'
    subst hl'
    exact hr
  | false =>
    obtain ⟨⟨c3, c4⟩, hA, hB⟩ := hl h
    rw [outline_eq s h]
    intro l hl'
    simp only [List.mem_append] at hl'
    rcases hl' with (hl' | hl') | hl'
    · exact cap_ends s.startJoin s.startJoin.secondEdgeStart c4 hr.1 hA l hl'
    · exact cap_ends s.endJoin s.endJoin.firstEdgeEnd c3 hr.2 hB l hl'
    · simp only [List.mem_cons, List.not_mem_nil, or_false] at hl'
      rcases hl' with rfl | rfl
      · exact hr
      · exact ⟨c3, c4⟩

theorem LineJoin.All.filler {P : Pt → Prop} {j : LineJoin} (h : j.All P) {f : Line}
    (hf : j.fillerLine = some f) : Ends P f := by
  obtain ⟨a, b, c, d⟩ := h
  unfold LineJoin.fillerLine at hf
  split at hf
  · split at hf <;> cases hf
    exacts [⟨a, c⟩, ⟨b, d⟩]
  · split at hf <;> cases hf
    exacts [⟨a, c⟩, ⟨b, d⟩]
  · cases hf

/-- The same from the corners of the two joins, for a `P` closed under `midpoint`. -/
theorem outline_ends_of_joins {P : Pt → Prop} (hP : MidClosed P) (s : ThickSegment)
    (hA : s.startJoin.All P) (hB : s.endJoin.All P) : ∀ l ∈ s.outline, Ends P l :=
  outline_ends_of_corners s ⟨hA.2.2.2, hB.2.1⟩ fun _ =>
    ⟨⟨hB.1, hA.2.2.1⟩, fun _ hf => hP _ (hA.filler hf), fun _ hf => hP _ (hB.filler hf)⟩

theorem midClosed_contains (U : Rect) : MidClosed (fun p => U.contains p = true) :=
  fun _ h => contains_midpoint h

theorem cap_covered {U : Rect} (j : LineJoin) (c : EdgeCorners) (hl : U.contains c.left = true)
    (hr : U.contains c.right = true)
    (hm : ∀ f, j.fillerLine = some f → U.contains (midpoint f) = true) :
    ∀ l ∈ capList (j.cap c), Covered U l :=
  cap_ends (P := fun p => U.contains p = true) j c hl hr hm

theorem outline_covered {U : Rect} (s : ThickSegment) (hb : BoxIn U s)
    (hA : s.isSkeleton = false → ∀ f, s.startJoin.fillerLine = some f → U.contains (midpoint f) = true)
    (hB : s.isSkeleton = false → ∀ f, s.endJoin.fillerLine = some f → U.contains (midpoint f) = true) :
    ∀ l ∈ s.outline, Covered U l :=
  outline_ends_of_corners (P := fun p => U.contains p = true) s ⟨box_right_start hb, box_right_stop hb⟩
    fun h => ⟨box_left hb h, hA h, hB h⟩

def Linked : List ThickSegment → Prop
  | s :: s' :: rest => s.endJoin = s'.startJoin ∧ Linked (s' :: rest)
  | _ => True

def chainOK (U : Rect) : List ThickSegment → Bool
  | s :: s' :: rest => adjOK U s s' && chainOK U (s' :: rest)
  | _ => true

def HeadOK (U : Rect) (segs : List ThickSegment) : Prop :=
  ∀ s, segs.head? = some s → s.isSkeleton = false →
    ∀ f, s.startJoin.fillerLine = some f → U.contains (midpoint f) = true

def LastOK (U : Rect) (segs : List ThickSegment) : Prop :=
  ∀ s, segs.getLast? = some s → s.isSkeleton = false →
    ∀ f, s.endJoin.fillerLine = some f → U.contains (midpoint f) = true

theorem chain_outline_covered (U : Rect) : ∀ (segs : List ThickSegment),
    Linked segs → chainOK U segs = true → (∀ s ∈ segs, BoxIn U s) → HeadOK U segs → LastOK U segs →
    ∀ s ∈ segs, ∀ l ∈ s.outline, Covered U l
  | [], _, _, _, _, _ => by intro s hs; cases hs
  | [s0], _, _, hb, hh, hl => by
    intro s hs
    simp only [List.mem_cons, List.not_mem_nil, or_false] at hs
    subst hs
    exact outline_covered s (hb s List.mem_cons_self) (hh s rfl) (hl s rfl)
  | s0 :: s1 :: rest, hlink, hok, hb, hh, hl => by
    obtain ⟨hj, hlink'⟩ := hlink
    have hok' : adjOK U s0 s1 = true ∧ chainOK U (s1 :: rest) = true := by
      simpa [chainOK] using hok
    have hb0 := hb s0 List.mem_cons_self
    have hb1 := hb s1 (List.mem_cons_of_mem _ List.mem_cons_self)
    intro s hs
    rcases List.mem_cons.mp hs with rfl | hs
    · exact outline_covered s hb0 (hh s rfl)
        (fun hsk f hf => filler_midpoint_covered hj hb0 hb1 hok'.1 f hf (Or.inl hsk))
    · refine chain_outline_covered U (s1 :: rest) hlink' hok'.2
        (fun t ht => hb t (List.mem_cons_of_mem _ ht)) ?_ ?_ s hs
      · intro t ht hsk f hf
        simp only [List.head?_cons, Option.some.injEq] at ht
        subst ht
        rw [← hj] at hf
        exact filler_midpoint_covered hj hb0 hb1 hok'.1 f hf (Or.inr hsk)
      · intro t ht
        exact hl t (by simpa [List.getLast?_cons_cons] using ht)

theorem start_kind {a b : Pt} {w : Nat} {off : StrokeOffset} {j : LineJoin}
    (h : LineJoin.start a b w off = some j) : j.kind = .start := by
  unfold LineJoin.start at h
  obtain ⟨⟨l, r⟩, -, h⟩ := Option.bind_eq_some_iff.mp h
  rw [← Option.some.inj h]

theorem fillerLine_of_kind_stop {j : LineJoin} (h : j.kind = .stop) : j.fillerLine = none := by
  unfold LineJoin.fillerLine; rw [h]

theorem fillerLine_of_kind_start {j : LineJoin} (h : j.kind = .start) : j.fillerLine = none := by
  unfold LineJoin.fillerLine; rw [h]

theorem chainFrom_spec (w : Nat) : ∀ (vs : List Pt) (sj : LineJoin) (L : List ThickSegment),
    chainFrom w sj vs = some L →
    Linked L ∧ (∀ s, L.head? = some s → s.startJoin = sj) ∧
      (∀ s, L.getLast? = some s → s.endJoin.fillerLine = none) ∧ (2 ≤ vs.length → L ≠ [])
  | [], sj, L, h => by
    rw [chainFrom_nil] at h; cases h
    exact ⟨trivial, by simp, by simp, by simp⟩
  | [_], sj, L, h => by
    rw [chainFrom_one] at h; cases h
    exact ⟨trivial, by simp, by simp, by simp⟩
  | [a, b], sj, L, h => by
    rw [chainFrom_two] at h
    obtain ⟨ej, hs, h⟩ := Option.bind_eq_some_iff.mp h
    cases h
    refine ⟨trivial, ?_, ?_, by simp⟩
    · intro s hs'; cases hs'; rfl
    · intro s hs'; cases hs'
      exact fillerLine_of_kind_stop (kind_stop hs)
  | a :: b :: c :: rest, sj, L, h => by
    rw [chainFrom_three] at h
    obtain ⟨ej, -, h⟩ := Option.bind_eq_some_iff.mp h
    obtain ⟨r, hr, h⟩ := Option.bind_eq_some_iff.mp h
    cases h
    obtain ⟨i1, i2, i3, i4⟩ := chainFrom_spec w (b :: c :: rest) ej r hr
    cases r with
    | nil => exact absurd rfl (i4 (by simp))
    | cons s1 r' =>
      refine ⟨⟨(i2 s1 rfl).symm, i1⟩, ?_, ?_, by simp⟩
      · intro s hs'; cases hs'; rfl
      · intro s hs'
        rw [List.getLast?_cons_cons] at hs'
        exact i3 s hs'

theorem polyChain_spec (vs : List Pt) (w : Nat) (L : List ThickSegment) (h : polyChain vs w = some L) :
    Linked L ∧ (∀ s, L.head? = some s → s.startJoin.fillerLine = none) ∧
      (∀ s, L.getLast? = some s → s.endJoin.fillerLine = none) := by
  unfold polyChain at h
  split at h
  · obtain ⟨sj, hs, h⟩ := Option.bind_eq_some_iff.mp h
    obtain ⟨i1, i2, i3, _⟩ := chainFrom_spec w _ sj L h
    refine ⟨i1, ?_, i3⟩
    intro s hs'
    rw [i2 s hs']
    exact fillerLine_of_kind_start (start_kind hs)
  · cases h
    exact ⟨trivial, by simp, by simp⟩

/-- The state of a `ThickSegmentIter` that still has interior or final joins to compute. The chain
is described by `chainFrom` (`chainFrom_spec`); no theorem follows the iterator. -/
structure TSInv (it : ThickSegmentIter) : Prop where
  stop : it.stop = false
  suffix : ∃ pre, it.points = pre ++ it.windows
  len : 2 ≤ it.windows.length
  kind : it.endJoin.kind ≠ .stop

end Joins
end EG
