/-
  EG.Lemmas.TriangleColinear — triangles of zero area (colinear or coincident vertices).
  What the code does: `scanline_intersection` takes its colinear arm, the row span is the Bresenham
  intersection with the single line `Line(p1, p3)` between the `(y, x)`-extreme vertices of
  `sorted_yx`; `points()` is, as a set, exactly the pixels of that line (`degenerate_points_iff`).
  The middle vertex `p2` lies on the segment `p1 p3` (`sorted_between`), so by
  EG.Lemmas.LineColinear `Line(p1, p3).points() = Line(p1, p2).points() ++ tail
  (Line(p2, p3).points())`: the long line contains the pixels of all three edge lines
  (`edgeLine_pixel_mem_long`). Hence every pixel of every edge line is a point of the filled
  triangle for ALL triangles (`edge_pixel_mem_points_all`), zero area included.
-/
import EG.Lemmas.TriangleSpan
import EG.Lemmas.LineColinear
namespace EG
namespace Triangle
open Line

/-- From `ex * dy = ey * dx` and `(dx - ex) * dy = dx * (dy - ey)`, with `0 ≤ ey ≤ dy`, `0 < dy`: `ex`
and `dx - ex` have the sign of `dx`. -/
theorem between_of_mul_eq {ex ey dx dy : Int} (hc : ex * dy = ey * dx) (hdy : 0 < dy) (h0 : 0 ≤ ey)
    (h1 : ey ≤ dy) : min 0 dx ≤ ex ∧ ex ≤ max 0 dx := by
  have hc2 : (dx - ex) * dy = dx * (dy - ey) := by
    rw [Int.sub_mul, Int.mul_sub, hc, Int.mul_comm ey dx]
  by_cases hdx : 0 ≤ dx
  · have a1 := Int.mul_nonneg h0 hdx
    have a2 := Int.mul_nonneg hdx (show 0 ≤ dy - ey by omega)
    constructor
    · by_contra hn
      have := Int.mul_neg_of_neg_of_pos (show ex < 0 by omega) hdy
      omega
    · by_contra hn
      have := Int.mul_neg_of_neg_of_pos (show dx - ex < 0 by omega) hdy
      omega
  · have a1 := Int.mul_nonpos_of_nonneg_of_nonpos h0 (show dx ≤ 0 by omega)
    have a2 := Int.mul_nonpos_of_nonpos_of_nonneg (show dx ≤ 0 by omega) (show 0 ≤ dy - ey by omega)
    constructor
    · by_contra hn
      have := Int.mul_pos (show 0 < dx - ex by omega) hdy
      omega
    · by_contra hn
      have := Int.mul_pos (show 0 < ex by omega) hdy
      omega

theorem between_of_sorted_colinear {A B C : Pt} (h1 : ¬ yxLt B A) (h2 : ¬ yxLt C B)
    (ha : (Triangle.mk A B C).areaDoubled = 0) : Between A B C := by
  have hc : (B.x - A.x) * (C.y - A.y) = (B.y - A.y) * (C.x - A.x) := by
    -- `edgeFn A B C` written out is the difference of the two products, atoms for `omega`
    have e := edgeFn_area ⟨A, B, C⟩
    unfold edgeFn at e
    dsimp only at e
    omega
  unfold yxLt at h1 h2
  refine ⟨hc, ?_⟩
  by_cases hdy : C.y - A.y = 0
  · omega
  · have := between_of_mul_eq hc (by omega) (show 0 ≤ B.y - A.y by omega) (by omega)
    omega

theorem sorted_between (t : Triangle) (ha : t.areaDoubled = 0) :
    Between t.sortedYx.v1 t.sortedYx.v2 t.sortedYx.v3 := by
  obtain ⟨h1, h2⟩ := sortedYx_sorted t
  exact between_of_sorted_colinear h1 h2
    ((areaDoubled_eq_zero_iff_of_mem_orders (sortedYx_mem_orders t)).mpr ha)

/-- The one line a zero-area triangle is rasterised as. -/
def longLine (t : Triangle) : Line := ⟨t.sortedYx.v1, t.sortedYx.v3⟩

theorem longLine_points (t : Triangle) (ha : t.areaDoubled = 0) :
    Line.points (longLine t) =
      Line.points ⟨t.sortedYx.v1, t.sortedYx.v2⟩ ++ (Line.points ⟨t.sortedYx.v2, t.sortedYx.v3⟩).tail :=
  (sorted_between t ha).points_append

theorem edgeLine_pixel_mem_long (t : Triangle) (ha : t.areaDoubled = 0) {l : Line}
    (hl : l ∈ t.edgeLines) {p : Pt} (hp : p ∈ Line.points l) : p ∈ Line.points (longLine t) := by
  have hb := sorted_between t ha
  unfold edgeLines at hl
  simp only [List.mem_cons, List.mem_nil_iff, or_false] at hl
  rcases hl with rfl | rfl | rfl
  · exact hb.mem_left hp
  · exact hp
  · exact hb.mem_right hp

theorem edge_pixel_mem_points_all (t : Triangle) (h : t.boundingBox.InRange) {l : Line}
    (hl : l ∈ t.edgeLines) {p : Pt} (hp : p ∈ Line.points l) : p ∈ t.points := by
  by_cases ha : t.areaDoubled = 0
  · exact edge_pixel_mem_points t h (long_edge_mem_usedLines t) (edgeLine_pixel_mem_long t ha hl hp)
  · exact edge_pixel_mem_points t h (by rw [usedLines_of_nonzero ha]; exact hl) hp

theorem degenerate_points_iff (t : Triangle) (h : t.boundingBox.InRange) (ha : t.areaDoubled = 0)
    (p : Pt) : p ∈ t.points ↔ p ∈ Line.points (longLine t) := by
  have hs : t.span p.y = (Scanline.newEmpty p.y).bint (longLine t) := by
    rw [span_eq_scanlineIntersection]
    unfold scanlineIntersection longLine
    simp only [ha, ↓reduceIte]
  rw [mem_points_iff t h, hs, Scanline.edgeSpan_covers_iff, pt_eta]
  constructor
  · intro hp
    exact hp.2.2
  · intro hp
    have hb := usedLines_pixel_bounds (long_edge_mem_usedLines t) hp
    exact ⟨hb.2.2.1, hb.2.2.2, hp⟩

end Triangle
end EG
