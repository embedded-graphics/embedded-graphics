/-
  EG.Lemmas.ThickSide — `ParallelsIterator::next_parallel(side)` for a side that is a variable.

  The two arms of `next_parallel` (`left.next_all`, `increase_error` unless `flip` / `right.previous_all`,
  `decrease_error` unless `flip`) are mirror images up to two asymmetries of the code: `next_all`
  tests `error > threshold` where `previous_all` tests `error <= -threshold`, and the returned
  `Extra` point is shifted when `mirror_extra_points` holds on the left, when it fails on the right.
  With `sgn = +1 / -1` for the direction of the walk and `eps = 0 / 1` for the strictness, one round
  of the `loop` reads the same for both sides (`nextParallelFuel_succ`; `npf_ready`, `npf_extra` are its
  two cases), everything a call changes is the side's walker and the side's parallel error
  (`nextParallelFuel_setSide`), and where a skipped step leaves a `Normal` point ahead the call is
  one of three moves (`nextParallel_eq`).
-/
import EG.Model.ThickLine
namespace EG
namespace Thick

namespace LineSide

/-- The direction of the side's perpendicular walk: `next_all` (+) or `previous_all` (-). -/
def sgn : LineSide → Int
  | .left => 1
  | .right => -1

/-- The next perpendicular point of a side is `Extra` iff `sgn * error > threshold - eps`. -/
def eps : LineSide → Int
  | .left => 0
  | .right => 1

def move : LineSide → Pt → Pt → Pt
  | .left, p, v => p + v
  | .right, p, v => p - v

theorem sgn_eps (s : LineSide) : (s.sgn = 1 ∧ s.eps = 0) ∨ (s.sgn = -1 ∧ s.eps = 1) := by
  cases s
  · exact Or.inl ⟨rfl, rfl⟩
  · exact Or.inr ⟨rfl, rfl⟩

theorem sgn_swap (s : LineSide) : s.swap.sgn = -s.sgn := by cases s <;> rfl

end LineSide

namespace ParallelsIterator

def walk (it : ParallelsIterator) : LineSide → Bresenham
  | .left => it.left
  | .right => it.right

def setSide (it : ParallelsIterator) (side : LineSide) (w : Bresenham) (e : Int) : ParallelsIterator :=
  match side with
  | .left => { it with left := w, leftError := e }
  | .right => { it with right := w, rightError := e }

theorem walk_setSide (it : ParallelsIterator) (s : LineSide) (w : Bresenham) (e : Int) :
    (it.setSide s w e).walk s = w := by cases s <;> rfl

theorem sideError_setSide (it : ParallelsIterator) (s : LineSide) (w : Bresenham) (e : Int) :
    (it.setSide s w e).sideError s = e := by cases s <;> rfl

theorem walk_setSide_ne (it : ParallelsIterator) {s s' : LineSide} (h : s' ≠ s) (w : Bresenham)
    (e : Int) : (it.setSide s w e).walk s' = it.walk s' := by
  cases s <;> cases s' <;> first | rfl | exact absurd rfl h

theorem sideError_setSide_ne (it : ParallelsIterator) {s s' : LineSide} (h : s' ≠ s) (w : Bresenham)
    (e : Int) : (it.setSide s w e).sideError s' = it.sideError s' := by
  cases s <;> cases s' <;> first | rfl | exact absurd rfl h

theorem setSide_setSide (it : ParallelsIterator) (s : LineSide) (w w' : Bresenham) (e e' : Int) :
    (it.setSide s w e).setSide s w' e' = it.setSide s w' e' := by cases s <;> rfl

/-- Whether `next_parallel` calls `decrease_error` for the side. -/
def decr (it : ParallelsIterator) : LineSide → Bool
  | .left => it.flip
  | .right => !it.flip

/-- The step of the side's parallel error at an `Extra` perpendicular point: the new error and
whether it wrapped. -/
def stepErr (it : ParallelsIterator) (side : LineSide) : Int × Bool :=
  if it.decr side then it.parallelParameters.decreaseError (it.sideError side)
  else it.parallelParameters.increaseError (it.sideError side)

/-- Whether the `Extra` point a side returns is shifted back by one major step. -/
def shift (it : ParallelsIterator) : LineSide → Bool
  | .left => it.perpendicularParameters.mirrorExtraPoints
  | .right => !it.perpendicularParameters.mirrorExtraPoints

/-- One perpendicular step on `side` (`left.next_all` / `right.previous_all`): the point it yields, and
the iterator with that walker moved. -/
def perpStep (it : ParallelsIterator) : LineSide → BresenhamPoint × ParallelsIterator
  | .left => ((it.left.nextAll it.perpendicularParameters).1,
      { it with left := (it.left.nextAll it.perpendicularParameters).2 })
  | .right => ((it.right.previousAll it.perpendicularParameters).1,
      { it with right := (it.right.previousAll it.perpendicularParameters).2 })

theorem setSide_setSideError (it : ParallelsIterator) (s : LineSide) (w : Bresenham) (e e' : Int) :
    (it.setSide s w e).setSideError s e' = it.setSide s w e' := by cases s <;> rfl

end ParallelsIterator
open ParallelsIterator

/-- The line that determines the Bresenham parameters of the stroke (`HORIZONTAL_LINE` for a
zero-length line). -/
def paramLine (l : Line) : Line := if l.start = l.stop then horizontalLine else l

theorem nextParallelFuel_succ (fuel : Nat) (it : ParallelsIterator) (side : LineSide) :
    nextParallelFuel (fuel + 1) it side =
      match (it.perpStep side).1 with
      | .normal _ => some (((it.perpStep side).1, it.sideError side), (it.perpStep side).2)
      | .extra _ =>
        if (it.stepErr side).2 then
          some (((it.perpStep side).1, if it.decr side then it.sideError side else (it.stepErr side).1),
            (it.perpStep side).2.setSideError side (it.stepErr side).1)
        else nextParallelFuel fuel ((it.perpStep side).2.setSideError side (it.stepErr side).1) side := by
  unfold perpStep stepErr decr
  cases side
  · simp only [nextParallelFuel]
    cases (it.left.nextAll it.perpendicularParameters).1 with
    | normal p => rfl
    | extra p => cases it.flip <;> rfl
  · simp only [nextParallelFuel]
    cases (it.right.previousAll it.perpendicularParameters).1 with
    | normal p => rfl
    | extra p => cases it.flip <;> rfl

/-- The next perpendicular point of `side` is a `Normal` one. -/
def Ready (it : ParallelsIterator) : LineSide → Prop
  | .left => it.left.error ≤ it.perpendicularParameters.errorThreshold
  | .right => -it.perpendicularParameters.errorThreshold < it.right.error

instance (it : ParallelsIterator) (s : LineSide) : Decidable (Ready it s) := by
  cases s <;> unfold Ready <;> exact inferInstance

theorem ready_iff (it : ParallelsIterator) (s : LineSide) :
    Ready it s ↔ s.sgn * (it.walk s).error ≤ it.perpendicularParameters.errorThreshold - s.eps := by
  cases s
  · show it.left.error ≤ _ ↔ 1 * it.left.error ≤ _ - 0; omega
  · show -_ < it.right.error ↔ -1 * it.right.error ≤ _ - 1; omega

theorem nextAll_normal (b : Bresenham) (p : BresenhamParameters) (h : ¬ b.error > p.errorThreshold) :
    b.nextAll p = (.normal b.point, ⟨b.point + p.positionStep.major, b.error + p.errorStep.major⟩) := by
  unfold Bresenham.nextAll; simp only [h, ↓reduceIte]

theorem nextAll_extra (b : Bresenham) (p : BresenhamParameters) (h : b.error > p.errorThreshold) :
    b.nextAll p =
      (.extra (if p.mirrorExtraPoints then b.point + p.positionStep.minor - p.positionStep.major
          else b.point),
        ⟨b.point + p.positionStep.minor, b.error - p.errorStep.minor⟩) := by
  unfold Bresenham.nextAll; simp only [h, ↓reduceIte]

theorem previousAll_normal (b : Bresenham) (p : BresenhamParameters)
    (h : ¬ b.error ≤ -p.errorThreshold) :
    b.previousAll p =
      (.normal b.point, ⟨b.point - p.positionStep.major, b.error - p.errorStep.major⟩) := by
  unfold Bresenham.previousAll; simp only [h, ↓reduceIte]

theorem previousAll_extra (b : Bresenham) (p : BresenhamParameters) (h : b.error ≤ -p.errorThreshold) :
    b.previousAll p =
      (.extra (if !p.mirrorExtraPoints then b.point - p.positionStep.minor + p.positionStep.major
          else b.point),
        ⟨b.point - p.positionStep.minor, b.error + p.errorStep.minor⟩) := by
  unfold Bresenham.previousAll; simp only [h, ↓reduceIte]

theorem perpStep_ready (it : ParallelsIterator) (side : LineSide) (h : Ready it side) :
    it.perpStep side =
      (.normal (it.walk side).point,
        it.setSide side
          ⟨side.move (it.walk side).point it.perpendicularParameters.positionStep.major,
            (it.walk side).error + side.sgn * it.perpendicularParameters.errorStep.major⟩
          (it.sideError side)) := by
  cases side with
  | left =>
    have hc : ¬ it.left.error > it.perpendicularParameters.errorThreshold := by
      unfold Ready at h; omega
    simp only [perpStep, nextAll_normal _ _ hc, sideError, setSide, walk, LineSide.move, LineSide.sgn,
      Int.one_mul]
  | right =>
    have hc : ¬ it.right.error ≤ -it.perpendicularParameters.errorThreshold := by
      unfold Ready at h; omega
    simp only [perpStep, previousAll_normal _ _ hc, sideError, setSide, walk, LineSide.move,
      LineSide.sgn, Int.neg_mul, Int.one_mul, Int.add_neg_eq_sub]

theorem perpStep_extra (it : ParallelsIterator) (side : LineSide) (h : ¬ Ready it side) :
    it.perpStep side =
      (.extra (if it.shift side then
          side.swap.move (side.move (it.walk side).point it.perpendicularParameters.positionStep.minor)
            it.perpendicularParameters.positionStep.major
        else (it.walk side).point),
        it.setSide side
          ⟨side.move (it.walk side).point it.perpendicularParameters.positionStep.minor,
            (it.walk side).error - side.sgn * it.perpendicularParameters.errorStep.minor⟩
          (it.sideError side)) := by
  cases side with
  | left =>
    have hc : it.left.error > it.perpendicularParameters.errorThreshold := by
      unfold Ready at h; omega
    simp only [perpStep, nextAll_extra _ _ hc, sideError, setSide, walk, shift, LineSide.move,
      LineSide.swap, LineSide.sgn, Int.one_mul]
    rfl
  | right =>
    have hc : it.right.error ≤ -it.perpendicularParameters.errorThreshold := by
      unfold Ready at h; omega
    simp only [perpStep, previousAll_extra _ _ hc, sideError, setSide, walk, shift, LineSide.move,
      LineSide.swap, LineSide.sgn, Int.neg_mul, Int.one_mul, Int.sub_neg]
    rfl

theorem npf_ready (fuel : Nat) (it : ParallelsIterator) (side : LineSide) (h : Ready it side) :
    nextParallelFuel (fuel + 1) it side =
      some ((.normal (it.walk side).point, it.sideError side),
        it.setSide side
          ⟨side.move (it.walk side).point it.perpendicularParameters.positionStep.major,
            (it.walk side).error + side.sgn * it.perpendicularParameters.errorStep.major⟩
          (it.sideError side)) := by
  rw [nextParallelFuel_succ, perpStep_ready it side h]

theorem npf_extra (fuel : Nat) (it : ParallelsIterator) (side : LineSide) (h : ¬ Ready it side) :
    nextParallelFuel (fuel + 1) it side =
      (let w : Bresenham :=
          ⟨side.move (it.walk side).point it.perpendicularParameters.positionStep.minor,
            (it.walk side).error - side.sgn * it.perpendicularParameters.errorStep.minor⟩
       let X := if it.shift side then side.swap.move w.point it.perpendicularParameters.positionStep.major
         else (it.walk side).point
       if (it.stepErr side).2 then
         some ((.extra X, if it.decr side then it.sideError side else (it.stepErr side).1),
           it.setSide side w (it.stepErr side).1)
       else nextParallelFuel fuel (it.setSide side w (it.stepErr side).1) side) := by
  rw [nextParallelFuel_succ, perpStep_extra it side h]
  simp only [setSide_setSideError]

theorem npf_left_normal (fuel : Nat) (it : ParallelsIterator)
    (h : ¬ it.left.error > it.perpendicularParameters.errorThreshold) :
    nextParallelFuel (fuel + 1) it .left =
      some ((.normal it.left.point, it.leftError),
        { it with left := ⟨it.left.point + it.perpendicularParameters.positionStep.major,
                           it.left.error + it.perpendicularParameters.errorStep.major⟩ }) := by
  rw [npf_ready fuel it .left (Int.not_lt.mp h)]
  simp only [setSide, walk, sideError, LineSide.move, LineSide.sgn, Int.one_mul]

theorem npf_right_normal (fuel : Nat) (it : ParallelsIterator)
    (h : ¬ it.right.error ≤ -it.perpendicularParameters.errorThreshold) :
    nextParallelFuel (fuel + 1) it .right =
      some ((.normal it.right.point, it.rightError),
        { it with right := ⟨it.right.point - it.perpendicularParameters.positionStep.major,
                            it.right.error - it.perpendicularParameters.errorStep.major⟩ }) := by
  rw [npf_ready fuel it .right (Int.not_le.mp h)]
  simp only [setSide, walk, sideError, LineSide.move, LineSide.sgn, Int.neg_mul, Int.one_mul,
    Int.add_neg_eq_sub]

theorem npf_left_extra (fuel : Nat) (it : ParallelsIterator)
    (h : it.left.error > it.perpendicularParameters.errorThreshold) :
    nextParallelFuel (fuel + 1) it .left =
      (let X := if it.perpendicularParameters.mirrorExtraPoints then
          it.left.point + it.perpendicularParameters.positionStep.minor -
            it.perpendicularParameters.positionStep.major
        else it.left.point
       let w : Bresenham := ⟨it.left.point + it.perpendicularParameters.positionStep.minor,
          it.left.error - it.perpendicularParameters.errorStep.minor⟩
       if it.flip then
         if (it.parallelParameters.decreaseError it.leftError).2 then
           some ((.extra X, it.leftError),
             { it with left := w, leftError := (it.parallelParameters.decreaseError it.leftError).1 })
         else nextParallelFuel fuel
           { it with left := w, leftError := (it.parallelParameters.decreaseError it.leftError).1 } .left
       else
         if (it.parallelParameters.increaseError it.leftError).2 then
           some ((.extra X, (it.parallelParameters.increaseError it.leftError).1),
             { it with left := w, leftError := (it.parallelParameters.increaseError it.leftError).1 })
         else nextParallelFuel fuel
           { it with left := w, leftError := (it.parallelParameters.increaseError it.leftError).1 } .left) := by
  rw [npf_extra fuel it .left (Int.not_le.mpr h)]
  simp only [setSide, walk, sideError, decr, shift, stepErr, LineSide.move, LineSide.swap,
    LineSide.sgn, Int.one_mul]
  by_cases hf : it.flip = true <;> simp only [hf, Bool.false_eq_true, ↓reduceIte] <;> rfl

theorem npf_right_extra (fuel : Nat) (it : ParallelsIterator)
    (h : it.right.error ≤ -it.perpendicularParameters.errorThreshold) :
    nextParallelFuel (fuel + 1) it .right =
      (let X := if !it.perpendicularParameters.mirrorExtraPoints then
          it.right.point - it.perpendicularParameters.positionStep.minor +
            it.perpendicularParameters.positionStep.major
        else it.right.point
       let w : Bresenham := ⟨it.right.point - it.perpendicularParameters.positionStep.minor,
          it.right.error + it.perpendicularParameters.errorStep.minor⟩
       if !it.flip then
         if (it.parallelParameters.decreaseError it.rightError).2 then
           some ((.extra X, it.rightError),
             { it with right := w, rightError := (it.parallelParameters.decreaseError it.rightError).1 })
         else nextParallelFuel fuel
           { it with right := w, rightError := (it.parallelParameters.decreaseError it.rightError).1 } .right
       else
         if (it.parallelParameters.increaseError it.rightError).2 then
           some ((.extra X, (it.parallelParameters.increaseError it.rightError).1),
             { it with right := w, rightError := (it.parallelParameters.increaseError it.rightError).1 })
         else nextParallelFuel fuel
           { it with right := w, rightError := (it.parallelParameters.increaseError it.rightError).1 } .right) := by
  rw [npf_extra fuel it .right (Int.not_lt.mpr h)]
  simp only [setSide, walk, sideError, decr, shift, stepErr, LineSide.move, LineSide.swap,
    LineSide.sgn, Int.neg_mul, Int.one_mul, Int.sub_neg]
  by_cases hf : it.flip = true <;>
    simp only [hf, Bool.not_true, Bool.not_false, Bool.false_eq_true, ↓reduceIte] <;> rfl

theorem nextParallelFuel_setSide : ∀ (fuel : Nat) (it : ParallelsIterator) (side : LineSide)
    (r : BresenhamPoint × Int) (it' : ParallelsIterator),
    nextParallelFuel fuel it side = some (r, it') → ∃ w e, it' = it.setSide side w e
  | 0, _, _, _, _, h => by simp [nextParallelFuel] at h
  | fuel + 1, it, side, r, it', h => by
    by_cases hr : Ready it side
    · rw [npf_ready fuel it side hr] at h
      simp only [Option.some.injEq, Prod.mk.injEq] at h
      exact ⟨_, _, h.2.symm⟩
    · rw [npf_extra fuel it side hr] at h
      dsimp only at h
      split at h
      · simp only [Option.some.injEq, Prod.mk.injEq] at h
        exact ⟨_, _, h.2.symm⟩
      · obtain ⟨w, e, hw⟩ := nextParallelFuel_setSide fuel _ side r it' h
        exact ⟨w, e, by rw [hw, setSide_setSide]⟩

/-! ### `next_parallel` without its loop

In every state of a run a minor step that returns nothing leaves a `Normal` point ahead, so the loop
goes round at most twice and a call is one of three moves. -/

namespace ParallelsIterator

/-- The walker of `s` takes a major step (its next perpendicular point is `Normal`). -/
def major (it : ParallelsIterator) (s : LineSide) : ParallelsIterator :=
  it.setSide s
    ⟨s.move (it.walk s).point it.perpendicularParameters.positionStep.major,
      (it.walk s).error + s.sgn * it.perpendicularParameters.errorStep.major⟩
    (it.sideError s)

/-- The walker of `s` takes a minor step (its next perpendicular point is `Extra`) and the parallel error
of the side is stepped. -/
def minor (it : ParallelsIterator) (s : LineSide) : ParallelsIterator :=
  it.setSide s
    ⟨s.move (it.walk s).point it.perpendicularParameters.positionStep.minor,
      (it.walk s).error - s.sgn * it.perpendicularParameters.errorStep.minor⟩
    (it.stepErr s).1

/-- Start point of the `Extra` parallel a minor step returns if the parallel error wraps. -/
def extraStart (it : ParallelsIterator) (s : LineSide) : Pt :=
  if it.shift s then
    s.swap.move (s.move (it.walk s).point it.perpendicularParameters.positionStep.minor)
      it.perpendicularParameters.positionStep.major
  else (it.walk s).point

/-- Its initial error: the side's parallel error before a decrease, after an increase. -/
def extraErr (it : ParallelsIterator) (s : LineSide) : Int :=
  if it.decr s then it.sideError s else (it.stepErr s).1

variable (it : ParallelsIterator) (s : LineSide)

theorem walk_major : (it.major s).walk s =
    ⟨s.move (it.walk s).point it.perpendicularParameters.positionStep.major,
      (it.walk s).error + s.sgn * it.perpendicularParameters.errorStep.major⟩ := walk_setSide ..

theorem sideError_major : (it.major s).sideError s = it.sideError s := sideError_setSide ..

theorem walk_minor : (it.minor s).walk s =
    ⟨s.move (it.walk s).point it.perpendicularParameters.positionStep.minor,
      (it.walk s).error - s.sgn * it.perpendicularParameters.errorStep.minor⟩ := walk_setSide ..

theorem sideError_minor : (it.minor s).sideError s = (it.stepErr s).1 := sideError_setSide ..

theorem perp_minor : (it.minor s).perpendicularParameters = it.perpendicularParameters := by
  cases s <;> rfl

theorem major_eq_setSide : ∃ w e, it.major s = it.setSide s w e := ⟨_, _, rfl⟩

theorem minor_eq_setSide : ∃ w e, it.minor s = it.setSide s w e := ⟨_, _, rfl⟩

theorem minor_major_eq_setSide : ∃ w e, (it.minor s).major s = it.setSide s w e :=
  ⟨_, _, setSide_setSide ..⟩

end ParallelsIterator

theorem nextParallel_eq (it : ParallelsIterator) (s : LineSide)
    (h : ¬ Ready it s → Ready (it.minor s) s) :
    it.nextParallel s =
      if Ready it s then some ((.normal (it.walk s).point, it.sideError s), it.major s)
      else if (it.stepErr s).2 then some ((.extra (it.extraStart s), it.extraErr s), it.minor s)
      else some ((.normal ((it.minor s).walk s).point, (it.minor s).sideError s), (it.minor s).major s) := by
  unfold nextParallel loopFuel
  by_cases hr : Ready it s
  · rw [if_pos hr, npf_ready 3 it s hr]
    rfl
  · rw [if_neg hr, npf_extra 3 it s hr]
    dsimp only
    split
    · rfl
    · exact npf_ready 2 (it.minor s) s (h hr)

end Thick
end EG
