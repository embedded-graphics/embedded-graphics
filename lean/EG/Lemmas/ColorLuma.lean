/-
  EG.Lemmas.ColorLuma — C13: the luma of RGB -> gray / RGB -> binary against the exact ITU-R BT.601
  luma `0.299 R + 0.587 G + 0.114 B`, and the completeness of the conversion table.

  Everything is stated in integers: `Y = (299 R + 587 G + 114 B) / 1000` is never divided out.
  With `L` the model's 8-bit luma, `256000 * L` is compared with `256 * (299 R + 587 G + 114 B)`
  (= `256000 * Y`); a difference of at most `244280` is `|L - Y| ≤ 0.95422 < 1`.

  Where the bound comes from: `L = floor((77 R + 150 G + 29 B + 128) / 256)` is the sum
  `(77 R + 150 G + 29 B) / 256` rounded half up (error in `(-1/2, 1/2]`), and the weights differ
  from the coefficients by `77/256 - 0.299 = +456/256000`, `150/256 - 0.587 = -272/256000`,
  `29/256 - 0.114 = -184/256000` (they sum to 0), so the weighted sum is off by at most
  `255 * 456/256000 = 0.45422` for channels in `0..=255`.
-/
import EG.Lemmas.ColorConvLift
import EG.Basic.Arith
namespace EG.Conv
open EG EG.Generated EG.ColorSpec

/-- one pass over a list of numbers with the set of those seen so far as a bit mask: each number is new
(its bit is clear) and is then recorded; the result is the final mask -/
def seenMask : List Nat → Nat → Option Nat
  | [], m => some m
  | c :: cs, m => if m.testBit c then none else seenMask cs (m ||| 1 <<< c)

theorem seenMask_some {l : List Nat} {m M : Nat} (h : seenMask l m = some M) :
    l.Nodup ∧ (∀ c ∈ l, m.testBit c = false) ∧ ∀ c, M.testBit c = (m.testBit c || decide (c ∈ l)) := by
  induction l generalizing m with
  | nil =>
    cases h
    simp
  | cons d l ih =>
    unfold seenMask at h
    split at h
    · cases h
    · rename_i hd
      obtain ⟨h1, h2, h3⟩ := ih h
      have hb (c : Nat) : (m ||| 1 <<< d).testBit c = (m.testBit c || decide (d = c)) := by
        rw [Nat.testBit_or, Nat.one_shiftLeft, Nat.testBit_two_pow]
      refine ⟨List.nodup_cons.mpr ⟨fun hm => ?_, h1⟩, fun c hc => ?_, fun c => ?_⟩
      · have := h2 d hm
        rw [hb] at this
        simp at this
      · rcases List.mem_cons.mp hc with rfl | hc
        · simpa using hd
        · have := h2 c hc
          rw [hb] at this
          simp at this
          exact this.1
      · rw [h3, hb]
        simp [List.mem_cons, Bool.or_assoc, eq_comm]

def nameIdx (n : String) : Nat := (colorTable.map (·.name)).idxOf n

/-- the cell of an entry in the matrix of ordered pairs of types, rows numbered consecutively -/
def pairCode (e : ConvSpec) : Nat := colorTable.length * nameIdx e.src + nameIdx e.dst

/-- One `seenMask` pass over the cells of the table's entries succeeds, and its final mask has the bit
of every off-diagonal cell of the `n x n` matrix. -/
theorem pairCodes_check :
    (seenMask (convTable.map pairCode) 0).any (fun M =>
      ((List.range (colorTable.length * colorTable.length)).filter
        (fun c => c / colorTable.length != c % colorTable.length)).all M.testBit) = true := by decide +kernel

theorem nameIdx_spec {s : ColorSpec} (hs : s ∈ colorTable) :
    ∃ h : nameIdx s.name < (colorTable.map (·.name)).length, (colorTable.map (·.name))[nameIdx s.name] = s.name :=
  ⟨List.idxOf_lt_length_iff.mpr (List.mem_map.mpr ⟨s, hs, rfl⟩), List.getElem_idxOf _⟩

theorem nameIdx_lt {s : ColorSpec} (hs : s ∈ colorTable) : nameIdx s.name < colorTable.length := by
  obtain ⟨h, _⟩ := nameIdx_spec hs
  rw [List.length_map] at h
  exact h

theorem nameIdx_inj {s t : ColorSpec} (hs : s ∈ colorTable) (ht : t ∈ colorTable)
    (h : nameIdx s.name = nameIdx t.name) : s = t := by
  obtain ⟨_, es⟩ := nameIdx_spec hs
  obtain ⟨_, et⟩ := nameIdx_spec ht
  refine names_unique s hs t ht ?_
  rw [← es, ← et]
  simp only [h]

/-- no two entries share a cell, and every off-diagonal cell is taken -/
theorem pairCodes :
    (convTable.map pairCode).Nodup
    ∧ ∀ i j, i < colorTable.length → j < colorTable.length → i ≠ j →
        colorTable.length * i + j ∈ convTable.map pairCode := by
  have hc := pairCodes_check
  cases h : seenMask (convTable.map pairCode) 0 with
  | none => rw [h] at hc; cases hc
  | some M =>
    rw [h] at hc
    obtain ⟨h1, _, h3⟩ := seenMask_some h
    refine ⟨h1, fun i j hi hj hij => ?_⟩
    have hn : 0 < colorTable.length := by omega
    have hbit := List.all_eq_true.mp hc (colorTable.length * i + j) (List.mem_filter.mpr ⟨List.mem_range.mpr ?_, ?_⟩)
    · rw [h3, Nat.zero_testBit, Bool.false_or, decide_eq_true_eq] at hbit
      exact hbit
    · have := Nat.mul_le_mul_left colorTable.length (Nat.succ_le_of_lt hi)
      rw [Nat.mul_succ] at this
      omega
    · rw [Nat.mul_add_div hn, Nat.mul_add_mod, Nat.div_eq_of_lt hj, Nat.mod_eq_of_lt hj, Nat.add_zero]
      simpa using hij

theorem entry_of_pair {a b : ColorSpec} (ha : a ∈ colorTable) (hb : b ∈ colorTable) (hab : a.name ≠ b.name) :
    ∃ e ∈ convTable, e.src = a.name ∧ e.dst = b.name ∧ some e.kind = kindFor a.kind b.kind := by
  obtain ⟨e, he, hcode⟩ := List.mem_map.mp
    (pairCodes.2 _ _ (nameIdx_lt ha) (nameIdx_lt hb) fun h => hab (congrArg (·.name) (nameIdx_inj ha hb h)))
  -- the entry in that cell names two types of the table: they are `a` and `b`
  obtain ⟨a', b', fa, fb, hk⟩ := conv_entry_specs he
  obtain ⟨ha', na⟩ := findSpec_some fa
  obtain ⟨hb', nb⟩ := findSpec_some fb
  unfold pairCode at hcode
  rw [← na, ← nb] at hcode
  obtain ⟨hi, hj⟩ := digits_unique (nameIdx_lt hb') (nameIdx_lt hb) hcode
  have haa := nameIdx_inj ha' ha hi
  have hbb := nameIdx_inj hb' hb hj
  exact ⟨e, he, by rw [← na, haa], by rw [← nb, hbb], by rw [← haa, ← hbb, hk]⟩

/-- the luma expression of conversion.rs on three `u8` channel values -/
def lumaFormula (r g b : Nat) : Nat := ((r * lumaWR + g * lumaWG + b * lumaWB + lumaRound) / lumaDiv) % 256

/-- for ALL `r, g, b ≤ 255`: the computed luma is within `244280 / 256000 = 0.95422` of the exact
`0.299 r + 0.587 g + 0.114 b`, and a gray input is reproduced -/
theorem lumaFormula_close (r g b : Nat) (hr : r ≤ 255) (hg : g ≤ 255) (hb : b ≤ 255) :
    256000 * lumaFormula r g b ≤ 256 * (299 * r + 587 * g + 114 * b) + 244280
    ∧ 256 * (299 * r + 587 * g + 114 * b) ≤ 256000 * lumaFormula r g b + 244280
    ∧ lumaFormula r g b ≤ 255
    ∧ (r = g → g = b → lumaFormula r g b = r) := by
  simp only [lumaFormula, lumaWR, lumaWG, lumaWB, lumaRound, lumaDiv]
  have b1 : (r * 77 + g * 150 + b * 29 + 128) / 256 < 256 := by omega
  rw [Nat.mod_eq_of_lt b1]
  refine ⟨by omega, by omega, by omega, ?_⟩
  intro h1 h2
  subst h1 h2
  omega

/-- the channels `luma` sees (`Rgb888::from(other)`) are the source channels scaled to 8 bits, to nearest,
and the luma computed from them is within `0.95422` of their exact BT.601 luma -/
theorem rgbLuma_close {a v g : ColorSpec} (h : Helpers v g) (ha : a.WellFormed = true) (hka : a.isRgb = true)
    (hn : a.name = v.name → a = v) (c : Nat) :
    ∃ r8 g8 b8,
      Nearest a.maxR 255 (a.chanR c) r8 ∧ Nearest a.maxG 255 (a.chanG c) g8 ∧ Nearest a.maxB 255 (a.chanB c) b8
      ∧ r8 ≤ 255 ∧ g8 ≤ 255 ∧ b8 ≤ 255
      ∧ 256000 * rgbLuma a v c ≤ 256 * (299 * r8 + 587 * g8 + 114 * b8) + 244280
      ∧ 256 * (299 * r8 + 587 * g8 + 114 * b8) ≤ 256000 * rgbLuma a v c + 244280 := by
  obtain ⟨wr, wg, wb, _⟩ := Color.wf_rgb ha hka
  obtain ⟨m1, m2, m3⟩ := h.v_max
  obtain ⟨e1, e2, e3⟩ := toVia_channels h.v_wf h.v_rgb hn c
  obtain ⟨c1, c2, c3⟩ := chan_le_255 v (toVia a v c)
  obtain ⟨l1, l2, _⟩ := lumaFormula_close _ _ _ c1 c2 c3
  refine ⟨_, _, _, ?_, ?_, ?_, c1, c2, c3, l1, l2⟩
  · rw [e1, m1]
    exact cc_nearest (maxChan_pos wr) (maxChan_lt_256 _) (by decide) (chanR_le a c)
  · rw [e2, m2]
    exact cc_nearest (maxChan_pos wg) (maxChan_lt_256 _) (by decide) (chanG_le a c)
  · rw [e3, m3]
    exact cc_nearest (maxChan_pos wb) (maxChan_lt_256 _) (by decide) (chanB_le a c)

/-- RGB -> gray, every generated conversion, every source colour: there are 8-bit channels `r8 g8 b8`
(each the value nearest to the source channel scaled to `0..=255`) and an 8-bit luma `L` within
`0.95422` of `0.299 r8 + 0.587 g8 + 0.114 b8`, such that the result's luma is the value nearest to `L`
scaled to the target's range (`L` itself for the 8-bit gray type). -/
theorem rgb_gray_close : ∀ y ∈ resolvedTable, y.kind = .rgbGray → ∀ c, y.a.Valid c →
    ∃ r8 g8 b8 L,
      Nearest y.a.maxR 255 (y.a.chanR c) r8 ∧ Nearest y.a.maxG 255 (y.a.chanG c) g8
      ∧ Nearest y.a.maxB 255 (y.a.chanB c) b8
      ∧ r8 ≤ 255 ∧ g8 ≤ 255 ∧ b8 ≤ 255
      ∧ 256000 * L ≤ 256 * (299 * r8 + 587 * g8 + 114 * b8) + 244280
      ∧ 256 * (299 * r8 + 587 * g8 + 114 * b8) ≤ 256000 * L + 244280
      ∧ L ≤ 255
      ∧ Nearest 255 (maxLuma y.b) L (y.b.luma (y.apply c)) := by
  intro y hy hk c _
  have t := resolved_typed y hy
  obtain ⟨hka, hkb⟩ := t.rgbGray hk
  obtain ⟨r8, g8, b8, n1, n2, n3, c1, c2, c3, l1, l2⟩ := rgbLuma_close t.helpers t.a_wf hka t.a_via c
  refine ⟨r8, g8, b8, rgbLuma y.a y.via c, n1, n2, n3, c1, c2, c3, l1, l2, rgbLuma_le _ _ _, ?_⟩
  rw [apply_rgbGray hk, rgbToGray_luma t.helpers t.b_wf hkb t.b_g8]
  exact cc_nearest (by decide) (by decide) (maxLuma_u8 t.b_wf hkb).2 (rgbLuma_le _ _ _)

/-- The same as one inequality per direction, in the form the harness oracle evaluates (with the
slightly weaker round constant `1` for `0.95422`): with `S = 299 r8 + 587 g8 + 114 b8` (1000 x the
exact luma of the 8-bit channels), `T` the target's `MAX_LUMA` and `out` the result's luma,
`|out - (S/1000) * T/255| ≤ 1/2 + T/255`, multiplied out by `510000`; for the 8-bit gray type (no second
rounding) `|out - S/1000| ≤ 1`. -/
theorem rgb_gray_within : ∀ y ∈ resolvedTable, y.kind = .rgbGray → ∀ c, y.a.Valid c →
    ∃ r8 g8 b8,
      Nearest y.a.maxR 255 (y.a.chanR c) r8 ∧ Nearest y.a.maxG 255 (y.a.chanG c) g8
      ∧ Nearest y.a.maxB 255 (y.a.chanB c) b8
      ∧ 510000 * y.b.luma (y.apply c)
          ≤ 2 * maxLuma y.b * (299 * r8 + 587 * g8 + 114 * b8) + 255000 + 2000 * maxLuma y.b
      ∧ 2 * maxLuma y.b * (299 * r8 + 587 * g8 + 114 * b8)
          ≤ 510000 * y.b.luma (y.apply c) + 255000 + 2000 * maxLuma y.b
      ∧ (maxLuma y.b = 255 →
          1000 * y.b.luma (y.apply c) ≤ 299 * r8 + 587 * g8 + 114 * b8 + 1000
          ∧ 299 * r8 + 587 * g8 + 114 * b8 ≤ 1000 * y.b.luma (y.apply c) + 1000) := by
  intro y hy hk c hc
  obtain ⟨r8, g8, b8, L, n1, n2, n3, _, _, _, l1, l2, _, hn⟩ := rgb_gray_close y hy hk c hc
  refine ⟨r8, g8, b8, n1, n2, n3, ?_⟩
  unfold Nearest at hn
  generalize y.b.luma (y.apply c) = out at *
  generalize maxLuma y.b = T at *
  generalize 299 * r8 + 587 * g8 + 114 * b8 = S at *
  -- the bounds on `L`, times `T`, meet `Nearest` in the product `L * T`
  have m1 : 256000 * (L * T) ≤ 256 * (T * S) + 244280 * T := by
    have := Nat.mul_le_mul_left T l1
    rw [Nat.mul_add, Nat.mul_left_comm, Nat.mul_left_comm T 256, Nat.mul_comm T L, Nat.mul_comm T 244280] at this
    exact this
  have m2 : 256 * (T * S) ≤ 256000 * (L * T) + 244280 * T := by
    have := Nat.mul_le_mul_left T l2
    rw [Nat.mul_add, Nat.mul_left_comm, Nat.mul_left_comm T 256000, Nat.mul_comm T L, Nat.mul_comm T 244280] at this
    exact this
  rw [Nat.mul_assoc 2 L T] at hn
  rw [Nat.mul_assoc 2 T S]
  refine ⟨by omega, by omega, fun h => ?_⟩
  subst h
  omega

/-- RGB -> binary: `On` iff that same 8-bit luma `L` (within `0.95422` of the exact BT.601 luma of the
8-bit channels) is at least 128, the middle of `0..=255` -/
theorem rgb_binary_close : ∀ x ∈ resolvedTable, x.kind = .rgbBinary → ∀ c, x.a.Valid c →
    ∃ r8 g8 b8 L,
      Nearest x.a.maxR 255 (x.a.chanR c) r8 ∧ Nearest x.a.maxG 255 (x.a.chanG c) g8
      ∧ Nearest x.a.maxB 255 (x.a.chanB c) b8
      ∧ r8 ≤ 255 ∧ g8 ≤ 255 ∧ b8 ≤ 255
      ∧ 256000 * L ≤ 256 * (299 * r8 + 587 * g8 + 114 * b8) + 244280
      ∧ 256 * (299 * r8 + 587 * g8 + 114 * b8) ≤ 256000 * L + 244280
      ∧ (x.apply c = 1 ↔ 128 ≤ L) ∧ (x.apply c = 0 ∨ x.apply c = 1) := by
  intro x hx hk c _
  have t := resolved_typed x hx
  obtain ⟨r8, g8, b8, n1, n2, n3, c1, c2, c3, l1, l2⟩ := rgbLuma_close t.helpers t.a_wf (t.rgbBinary hk).1 t.a_via c
  rw [apply_rgbBinary hk]
  exact ⟨r8, g8, b8, rgbLuma x.a x.via c, n1, n2, n3, c1, c2, c3, l1, l2, rgbToBinary_iff _ _ _⟩

end EG.Conv
