/-
  EG.Lemmas.TriTopRow — **the top row of the styled bounding box of a triangle always has a scanline**
  (unless no row has one: stroke width 0 without fill; join model, namespace `EG.Joins`), hence a first `None` of the non-fused
  `ScanlineIterator` is followed by `None`s only (`C01Thick.triFirstNoneFinal`); Props/C01/Triangle.lean
  concludes from it that `StyledPixelsIterator::new`, which forgives one `None`, sees what the `for`
  loop of `draw_styled` sees.

  Why the top row `y0` of the box has a scanline:
  * collapsed inside stroke, or fill with stroke width 0: the box is the vertex box, `y0` is the row of
    the topmost vertex and the plain triangle scanline contains that vertex;
  * Center / Outside stroke of width > 1: the box is the fold of the `edges_bounding_box`es of the
    three closed segments, `y0` is the top of one of them, i.e. the row of an end point of one of its
    (drawn) edges — and an edge is an outline line of its segment;
  * stroke width 1, or an Inside stroke: the box is the vertex box; the LEFT corners of the join at the
    topmost vertex `V` are `V` exactly (width 1: all four corners; `StrokeOffset::Right`: the left
    edge lines are the triangle's sides, their intersection is computed exactly — `i32` vertices), and
    `V` is an end point of a cap line of the segment that starts at `V` (if it is not a skeleton), of a
    cap line of the segment that ends at `V` (if that is not a skeleton), or of the one drawn edge of
    the latter (if both are skeletons).
-/
import EG.Lemmas.TriRowScan
import EG.Lemmas.C01ThickTri
import EG.Lemmas.JoinsWidth1Align
namespace EG
namespace Joins
open Thick (LineSide StrokeOffset)

/-- The three closed segments are the ones the edge closure intersects with the row (`segJ`, the
index shifted by one): a scanline of one of them is a non-empty `segJ y k`. -/
theorem segJ_nonempty_of_segment (it : TriIntersections) (y : Int) (j0 j1 j2 : LineJoin)
    (h0 : LineJoin.fromPoints it.triangle.v3 it.triangle.v1 it.triangle.v2 it.strokeWidth it.strokeOffset = some j0)
    (h1 : LineJoin.fromPoints it.triangle.v1 it.triangle.v2 it.triangle.v3 it.strokeWidth it.strokeOffset = some j1)
    (h2 : LineJoin.fromPoints it.triangle.v2 it.triangle.v3 it.triangle.v1 it.strokeWidth it.strokeOffset = some j2)
    (s : ThickSegment) (hs : s = ⟨j0, j1⟩ ∨ s = ⟨j1, j2⟩ ∨ s = ⟨j2, j0⟩)
    (hne : (s.intersection y).isEmpty = false) : ∃ k, k < 3 ∧ (it.segJ y k).isEmpty = false := by
  rcases hs with rfl | rfl | rfl
  · exact ⟨2, by omega, by rw [TriIntersections.segJ_of_joins (i := 2) h0 h1]; exact hne⟩
  · exact ⟨0, by omega, by rw [TriIntersections.segJ_of_joins (i := 0) h1 h2]; exact hne⟩
  · exact ⟨1, by omega, by rw [TriIntersections.segJ_of_joins (i := 1) h2 h0]; exact hne⟩

theorem foldl_boxStep_top_attained (segs : List ThickSegment) (acc : Pt × Pt) :
    (segs.foldl boxStep acc).1.y = acc.1.y ∨
      ∃ s ∈ segs, (segs.foldl boxStep acc).1.y = s.edgesBoundingBox.tl.y := by
  induction segs generalizing acc with
  | nil => left; rfl
  | cons s rest ih =>
    simp only [List.foldl_cons]
    rcases ih (boxStep acc s) with h | ⟨s', hs', h⟩
    · rw [boxStep_1y] at h
      by_cases hle : acc.1.y ≤ s.edgesBoundingBox.tl.y
      · left; rw [h]; omega
      · right; exact ⟨s, List.mem_cons_self, by rw [h]; omega⟩
    · right; exact ⟨s', List.mem_cons_of_mem _ hs', h⟩

theorem foldEdgeBoxes_top_attained (segs : List ThickSegment) (hne : segs ≠ [])
    (hlt : (foldEdgeBoxes segs).tl.y < 2147483647) :
    ∃ s ∈ segs, (foldEdgeBoxes segs).tl.y = s.edgesBoundingBox.tl.y := by
  rw [foldEdgeBoxes_eq] at hlt ⊢
  unfold Rect.withCorners at hlt ⊢
  dsimp only at hlt ⊢
  rcases foldl_boxStep_top_attained segs (⟨2147483647, 2147483647⟩, ⟨-2147483648, -2147483648⟩)
    with h | ⟨s, hs, h⟩
  · -- no segment lowered the top: then no box lies below `i32::MAX`, nor does the bottom
    exfalso
    dsimp only at h
    cases segs with
    | nil => exact hne rfl
    | cons s rest =>
      obtain ⟨-, c2, -, c4⟩ := foldl_boxStep_covers (s :: rest)
        (⟨2147483647, 2147483647⟩, ⟨-2147483648, -2147483648⟩) s List.mem_cons_self
      obtain ⟨br, -, -, -, -, hh⟩ := edgesBoundingBox_bottomRight s
      omega
  · refine ⟨s, hs, ?_⟩
    obtain ⟨-, c2, -, c4⟩ := foldl_boxStep_covers segs
      (⟨2147483647, 2147483647⟩, ⟨-2147483648, -2147483648⟩) s hs
    obtain ⟨br, -, -, -, -, hh⟩ := edgesBoundingBox_bottomRight s
    omega

theorem edges_mem_outline (s : ThickSegment) (h : s.isSkeleton = false) :
    s.edges.1 ∈ s.outline ∧ s.edges.2 ∈ s.outline := by
  unfold ThickSegment.outline
  simp only [h, Bool.false_eq_true, ↓reduceIte]
  constructor <;> simp

theorem min4_between (a b c d : Int) :
    (min a b ≤ min (min (min a b) c) d ∧ min (min (min a b) c) d ≤ max a b) ∨
    (min c d ≤ min (min (min a b) c) d ∧ min (min (min a b) c) d ≤ max c d) := by
  omega

theorem edgesBox_top_line (s : ThickSegment) :
    ∃ l ∈ s.outline, min l.start.y l.stop.y ≤ s.edgesBoundingBox.tl.y ∧
      s.edgesBoundingBox.tl.y ≤ max l.start.y l.stop.y := by
  by_cases hsk : s.isSkeleton = true
  · refine ⟨s.edges.1, by rw [outline_skeleton s hsk]; exact List.mem_cons_self, ?_⟩
    unfold ThickSegment.edgesBoundingBox lineBoundingBox Rect.withCorners
    simp only [hsk, ↓reduceIte]
    omega
  · have hsk' : s.isSkeleton = false := by simpa using hsk
    obtain ⟨m1, m2⟩ := edges_mem_outline s hsk'
    have htop : s.edgesBoundingBox.tl.y =
        min (min (min s.edges.1.start.y s.edges.1.stop.y) s.edges.2.start.y) s.edges.2.stop.y := by
      unfold ThickSegment.edgesBoundingBox Rect.withCorners
      simp only [hsk', Bool.false_eq_true, ↓reduceIte, Pt.componentMin, Pt.componentMax]
      omega
    rw [htop]
    rcases min4_between s.edges.1.start.y s.edges.1.stop.y s.edges.2.start.y s.edges.2.stop.y with h | h
    · exact ⟨s.edges.1, m1, h⟩
    · exact ⟨s.edges.2, m2, h⟩

theorem extents_right_left (l : Line) (w : Nat) (lft rgt : Line)
    (h : extents l w .right = some (lft, rgt)) : lft = l := by
  unfold extents at h
  obtain ⟨it, -, h⟩ := Option.bind_eq_some_iff.mp h
  simp only at h
  -- whatever the last parallel is, the left extent is rebuilt from the start point of the line
  split at h
  · cases h
  · cases h; exact line_rebuild l
  · cases h; exact line_rebuild l

theorem join_left_exact (a m b : Pt) (w : Nat) (off : StrokeOffset) (hx : inI32 m.x) (hy : inI32 m.y)
    (h : w = 1 ∨ off = .right) (j : LineJoin) (hj : LineJoin.fromPoints a m b w off = some j) :
    j.firstEdgeEnd.left = m ∧ j.secondEdgeStart.left = m := by
  rcases h with rfl | rfl
  · obtain ⟨j', e, c1, c2⟩ := fromPoints_width1_off a m b off hx hy
    rw [e] at hj
    cases hj
    rw [c1, c2]
    exact ⟨rfl, rfl⟩
  · obtain ⟨fl, fr, sl, sr, h1, h2, rfl⟩ := extents_of_fromPoints hj
    rw [extents_right_left _ _ _ _ h1, extents_right_left _ _ _ _ h2]
    exact fromExtents_left_corners a m b w fr sr hx hy

theorem cap_fst_start (j : LineJoin) (c : EdgeCorners) : (j.cap c).1.start = c.left := by
  unfold LineJoin.cap
  split <;> rfl

theorem top_outline_at_join (p j n : LineJoin) (V : Pt) (h1 : j.firstEdgeEnd.left = V)
    (h2 : j.secondEdgeStart.left = V) :
    (∃ l ∈ (ThickSegment.mk j n).outline, l.start = V ∨ l.stop = V) ∨
    (∃ l ∈ (ThickSegment.mk p j).outline, l.start = V ∨ l.stop = V) := by
  by_cases hout : (ThickSegment.mk j n).isSkeleton = true
  · have hr : j.firstEdgeEnd.right = V := by
      unfold ThickSegment.isSkeleton at hout
      dsimp only at hout
      rw [h1] at hout
      exact (beq_iff_eq.mp hout).symm
    right
    by_cases hin : (ThickSegment.mk p j).isSkeleton = true
    · refine ⟨(ThickSegment.mk p j).edges.1, by rw [outline_skeleton _ hin]; exact List.mem_cons_self, ?_⟩
      right
      exact hr
    · have hin' : (ThickSegment.mk p j).isSkeleton = false := by simpa using hin
      refine ⟨(j.endCapLines).1, ?_, ?_⟩
      · unfold ThickSegment.outline
        simp only [hin', Bool.false_eq_true, ↓reduceIte]
        simp
      · left
        unfold LineJoin.endCapLines
        rw [cap_fst_start, h1]
  · have hout' : (ThickSegment.mk j n).isSkeleton = false := by simpa using hout
    left
    refine ⟨(j.startCapLines).1, ?_, ?_⟩
    · unfold ThickSegment.outline
      simp only [hout', Bool.false_eq_true, ↓reduceIte]
      simp
    · left
      unfold LineJoin.startCapLines
      rw [cap_fst_start, h2]

/-- Where the proof uses exact join corners (`i32` vertices): stroke width 1, and Inside strokes of
width > 1 that are not collapsed. -/
def TriNeedsI32 (t : Tri) (style : TriStyle) : Prop :=
  style.strokeWidth = 1 ∨
    (2 ≤ style.strokeWidth ∧ style.strokeAlignment = .inside ∧
      t.sortedClockwise.isCollapsed style.strokeWidth .right ≠ some true)

instance (t : Tri) (style : TriStyle) : Decidable (TriNeedsI32 t style) := by
  unfold TriNeedsI32; exact inferInstance

theorem vertexBox_top (t : Tri) :
    t.boundingBox.tl.y = min (min t.sortedClockwise.v1.y t.sortedClockwise.v2.y) t.sortedClockwise.v3.y ∧
    t.boundingBox.tl.y ≤ max (max t.sortedClockwise.v1.y t.sortedClockwise.v2.y) t.sortedClockwise.v3.y := by
  obtain ⟨a, b⟩ := sortedClockwise_ys t
  have hle : min (min t.v1.y t.v2.y) t.v3.y ≤ max (max t.v1.y t.v2.y) t.v3.y :=
    (Triangle.min_le_max t.toTriangle).2
  have e : t.boundingBox.tl.y = min (min t.v1.y t.v2.y) t.v3.y := Int.min_eq_left hle
  rw [a, b, e]
  exact ⟨rfl, hle⟩

theorem min3_mem (a b c : Int) :
    min (min a b) c = a ∨ min (min a b) c = b ∨ min (min a b) c = c := by
  omega

theorem outline_end_row {l : Line} {V : Pt} (h : l.start = V ∨ l.stop = V) :
    min l.start.y l.stop.y ≤ V.y ∧ V.y ≤ max l.start.y l.stop.y := by
  rcases h with h | h <;> rw [← h] <;> omega

/-- `newSelfTri .. c` is the value `ScanlineIntersections::new` resets to its first row, `c` what
`is_collapsed` returned. The second disjunct: stroke width 0 and no fill, then no row has a scanline
(`row_pending_nothing`). -/
theorem row_top (t : Tri) (style : TriStyle) (bb : Rect) (c : Bool)
    (hbb : triStyledBoundingBox t style = some bb) (hlt : bb.tl.y < 2147483647)
    (hi : TriNeedsI32 t style → TriI32 t)
    (hc : t.sortedClockwise.isCollapsed style.strokeWidth style.strokeAlignment.toOffset = some c) :
    ((newSelfTri t.sortedClockwise style.strokeWidth style.strokeAlignment.toOffset
        style.fillColor.isSome c).row bb.tl.y).pending ≠ [] ∨
      (style.strokeWidth = 0 ∧ style.fillColor.isSome = false ∧
        (c && style.strokeAlignment.toOffset == StrokeOffset.right) = false) := by
  generalize hself : newSelfTri t.sortedClockwise style.strokeWidth style.strokeAlignment.toOffset
    style.fillColor.isSome c = self_
  have e1 : self_.triangle = t.sortedClockwise := by rw [← hself]; rfl
  have e2 : self_.strokeWidth = style.strokeWidth := by rw [← hself]; rfl
  have e3 : self_.strokeOffset = style.strokeAlignment.toOffset := by rw [← hself]; rfl
  have e4 : self_.hasFill = style.fillColor.isSome := by rw [← hself]; rfl
  have e5 : self_.isCollapsed = (c && style.strokeAlignment.toOffset == StrokeOffset.right) := by
    rw [← hself]; rfl
  -- the plain vertex box
  have hvb : style.strokeWidth < 2 ∨ style.strokeAlignment = .inside →
      bb.tl.y = min (min self_.triangle.v1.y self_.triangle.v2.y) self_.triangle.v3.y ∧
      bb.tl.y ≤ max (max self_.triangle.v1.y self_.triangle.v2.y) self_.triangle.v3.y := by
    intro h
    unfold triStyledBoundingBox at hbb
    simp only [h, ↓reduceIte, Option.some.injEq] at hbb
    rw [e1, ← hbb]
    exact vertexBox_top t
  by_cases hcol : self_.isCollapsed = true
  · -- collapsed inside stroke: the plain triangle scanline
    left
    have hal : style.strokeAlignment = .inside := by
      rw [e5] at hcol
      simp only [Bool.and_eq_true, beq_iff_eq] at hcol
      cases hs : style.strokeAlignment with
      | inside => rfl
      | center => rw [hs] at hcol; exact absurd hcol.2 (by decide)
      | outside => rw [hs] at hcol; exact absurd hcol.2 (by decide)
    obtain ⟨a, b⟩ := hvb (Or.inr hal)
    exact row_pending_of_plain self_ (Or.inl hcol) bb.tl.y (by omega) b
  · have hcol' : self_.isCollapsed = false := by simpa using hcol
    by_cases hw : self_.strokeWidth = 0
    · by_cases hf : self_.hasFill = true
      · left
        obtain ⟨a, b⟩ := hvb (Or.inl (by rw [← e2, hw]; omega))
        exact row_pending_of_plain self_ (Or.inr ⟨hw, hf⟩) bb.tl.y (by omega) b
      · right
        have hf' : self_.hasFill = false := by simpa using hf
        exact ⟨by rw [← e2]; exact hw, by rw [← e4]; exact hf', by rw [← e5]; exact hcol'⟩
    · -- the stroke is drawn from the three edge segments
      left
      obtain ⟨j0, h0⟩ := fromPoints_total self_.triangle.v3 self_.triangle.v1 self_.triangle.v2
        self_.strokeWidth self_.strokeOffset
      obtain ⟨j1, h1⟩ := fromPoints_total self_.triangle.v1 self_.triangle.v2 self_.triangle.v3
        self_.strokeWidth self_.strokeOffset
      obtain ⟨j2, h2⟩ := fromPoints_total self_.triangle.v2 self_.triangle.v3 self_.triangle.v1
        self_.strokeWidth self_.strokeOffset
      suffices hseg : ∃ s : ThickSegment, (s = ⟨j0, j1⟩ ∨ s = ⟨j1, j2⟩ ∨ s = ⟨j2, j0⟩) ∧
          ∃ l ∈ s.outline, min l.start.y l.stop.y ≤ bb.tl.y ∧ bb.tl.y ≤ max l.start.y l.stop.y by
        obtain ⟨s, hs, l, hl, r1, r2⟩ := hseg
        obtain ⟨k, hk, hsc⟩ := segJ_nonempty_of_segment self_ bb.tl.y j0 j1 j2 h0 h1 h2 s hs
          (intersection_nonempty s bb.tl.y l hl r1 r2)
        exact row_pending_of_edge self_ hw hcol' bb.tl.y k hk hsc
      by_cases hthin : style.strokeWidth < 2 ∨ style.strokeAlignment = .inside
      · -- vertex box: the topmost vertex is an end point of an outline line
        obtain ⟨a, b⟩ := hvb hthin
        have hexact : self_.strokeWidth = 1 ∨ self_.strokeOffset = .right := by
          rcases hthin with h | h
          · left; rw [e2] at hw ⊢; omega
          · right; rw [e3, h]; rfl
        have hneed : TriNeedsI32 t style := by
          by_cases h1w : style.strokeWidth = 1
          · exact Or.inl h1w
          · right
            rcases hthin with h | h
            · rw [e2] at hw; omega
            · refine ⟨by rw [e2] at hw; omega, h, ?_⟩
              rw [e5, h] at hcol'
              have hcf : c = false := by simpa [StrokeAlignment.toOffset] using hcol'
              rw [h] at hc
              have hc' : t.sortedClockwise.isCollapsed style.strokeWidth .right = some c := hc
              rw [hc', hcf]
              simp
        obtain ⟨i1, i2, i3⟩ := sortedClockwise_all (fun p => inI32 p.x ∧ inI32 p.y) t
          (hi hneed).1 (hi hneed).2.1 (hi hneed).2.2
        rw [← e1] at i1 i2 i3
        have hV : bb.tl.y = self_.triangle.v1.y ∨ bb.tl.y = self_.triangle.v2.y ∨
            bb.tl.y = self_.triangle.v3.y := by rw [a]; exact min3_mem _ _ _
        rcases hV with hV | hV | hV
        · obtain ⟨c1, c2⟩ := join_left_exact _ _ _ _ _ i1.1 i1.2 hexact j0 h0
          rcases top_outline_at_join j2 j0 j1 self_.triangle.v1 c1 c2 with ⟨l, hl, he⟩ | ⟨l, hl, he⟩
          · exact ⟨_, Or.inl rfl, l, hl, by rw [hV]; exact outline_end_row he⟩
          · exact ⟨_, Or.inr (Or.inr rfl), l, hl, by rw [hV]; exact outline_end_row he⟩
        · obtain ⟨c1, c2⟩ := join_left_exact _ _ _ _ _ i2.1 i2.2 hexact j1 h1
          rcases top_outline_at_join j0 j1 j2 self_.triangle.v2 c1 c2 with ⟨l, hl, he⟩ | ⟨l, hl, he⟩
          · exact ⟨_, Or.inr (Or.inl rfl), l, hl, by rw [hV]; exact outline_end_row he⟩
          · exact ⟨_, Or.inl rfl, l, hl, by rw [hV]; exact outline_end_row he⟩
        · obtain ⟨c1, c2⟩ := join_left_exact _ _ _ _ _ i3.1 i3.2 hexact j2 h2
          rcases top_outline_at_join j1 j2 j0 self_.triangle.v3 c1 c2 with ⟨l, hl, he⟩ | ⟨l, hl, he⟩
          · exact ⟨_, Or.inr (Or.inr rfl), l, hl, by rw [hV]; exact outline_end_row he⟩
          · exact ⟨_, Or.inr (Or.inl rfl), l, hl, by rw [hV]; exact outline_end_row he⟩
      · -- Center / Outside, width > 1: the fold of the segment boxes
        rw [triStyledBoundingBox_eq] at hbb
        simp only [hthin, ↓reduceIte] at hbb
        have hsegs : closedSegments3 t.sortedClockwise style.strokeWidth style.strokeAlignment.toOffset =
            some [⟨j0, j1⟩, ⟨j1, j2⟩, ⟨j2, j0⟩] := by
          rw [e1, e2, e3] at h0 h1 h2
          exact closedSegments3_of_joins h0 h1 h2
        rw [hsegs] at hbb
        simp only [Option.map_some, Option.some.injEq] at hbb
        subst hbb
        obtain ⟨s, hs, htop⟩ := foldEdgeBoxes_top_attained _ (by simp) hlt
        obtain ⟨l, hl, r1, r2⟩ := edgesBox_top_line s
        refine ⟨s, by simpa using hs, l, hl, ?_, ?_⟩ <;> rw [htop] <;> assumption

theorem triIntersections_new_top (t : Tri) (style : TriStyle) (bb : Rect)
    (hbb : triStyledBoundingBox t style = some bb) (hlt : bb.tl.y < 2147483647)
    (hi : TriNeedsI32 t style → TriI32 t) (ints0 : TriIntersections)
    (hnew : TriIntersections.new t.sortedClockwise style.strokeWidth style.strokeAlignment.toOffset
      style.fillColor.isSome bb.tl.y = some ints0) :
    ints0.next.isSome = true ∨
      (ints0.strokeWidth = 0 ∧ ints0.hasFill = false ∧ ints0.isCollapsed = false) := by
  rw [TriIntersections.new_eq] at hnew
  cases hc : t.sortedClockwise.isCollapsed style.strokeWidth style.strokeAlignment.toOffset with
  | none => rw [hc] at hnew; cases hnew
  | some c =>
    rw [hc, Option.bind_some] at hnew
    unfold TriIntersections.resetWithNewScanline at hnew
    rw [TriIntersections.gen_row _ bb.tl.y] at hnew
    obtain rfl := Option.some.inj hnew
    rcases row_top t style bb c hbb hlt hi hc with h | h
    · left
      obtain ⟨lc, hh, -, -⟩ := TriIntersections.next_pending ({ newSelfTri t.sortedClockwise style.strokeWidth
        style.strokeAlignment.toOffset style.fillColor.isSome c with
        lines := (newSelfTri t.sortedClockwise style.strokeWidth style.strokeAlignment.toOffset
          style.fillColor.isSome c).row bb.tl.y } : TriIntersections)
      cases hn : TriIntersections.next _ with
      | some r => rfl
      | none =>
        rw [hn] at hh
        exact absurd (List.head?_eq_none_iff.mp hh.symm) h
    · right
      exact h

end Joins

namespace C01Thick
open EG.Joins

theorem rowsEnd_le_max (r : Rect) : r.rowsEnd ≤ 2147483647 := by
  unfold Rect.rowsEnd satAddI32
  split
  · omega
  · split <;> omega

/-- A first `None` means that the top row hands out nothing; then no row does (`row_top`), and what
the forgiving caller still sees (`triForgiven`) is empty as well. -/
theorem triFirstNoneFinal (t : Tri) (style : TriStyle) (hi : TriNeedsI32 t style → TriI32 t) :
    TriFirstNoneFinal t style := by
  intro li li' hli hn
  obtain ⟨bb, hbb⟩ := triStyledBoundingBox_total t style
  obtain ⟨c, hc⟩ := isCollapsed_total t.sortedClockwise style.strokeWidth style.strokeAlignment.toOffset
  obtain ⟨li0, hli0, hrest, hforg⟩ := triScanlines_rows t style hbb hc
  rw [hli] at hli0
  obtain rfl := Option.some.inj hli0
  obtain ⟨first, it', hn', hg', -, hnone⟩ := TriScanlines.next_rest li li.intersections.gen_row
  rw [hn] at hn'
  obtain ⟨rfl, rfl⟩ := Prod.mk.inj (Option.some.inj hn')
  obtain ⟨hnil, hli'⟩ := hnone rfl
  -- the call after the `None` returns the head of what is left: nothing
  obtain ⟨r, hr, hhead, -⟩ := TriScanlines.nextLoop_rest li' hg'
  suffices h : li'.rest li.intersections.row = [] by
    rw [h] at hhead
    cases r with
    | none => exact hr
    | some x => cases hhead
  rw [hli', hforg]
  rw [hrest] at hnil
  unfold triForgiven
  rw [hnil]
  split
  · rename_i hrows
    have hlt : bb.tl.y < bb.rowsEnd := by omega
    unfold triRows at hnil
    rw [if_pos hlt] at hnil
    rcases row_top t style bb c hbb (by have := rowsEnd_le_max bb; omega) hi hc with h | ⟨w0, f0, c0⟩
    · exact absurd (List.append_eq_nil_iff.mp hnil).1 h
    · -- stroke width 0, no fill: no row hands out anything
      cases irange (bb.tl.y + 1 + 1) bb.rowsEnd with
      | nil => rfl
      | cons y ys => rw [moreRows, if_pos (row_pending_nothing _ w0 f0 c0 y)]
  · rfl

end C01Thick
end EG
