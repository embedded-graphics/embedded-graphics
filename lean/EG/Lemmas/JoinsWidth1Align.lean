/-
  EG.Lemmas.JoinsWidth1Align — stroke width 1 with ANY stroke alignment (`StrokeOffset::None / Left /
  Right`): what the triangle scanline code gets from the join code.
  * every edge segment is a skeleton segment whose scanline is the Bresenham intersection of the
    plain edge (`segment_width1_off`; `Line::extents(1, _)` is the line itself twice,
    EG.Lemmas.JoinsWidth1);
  * a width-1 join is never `Degenerate` (`join1_not_degenerate`);
  * `Triangle::is_collapsed(1, off)` is `area_doubled <= 0` (`isCollapsed_width1`): the inner point
    of join `i` is the vertex, the "opposite edge" is the plain opposite edge, and the signed distance
    is `area_doubled` for each of the three joins. For the `sorted_clockwise` triangle that is
    `area_doubled == 0` (`isCollapsed_width1_sortedClockwise`).
  Hence `ScanlineIntersections::new(sorted_clockwise, 1, off, ..)` has
  `is_collapsed = (area_doubled == 0) && off == Right`: only a zero-area triangle with
  `StrokeAlignment::Inside` takes the collapsed arm of `generate_lines` (the whole
  `scanline_intersection` row in the stroke colour); everything else runs `edge_intersections` over
  the three skeleton segments.
-/
import EG.Lemmas.JoinsBBoxTriMain
import EG.Lemmas.Triangle
import EG.Model.TriangleAligned
import Mathlib.Tactic.Ring
set_option linter.unusedSimpArgs false
namespace EG
namespace Joins
open Thick (LineSide StrokeOffset)

theorem segment_width1_off (a m1 m2 b : Pt) (off : StrokeOffset) (h1x : inI32 m1.x)
    (h1y : inI32 m1.y) (h2x : inI32 m2.x) (h2y : inI32 m2.y) :
    ∃ j1 j2, LineJoin.fromPoints a m1 m2 1 off = some j1 ∧
      LineJoin.fromPoints m1 m2 b 1 off = some j2 ∧
      (ThickSegment.mk j1 j2).isSkeleton = true ∧
      ∀ y, (ThickSegment.mk j1 j2).intersection y = bint (Scanline.newEmpty y) ⟨m1, m2⟩ := by
  obtain ⟨j1, e1, c1, c1'⟩ := fromPoints_width1_off a m1 m2 off h1x h1y
  obtain ⟨j2, e2, c2, _⟩ := fromPoints_width1_off m1 m2 b off h2x h2y
  have hs : (ThickSegment.mk j1 j2).isSkeleton = true := by
    unfold ThickSegment.isSkeleton; simp only [c1]; exact beq_self_eq_true m1
  refine ⟨j1, j2, e1, e2, hs, ?_⟩
  intro y
  rw [intersection_skeleton _ hs]
  unfold ThickSegment.edges
  simp only [c1', c2]

theorem segment_width1 (a m1 m2 b : Pt) (h1x : inI32 m1.x) (h1y : inI32 m1.y) (h2x : inI32 m2.x)
    (h2y : inI32 m2.y) :
    ∃ j1 j2, LineJoin.fromPoints a m1 m2 1 .none = some j1 ∧
      LineJoin.fromPoints m1 m2 b 1 .none = some j2 ∧
      (ThickSegment.mk j1 j2).isSkeleton = true ∧
      ∀ y, (ThickSegment.mk j1 j2).intersection y = bint (Scanline.newEmpty y) ⟨m1, m2⟩ :=
  segment_width1_off a m1 m2 b .none h1x h1y h2x h2y

/-- The join `from_points(a, m, b, 1, _)` after its extents. -/
def join1 (a m b : Pt) : LineJoin := LineJoin.fromExtents m 1 ⟨a, m⟩ ⟨a, m⟩ ⟨m, b⟩ ⟨m, b⟩

theorem fromPoints_width1_eq (a m b : Pt) (off : StrokeOffset) :
    LineJoin.fromPoints a m b 1 off = some (join1 a m b) := by
  unfold LineJoin.fromPoints
  rw [extents_width1, extents_width1]
  rfl

/-- Turn of the path `a → m → b`: `(m - a) × (b - m)`. -/
def turn (a m b : Pt) : Int := (m.x - a.x) * (b.y - m.y) - (m.y - a.y) * (b.x - m.x)

theorem denominator_through (a m b : Pt) :
    (IntersectionParams.fromLines ⟨m, b⟩ ⟨a, m⟩).denominator = -turn a m b := by
  unfold IntersectionParams.fromLines LinearEquation.fromLine turn
  simp only [det, dot, rotate90, Line.delta, Pt.sub_x, Pt.sub_y]
  ring

/-- Signed distance of `p` from the line `l` (`LinearEquation::distance`): `(l.end - l.start) × (p - l.start)`. -/
theorem distance_fromLine (l : Line) (p : Pt) :
    (LinearEquation.fromLine l).distance p =
      (l.stop.x - l.start.x) * (p.y - l.start.y) - (l.stop.y - l.start.y) * (p.x - l.start.x) := by
  unfold LinearEquation.distance LinearEquation.fromLine
  simp only [dot, rotate90, Line.delta, Pt.sub_x, Pt.sub_y]
  ring

/-- **A width-1 join is never `Degenerate`**: the "self-intersection" test asks whether the next
vertex lies on the outer side of the first edge, and the outer side is by definition the other one. -/
theorem join1_not_degenerate (a m b : Pt) : (join1 a m b).isDegenerate = false := by
  unfold join1 LineJoin.fromExtents intersections
  have hden := denominator_through a m b
  unfold IntersectionParams.intersection
  by_cases h0 : turn a m b = 0
  · have hd : (IntersectionParams.fromLines ⟨m, b⟩ ⟨a, m⟩).denominator = 0 := by omega
    simp only [hd, ↓reduceIte]
    rfl
  · have hd : ¬ (IntersectionParams.fromLines ⟨m, b⟩ ⟨a, m⟩).denominator = 0 := by omega
    simp only [hd, ↓reduceIte]
    have hdist : (LinearEquation.fromLine (⟨a, m⟩ : Line)).distance b = turn a m b := by
      rw [distance_fromLine]; unfold turn; dsimp only; ring
    by_cases hneg : (IntersectionParams.fromLines ⟨m, b⟩ ⟨a, m⟩).denominator < 0
    · -- outer side left; the next vertex is strictly right of the first edge
      have hcs : (LinearEquation.fromLine (⟨a, m⟩ : Line)).checkSide b LineSide.left = false := by
        unfold LinearEquation.checkSide
        simp only [hdist]
        exact decide_eq_false (by omega)
      simp only [hneg, ↓reduceIte, hcs, Bool.not_false]
      repeat' split
      all_goals rfl
    · have hcs : (LinearEquation.fromLine (⟨a, m⟩ : Line)).checkSide b LineSide.right = false := by
        unfold LinearEquation.checkSide
        simp only [hdist]
        exact decide_eq_false (by omega)
      simp only [hneg, ↓reduceIte, hcs, Bool.not_false]
      repeat' split
      all_goals rfl

theorem join1_corners (a m b : Pt) (hx : inI32 m.x) (hy : inI32 m.y) :
    (join1 a m b).firstEdgeEnd = ⟨m, m⟩ ∧ (join1 a m b).secondEdgeStart = ⟨m, m⟩ :=
  fromExtents_width1_corners a m b hx hy

theorem joins_width1 (t : Tri) (off : StrokeOffset) :
    t.joins 1 off = some [join1 t.v3 t.v1 t.v2, join1 t.v1 t.v2 t.v3, join1 t.v2 t.v3 t.v1] := by
  unfold Tri.joins
  simp only [fromPoints_width1_eq]
  rfl

/-- The closure of `is_collapsed` for a width-1 join at vertex `m`: is `m` on or left of the opposite
edge. -/
theorem joinCollapsed_width1 (t : Tri) (off : StrokeOffset) (i : Nat) (a m b : Pt)
    (hx : inI32 m.x) (hy : inI32 m.y) :
    t.joinCollapsed 1 off i (join1 a m b) =
      some ((LinearEquation.fromLine ⟨t.vertex (i + 1), t.vertex (i + 2)⟩).checkSide m .left) := by
  unfold Tri.joinCollapsed
  simp only [join1_not_degenerate, Bool.false_eq_true, ↓reduceIte, extents_width1,
    (join1_corners a m b hx hy).1]
  rfl

theorem isCollapsed_width1 (t : Tri) (off : StrokeOffset) (hi : TriI32 t) :
    t.isCollapsed 1 off = some (decide (t.areaDoubled ≤ 0)) := by
  obtain ⟨⟨h1x, h1y⟩, ⟨h2x, h2y⟩, ⟨h3x, h3y⟩⟩ := hi
  unfold Tri.isCollapsed
  rw [joins_width1]
  simp only [Option.bind_eq_bind, Option.bind_some]
  rw [joinCollapsed_width1 t off 0 _ _ _ h1x h1y, joinCollapsed_width1 t off 1 _ _ _ h2x h2y,
    joinCollapsed_width1 t off 2 _ _ _ h3x h3y]
  show some ((LinearEquation.fromLine ⟨t.v2, t.v3⟩).checkSide t.v1 .left ||
    (LinearEquation.fromLine ⟨t.v3, t.v1⟩).checkSide t.v2 .left ||
    (LinearEquation.fromLine ⟨t.v1, t.v2⟩).checkSide t.v3 .left) = _
  unfold LinearEquation.checkSide
  simp only [distance_fromLine]
  have e1 : (t.v3.x - t.v2.x) * (t.v1.y - t.v2.y) - (t.v3.y - t.v2.y) * (t.v1.x - t.v2.x) =
      t.areaDoubled := by unfold Tri.areaDoubled; ring
  have e2 : (t.v1.x - t.v3.x) * (t.v2.y - t.v3.y) - (t.v1.y - t.v3.y) * (t.v2.x - t.v3.x) =
      t.areaDoubled := by unfold Tri.areaDoubled; ring
  have e3 : (t.v2.x - t.v1.x) * (t.v3.y - t.v1.y) - (t.v2.y - t.v1.y) * (t.v3.x - t.v1.x) =
      t.areaDoubled := by unfold Tri.areaDoubled; ring
  rw [e1, e2, e3, Bool.or_self, Bool.or_self]

/-- The same triangle in the `tri` topic's model. -/
def Tri.toTriangle (t : Tri) : Triangle := ⟨t.v1, t.v2, t.v3⟩

theorem toTriangle_areaDoubled (t : Tri) : t.toTriangle.areaDoubled = t.areaDoubled := rfl

theorem toTriangle_sortedYx (t : Tri) : t.sortedYx.toTriangle = t.toTriangle.sortedYx := by
  unfold Tri.sortedYx Triangle.sortedYx Tri.sortTwoYx Triangle.sortTwoYx Triangle.yxLt Tri.toTriangle
  dsimp only
  repeat' split
  all_goals rfl

theorem toTriangle_sortedClockwise (t : Tri) :
    t.sortedClockwise.toTriangle = t.toTriangle.sortedClockwise := by
  unfold Tri.sortedClockwise Triangle.sortedClockwise
  rw [toTriangle_areaDoubled]
  split
  · rfl
  · split
    · rfl
    · exact toTriangle_sortedYx t

theorem toTriangle_vertex (t : Tri) (i : Nat) : t.toTriangle.vertex i = t.vertex i := by
  unfold Triangle.vertex Tri.vertex Tri.toTriangle
  have h : i % 3 = 0 ∨ i % 3 = 1 ∨ i % 3 = 2 := by omega
  rcases h with h | h | h <;> rw [h] <;> rfl

/-- The two transcriptions of `Scanline::bresenham_intersection(&line)` (thick-segment model and
triangle model) are the same function: they differ only in where the y-range test sits. -/
theorem bint_eq_scanline_bint (s : Scanline) (l : Line) : bint s l = s.bint l := by
  unfold bint Scanline.bint Scanline.bresenhamIntersection
  dsimp only
  generalize (if l.start.y ≤ l.stop.y then decide (l.start.y ≤ s.y ∧ s.y ≤ l.stop.y)
    else decide (l.stop.y ≤ s.y ∧ s.y ≤ l.start.y)) = b
  cases b <;> rfl

theorem Tri.scanlineIntersection_eq (t : Tri) (y : Int) :
    t.scanlineIntersection y = t.toTriangle.scanlineIntersection y := by
  unfold Tri.scanlineIntersection Triangle.scanlineIntersection
  simp only [bint_eq_scanline_bint, ← toTriangle_sortedYx]
  rfl

theorem sortedClockwise_area (t : Tri) :
    0 ≤ t.sortedClockwise.areaDoubled ∧ (t.sortedClockwise.areaDoubled = 0 ↔ t.areaDoubled = 0) := by
  have h := Triangle.sortedClockwise_area t.toTriangle
  rw [← toTriangle_sortedClockwise] at h
  exact h

theorem isCollapsed_width1_sortedClockwise (t : Tri) (off : StrokeOffset) (hi : TriI32 t) :
    t.sortedClockwise.isCollapsed 1 off = some (decide (t.areaDoubled = 0)) := by
  have hi' : TriI32 t.sortedClockwise :=
    sortedClockwise_all (fun p => inI32 p.x ∧ inI32 p.y) t hi.1 hi.2.1 hi.2.2
  rw [isCollapsed_width1 _ off hi']
  obtain ⟨h1, h2⟩ := sortedClockwise_area t
  congr 1
  by_cases h : t.areaDoubled = 0
  · have := h2.mpr h
    simp only [h, decide_true, decide_eq_true_eq]; omega
  · have : ¬ t.sortedClockwise.areaDoubled = 0 := fun c => h (h2.mp c)
    simp only [h, decide_false, decide_eq_false_iff_not]; omega

theorem new_isCollapsed_width1 (tc : Tri) (off : StrokeOffset) (hasFill : Bool) (y : Int)
    (hi : TriI32 tc) :
    ∀ it, TriIntersections.new tc 1 off hasFill y = some it →
      it.isCollapsed = (decide (tc.areaDoubled ≤ 0) && off == .right) ∧
      it.triangle = tc ∧ it.strokeWidth = 1 ∧ it.strokeOffset = off ∧ it.hasFill = hasFill := by
  intro it h
  unfold TriIntersections.new at h
  rw [isCollapsed_width1 tc off hi] at h
  simp only [Option.bind_eq_bind, Option.bind_some] at h
  unfold TriIntersections.resetWithNewScanline at h
  cases hg : TriIntersections.generateLines _ y with
  | none => rw [hg] at h; simp at h
  | some lines =>
    rw [hg] at h
    simp only [Option.bind_eq_bind, Option.bind_some, pure, Option.some.injEq] at h
    subst h
    exact ⟨rfl, rfl, rfl, rfl, rfl⟩

/-- The alignment of the `tri` topic's outline model as a stroke offset. -/
def alignOffset : TriAlign → StrokeOffset
  | .inside => .right
  | .center => .none
  | .outside => .left

/-- The flag of the `tri` topic's outline model (`Triangle.collapsedFlag1`) is the flag the join
code computes. -/
theorem new_isCollapsed_eq_flag (tc : Tri) (a : TriAlign) (hasFill : Bool) (y : Int)
    (hi : TriI32 tc) :
    ∀ it, TriIntersections.new tc 1 (alignOffset a) hasFill y = some it →
      it.isCollapsed = tc.toTriangle.collapsedFlag1 a := by
  intro it h
  rw [(new_isCollapsed_width1 tc _ hasFill y hi it h).1]
  unfold Triangle.collapsedFlag1
  rw [toTriangle_areaDoubled]
  cases a <;> rfl

end Joins
end EG
