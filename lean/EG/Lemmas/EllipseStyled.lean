/-
  EG.Lemmas.EllipseStyled — stroke / fill areas of a styled ellipse, its two scanline lists as
  `StyledLines` of the two areas' `contains`, and their translation (same structure as
  `CircleStyled`; the scanline iterator skips rows without a hit).
-/
import EG.Lemmas.EllipsePoints
import EG.Lemmas.RowScanStyled
import EG.Lemmas.Style
namespace EG
namespace Ellipse

theorem strokeArea_size {st : PrimStyle} {e : Ellipse} (hS : (e.strokeArea st).InRange) :
    (e.strokeArea st).size =
      ⟨e.size.w + 2 * st.strokeOffset.toNat, e.size.h + 2 * st.strokeOffset.toNat⟩ := by
  have lw : (e.strokeArea st).size.w ≤ 2147483647 := Rect.InRange.w_le hS
  have lh : (e.strokeArea st).size.h ≤ 2147483647 := Rect.InRange.h_le hS
  unfold strokeArea at lw lh ⊢
  rw [offset_size] at lw lh ⊢
  unfold offsetSize Sz.satAdd Sz.newEqual at lw lh ⊢
  rw [if_pos st.strokeOffset_nonneg] at lw lh ⊢
  dsimp only at lw lh ⊢
  rw [satAddU32_of_le lw, satAddU32_of_le lh]

theorem fillArea_size {st : PrimStyle} {e : Ellipse} (hF : (e.fillArea st).InRange) :
    (e.fillArea st).size =
      ⟨e.size.w - 2 * (-st.fillOffset).toNat, e.size.h - 2 * (-st.fillOffset).toNat⟩ := by
  have lw : (e.fillArea st).size.w ≤ 2147483647 := Rect.InRange.w_le hF
  have lh : (e.fillArea st).size.h ≤ 2147483647 := Rect.InRange.h_le hF
  have h0 := satAsI32_nonneg st.insideStrokeWidth
  unfold fillArea at lw lh ⊢
  rw [offset_size] at lw lh ⊢
  unfold offsetSize Sz.satAdd Sz.satSub Sz.newEqual at lw lh ⊢
  by_cases hz : st.fillOffset ≥ 0
  · -- then the offset is 0
    rw [if_pos hz] at lw lh ⊢
    dsimp only at lw lh ⊢
    rw [satAddU32_of_le lw, satAddU32_of_le lh]
    unfold PrimStyle.fillOffset at hz ⊢
    rw [show -satAsI32 st.insideStrokeWidth = 0 by omega]
    rfl
  · rw [if_neg hz]

/-- What the scanline code relies on about a stroke area `S` and a fill area `F` when it searches
the fill range with the stroke area's `center_2x`; true of the two areas of a style (`areasRel`).
`cls`: see `hit_nested`. -/
structure AreasRel (S F : Ellipse) : Prop where
  w_le : F.size.w ≤ S.size.w
  h_le : F.size.h ≤ S.size.h
  cls : S.size.w = S.size.h → F.size.w = F.size.h
  centre : 1 ≤ F.size.w → 1 ≤ F.size.h → F.center2x = S.center2x

theorem areasRel {st : PrimStyle} {e : Ellipse} (hS : (e.strokeArea st).InRange)
    (hF : (e.fillArea st).InRange) : AreasRel (e.strokeArea st) (e.fillArea st) := by
  have hs := strokeArea_size hS
  have hf := fillArea_size hF
  refine ⟨by rw [hs, hf]; dsimp only; omega, by rw [hs, hf]; dsimp only; omega,
    by rw [hs, hf]; dsimp only; omega, ?_⟩
  intro h1 h2
  have hw : 1 ≤ e.size.w := by rw [hf] at h1; dsimp only at h1; omega
  have hh : 1 ≤ e.size.h := by rw [hf] at h2; dsimp only at h2; omega
  -- both areas have the centre of `e`
  rw [fillArea, offset_center2x e _ hw hh h1 h2 (Rect.InRange.w_le hF) (Rect.InRange.h_le hF),
    strokeArea, offset_center2x e _ hw hh (by rw [← strokeArea, hs]; dsimp only; omega)
      (by rw [← strokeArea, hs]; dsimp only; omega) (Rect.InRange.w_le hS) (Rect.InRange.h_le hS)]

theorem areas_eq_of_zero_width {st : PrimStyle} (e : Ellipse) (h : st.strokeWidth = 0) :
    e.strokeArea st = e.fillArea st := by
  unfold strokeArea fillArea
  rw [(st.zero_width_offsets h).1, (st.zero_width_offsets h).2]

theorem strokeArea_inside {st : PrimStyle} (e : Ellipse) (h : st.strokeAlignment = .inside)
    (hw : e.size.w ≤ 4294967295) (hh : e.size.h ≤ 4294967295) : e.strokeArea st = e := by
  unfold strokeArea PrimStyle.strokeOffset PrimStyle.outsideStrokeWidth
  rw [h]
  exact offset_zero e hw hh

theorem fillArea_outside {st : PrimStyle} (e : Ellipse) (h : st.strokeAlignment = .outside)
    (hw : e.size.w ≤ 4294967295) (hh : e.size.h ≤ 4294967295) : e.fillArea st = e := by
  unfold fillArea PrimStyle.fillOffset PrimStyle.insideStrokeWidth
  rw [h]
  exact offset_zero e hw hh

section areas
variable {S F : Ellipse} (hr : AreasRel S F)
include hr

/-- The fill test as the styled scanlines evaluate it (the stroke area's centre with the fill area's
`EllipseContains`) is symmetric and convex about the middle of the stroke area's columns. -/
theorem fill_symConvex (y : Int) :
    SymConvex (hit S.center2x (EllipseContains.new F.size) y) S.tl.x (S.tl.x + S.size.w) := by
  by_cases hS : S.size.w = 0
  · apply SymConvex.of_forall_false
    intro x
    rw [Bool.eq_false_iff]
    intro hx
    have := contains_false_of_zero (e := S) (Or.inl hS) ⟨x, y⟩
    rw [contains_eq_hit, hit_nested hr.w_le hr.h_le hr.cls hx] at this
    cases this
  · exact hit_symConvex_row _ _ (by rw [center2x_x]; omega)

/-- It is the fill area's `contains` (which is empty when the centres may differ). -/
theorem fill_hit_eq (p : Pt) : hit S.center2x (EllipseContains.new F.size) p.y p.x = F.contains p := by
  by_cases h1 : 1 ≤ F.size.w ∧ 1 ≤ F.size.h
  · rw [show p = ⟨p.x, p.y⟩ from rfl, contains_eq_hit, hr.centre h1.1 h1.2]
  · rw [contains_false_of_zero (by omega), Bool.eq_false_iff]
    intro hx
    -- a hit would lie strictly inside a box with a zero side
    have hb := ideal_bounds (EllipseContains.ideal_of_contains (s := F.size) hx)
    omega

theorem fill_subset {p : Pt} (h : F.contains p = true) : S.contains p = true := by
  rw [← fill_hit_eq hr] at h
  exact hit_nested hr.w_le hr.h_le hr.cls h

end areas

theorem fill_subset_stroke {st : PrimStyle} {e : Ellipse} (hS : (e.strokeArea st).InRange)
    (hF : (e.fillArea st).InRange) {p : Pt} (h : (e.fillArea st).contains p = true) :
    (e.strokeArea st).contains p = true := fill_subset (areasRel hS hF) h

theorem ScanlinesIt.next_center2x (it : ScanlinesIt) : (it.next).2.center2x = it.center2x := by
  unfold ScanlinesIt.next
  generalize (it.yEnd - it.y).toNat + 1 = fuel
  induction fuel generalizing it with
  | zero => rfl
  | succ fuel ih =>
    unfold ScanlinesIt.nextFuel
    split
    · split
      · rfl
      · rw [ih]
    · rfl

theorem StyledScanlinesIt.drains : Drains (ofPair StyledScanlinesIt.next) StyledScanlinesIt.toListFuel :=
  ⟨fun _ => rfl, fun n it => by
    rw [StyledScanlinesIt.toListFuel]; unfold ofPair; rcases it.next with ⟨_ | _, _⟩ <;> rfl⟩

theorem StyledScanlinesIt.toListFuel_eq : ∀ (fuel : Nat) (it : StyledScanlinesIt),
    it.toListFuel fuel = (it.scanlines.toListFuel fuel).map it.style := by
  intro fuel
  induction fuel with
  | zero => intro it; rfl
  | succ fuel ih =>
    intro it
    unfold StyledScanlinesIt.toListFuel StyledScanlinesIt.next ScanlinesIt.toListFuel
    have hc := ScanlinesIt.next_center2x it.scanlines
    cases hn : it.scanlines.next with
    | mk o sl' =>
      rw [hn] at hc
      cases o with
      | none => rfl
      | some s =>
        simp only [List.map_cons]
        rw [ih]
        unfold StyledScanlinesIt.style
        simp only at hc ⊢
        rw [hc]

theorem StyledScanlinesIt.toList_eq (it : StyledScanlinesIt) :
    it.toList = it.scanlines.toList.map it.style :=
  StyledScanlinesIt.toListFuel_eq _ it

theorem styledScanlines_toList_eq {S : Ellipse} (F : Ellipse) (hS : S.InRange) :
    (styledScanlines S F).toList =
      (rowLines (scanRow (hit S.center2x (EllipseContains.new S.size)) S.tl.x (S.tl.x + S.size.w)) S.tl.y
        (S.tl.y + S.size.h)).map (styleRow (hit S.center2x (EllipseContains.new F.size))) := by
  rw [StyledScanlinesIt.toList_eq]
  exact congrArg _ (scanlines_toList_eq hS)

/-- What is true of every styled scanline the iterator yields for stroke area `S`, fill area `F`. -/
structure RowOK (S F : Ellipse) (l : StyledScanline) : Prop where
  order : l.ss ≤ l.fs ∧ l.fs ≤ l.fe ∧ l.fe ≤ l.se
  inbox : S.tl.x ≤ l.ss ∧ l.se ≤ S.tl.x + S.size.w ∧ S.tl.y ≤ l.y ∧ l.y < S.tl.y + S.size.h
  stroke : ∀ x, S.contains ⟨x, l.y⟩ = true ↔ l.ss ≤ x ∧ x < l.se
  fill : ∀ x, F.contains ⟨x, l.y⟩ = true ↔ l.fs ≤ x ∧ x < l.fe

section lines
variable {S F : Ellipse} (hS : S.InRange) (hr : AreasRel S F)
include hS hr

theorem lines_ok : ∀ l ∈ (styledScanlines S F).toList, RowOK S F l := by
  intro l hl
  rw [styledScanlines_toList_eq F hS, List.mem_map] at hl
  obtain ⟨s, hs, rfl⟩ := hl
  obtain ⟨a1, a2, hrun⟩ := S.scanShape.rowScan.isRun_of_mem hs
  have hst := S.scanShape.styleRow_isStyledRun (fill_symConvex hr) s hs
  have e1 := hst.y_eq
  have e2 := hst.ss_eq
  have e3 := hst.se_eq
  have o1 := hst.ord
  obtain ⟨b1, b2, b3, b4⟩ := hrun.inCols
  have hne := (S.scanShape.scanRow_some_of_mem hs).1
  refine ⟨by omega, by omega, ?_, ?_⟩
  · intro x; rw [e1, e2, e3, contains_eq_hit]; exact hrun.hits x
  · intro x
    rw [e1, ← fill_hit_eq hr]
    exact hst.fill_iff hrun (fun x hx => hit_nested hr.w_le hr.h_le hr.cls hx) x

end lines

theorem styledLines {S F : Ellipse} (hS : S.InRange) (hF : F.InRange) (hr : AreasRel S F) :
    StyledLines S.contains F.contains (styledScanlines S F).toList F.scanlines.toList := by
  rw [styledScanlines_toList_eq F hS, scanlines_toList_eq hF]
  exact .of_rowScan S.scanShape.rowScan (S.scanShape.styleRow_isStyledRun (fill_symConvex hr))
    F.scanShape.rowScan (fun _ => rfl) (fill_hit_eq hr) (fun _ => rfl) hS rfl rfl hF rfl rfl

/-- The colour the property text prescribes for point `p` (before clipping to the target). -/
def styledExpected (st : PrimStyle) (e : Ellipse) (p : Pt) : Option Color :=
  if (e.fillArea st).contains p = true then st.fillColor
  else if (e.strokeArea st).contains p = true ∧ st.strokeWidth > 0 then st.strokeColor
  else none

theorem styledExpected_eq (st : PrimStyle) (e : Ellipse) :
    styledExpected st e = scanExpected st.strokeColor st.fillColor st.strokeWidth
      (e.strokeArea st).contains (e.fillArea st).contains := rfl

theorem drawStyled_eq (st : PrimStyle) (e : Ellipse) :
    e.drawStyled st = scanDraw st.effectiveStrokeColor st.fillColor
      (styledScanlines (e.strokeArea st) (e.fillArea st)).toList (e.fillArea st).scanlines.toList := rfl

theorem styledLines_of_style {st : PrimStyle} {e : Ellipse} (hS : (e.strokeArea st).InRange)
    (hF : (e.fillArea st).InRange) :
    StyledLines (e.strokeArea st).contains (e.fillArea st).contains
      (styledScanlines (e.strokeArea st) (e.fillArea st)).toList (e.fillArea st).scanlines.toList :=
  styledLines hS hF (areasRel hS hF)

theorem styledPicture {st : PrimStyle} {e : Ellipse} (hS : (e.strokeArea st).InRange)
    (hF : (e.fillArea st).InRange) :
    StyledPicture (e.drawStyled st) st.strokeColor st.fillColor st.strokeWidth
      (e.strokeArea st).contains (e.fillArea st).contains (e.strokeArea st).boundingBox := by
  rw [drawStyled_eq, PrimStyle.effectiveStrokeColor_eq]
  exact (styledLines_of_style hS hF).styledPicture (fun _ => fill_subset_stroke hS hF)
    (fun _ => contains_imp_bbox) _ _ _

/-- `pixels()` yields the prescribed colours too (it looks at `stroke_color`, not at the effective
stroke colour; at width 0 the two areas coincide). -/
theorem mem_styledPixels_iff {st : PrimStyle} {e : Ellipse} (hS : (e.strokeArea st).InRange)
    (hF : (e.fillArea st).InRange) (p : Pt) (col : Color) :
    (p, col) ∈ e.styledPixels st ↔ scanExpected st.strokeColor st.fillColor st.strokeWidth
      (e.strokeArea st).contains (e.fillArea st).contains p = some col :=
  (styledLines_of_style hS hF).mem_pixels_iff (fun _ => fill_subset_stroke hS hF) _ _ _
    (fun h0 => by rw [areas_eq_of_zero_width e h0]) p col

theorem translate_strokeArea (st : PrimStyle) (e : Ellipse) (d : Pt) :
    (e.translate d).strokeArea st = (e.strokeArea st).translate d := translate_offset e d _

theorem translate_fillArea (st : PrimStyle) (e : Ellipse) (d : Pt) :
    (e.translate d).fillArea st = (e.fillArea st).translate d := translate_offset e d _

theorem translate_styledBoundingBox (st : PrimStyle) (e : Ellipse) (d : Pt) :
    (e.translate d).styledBoundingBox st = (e.styledBoundingBox st).translate d := by
  unfold styledBoundingBox
  rw [translate_boundingBox, Rect.offset_translate]

theorem scanlines_toList_translate {e : Ellipse} {d : Pt} (h : e.InRange)
    (h' : (e.translate d).InRange) :
    (e.translate d).scanlines.toList = e.scanlines.toList.map (Scanline.shift d) := by
  rw [scanlines_toList_eq h', scanlines_toList_eq h, translate_center2x, translate_size,
    ← rowLines_scanRow_shift d (hit_shift e.center2x (EllipseContains.new e.size) d)]
  simp only [translate_tl, Pt.add_x, Pt.add_y]
  rw [show e.tl.x + d.x + (e.size.w : Int) = e.tl.x + e.size.w + d.x by omega,
    show e.tl.y + d.y + (e.size.h : Int) = e.tl.y + e.size.h + d.y by omega]

theorem styledScanlines_toList_translate {S F : Ellipse} {d : Pt} (h : S.InRange)
    (h' : (S.translate d).InRange) :
    (styledScanlines (S.translate d) (F.translate d)).toList =
      (styledScanlines S F).toList.map (StyledScanline.shift d) := by
  have hsl : ∀ A B : Ellipse, (styledScanlines A B).scanlines = A.scanlines := fun _ _ => rfl
  have hst : ∀ (A B : Ellipse) (s : Scanline), (styledScanlines A B).style s =
      styleRow (hit A.center2x (EllipseContains.new B.size)) s := fun _ _ _ => rfl
  rw [StyledScanlinesIt.toList_eq, StyledScanlinesIt.toList_eq, hsl, hsl,
    scanlines_toList_translate h h', List.map_map, List.map_map]
  apply List.map_congr_left
  intro s _
  simp only [Function.comp, hst, translate_center2x, translate_size]
  exact styleRow_shift d (hit_shift S.center2x (EllipseContains.new F.size) d) s

theorem drawStyled_translate (st : PrimStyle) (e : Ellipse) (d : Pt)
    (hS : (e.strokeArea st).InRange) (hF : (e.fillArea st).InRange)
    (hS' : ((e.translate d).strokeArea st).InRange) (hF' : ((e.translate d).fillArea st).InRange) :
    (e.translate d).drawStyled st = (e.drawStyled st).map (Call.translate d) := by
  rw [translate_strokeArea] at hS'
  rw [translate_fillArea] at hF'
  rw [drawStyled_eq, drawStyled_eq, translate_strokeArea, translate_fillArea,
    styledScanlines_toList_translate hS hS', scanlines_toList_translate hF hF', scanDraw_shift]

theorem styledPixels_translate (st : PrimStyle) (e : Ellipse) (d : Pt)
    (hS : (e.strokeArea st).InRange) (hS' : ((e.translate d).strokeArea st).InRange) :
    (e.translate d).styledPixels st = Writes.translate d (e.styledPixels st) := by
  rw [translate_strokeArea] at hS'
  unfold styledPixels styledPixelsIt
  rw [translate_strokeArea, translate_fillArea, styledScanlines_toList_translate hS hS',
    StyledPixelsIt.toList_new_shift]

end Ellipse
end EG
