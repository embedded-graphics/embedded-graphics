/-
  EG.Lemmas.ThickTranslate — a stroked line of any width commutes with translation.
  `ThickPoints` holds the `ParallelsIterator` (moved: `Joins.shiftIt`, state lemma
  `Joins.next_shift`, constructor `Joins.new_shift`) and the current parallel's Bresenham walker;
  these positions are the only absolute coordinates. Hence
  `thickPoints (l.translate d) w = (thickPoints l w).map (·.map (· + d))`, for every line, width
  and vector — no guard; likewise `Line::extents(w, None)` (the `None` arm of `Joins.extents`:
  `Joins.thick_extents_eq`) and the styled bounding box.
  `Thick.styledPixels` / `Thick.drawStyled` state what line/styled.rs does with the points:
  `StyledPixelsIterator` pairs them with `effective_stroke_color()` (nothing when it is `None`),
  `draw_styled` is one `draw_iter` call.
-/
import EG.Lemmas.JoinsExtents
import EG.Lemmas.ThickTotal
import EG.Lemmas.CallTranslate
import EG.Lemmas.ThickGeoMain
namespace EG
namespace Thick
open Joins (shiftB shiftIt shiftItem shiftLines)

def shiftTP (it : ThickPointsIt) (d : Pt) : ThickPointsIt :=
  { it with parallel := shiftB it.parallel d, iter := shiftIt it.iter d }

theorem bresenham_next_shift (b : Bresenham) (p : BresenhamParameters) (d : Pt) :
    (shiftB b d).next p = ((b.next p).1 + d, shiftB (b.next p).2 d) := by
  unfold Bresenham.next shiftB
  by_cases h : b.error > p.errorThreshold
  · simp only [h, ↓reduceIte, Prod.mk.injEq, Bresenham.mk.injEq, and_true, Pt.ext_iff', Pt.add_x,
      Pt.add_y]
    refine ⟨⟨?_, ?_⟩, ?_, ?_⟩ <;> omega
  · simp only [h, ↓reduceIte, Prod.mk.injEq, Bresenham.mk.injEq, and_true, Pt.ext_iff', Pt.add_x,
      Pt.add_y, true_and]
    refine ⟨?_, ?_⟩ <;> omega

theorem nextFuel_shift (fuel : Nat) (it : ThickPointsIt) (d : Pt) :
    (shiftTP it d).nextFuel fuel =
      (it.nextFuel fuel).map (·.map (fun r => (r.1 + d, shiftTP r.2 d))) := by
  induction fuel generalizing it with
  | zero => rfl
  | succ fuel ih =>
    unfold ThickPointsIt.nextFuel
    have e1 : (shiftTP it d).parallelPointsRemaining = it.parallelPointsRemaining := rfl
    have e2 : (shiftTP it d).iter = shiftIt it.iter d := rfl
    have e3 : (shiftTP it d).parallel = shiftB it.parallel d := rfl
    have e4 : (shiftIt it.iter d).parallelParameters = it.iter.parallelParameters := rfl
    have e5 : (shiftTP it d).parallelLength = it.parallelLength := rfl
    rw [e1, e2, e3, e4, e5]
    by_cases h : it.parallelPointsRemaining > 0
    · simp only [h, ↓reduceIte, bresenham_next_shift]
      rfl
    · simp only [h, ↓reduceIte]
      rw [Joins.next_shift]
      rcases it.iter.next with _ | ⟨_ | ⟨b, ty⟩, it1⟩
      · rfl
      · rfl
      · simp only [Option.map_some, shiftItem]
        exact ih { it with parallel := b,
                           parallelPointsRemaining :=
                             if ty = .extra then it.parallelLength - 1 else it.parallelLength,
                           iter := it1 }

theorem next_shift (it : ThickPointsIt) (d : Pt) :
    (shiftTP it d).next = it.next.map (·.map (fun r => (r.1 + d, shiftTP r.2 d))) :=
  nextFuel_shift _ it d

theorem drainFuel_shift (fuel : Nat) (it : ThickPointsIt) (d : Pt) :
    (shiftTP it d).drainFuel fuel = (it.drainFuel fuel).map (·.map (· + d)) := by
  induction fuel generalizing it with
  | zero => rfl
  | succ fuel ih =>
    unfold ThickPointsIt.drainFuel
    rw [next_shift]
    rcases it.next with _ | _ | ⟨p, it'⟩
    · rfl
    · rfl
    · simp only [Option.map_some]
      rw [ih it']
      cases it'.drainFuel fuel <;> rfl

theorem toListFuel_shift (fuel : Nat) (it : ThickPointsIt) (d : Pt) :
    (shiftTP it d).toListFuel fuel = (it.toListFuel fuel).map (·.map (· + d)) := by
  induction fuel generalizing it with
  | zero => rfl
  | succ fuel ih =>
    unfold ThickPointsIt.toListFuel
    rw [next_shift]
    rcases it.next with _ | _ | ⟨p, it'⟩
    · rfl
    · rfl
    · simp only [Option.map_some]
      rw [ih it']
      cases it'.toListFuel fuel <;> rfl

theorem majorLength_translate (l : Line) (d : Pt) : majorLength (l.translate d) = majorLength l := by
  unfold majorLength
  simp only [Joins.translate_start, Joins.translate_stop, Joins.pt_add_sub_add]

theorem new_translate (l : Line) (t : Int) (d : Pt) :
    ThickPointsIt.new (l.translate d) t = (ThickPointsIt.new l t).map (shiftTP · d) := by
  unfold ThickPointsIt.new
  rw [Joins.new_shift, majorLength_translate]
  cases ParallelsIterator.new l t .none with
  | none => rfl
  | some it => rfl

theorem thickPoints_translate (l : Line) (w : Nat) (d : Pt) :
    thickPoints (l.translate d) w = (thickPoints l w).map (·.map (· + d)) := by
  unfold thickPoints
  rw [new_translate]
  cases ThickPointsIt.new l (satAsI32 w) with
  | none => rfl
  | some it =>
    simp only [Option.map_some]
    by_cases hw : w = 0
    · simp only [hw, ↓reduceIte, Option.map_some, List.map_nil]
    · simp only [hw, ↓reduceIte]
      have e : pixelBudget (l.translate d) (shiftTP it d).iter.thicknessThreshold =
          pixelBudget l it.iter.thicknessThreshold := by
        unfold pixelBudget
        rw [majorLength_translate]
        rfl
      rw [e, drainFuel_shift]

theorem extents_translate (l : Line) (w : Nat) (d : Pt) :
    extents (l.translate d) w = (extents l w).map (shiftLines · d) := by
  rw [Joins.thick_extents_eq, Joins.thick_extents_eq, Joins.extents_translate]

theorem styledBoundingBox_translate (l : Line) (w : Nat) (d : Pt) :
    styledBoundingBox (l.translate d) w = (styledBoundingBox l w).map (·.translate d) := by
  unfold styledBoundingBox
  rw [extents_translate]
  cases extents l w with
  | none => rfl
  | some r =>
    obtain ⟨lft, rgt⟩ := r
    simp only [Option.map_some, shiftLines, Joins.translate_start, Joins.translate_stop,
      Pt.componentMin_add, Pt.componentMax_add, Rect.withCorners_translate]

/-- `line.into_styled(style).pixels()` (line/styled.rs `StyledPixelsIterator`): the points of
`ThickPoints::new(line, stroke_width)` paired with `effective_stroke_color()`; nothing when that is
`None` (no stroke colour or width 0). `sc` is the style's `stroke_color`. -/
def styledPixels (l : Line) (w : Nat) (sc : Option Color) : Option Writes :=
  match sc with
  | none => some []
  | some c => (thickPoints l w).map (·.map (fun p => (p, c)))

/-- `draw_styled`: `target.draw_iter(StyledPixelsIterator::new(self, style))`, one call. -/
def drawStyled (l : Line) (w : Nat) (sc : Option Color) : Option (List Call) :=
  (styledPixels l w sc).map (fun px => [Call.drawIter px])

theorem styledPixels_nodup {l : Line} {w : Nat} {sc : Option Color} {px : Writes}
    (hp : styledPixels l w sc = some px) : (px.map Prod.fst).Nodup := by
  cases sc with
  | none => cases hp; exact List.nodup_nil
  | some c =>
    obtain ⟨ps, hps, rfl⟩ := Option.map_eq_some_iff.mp hp
    rw [List.map_map, show (Prod.fst ∘ fun p : Pt => (p, c)) = id from rfl, List.map_id]
    exact thickPoints_nodup l w ps hps

theorem styledPixels_translate (l : Line) (w : Nat) (sc : Option Color) (d : Pt) :
    styledPixels (l.translate d) w sc = (styledPixels l w sc).map (Writes.translate d) := by
  unfold styledPixels
  cases sc with
  | none => rfl
  | some c =>
    simp only [thickPoints_translate]
    cases thickPoints l w with
    | none => rfl
    | some ps =>
      simp only [Option.map_some, Writes.translate, List.map_map]
      rfl

theorem drawStyled_translate (l : Line) (w : Nat) (sc : Option Color) (d : Pt) :
    drawStyled (l.translate d) w sc = (drawStyled l w sc).map (·.map (Call.translate d)) := by
  unfold drawStyled
  rw [styledPixels_translate]
  cases styledPixels l w sc with
  | none => rfl
  | some px => rfl

theorem drawStyled_total (l : Line) (w : Nat) (sc : Option Color) :
    ∃ calls, drawStyled l w sc = some calls := by
  unfold drawStyled styledPixels
  cases sc with
  | none => exact ⟨_, rfl⟩
  | some c =>
    obtain ⟨ps, h⟩ := thickPoints_total l w
    rw [h]
    exact ⟨_, rfl⟩

end Thick
end EG
