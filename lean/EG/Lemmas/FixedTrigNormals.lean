/-
  EG.Lemmas.FixedTrigNormals — orientation of the normal vectors the `fixed_point` table produces:
  for a right boundary of whole degree `dr` and a left boundary of whole degree `dl`, `dr < dl <= dr + 180`,
  whose cosine degrees `cr`, `cl` (each the sine degree `+ 90` or `+ 91`, see `deg_shift`) are in the same
  order, `cr < cl`, the two normals `PlaneSector::new` computes are correctly ordered
  (`cross(right, left) > 0`) or do not point the same way (`dot <= 0`) — so the bisector test of
  `PlaneSector::contains` never rejects a point both half planes accept
  (`PlaneSector.contains_eq_plain_of_cross_pos` / `_of_dot_nonpos`).

  The argument (`orient_table`): by the half-turn symmetry of the table `dr` is in `[0, 180)`; the right
  normal then lies in the first or second quadrant and the left normal in that quadrant or one of the
  next two. In adjacent quadrants the signs of the components make the cross product positive, in
  opposite quadrants they make the dot product non-positive, and within one quadrant the cross product is
  positive because there one component increases and the other decreases along the table
  (`orient_same`). The table enters through the truncated entries `tabComp` being weakly increasing,
  and strictly except from 88 to 89 degrees (both 1023; `tab_adj_nat`).

  It fails when the cosine degrees coincide, `dl = dr + 1` with the right cosine alone off by one
  (`dr` = 88, 89, 91, 268, 269, 271: the two normals come out parallel, the sweep degenerates to a
  ray) — `orient_fails_witness`.
-/
import EG.Lemmas.FixedTrig
namespace EG.Fx
open EG EG.Generated

/-- `cross(right, left) > 0` or `dot(left, right) <= 0` for `right = (-sr, cr)`, `left = (-sl, cl)`. -/
def orientOK (sr cr sl cl : Int) : Bool :=
  decide (0 < sl * cr - sr * cl) || decide (sl * sr + cl * cr ≤ 0)

theorem orientOK_iff (sr cr sl cl : Int) :
    orientOK sr cr sl cl = true ↔ 0 < sl * cr - sr * cl ∨ sl * sr + cl * cr ≤ 0 := by
  unfold orientOK
  rw [Bool.or_eq_true, decide_eq_true_iff, decide_eq_true_iff]

/-- Turning both vectors by a quarter turn. -/
theorem orientOK_rot (sr cr sl cl : Int) : orientOK sr cr sl cl = orientOK (-cr) sr (-cl) sl := by
  rw [Bool.eq_iff_iff, orientOK_iff, orientOK_iff, Int.neg_mul, Int.neg_mul, Int.neg_mul_neg,
    Int.mul_comm cl sr, Int.mul_comm cr sl]
  omega

/-- Same quadrant: the left vector has the larger sine and the smaller cosine component. -/
theorem orient_same {sr cr sl cl : Int} (h1 : 0 ≤ sr) (h2 : sr ≤ sl) (h3 : 0 ≤ cl) (h4 : cl ≤ cr)
    (h : sr < sl ∧ 0 < cr ∨ cl < cr ∧ 0 < sl) : orientOK sr cr sl cl = true := by
  rw [orientOK_iff]
  left
  have a1 : sr * cl ≤ sr * cr := Int.mul_le_mul_of_nonneg_left h4 h1
  have a2 : sr * cr ≤ sl * cr := Int.mul_le_mul_of_nonneg_right h2 (by omega)
  rcases h with ⟨h5, h6⟩ | ⟨h5, h6⟩
  · have := Int.mul_lt_mul_of_pos_right h5 h6
    omega
  · have a3 : sl * cl ≤ sl * cr := Int.mul_le_mul_of_nonneg_left h4 (by omega)
    have a4 : sr * cl ≤ sl * cl := Int.mul_le_mul_of_nonneg_right h2 h3
    have := Int.mul_lt_mul_of_pos_left h5 h6
    omega

/-- Adjacent quadrants: right in the first, left in the second. -/
theorem orient_adjacent {sr cr sl cl : Int} (h1 : 0 ≤ sr) (h2 : 0 ≤ cr) (h3 : 0 ≤ sl) (h4 : cl ≤ 0)
    (h : 0 < cr ∧ 0 < sl ∨ 0 < sr ∧ cl < 0) : orientOK sr cr sl cl = true := by
  rw [orientOK_iff]
  left
  have a1 : 0 ≤ sl * cr := Int.mul_nonneg h3 h2
  have a2 : 0 ≤ sr * -cl := Int.mul_nonneg h1 (by omega)
  rw [Int.mul_neg] at a2
  rcases h with ⟨h5, h6⟩ | ⟨h5, h6⟩
  · have := Int.mul_pos h6 h5
    omega
  · have := Int.mul_pos h5 (show 0 < -cl by omega)
    rw [Int.mul_neg] at this
    omega

/-- Opposite quadrants: right in the first, left in the third. -/
theorem orient_opposite {sr cr sl cl : Int} (h1 : 0 ≤ sr) (h2 : 0 ≤ cr) (h3 : sl ≤ 0) (h4 : cl ≤ 0) :
    orientOK sr cr sl cl = true := by
  rw [orientOK_iff]
  right
  have a1 : 0 ≤ -sl * sr := Int.mul_nonneg (by omega) h1
  have a2 : 0 ≤ -cl * cr := Int.mul_nonneg (by omega) h2
  rw [Int.neg_mul] at a1 a2
  omega

theorem t64_neg (s : Int) : t64 (-s) = -t64 s := by
  unfold t64 truncDiv
  split <;> split <;> omega

theorem t64_mono {s s' : Int} (h : s ≤ s') : t64 s ≤ t64 s' := by
  unfold t64 truncDiv
  split <;> split <;> omega

/-- `1024 sin i°` as the normal vectors have it: the table entry `SIN[i]`, truncated. -/
def tabComp (i : Int) : Int := t64 (tab i)

theorem tabComp_mono {i j : Int} (h : 0 ≤ i ∧ i ≤ j ∧ j ≤ 90) : tabComp i ≤ tabComp j :=
  t64_mono (tab_mono h)

/-- The only two neighbouring degrees of the first quadrant with the same component are 88 and 89. -/
theorem tabComp_lt {i j : Int} (h : 0 ≤ i ∧ i < j ∧ j ≤ 90) (hne : ¬ (i = 88 ∧ j = 89)) :
    tabComp i < tabComp j := by
  have adj : ∀ n : Int, 0 ≤ n ∧ n < 90 → n = 88 ∨ tabComp n < tabComp (n + 1) := fun n hn => by
    have := (tab_adj_nat n.toNat (by omega)).2
    rw [Int.toNat_of_nonneg hn.1] at this
    unfold tabComp
    omega
  by_cases h88 : i = 88
  · have a1 := tabComp_mono (i := i) (j := 89) (by omega)
    have a2 := adj 89 (by omega)
    rw [show j = 89 + 1 by omega]
    omega
  · have a1 := adj i (by omega)
    have a2 := tabComp_mono (i := i + 1) (j := j) (by omega)
    omega

theorem tabComp_nonneg (i : Int) (h : 0 ≤ i ∧ i ≤ 90) : 0 ≤ tabComp i :=
  tabComp_mono (i := 0) (by omega)

theorem tabComp_pos (i : Int) (h : 0 < i ∧ i ≤ 90) : 0 < tabComp i :=
  tabComp_lt (i := 0) (by omega) (by omega)

/-! The component of a whole degree by quadrant, as a truncated entry; the hypothesis says that the
entry's index is in the table. -/

theorem comp_q1 (k : Int) (h : 0 ≤ k ∧ k ≤ 90) : t64 (sinT k) = tabComp k := by
  rw [sinT_q1 k h]; rfl

theorem comp_q2 (k : Int) (h : 0 ≤ 180 - k ∧ 180 - k ≤ 90) : t64 (sinT k) = tabComp (180 - k) := by
  rw [sinT_q2 k (by omega)]; rfl

theorem comp_q3 (k : Int) (h : 0 ≤ k - 180 ∧ k - 180 ≤ 90) : t64 (sinT k) = -tabComp (k - 180) := by
  rw [sinT_q3 k (by omega), t64_neg]; rfl

theorem comp_q4 (k : Int) (h : 0 ≤ 360 - k ∧ 360 - k ≤ 90) : t64 (sinT k) = -tabComp (360 - k) := by
  rw [sinT_q4 k (by omega), t64_neg]; rfl

theorem comp_q5 (k : Int) (h : 0 ≤ k - 360 ∧ k - 360 ≤ 90) : t64 (sinT k) = tabComp (k - 360) := by
  rw [show k = k - 360 + 360 * 1 by omega, sinT_period, comp_q1 _ h]
  exact congrArg tabComp (by omega)

/-- `orient_table` for a right boundary in the first half turn. In each of the six cases `ir`, `jr`,
`il`, `jl` say that the table indices of the sine and cosine components of the right and of the left
normal are in the table. -/
theorem orient_half (dr dl cr cl : Int) (h0 : 0 ≤ dr) (h180 : dr < 180) (hs : dr < dl) (hD : dl ≤ dr + 180)
    (hc : cr < cl) (hcr : cr = dr + 90 ∨ cr = dr + 91) (hcl : cl = dl + 90 ∨ cl = dl + 91) :
    orientOK (t64 (sinT dr)) (t64 (sinT cr)) (t64 (sinT dl)) (t64 (sinT cl)) = true := by
  by_cases hr : dr < 90
  · have ir : 0 ≤ dr ∧ dr ≤ 90 := by omega
    have jr : 0 ≤ 180 - cr ∧ 180 - cr ≤ 90 := by omega
    rw [comp_q1 dr ir, comp_q2 cr jr]
    by_cases hl : dl < 90
    · -- both in the first quadrant; the sines 88 -> 89 are equal, there the cosines decide
      have il : 0 ≤ dl ∧ dl ≤ 90 := by omega
      have jl : 0 ≤ 180 - cl ∧ 180 - cl ≤ 90 := by omega
      rw [comp_q1 dl il, comp_q2 cl jl]
      apply orient_same (tabComp_nonneg _ ir) (tabComp_mono (by omega)) (tabComp_nonneg _ jl)
        (tabComp_mono (by omega))
      by_cases hflat : dr = 88 ∧ dl = 89
      · exact Or.inr ⟨tabComp_lt (by omega) (by omega), tabComp_pos _ (by omega)⟩
      · exact Or.inl ⟨tabComp_lt (by omega) hflat, tabComp_pos _ (by omega)⟩
    · by_cases hl : dl < 180
      · -- right in the first, left in the second quadrant
        have il : 0 < 180 - dl ∧ 180 - dl ≤ 90 := by omega
        have jl : 0 ≤ cl - 180 ∧ cl - 180 ≤ 90 := by omega
        rw [comp_q2 dl (by omega), comp_q3 cl jl]
        have := tabComp_nonneg _ jl
        apply orient_adjacent (tabComp_nonneg _ ir) (tabComp_nonneg _ jr) (Int.le_of_lt (tabComp_pos _ il)) (by omega)
        by_cases hcr0 : cr < 180
        · exact Or.inl ⟨tabComp_pos _ (by omega), tabComp_pos _ il⟩
        · have := tabComp_pos (cl - 180) (by omega)
          exact Or.inr ⟨tabComp_pos _ (by omega), by omega⟩
      · -- right in the first, left in the third quadrant
        have il : 0 ≤ dl - 180 ∧ dl - 180 ≤ 90 := by omega
        have jl : 0 ≤ 360 - cl ∧ 360 - cl ≤ 90 := by omega
        rw [comp_q3 dl il, comp_q4 cl jl]
        have := tabComp_nonneg _ il
        have := tabComp_nonneg _ jl
        exact orient_opposite (tabComp_nonneg _ ir) (tabComp_nonneg _ jr) (by omega) (by omega)
  · -- right in the second quadrant: a quarter turn back (`orientOK_rot`) gives the three cases above,
    -- with the flat pair of the table now at the sines of 91 -> 92
    have ir : 0 < 180 - dr ∧ 180 - dr ≤ 90 := by omega
    have jr : 0 ≤ cr - 180 ∧ cr - 180 ≤ 90 := by omega
    rw [comp_q2 dr (by omega), comp_q3 cr jr, orientOK_rot, Int.neg_neg]
    by_cases hl : dl < 180
    · have il : 0 ≤ 180 - dl ∧ 180 - dl ≤ 90 := by omega
      have jl : 0 < cl - 180 ∧ cl - 180 ≤ 90 := by omega
      rw [comp_q2 dl il, comp_q3 cl (by omega), Int.neg_neg]
      apply orient_same (tabComp_nonneg _ jr) (tabComp_mono (by omega)) (tabComp_nonneg _ il)
        (tabComp_mono (by omega))
      by_cases hflat : dr = 91 ∧ dl = 92
      · exact Or.inl ⟨tabComp_lt (by omega) (by omega), tabComp_pos _ ir⟩
      · exact Or.inr ⟨tabComp_lt (by omega) (by omega), tabComp_pos _ jl⟩
    · by_cases hl : dl < 270
      · have il : 0 ≤ dl - 180 ∧ dl - 180 ≤ 90 := by omega
        have jl : 0 ≤ 360 - cl ∧ 360 - cl ≤ 90 := by omega
        rw [comp_q3 dl il, comp_q4 cl jl, Int.neg_neg]
        have := tabComp_nonneg _ il
        by_cases hcl0 : cl < 360
        · exact orient_adjacent (tabComp_nonneg _ jr) (Int.le_of_lt (tabComp_pos _ ir)) (tabComp_nonneg _ jl) (by omega)
            (Or.inl ⟨tabComp_pos _ ir, tabComp_pos _ (by omega)⟩)
        · rw [show 360 - cl = 0 by omega]
          exact orient_opposite (tabComp_nonneg _ jr) (Int.le_of_lt (tabComp_pos _ ir)) (Int.le_refl 0) (by omega)
      · have il : 0 ≤ 360 - dl ∧ 360 - dl ≤ 90 := by omega
        have jl : 0 ≤ cl - 360 ∧ cl - 360 ≤ 90 := by omega
        rw [comp_q4 dl il, comp_q5 cl jl]
        have := tabComp_nonneg _ il
        have := tabComp_nonneg _ jl
        exact orient_opposite (tabComp_nonneg _ jr) (Int.le_of_lt (tabComp_pos _ ir)) (by omega) (by omega)

theorem comp_half_turn (k : Int) : t64 (sinT k) = -t64 (sinT (k - 180)) := by
  have := sinT_half_turn (k - 180)
  rw [show k - 180 + 180 = k by omega] at this
  rw [this, t64_neg]

/-- Orientation of the table normals: right boundary of degree `dr` (cosine degree `cr`), left
boundary of degree `dl` (cosine degree `cl`), at most half a turn apart, sine and cosine degrees in
the same order. -/
theorem orient_table (dr dl cr cl : Int) (hs : dr < dl) (hD : dl ≤ dr + 180) (hc : cr < cl)
    (hcr : cr = dr + 90 ∨ cr = dr + 91) (hcl : cl = dl + 90 ∨ cl = dl + 91) :
    orientOK (t64 (sinT dr)) (t64 (sinT cr)) (t64 (sinT dl)) (t64 (sinT cl)) = true := by
  obtain ⟨m, q, hm, h0, h1⟩ := turn_rep dr
  rw [show dr = m + 360 * q from hm, show cr = cr - 360 * q + 360 * q by omega,
    show dl = dl - 360 * q + 360 * q by omega, show cl = cl - 360 * q + 360 * q by omega,
    sinT_period, sinT_period, sinT_period, sinT_period]
  by_cases h : m < 180
  · exact orient_half m (dl - 360 * q) (cr - 360 * q) (cl - 360 * q) h0 h (by omega) (by omega) (by omega)
      (by omega) (by omega)
  · rw [comp_half_turn m, comp_half_turn (cr - 360 * q), comp_half_turn (dl - 360 * q),
      comp_half_turn (cl - 360 * q), orientOK_rot, orientOK_rot, Int.neg_neg, Int.neg_neg, Int.neg_neg, Int.neg_neg]
    exact orient_half (m - 180) _ _ _ (by omega) (by omega) (by omega) (by omega) (by omega) (by omega) (by omega)

def normalEntry (k : Nat) : Int × Int × Int :=
  (t64 (sinT (k : Int)), t64 (sinT ((k : Int) + 90)), t64 (sinT ((k : Int) + 91)))

/-- undo the offset of the derived table -/
def offEntry (e : Nat × Nat × Nat) : Int × Int × Int :=
  ((e.1 : Int) - 1024, (e.2.1 : Int) - 1024, (e.2.2 : Int) - 1024)

/-- The derived table `normalTableNat` of EG.Generated.TrigTable is what the model computes, evaluated
over the 360 whole degrees of a turn (`sinT_period`: there are no others). No proof uses the table:
`orient_table` is by the monotonicity of the entries. -/
theorem normalTableNat_eq : normalTableNat.map offEntry = (List.range 360).map normalEntry := by
  decide +kernel

/-- The orientation fact fails one degree apart when the right cosine degree is off by one: right
boundary 89 degrees with cosine degree 180 gives the normal (-1023, 0), left boundary 90 degrees the
normal (-1024, 0) — parallel, equally directed. -/
theorem orient_fails_witness :
    orientOK (t64 (sinT 89)) (t64 (sinT (89 + 91))) (t64 (sinT 90)) (t64 (sinT (90 + 90))) = false ∧
    tableNormal 89 (89 + 91) = ⟨-1023, 0⟩ ∧ tableNormal 90 (90 + 90) = ⟨-1024, 0⟩ := by decide +kernel

end EG.Fx
