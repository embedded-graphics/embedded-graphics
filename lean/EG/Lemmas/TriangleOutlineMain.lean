/-
  EG.Lemmas.TriangleOutlineMain — part 3 of the one-pixel outline: assembling the closed form and
  the final statement `mem_outline_iff`: the pixels of
  `into_styled(PrimitiveStyle::with_stroke(c, 1)).pixels()` are exactly the pixels of the three edge
  lines `v2 v3`, `v3 v1`, `v1 v2` of the `sorted_clockwise` triangle; hence the pixel set moves with
  the triangle (`mem_outline_translate`).
-/
import EG.Lemmas.TriangleOutlineIter
import EG.Lemmas.TriangleTranslate
import EG.Lemmas.TriangleSpan
namespace EG
open Scanline ScanlineIterator

namespace Triangle

theorem vertex_bounds (w : Triangle) (i : Nat) :
    xMin w ≤ (w.vertex i).x ∧ (w.vertex i).x ≤ xMax w ∧
    yMin w ≤ (w.vertex i).y ∧ (w.vertex i).y ≤ yMax w := by
  apply vertices_within
  unfold vertex
  split
  · exact Or.inl rfl
  · exact Or.inr (Or.inl rfl)
  · exact Or.inr (Or.inr rfl)

theorem outlineLine_pixel_bounds (w : Triangle) (i : Nat) {q : Pt}
    (hq : q ∈ Line.points (outlineLine w i)) :
    xMin w ≤ q.x ∧ q.x ≤ xMax w ∧ yMin w ≤ q.y ∧ q.y ≤ yMax w :=
  Line.mem_points_box (vertex_bounds w (i + 1)) (vertex_bounds w (i + 2)) hq

theorem outlinePend_ne_nil (w : Triangle) (y : Int) (h1 : yMin w ≤ y) (h2 : y ≤ yMax w) :
    outlinePend w y ≠ [] := by
  unfold yMin at h1
  unfold yMax at h2
  have hspan : (min w.v2.y w.v3.y ≤ y ∧ y ≤ max w.v2.y w.v3.y) ∨
      (min w.v3.y w.v1.y ≤ y ∧ y ≤ max w.v3.y w.v1.y) ∨
      (min w.v1.y w.v2.y ≤ y ∧ y ≤ max w.v1.y w.v2.y) := by omega
  have key : ∀ (l : Line), (∀ x, (⟨x, y⟩ : Pt) ∈ Line.points l →
        ((⟨x, y⟩ : Pt) ∈ Line.points (outlineLine w 0) ∨ (⟨x, y⟩ : Pt) ∈ Line.points (outlineLine w 1) ∨
          (⟨x, y⟩ : Pt) ∈ Line.points (outlineLine w 2))) →
      (min l.start.y l.stop.y ≤ y ∧ y ≤ max l.start.y l.stop.y) → outlinePend w y ≠ [] := by
    intro l inj hr
    obtain ⟨q, hq, hy⟩ := Line.exists_point_in_row l y hr.1 hr.2
    have hq' : (⟨q.x, y⟩ : Pt) ∈ Line.points l := by rw [← hy, Line.pt_eta]; exact hq
    obtain ⟨p, hp, _⟩ := ((outlinePend_spec w y).2 q.x).mpr (inj q.x hq')
    intro he; rw [he] at hp; cases hp
  rcases hspan with h | h | h
  · exact key (outlineLine w 0) (fun x hx => Or.inl hx) (by rw [outlineLine_0]; exact h)
  · exact key (outlineLine w 1) (fun x hx => Or.inr (Or.inl hx)) (by rw [outlineLine_1]; exact h)
  · exact key (outlineLine w 2) (fun x hx => Or.inr (Or.inr hx)) (by rw [outlineLine_2]; exact h)

theorem outlinePend_piece_bounds (w : Triangle) (y : Int) {p : Scanline} (hp : p ∈ outlinePend w y) :
    p.y = y ∧ xMin w ≤ p.xs ∧ p.xs < p.xe ∧ p.xe ≤ xMax w + 1 := by
  obtain ⟨h1, h2⟩ := outlinePend_spec w y
  obtain ⟨hne, hy⟩ := h1 p hp
  have b : ∀ x, p.Covers x → xMin w ≤ x ∧ x ≤ xMax w := by
    intro x hc
    rcases (h2 x).mp ⟨p, hp, hc⟩ with hm | hm | hm <;>
      have := outlineLine_pixel_bounds w _ hm <;> dsimp only at this <;> omega
  have b1 := b p.xs (by unfold Covers; omega)
  have b2 := b (p.xe - 1) (by unfold Covers; omega)
  exact ⟨hy, b1.1, hne, by omega⟩

theorem outlinePend_length (w : Triangle) (y : Int) : (outlinePend w y).length ≤ 2 := by
  unfold outlinePend EdgeIt.rowPend
  dsimp only
  rw [List.length_append]
  have : ∀ o : Option Scanline, o.toList.length ≤ 1 := by intro o; cases o <;> simp
  have a := this (EdgeIt.next 1 (outlineSeg w y) y ⟨0, Scanline.newEmpty y, Scanline.newEmpty y⟩).1
  have b := this (EdgeIt.next 1 (outlineSeg w y) y
    (EdgeIt.next 1 (outlineSeg w y) y ⟨0, Scanline.newEmpty y, Scanline.newEmpty y⟩).2).1
  omega

/-- The pixels of a row of the outline, in iteration order. -/
def outlineRow (w : Triangle) (y : Int) : List Pt := (outlinePend w y).flatMap Scanline.points

theorem outlineRow_length (w : Triangle) (y : Int) :
    (outlineRow w y).length ≤ 2 * (xMax w + 1 - xMin w).toNat := by
  unfold outlineRow
  have h := length_flatMap_le (outlinePend w y) Scanline.points (xMax w + 1 - xMin w).toNat (by
    intro p hp
    rw [Scanline.points_length]
    have := outlinePend_piece_bounds w y hp
    omega)
  have := outlinePend_length w y
  calc (List.flatMap Scanline.points (outlinePend w y)).length
      ≤ (outlinePend w y).length * (xMax w + 1 - xMin w).toNat := h
    _ ≤ 2 * (xMax w + 1 - xMin w).toNat := Nat.mul_le_mul_right _ this

theorem rest_stroke (t : Triangle) (h : t.boundingBox.InRange) :
    (ScanlineIterator.new t 1 false t.boundingBox).rest =
      (rowList t).flatMap (fun y => (outlinePend t.sortedClockwise y).map (·, PointType.stroke)) := by
  obtain ⟨x1, x2, y1, y2⟩ := extremes_of_mem_orders (sortedClockwise_mem_orders t)
  obtain ⟨hrs, hre, hlt⟩ := boundingBox_rows t h
  have hg : ∀ y, ((ScanlineIntersections.template t.sortedClockwise 1 false false).generateLines y).pending =
      (outlinePend t.sortedClockwise y).map (·, PointType.stroke) :=
    fun y => ScanlineIntersections.generateLines_stroke _ y rfl rfl rfl
  have hnew : ScanlineIterator.new t 1 false t.boundingBox = ⟨yMin t + 1, yMax t + 1, yMin t,
      (ScanlineIntersections.template t.sortedClockwise 1 false false).reset (yMin t)⟩ := by
    unfold ScanlineIterator.new
    simp only [hre, hrs, hlt, ↓reduceIte]
    rfl
  rw [hnew, ScanlineIterator.rest_start_all _ _ _ _ hlt (fun y h1 h2 => by
    rw [hg y]
    exact fun e => outlinePend_ne_nil _ y (by omega) (by omega) (List.map_eq_nil_iff.mp e))]
  simp only [hg]
  rfl

theorem outlinePixels_eq (t : Triangle) (c : Nat) (h : t.boundingBox.InRange) :
    t.outlinePixels c =
      ((rowList t).flatMap (outlineRow t.sortedClockwise)).map (fun p => (p, c)) := by
  obtain ⟨etl, ew, eh⟩ := boundingBox_eq t
  obtain ⟨x1, x2, y1, y2⟩ := extremes_of_mem_orders (sortedClockwise_mem_orders t)
  obtain ⟨hrs, hre, hlt⟩ := boundingBox_rows t h
  have hrest := rest_stroke t h
  have hst : ∀ x ∈ (ScanlineIterator.new t 1 false t.boundingBox).rest, x.2 = .stroke := by
    rw [hrest]
    intro x hx
    obtain ⟨_, _, hx⟩ := List.mem_flatMap.mp hx
    obtain ⟨_, _, rfl⟩ := List.mem_map.mp hx
    rfl
  have hne : (ScanlineIterator.new t 1 false t.boundingBox).rest ≠ [] := by
    rw [hrest]
    unfold rowList
    rw [irange_cons hlt, List.flatMap_cons]
    intro he
    exact outlinePend_ne_nil _ (yMin t) (by omega) (by omega)
      (List.map_eq_nil_iff.mp (List.append_eq_nil_iff.mp he).1)
  refine (TriPixelsIt.toListFuel_new _ c none hst hne _).trans ?_
  rw [hrest, List.flatMap_assoc]
  have hrow : (fun y => ((outlinePend t.sortedClockwise y).map (·, PointType.stroke)).flatMap
      (fun x => x.1.points)) = outlineRow t.sortedClockwise := by
    funext y; rw [List.flatMap_map]; rfl
  rw [hrow]
  apply List.take_of_length_le
  rw [List.length_map]
  have hlen := length_flatMap_le (rowList t) (outlineRow t.sortedClockwise)
    (2 * (xMax t + 1 - xMin t).toNat) (by
      intro y _
      have := outlineRow_length t.sortedClockwise y
      rw [x1, x2] at this
      exact this)
  unfold rowList at hlen ⊢
  rw [irange_length] at hlen
  have e1 : (yMax t + 1 - yMin t).toNat = t.boundingBox.size.h := by omega
  have e2 : (xMax t + 1 - xMin t).toNat = t.boundingBox.size.w := by omega
  rw [e1, e2] at hlen
  calc _ ≤ t.boundingBox.size.h * (2 * t.boundingBox.size.w) := hlen
    _ = 2 * t.boundingBox.size.w * t.boundingBox.size.h := by
      rw [Nat.mul_comm]
    _ ≤ 2 * t.boundingBox.size.w * t.boundingBox.size.h + 1 := Nat.le_succ _

theorem mem_outline_iff (t : Triangle) (c : Nat) (h : t.boundingBox.InRange) (p : Pt) :
    p ∈ (t.outlinePixels c).map (·.1) ↔
      (p ∈ Line.points ⟨t.sortedClockwise.v2, t.sortedClockwise.v3⟩ ∨
       p ∈ Line.points ⟨t.sortedClockwise.v3, t.sortedClockwise.v1⟩ ∨
       p ∈ Line.points ⟨t.sortedClockwise.v1, t.sortedClockwise.v2⟩) := by
  obtain ⟨x1, x2, y1, y2⟩ := extremes_of_mem_orders (sortedClockwise_mem_orders t)
  rw [outlinePixels_eq t c h]
  simp only [List.map_map, Function.comp_def, List.map_id']
  generalize t.sortedClockwise = w at *
  rw [← outlineLine_0, ← outlineLine_1, ← outlineLine_2]
  unfold rowList outlineRow
  simp only [List.mem_flatMap, mem_irange, Scanline.mem_points]
  constructor
  · rintro ⟨y, _, piece, hpiece, hy, hx1, hx2⟩
    obtain ⟨ey, _⟩ := outlinePend_piece_bounds w y hpiece
    have := ((outlinePend_spec w y).2 p.x).mp ⟨piece, hpiece, ⟨hx1, hx2⟩⟩
    rw [← ey, ← hy, Line.pt_eta] at this
    exact this
  · intro hm
    have hb : yMin w ≤ p.y ∧ p.y ≤ yMax w := by
      rcases hm with hm | hm | hm <;> have := outlineLine_pixel_bounds w _ hm <;> omega
    rw [← Line.pt_eta p] at hm
    obtain ⟨piece, hpiece, hc⟩ := ((outlinePend_spec w p.y).2 p.x).mpr hm
    obtain ⟨ey, _⟩ := outlinePend_piece_bounds w p.y hpiece
    exact ⟨p.y, ⟨by omega, by omega⟩, piece, hpiece, ey.symm, hc.1, hc.2⟩

theorem mem_line_points_translate (a b d p : Pt) :
    p + d ∈ Line.points ⟨a + d, b + d⟩ ↔ p ∈ Line.points ⟨a, b⟩ :=
  Line.mem_points_translate ⟨a, b⟩ d p

theorem mem_outline_translate (t : Triangle) (c : Nat) (d p : Pt) (h1 : t.boundingBox.InRange)
    (h2 : (t.translate d).boundingBox.InRange) :
    p + d ∈ ((t.translate d).outlinePixels c).map (·.1) ↔ p ∈ (t.outlinePixels c).map (·.1) := by
  rw [mem_outline_iff _ c h2, mem_outline_iff _ c h1, sortedClockwise_translate]
  unfold translate
  dsimp only
  rw [mem_line_points_translate, mem_line_points_translate, mem_line_points_translate]

end Triangle
end EG
