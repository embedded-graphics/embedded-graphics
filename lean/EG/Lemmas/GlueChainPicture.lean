/-
  EG.Lemmas.GlueChainPicture — from call lists to pictures for chained text drawing.

  `EG.C15.chaining_cells / chaining_decorations / chaining_next` say that drawing `s1` and then `s2`
  at the returned position issues the same glyph calls as drawing `s1 ++ s2`, and that the decoration
  rectangle of the whole is the union of the two parts. The two call LISTS differ though: chained
  drawing is `glyphs(s1), deco(s1), glyphs(s2), deco(s2)`, the whole text `glyphs(s1), glyphs(s2),
  deco(s1 ++ s2)`. Here the pixel maps (`runNative` / `runDefault`: last write wins) of the two lists
  are shown equal: everything `s2` issues lies at columns `>= X` (the returned x position), the
  decorations of `s1` at columns `< X`, so the reordering is invisible, and two adjacent solid
  rectangles of one colour paint what the one rectangle over both widths paints.
-/
import EG.Lemmas.TextLayout
import EG.Lemmas.TextLayoutBox
import EG.Lemmas.PMap
import EG.Lemmas.FontText
namespace EG.Glue
open EG EG.Tgt EG.Font EG.TextLayout

theorem lw_none_of_callIn {R : Rect} (hb : LowerBound R) (B : Rect) {calls : List Call}
    (hc : ∀ c ∈ calls, CallIn R c) {q : Pt} (hq : ¬ R.contains q = true) : lw B calls q = none := by
  apply (lastWrite_eq_none_iff _ _).mpr
  intro w hw e
  obtain ⟨c, hc1, hc2⟩ := List.mem_flatMap.mp hw
  unfold Call.writesNative at hc2
  have hw' := (mem_clipWrites.mp hc2).1
  have := CallIn.writesNative hb B (hc c hc1) w hw'
  rw [e] at this
  exact hq this

/-- Two adjacent rectangles of one colour against the rectangle over both widths, left of the seam:
the whole is the first part and the second part paints nothing. -/
theorem decoAt_split_left (B : Rect) (d : Option Color) (off hgt : Nat) (pos : Pt) (W1 W2 : Nat) {q : Pt}
    (hq : q.x < pos.x + (W1 : Int)) :
    decoAt B d (decoRect off hgt pos (W1 + W2)) q = decoAt B d (decoRect off hgt pos W1) q ∧
      decoAt B d (decoRect off hgt ⟨pos.x + (W1 : Int), pos.y⟩ W2) q = none := by
  have h := decoRect_split off hgt pos W1 W2 q
  have h2 : ¬ (decoRect off hgt ⟨pos.x + (W1 : Int), pos.y⟩ W2).contains q = true := by
    simp only [Rect.contains_iff, decoRect]; omega
  refine ⟨?_, decoAt_none B d h2⟩
  cases d with
  | none => rfl
  | some c => simp only [decoAt, h, h2, Bool.false_eq_true, or_false]

/-- From the seam on: the whole is the second part and the first paints nothing. -/
theorem decoAt_split_right (B : Rect) (d : Option Color) (off hgt : Nat) (pos : Pt) (W1 W2 : Nat) {q : Pt}
    (hq : pos.x + (W1 : Int) ≤ q.x) :
    decoAt B d (decoRect off hgt pos (W1 + W2)) q =
        decoAt B d (decoRect off hgt ⟨pos.x + (W1 : Int), pos.y⟩ W2) q ∧
      decoAt B d (decoRect off hgt pos W1) q = none := by
  have h := decoRect_split off hgt pos W1 W2 q
  have h1 : ¬ (decoRect off hgt pos W1).contains q = true := by
    simp only [Rect.contains_iff, decoRect]; omega
  refine ⟨?_, decoAt_none B d h1⟩
  cases d with
  | none => rfl
  | some c => simp only [decoAt, h, h1, Bool.false_eq_true, false_or]

theorem decoRect_inRange_split {off hgt : Nat} {pos : Pt} {W1 W2 : Nat}
    (h : (decoRect off hgt pos (W1 + W2)).InRange) :
    (decoRect off hgt pos W1).InRange ∧ (decoRect off hgt ⟨pos.x + (W1 : Int), pos.y⟩ W2).InRange := by
  unfold Rect.InRange inI32 decoRect at *
  simp only [Int.natCast_add] at h
  simp only
  omega

theorem decoInRange_split (f : MonoFont) (pos : Pt) (W1 W2 : Nat) (h : DecoInRange f pos (W1 + W2)) :
    DecoInRange f pos W1 ∧ DecoInRange f ⟨pos.x + (W1 : Int), pos.y⟩ W2 :=
  ⟨⟨(decoRect_inRange_split h.1).1, (decoRect_inRange_split h.2).1⟩,
    (decoRect_inRange_split h.1).2, (decoRect_inRange_split h.2).2⟩

theorem glyphPartCalls_append (f : MonoFont) (h : f.spacing = 0) (atlas : Pt → Bool) (st : Style)
    (s1 s2 : List Nat) (pos : Pt) :
    glyphPartCalls f atlas st (s1 ++ s2) pos =
      glyphPartCalls f atlas st s1 pos ++
        glyphPartCalls f atlas st s2 ⟨pos.x + (bbWidth f s1.length : Nat), pos.y⟩ := by
  unfold glyphPartCalls
  cases st.textColor <;> cases st.bgColor <;>
    simp only [binCalls_append f h, List.flatMap_append, List.append_nil]

theorem lw_glyphPart_left (B : Rect) (f : MonoFont) (atlas : Pt → Bool) (st : Style) (text : List Nat)
    (pos : Pt) (hx : -2147483648 ≤ pos.x) (hy : -2147483648 ≤ pos.y) (q : Pt) (hq : q.x < pos.x) :
    lw B (glyphPartCalls f atlas st text pos) q = none := by
  have hb : LowerBound ⟨pos, ⟨bbWidth f text.length, bbHeight f st⟩⟩ := fun _ => ⟨hx, hy⟩
  apply lw_none_of_callIn hb B (glyphPartCalls_in_box f atlas st text pos hb)
  rw [Rect.contains_iff]; simp only; omega

/-- Picture of chained drawing = picture of the whole, at the level of call lists: for glyph
parts `g1`, `g2` of which the second paints nothing left of the seam `pos.x + W1`,
`g1 ++ deco(W1) ++ g2 ++ deco(W2 at the seam)` and `g1 ++ g2 ++ deco(W1 + W2)` leave the same colour
at every point. -/
theorem chain_lw (B : Rect) (f : MonoFont) (st : Style) (g1 g2 : List Call) (pos : Pt) (W1 W2 : Nat)
    (hd : DecoInRange f pos (W1 + W2)) (q : Pt)
    (hg : q.x < pos.x + (W1 : Int) → lw B g2 q = none) :
    lw B ((g1 ++ (if 0 < W1 then f.drawDecorations st W1 pos else [])) ++
          (g2 ++ (if 0 < W2 then f.drawDecorations st W2 ⟨pos.x + (W1 : Int), pos.y⟩ else []))) q =
      lw B ((g1 ++ g2) ++ (if 0 < W1 + W2 then f.drawDecorations st (W1 + W2) pos else [])) q := by
  obtain ⟨hd1, hd2⟩ := decoInRange_split f pos _ _ hd
  simp only [lw_append, lw_decoPart B f st _ _ hd1, lw_decoPart B f st _ _ hd2, lw_decoPart B f st _ _ hd]
  by_cases hq : q.x < pos.x + (W1 : Int)
  · obtain ⟨hu, hu'⟩ := decoAt_split_left B (st.underline.effective st.textColor) f.ulOff f.ulH pos W1 W2 hq
    obtain ⟨hs, hs'⟩ := decoAt_split_left B (st.strikethrough.effective st.textColor) f.stOff f.stH pos W1 W2 hq
    rw [hg hq, hu, hu', hs, hs']
    simp only [Option.or_none, Option.none_or]
  · have hq' : pos.x + (W1 : Int) ≤ q.x := by omega
    obtain ⟨hu, hu'⟩ := decoAt_split_right B (st.underline.effective st.textColor) f.ulOff f.ulH pos W1 W2 hq'
    obtain ⟨hs, hs'⟩ := decoAt_split_right B (st.strikethrough.effective st.textColor) f.stOff f.stH pos W1 W2 hq'
    rw [hu, hu', hs, hs']
    simp only [Option.or_none, Option.none_or, Option.or_assoc]

end EG.Glue
