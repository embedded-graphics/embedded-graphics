/-
  EG.Lemmas.CircleThreshold — plain arithmetic under the circle and ellipse tests: the squared distance
  in doubled coordinates (`dist2`), `diameter_to_threshold` (bounds, monotonicity, the centre lines
  stay below it), squares against bounds, and the doubled centre under re-centring, growing and
  shrinking of a side.
-/
import EG.Model.Circle
import EG.Basic.Arith
import Mathlib.Tactic.Linarith
namespace EG

/-- Squared distance (x 4) between pixel centre and shape centre, in doubled coordinates. -/
def dist2 (c2 : Pt) (p : Pt) : Int :=
  (p.x * 2 - c2.x) * (p.x * 2 - c2.x) + (p.y * 2 - c2.y) * (p.y * 2 - c2.y)

theorem dist2_nonneg (c2 p : Pt) : 0 ≤ dist2 c2 p :=
  Int.add_nonneg (mul_self_nonneg _) (mul_self_nonneg _)

theorem threshold_le_sq (d : Nat) : diameterToThreshold d ≤ d * d := by
  unfold diameterToThreshold; split <;> omega

theorem threshold_zero : diameterToThreshold 0 = 0 := rfl

theorem threshold_of_gt4 {d : Nat} (h : 4 < d) : diameterToThreshold d = d * d := by
  unfold diameterToThreshold; rw [if_neg (by omega)]

theorem threshold_mono {d1 d2 : Nat} (h : d1 ≤ d2) : diameterToThreshold d1 ≤ diameterToThreshold d2 := by
  by_cases h2 : d2 ≤ 4
  · -- the special values 0, 1, 3, 8, 14
    have : ∀ a b : Fin 5, a ≤ b → diameterToThreshold a ≤ diameterToThreshold b := by decide
    exact this ⟨d1, by omega⟩ ⟨d2, by omega⟩ h
  · rw [threshold_of_gt4 (d := d2) (by omega)]
    exact Nat.le_trans (threshold_le_sq d1) (Nat.mul_self_le_mul_self h)

/-- `(d-1)^2 + ((d-1) mod 2) < threshold d`: the pixel next to the centre line in the outermost
row is inside. -/
theorem edge_lt_threshold {d : Nat} (hd : 1 ≤ d) :
    (d - 1) * (d - 1) + (d - 1) % 2 < diameterToThreshold d := by
  by_cases h : d ≤ 4
  · have : ∀ a : Fin 5, 1 ≤ a.val →
        (a.val - 1) * (a.val - 1) + (a.val - 1) % 2 < diameterToThreshold a := by decide
    exact this ⟨d, by omega⟩ hd
  · rw [threshold_of_gt4 (by omega)]
    obtain ⟨e, rfl⟩ : ∃ e, d = e + 1 := ⟨d - 1, by omega⟩
    simp only [Nat.add_sub_cancel, Nat.mul_add, Nat.add_mul]
    omega

/-- All pixels whose centre is within `r - 1/2` of the centre are inside (all diameters). -/
theorem inner_lt_threshold {d : Nat} (hd : 1 ≤ d) : (d - 1) * (d - 1) < diameterToThreshold d := by
  have := edge_lt_threshold hd; omega

/-- On a centre line every pixel of the bounding box is inside: in doubled coordinates the centre
column (row) is `t = 0` or half a step left of (above) the centre, `t = -1`, by the parity of
`d - 1`, and the pixels of the box have `|s| ≤ d - 1`. -/
theorem center_line_lt_threshold {d : Nat} (hd : 1 ≤ d) {t s : Int}
    (ht : -t = (((d - 1) % 2 : Nat) : Int)) (h1 : -((d - 1 : Nat) : Int) ≤ s)
    (h2 : s ≤ ((d - 1 : Nat) : Int)) : t * t + s * s < (diameterToThreshold d : Int) := by
  have htt : t * t = -t := by
    rcases (by omega : t = 0 ∨ t = -1) with h | h <;> rw [h] <;> rfl
  have hb := sq_le_of_abs_le h1 h2
  have := edge_lt_threshold hd
  have e : (((d - 1) * (d - 1) + (d - 1) % 2 : Nat) : Int) =
      ((d - 1 : Nat) : Int) * ((d - 1 : Nat) : Int) + (((d - 1) % 2 : Nat) : Int) := by
    push_cast; rfl
  omega

theorem satAddU32_of_le {a b : Nat} (h : satAddU32 a b ≤ 2147483647) : satAddU32 a b = a + b := by
  unfold satAddU32 at h ⊢
  split at h <;> rename_i hc
  · exact if_pos hc
  · omega

theorem center2x_recentre (t : Int) {d d' : Nat} (h1 : 1 ≤ d) (h2 : 1 ≤ d') (hp : d' % 2 = d % 2) :
    (t + (((d - 1) / 2 : Nat) : Int) - (((d' - 1) / 2 : Nat) : Int)) * 2 + ((d' - 1 : Nat) : Int) =
      t * 2 + ((d - 1 : Nat) : Int) := by omega

theorem recentre_shrink (t : Int) {d k : Nat} (h : 2 * k < d) :
    t + (((d - 1) / 2 : Nat) : Int) - (((d - 2 * k - 1) / 2 : Nat) : Int) = t + k := by omega

theorem center2x_grow (t o : Int) {d : Nat} (ho : 0 ≤ o) (h1 : 1 ≤ d) :
    (t - o) * 2 + ((d + 2 * o.toNat - 1 : Nat) : Int) = t * 2 + ((d - 1 : Nat) : Int) := by omega

theorem lengthSquared_toNat_lt (p : Pt) (T : Nat) :
    (lengthSquared p).toNat < T ↔ lengthSquared p < (T : Int) := by
  have : 0 ≤ lengthSquared p := Int.add_nonneg (mul_self_nonneg _) (mul_self_nonneg _)
  omega

theorem lengthSquared_sub_comm (a b : Pt) : lengthSquared (a - b) = lengthSquared (b - a) := by
  unfold lengthSquared
  simp only [Pt.sub_x, Pt.sub_y]
  rw [← Int.neg_mul_neg (a.x - b.x), ← Int.neg_mul_neg (a.y - b.y), Int.neg_sub, Int.neg_sub]

end EG
