/-
  EG.Lemmas.JoinsBBoxTriMain — **every scanline of a styled triangle, hence every `fill_solid` rectangle
  of `draw_styled`, lies inside `styled_bounding_box`**, for
  * stroke alignment Center / Outside with stroke width > 1 (the box is the fold of the boxes of the
    three closed segments), under the decidable guard `TriStrokeColumnsGuard` (`adjOK` for the three
    joins, see EG.Lemmas.JoinsBBoxCover; the top row of the box is an `i32`; if there is a fill colour:
    the three vertices lie in the columns of the box) or the stronger `TriStrokeGuard` (... in the box);
  * stroke width 0 (fill only), any alignment (the box is the plain vertex box);
  * stroke alignment Inside when the inside stroke is collapsed (`is_collapsed`: the stroke is the
    plain filled triangle);
  * any style, under the guard `TriOutlineGuard` (the end points of the outline lines lie in the box).
  * stroke width 1, any alignment, `i32` vertices: every edge segment is a skeleton segment whose one
    outline line runs between two vertices (EG.Lemmas.JoinsWidth1), so `TriCtx` holds for the plain
    vertex box (`triCtx_width1`).
  Not covered: the non-collapsed Inside stroke of width > 1
  (its inner corners are rounded intersections of the inner edge lines; that they stay in the vertex
  box is carried by correspondence + oracle only; EG.Lemmas.JoinsBBoxTriAlign reduces it to them).
-/
import EG.Lemmas.JoinsBBoxTri
import EG.Lemmas.JoinsBBoxPolyMain
import EG.Lemmas.JoinsTotalTri
import EG.Lemmas.JoinsWidth1
set_option linter.unusedSimpArgs false
namespace EG
namespace Joins
open Thick (LineSide StrokeOffset)

theorem min3_le_max3 (a b c : Int) :
    (min (min a b) c ≤ a ∧ a ≤ max (max a b) c) ∧ (min (min a b) c ≤ b ∧ b ≤ max (max a b) c) ∧
      (min (min a b) c ≤ c ∧ c ≤ max (max a b) c) := by
  omega

theorem tri_boundingBox_contains (t : Tri) :
    t.boundingBox.contains t.v1 = true ∧ t.boundingBox.contains t.v2 = true ∧
      t.boundingBox.contains t.v3 = true := by
  obtain ⟨x1, x2, x3⟩ := min3_le_max3 t.v1.x t.v2.x t.v3.x
  obtain ⟨y1, y2, y3⟩ := min3_le_max3 t.v1.y t.v2.y t.v3.y
  exact ⟨contains_withCorners_between x1 y1, contains_withCorners_between x2 y2,
    contains_withCorners_between x3 y3⟩

theorem triStyledBoundingBox_vertexBox {t : Tri} {style : TriStyle} {bb : Rect}
    (h : style.strokeWidth < 2 ∨ style.strokeAlignment = .inside)
    (hbb : triStyledBoundingBox t style = some bb) : bb = t.boundingBox := by
  unfold triStyledBoundingBox at hbb
  simp only [h, ↓reduceIte, Option.some.injEq] at hbb
  exact hbb.symm

theorem verts_in_columns (t : Tri) (U : Rect) (h : U.contains t.v1 = true ∧ U.contains t.v2 = true ∧
    U.contains t.v3 = true) :
    (U.tl.x ≤ t.sortedClockwise.v1.x ∧ t.sortedClockwise.v1.x ≤ U.tl.x + U.size.w - 1) ∧
    (U.tl.x ≤ t.sortedClockwise.v2.x ∧ t.sortedClockwise.v2.x ≤ U.tl.x + U.size.w - 1) ∧
    (U.tl.x ≤ t.sortedClockwise.v3.x ∧ t.sortedClockwise.v3.x ≤ U.tl.x + U.size.w - 1) := by
  have hP : ∀ p : Pt, U.contains p = true → (U.tl.x ≤ p.x ∧ p.x ≤ U.tl.x + U.size.w - 1) := by
    intro p hp; rw [Rect.contains_iff] at hp; omega
  exact sortedClockwise_all (fun p => _ ≤ p.x ∧ p.x ≤ _) t (hP _ h.1) (hP _ h.2.1) (hP _ h.2.2)

/-- `TriCtx` for what `draw_styled` / `StyledPixelsIterator::new` pass to `ScanlineIterator::new`: the
clockwise-sorted triangle, the columns of the box `bb`, `is_collapsed` only for Inside strokes. -/
def StyledCtx (t : Tri) (style : TriStyle) (bb : Rect) : Prop :=
  ∀ c, t.sortedClockwise.isCollapsed style.strokeWidth style.strokeAlignment.toOffset = some c →
    TriCtx t.sortedClockwise style.strokeWidth style.strokeAlignment.toOffset bb.tl.x
      (bb.tl.x + bb.size.w - 1) (c && style.strokeAlignment.toOffset == .right) style.fillColor.isSome

theorem styledCtx_rows {t : Tri} {style : TriStyle} {bb : Rect} (ctx : StyledCtx t style bb) {c : Bool}
    (hc : t.sortedClockwise.isCollapsed style.strokeWidth style.strokeAlignment.toOffset = some c) :
    (∀ x ∈ triRows (newSelfTri t.sortedClockwise style.strokeWidth style.strokeAlignment.toOffset
        style.fillColor.isSome c).row bb.tl.y bb.rowsEnd,
      GoodLine bb.tl.x (bb.tl.x + bb.size.w - 1) bb.tl.y bb.rowsEnd x.1) ∧
    ∀ x ∈ triForgiven (newSelfTri t.sortedClockwise style.strokeWidth style.strokeAlignment.toOffset
        style.fillColor.isSome c).row bb.tl.y bb.rowsEnd,
      GoodLine bb.tl.x (bb.tl.x + bb.size.w - 1) bb.tl.y bb.rowsEnd x.1 :=
  ⟨triRows_good _ (ctx c hc), triForgiven_good _ (ctx c hc)⟩

theorem triRun_good (t : Tri) (style : TriStyle) (bb : Rect)
    (hbb : triStyledBoundingBox t style = some bb) (ctx : StyledCtx t style bb)
    (lines : List (Scanline × PointType)) (hl : C01Thick.triScanlineRun t style = some lines) :
    ∀ x ∈ lines, GoodLine bb.tl.x (bb.tl.x + bb.size.w - 1) bb.tl.y bb.rowsEnd x.1 := by
  obtain ⟨c, hc⟩ := isCollapsed_total t.sortedClockwise style.strokeWidth style.strokeAlignment.toOffset
  rw [triScanlineRun_eq t style hbb hc] at hl
  cases hl
  exact (styledCtx_rows ctx hc).1

theorem triDraw_in_box (t : Tri) (style : TriStyle) (bb : Rect)
    (hbb : triStyledBoundingBox t style = some bb) (hmin : -2147483648 ≤ bb.tl.y)
    (ctx : StyledCtx t style bb) (calls : List (Rect × Nat)) (hd : triDraw t style = some calls) :
    ∀ rc ∈ calls, ∀ p, rc.1.contains p = true → bb.contains p = true := by
  rw [triDraw_eq] at hd
  by_cases htr : style.isTransparent = true
  · simp only [htr, ↓reduceIte, Option.some.injEq] at hd
    subst hd; intro rc hrc; cases hrc
  · simp only [htr, Bool.false_eq_true, ↓reduceIte] at hd
    obtain ⟨lines, hl, rfl⟩ := Option.map_eq_some_iff.mp hd
    have hgood := triRun_good t style bb hbb ctx lines hl
    intro rc hrc p hp
    rw [List.mem_filterMap] at hrc
    obtain ⟨⟨line, kind⟩, hx, hf⟩ := hrc
    unfold triCall at hf
    simp only at hf
    -- a call is the rectangle of a coloured scanline
    split at hf
    · split at hf
      · cases hf
        exact goodLine_rect_in_box hmin (hgood _ hx) p hp
      · cases hf
    · cases hf

theorem triCtx_vertexBox_verts (t : Tri) :
    (t.boundingBox.tl.x ≤ t.sortedClockwise.v1.x ∧
      t.sortedClockwise.v1.x ≤ t.boundingBox.tl.x + t.boundingBox.size.w - 1) ∧
    (t.boundingBox.tl.x ≤ t.sortedClockwise.v2.x ∧
      t.sortedClockwise.v2.x ≤ t.boundingBox.tl.x + t.boundingBox.size.w - 1) ∧
    (t.boundingBox.tl.x ≤ t.sortedClockwise.v3.x ∧
      t.sortedClockwise.v3.x ≤ t.boundingBox.tl.x + t.boundingBox.size.w - 1) :=
  verts_in_columns t t.boundingBox (tri_boundingBox_contains t)

theorem triCtx_vertexBox (t : Tri) (w : Nat) (off : StrokeOffset) (collapsed hasFill : Bool)
    (h : w = 0 ∨ collapsed = true) :
    TriCtx t.sortedClockwise w off t.boundingBox.tl.x
      (t.boundingBox.tl.x + t.boundingBox.size.w - 1) collapsed hasFill := by
  constructor
  · intro hw hc
    rcases h with h | h
    · exact absurd h hw
    · rw [h] at hc; cases hc
  · intro _
    exact triCtx_vertexBox_verts t

/-- The guard of the Center / Outside stroke theorems (width > 1), see the file header. -/
def TriStrokeGuard (t : Tri) (style : TriStyle) : Prop :=
  match closedSegments3 t.sortedClockwise style.strokeWidth style.strokeAlignment.toOffset with
  | some [a, b, c] =>
    let U := foldEdgeBoxes [a, b, c]
    (-2147483648 : Int) ≤ U.tl.y ∧ adjOK U a b = true ∧ adjOK U b c = true ∧ adjOK U c a = true ∧
      (style.fillColor.isSome = true →
        U.contains t.v1 = true ∧ U.contains t.v2 = true ∧ U.contains t.v3 = true)
  | _ => True

instance (t : Tri) (style : TriStyle) : Decidable (TriStrokeGuard t style) := by
  unfold TriStrokeGuard; split <;> exact inferInstance

/-- `TriStrokeGuard` with its vertex clause weakened to what the proof uses: the x coordinates of the
three vertices lie in the columns of the stroke box (a vertex may lie above or below the box: the rows
iterated are the rows of the box). -/
def TriStrokeColumnsGuard (t : Tri) (style : TriStyle) : Prop :=
  match closedSegments3 t.sortedClockwise style.strokeWidth style.strokeAlignment.toOffset with
  | some [a, b, c] =>
    let U := foldEdgeBoxes [a, b, c]
    (-2147483648 : Int) ≤ U.tl.y ∧ adjOK U a b = true ∧ adjOK U b c = true ∧ adjOK U c a = true ∧
      (style.fillColor.isSome = true →
        (U.tl.x ≤ t.v1.x ∧ t.v1.x ≤ U.tl.x + U.size.w - 1) ∧ (U.tl.x ≤ t.v2.x ∧ t.v2.x ≤ U.tl.x + U.size.w - 1) ∧
          (U.tl.x ≤ t.v3.x ∧ t.v3.x ≤ U.tl.x + U.size.w - 1))
  | _ => True

instance (t : Tri) (style : TriStyle) : Decidable (TriStrokeColumnsGuard t style) := by
  unfold TriStrokeColumnsGuard; split <;> exact inferInstance

theorem triStrokeColumnsGuard_of_guard (t : Tri) (style : TriStyle) (h : TriStrokeGuard t style) :
    TriStrokeColumnsGuard t style := by
  unfold TriStrokeGuard at h
  unfold TriStrokeColumnsGuard
  cases hs : closedSegments3 t.sortedClockwise style.strokeWidth style.strokeAlignment.toOffset with
  | none => trivial
  | some segs =>
    obtain ⟨j0, j1, j2, -, -, -, rfl⟩ := closedSegments3_eq_some hs
    rw [hs] at h
    obtain ⟨g0, g1, g2, g3, gv⟩ := h
    refine ⟨g0, g1, g2, g3, ?_⟩
    intro hf
    obtain ⟨v1, v2, v3⟩ := gv hf
    rw [Rect.contains_iff] at v1 v2 v3
    refine ⟨?_, ?_, ?_⟩ <;> omega

theorem closed3_outline_covered (a b c : ThickSegment) (hab : a.endJoin = b.startJoin)
    (hbc : b.endJoin = c.startJoin) (hca : c.endJoin = a.startJoin)
    (g1 : adjOK (foldEdgeBoxes [a, b, c]) a b = true) (g2 : adjOK (foldEdgeBoxes [a, b, c]) b c = true)
    (g3 : adjOK (foldEdgeBoxes [a, b, c]) c a = true) :
    ∀ s ∈ [a, b, c], ∀ l ∈ s.outline, Covered (foldEdgeBoxes [a, b, c]) l := by
  have hb := fun s hs => foldEdgeBoxes_boxIn [a, b, c] s hs
  have ha' := hb a (by simp)
  have hc' := hb c (by simp)
  -- the chain a, b, c; the join between c and a closes it
  refine chain_outline_covered (foldEdgeBoxes [a, b, c]) [a, b, c] ⟨hab, hbc, trivial⟩ ?_ hb ?_ ?_
  · simp [chainOK, g1, g2]
  · intro s hs hsk f hf
    cases hs
    rw [← hca] at hf
    exact filler_midpoint_covered hca hc' ha' g3 f hf (Or.inr hsk)
  · intro s hs hsk f hf
    cases hs
    exact filler_midpoint_covered hca hc' ha' g3 f hf (Or.inl hsk)

theorem triCtx_stroke_columns (t : Tri) (style : TriStyle) (hw : 2 ≤ style.strokeWidth)
    (hal : style.strokeAlignment ≠ .inside) (hg : TriStrokeColumnsGuard t style) (bb : Rect)
    (hbb : triStyledBoundingBox t style = some bb) :
    -2147483648 ≤ bb.tl.y ∧
    ∀ c, TriCtx t.sortedClockwise style.strokeWidth style.strokeAlignment.toOffset bb.tl.x
      (bb.tl.x + bb.size.w - 1) (c && style.strokeAlignment.toOffset == .right) style.fillColor.isSome := by
  rw [triStyledBoundingBox_eq] at hbb
  have hcond : ¬ (style.strokeWidth < 2 ∨ style.strokeAlignment = .inside) := by
    intro h; rcases h with h | h
    · omega
    · exact hal h
  simp only [hcond, ↓reduceIte] at hbb
  obtain ⟨segs, hs, rfl⟩ := Option.map_eq_some_iff.mp hbb
  obtain ⟨j0, j1, j2, -, -, -, rfl⟩ := closedSegments3_eq_some hs
  unfold TriStrokeColumnsGuard at hg
  rw [hs] at hg
  obtain ⟨hmin, g1, g2, g3, gv⟩ := hg
  have hcov := closed3_outline_covered ⟨j0, j1⟩ ⟨j1, j2⟩ ⟨j2, j0⟩ rfl rfl rfl g1 g2 g3
  refine ⟨hmin, fun c => ⟨fun _ _ => ⟨_, hs, fun s hs' => covered_segOK (hcov s hs')⟩, ?_⟩⟩
  -- Center / Outside strokes are never drawn collapsed
  have hoff : (style.strokeAlignment.toOffset == StrokeOffset.right) = false := by
    cases hs : style.strokeAlignment with
    | inside => exact absurd hs hal
    | center => rfl
    | outside => rfl
  rw [hoff, Bool.and_false]
  intro h
  rcases h with h | h
  · cases h
  · obtain ⟨v1, v2, v3⟩ := gv h
    exact sortedClockwise_all (fun p => _ ≤ p.x ∧ p.x ≤ _) t v1 v2 v3

theorem triCtx_stroke (t : Tri) (style : TriStyle) (hw : 2 ≤ style.strokeWidth)
    (hal : style.strokeAlignment ≠ .inside) (hg : TriStrokeGuard t style) (bb : Rect)
    (hbb : triStyledBoundingBox t style = some bb) :
    -2147483648 ≤ bb.tl.y ∧
    ∀ c, TriCtx t.sortedClockwise style.strokeWidth style.strokeAlignment.toOffset bb.tl.x
      (bb.tl.x + bb.size.w - 1) (c && style.strokeAlignment.toOffset == .right) style.fillColor.isSome :=
  triCtx_stroke_columns t style hw hal (triStrokeColumnsGuard_of_guard t style hg) bb hbb

/-- The guard of the generic reduction: the end points of the outline lines of the three closed
segments (at most 24 points) and the three vertices lie in the bounding box, whose top row is an
`i32`. -/
def TriOutlineGuard (t : Tri) (style : TriStyle) : Prop :=
  match triStyledBoundingBox t style with
  | some bb =>
    (-2147483648 : Int) ≤ bb.tl.y ∧
    match closedSegments3 t.sortedClockwise style.strokeWidth style.strokeAlignment.toOffset with
    | some segs =>
      (∀ s ∈ segs, ∀ l ∈ s.outline, bb.contains l.start = true ∧ bb.contains l.stop = true) ∧
      (bb.contains t.v1 = true ∧ bb.contains t.v2 = true ∧ bb.contains t.v3 = true)
    | none => True
  | none => True

instance (t : Tri) (style : TriStyle) : Decidable (TriOutlineGuard t style) := by
  unfold TriOutlineGuard
  split
  · refine @instDecidableAnd _ _ _ ?_
    split <;> exact inferInstance
  · exact inferInstance

theorem triCtx_outline (t : Tri) (style : TriStyle) (hg : TriOutlineGuard t style) (bb : Rect)
    (hbb : triStyledBoundingBox t style = some bb) : -2147483648 ≤ bb.tl.y ∧ StyledCtx t style bb := by
  unfold TriOutlineGuard at hg
  rw [hbb] at hg
  refine ⟨hg.1, ?_⟩
  intro c hc
  obtain ⟨segs, hs⟩ := closedSegments3_total _ _ _
  obtain ⟨_, hg⟩ := hg
  rw [hs] at hg
  exact ⟨fun _ _ => ⟨segs, hs, fun s hs' => covered_segOK (hg.1 s hs')⟩,
    fun _ => verts_in_columns t bb hg.2⟩

theorem triOutlineGuard_top (t : Tri) (style : TriStyle) (hg : TriOutlineGuard t style) (bb : Rect)
    (hbb : triStyledBoundingBox t style = some bb) : -2147483648 ≤ bb.tl.y :=
  (triCtx_outline t style hg bb hbb).1

def TriI32 (t : Tri) : Prop :=
  (inI32 t.v1.x ∧ inI32 t.v1.y) ∧ (inI32 t.v2.x ∧ inI32 t.v2.y) ∧ (inI32 t.v3.x ∧ inI32 t.v3.y)

instance (t : Tri) : Decidable (TriI32 t) := by unfold TriI32; exact inferInstance

/-- A segment between two joins all of whose corners are the vertex (`m`, `n`) is a skeleton segment;
its one outline line runs from `m` to `n`. -/
theorem segOK_of_vertex_corners {j k : LineJoin} {m n : Pt} {lo hi : Int}
    (hj1 : j.firstEdgeEnd = ⟨m, m⟩) (hj2 : j.secondEdgeStart = ⟨m, m⟩) (hk : k.firstEdgeEnd = ⟨n, n⟩)
    (hm : lo ≤ m.x ∧ m.x ≤ hi) (hn : lo ≤ n.x ∧ n.x ≤ hi) : SegOK lo hi ⟨j, k⟩ := by
  have hs : (ThickSegment.mk j k).isSkeleton = true := by
    unfold ThickSegment.isSkeleton; simp only [hj1]; exact beq_self_eq_true _
  intro l hl
  rw [outline_skeleton _ hs] at hl
  simp only [List.mem_cons, List.not_mem_nil, or_false] at hl
  subst hl
  unfold ThickSegment.edges
  simp only [hj2, hk]
  omega

theorem triCtx_width1 (t : Tri) (off : StrokeOffset) (hi : TriI32 t) (collapsed hasFill : Bool) :
    TriCtx t.sortedClockwise 1 off t.boundingBox.tl.x
      (t.boundingBox.tl.x + t.boundingBox.size.w - 1) collapsed hasFill := by
  obtain ⟨v1, v2, v3⟩ := triCtx_vertexBox_verts t
  obtain ⟨i1, i2, i3⟩ := sortedClockwise_all (fun p => inI32 p.x ∧ inI32 p.y) t hi.1 hi.2.1 hi.2.2
  refine ⟨fun _ _ => ?_, fun _ => ⟨v1, v2, v3⟩⟩
  obtain ⟨j0, h0, a0, b0⟩ := fromPoints_width1_off t.sortedClockwise.v3 t.sortedClockwise.v1
    t.sortedClockwise.v2 off i1.1 i1.2
  obtain ⟨j1, h1, a1, b1⟩ := fromPoints_width1_off t.sortedClockwise.v1 t.sortedClockwise.v2
    t.sortedClockwise.v3 off i2.1 i2.2
  obtain ⟨j2, h2, a2, b2⟩ := fromPoints_width1_off t.sortedClockwise.v2 t.sortedClockwise.v3
    t.sortedClockwise.v1 off i3.1 i3.2
  refine ⟨_, closedSegments3_of_joins h0 h1 h2, ?_⟩
  intro s hs
  simp only [List.mem_cons, List.not_mem_nil, or_false] at hs
  rcases hs with rfl | rfl | rfl
  · exact segOK_of_vertex_corners a0 b0 a1 v1 v2
  · exact segOK_of_vertex_corners a1 b1 a2 v2 v3
  · exact segOK_of_vertex_corners a2 b2 a0 v3 v1

end Joins
end EG
