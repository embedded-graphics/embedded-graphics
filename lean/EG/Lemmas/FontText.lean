/-
  EG.Lemmas.FontText — the writes of a whole drawn string by character slot (a cell and the gap
  after it); what the decorations of `draw_string` contribute to the picture at a point (`Glue.lw`,
  `Glue.decoAt` of EG.Lemmas.PMap); the colour `draw_string` leaves at a point: underline over
  strikethrough over text.
-/
import EG.Lemmas.FontPixels
import EG.Lemmas.FontMapping
import EG.Lemmas.TextLayout
import EG.Lemmas.PMap
namespace EG
namespace Font

def gapWrites (f : MonoFont) (m : Mode) (p : Pt) : Writes :=
  match m.bgColour with
  | some bc => if f.spacing > 0 then rectWrites ⟨p, ⟨f.spacing, f.ch⟩⟩ bc else []
  | none => []

theorem spacing_lowerDefault (B : Rect) (f : MonoFont) (m : Mode) (p : Pt)
    (h : (⟨p, ⟨f.spacing, f.ch⟩⟩ : Rect).InRange) :
    ((spacingCalls f m.bgColour.isSome p).flatMap m.lower).flatMap (Call.lowerDefault B) = gapWrites f m p := by
  unfold spacingCalls gapWrites
  by_cases hs : f.spacing > 0
  · cases m <;> simp [Mode.bgColour, hs, Mode.lower, fillSolid_lowerDefault B _ _ h]
  · cases m <;> simp [Mode.bgColour, hs]

theorem mem_gapWrites (f : MonoFont) (m : Mode) (p q : Pt) (col : Color) :
    (q, col) ∈ gapWrites f m p ↔
      m.bgColour = some col ∧ p.x ≤ q.x ∧ q.x < p.x + (f.spacing : Int) ∧ p.y ≤ q.y ∧ q.y < p.y + (f.ch : Int) := by
  unfold gapWrites
  cases m.bgColour with
  | none => simp
  | some bc =>
    by_cases hs : f.spacing > 0
    · simp only [hs, ↓reduceIte, mem_rectWrites, Option.some.injEq, eq_comm]
    · simp only [hs, ↓reduceIte, List.not_mem_nil, false_iff]
      omega

def textWrites (f : MonoFont) (atlas : Pt → Bool) (m : Mode) (pos : Pt) : List Nat → Writes
  | [] => []
  | c :: cs =>
    cellWrites m atlas pos (f.glyphArea c) ++
      (if cs = [] then [] else gapWrites f m ⟨pos.x + (f.cw : Int), pos.y⟩) ++
      textWrites f atlas m ⟨pos.x + (f.cw : Int) + (f.spacing : Int), pos.y⟩ cs

/-- The whole line stays inside `i32` coordinates (what the real code needs anyway not to overflow). -/
def TextInRange (f : MonoFont) (pos : Pt) (n : Nat) : Prop :=
  f.cw ≤ 2147483647 ∧ f.ch ≤ 2147483647 ∧ f.spacing ≤ 2147483647 ∧
  inI32 pos.x ∧ inI32 pos.y ∧ pos.y + (f.ch : Int) ≤ 2147483647 ∧
    pos.x + ((n * (f.cw + f.spacing) : Nat) : Int) ≤ 2147483647

theorem TextInRange.step {f : MonoFont} {pos : Pt} {n : Nat} (h : TextInRange f pos (n + 1)) :
    (⟨pos, ⟨f.cw, f.ch⟩⟩ : Rect).InRange ∧
      (⟨⟨pos.x + (f.cw : Int), pos.y⟩, ⟨f.spacing, f.ch⟩⟩ : Rect).InRange ∧
      TextInRange f ⟨pos.x + (f.cw : Int) + (f.spacing : Int), pos.y⟩ n := by
  unfold TextInRange inI32 at h
  rw [Nat.succ_mul] at h
  simp only [Int.natCast_add] at h
  have := Int.natCast_nonneg (n * (f.cw + f.spacing))
  unfold TextInRange Rect.InRange inI32
  simp only
  omega

theorem glyphCalls_lowerDefault (B : Rect) (f : MonoFont) (atlas : Pt → Bool) (m : Mode) (c : Nat) (p : Pt)
    (hd : f.areaDrawable (f.glyphArea c) = true) (hr : (⟨p, ⟨f.cw, f.ch⟩⟩ : Rect).InRange) :
    ((f.glyphCalls atlas c p).flatMap m.lower).flatMap (Call.lowerDefault B) =
      cellWrites m atlas p (f.glyphArea c) := by
  have hs := glyphArea_size_of_drawable f c hd
  unfold MonoFont.glyphCalls
  simp only [hd, ↓reduceIte, List.flatMap_cons, List.flatMap_nil, List.append_nil]
  exact glyph_lowerDefault B m atlas p (f.glyphArea c) (by rw [hs]; exact hr)

theorem textBCalls_lowerDefault (B : Rect) (f : MonoFont) (atlas : Pt → Bool) (m : Mode) :
    ∀ (text : List Nat) (pos : Pt), (∀ c ∈ text, f.areaDrawable (f.glyphArea c) = true) →
      TextInRange f pos text.length →
      ((textBCalls f atlas m.bgColour.isSome pos text).flatMap m.lower).flatMap (Call.lowerDefault B) =
        textWrites f atlas m pos text
  | [], _, _, _ => rfl
  | [c], pos, hd, hr => by
    have h1 := glyphCalls_lowerDefault B f atlas m c pos (hd c List.mem_cons_self) hr.step.1
    simp [textBCalls, textWrites, h1]
  | c :: c' :: cs, pos, hd, hr => by
    obtain ⟨hcell, hgap, htail⟩ := hr.step
    have ih := textBCalls_lowerDefault B f atlas m (c' :: cs) _ (fun x hx => hd x (List.mem_cons_of_mem _ hx)) htail
    have h1 := glyphCalls_lowerDefault B f atlas m c pos (hd c List.mem_cons_self) hcell
    have h2 := spacing_lowerDefault B f m _ hgap
    rw [textBCalls, textWrites, if_neg (List.cons_ne_nil _ _)]
    simp only [List.flatMap_append, ih, h1, h2]

/-- The colour the characters and gaps give to column `a` of the `i`-th slot (the `i`-th cell and
the gap after it) in row `dy`: inside the cell what the colour rule makes of the atlas bit `(a, dy)`
of the glyph cell designated for the `i`-th character, behind it the background colour unless the
character is the last one. -/
def slotColour (f : MonoFont) (atlas : Pt → Bool) (m : Mode) (text : List Nat) (i a dy : Nat) : Option Color :=
  if a < f.cw then
    text[i]?.bind (fun c =>
      m.colourOf (atlas ⟨(f.glyphArea c).tl.x + (a : Int), (f.glyphArea c).tl.y + (dy : Int)⟩))
  else if i + 1 < text.length then m.bgColour else none

theorem slotColour_glyph {f : MonoFont} (atlas : Pt → Bool) (m : Mode) {text : List Nat} {i a : Nat} (dy : Nat) {c : Nat}
    (ha : a < f.cw) (hi : text[i]? = some c) :
    slotColour f atlas m text i a dy =
      m.colourOf (atlas ⟨(f.glyphArea c).tl.x + (a : Int), (f.glyphArea c).tl.y + (dy : Int)⟩) := by
  rw [slotColour, if_pos ha, hi]; rfl

theorem slotColour_gap {f : MonoFont} (atlas : Pt → Bool) (m : Mode) {text : List Nat} {i a : Nat} (dy : Nat)
    (ha : ¬ a < f.cw) (hi : i + 1 < text.length) : slotColour f atlas m text i a dy = m.bgColour := by
  rw [slotColour, if_neg ha, if_pos hi]

theorem textWrites_box (f : MonoFont) (atlas : Pt → Bool) (m : Mode) :
    ∀ (text : List Nat) (pos : Pt), (∀ c ∈ text, (f.glyphArea c).size = ⟨f.cw, f.ch⟩) → ∀ (q : Pt) (col : Color),
      (q, col) ∈ textWrites f atlas m pos text →
        pos.x ≤ q.x ∧ q.x < pos.x + (textWidth f text.length : Int) ∧ pos.y ≤ q.y ∧ q.y < pos.y + (f.ch : Int)
  | [], _, _, _, _, h => nomatch h
  | c :: cs, pos, hs, q, col, h => by
    have ih := textWrites_box f atlas m cs ⟨pos.x + (f.cw : Int) + (f.spacing : Int), pos.y⟩
      (fun x hx => hs x (List.mem_cons_of_mem _ hx)) q col
    have hn : cs = [] ↔ cs.length = 0 := List.length_eq_zero_iff.symm
    simp only [textWrites, List.mem_append, mem_cellWrites, hs c List.mem_cons_self, List.mem_ite_nil_left,
      mem_gapWrites, hn] at h
    rw [List.length_cons, textWidth_succ]
    rcases h with (⟨dy, hdy, dx, hdx, rfl, _⟩ | ⟨h0, _, h⟩) | h
    · dsimp only; split <;> omega
    · rw [if_neg h0]; omega
    · have := ih h
      cases cs with
      | nil => cases h
      | cons c' cs => rw [if_neg (by simp)]; dsimp only at this; omega

/-- The head slot lies left of everything the rest of the text writes (`textWrites_box`), so the
induction needs no arithmetic beyond that. -/
theorem mem_textWrites (f : MonoFont) (atlas : Pt → Bool) (m : Mode) :
    ∀ (text : List Nat) (pos : Pt), (∀ c ∈ text, (f.glyphArea c).size = ⟨f.cw, f.ch⟩) →
      ∀ (i a dy : Nat) (col : Color), a < f.cw + f.spacing → dy < f.ch →
        ((⟨cellX f pos i + (a : Int), pos.y + (dy : Int)⟩, col) ∈ textWrites f atlas m pos text ↔
          slotColour f atlas m text i a dy = some col)
  | [], _, _, _, _, _, _, _, _ => by simp [textWrites, slotColour]
  | c :: cs, pos, hs, i, a, dy, col, ha, hdy => by
    have hs' : ∀ x ∈ cs, (f.glyphArea x).size = ⟨f.cw, f.ch⟩ := fun x hx => hs x (List.mem_cons_of_mem _ hx)
    simp only [textWrites, List.mem_append, mem_cellWrites, hs c List.mem_cons_self, List.mem_ite_nil_left,
      mem_gapWrites, Pt.mk.injEq]
    cases i with
    | succ i =>
      -- a later slot: right of the head cell and gap, so the question is passed to the rest
      have hx := cellX_ge f ⟨pos.x + (f.cw : Int) + (f.spacing : Int), pos.y⟩ i
      have hslot : slotColour f atlas m (c :: cs) (i + 1) a dy = slotColour f atlas m cs i a dy := by
        simp [slotColour]
      rw [cellX_succ, hslot, ← mem_textWrites f atlas m cs _ hs' i a dy col ha hdy]
      dsimp only at hx
      constructor
      · rintro ((⟨dy', _, dx', _, hq, _⟩ | ⟨_, _, h⟩) | h)
        · omega
        · omega
        · exact h
      · exact Or.inr
    | zero =>
      have hrest : (⟨pos.x + (a : Int), pos.y + (dy : Int)⟩, col) ∉
          textWrites f atlas m ⟨pos.x + (f.cw : Int) + (f.spacing : Int), pos.y⟩ cs := by
        intro h
        have := (textWrites_box f atlas m cs _ hs' _ _ h).1
        dsimp only at this; omega
      rw [cellX_zero]
      by_cases hcw : a < f.cw
      · have hslot : slotColour f atlas m (c :: cs) 0 a dy =
            m.colourOf (atlas ⟨(f.glyphArea c).tl.x + (a : Int), (f.glyphArea c).tl.y + (dy : Int)⟩) := by
          simp [slotColour, hcw]
        rw [hslot]
        constructor
        · rintro ((⟨dy', _, dx', _, hq, hc⟩ | ⟨_, _, h⟩) | h)
          · obtain ⟨rfl, rfl⟩ : a = dx' ∧ dy = dy' := by omega
            exact hc
          · omega
          · exact absurd h hrest
        · exact fun hc => Or.inl (Or.inl ⟨dy, hdy, a, hcw, ⟨rfl, rfl⟩, hc⟩)
      · have hslot : slotColour f atlas m (c :: cs) 0 a dy = if cs = [] then none else m.bgColour := by
          cases cs <;> simp [slotColour, hcw]
        rw [hslot]
        constructor
        · rintro ((⟨dy', _, dx', _, hq, _⟩ | ⟨h0, hc, _⟩) | h)
          · omega
          · rw [if_neg h0]; exact hc
          · exact absurd h hrest
        · intro hc
          split at hc
          · cases hc
          · exact Or.inl (Or.inr ⟨‹_›, hc, by omega, by omega, by omega, by omega⟩)

theorem lastWrite_textWrites (f : MonoFont) (atlas : Pt → Bool) (m : Mode) (text : List Nat) (pos : Pt)
    (hs : ∀ c ∈ text, (f.glyphArea c).size = ⟨f.cw, f.ch⟩) (q : Pt) (i a dy : Nat)
    (ha : a < f.cw + f.spacing) (hdy : dy < f.ch)
    (hq : q = ⟨cellX f pos i + (a : Int), pos.y + (dy : Int)⟩) :
    lastWrite (textWrites f atlas m pos text) q = slotColour f atlas m text i a dy := by
  subst hq
  exact Tgt.lastWrite_eq_of_mem_iff fun col => mem_textWrites f atlas m text pos hs i a dy col ha hdy

def DecoInRange (f : MonoFont) (pos : Pt) (width : Nat) : Prop :=
  (decoRect f.stOff f.stH pos width).InRange ∧ (decoRect f.ulOff f.ulH pos width).InRange

instance (f : MonoFont) (pos : Pt) (n : Nat) : Decidable (TextInRange f pos n) := by
  unfold TextInRange; exact inferInstance
instance (f : MonoFont) (pos : Pt) (w : Nat) : Decidable (DecoInRange f pos w) := by
  unfold DecoInRange; exact inferInstance

/-- `q` is not covered by a decoration that is actually drawn. -/
def NotDecorated (f : MonoFont) (st : Style) (width : Nat) (pos q : Pt) : Prop :=
  (st.strikethrough.effective st.textColor = none ∨ (decoRect f.stOff f.stH pos width).contains q = false) ∧
  (st.underline.effective st.textColor = none ∨ (decoRect f.ulOff f.ulH pos width).contains q = false)
instance (f : MonoFont) (st : Style) (w : Nat) (pos q : Pt) : Decidable (NotDecorated f st w pos q) := by
  unfold NotDecorated; exact inferInstance

theorem deco_none {d : Option Color} {r : Rect} {q : Pt} (h : d = none ∨ r.contains q = false) :
    (if r.contains q = true then d else none) = none := by
  rcases h with h | h <;> simp [h]

open Glue Tgt in
theorem lw_drawDecorations (B : Rect) (f : MonoFont) (st : Style) (W : Nat) (pos : Pt)
    (h : DecoInRange f pos W) (q : Pt) :
    lw B (f.drawDecorations st W pos) q =
      (decoAt B (st.underline.effective st.textColor) (decoRect f.ulOff f.ulH pos W) q).or
        (decoAt B (st.strikethrough.effective st.textColor) (decoRect f.stOff f.stH pos W) q) := by
  unfold MonoFont.drawDecorations
  rw [lw_append]
  -- each decoration is one `fill_solid` or nothing; the underline is drawn last
  cases st.strikethrough.effective st.textColor <;> cases st.underline.effective st.textColor <;>
    simp only [lw_nil, lw_fillSolid _ _ _ h.1, lw_fillSolid _ _ _ h.2] <;> rfl

open Glue in
/-- The decoration part of `draw_string` (drawn only for a positive width — a zero-width rectangle
would paint nothing anyway). -/
theorem lw_decoPart (B : Rect) (f : MonoFont) (st : Style) (W : Nat) (pos : Pt)
    (h : DecoInRange f pos W) (q : Pt) :
    lw B (if 0 < W then f.drawDecorations st W pos else []) q =
      (decoAt B (st.underline.effective st.textColor) (decoRect f.ulOff f.ulH pos W) q).or
        (decoAt B (st.strikethrough.effective st.textColor) (decoRect f.stOff f.stH pos W) q) := by
  by_cases hW : 0 < W
  · rw [if_pos hW]; exact lw_drawDecorations B f st W pos h q
  · have empty : ∀ off hgt, ¬ (decoRect off hgt pos W).contains q = true := fun off hgt => by
      rw [Rect.contains_iff]; simp only [decoRect]; omega
    rw [if_neg hW, lw_nil, decoAt_none B _ (empty _ _), decoAt_none B _ (empty _ _)]
    rfl

open Glue TextLayout

theorem textWidth_eq_bbWidth (f : MonoFont) : ∀ n, textWidth f n = bbWidth f n
  | 0 => by simp [textWidth, bbWidth]
  | n + 1 => by rw [bbWidth_succ]; rfl

theorem glyphPart_of_mode {st : Style} {m : Mode} (hm : st.mode = some m) (f : MonoFont) (atlas : Pt → Bool)
    (text : List Nat) (pos : Pt) :
    glyphPartCalls f atlas st text pos = (textBCalls f atlas m.bgColour.isSome pos text).flatMap m.lower ∧
      drawAdvance f st text.length = textWidth f text.length := by
  unfold Style.mode at hm
  unfold glyphPartCalls drawAdvance
  rw [textWidth_eq_bbWidth]
  cases htc : st.textColor <;> cases hbg : st.bgColor <;> rw [htc, hbg] at hm <;> cases hm <;> exact ⟨rfl, rfl⟩

section PixelMap
variable (B : Rect) (f : MonoFont) (atlas : Pt → Bool) (st : Style) (m : Mode) (hm : st.mode = some m)
  (text : List Nat) (position : Pt) (bl : Baseline)
  (hd : ∀ c ∈ text, f.areaDrawable (f.glyphArea c) = true)
  (hr : TextInRange f ⟨position.x, position.y - f.baselineOffset bl⟩ text.length)
  (hdr : DecoInRange f ⟨position.x, position.y - f.baselineOffset bl⟩ (textWidth f text.length))
include hm hd hr hdr

theorem drawString_pixel (q : Pt) (hB : B.contains q = true) :
    runDefault B (f.drawString atlas st text position bl).1 q =
      (if (decoRect f.ulOff f.ulH ⟨position.x, position.y - f.baselineOffset bl⟩
            (textWidth f text.length)).contains q = true
        then st.underline.effective st.textColor else none).or
      ((if (decoRect f.stOff f.stH ⟨position.x, position.y - f.baselineOffset bl⟩
            (textWidth f text.length)).contains q = true
        then st.strikethrough.effective st.textColor else none).or
      (lastWrite (textWrites f atlas m ⟨position.x, position.y - f.baselineOffset bl⟩ text) q)) := by
  obtain ⟨hg, ha⟩ := glyphPart_of_mode hm f atlas text ⟨position.x, position.y - f.baselineOffset bl⟩
  -- the decorations come after the glyph part, so they win; the glyph part is the line's writes
  rw [Tgt.runDefault_eq_runNative, runNative_eq_lw, drawString_calls, decoPartCalls, ha, lw_append,
    lw_decoPart B f st _ _ hdr, hg, lw_eq, if_pos hB, textBCalls_lowerDefault B f atlas m text _ hd hr,
    decoAt_inside _ _ hB, decoAt_inside _ _ hB, Option.or_assoc]

theorem undecorated_pixel (q : Pt) (hB : B.contains q = true)
    (hnd : NotDecorated f st (textWidth f text.length) ⟨position.x, position.y - f.baselineOffset bl⟩ q) :
    runDefault B (f.drawString atlas st text position bl).1 q =
      lastWrite (textWrites f atlas m ⟨position.x, position.y - f.baselineOffset bl⟩ text) q := by
  rw [drawString_pixel B f atlas st m hm text position bl hd hr hdr q hB, deco_none hnd.1, deco_none hnd.2]
  rfl

theorem slot_pixel (q : Pt) (i a dy : Nat) (ha : a < f.cw + f.spacing) (hdy : dy < f.ch)
    (hq : q = ⟨cellX f ⟨position.x, position.y - f.baselineOffset bl⟩ i + (a : Int),
      position.y - f.baselineOffset bl + (dy : Int)⟩) (hB : B.contains q = true)
    (hnd : NotDecorated f st (textWidth f text.length) ⟨position.x, position.y - f.baselineOffset bl⟩ q) :
    runDefault B (f.drawString atlas st text position bl).1 q = slotColour f atlas m text i a dy := by
  rw [undecorated_pixel B f atlas st m hm text position bl hd hr hdr q hB hnd]
  exact lastWrite_textWrites f atlas m text _ (fun c hc => glyphArea_size_of_drawable f c (hd c hc))
    q i a dy ha hdy hq

end PixelMap

end Font
end EG
