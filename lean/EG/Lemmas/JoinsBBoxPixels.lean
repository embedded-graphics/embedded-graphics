/-
  EG.Lemmas.JoinsBBoxPixels — **every point of `pixels()` of a stroked polyline (width > 1) or a styled
  triangle lies inside `styled_bounding_box`**: the pixel iterators walk the scanlines of the row
  iterators point by point (EG.Lemmas.C01ThickPoly, C01ThickTri), and every such scanline lies in the
  box (EG.Lemmas.JoinsBBoxPolyMain, JoinsBBoxTriMain).
-/
import EG.Lemmas.JoinsBBoxTriMain
import EG.Lemmas.C01ThickTri
import EG.Lemmas.JoinsPixels
namespace EG
namespace Joins
open Thick (LineSide StrokeOffset)

theorem pixels_in_bbox (pl : Polyline) (w : Nat) (hw : 2 ≤ w) (hg : PolyBBoxGuard pl w)
    (bb : Rect) (hb : styledBoundingBox pl w = some bb) (ps : List Pt) (hps : pixels pl w = some ps) :
    ∀ q ∈ ps, bb.contains q = true := by
  unfold styledBoundingBox at hb
  obtain ⟨ubb, hu, hb⟩ := Option.bind_eq_some_iff.mp hb
  cases hb
  obtain ⟨L, hL, hpx⟩ := C01Thick.pixels_eq_run pl w hw
  rw [hpx] at hps
  cases hps
  obtain ⟨hmin, hgood⟩ := polyScanlines_good pl w (by omega) hg ubb hu L hL
  intro q hq
  obtain ⟨s, hs, hq⟩ := List.mem_flatMap.mp hq
  rw [C01Thick.moveS_points, List.mem_map] at hq
  obtain ⟨p, hp, rfl⟩ := hq
  rw [Rect.contains_translate]
  exact goodLine_in_box hmin (hgood s hs) p (Scanline.mem_points.mp hp)

theorem linePixels_in_box {U : Rect} (hmin : -2147483648 ≤ U.tl.y) {s : Scanline}
    (hs : LineOK U.tl.x (U.tl.x + U.size.w - 1) U.tl.y U.rowsEnd s) {col : Option Nat} {pc : Pt × Nat}
    (h : pc ∈ C01Thick.linePixels s col) : U.contains pc.1 = true := by
  unfold C01Thick.linePixels at h
  cases col with
  | none => cases h
  | some c =>
    obtain ⟨p, hp, rfl⟩ := List.mem_map.mp h
    rw [Scanline.mem_points] at hp
    exact goodLine_in_box hmin (hs.resolve_left (by omega)) p hp

/-- The pixel iterator walks the coloured lines of `forgiven` (`triPixels_eq_take`), each of which
lies in the box. -/
theorem triPixels_in_box (t : Tri) (style : TriStyle) (bb : Rect)
    (hbb : triStyledBoundingBox t style = some bb) (hmin : -2147483648 ≤ bb.tl.y)
    (ctx : StyledCtx t style bb) (px : List (Pt × Nat)) (hpx : triPixels t style = some px) :
    ∀ pc ∈ px, bb.contains pc.1 = true := by
  obtain ⟨c, hc⟩ := isCollapsed_total t.sortedClockwise style.strokeWidth style.strokeAlignment.toOffset
  obtain ⟨li, hli, -, hforg⟩ := triScanlines_rows t style hbb hc
  rw [C01Thick.triPixels_eq_take t style hli li.intersections.gen_row, hforg] at hpx
  cases hpx
  intro pc hpc
  obtain ⟨x, hx, h⟩ := List.mem_flatMap.mp (List.mem_of_mem_take hpc)
  exact linePixels_in_box hmin (Or.inr ((styledCtx_rows ctx hc).2 x hx)) h

theorem tri_in_box (t : Tri) (style : TriStyle) (bb : Rect)
    (hbb : triStyledBoundingBox t style = some bb) (hmin : -2147483648 ≤ bb.tl.y)
    (ctx : StyledCtx t style bb) :
    (∀ calls, triDraw t style = some calls →
      ∀ rc ∈ calls, ∀ p, rc.1.contains p = true → bb.contains p = true) ∧
    (∀ px, triPixels t style = some px → ∀ pc ∈ px, bb.contains pc.1 = true) :=
  ⟨triDraw_in_box t style bb hbb hmin ctx, triPixels_in_box t style bb hbb hmin ctx⟩

end Joins
end EG
