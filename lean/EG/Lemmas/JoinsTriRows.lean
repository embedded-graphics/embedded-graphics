/-
  EG.Lemmas.JoinsTriRows — the typed scanlines of a styled triangle in closed form.
  A row is its `LineConfig` (`generate_lines`), of which `LineConfig.pending` lists the non-empty
  lines in the order they are handed out. The run of the `ScanlineIterator` is the pending lines of
  the current row and then the rows up to the first one without any line (`moreRows`: the iterator is
  not fused, and a `for` loop stops at the first `None`): `TriScanlines.rest`, `toList_rest`,
  `triScanlineRun_eq`. A caller that forgives one `None` (`StyledPixelsIterator::new`) sees
  `TriScanlines.forgiven`.
  `TriIntersections.next` and `TriScanlines.next` are walked here once (`next_pending`, `next_rest`:
  a call pops the head of `rest`); what is proved about the scanlines of a triangle elsewhere is
  proved about `pending` and `moreRows`. The row function `cfg` is a parameter (`Gen cfg it`:
  `generate_lines y` returns `cfg y` in every state the iterator reaches).
-/
import EG.Lemmas.TriGenLines
import EG.Lemmas.JoinsPolyRows
import EG.Lemmas.TriRows
set_option linter.unusedSimpArgs false
namespace EG
namespace Joins
open Thick (LineSide StrokeOffset)
open C01Thick (Run listFuel)

theorem moreRows_length_le {α : Type} (pend : Int → List α) (k : Nat) (h : ∀ y, (pend y).length ≤ k) :
    ∀ ys : List Int, (moreRows pend ys).length ≤ k * ys.length
  | [] => Nat.zero_le _
  | y :: ys => by
    unfold moreRows
    split
    · exact Nat.zero_le _
    · rw [List.length_append, List.length_cons, Nat.mul_succ]
      have := h y
      have := moreRows_length_le pend k h ys
      omega

theorem moreRows_map {α β : Type} (f : α → β) (pend' : Int → List β) (pend : Int → List α) (g : Int → Int)
    (ys : List Int) (h : ∀ y, pend' (g y) = (pend y).map f) :
    moreRows pend' (ys.map g) = (moreRows pend ys).map f := by
  induction ys with
  | nil => rfl
  | cons y ys ih =>
    simp only [List.map_cons, moreRows, h, List.map_eq_nil_iff, ih]
    split
    · rfl
    · rw [List.map_append]

namespace LineConfig

/-- What `ScanlineIntersections::next` still hands out, in order. -/
def pending (lc : LineConfig) : List (Scanline × PointType) :=
  (if lc.internal.isEmpty then [] else [(lc.internal, lc.internalType)]) ++
    ((if lc.first.isEmpty then [] else [(lc.first, .stroke)]) ++
      (if lc.second.isEmpty then [] else [(lc.second, .stroke)]))

theorem pending_length_le (lc : LineConfig) : lc.pending.length ≤ 3 := by
  unfold pending
  split <;> split <;> split <;> simp

theorem mem_pending {lc : LineConfig} {x : Scanline × PointType} (h : x ∈ lc.pending) :
    x.1.isEmpty = false ∧ (x.1 = lc.internal ∨ x.1 = lc.first ∨ x.1 = lc.second) := by
  have key : ∀ (s : Scanline) (ty : PointType),
      x ∈ (if s.isEmpty then [] else [(s, ty)]) → x.1.isEmpty = false ∧ x.1 = s := by
    intro s ty h
    cases hs : s.isEmpty
    · rw [hs, if_neg (by simp), List.mem_singleton] at h
      rw [h]; exact ⟨hs, rfl⟩
    · rw [hs, if_pos rfl] at h; cases h
  rcases List.mem_append.mp h with h | h
  · exact ⟨(key _ _ h).1, Or.inl (key _ _ h).2⟩
  · rcases List.mem_append.mp h with h | h
    · exact ⟨(key _ _ h).1, Or.inr (Or.inl (key _ _ h).2)⟩
    · exact ⟨(key _ _ h).1, Or.inr (Or.inr (key _ _ h).2)⟩

end LineConfig

theorem TriIntersections.next_eq (it : TriIntersections) :
    it.next =
      if it.lines.internal.isEmpty = false then
        some ((it.lines.internal, it.lines.internalType),
          { it with lines := { it.lines with internal := it.lines.internal.tryTake.2 } })
      else if it.lines.first.isEmpty = false then
        some ((it.lines.first, .stroke), { it with lines := { it.lines with first := it.lines.first.tryTake.2 } })
      else if it.lines.second.isEmpty = false then
        some ((it.lines.second, .stroke), { it with lines := { it.lines with second := it.lines.second.tryTake.2 } })
      else none := by
  unfold TriIntersections.next Scanline.tryTake
  cases it.lines.internal.isEmpty with
  | false => rfl
  | true =>
    cases it.lines.first.isEmpty with
    | false => rfl
    | true => cases it.lines.second.isEmpty <;> rfl

namespace TriIntersections

/-- **One call of `ScanlineIntersections::next`** pops the head of `pending`. -/
theorem next_pending (it : TriIntersections) :
    ∃ lc, it.next.map Prod.fst = it.lines.pending.head? ∧
      (∀ r, it.next = some r → r.2 = { it with lines := lc }) ∧ lc.pending = it.lines.pending.tail := by
  rw [next_eq]
  unfold LineConfig.pending
  cases hi : it.lines.internal.isEmpty with
  | false => exact ⟨_, rfl, by intro r h; cases h; rfl, by simp [Scanline.tryTake_snd_isEmpty]⟩
  | true =>
    cases hf : it.lines.first.isEmpty with
    | false => exact ⟨_, rfl, by intro r h; cases h; rfl, by simp [hi, Scanline.tryTake_snd_isEmpty]⟩
    | true =>
      cases hs : it.lines.second.isEmpty with
      | false => exact ⟨_, rfl, by intro r h; cases h; rfl, by simp [hi, hf, Scanline.tryTake_snd_isEmpty]⟩
      | true => exact ⟨it.lines, rfl, fun r h => by simp at h, by simp [hi, hf, hs]⟩

/-- `generate_lines` does not look at `lines`. -/
theorem generateLines_lines (it : TriIntersections) (lc : LineConfig) (y : Int) :
    ({ it with lines := lc } : TriIntersections).generateLines y = it.generateLines y := by
  rw [generateLines_eq, generateLines_eq]
  rfl

/-- The row function: `cfg y` is what `generate_lines(y)` returns, in every state the iterator reaches. -/
def Gen (cfg : Int → LineConfig) (it : TriIntersections) : Prop := ∀ y, it.generateLines y = some (cfg y)

theorem Gen.lines {cfg : Int → LineConfig} {it : TriIntersections} (h : Gen cfg it) (lc : LineConfig) :
    Gen cfg { it with lines := lc } := fun y => (generateLines_lines it lc y).trans (h y)

/-- The line configuration of row `y`: `generate_lines` as a function of what it reads. -/
def row (it : TriIntersections) (y : Int) : LineConfig :=
  genLines it.strokeWidth it.hasFill it.isCollapsed (it.triangle.scanlineIntersection y) (it.segJ y) y

theorem gen_row (it : TriIntersections) : Gen it.row it := generateLines_eq it

end TriIntersections

namespace TriScanlines

theorem next_some_iff (it it' : TriScanlines) (r : Scanline × PointType) :
    it.next = some (some r, it') ↔ it.nextLoop = some (some (r, it')) := by
  unfold nextLoop
  cases h : it.next with
  | none => simp
  | some p =>
    obtain ⟨o, s⟩ := p
    cases o with
    | none => simp
    | some x => simp

theorem next_none_iff (it : TriScanlines) :
    (∃ it', it.next = some (none, it')) ↔ it.nextLoop = some none := by
  unfold nextLoop
  cases h : it.next with
  | none => simp
  | some p =>
    obtain ⟨o, s⟩ := p
    cases o with
    | none => simp
    | some x => simp

theorem next_isSome_iff (it : TriScanlines) : it.next.isSome = it.nextLoop.isSome := by
  unfold nextLoop
  cases h : it.next with
  | none => rfl
  | some p =>
    obtain ⟨o, s⟩ := p
    cases o <;> rfl

/-- All lines a `for` loop over the iterator still sees. -/
def rest (cfg : Int → LineConfig) (it : TriScanlines) : List (Scanline × PointType) :=
  it.intersections.lines.pending ++ moreRows (fun y => (cfg y).pending) (irange it.rowsStart it.rowsEnd)

/-- What a caller still sees that forgives ONE `None` (`StyledPixelsIterator::new`): the iterator is not
fused, so after an empty fresh row it goes on with the row after it. -/
def forgiven (cfg : Int → LineConfig) (it : TriScanlines) : List (Scanline × PointType) :=
  if it.rest cfg = [] ∧ it.rowsStart < it.rowsEnd then
    moreRows (fun y => (cfg y).pending) (irange (it.rowsStart + 1) it.rowsEnd)
  else it.rest cfg

/-- **One call of the (non-fused) `ScanlineIterator::next`**: `Some x` is the head of `rest` and leaves
the tail; `None` means `rest` is empty, and leaves what `forgiven` says. -/
theorem next_rest {cfg : Int → LineConfig} (it : TriScanlines) (hg : TriIntersections.Gen cfg it.intersections) :
    ∃ first it', it.next = some (first, it') ∧ TriIntersections.Gen cfg it'.intersections ∧
      (∀ x, first = some x → it.rest cfg = x :: it'.rest cfg) ∧
      (first = none → it.rest cfg = [] ∧ it'.rest cfg = it.forgiven cfg) := by
  unfold TriScanlines.next forgiven rest
  obtain ⟨lc, hh, hst, htl⟩ := it.intersections.next_pending
  cases hn : it.intersections.next with
  | some p =>
    obtain ⟨x, ints⟩ := p
    rw [hn] at hh
    obtain rfl := hst _ hn
    cases hp : it.intersections.lines.pending with
    | nil => rw [hp] at hh; cases hh
    | cons x' tl =>
      rw [hp] at hh htl
      cases hh
      refine ⟨_, _, rfl, hg.lines lc, ?_, by intro h; cases h⟩
      intro x h
      cases h
      show _ = x :: (lc.pending ++ _)
      rw [htl]; rfl
  | none =>
    rw [hn] at hh
    have hp : it.intersections.lines.pending = [] := List.head?_eq_none_iff.mp hh.symm
    rw [hp, List.nil_append]
    dsimp only
    by_cases hr : it.rowsStart < it.rowsEnd
    · simp only [hr, ↓reduceIte, and_true]
      have hreset : it.intersections.resetWithNewScanline it.rowsStart =
          some { it.intersections with lines := cfg it.rowsStart } := by
        unfold TriIntersections.resetWithNewScanline; rw [hg it.rowsStart]; rfl
      rw [hreset, irange_cons hr, moreRows]
      simp only [Option.bind_eq_bind, Option.bind_some]
      obtain ⟨lc2, hh2, hst2, htl2⟩ :=
        ({ it.intersections with lines := cfg it.rowsStart } : TriIntersections).next_pending
      have hl : ({ it.intersections with lines := cfg it.rowsStart } : TriIntersections).lines =
          cfg it.rowsStart := rfl
      rw [hl] at hh2 htl2
      cases hn2 : ({ it.intersections with lines := cfg it.rowsStart } : TriIntersections).next with
      | none =>
        rw [hn2] at hh2
        have hp2 : (cfg it.rowsStart).pending = [] := List.head?_eq_none_iff.mp hh2.symm
        simp only [hp2, ↓reduceIte, pure]
        refine ⟨_, _, rfl, hg.lines _, (by intro x h; cases h), fun _ => ⟨trivial, ?_⟩⟩
        show (cfg it.rowsStart).pending ++ _ = _
        rw [hp2]; rfl
      | some p =>
        obtain ⟨x, ints⟩ := p
        rw [hn2] at hh2
        obtain rfl := hst2 _ hn2
        cases hp2 : (cfg it.rowsStart).pending with
        | nil => rw [hp2] at hh2; cases hh2
        | cons x' tl =>
          rw [hp2] at hh2 htl2
          cases hh2
          simp only [List.cons_ne_nil, ↓reduceIte, pure, List.cons_append]
          refine ⟨_, _, rfl, (hg.lines _).lines lc2, ?_, by intro h; cases h⟩
          intro x h
          cases h
          show _ = x :: (lc2.pending ++ _)
          rw [htl2]; rfl
    · simp only [hr, ↓reduceIte, and_false]
      rw [irange_empty (by omega)]
      exact ⟨_, _, rfl, hg, (by intro x h; cases h), fun _ => ⟨rfl, by rw [hp, irange_empty (by omega)]; rfl⟩⟩

/-- The same as a loop sees it: the head of `rest`, and a state whose `rest` is the tail. -/
theorem nextLoop_rest {cfg : Int → LineConfig} (it : TriScanlines) (hg : TriIntersections.Gen cfg it.intersections) :
    ∃ r, it.nextLoop = some r ∧ r.map Prod.fst = (it.rest cfg).head? ∧
      ∀ x it', r = some (x, it') → TriIntersections.Gen cfg it'.intersections ∧ it'.rest cfg = (it.rest cfg).tail := by
  obtain ⟨first, it', hn, hg', hsome, hnone⟩ := next_rest it hg
  unfold nextLoop
  rw [hn]
  cases first with
  | none => exact ⟨none, rfl, by rw [(hnone rfl).1]; rfl, by intro x it'' h; cases h⟩
  | some x =>
    refine ⟨_, rfl, by rw [hsome x rfl]; rfl, ?_⟩
    intro y it'' h
    cases h
    exact ⟨hg', by rw [hsome x rfl]; rfl⟩

theorem run_rest {cfg : Int → LineConfig} {it : TriScanlines} (hg : TriIntersections.Gen cfg it.intersections) :
    Run TriScanlines.nextLoop it (it.rest cfg) :=
  Run.of_pop (fun it => TriIntersections.Gen cfg it.intersections) (·.rest cfg) nextLoop_rest _ it hg rfl

theorem rest_length_le (cfg : Int → LineConfig) (it : TriScanlines) :
    (it.rest cfg).length ≤ 3 * ((it.rowsEnd - it.rowsStart).toNat + 1) := by
  unfold rest
  have h1 := LineConfig.pending_length_le it.intersections.lines
  have h2 := moreRows_length_le (fun y => (cfg y).pending) 3 (fun y => LineConfig.pending_length_le _)
    (irange it.rowsStart it.rowsEnd)
  rw [irange_length] at h2
  rw [List.length_append]
  omega

theorem toList_rest {cfg : Int → LineConfig} {it : TriScanlines} (hg : TriIntersections.Gen cfg it.intersections) :
    it.toList = some (it.rest cfg) := by
  unfold toList
  rw [C01Thick.triScanlines_toListFuel_eq]
  exact (run_rest hg).listFuel _ (by have := rest_length_le cfg it; omega)

theorem rest_nonempty (cfg : Int → LineConfig) (it : TriScanlines) : ∀ x ∈ it.rest cfg, x.1.isEmpty = false := by
  intro x hx
  rcases List.mem_append.mp hx with h | h
  · exact (LineConfig.mem_pending h).1
  · obtain ⟨y, -, hy⟩ := mem_moreRows h
    exact (LineConfig.mem_pending hy).1

end TriScanlines

theorem TriScanlines.empty_toList : TriScanlines.empty.toList = some [] := by decide

theorem TriScanlines.empty_next : TriScanlines.empty.next = some (none, TriScanlines.empty) := by rfl

theorem TriScanlines.empty_nextLoop : TriScanlines.empty.nextLoop = some none := by rfl

/-- The iterator that `ScanlineIntersections::new` resets. -/
def newSelfTri (t : Tri) (w : Nat) (off : StrokeOffset) (fill c : Bool) : TriIntersections :=
  { TriIntersections.empty with
    hasFill := fill, triangle := t, strokeOffset := off, strokeWidth := w
    isCollapsed := c && off == .right }

theorem TriIntersections.new_eq (t : Tri) (w : Nat) (off : StrokeOffset) (fill : Bool) (y : Int) :
    TriIntersections.new t w off fill y =
      (t.isCollapsed w off).bind (fun c => (newSelfTri t w off fill c).resetWithNewScanline y) := rfl

/-- The typed scanlines of a styled triangle, as the `for` loop of `draw_styled` sees them. -/
def _root_.EG.C01Thick.triScanlineRun (t : Tri) (style : TriStyle) : Option (List (Scanline × PointType)) :=
  (triScanlines t style).bind TriScanlines.toList

open C01Thick (triScanlineRun)

theorem triPixelFuel_eq_run (t : Tri) (style : TriStyle) :
    triPixelFuel t style =
      (triScanlineRun t style).map fun lines => (lines.map (fun x => (x.1.xe - x.1.xs).toNat)).sum + 1 :=
  bind_bind_pure _ _ _

theorem forgiven_of_ne {cfg : Int → LineConfig} {it : TriScanlines} (h : it.rest cfg ≠ []) :
    it.forgiven cfg = it.rest cfg := by
  unfold TriScanlines.forgiven
  rw [if_neg (fun c => h c.1)]

/-- The lines of the rows `r0 .. rEnd`: the first row may be empty (`ScanlineIterator::new` stands on it,
the first call moves on), every later empty row ends the loop. -/
def triRows (cfg : Int → LineConfig) (r0 rEnd : Int) : List (Scanline × PointType) :=
  if r0 < rEnd then (cfg r0).pending ++ moreRows (fun y => (cfg y).pending) (irange (r0 + 1) rEnd) else []

theorem triRows_length_le (cfg : Int → LineConfig) (r0 rEnd : Int) :
    (triRows cfg r0 rEnd).length ≤ 3 * (rEnd - r0).toNat := by
  unfold triRows
  split
  · have h1 := LineConfig.pending_length_le (cfg r0)
    have h2 := moreRows_length_le (fun y => (cfg y).pending) 3 (fun y => LineConfig.pending_length_le _)
      (irange (r0 + 1) rEnd)
    rw [irange_length] at h2
    rw [List.length_append]
    omega
  · exact Nat.zero_le _

/-- `forgiven` for the rows `r0 .. rEnd`: if the first TWO rows are empty, the pixel iterator goes on with
the third (the `for` loop of `draw_styled` has stopped): the case `TriFirstNoneFinal` excludes. -/
def triForgiven (cfg : Int → LineConfig) (r0 rEnd : Int) : List (Scanline × PointType) :=
  if triRows cfg r0 rEnd = [] ∧ r0 + 1 < rEnd then moreRows (fun y => (cfg y).pending) (irange (r0 + 1 + 1) rEnd)
  else triRows cfg r0 rEnd

/-- The iterator `draw_styled` and `StyledPixelsIterator::new` construct, by what it will yield: the rows
of the styled bounding box, with the row function of the iterator `ScanlineIntersections::new` resets. -/
theorem triScanlines_rows (t : Tri) (style : TriStyle) {bb : Rect} {c : Bool}
    (hb : triStyledBoundingBox t style = some bb)
    (hc : t.sortedClockwise.isCollapsed style.strokeWidth style.strokeAlignment.toOffset = some c) :
    ∃ li, triScanlines t style = some li ∧
      li.rest li.intersections.row = triRows (newSelfTri t.sortedClockwise style.strokeWidth
        style.strokeAlignment.toOffset style.fillColor.isSome c).row bb.tl.y bb.rowsEnd ∧
      li.forgiven li.intersections.row = triForgiven (newSelfTri t.sortedClockwise style.strokeWidth
        style.strokeAlignment.toOffset style.fillColor.isSome c).row bb.tl.y bb.rowsEnd := by
  unfold triScanlines TriScanlines.new triForgiven triRows
  simp only [hb, Option.bind_eq_bind, Option.bind_some]
  by_cases hr : bb.tl.y < bb.rowsEnd
  · simp only [hr, ↓reduceIte, TriIntersections.new_eq, hc, Option.bind_some]
    unfold TriIntersections.resetWithNewScanline
    rw [TriIntersections.gen_row _ bb.tl.y]
    exact ⟨_, rfl, rfl, rfl⟩
  · simp only [hr, ↓reduceIte, false_and]
    refine ⟨_, rfl, rfl, ?_⟩
    rw [if_neg (fun h => hr (by omega))]
    unfold TriScanlines.forgiven
    rw [if_neg (fun h => absurd h.2 (by decide))]
    rfl

theorem triScanlineRun_eq (t : Tri) (style : TriStyle) {bb : Rect} {c : Bool}
    (hb : triStyledBoundingBox t style = some bb)
    (hc : t.sortedClockwise.isCollapsed style.strokeWidth style.strokeAlignment.toOffset = some c) :
    triScanlineRun t style = some (triRows (newSelfTri t.sortedClockwise style.strokeWidth
      style.strokeAlignment.toOffset style.fillColor.isSome c).row bb.tl.y bb.rowsEnd) := by
  obtain ⟨li, hli, e, -⟩ := triScanlines_rows t style hb hc
  unfold triScanlineRun
  rw [hli, Option.bind_some, TriScanlines.toList_rest li.intersections.gen_row, e]

end Joins
end EG
