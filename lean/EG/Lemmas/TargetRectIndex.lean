/-
  EG.Lemmas.TargetRectIndex — row-major indexing of the points of a rectangle (`Rect.grid`) and the
  point-wise meaning of `fill_contiguous` / `fill_solid` / `clear` writes.
-/
import EG.Lemmas.Target
namespace EG
open Tgt

namespace Rect

/-- Row-major index of a point of the rectangle (meaningful for points the rectangle contains:
`toNat` clamps the others). -/
def indexOf (r : Rect) (p : Pt) : Nat := (p.y - r.tl.y).toNat * r.size.w + (p.x - r.tl.x).toNat

theorem grid_getElem? (r : Rect) (i j : Nat) (hi : i < r.size.w) (hj : j < r.size.h) :
    r.grid[j * r.size.w + i]? = some ⟨r.tl.x + i, r.tl.y + j⟩ := by
  unfold grid
  rw [getElem?_flatMap_const _ _ r.size.w
    (by intro a _; simp only [List.length_map, irange_length]; omega) j i hi]
  have hjl : j < (irange r.tl.y (r.tl.y + r.size.h)).length := by rw [irange_length]; omega
  have hil : i < (irange r.tl.x (r.tl.x + r.size.w)).length := by rw [irange_length]; omega
  rw [List.getElem?_eq_getElem hjl]
  simp only [Option.bind_some, List.getElem?_map, List.getElem?_eq_getElem hil, Option.map_some,
    irange_getElem]

theorem offsets_lt {r : Rect} {p : Pt} (hp : r.contains p = true) :
    (p.x - r.tl.x).toNat < r.size.w ∧ (p.y - r.tl.y).toNat < r.size.h := by
  rw [contains_iff] at hp; omega

theorem grid_getElem?_indexOf {r : Rect} {p : Pt} (hp : r.contains p = true) :
    r.grid[r.indexOf p]? = some p := by
  have hb := offsets_lt hp
  rw [contains_iff] at hp
  rw [indexOf, grid_getElem? r _ _ hb.1 hb.2]
  congr 1
  rw [Pt.ext_iff']; simp only; omega

/-- A colour stream that is a point-wise function of the grid: the colour with index `indexOf p`. -/
theorem getElem?_indexOf_of_map_grid {r : Rect} {cs : List Color} {f : Pt → Option Color}
    (h : cs.map some = r.grid.map f) {p : Pt} (hp : r.contains p = true) :
    cs[r.indexOf p]? = f p := by
  have := congrArg (·[r.indexOf p]?) h
  simp only [List.getElem?_map, grid_getElem?_indexOf hp, Option.map_some] at this
  cases hc : cs[r.indexOf p]? with
  | none => rw [hc] at this; cases this
  | some c => rw [hc] at this; exact Option.some.inj this

theorem grid_idxOf {r : Rect} {p : Pt} (hp : r.contains p = true) : r.grid.idxOf p = r.indexOf p := by
  obtain ⟨hlt, hget⟩ := List.getElem?_eq_some_iff.mp (grid_getElem?_indexOf hp)
  have := (grid_nodup r).idxOf_getElem _ hlt
  rw [hget] at this
  exact this

/-- **`fill_contiguous` meaning, point-wise**: the point with row-major index `k` gets colour
number `k` of the stream, if the stream is that long; nothing else is written. -/
theorem lastWrite_grid_zip (r : Rect) (cs : List Color) (p : Pt) :
    lastWrite (r.grid.zip cs) p = if r.contains p = true then cs[r.indexOf p]? else none := by
  rw [lastWrite_zip_nodup _ (grid_nodup r)]
  by_cases hp : r.contains p = true
  · rw [if_pos (mem_grid.mpr hp), if_pos hp, grid_idxOf hp]
  · rw [if_neg (fun h => hp (mem_grid.mp h)), if_neg hp]

/-- **`fill_solid` / `clear` meaning, point-wise**: every point of the area gets `c`, nothing else is
written. -/
theorem lastWrite_grid_const (r : Rect) (c : Color) (p : Pt) :
    lastWrite (r.grid.map (fun q => (q, c))) p = if r.contains p = true then some c else none := by
  rw [lastWrite_map_const]
  by_cases hp : r.contains p = true
  · rw [if_pos (mem_grid.mpr hp), if_pos hp]
  · rw [if_neg (fun h => hp (mem_grid.mp h)), if_neg hp]

theorem translate_indexOf (a : Rect) (d q : Pt) :
    (a.translate d).indexOf q = a.indexOf (q - d) := by
  simp only [Rect.indexOf, Rect.translate, Pt.add_x, Pt.add_y, Pt.sub_x, Pt.sub_y]
  have h1 : (q.y - (a.tl.y + d.y)).toNat = (q.y - d.y - a.tl.y).toNat := by omega
  have h2 : (q.x - (a.tl.x + d.x)).toNat = (q.x - d.x - a.tl.x).toNat := by omega
  rw [h1, h2]

end Rect
end EG
