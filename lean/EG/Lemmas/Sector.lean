/-
  EG.Lemmas.Sector — the sector / arc point iterators equal their closed forms:
  `DistanceIterator` = the bounding box's points decorated with `(delta, distance)`, `find` =
  "first element of the filtered rest", `Sector::points() = bounding_box().points().filter(contains)`,
  `Arc::points() = bounding_box().points().filter(ring ∧ plane sector)`; the inner threshold of the
  arc is the membership test of `circle.offset(-1)`.
  The plane sector is an arbitrary parameter throughout.
-/
import EG.Lemmas.CirclePoints
import EG.Lemmas.StyledRectPixels
import EG.Model.Sector
namespace EG

theorem Rect.pointsIt_rest (r : Rect) : r.pointsIt.rest = r.points := by
  rw [Rect.points_eq_spec]
  unfold Rect.pointsSpec Rect.pointsIt
  by_cases hz : r.isZeroSized = true
  · simp only [hz, if_true]
    rfl
  · simp only [hz]
    simp only [Bool.false_eq_true, if_false]
    simp only [Rect.PointsIt.rest, Rect.rows, Rect.columns, Rect.rowsEnd, Rect.columnsEnd]
    by_cases hy : r.tl.y < satAddI32 r.tl.y (satAsI32 r.size.h)
    · simp only [hy, ↓reduceIte]; rw [irange_cons hy]; simp
    · simp only [hy, ↓reduceIte]
      rw [irange_empty (a := r.tl.y) (b := satAddI32 r.tl.y (satAsI32 r.size.h)) (by omega)]; simp

/-- The pair the C08 termination theorems (EG/Props/C08/TerminationThick.lean) end with: at most the
box's point count, which without saturation is its area. -/
theorem Rect.le_area {n : Nat} {bb : Rect} (h : n ≤ bb.points.length) :
    n ≤ bb.points.length ∧ (bb.InRange → n ≤ bb.size.w * bb.size.h) :=
  ⟨h, fun hr => by rw [← Rect.points_length hr]; exact h⟩

namespace DistIt

def rest (it : DistIt) : List DistItem := it.points.rest.map (item it.center2x)

theorem item_fst (c2 p : Pt) : (item c2 p).1 = p := rfl

theorem item_delta (c2 p : Pt) : (item c2 p).2.1 = (⟨p.x * 2, p.y * 2⟩ : Pt) - c2 := rfl

theorem item_dist_lt (c2 : Pt) (T : Nat) (p : Pt) :
    decide ((item c2 p).2.2 < T) = Circle.hit c2 T p.y p.x := rfl

theorem item_translate (c2 t p : Pt) :
    item ⟨c2.x + 2 * t.x, c2.y + 2 * t.y⟩ (p + t) = (p + t, (item c2 p).2) := by
  have e : ∀ a b c : Int, (a + b) * 2 - (c + 2 * b) = a * 2 - c := fun a b c => by
    rw [Int.add_mul, Int.mul_comm 2 b, add_sub_add_right_eq_sub]
  have hd : (⟨(p + t).x * 2, (p + t).y * 2⟩ : Pt) - ⟨c2.x + 2 * t.x, c2.y + 2 * t.y⟩ =
      (⟨p.x * 2, p.y * 2⟩ : Pt) - c2 := congrArg₂ Pt.mk (e _ _ _) (e _ _ _)
  unfold item
  simp only [hd]

theorem next_spec (it : DistIt) :
    match it.next with
    | some (x, it') => it.rest = x :: it'.rest
    | none => it.rest = [] := by
  unfold next rest
  rw [Rect.PointsIt.yields it.points]
  cases it.points.next <;> rfl

theorem yields : Yields DistIt.next DistIt.rest := by
  intro it
  have h := it.next_spec
  revert h
  cases it.next <;> exact id

theorem next_budget (it : DistIt) :
    match it.next with
    | some (_, it') => it'.rest.length < it.rest.length
    | none => True := by
  have h := it.next_spec
  split <;> rename_i heq <;> rw [heq] at h <;> simp only at h
  · rw [h]; simp
  · trivial

theorem rest_length_lt_budget (it : DistIt) : it.rest.length < it.points.budget := by
  unfold rest; rw [List.length_map]; exact it.points.rest_length_lt_budget

/-- `find` walks on to the first item that passes `pred`: the head of the filtered rest. -/
theorem findFuel_spec (pred : DistItem → Bool) : ∀ (fuel : Nat) (it : DistIt), it.rest.length < fuel →
    it.rest.filter pred = unroll (it.findFuel pred fuel) (fun it' => it'.rest.filter pred) := by
  intro fuel
  induction fuel with
  | zero => intro it h; omega
  | succ fuel ih =>
    intro it h
    rw [yields it] at h ⊢
    unfold findFuel
    revert h
    cases it.next with
    | none => exact fun _ => rfl
    | some q =>
      obtain ⟨x, it₁⟩ := q
      intro h
      show (x :: it₁.rest).filter pred =
        unroll (if pred x = true then some (x, it₁) else findFuel pred fuel it₁) _
      cases hp : pred x with
      | true => rw [if_pos rfl, List.filter_cons_of_pos hp]; rfl
      | false =>
        rw [if_neg Bool.false_ne_true, List.filter_cons_of_neg (by rw [hp]; exact Bool.false_ne_true)]
        exact ih it₁ (Nat.lt_of_succ_lt_succ h)

theorem find_spec (pred : DistItem → Bool) (it : DistIt) :
    it.rest.filter pred = unroll (it.find pred) (fun it' => it'.rest.filter pred) :=
  findFuel_spec pred _ it it.rest_length_lt_budget

theorem rest_new (c2 : Pt) (bb : Rect) : (new c2 bb).rest = bb.points.map (item c2) := by
  unfold rest new
  rw [Rect.pointsIt_rest]

theorem filter_rest_new (c2 : Pt) (bb : Rect) (pred : DistItem → Bool) :
    ((new c2 bb).rest.filter pred).map (·.1) = bb.points.filter (fun p => pred (item c2 p)) := by
  rw [rest_new, List.filter_map, List.map_map]
  exact List.map_id _

/-- An iterator that `find`s with `pred` yields at most what its distance iterator has left: the
fuel `budget + 1` of the models' drains is enough. -/
theorem length_filter_le_budget (pred : DistItem → Bool) (it : DistIt) :
    (it.rest.filter pred).length ≤ it.points.budget + 1 :=
  Nat.le_succ_of_le (Nat.le_trans (List.length_filter_le _ _) (Nat.le_of_lt it.rest_length_lt_budget))

end DistIt

theorem PlaneSector.contains_of_entire {ps : PlaneSector} (h : ps.op = .entirePlane) (p : Pt) :
    ps.contains p = true := by
  unfold PlaneSector.contains PlaneSector.behindBisector
  simp [h, PlaneOp.execute]

namespace Sector

theorem center2x_eq (s : Sector) : s.center2x = s.toCircle.center2x := rfl
theorem boundingBox_eq (s : Sector) : s.boundingBox = s.toCircle.boundingBox := rfl

theorem contains_eq (s : Sector) (p : Pt) :
    s.contains p = (Circle.hit s.toCircle.center2x s.toCircle.threshold p.y p.x &&
      s.ps.contains ((⟨p.x * 2, p.y * 2⟩ : Pt) - s.toCircle.center2x)) := by
  unfold contains
  rw [Circle.contains_eq_hit s.toCircle p.x p.y, center2x_eq]
  cases Circle.hit s.toCircle.center2x s.toCircle.threshold p.y p.x <;> rfl

theorem contains_iff (s : Sector) (p : Pt) :
    s.contains p = true ↔ s.toCircle.contains p = true ∧
      s.ps.contains ((⟨p.x * 2, p.y * 2⟩ : Pt) - s.toCircle.center2x) = true := by
  rw [contains_eq, Bool.and_eq_true, ← Circle.contains_eq_hit]

theorem pred_item (s : Sector) (p : Pt) :
    s.pointsIt.pred (DistIt.item s.toCircle.center2x p) = s.contains p :=
  (contains_eq s p).symm

def PointsIt.rest (it : PointsIt) : List Pt := (it.iter.rest.filter it.pred).map (·.1)

theorem PointsIt.drains : Drains PointsIt.next PointsIt.toListFuel :=
  ⟨fun _ => rfl, fun n it => by rw [PointsIt.toListFuel]; cases it.next <;> rfl⟩

theorem PointsIt.yields : Yields PointsIt.next PointsIt.rest := by
  intro it
  unfold PointsIt.next PointsIt.rest
  rw [it.iter.find_spec it.pred]
  cases it.iter.find it.pred <;> rfl

/-- No range condition: the iterator walks `bounding_box().points()` itself, saturated or not; the
guard `Circle.InRange` enters only with membership (`mem_points`). -/
theorem points_eq_filter (s : Sector) : s.points = s.boundingBox.points.filter s.contains := by
  have h : s.points = s.pointsIt.rest := PointsIt.drains.eq_rest PointsIt.yields
    (by rw [PointsIt.rest, List.length_map]; exact DistIt.length_filter_le_budget _ _)
  exact h.trans ((DistIt.filter_rest_new _ _ _).trans (List.filter_congr fun p _ => pred_item s p))

theorem contains_imp_circle {s : Sector} {p : Pt} (h : s.contains p = true) :
    s.toCircle.contains p = true := ((contains_iff s p).mp h).1

/-- On a point of the circle, `contains` is the plane sector's test on `delta = 2p - center_2x`. -/
theorem contains_of_circle {s : Sector} {p : Pt} (hc : s.toCircle.contains p = true) :
    s.contains p = s.ps.contains ((⟨p.x * 2, p.y * 2⟩ : Pt) - s.toCircle.center2x) := by
  rw [contains_eq, ← Circle.contains_eq_hit, hc, Bool.true_and]

theorem contains_imp_bbox {s : Sector} {p : Pt} (h : s.contains p = true) :
    s.boundingBox.contains p = true := by
  rw [boundingBox_eq]; exact Circle.contains_imp_bbox (contains_imp_circle h)

theorem mem_points {s : Sector} (h : s.toCircle.InRange) {p : Pt} : p ∈ s.points ↔ s.contains p = true := by
  rw [points_eq_filter]
  exact Rect.mem_filter_points (B := s.boundingBox) h fun _ => contains_imp_bbox

theorem contains_entire {s : Sector} (h : s.ps.op = .entirePlane) (p : Pt) :
    s.contains p = s.toCircle.contains p := by
  rw [contains_eq, ← Circle.contains_eq_hit, PlaneSector.contains_of_entire h, Bool.and_true]

/-- The thresholds and the plane sector do not move and the item of the moved point keeps `delta`
and `distance`, so `contains` commutes with translation. -/
theorem contains_translate (s : Sector) (t p : Pt) :
    (s.translate t).contains (p + t) = s.contains p := by
  rw [← pred_item, ← pred_item]
  have hc := Circle.translate_center2x s.toCircle t
  rw [show (s.translate t).toCircle = s.toCircle.translate t from rfl, hc, DistIt.item_translate]
  rfl

end Sector

namespace Arc

theorem boundingBox_eq (a : Arc) : a.boundingBox = a.toCircle.boundingBox := rfl

/-- `circle.offset(-1)` keeps `center_2x` (when it is not empty) and has diameter `d - 2`:
its membership test is the inner threshold on the outer circle's distance. -/
theorem inner_contains_iff (c : Circle) (p : Pt) :
    (c.offset (-1)).contains p = true ↔ dist2 c.center2x p < ((c.offset (-1)).threshold : Int) := by
  have hd : (c.offset (-1)).d = c.d - 2 := by
    rw [Circle.offset_d, if_neg (by decide)]
    rfl
  by_cases h3 : 3 ≤ c.d
  · rw [Circle.contains_iff,
      Circle.offset_center2x c (-1) (by omega) (by omega) (fun h => absurd h (by decide))]
  · have h0 : (c.offset (-1)).d = 0 := by omega
    have hT : (c.offset (-1)).threshold = 0 := by
      unfold Circle.threshold; rw [h0]; rfl
    have := dist2_nonneg c.center2x p
    rw [Circle.contains_false_of_zero h0, hT]
    constructor
    · intro h; cases h
    · intro h; simp only [Nat.cast_zero] at h; omega

/-- The closure of `find` in `arc::Points::next` as a predicate on points (`pred_item`). -/
def accepts (a : Arc) (p : Pt) : Bool :=
  a.toCircle.contains p && !(a.toCircle.offset (-1)).contains p &&
    a.ps.contains ((⟨p.x * 2, p.y * 2⟩ : Pt) - a.toCircle.center2x)

theorem accepts_iff (a : Arc) (p : Pt) :
    a.accepts p = true ↔ a.toCircle.contains p = true ∧ (a.toCircle.offset (-1)).contains p = false ∧
      a.ps.contains ((⟨p.x * 2, p.y * 2⟩ : Pt) - a.toCircle.center2x) = true := by
  unfold accepts
  rw [Bool.and_eq_true, Bool.and_eq_true, Bool.not_eq_true', and_assoc]

theorem item_dist_ge (c : Circle) (p : Pt) :
    decide ((DistIt.item c.center2x p).2.2 ≥ (c.offset (-1)).threshold) = !(c.offset (-1)).contains p := by
  rw [Bool.eq_iff_iff]
  simp only [decide_eq_true_eq, Bool.not_eq_true', ← Bool.not_eq_true, inner_contains_iff]
  have h0 := dist2_nonneg c.center2x p
  have : ((DistIt.item c.center2x p).2.2 : Int) = dist2 c.center2x p := by
    unfold DistIt.item
    simp only [lengthSquared, Pt.sub_x, Pt.sub_y]
    unfold dist2 at h0 ⊢
    omega
  omega

theorem pred_item (a : Arc) (p : Pt) :
    a.pointsIt.pred (DistIt.item a.toCircle.center2x p) = a.accepts p := by
  unfold accepts PointsIt.pred pointsIt
  simp only
  rw [item_dist_ge, DistIt.item_dist_lt, DistIt.item_delta, ← Circle.contains_eq_hit]

def PointsIt.rest (it : PointsIt) : List Pt := (it.iter.rest.filter it.pred).map (·.1)

theorem PointsIt.drains : Drains PointsIt.next PointsIt.toListFuel :=
  ⟨fun _ => rfl, fun n it => by rw [PointsIt.toListFuel]; cases it.next <;> rfl⟩

theorem PointsIt.yields : Yields PointsIt.next PointsIt.rest := by
  intro it
  unfold PointsIt.next PointsIt.rest
  rw [it.iter.find_spec it.pred]
  cases it.iter.find it.pred <;> rfl

theorem points_eq_filter (a : Arc) : a.points = a.boundingBox.points.filter a.accepts := by
  have h : a.points = a.pointsIt.rest := PointsIt.drains.eq_rest PointsIt.yields
    (by rw [PointsIt.rest, List.length_map]; exact DistIt.length_filter_le_budget _ _)
  exact h.trans ((DistIt.filter_rest_new _ _ _).trans (List.filter_congr fun p _ => pred_item a p))

theorem accepts_entire {a : Arc} (h : a.ps.op = .entirePlane) (p : Pt) :
    a.accepts p = (a.toCircle.contains p && !(a.toCircle.offset (-1)).contains p) := by
  unfold accepts
  rw [PlaneSector.contains_of_entire h, Bool.and_true]

end Arc
end EG
