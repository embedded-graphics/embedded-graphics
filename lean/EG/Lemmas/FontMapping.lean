/-
  EG.Lemmas.FontMapping — `StrGlyphMapping`: `index` against the expanded character list; the
  character ranges in closed form, on either side of the surrogate gap and across it; glyph cells of
  indices below `glyphs_per_row * rows`.
-/
import EG.Model.Font
namespace EG
namespace Font

theorem findGo_eq (c : Nat) : ∀ (l : List Nat) (i : Nat),
    findGo c l i = if c ∈ l then some (i + l.idxOf c) else none
  | [], i => rfl
  | v :: vs, i => by
    rw [findGo, findGo_eq c vs (i + 1), List.idxOf_cons]
    by_cases h : c = v
    · simp [h]
    · have hb : (v == c) = false := beq_false_of_ne (Ne.symm h)
      simp only [h, ↓reduceIte, List.mem_cons, false_or, hb, cond_false, Nat.add_assoc, Nat.add_comm 1]

theorem index_eq (m : StrMapping) (c : Nat) :
    m.index c = if c ∈ expand m.data then (expand m.data).idxOf c else m.replacement := by
  unfold StrMapping.index
  rw [findGo_eq]
  by_cases h : c ∈ expand m.data <;> simp [h]

theorem index_getElem_of_nodup (m : StrMapping) (hn : (expand m.data).Nodup) (k : Nat)
    (hk : k < (expand m.data).length) : m.index ((expand m.data)[k]) = k := by
  rw [index_eq, if_pos (List.getElem_mem hk)]
  exact List.Nodup.idxOf_getElem hn k hk

theorem index_lt (m : StrMapping) (hr : m.replacement < (expand m.data).length) (c : Nat) :
    m.index c < (expand m.data).length := by
  rw [index_eq]
  split
  · exact List.idxOf_lt_length_of_mem ‹_›
  · exact hr

theorem expand_range (s e : Nat) (rest : List Nat) :
    expand (0 :: s :: e :: rest) = charRange s e ++ expand rest := by
  simp [expand]

theorem expand_char (c : Nat) (rest : List Nat) (h : c ≠ 0) : expand (c :: rest) = c :: expand rest := by
  cases c with
  | zero => exact absurd rfl h
  | succ n => simp [expand]

theorem expand_incomplete₁ : expand [0] = [] := by simp [expand]
theorem expand_incomplete₂ (s : Nat) : expand [0, s] = [] := by simp [expand]

def isSurrogate (c : Nat) : Prop := 0xD800 ≤ c ∧ c ≤ 0xDFFF
instance (c : Nat) : Decidable (isSurrogate c) := by unfold isSurrogate; exact inferInstance

/-- `RangeInclusive<char>` in closed form, for every pair of ends: `<char as Step>::forward` skips
U+D800 ..= U+DFFF, so a range that starts at or below U+D7FF and ends above it has two parts. -/
theorem charRangeGo_eq : ∀ (fuel cur e : Nat), e + 1 - cur ≤ fuel →
    charRangeGo fuel cur e =
      if cur ≤ 0xD7FF ∧ 0xD7FF < e then List.range' cur (0xD800 - cur) ++ List.range' 0xE000 (e + 1 - 0xE000)
      else List.range' cur (e + 1 - cur)
  | 0, cur, e, h => by
    have h0 : e + 1 - cur = 0 := by omega
    rw [if_neg (by omega), h0]; rfl
  | fuel + 1, cur, e, h => by
    unfold charRangeGo
    by_cases hlt : cur < e
    · rw [if_pos hlt, charRangeGo_eq fuel (nextScalar cur) e (by unfold nextScalar; split <;> omega)]
      unfold nextScalar
      by_cases h7 : cur = 0xD7FF
      · rw [if_pos h7, if_neg (by omega), if_pos (by omega), show 0xD800 - cur = 1 by omega,
          List.range'_one, List.singleton_append]
      · rw [if_neg h7]
        by_cases hc : cur ≤ 0xD7FF ∧ 0xD7FF < e
        · rw [if_pos hc, if_pos (by omega), show 0xD800 - cur = (0xD800 - (cur + 1)) + 1 by omega,
            List.range'_succ, List.cons_append]
        · rw [if_neg hc, if_neg (by omega), show e + 1 - cur = (e + 1 - (cur + 1)) + 1 by omega,
            List.range'_succ]
    · have hc : ¬ (cur ≤ 0xD7FF ∧ 0xD7FF < e) := by omega
      rw [if_neg hlt, if_neg hc]
      by_cases heq : cur = e
      · rw [if_pos heq, show e + 1 - cur = 1 by omega, List.range'_one]
      · rw [if_neg heq, show e + 1 - cur = 0 by omega]; rfl

theorem charRange_eq (s e : Nat) :
    charRange s e =
      if s ≤ 0xD7FF ∧ 0xD7FF < e then List.range' s (0xD800 - s) ++ List.range' 0xE000 (e + 1 - 0xE000)
      else List.range' s (e + 1 - s) :=
  charRangeGo_eq _ s e (Nat.le_refl _)

theorem mem_charRange (s e c : Nat) :
    c ∈ charRange s e ↔ s ≤ c ∧ c ≤ e ∧ ¬ (s ≤ 0xD7FF ∧ isSurrogate c) := by
  unfold isSurrogate
  rw [charRange_eq]
  split
  · rw [List.mem_append, List.mem_range'_1, List.mem_range'_1]; omega
  · rw [List.mem_range'_1]; omega

theorem charRange_nodup (s e : Nat) : (charRange s e).Nodup := by
  rw [charRange_eq]
  split
  · rw [List.nodup_append]
    refine ⟨List.nodup_range', List.nodup_range', fun a ha b hb => ?_⟩
    rw [List.mem_range'_1] at ha hb
    omega
  · exact List.nodup_range'

theorem glyphAreaOfIndex_eq (f : MonoFont) (gi : Nat) (hcw : 0 < f.cw) (hw : f.cw ≤ f.imgW) :
    f.glyphAreaOfIndex gi =
      ⟨⟨((gi % (f.imgW / f.cw) * f.cw : Nat) : Int), ((gi / (f.imgW / f.cw) * f.ch : Nat) : Int)⟩,
        ⟨f.cw, f.ch⟩⟩ := by
  unfold MonoFont.glyphAreaOfIndex
  rw [if_neg (by omega), Nat.mod_def, Nat.mul_comm (f.imgW / f.cw)]

theorem areaDrawable_iff (f : MonoFont) (a : Rect) :
    f.areaDrawable a = true ↔
      0 < a.size.w ∧ 0 < a.size.h ∧ 0 ≤ a.tl.x ∧ 0 ≤ a.tl.y ∧
      a.tl.x.toNat + a.size.w ≤ f.imgW ∧ a.tl.y.toNat + a.size.h ≤ f.imgH := by
  simp only [MonoFont.areaDrawable, Rect.isZeroSized, Bool.not_eq_true', Bool.or_eq_false_iff,
    decide_eq_false_iff_not, beq_eq_false_iff_ne, ne_eq, Int.not_lt, Nat.not_lt, Nat.pos_iff_ne_zero, and_assoc]
  exact and_left_comm

/-- `MonoFont::glyph` returns a character cell, or `Rectangle::zero()` for a font without a full cell. -/
theorem glyphArea_size (f : MonoFont) (c : Nat) :
    (f.glyphArea c).size = ⟨0, 0⟩ ∨ (f.glyphArea c).size = ⟨f.cw, f.ch⟩ := by
  unfold MonoFont.glyphArea MonoFont.glyphAreaOfIndex
  split
  · exact Or.inl rfl
  · exact Or.inr rfl

theorem glyphArea_size_of_drawable (f : MonoFont) (c : Nat) (h : f.areaDrawable (f.glyphArea c) = true) :
    (f.glyphArea c).size = ⟨f.cw, f.ch⟩ := by
  rcases glyphArea_size f c with hs | hs
  · rw [areaDrawable_iff, hs] at h; exact absurd h.1 (Nat.lt_irrefl 0)
  · exact hs

theorem cell_le (W c g i : Nat) (hg : g * c ≤ W) (hi : i < g) : i * c + c ≤ W :=
  Nat.le_trans (Nat.succ_mul i c ▸ Nat.mul_le_mul_right c hi) hg

theorem cell_inside_of_lt (f : MonoFont) (gi : Nat) (h : gi < (f.imgW / f.cw) * (f.imgH / f.ch)) :
    f.areaDrawable (f.glyphAreaOfIndex gi) = true := by
  have hg : 0 < f.imgW / f.cw :=
    Nat.pos_of_ne_zero (fun h0 => by rw [h0, Nat.zero_mul] at h; exact Nat.not_lt_zero _ h)
  -- a zero character width or height makes the quotient, hence the number of cells, zero
  have hcw : 0 < f.cw := Nat.pos_of_ne_zero (fun h0 => by rw [h0, Nat.div_zero] at hg; exact Nat.lt_irrefl 0 hg)
  have hch : 0 < f.ch :=
    Nat.pos_of_ne_zero (fun h0 => by rw [h0, Nat.div_zero, Nat.mul_zero] at h; exact Nat.not_lt_zero _ h)
  have hw : f.cw ≤ f.imgW := by
    rcases Nat.lt_or_ge f.imgW f.cw with hlt | hge
    · rw [Nat.div_eq_of_lt hlt] at hg; omega
    · exact hge
  have hx := cell_le f.imgW f.cw _ _ (Nat.div_mul_le_self _ _) (Nat.mod_lt gi hg)
  have hy := cell_le f.imgH f.ch _ _ (Nat.div_mul_le_self _ _)
    ((Nat.div_lt_iff_lt_mul hg).mpr (Nat.mul_comm _ _ ▸ h))
  rw [glyphAreaOfIndex_eq f gi hcw hw, areaDrawable_iff]
  simp only [Int.toNat_natCast]
  omega

end Font
end EG
