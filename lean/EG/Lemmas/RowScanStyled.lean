/-
  EG.Lemmas.RowScanStyled — what the styled circle, ellipse and rounded rectangle have in common:
  `StyledScanlines::next` builds `StyledScanline::new(y, stroke_range, fill_range)` with the fill range
  searched inside the stroke scanline. When that search is correct (`IsStyledRun`) the coloured points
  of the styled scanlines are: the fill colour on the stroke hits that are fill hits, the stroke colour
  on the other stroke hits — for any two tests. `StyledLines` is what the renderers need of the two
  scanline lists of a styled shape; from it, what `draw_styled` (`scanDraw`) and `pixels()` write, and,
  when the fill area lies in the stroke area, the colour the property text prescribes
  (`StyledLines.styledPicture`; `scanExpected`: EG/Lemmas/StyledPicture.lean). Circle and ellipse
  search the fill range "first hit .. mirrored" (`styleRow`); their scanline lists commute with
  translation.
-/
import EG.Lemmas.RowScan
import EG.Lemmas.ScanlineTranslate
import EG.Lemmas.StyledPicture
namespace EG

/-- `l` is the styled scanline of the stroke-area scanline `s` for the fill test `hitF`: same row and
stroke range; the fill range lies within it (at its right end when `s` is empty) and holds exactly
the points of `s` that pass `hitF`. -/
structure IsStyledRun (hitF : Int → Int → Bool) (s : Scanline) (l : StyledScanline) : Prop where
  y_eq : l.y = s.y
  ss_eq : l.ss = s.xs
  se_eq : l.se = s.xe
  ord : (s.xs ≤ l.fs ∨ l.fs = s.xe) ∧ l.fs ≤ l.fe ∧ l.fe ≤ s.xe
  fill : ∀ x, s.xs ≤ x → x < s.xe → (hitF s.y x = true ↔ l.fs ≤ x ∧ x < l.fe)

namespace IsStyledRun
variable {hit hitF : Int → Int → Bool} {s : Scanline} {l : StyledScanline}

/-- `StyledScanline::new` with a correctly searched fill range (`None` puts an empty fill range at
the right end). -/
theorem of_hitRange {o : Option (Int × Int)} (h : IsHitRange (hitF s.y) s.xs s.xe o) :
    IsStyledRun hitF s (StyledScanline.new s.y s.xs s.xe o) := by
  cases o with
  | none =>
    refine ⟨rfl, rfl, rfl, ⟨Or.inr rfl, Int.le_refl _, Int.le_refl _⟩, fun x h1 h2 => ?_⟩
    rw [h x h1 h2]
    simp only [StyledScanline.new, Bool.false_eq_true, false_iff]
    omega
  | some r =>
    obtain ⟨h1, h2, h3, h4⟩ := h
    exact ⟨rfl, rfl, rfl, ⟨Or.inl h1, Int.le_of_lt h2, h3⟩, h4⟩

theorem wf (h : IsStyledRun hitF s l) {B : Rect} (hB : B.InRange)
    (hy : B.tl.y ≤ s.y ∧ s.y < B.tl.y + B.size.h)
    (hc : B.tl.x ≤ s.xs ∧ s.xs ≤ B.tl.x + B.size.w ∧ B.tl.x ≤ s.xe ∧ s.xe ≤ B.tl.x + B.size.w) :
    l.WF := by
  obtain ⟨e1, e2, e3, o1, _⟩ := h
  -- the ends of the fill part lie between the ends of the stroke part, or both at its right end
  have hf : (B.tl.x ≤ l.fs ∧ l.fs ≤ B.tl.x + B.size.w) ∧ (B.tl.x ≤ l.fe ∧ l.fe ≤ B.tl.x + B.size.w) := by
    omega
  rw [← e1] at hy
  rw [← e2, ← e3] at hc
  exact ⟨Scanline.wf_of_within hB hy ⟨hc.1, hc.2.1⟩ hf.1, Scanline.wf_of_within hB hy hf.1 hf.2,
    Scanline.wf_of_within hB hy hf.2 hc.2.2⟩

theorem mem_pixelsSpec {xs xe y : Int} (hs : IsRun hit xs xe y s) (hl : IsStyledRun hitF s l)
    (scol fcol : Option Color) (p : Pt) (col : Color) :
    (p, col) ∈ l.pixelsSpec scol fcol ↔ p.y = y ∧
      ((hit y p.x = true ∧ hitF y p.x = true ∧ fcol = some col) ∨
       (hit y p.x = true ∧ hitF y p.x = false ∧ scol = some col)) := by
  obtain ⟨e1, e2, e3, o1, hf⟩ := hl
  rw [StyledScanline.mem_pixelsSpec, e1, e2, e3, hs.y_eq, hs.hits]
  rw [hs.y_eq] at hf
  apply and_congr_right
  intro _
  by_cases hin : s.xs ≤ p.x ∧ p.x < s.xe
  · have := hf p.x hin.1 hin.2
    rw [Bool.eq_false_iff, Ne, this]
    constructor
    · rintro (⟨hc, hx⟩ | ⟨hc, hx⟩)
      · exact Or.inr ⟨hin, by omega, hc⟩
      · exact Or.inl ⟨hin, hx, hc⟩
    · rintro (⟨_, hx, hc⟩ | ⟨_, hx, hc⟩)
      · exact Or.inr ⟨hc, hx⟩
      · exact Or.inl ⟨hc, by omega⟩
  · constructor
    · rintro (⟨_, hx⟩ | ⟨_, hx⟩) <;> omega
    · rintro (⟨hx, _⟩ | ⟨hx, _⟩) <;> exact absurd hx hin

/-- When the fill test lies inside the stroke test the fill range is exact in the whole row. -/
theorem fill_iff {xs xe y : Int} (hs : IsRun hit xs xe y s) (hl : IsStyledRun hitF s l)
    (hsub : ∀ x, hitF y x = true → hit y x = true) (x : Int) :
    hitF y x = true ↔ l.fs ≤ x ∧ x < l.fe := by
  have ho := hl.ord
  rw [← hs.y_eq]
  by_cases hin : s.xs ≤ x ∧ x < s.xe
  · exact hl.fill x hin.1 hin.2
  · constructor
    · intro hx
      rw [hs.y_eq] at hx
      exact absurd ((hs.hits x).mp (hsub x hx)) hin
    · intro hx; omega

end IsStyledRun

namespace RowScan
variable {hit hitF : Int → Int → Bool} {xs xe ys ye : Int} {row : Int → Option Scanline}
  {style : Scanline → StyledScanline}

/-- No relation between the stroke test and the fill test is assumed. -/
theorem mem_pixelsSpec_iff (hS : RowScan hit xs xe ys ye row)
    (hst : ∀ s ∈ rowLines row ys ye, IsStyledRun hitF s (style s))
    (scol fcol : Option Color) (p : Pt) (col : Color) :
    (p, col) ∈ pixelsSpec scol fcol ((rowLines row ys ye).map style) ↔
      (hit p.y p.x = true ∧ hitF p.y p.x = true ∧ fcol = some col) ∨
      (hit p.y p.x = true ∧ hitF p.y p.x = false ∧ scol = some col) := by
  rw [mem_pixelsSpec]
  constructor
  · rintro ⟨l, hl, hm⟩
    obtain ⟨s, hs, rfl⟩ := List.mem_map.mp hl
    obtain ⟨_, _, hrun⟩ := hS.isRun_of_mem hs
    obtain ⟨hy, hm⟩ := ((hst s hs).mem_pixelsSpec hrun scol fcol p col).mp hm
    rw [hy]
    exact hm
  · intro h
    have hSp : hit p.y p.x = true := by
      rcases h with ⟨hs, _⟩ | ⟨hs, _⟩ <;> exact hs
    obtain ⟨s, hs, hrun⟩ := hS.exists_mem_of_hit hSp
    exact ⟨style s, List.mem_map.mpr ⟨s, hs, rfl⟩,
      ((hst s hs).mem_pixelsSpec hrun scol fcol p col).mpr ⟨rfl, h⟩⟩

theorem mem_fill_iff (hS : RowScan hit xs xe ys ye row) (fc : Color) (p : Pt) (col : Color) :
    (p, col) ∈ (rowLines row ys ye).flatMap (fun l => l.points.map (fun q => (q, fc))) ↔
      hit p.y p.x = true ∧ fc = col := by
  rw [← hS.mem_points_iff]
  simp only [List.mem_flatMap, List.mem_map, Prod.mk.injEq]
  constructor
  · rintro ⟨s, hs, q, hq, rfl, rfl⟩; exact ⟨⟨s, hs, hq⟩, rfl⟩
  · rintro ⟨⟨s, hs, hq⟩, rfl⟩; exact ⟨s, hs, p, hq, rfl, rfl⟩

/-- The scanlines found lie in the box, so their rectangles do not saturate when the box does not. -/
theorem wf_of_mem (hS : RowScan hit xs xe ys ye row) {w h : Nat} (hB : (⟨⟨xs, ys⟩, ⟨w, h⟩⟩ : Rect).InRange)
    (hw : xe = xs + w) (hh : ye = ys + h) {s : Scanline} (hs : s ∈ rowLines row ys ye) : s.WF := by
  obtain ⟨a1, a2, hrun⟩ := hS.isRun_of_mem hs
  obtain ⟨b1, b2, b3, b4⟩ := hrun.inCols
  exact Scanline.wf_of_within hB ⟨a1, by dsimp only; omega⟩ ⟨b1, by dsimp only; omega⟩
    ⟨b3, by dsimp only; omega⟩

theorem styled_wf_of_mem (hS : RowScan hit xs xe ys ye row)
    (hst : ∀ s ∈ rowLines row ys ye, IsStyledRun hitF s (style s)) {w h : Nat}
    (hB : (⟨⟨xs, ys⟩, ⟨w, h⟩⟩ : Rect).InRange) (hw : xe = xs + w) (hh : ye = ys + h)
    {l : StyledScanline} (hl : l ∈ (rowLines row ys ye).map style) : l.WF := by
  obtain ⟨s, hs, rfl⟩ := List.mem_map.mp hl
  obtain ⟨a1, a2, hrun⟩ := hS.isRun_of_mem hs
  obtain ⟨b1, b2, b3, b4⟩ := hrun.inCols
  exact (hst s hs).wf hB ⟨a1, by dsimp only; omega⟩
    ⟨b1, by dsimp only; omega, b3, by dsimp only; omega⟩

end RowScan

/-- The closure of `.map(|scanline| ..)` in `StyledScanlines::next` of circle and ellipse: the fill
range is searched "first hit .. mirrored" within the stroke scanline. -/
def styleRow (hitF : Int → Int → Bool) (s : Scanline) : StyledScanline :=
  StyledScanline.new s.y s.xs s.xe (mirroredRange (hitF s.y) s.xs s.xe)

/-- That search is correct for a fill test symmetric and convex about the middle of the columns: the
stroke scanlines found are centred there. -/
theorem ScanShape.styleRow_isStyledRun {hit hitF : Int → Int → Bool} {xs xe ys ye : Int}
    (h : ScanShape hit xs xe ys ye) (hF : ∀ y, SymConvex (hitF y) xs xe) :
    ∀ s ∈ rowLines (scanRow hit xs xe) ys ye, IsStyledRun hitF s (styleRow hitF s) := fun s hs =>
  .of_hitRange (mirroredRange_isHitRange ((hF s.y).of_sum_eq (h.scanRow_some_of_mem hs).2))

theorem scanRow_shift {hit hit' : Int → Int → Bool} (d : Pt)
    (h : ∀ y x, hit' (y + d.y) (x + d.x) = hit y x) (xs xe y : Int) :
    scanRow hit' (xs + d.x) (xe + d.x) (y + d.y) = (scanRow hit xs xe y).map (Scanline.shift d) := by
  unfold scanRow
  rw [mirroredRange_shift d.x (p := hit y) (h y)]
  cases mirroredRange (hit y) xs xe <;> rfl

theorem rowLines_scanRow_shift {hit hit' : Int → Int → Bool} (d : Pt)
    (h : ∀ y x, hit' (y + d.y) (x + d.x) = hit y x) (xs xe ys ye : Int) :
    rowLines (scanRow hit' (xs + d.x) (xe + d.x)) (ys + d.y) (ye + d.y) =
      (rowLines (scanRow hit xs xe) ys ye).map (Scanline.shift d) := by
  unfold rowLines
  rw [irange_shift, List.filterMap_map, List.map_filterMap]
  exact filterMap_congr' _ (fun y _ => scanRow_shift d h xs xe y)

theorem styleRow_shift {hitF hitF' : Int → Int → Bool} (d : Pt)
    (h : ∀ y x, hitF' (y + d.y) (x + d.x) = hitF y x) (s : Scanline) :
    styleRow hitF' (s.shift d) = (styleRow hitF s).shift d := by
  unfold styleRow
  rw [← StyledScanline.new_shift]
  unfold Scanline.shift
  dsimp only
  rw [mirroredRange_shift d.x (p := hitF s.y) (h s.y)]

/-- The target calls of `draw_styled` of a scanline-based shape: `esc` is
`effective_stroke_color()`, `fc` the fill colour, `lines` what the `for` loop over
`StyledScanlines::new(stroke_area, fill_area)` sees, `fillLines` what the loop over
`Scanlines::new(fill_area)` sees. -/
def scanDraw (esc fc : Option Color) (lines : List StyledScanline) (fillLines : List Scanline) : List Call :=
  match esc, fc with
  | some sc, none => drawLines sc none lines
  | some sc, some fc => drawLines sc (some fc) lines
  | none, some fc => drawFillLines fc fillLines
  | none, none => []

theorem scanDraw_shift (d : Pt) (esc fc : Option Color) (lines : List StyledScanline)
    (fillLines : List Scanline) :
    scanDraw esc fc (lines.map (StyledScanline.shift d)) (fillLines.map (Scanline.shift d)) =
      (scanDraw esc fc lines fillLines).map (Call.translate d) := by
  unfold scanDraw
  cases esc with
  | some sc => cases fc <;> exact drawLines_shift d sc _ lines
  | none =>
    cases fc with
    | some fc => exact drawFillLines_shift d fc fillLines
    | none => rfl

theorem Scanline.draw_in_range {s : Scanline} (h : s.WF) (col : Color) :
    ∀ c ∈ s.draw col, ∃ a col, c = Call.fillSolid a col ∧ a.InRange := by
  intro c hc
  unfold Scanline.draw at hc
  split at hc
  · cases hc
  · rw [List.mem_singleton] at hc
    exact ⟨_, col, hc, h⟩

/-- Every call of `draw_styled` is a `fill_solid` of the rectangle of one of the scanlines walked:
inside the `i32` range when they are well formed. -/
theorem scanDraw_in_range {esc fc : Option Color} {lines : List StyledScanline}
    {fillLines : List Scanline} (hwf : ∀ l ∈ lines, l.WF) (hwff : ∀ l ∈ fillLines, l.WF) :
    ∀ c ∈ scanDraw esc fc lines fillLines, ∃ a col, c = Call.fillSolid a col ∧ a.InRange := by
  unfold scanDraw
  split
  · exact List.forall_mem_flatMap.mpr fun l hl => List.forall_mem_append.mpr
      ⟨Scanline.draw_in_range (hwf l hl).1 _, Scanline.draw_in_range (hwf l hl).2.2 _⟩
  · exact List.forall_mem_flatMap.mpr fun l hl => List.forall_mem_append.mpr
      ⟨List.forall_mem_append.mpr
        ⟨Scanline.draw_in_range (hwf l hl).1 _, Scanline.draw_in_range (hwf l hl).2.1 _⟩,
        Scanline.draw_in_range (hwf l hl).2.2 _⟩
  · exact List.forall_mem_flatMap.mpr fun l hl => Scanline.draw_in_range (hwff l hl) _
  · intro c hc; cases hc

/-- In-range fills saturate on no target: the side condition of `picture_translate`. -/
theorem ok_of_fills {calls : List Call}
    (h : ∀ c ∈ calls, ∃ a col, c = Call.fillSolid a col ∧ a.InRange) (B : Rect) :
    ∀ c ∈ calls, c.Ok B := fun c hc => by
  obtain ⟨a, col, rfl, ha⟩ := h c hc
  exact Or.inr ha

/-- What the exactness theorems need of the two scanline lists of a styled shape whose stroke area
has the test `S` and whose fill area has the test `F` (any two tests: `F` need not lie in `S`). -/
structure StyledLines (S F : Pt → Bool) (lines : List StyledScanline) (fillLines : List Scanline) : Prop where
  mem_lines : ∀ (scol fcol : Option Color) (p : Pt) (col : Color),
    (p, col) ∈ pixelsSpec scol fcol lines ↔
      (S p = true ∧ F p = true ∧ fcol = some col) ∨ (S p = true ∧ F p = false ∧ scol = some col)
  mem_fill : ∀ (fc : Color) (p : Pt) (col : Color),
    (p, col) ∈ fillLines.flatMap (fun l => l.points.map (fun q => (q, fc))) ↔ F p = true ∧ fc = col
  wf : ∀ l ∈ lines, l.WF
  wff : ∀ l ∈ fillLines, l.WF

/-- Two correct row searches and a correct fill search give the styled lines of the two tests
(`hitF` is the fill test as the styled scanlines evaluate it, `hitF'` as the fill area's own scanlines
do: circle and ellipse use the stroke area's centre in the former). -/
theorem StyledLines.of_rowScan {S F : Pt → Bool} {hit hitF hitF' : Int → Int → Bool}
    {xs xe ys ye fxs fxe fys fye : Int}
    {row rowF : Int → Option Scanline} {style : Scanline → StyledScanline} {w h fw fh : Nat}
    (hS : RowScan hit xs xe ys ye row) (hst : ∀ s ∈ rowLines row ys ye, IsStyledRun hitF s (style s))
    (hF : RowScan hitF' fxs fxe fys fye rowF)
    (eS : ∀ p, hit p.y p.x = S p) (eF : ∀ p, hitF p.y p.x = F p) (eF' : ∀ p, hitF' p.y p.x = F p)
    (hB : (⟨⟨xs, ys⟩, ⟨w, h⟩⟩ : Rect).InRange) (hw : xe = xs + w) (hh : ye = ys + h)
    (hBF : (⟨⟨fxs, fys⟩, ⟨fw, fh⟩⟩ : Rect).InRange) (hfw : fxe = fxs + fw) (hfh : fye = fys + fh) :
    StyledLines S F ((rowLines row ys ye).map style) (rowLines rowF fys fye) :=
  ⟨fun scol fcol p col => by rw [hS.mem_pixelsSpec_iff hst, eS, eF],
    fun fc p col => by rw [hF.mem_fill_iff, eF'],
    fun _ hl => hS.styled_wf_of_mem hst hB hw hh hl, fun _ hl => hF.wf_of_mem hBF hfw hfh hl⟩

namespace StyledLines
variable {S F : Pt → Bool} {lines : List StyledScanline} {fillLines : List Scanline}

theorem mem_draw_all (h : StyledLines S F lines fillLines) (esc fc : Option Color) (B : Rect) (p : Pt)
    (col : Color) :
    (p, col) ∈ (scanDraw esc fc lines fillLines).flatMap (Call.lowerNative B) ↔
      match esc with
      | some sc => (S p = true ∧ F p = true ∧ fc = some col) ∨ (S p = true ∧ F p = false ∧ sc = col)
      | none => F p = true ∧ fc = some col := by
  unfold scanDraw
  cases esc with
  | none =>
    cases fc with
    | none => simp
    | some fc =>
      simp only
      rw [drawFillLines_lowerNative fc _ h.wff, h.mem_fill]
      simp
  | some sc =>
    cases fc with
    | none =>
      simp only
      rw [drawLines_lowerNative sc none _ h.wf, h.mem_lines]
      simp
    | some fc =>
      simp only
      rw [drawLines_lowerNative sc (some fc) _ h.wf, h.mem_lines]
      simp

/-- `pixels()` uses `stroke_color`, not the effective one: no case on the width here. -/
theorem mem_pixels_all (h : StyledLines S F lines fillLines) (sc fc : Option Color) (p : Pt) (col : Color) :
    (p, col) ∈ (StyledPixelsIt.new lines sc fc).toList ↔
      (S p = true ∧ F p = true ∧ fc = some col) ∨ (S p = true ∧ F p = false ∧ sc = some col) := by
  rw [StyledPixelsIt.toList_new, h.mem_lines]

/-- When the fill area lies in the stroke area, `draw()` writes the colours the property text
prescribes (`scanExpected`). -/
theorem mem_draw_iff (h : StyledLines S F lines fillLines) (hsub : ∀ p, F p = true → S p = true)
    (sc fc : Option Color) (w : Nat) (B : Rect) (p : Pt) (col : Color) :
    (p, col) ∈ (scanDraw (if w > 0 then sc else none) fc lines fillLines).flatMap (Call.lowerNative B) ↔
      scanExpected sc fc w S F p = some col := by
  rw [h.mem_draw_all, scanExpected_eq_some]
  have hs := hsub p
  by_cases hw : w > 0
  · rw [if_pos hw]
    cases sc with
    | none => simp
    | some sc =>
      simp only [hw, true_and, Option.some.injEq]
      constructor
      · rintro (⟨_, h2, h3⟩ | hr)
        · exact Or.inl ⟨h2, h3⟩
        · exact Or.inr hr
      · rintro (⟨h2, h3⟩ | hr)
        · exact Or.inl ⟨hs h2, h2, h3⟩
        · exact Or.inr hr
  · simp [hw]

/-- So does `pixels()`, although it does not look at the width: at width 0 the two areas coincide
(`h0`). -/
theorem mem_pixels_iff (h : StyledLines S F lines fillLines) (hsub : ∀ p, F p = true → S p = true)
    (sc fc : Option Color) (w : Nat) (h0 : w = 0 → S = F) (p : Pt) (col : Color) :
    (p, col) ∈ (StyledPixelsIt.new lines sc fc).toList ↔ scanExpected sc fc w S F p = some col := by
  rw [h.mem_pixels_all, scanExpected_eq_some_iff_pixel (hsub p) h0]
  by_cases hf : F p = true <;> simp [hf]

theorem styledPicture (h : StyledLines S F lines fillLines) (hsub : ∀ p, F p = true → S p = true)
    {bb : Rect} (hbox : ∀ p, S p = true → bb.contains p = true) (sc fc : Option Color) (w : Nat) :
    StyledPicture (scanDraw (if w > 0 then sc else none) fc lines fillLines) sc fc w S F bb := by
  refine ⟨fun B p => ?_, hsub, hbox⟩
  unfold runNative
  rw [flatMap_writesNative]
  exact apply_clip_eq_of_mem_iff _ _ (h.mem_draw_iff hsub sc fc w B) B p

/-- Whatever is painted lies in the stroke area or in the fill area (no hypothesis on the two). -/
theorem drawn_in_areas (h : StyledLines S F lines fillLines) (esc fc : Option Color) (B : Rect) (p : Pt)
    (hp : runNative B (scanDraw esc fc lines fillLines) p ≠ none) : S p = true ∨ F p = true := by
  unfold runNative at hp
  rw [flatMap_writesNative] at hp
  obtain ⟨c, hc⟩ : ∃ c, (p, c) ∈ clipWrites B ((scanDraw esc fc lines fillLines).flatMap (Call.lowerNative B)) := by
    apply Classical.byContradiction
    intro hn
    exact hp (Scan.apply_untouched _ PMap.empty p (fun c hc => hn ⟨c, hc⟩))
  rw [mem_clipWrites, h.mem_draw_all] at hc
  cases esc with
  | none => exact Or.inr hc.1.1
  | some sc => rcases hc.1 with ⟨hs, _⟩ | ⟨hs, _⟩ <;> exact Or.inl hs

end StyledLines

end EG
