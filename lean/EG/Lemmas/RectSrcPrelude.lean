/-
  EG.Lemmas.RectSrcPrelude — equations for the primitives of EG/Model/RectSrcPrelude.lean, the prelude
  that translated Rust code is written in.

  The prelude's `as` casts, `Range::next` and `/` are `abbrev`s with an `if` (or `Int.tdiv`) inside. A proof about
  translated code that has established which case it is in rewrites with the equation of that case.

  A translated `while c { body }` is `while_loop fuel c body s`. Three equations are its rounds: the condition
  fails, the body returns, the body falls through to the next round. A proof about a translated loop names the round it
  is in and evaluates the body there; the loop itself stays folded.
-/
import EG.Model.RectSrcPrelude
namespace EG.RectSrcPrelude

theorem i32_as_u32_of_nonneg {a : Int} (h : 0 ≤ a) : i32_as_u32 a = a.toNat := if_pos h

theorem range_i32_next_of_lt {r : RangeI32} (h : r.start < r.end_) :
    range_i32_next r = (some r.start, ⟨r.start + 1, r.end_⟩) := if_pos h

theorem range_i32_next_of_not_lt {r : RangeI32} (h : ¬ r.start < r.end_) : range_i32_next r = (none, r) := if_neg h

/-- Rust `/ 2` on `i32` (`i32_div a 2`, unfolded: truncation toward zero) is the model's `tdiv2`. -/
theorem i32_div_two (a : Int) : Int.tdiv a 2 = tdiv2 a := by
  unfold tdiv2
  split
  · rename_i h; exact Int.tdiv_eq_ediv_of_nonneg h
  · rename_i h
    have : a = -(-a) := by omega
    rw [this, Int.neg_tdiv, Int.tdiv_eq_ediv_of_nonneg (by omega)]
    simp

variable {σ ρ : Type} {c : σ → Bool} {b : σ → LoopStep σ ρ} {s s' : σ} {r : ρ}

theorem while_loop_exit (n : Nat) (h : c s = false) : while_loop (n + 1) c b s = some (.continue_ s) := by
  rw [while_loop, h]
  rfl

theorem while_loop_return (n : Nat) (h : c s = true) (hb : b s = .return_ r) :
    while_loop (n + 1) c b s = some (.return_ r) := by
  rw [while_loop, if_pos h, hb]

theorem while_loop_continue (n : Nat) (h : c s = true) (hb : b s = .continue_ s') :
    while_loop (n + 1) c b s = while_loop n c b s' := by
  rw [while_loop, if_pos h, hb]

theorem while_loop_congr (B B' : σ → LoopStep σ ρ) (h : ∀ s, B s = B' s) (n : Nat) (c : σ → Bool) (s : σ) :
    while_loop n c B s = while_loop n c B' s := by
  rw [funext h]

end EG.RectSrcPrelude
