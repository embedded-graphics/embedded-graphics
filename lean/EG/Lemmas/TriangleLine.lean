/-
  EG.Lemmas.TriangleLine — what the triangle rasteriser needs from `bresenham_intersection`
  (the rows of a line: EG.Lemmas.LineRows; the edges of a `(y, x)`-sorted triangle run downwards,
  some edges of the one-pixel outline upwards):
  * on a list with monotone rows `skip_while(p.y != y).take_while(p.y == y)` is `filter (p.y == y)`;
  * `bresenham_intersection` extends the scanline by exactly the pixels of the line in its row
    (`bint_eq_extendAll`; `extend` / `extendAll`: EG.Lemmas.Scanline), so the scanline of one line
    covers exactly those pixels (`edgeSpan_covers_iff`).
-/
import EG.Lemmas.LineRows
import EG.Model.Triangle
import EG.Lemmas.Scanline
namespace EG

theorem takeWhile_eq_filter_of_ge {α : Type} (key : α → Int) (c : Int) : ∀ (l : List α),
    l.Pairwise (fun a b => key a ≤ key b) → (∀ p ∈ l, c ≤ key p) →
    l.takeWhile (fun p => key p == c) = l.filter (fun p => key p == c) := by
  intro l
  induction l with
  | nil => intro _ _; rfl
  | cons a l ih =>
    intro hp hge
    rw [List.pairwise_cons] at hp
    by_cases ha : key a = c
    · have : (key a == c) = true := by simpa using ha
      rw [List.takeWhile_cons, List.filter_cons]
      simp only [this, ↓reduceIte]
      rw [ih hp.2 (fun p hp' => hge p (List.mem_cons_of_mem _ hp'))]
    · have hf : (key a == c) = false := by simpa using ha
      rw [List.takeWhile_cons, List.filter_cons]
      simp only [hf, Bool.false_eq_true, ↓reduceIte]
      symm
      rw [List.filter_eq_nil_iff]
      intro p hp'
      have h1 := hp.1 p hp'
      have h2 := hge a List.mem_cons_self
      simp only [beq_iff_eq]; omega

theorem dropTake_eq_filter {α : Type} (key : α → Int) (c : Int) : ∀ (l : List α),
    l.Pairwise (fun a b => key a ≤ key b) →
    (l.dropWhile (fun p => key p != c)).takeWhile (fun p => key p == c) =
      l.filter (fun p => key p == c) := by
  intro l
  induction l with
  | nil => intro _; rfl
  | cons a l ih =>
    intro hp
    have hp' := hp
    rw [List.pairwise_cons] at hp
    by_cases ha : key a = c
    · have h1 : (key a != c) = false := by simp [ha]
      rw [List.dropWhile_cons]
      simp only [h1, Bool.false_eq_true, ↓reduceIte]
      apply takeWhile_eq_filter_of_ge key c _ hp'
      intro p hp''
      rcases List.mem_cons.mp hp'' with rfl | hm
      · omega
      · have := hp.1 p hm; omega
    · have h1 : (key a != c) = true := by simp [ha]
      have h2 : (key a == c) = false := by simpa using ha
      rw [List.dropWhile_cons, List.filter_cons]
      simp only [h1, h2, ↓reduceIte, Bool.false_eq_true]
      exact ih hp.2

namespace Scanline

def rowPixels (l : Line) (y : Int) : List Pt := (Line.points l).filter (fun p => p.y == y)

theorem mem_rowPixels {l : Line} {y : Int} {q : Pt} :
    q ∈ rowPixels l y ↔ q ∈ Line.points l ∧ q.y = y := by
  unfold rowPixels; simp

/-- `bresenham_intersection` extends the scanline by exactly the pixels of the line in its row: the
rows along the line are monotone, so `skip_while` / `take_while` select them all, and the guard on
the row range is redundant (outside it there is no such pixel). -/
theorem bint_eq_extendAll (s : Scanline) (l : Line) : s.bint l = s.extendAll (rowPixels l s.y) := by
  unfold bint bresenhamIntersection
  dsimp only
  have hsel : ((Line.points l).dropWhile (fun p => p.y != s.y)).takeWhile (fun p => p.y == s.y) =
      rowPixels l s.y := by
    by_cases hd : 0 ≤ Line.dyOf l
    · exact dropTake_eq_filter (fun p : Pt => p.y) s.y _ ((Line.points_pairwise_y l).1 hd)
    · have h := dropTake_eq_filter (fun p : Pt => -p.y) (-s.y) _ ((Line.points_pairwise_y l).2 (by omega))
      have e1 : (fun p : Pt => -p.y != -s.y) = fun p => p.y != s.y := by
        funext p; rw [Bool.eq_iff_iff]; simp
      have e2 : (fun p : Pt => -p.y == -s.y) = fun p => p.y == s.y := by
        funext p; rw [Bool.eq_iff_iff]; simp
      rw [e1, e2] at h
      exact h
  rw [hsel]
  -- outside the row range of the line no pixel of it is in the row
  generalize hin : (if l.start.y ≤ l.stop.y then decide (l.start.y ≤ s.y ∧ s.y ≤ l.stop.y)
    else decide (l.stop.y ≤ s.y ∧ s.y ≤ l.start.y)) = inY
  cases inY
  · have : rowPixels l s.y = [] := by
      unfold rowPixels
      rw [List.filter_eq_nil_iff]
      intro p hp
      have hb := Line.mem_points_rows hp
      simp only [beq_iff_eq]
      intro e
      rw [e] at hb
      split at hin <;> simp at hin <;> omega
    rw [this]; rfl
  · rfl

theorem edgeSpan_covers_iff (l : Line) (y x : Int) :
    ((newEmpty y).bint l).Covers x ↔ (⟨x, y⟩ : Pt) ∈ Line.points l := by
  rw [bint_eq_extendAll]
  have hy0 : (newEmpty y).y = y := rfl
  rw [hy0]
  constructor
  · intro hc
    have hne : ((newEmpty y).extendAll (rowPixels l y)).xs < ((newEmpty y).extendAll (rowPixels l y)).xe := by
      unfold Covers at hc; omega
    obtain ⟨e1, e2⟩ := extendAll_ends (rowPixels l y) (newEmpty y) hne
    have hn0 : ¬ ((newEmpty y).xs < (newEmpty y).xe) := by simp [newEmpty]
    obtain ⟨q1, hq1, ex1⟩ := e1.resolve_right (fun c => hn0 c.1)
    obtain ⟨q2, hq2, ex2⟩ := e2.resolve_right (fun c => hn0 c.1)
    obtain ⟨hm1, hy1⟩ := mem_rowPixels.mp hq1
    obtain ⟨hm2, hy2⟩ := mem_rowPixels.mp hq2
    -- both ends are pixels of the line in row `y`, and a row of a line has no gap
    unfold Covers at hc
    have := Line.row_contiguous l hm1 hm2 (by omega) (show q1.x ≤ x by omega)
      (show x ≤ q2.x by omega)
    rw [hy1] at this
    exact this
  · intro hm
    exact extendAll_covers _ _ ⟨x, y⟩ (mem_rowPixels.mpr ⟨hm, rfl⟩)

theorem edgeSpan_y (l : Line) (y : Int) : ((newEmpty y).bint l).y = y := by
  rw [bint_eq_extendAll, extendAll_y]; rfl

end Scanline
end EG
