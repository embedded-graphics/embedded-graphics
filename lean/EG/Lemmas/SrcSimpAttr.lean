/-
  EG.Lemmas.SrcSimpAttr — simp sets for unfolding the trusted preludes that translated Rust code is
  written in; each equivalence file tags the primitives of its prelude and says `simp only [the_set, ..]`.
-/
import Lean.Meta.Tactic.Simp.RegisterCommand

/-- The primitives of `EG.Model.RectSrcPrelude` (translated `Rectangle` code). -/
register_simp_attr rect_prelude

/-- The primitives of `EG.Model.StyledSrcPrelude` and the generated accessors of `PrimitiveStyle`. -/
register_simp_attr styled_prelude

/-- The primitives of `EG.Model.AdaptSrcPrelude` (translated draw target adapters). -/
register_simp_attr adapt_prelude

/-- The primitives of `EG.Model.ColorSrcPrelude` (translated colour types). -/
register_simp_attr color_prelude

/-- The primitives of `EG.Model.LineSrcPrelude` (translated `Line` and Bresenham). -/
register_simp_attr line_prelude

/-- The primitives of `EG.Model.TextSrcPrelude` (translated fonts and text). -/
register_simp_attr text_prelude

/-- The primitives of `EG.Model.ThickSrcPrelude` (translated thick lines). -/
register_simp_attr thick_prelude

/-- The primitives of `EG.Model.TriSrcPrelude` (translated triangles). -/
register_simp_attr tri_prelude

/-- The evaluation rules of the checked-arithmetic monad of `EG.Model.Checked`. -/
register_simp_attr chk_eval
