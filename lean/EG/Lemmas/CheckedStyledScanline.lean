/-
  EG.Lemmas.CheckedStyledScanline — range theorems of scanline-based styled drawing
  (Model/CheckedStyledScanline.lean): `StyledScanline` draws, the mirrored-range search, the
  circle and ellipse `Scanlines` / `StyledScanlines` iterators.

  Domains: circles `Sec.circle` (corner within +-4096, diameter up to 4097), ellipses with corner
  within +-4096 and sides up to 4097; the invariants `Circle.SLOk` / `Ellipse.SLOk` say that rows
  and columns stay within -8192 ..= 8193 and the doubled centre within +-16383.
-/
import EG.Lemmas.CheckedSector
import EG.Lemmas.CheckedRRect
import EG.Lemmas.Scanline
import EG.Lemmas.CheckedScanline
import EG.Model.CheckedStyledScanline
namespace EG.Chk
open EG

namespace StyledScanline

theorem drawOne_ok {s : EG.Scanline} (h1 : -1073741823 ≤ s.xs ∧ s.xs ≤ 1073741823)
    (h2 : -1073741823 ≤ s.xe ∧ s.xe ≤ 1073741823) (c : Color) : drawOne s c = some (s.draw c) := by
  unfold drawOne EG.Scanline.draw
  rw [EG.Chk.Scanline.drawRect_ok h1 h2, some_bind]
  cases s.isEmpty <;> rfl

/-- All four ends satisfy the hypothesis of `Scanline.drawRect_ok`. -/
def Ends (s : EG.StyledScanline) : Prop :=
  (-1073741823 ≤ s.ss ∧ s.ss ≤ 1073741823) ∧ (-1073741823 ≤ s.se ∧ s.se ≤ 1073741823) ∧
  (-1073741823 ≤ s.fs ∧ s.fs ≤ 1073741823) ∧ (-1073741823 ≤ s.fe ∧ s.fe ≤ 1073741823)
instance (s : EG.StyledScanline) : Decidable (Ends s) := by unfold Ends; exact inferInstance

theorem drawStroke_ok {s : EG.StyledScanline} (h : Ends s) (sc : Color) :
    drawStroke s sc = some (s.drawStroke sc) := by
  obtain ⟨h1, h2, h3, h4⟩ := h
  unfold drawStroke EG.StyledScanline.drawStroke
  rw [drawOne_ok (s := s.strokeLeft) h1 h3, drawOne_ok (s := s.strokeRight) h4 h2]
  rfl

theorem drawStrokeAndFill_ok {s : EG.StyledScanline} (h : Ends s) (sc fc : Color) :
    drawStrokeAndFill s sc fc = some (s.drawStrokeAndFill sc fc) := by
  obtain ⟨h1, h2, h3, h4⟩ := h
  unfold drawStrokeAndFill EG.StyledScanline.drawStrokeAndFill
  rw [drawOne_ok (s := s.strokeLeft) h1 h3, drawOne_ok (s := s.fill) h3 h4,
    drawOne_ok (s := s.strokeRight) h4 h2]
  rfl

end StyledScanline

/-- The bound is asked of a non-empty range only: on an empty range nothing is probed and nothing
mirrored. -/
theorem mirroredRange_ok {pred : Int → Option Bool} {p : Int → Bool} {a b : Int}
    (hp : ∀ x, a ≤ x → x < b → pred x = some (p x))
    (hab : a < b → -1073741824 ≤ a ∧ b ≤ 1073741824) :
    mirroredRange pred a b = some (EG.mirroredRange p a b) := by
  unfold mirroredRange EG.mirroredRange
  rw [rangeFind_ok hp, some_bind]
  cases hf : EG.rangeFind p a b with
  | none => rfl
  | some x =>
    obtain ⟨h1, h2, _, _⟩ := rangeFind_some.1 hf
    have := hab (by omega)
    simp only [Option.map_some]
    chk_simp

theorem mirroredRange_bounds {p : Int → Bool} {a b : Int} {r : Int × Int}
    (h : EG.mirroredRange p a b = some r) : a ≤ r.1 ∧ r.1 < b ∧ a < r.2 ∧ r.2 ≤ b := by
  unfold EG.mirroredRange at h
  cases hf : EG.rangeFind p a b with
  | none => rw [hf] at h; cases h
  | some x =>
    obtain ⟨h1, h2, _, _⟩ := rangeFind_some.1 hf
    rw [hf] at h
    simp only [Option.map_some, Option.some.injEq] at h
    rw [← h]
    simp only
    omega

theorem StyledScanline.ends_new (p : Int → Bool) (y : Int) {ss se : Int}
    (h1 : -1073741823 ≤ ss ∧ ss ≤ 1073741823) (h2 : -1073741823 ≤ se ∧ se ≤ 1073741823) :
    StyledScanline.Ends (EG.StyledScanline.new y ss se (EG.mirroredRange p ss se)) := by
  unfold StyledScanline.Ends EG.StyledScanline.new
  cases hm : EG.mirroredRange p ss se with
  | none => simp only; omega
  | some r =>
    have hb := mirroredRange_bounds hm
    simp only
    omega

/-- The scanline lies in one of the rows `y .. yEnd`, inside the columns `xs .. xe`: what both
`Scanlines::next` say about the scanline they yield, and what the fill-range search of the styled
iterators needs. -/
def Scanline.InBox (y yEnd xs xe : Int) (s : EG.Scanline) : Prop :=
  (y ≤ s.y ∧ s.y < yEnd) ∧ xs ≤ s.xs ∧ s.xs < xe ∧ xs < s.xe ∧ s.xe ≤ xe
attribute [reducible] Scanline.InBox

namespace Circle

theorem hit_ok {c : Pt} (hcx : -16383 ≤ c.x ∧ c.x ≤ 16383) (hcy : -16383 ≤ c.y ∧ c.y ≤ 16383)
    (th : Nat) {x y : Int} (hx : -8192 ≤ x ∧ x ≤ 8192) (hy : -8192 ≤ y ∧ y ≤ 8192) :
    hit c th y x = some (EG.Circle.hit c th y x) := by
  obtain ⟨e, hδ⟩ := delta2_ok (p := ⟨x, y⟩) hcx hcy ⟨hx, hy⟩
  rw [hit, ← bind_assoc, e, some_bind, (distSq_ok hδ).1, some_bind, (distSq_ok hδ).2]
  rfl

structure SLOk (it : EG.Circle.ScanlinesIt) : Prop where
  xs : -8192 ≤ it.xs
  xe : it.xe ≤ 8193
  le : it.xs ≤ it.xe
  y : -8192 ≤ it.y
  ye : it.yEnd ≤ 8193
  cx : -16383 ≤ it.center2x.x ∧ it.center2x.x ≤ 16383
  cy : -16383 ≤ it.center2x.y ∧ it.center2x.y ≤ 16383

theorem box_ends {tl : Pt} {d : Nat} (hx : -4096 ≤ tl.x ∧ tl.x ≤ 4096) (hy : -4096 ≤ tl.y ∧ tl.y ≤ 4096)
    (hw : d ≤ 4097) :
    (⟨tl, ⟨d, d⟩⟩ : Rect).columnsEnd = tl.x + d ∧ (⟨tl, ⟨d, d⟩⟩ : Rect).rowsEnd = tl.y + d :=
  W.rect.ends_eq (by unfold W.rect W.pt W.sz W.coord W.size; simp only; omega)

theorem scanlines_ok {c : EG.Circle} (h : Sec.circle c) :
    Ret (scanlines c) c.scanlines SLOk := by
  obtain ⟨hx, hy, hd⟩ := h
  obtain ⟨ce, re⟩ := box_ends hx hy hd
  constructor
  · unfold scanlines EG.Circle.scanlines
    rw [Circle.center2x_ok (by unfold W.pt W.coord; omega) (by unfold W.size; omega),
      diameterToThreshold_ok (by omega)]
    rfl
  · -- every field is a linear fact about the corner, the diameter and the ends of the box
    constructor <;>
      simp only [EG.Circle.scanlines, EG.Circle.boundingBox, EG.Circle.center2x, ce, re] <;> omega

theorem row_ok {it : EG.Circle.ScanlinesIt} (hi : SLOk it) {y : Int} (hy : -8192 ≤ y ∧ y ≤ 8192) :
    row it y = some (it.row y) := by
  have := hi.xs; have := hi.xe; have := hi.le
  unfold row EG.Circle.ScanlinesIt.row
  rw [mirroredRange_ok (p := EG.Circle.hit it.center2x it.threshold y)
    (fun x h1 h2 => hit_ok hi.cx hi.cy _ (by omega) hy) (fun _ => by omega)]
  rfl

theorem row_bounds {it : EG.Circle.ScanlinesIt} {y : Int} {s : EG.Scanline} (h : it.row y = some s) :
    s.y = y ∧ it.xs ≤ s.xs ∧ s.xs < it.xe ∧ it.xs < s.xe ∧ s.xe ≤ it.xe := by
  unfold EG.Circle.ScanlinesIt.row at h
  cases hm : EG.mirroredRange (EG.Circle.hit it.center2x it.threshold y) it.xs it.xe with
  | none => rw [hm] at h; cases h
  | some r =>
    have hb := mirroredRange_bounds hm
    rw [hm] at h
    simp only [Option.map_some, Option.some.injEq] at h
    rw [← h]
    exact ⟨rfl, hb.1, hb.2.1, hb.2.2.1, hb.2.2.2⟩

theorem next_ok {it : EG.Circle.ScanlinesIt} (hi : SLOk it) :
    Ret (next it) it.next fun r => SLOk r.2 ∧ ∀ s, r.1 = some s → Scanline.InBox it.y it.yEnd it.xs it.xe s := by
  have := hi.y; have := hi.ye
  unfold next EG.Circle.ScanlinesIt.next
  split
  · refine (Ret.of_eq (row_ok hi (by omega))).bind fun _ => Ret.pure
      ⟨⟨hi.xs, hi.xe, hi.le, by simp only; omega, hi.ye, hi.cx, hi.cy⟩, fun s hs => ?_⟩
    obtain ⟨e, hb⟩ := row_bounds hs
    exact ⟨by omega, hb⟩
  · exact Ret.pure ⟨hi, fun _ h => by cases h⟩

def StyledOk (it : EG.Circle.StyledScanlinesIt) : Prop := SLOk it.scanlines

theorem styledScanlines_ok {sa fa : EG.Circle} (hs : Sec.circle sa) (hf : fa.d ≤ 65535) :
    Ret (styledScanlines sa fa) (EG.Circle.styledScanlines sa fa) StyledOk :=
  (scanlines_ok hs).bind fun ok => (Ret.of_eq (diameterToThreshold_ok hf)).bind fun _ => Ret.pure ok

theorem style_ok {it : EG.Circle.StyledScanlinesIt} (hi : StyledOk it) {s : EG.Scanline}
    (hy : -8192 ≤ s.y ∧ s.y ≤ 8192) (hxs : it.scanlines.xs ≤ s.xs) (hxe : s.xe ≤ it.scanlines.xe) :
    style it s = some (it.style s) := by
  have := hi.xs; have := hi.xe
  unfold style EG.Circle.StyledScanlinesIt.style
  rw [mirroredRange_ok (p := EG.Circle.hit it.scanlines.center2x it.fillThreshold s.y)
    (fun x h1 h2 => hit_ok hi.cx hi.cy _ (by omega) hy) (fun _ => by omega)]
  rfl

theorem styledNext_ok {it : EG.Circle.StyledScanlinesIt} (hi : StyledOk it) :
    Ret (styledNext it) it.next fun r => StyledOk r.2 ∧ ∀ s, r.1 = some s → StyledScanline.Ends s := by
  have hxs := hi.xs; have hxe := hi.xe; have hyy := hi.y; have hye := hi.ye
  unfold styledNext EG.Circle.StyledScanlinesIt.next
  refine (next_ok hi).bind fun hn => ?_
  generalize it.scanlines.next = n at hn ⊢
  obtain ⟨r, sl'⟩ := n
  obtain ⟨ok, hb⟩ := hn
  cases r with
  | none => exact Ret.pure ⟨ok, fun _ h => by cases h⟩
  | some s =>
    obtain ⟨⟨y1, y2⟩, b2, b2', b3', b3⟩ := hb s rfl
    refine (Ret.of_eq (style_ok hi (by omega) b2 b3)).bind fun _ => Ret.pure ⟨ok, fun st hst => ?_⟩
    cases hst
    exact StyledScanline.ends_new _ _ (by omega) (by omega)

end Circle

namespace Ellipse

structure SLOk (it : EG.Ellipse.ScanlinesIt) : Prop where
  xs : -8192 ≤ it.xs
  xe : it.xe ≤ 8193
  le : it.xs ≤ it.xe
  y : -8192 ≤ it.y
  ye : it.yEnd ≤ 8193
  cx : -16383 ≤ it.center2x.x ∧ it.center2x.x ≤ 16383
  cy : -16383 ≤ it.center2x.y ∧ it.center2x.y ≤ 16383
  a : it.ec.a ≤ 4294967295
  b : it.ec.b ≤ 4294967295

theorem hitScaled_ok {cx : Int} (hcx : -16383 ≤ cx ∧ cx ≤ 16383) {ec : EG.EllipseContains}
    (ha : ec.a ≤ 4294967295) (hb : ec.b ≤ 4294967295) {sy x : Int} (hsy : -32767 ≤ sy ∧ sy ≤ 32767)
    (hx : -8192 ≤ x ∧ x ≤ 8192) :
    hitScaled cx ec sy x = some (ec.contains ⟨x * 2 - cx, sy⟩) := by
  obtain ⟨_, _⟩ := hcx
  obtain ⟨_, _⟩ := hx
  obtain ⟨_, _⟩ := hsy
  unfold hitScaled
  chk_simp
  exact EllipseContains.contains_ok ha hb (by simp only; omega) (by simp only; omega)

theorem rowOf_ok {c : Pt} (hcx : -16383 ≤ c.x ∧ c.x ≤ 16383) (hcy : -16383 ≤ c.y ∧ c.y ≤ 16383)
    {ec : EG.EllipseContains} (ha : ec.a ≤ 4294967295) (hb : ec.b ≤ 4294967295) {xs xe y : Int}
    (hxs : -8192 ≤ xs) (hxe : xe ≤ 8193) (hy : -8192 ≤ y ∧ y ≤ 8192) :
    rowOf c ec xs xe y = some (EG.mirroredRange (EG.Ellipse.hit c ec y) xs xe) := by
  obtain ⟨_, _⟩ := hcy
  obtain ⟨_, _⟩ := hy
  unfold rowOf
  chk_simp
  exact mirroredRange_ok (p := EG.Ellipse.hit c ec y)
    (fun x h1 h2 => hitScaled_ok hcx ha hb (by omega) (by omega)) (fun _ => by omega)

/-- The ellipses whose bounding box is iterated within +-8192 (as `Sec.circle`). -/
def Dom (e : EG.Ellipse) : Prop :=
  (-4096 ≤ e.tl.x ∧ e.tl.x ≤ 4096) ∧ (-4096 ≤ e.tl.y ∧ e.tl.y ≤ 4096) ∧ e.size.w ≤ 4097 ∧ e.size.h ≤ 4097
instance (e : EG.Ellipse) : Decidable (Dom e) := by unfold Dom; exact inferInstance

theorem scanlines_ok {e : EG.Ellipse} (h : Dom e) :
    Ret (scanlines e) e.scanlines SLOk := by
  obtain ⟨hx, hy, hw, hh⟩ := h
  obtain ⟨ha, hb⟩ := EllipseContains.new_ab (s := e.size) (by omega) (by omega)
  obtain ⟨ce, re⟩ : e.boundingBox.columnsEnd = e.tl.x + e.size.w ∧ e.boundingBox.rowsEnd = e.tl.y + e.size.h :=
    W.rect.ends_eq (r := e.boundingBox)
      (by unfold W.rect W.pt W.sz W.coord W.size EG.Ellipse.boundingBox; simp only; omega)
  constructor
  · unfold scanlines EG.Ellipse.scanlines
    rw [Ellipse.center2x_ok (by unfold W.pt W.coord; omega) (by unfold W.sz W.size; omega),
      EllipseContains.new_ok (by omega) (by omega)]
    rfl
  · unfold EG.Ellipse.scanlines
    refine ⟨by simp only [EG.Ellipse.boundingBox]; omega, by simp only [ce]; omega,
      by show e.boundingBox.tl.x ≤ e.boundingBox.columnsEnd; rw [ce]; show e.tl.x ≤ _; omega,
      by simp only [EG.Ellipse.boundingBox]; omega, by simp only [re]; omega, ?_, ?_, ha, hb⟩
    · simp only [EG.Ellipse.center2x, EG.Ellipse.center2xOf]; omega
    · simp only [EG.Ellipse.center2x, EG.Ellipse.center2xOf]; omega

theorem nextFuel_ok : ∀ (fuel : Nat) (it : EG.Ellipse.ScanlinesIt), SLOk it →
    Ret (nextFuel fuel it) (it.nextFuel fuel) fun r =>
      SLOk r.2 ∧ ∀ s, r.1 = some s → Scanline.InBox it.y it.yEnd it.xs it.xe s
  | 0, _, hi => Ret.pure ⟨hi, fun _ h => by cases h⟩
  | fuel + 1, it, hi => by
    have := hi.y; have := hi.ye
    unfold nextFuel EG.Ellipse.ScanlinesIt.nextFuel
    split
    · rename_i hlt
      refine (Ret.of_eq (rowOf_ok hi.cx hi.cy hi.a hi.b hi.xs hi.xe (by omega))).bind fun _ => ?_
      have hi' : SLOk { it with y := it.y + 1 } :=
        ⟨hi.xs, hi.xe, hi.le, by simp only; omega, hi.ye, hi.cx, hi.cy, hi.a, hi.b⟩
      simp only [EG.Ellipse.ScanlinesIt.row]
      cases hm : EG.mirroredRange (EG.Ellipse.hit it.center2x it.ec it.y) it.xs it.xe with
      | none =>
        -- a row without a hit is skipped: the scanline comes from a later row
        refine (nextFuel_ok fuel _ hi').weaken fun h => ⟨h.1, fun s hs => ?_⟩
        obtain ⟨⟨y1, y2⟩, hb⟩ := h.2 s hs
        exact ⟨⟨by simp only at y1; omega, y2⟩, hb⟩
      | some r =>
        refine Ret.pure ⟨hi', fun s hs => ?_⟩
        cases hs
        exact ⟨⟨Int.le_refl _, hlt⟩, mirroredRange_bounds hm⟩
    · exact Ret.pure ⟨hi, fun _ h => by cases h⟩

theorem next_ok {it : EG.Ellipse.ScanlinesIt} (hi : SLOk it) :
    Ret (next it) it.next fun r => SLOk r.2 ∧ ∀ s, r.1 = some s → Scanline.InBox it.y it.yEnd it.xs it.xe s :=
  nextFuel_ok _ it hi

structure StyledOk (it : EG.Ellipse.StyledScanlinesIt) : Prop where
  sl : SLOk it.scanlines
  a : it.fillArea.a ≤ 4294967295
  b : it.fillArea.b ≤ 4294967295

theorem styledScanlines_ok {sa fa : EG.Ellipse} (hs : Dom sa) (hw : fa.size.w ≤ 65535)
    (hh : fa.size.h ≤ 65535) :
    Ret (styledScanlines sa fa) (EG.Ellipse.styledScanlines sa fa) StyledOk :=
  (scanlines_ok hs).bind fun ok => (Ret.of_eq (EllipseContains.new_ok hw hh)).bind fun _ =>
    Ret.pure ⟨ok, (EllipseContains.new_ab hw hh).1, (EllipseContains.new_ab hw hh).2⟩

theorem style_ok {it : EG.Ellipse.StyledScanlinesIt} (hi : StyledOk it) {s : EG.Scanline}
    (hy : -8192 ≤ s.y ∧ s.y ≤ 8192) (hxs : it.scanlines.xs ≤ s.xs) (hxe : s.xe ≤ it.scanlines.xe) :
    style it s = some (it.style s) := by
  have := hi.sl.xs; have := hi.sl.xe
  unfold style EG.Ellipse.StyledScanlinesIt.style
  rw [rowOf_ok hi.sl.cx hi.sl.cy hi.a hi.b (by omega) (by omega) hy]
  rfl

theorem styledNext_ok {it : EG.Ellipse.StyledScanlinesIt} (hi : StyledOk it) :
    Ret (styledNext it) it.next fun r => StyledOk r.2 ∧ ∀ s, r.1 = some s → StyledScanline.Ends s := by
  have hxs := hi.sl.xs; have hxe := hi.sl.xe; have hyy := hi.sl.y; have hye := hi.sl.ye
  unfold styledNext EG.Ellipse.StyledScanlinesIt.next
  refine (next_ok hi.sl).bind fun hn => ?_
  generalize it.scanlines.next = n at hn ⊢
  obtain ⟨r, sl'⟩ := n
  obtain ⟨ok, hb⟩ := hn
  cases r with
  | none => exact Ret.pure ⟨⟨ok, hi.a, hi.b⟩, fun _ h => by cases h⟩
  | some s =>
    obtain ⟨⟨y1, y2⟩, b2, b2', b3', b3⟩ := hb s rfl
    refine (Ret.of_eq (style_ok hi (by omega) b2 b3)).bind fun _ =>
      Ret.pure ⟨⟨ok, hi.a, hi.b⟩, fun st hst => ?_⟩
    cases hst
    exact StyledScanline.ends_new _ _ (by omega) (by omega)

end Ellipse
end EG.Chk
