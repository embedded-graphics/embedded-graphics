/-
  EG.Lemmas.JoinsPixels — the pictures of stroked polylines and styled triangles under translation,
  from the closed forms of their scanline runs: `pixels()` of a polyline with moved vertices or a
  moved `translate` field (`pixels_eq_run`); the typed scanlines, the `fill_solid` calls of `draw` and
  `pixels()` of a moved styled triangle (`triScanlines_rows`, `triPixels_eq_take`: the rows of the box
  move, and row by row the pending lines are shifted).
-/
import EG.Lemmas.JoinsTotalTri
import EG.Lemmas.JoinsPolyline
set_option linter.unusedSimpArgs false
namespace EG
namespace Joins
open Thick (LineSide StrokeOffset)
open C01Thick (polyScanlineRun triScanlineRun kindColor)

theorem flatMap_points_shift (L : List Scanline) (d t : Pt) :
    (L.map (shiftS · d)).flatMap (fun s => (C01Thick.moveS s t).points) =
      (L.flatMap (fun s => (C01Thick.moveS s t).points)).map (· + d) := by
  rw [List.flatMap_map, List.map_flatMap]
  refine flatMap_congr_left _ _ _ fun s _ => ?_
  rw [C01Thick.moveS_points, C01Thick.moveS_points, show shiftS s d = C01Thick.moveS s d from rfl,
    C01Thick.moveS_points, List.map_map, List.map_map]
  exact List.map_congr_left fun p _ => pt_add_right_comm _ _ _

theorem pixels_moved (vs : List Pt) (w : Nat) (d : Pt) (hw : 2 ≤ w) (hn : 2 ≤ vs.length)
    (hns : PolyNoSat w d vs) (hg : BoxGuard vs w d) (hrows : RowsGuard vs w d) :
    pixels ⟨Pt.zero, vs.map (· + d)⟩ w = (pixels ⟨Pt.zero, vs⟩ w).map (·.map (· + d)) := by
  obtain ⟨L', hL', h'⟩ := C01Thick.pixels_eq_run ⟨Pt.zero, vs.map (· + d)⟩ w hw
  obtain ⟨L, hL, h⟩ := C01Thick.pixels_eq_run ⟨Pt.zero, vs⟩ w hw
  rw [polyScanlineRun_moved vs w d (by omega) hn hns hg hrows, hL] at hL'
  cases hL'
  rw [h', h, Option.map_some]
  exact congrArg some (flatMap_points_shift L d Pt.zero)

theorem pt_zero_add_right (p t : Pt) : p + Pt.zero + t = p + t := by
  rw [Pt.ext_iff']; simp only [Pt.add_x, Pt.add_y, Pt.zero]; omega

/-- The scanline run does not look at the `translate` field; `StyledPixelsIterator` adds it to every
point. -/
theorem pixels_translate_field (t : Pt) (vs : List Pt) (w : Nat) (hw : 2 ≤ w) (hn : 1 < vs.length) :
    pixels ⟨t, vs⟩ w = (pixels ⟨Pt.zero, vs⟩ w).map (·.map (· + t)) := by
  obtain ⟨L', hL', h'⟩ := C01Thick.pixels_eq_run ⟨t, vs⟩ w hw
  obtain ⟨L, hL, h⟩ := C01Thick.pixels_eq_run ⟨Pt.zero, vs⟩ w hw
  have hrun : polyScanlineRun ⟨t, vs⟩ w = polyScanlineRun ⟨Pt.zero, vs⟩ w := by
    unfold polyScanlineRun PolyScanlines.new
    rw [untranslatedBoundingBox_field t vs w (by omega) hn]
  rw [hrun, hL] at hL'
  cases hL'
  rw [h', h, Option.map_some, List.map_flatMap]
  refine congrArg some (flatMap_congr_left _ _ _ fun s _ => ?_)
  rw [C01Thick.moveS_points, C01Thick.moveS_points, List.map_map]
  exact List.map_congr_left fun p _ => (pt_zero_add_right p t).symm

def shiftPx (r : Pt × Nat) (d : Pt) : Pt × Nat := (r.1 + d, r.2)

/-- What the guards give for a moved styled triangle: the scanline iterators of the moved and the
unmoved triangle yield `triRows` / `triForgiven` of row functions `cfg'`, `cfg` over boxes `bb'`,
`bb` whose rows are moved, and row by row the pending lines are shifted. -/
theorem triRows_moved (t : Tri) (style : TriStyle) (d : Pt) (hg : TriGuards t style d) :
    ∃ li' li cfg' cfg r0 rEnd, triScanlines (t.translate d) style = some li' ∧ triScanlines t style = some li ∧
      li'.rest li'.intersections.row = triRows cfg' (r0 + d.y) (rEnd + d.y) ∧
      li.rest li.intersections.row = triRows cfg r0 rEnd ∧
      li'.forgiven li'.intersections.row = triForgiven cfg' (r0 + d.y) (rEnd + d.y) ∧
      li.forgiven li.intersections.row = triForgiven cfg r0 rEnd ∧
      ∀ y, (cfg' (y + d.y)).pending = (cfg y).pending.map (shiftTyped · d) := by
  obtain ⟨bb, hb⟩ := triStyledBoundingBox_total t style
  obtain ⟨c, hc⟩ := isCollapsed_total t.sortedClockwise style.strokeWidth style.strokeAlignment.toOffset
  have hb' : triStyledBoundingBox (t.translate d) style = some (bb.translate d) := by
    rw [triStyledBoundingBox_translate t style d hg.ns hg.box, hb]; rfl
  have hc' : (t.translate d).sortedClockwise.isCollapsed style.strokeWidth style.strokeAlignment.toOffset =
      some c := by
    rw [sortedClockwise_translate, isCollapsed_translate _ _ _ d hg.ns, hc]
  have hrows := hg.rows
  unfold TriRowsGuard at hrows
  rw [hb] at hrows
  obtain ⟨li', hli', e1', e2'⟩ := triScanlines_rows _ style hb' hc'
  obtain ⟨li, hli, e1, e2⟩ := triScanlines_rows t style hb hc
  rw [hrows, Rect.translate_tl, Pt.add_y] at e1' e2'
  refine ⟨li', li, _, _, bb.tl.y, bb.rowsEnd, hli', hli, e1', e1, e2', e2, fun y => ?_⟩
  have hcore : TIRcore d (newSelfTri (t.translate d).sortedClockwise style.strokeWidth
      style.strokeAlignment.toOffset style.fillColor.isSome c)
      (newSelfTri t.sortedClockwise style.strokeWidth style.strokeAlignment.toOffset style.fillColor.isSome c) :=
    ⟨sortedClockwise_translate t d, rfl, rfl, rfl, rfl, hg.ns⟩
  have := generateLines_moved hcore y
  rw [TriIntersections.gen_row _ (y + d.y), TriIntersections.gen_row _ y] at this
  exact pending_moved this

theorem moreRows_moved {cfg' cfg : Int → LineConfig} {d : Pt}
    (hrow : ∀ y, (cfg' (y + d.y)).pending = (cfg y).pending.map (shiftTyped · d)) (r0 rEnd : Int) :
    moreRows (fun y => (cfg' y).pending) (irange (r0 + d.y) (rEnd + d.y)) =
      (moreRows (fun y => (cfg y).pending) (irange r0 rEnd)).map (shiftTyped · d) := by
  rw [irange_shift]
  exact moreRows_map (shiftTyped · d) _ (fun y => (cfg y).pending) (· + d.y) _ hrow

theorem triRows_shift {cfg' cfg : Int → LineConfig} {d : Pt}
    (hrow : ∀ y, (cfg' (y + d.y)).pending = (cfg y).pending.map (shiftTyped · d)) (r0 rEnd : Int) :
    triRows cfg' (r0 + d.y) (rEnd + d.y) = (triRows cfg r0 rEnd).map (shiftTyped · d) := by
  unfold triRows
  by_cases hr : r0 < rEnd
  · rw [if_pos hr, if_pos (by omega), List.map_append, hrow, show r0 + d.y + 1 = r0 + 1 + d.y by omega,
      moreRows_moved hrow]
  · rw [if_neg hr, if_neg (by omega)]; rfl

theorem triForgiven_shift {cfg' cfg : Int → LineConfig} {d : Pt}
    (hrow : ∀ y, (cfg' (y + d.y)).pending = (cfg y).pending.map (shiftTyped · d)) (r0 rEnd : Int) :
    triForgiven cfg' (r0 + d.y) (rEnd + d.y) = (triForgiven cfg r0 rEnd).map (shiftTyped · d) := by
  unfold triForgiven
  simp only [triRows_shift hrow, List.map_eq_nil_iff]
  by_cases hc : triRows cfg r0 rEnd = [] ∧ r0 + 1 < rEnd
  · rw [if_pos hc, if_pos ⟨hc.1, by omega⟩, show r0 + d.y + 1 + 1 = r0 + 1 + 1 + d.y by omega,
      moreRows_moved hrow]
  · rw [if_neg hc, if_neg (fun h => hc ⟨h.1, by omega⟩)]

theorem triScanlineRun_moved (t : Tri) (style : TriStyle) (d : Pt) (hg : TriGuards t style d) :
    triScanlineRun (t.translate d) style = (triScanlineRun t style).map (·.map (shiftTyped · d)) := by
  obtain ⟨li', li, cfg', cfg, r0, rEnd, hli', hli, e1', e1, -, -, hrow⟩ := triRows_moved t style d hg
  unfold triScanlineRun
  rw [hli', hli, Option.bind_some, Option.bind_some, TriScanlines.toList_rest li'.intersections.gen_row,
    TriScanlines.toList_rest li.intersections.gen_row, e1', e1, triRows_shift hrow]
  rfl

theorem triScanlineList_moved (t : Tri) (style : TriStyle) (d : Pt) (hg : TriGuards t style d) :
    OptRel (fun l' l => l' = l.map (shiftTyped · d))
      ((triScanlines (t.translate d) style).bind TriScanlines.toList)
      ((triScanlines t style).bind TriScanlines.toList) := by
  have h := triScanlineRun_moved t style d hg
  unfold triScanlineRun at h
  rw [h]
  cases (triScanlines t style).bind TriScanlines.toList
  · trivial
  · exact rfl

theorem triCall_shift (style : TriStyle) (x : Scanline × PointType) (d : Pt) :
    triCall style (shiftTyped x d) = (triCall style x).map (shiftCall · d) := by
  unfold triCall shiftTyped
  simp only [toRectangle_shiftS, Rect.isZeroSized_translate]
  cases style.colorOf x.2 with
  | none => rfl
  | some c => dsimp only; split <;> rfl

theorem filterMap_triCall_shift (style : TriStyle) (l : List (Scanline × PointType)) (d : Pt) :
    (l.map (shiftTyped · d)).filterMap (triCall style) =
      (l.filterMap (triCall style)).map (shiftCall · d) := by
  induction l with
  | nil => rfl
  | cons x rest ih =>
    simp only [List.map_cons, List.filterMap_cons, triCall_shift]
    cases triCall style x with
    | none => simp only [Option.map_none, ih]
    | some c => simp only [Option.map_some, List.map_cons, ih]

theorem triDraw_translate (t : Tri) (style : TriStyle) (d : Pt) (hg : TriGuards t style d) :
    triDraw (t.translate d) style = (triDraw t style).map (·.map (shiftCall · d)) := by
  rw [triDraw_eq, triDraw_eq]
  split
  · rfl
  · have h := triScanlineRun_moved t style d hg
    unfold triScanlineRun at h
    rw [h]
    cases (triScanlines t style).bind TriScanlines.toList with
    | none => rfl
    | some l => exact congrArg some (filterMap_triCall_shift style l d)


theorem typedPixels_shift (fc sc : Option Nat) (x : Scanline × PointType) (d : Pt) :
    C01Thick.typedPixels fc sc (shiftTyped x d) = (C01Thick.typedPixels fc sc x).map (shiftPx · d) := by
  unfold C01Thick.typedPixels C01Thick.linePixels shiftTyped
  cases kindColor fc sc x.2 with
  | none => rfl
  | some col =>
    dsimp only
    rw [show shiftS x.1 d = C01Thick.moveS x.1 d from rfl, C01Thick.moveS_points, List.map_map, List.map_map]
    rfl

/-- The lines the pixel iterator walks are shifted, and so is the `for`-loop run whose length is its
fuel: the `take` of `triPixels_eq_take` cuts both sides at the same place. -/
theorem triPixels_translate (t : Tri) (style : TriStyle) (d : Pt) (hg : TriGuards t style d) :
    triPixels (t.translate d) style = (triPixels t style).map (·.map (shiftPx · d)) := by
  obtain ⟨li', li, cfg', cfg, r0, rEnd, hli', hli, e1', e1, e2', e2, hrow⟩ := triRows_moved t style d hg
  rw [C01Thick.triPixels_eq_take _ style hli' li'.intersections.gen_row,
    C01Thick.triPixels_eq_take t style hli li.intersections.gen_row, e1', e1, e2', e2,
    triRows_shift hrow, triForgiven_shift hrow, Option.map_some, List.flatMap_map, List.map_take,
    List.map_flatMap, List.map_map]
  have e3 : ((fun x : Scanline × PointType => (x.1.xe - x.1.xs).toNat) ∘ fun x => shiftTyped x d) =
      fun x => (x.1.xe - x.1.xs).toNat := by
    funext x; simp only [Function.comp, shiftTyped, shiftS]; congr 1; omega
  have e4 : (fun a => C01Thick.typedPixels style.fillColor style.effectiveStrokeColor (shiftTyped a d)) =
      fun a => (C01Thick.typedPixels style.fillColor style.effectiveStrokeColor a).map (shiftPx · d) :=
    funext fun a => typedPixels_shift _ _ a d
  rw [e3, e4]

end Joins
end EG
