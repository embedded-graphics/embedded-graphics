/-
  EG.Lemmas.C01ThickTri — styled triangles (every style): the `fill_solid` calls of `draw_styled`
  (`Joins.triDraw`) write, in the same order and with the same colours, exactly the pixels
  `pixels()` (`Joins.triPixels`) yields.

  Both walk the same `ScanlineIterator` (`TriScanlines`), whose items are (scanline, kind):
  `draw_styled` turns every scanline whose kind has a colour into a 1-px-high `fill_solid`,
  `StyledPixelsIterator` walks it point by point and skips scanlines without a colour. Overlapping
  scanlines (stroke over fill) come in the same order on both paths, so "last write wins" decides
  alike.
  The real `ScanlineIterator` is NOT fused and the model keeps that (`TriScanlines.next` returns the
  successor state with `None` too); `draw_styled` stops at the first `None`, `StyledPixelsIterator::new`
  forgives one. The two agree where a first `None` is followed by `None`s only (`TriFirstNoneFinal`;
  EG/Lemmas/TriTopRow.lean proves it with `i32` vertices where the stroke is 1 px wide or a
  non-collapsed Inside stroke, without hypothesis otherwise).
  * `triLines` (EG/Lemmas/JoinsTotalTri.lean): the complete scanline run (up to the first `None` of
    the non-fused iterator) exists, is what the `for` loop of `draw_styled` sees (`toList`'s fuel is
    never used up), non-empty lines;
  * `triPix_run`, `triPixels_eq_take` (EG/Lemmas/JoinsTotalTri.lean): the pixel iterator's complete
    run is the concatenation of the coloured scanlines' points; `triPixels_eq_run`: with
    `TriFirstNoneFinal` the model's `pixels()` IS the run over the lines of the `for` loop (its fuel,
    the total length of those scanlines, is never used up);
  * `tri_writes`: the write sequences coincide.
-/
import EG.Lemmas.C01ThickPoly
import EG.Lemmas.JoinsTotalTri
namespace EG
namespace C01Thick
open EG.Tgt EG.Joins

/-- **After a first `None` only `None`s**: if the FIRST call of `next()` on the scanline iterator of a
styled triangle returns `None`, the call after it (on the iterator as the first call left it — it is
not fused) returns `None` too. This is what makes `StyledPixelsIterator::new`, which forgives one
`None`, agree with the `for` loop of `draw_styled`, which stops at it. Proved in
EG/Lemmas/TriTopRow.lean (`triFirstNoneFinal`, for `i32` vertices where `TriNeedsI32` asks for them):
the top row of the styled bounding box always has a scanline unless no row has one. -/
def TriFirstNoneFinal (t : Tri) (style : TriStyle) : Prop :=
  ∀ li li', triScanlines t style = some li → li.next = some (none, li') → li'.nextLoop = some none

/-- With `TriFirstNoneFinal` the forgiven `None` changes nothing: the pixel iterator sees the lines of
the `for` loop. -/
theorem forgiven_eq_rest {t : Tri} {style : TriStyle} (hf : TriFirstNoneFinal t style) {li : TriScanlines}
    (hli : triScanlines t style = some li) {cfg : Int → LineConfig}
    (hg : TriIntersections.Gen cfg li.intersections) : li.forgiven cfg = li.rest cfg := by
  obtain ⟨first, li', hn, hg', hsome, hnone⟩ := TriScanlines.next_rest li hg
  cases first with
  | some x => exact forgiven_of_ne (by rw [hsome x rfl]; exact List.cons_ne_nil _ _)
  | none =>
    -- the call after the forgiven `None` returns `None` too: nothing is left
    obtain ⟨r, hr, hhead, -⟩ := TriScanlines.nextLoop_rest li' hg'
    rw [hf li li' hli hn] at hr
    cases hr
    rw [← (hnone rfl).2, (hnone rfl).1]
    exact List.head?_eq_none_iff.mp hhead.symm

theorem triPix_new (t : Tri) (style : TriStyle) (hf : TriFirstNoneFinal t style) (li : TriScanlines)
    (hli : triScanlines t style = some li)
    (L : List (Scanline × PointType)) (hL : Run TriScanlines.nextLoop li L) :
    ∃ it, TriPixels.new t style = some it ∧
      Run TriPixels.next it (L.flatMap (typedPixels style.fillColor style.effectiveStrokeColor)) := by
  have hg := li.intersections.gen_row
  rw [hL.unique (TriScanlines.run_rest hg), ← forgiven_eq_rest hf hli hg]
  exact triPix_new_forgiven t style hli hg

theorem typedPixels_length_le (fc sc : Option Nat) (x : Scanline × PointType) :
    (typedPixels fc sc x).length ≤ (x.1.xe - x.1.xs).toNat := by
  unfold typedPixels linePixels
  cases kindColor fc sc x.2 with
  | none => exact Nat.zero_le _
  | some c => simp only [List.length_map, Scanline.points_length]; exact Nat.le_refl _

/-- **`pixels()` of a styled triangle is the complete pixel run**: it walks the coloured scanlines of
the scanline run (what the `for` loop of `draw_styled` sees) point by point; the model's fuel is never
used up. -/
theorem triPixels_eq_run (t : Tri) (style : TriStyle) (hf : TriFirstNoneFinal t style) :
    ∃ L, triScanlineRun t style = some L ∧ (∀ x ∈ L, x.1.isEmpty = false) ∧
      triPixels t style = some (L.flatMap (typedPixels style.fillColor style.effectiveStrokeColor)) := by
  obtain ⟨li, hli⟩ := triScanlines_total t style
  have hg := li.intersections.gen_row
  refine ⟨_, by unfold triScanlineRun; rw [hli]; exact TriScanlines.toList_rest hg,
    TriScanlines.rest_nonempty _ li, ?_⟩
  rw [triPixels_eq_take t style hli hg, forgiven_eq_rest hf hli hg, List.take_of_length_le]
  have := length_flatMap_le_sum (li.rest li.intersections.row)
    (typedPixels style.fillColor style.effectiveStrokeColor)
    (fun x => (x.1.xe - x.1.xs).toNat) (fun x _ => typedPixels_length_le _ _ x)
  omega

/-- The same as an equation between `Option`s. -/
theorem triPixels_eq_map (t : Tri) (style : TriStyle) (hf : TriFirstNoneFinal t style) :
    triPixels t style = (triScanlineRun t style).map fun L =>
      L.flatMap (typedPixels style.fillColor style.effectiveStrokeColor) := by
  obtain ⟨L, hL, -, hpx⟩ := triPixels_eq_run t style hf
  rw [hL, hpx]; rfl

theorem flatMap_typedPixels_none (L : List (Scanline × PointType)) :
    L.flatMap (typedPixels none none) = [] := by
  rw [List.flatMap_eq_nil_iff]
  intro x _
  obtain ⟨s, k⟩ := x
  cases k <;> rfl

theorem triCall_writes (style : TriStyle) (B : Rect) {x : Scanline × PointType} (hx : x.1.isEmpty = false)
    (hr : ∀ rc, triCall style x = some rc → rc.1.InRange) :
    (solidCalls (triCall style x).toList).flatMap (Call.lowerNative B) =
      typedPixels style.fillColor style.effectiveStrokeColor x := by
  unfold triCall typedPixels linePixels at *
  dsimp only at *
  rw [← colorOf_eq_kindColor]
  rw [toRectangle_not_zeroSized hx] at hr ⊢
  cases hc : style.colorOf x.2 with
  | none => rfl
  | some c =>
    rw [hc] at hr
    simp only [Bool.not_false, ↓reduceIte, Option.toList_some, solidCalls, List.map_cons, List.map_nil,
      List.flatMap_cons, List.flatMap_nil, List.append_nil]
    exact fillSolid_toRectangle_lower x.1 hx (hr _ rfl) B c

/-- **Styled triangle, every style: the writes of `draw()` are the pixels of `pixels()`, in the same
order and with the same colours.** `hr`: no `fill_solid` rectangle saturates `i32`. -/
theorem tri_writes (t : Tri) (style : TriStyle) (hf : TriFirstNoneFinal t style) (B : Rect)
    (calls : List (Rect × Nat)) (px : Writes)
    (hd : triDraw t style = some calls) (hpx : triPixels t style = some px)
    (hr : ∀ rc ∈ calls, rc.1.InRange) :
    (solidCalls calls).flatMap (Call.lowerNative B) = px := by
  obtain ⟨L, hL, hne, hpx'⟩ := triPixels_eq_run t style hf
  obtain rfl : L.flatMap (typedPixels style.fillColor style.effectiveStrokeColor) = px :=
    Option.some.inj (hpx'.symm.trans hpx)
  rw [triDraw_eq] at hd
  by_cases htr : style.isTransparent = true
  · simp only [htr, ↓reduceIte, Option.some.injEq] at hd
    subst hd
    obtain ⟨h1, h2⟩ := isTransparent_colors htr
    rw [h1, h2, flatMap_typedPixels_none]
    rfl
  · unfold triScanlineRun at hL
    simp only [htr, Bool.false_eq_true, ↓reduceIte, hL, Option.map_some, Option.some.injEq] at hd
    subst hd
    clear hpx hpx' hL
    induction L with
    | nil => rfl
    | cons x L ih =>
      have hx := triCall_writes style B (hne x List.mem_cons_self)
        (fun rc h => hr rc (List.mem_filterMap.mpr ⟨x, List.mem_cons_self, h⟩))
      have ih' := ih (fun y hy => hne y (List.mem_cons_of_mem _ hy)) (fun rc hrc => by
        obtain ⟨y, hy, h⟩ := List.mem_filterMap.mp hrc
        exact hr rc (List.mem_filterMap.mpr ⟨y, List.mem_cons_of_mem _ hy, h⟩))
      rw [List.flatMap_cons, ← hx, ← ih', List.filterMap_cons]
      cases triCall style x with
      | none => rfl
      | some rc => simp only [solidCalls, Option.toList_some, List.map_cons, List.map_nil, List.flatMap_cons,
          List.flatMap_nil, List.append_nil]

/-- Guard: no `fill_solid` rectangle of `draw_styled` saturates `i32`. -/
def TriRectsInRange (t : Tri) (style : TriStyle) : Prop :=
  match triDraw t style with
  | some calls => ∀ rc ∈ calls, rc.1.InRange
  | none => True

instance (t : Tri) (style : TriStyle) : Decidable (TriRectsInRange t style) := by
  unfold TriRectsInRange; split <;> exact inferInstance

theorem TriRectsInRange.iff_of_eq {t : Tri} {style : TriStyle} {calls : List (Rect × Nat)}
    (h : triDraw t style = some calls) : TriRectsInRange t style ↔ ∀ rc ∈ calls, rc.1.InRange := by
  unfold TriRectsInRange; rw [h]

theorem triStyled_writes (t : Tri) (style : TriStyle) (hf : TriFirstNoneFinal t style) (B : Rect)
    (hr : TriRectsInRange t style) (calls : List (Rect × Nat)) (px : Writes)
    (hd : triDraw t style = some calls) (hpx : triPixels t style = some px) :
    (solidCalls calls).flatMap (Call.lowerNative B) = px := by
  exact tri_writes t style hf B calls px hd hpx ((TriRectsInRange.iff_of_eq hd).mp hr)

/-- `draw()` and `pixels()` visit the same typed scanlines in the same order: one list `L` gives
both the `fill_solid` calls (coloured scanlines, as rectangles) and the pixels (coloured scanlines,
point by point). -/
theorem tri_same_scanlines (t : Tri) (style : TriStyle) (hf : TriFirstNoneFinal t style) :
    ∃ L : List (Scanline × PointType), (∀ x ∈ L, x.1.isEmpty = false) ∧
      triDraw t style = some (if style.isTransparent then [] else L.filterMap (triCall style)) ∧
      triPixels t style = some (L.flatMap (typedPixels style.fillColor style.effectiveStrokeColor)) := by
  obtain ⟨L, hL, hne, hpx'⟩ := triPixels_eq_run t style hf
  refine ⟨L, hne, ?_, hpx'⟩
  rw [triDraw_eq]
  unfold triScanlineRun at hL
  by_cases htr : style.isTransparent = true
  · simp only [htr, ↓reduceIte]
  · simp only [htr, Bool.false_eq_true, ↓reduceIte, hL, Option.map_some]

end C01Thick
end EG
