/-
  EG.Lemmas.ThickBBoxFrame — what the bounding-box argument of a stroked line needs on top of the step
  vectors (EG.Lemmas.ThickFrame):
  * the quadrant `Cone` spanned by the perpendicular's two steps;
  * rectangles are convex along each axis (`Btw`, `contains_btw`).
-/
import EG.Lemmas.ThickFrame
import EG.Lemmas.Rect
namespace EG
namespace Thick
open Line

/-- `v` lies in the (closed) quadrant spanned by the unit vectors `A`, `a` of different axes. -/
def Cone (A a v : Pt) : Prop := 0 ≤ (A + a).x * v.x ∧ 0 ≤ (A + a).y * v.y

theorem cone_zero (A a p : Pt) : Cone A a (p - p) := by
  unfold Cone; simp

theorem axisPair_mul_nonneg {A a : Pt} (h : AxisPair A a) :
    (0 ≤ (A + a).x * A.x ∧ 0 ≤ (A + a).y * A.y) ∧ (0 ≤ (A + a).x * a.x ∧ 0 ≤ (A + a).y * a.y) := by
  rcases h with ⟨h1 | h1, h2 | h2⟩ | ⟨h1 | h1, h2 | h2⟩ <;> subst h1 <;> subst h2 <;> decide

theorem cone_major {A a : Pt} (h : AxisPair A a) (p : Pt) : Cone A a (p + A - p) := by
  have e : p + A - p = A := by rw [Pt.ext_iff']; simp only [Pt.add_x, Pt.add_y, Pt.sub_x, Pt.sub_y]; omega
  rw [e]
  exact (axisPair_mul_nonneg h).1

theorem cone_minor {A a : Pt} (h : AxisPair A a) (p : Pt) : Cone A a (p + a - p) := by
  have e : p + a - p = a := by rw [Pt.ext_iff']; simp only [Pt.add_x, Pt.add_y, Pt.sub_x, Pt.sub_y]; omega
  rw [e]
  exact (axisPair_mul_nonneg h).2

/-- `Cone A a` reads only the two signs of `A + a`. -/
theorem axisPair_signs {A a : Pt} (h : AxisPair A a) :
    ((A + a).x = 1 ∨ (A + a).x = -1) ∧ ((A + a).y = 1 ∨ (A + a).y = -1) := by
  rcases h with ⟨h1 | h1, h2 | h2⟩ | ⟨h1 | h1, h2 | h2⟩ <;> subst h1 <;> subst h2 <;> decide

theorem sign_between {s p q r : Int} (hs : s = 1 ∨ s = -1) (h1 : 0 ≤ s * (q - p)) (h2 : 0 ≤ s * (r - q)) :
    (min p r ≤ q ∧ q ≤ max p r) ∧ 0 ≤ s * (r - p) := by
  rcases hs with rfl | rfl <;> omega

theorem cone_trans {A a : Pt} (h : AxisPair A a) {p q r : Pt} (h1 : Cone A a (q - p))
    (h2 : Cone A a (r - q)) : Cone A a (r - p) :=
  ⟨(sign_between (axisPair_signs h).1 h1.1 h2.1).2, (sign_between (axisPair_signs h).2 h1.2 h2.2).2⟩

theorem cone_congr {A a v w : Pt} (h : Cone A a v) (e : v = w) : Cone A a w := e ▸ h

theorem between_of_cone {A a : Pt} (h : AxisPair A a) {p q r : Pt} (h1 : Cone A a (q - p))
    (h2 : Cone A a (r - q)) :
    (min p.x r.x ≤ q.x ∧ q.x ≤ max p.x r.x) ∧ (min p.y r.y ≤ q.y ∧ q.y ≤ max p.y r.y) :=
  ⟨(sign_between (axisPair_signs h).1 h1.1 h2.1).1, (sign_between (axisPair_signs h).2 h1.2 h2.2).1⟩

def Btw (a b q : Pt) : Prop :=
  (min a.x b.x ≤ q.x ∧ q.x ≤ max a.x b.x) ∧ (min a.y b.y ≤ q.y ∧ q.y ≤ max a.y b.y)

theorem contains_btw {U : Rect} {a b q : Pt} (ha : U.contains a = true) (hb : U.contains b = true)
    (h : Btw a b q) : U.contains q = true :=
  Rect.contains_between ha hb h.1 h.2

end Thick
end EG
