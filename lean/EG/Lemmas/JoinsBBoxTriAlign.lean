/-
  EG.Lemmas.JoinsBBoxTriAlign — what the stroke ALIGNMENT of a triangle gives the bounding-box proof
  for free (C02, `triangle::styled_bounding_box`):

  * `StrokeOffset::Left` (Outside strokes): the RIGHT edge line of every side is the side itself
    (`Line::extents` returns the line as its right extent), so both right corners of every join are
    the vertex exactly (`join_right_exact`; the intersection of two lines through the vertex is
    computed exactly, `i32` coordinates) - and the right edge of a segment is what every
    `edges_bounding_box` holds, skeleton or not. Hence **the three vertices lie in the stroke box**:
    the vertex clause of `TriStrokeGuard` is a theorem for Outside strokes
    (`triStrokeGuard_of_outside`).
  * `StrokeOffset::Right` (Inside strokes): the LEFT corners of every join are the vertex
    (`join_left_exact`, EG/Lemmas/TriTopRow.lean), the box is the vertex box; so of the (up to 24)
    outline end points that `TriOutlineGuard` asks to be in the box only the RIGHT corners of the three
    joins (the inner corners: at most six points, three for miter / left-bevel joins) are not there by
    proof: `TriInsideGuard`, `triOutlineGuard_of_inside`.
-/
import EG.Lemmas.JoinsBBoxTriMain
import EG.Lemmas.TriTopRow
set_option linter.unusedSimpArgs false
namespace EG
namespace Joins
open Thick (LineSide StrokeOffset)

theorem extents_left_right (l : Line) (w : Nat) (lft rgt : Line)
    (h : extents l w .left = some (lft, rgt)) : rgt = l := by
  unfold extents at h
  obtain ⟨it, -, h⟩ := Option.bind_eq_some_iff.mp h
  simp only at h
  -- whatever the last parallel is, the right extent is rebuilt from the start point of the line
  split at h
  · cases h
  · cases h; exact line_rebuild l
  · cases h; exact line_rebuild l

theorem join_right_exact (a m b : Pt) (w : Nat) (hx : inI32 m.x) (hy : inI32 m.y)
    (j : LineJoin) (hj : LineJoin.fromPoints a m b w .left = some j) :
    j.firstEdgeEnd.right = m ∧ j.secondEdgeStart.right = m := by
  obtain ⟨fl, fr, sl, sr, h1, h2, rfl⟩ := extents_of_fromPoints hj
  rw [extents_left_right _ _ _ _ h1, extents_left_right _ _ _ _ h2]
  exact fromExtents_right_corners a m b w fl sl hx hy

theorem sortedClockwise_i32 (t : Tri) (hi : TriI32 t) :
    (inI32 t.sortedClockwise.v1.x ∧ inI32 t.sortedClockwise.v1.y) ∧
    (inI32 t.sortedClockwise.v2.x ∧ inI32 t.sortedClockwise.v2.y) ∧
    (inI32 t.sortedClockwise.v3.x ∧ inI32 t.sortedClockwise.v3.y) :=
  sortedClockwise_all (fun p => inI32 p.x ∧ inI32 p.y) t hi.1 hi.2.1 hi.2.2

def TriOutsideStrokeGuard (t : Tri) (style : TriStyle) : Prop :=
  match closedSegments3 t.sortedClockwise style.strokeWidth style.strokeAlignment.toOffset with
  | some [a, b, c] =>
    let U := foldEdgeBoxes [a, b, c]
    (-2147483648 : Int) ≤ U.tl.y ∧ adjOK U a b = true ∧ adjOK U b c = true ∧ adjOK U c a = true
  | _ => True

instance (t : Tri) (style : TriStyle) : Decidable (TriOutsideStrokeGuard t style) := by
  unfold TriOutsideStrokeGuard; split <;> exact inferInstance

/-- **Outside stroke (any width), `i32` vertices: the three vertices lie in the fold of the boxes of
the three closed segments** - each vertex is the start of the right edge of the segment that begins
there. -/
theorem outside_vertices_in_stroke_box (t : Tri) (w : Nat) (hi : TriI32 t) (a b c : ThickSegment)
    (hs : closedSegments3 t.sortedClockwise w .left = some [a, b, c]) :
    (foldEdgeBoxes [a, b, c]).contains t.v1 = true ∧ (foldEdgeBoxes [a, b, c]).contains t.v2 = true ∧
      (foldEdgeBoxes [a, b, c]).contains t.v3 = true := by
  obtain ⟨i1, i2, i3⟩ := sortedClockwise_i32 t hi
  apply (sortedClockwise_iff (fun p => (foldEdgeBoxes [a, b, c]).contains p = true) t).mp
  obtain ⟨j0, j1, j2, h0, h1, h2, e⟩ := closedSegments3_eq_some hs
  simp only [List.cons.injEq, and_true] at e
  obtain ⟨rfl, rfl, rfl⟩ := e
  have hb := fun s hs => foldEdgeBoxes_boxIn [⟨j0, j1⟩, ⟨j1, j2⟩, ⟨j2, j0⟩] s hs
  have c0 := box_right_start (hb ⟨j0, j1⟩ (by simp))
  have c1 := box_right_start (hb ⟨j1, j2⟩ (by simp))
  have c2 := box_right_start (hb ⟨j2, j0⟩ (by simp))
  dsimp only at c0 c1 c2
  rw [(join_right_exact _ _ _ w i1.1 i1.2 j0 h0).2] at c0
  rw [(join_right_exact _ _ _ w i2.1 i2.2 j1 h1).2] at c1
  rw [(join_right_exact _ _ _ w i3.1 i3.2 j2 h2).2] at c2
  exact ⟨c0, c1, c2⟩

theorem triStrokeGuard_of_outside (t : Tri) (style : TriStyle) (hal : style.strokeAlignment = .outside)
    (hi : TriI32 t) (hg : TriOutsideStrokeGuard t style) : TriStrokeGuard t style := by
  unfold TriOutsideStrokeGuard at hg
  unfold TriStrokeGuard
  have hoff : style.strokeAlignment.toOffset = .left := by rw [hal]; rfl
  rw [hoff] at hg ⊢
  cases hs : closedSegments3 t.sortedClockwise style.strokeWidth .left with
  | none => trivial
  | some segs =>
    obtain ⟨j0, j1, j2, -, -, -, rfl⟩ := closedSegments3_eq_some hs
    rw [hs] at hg
    obtain ⟨g0, g1, g2, g3⟩ := hg
    exact ⟨g0, g1, g2, g3, fun _ => outside_vertices_in_stroke_box t _ hi _ _ _ hs⟩

theorem triStrokeGuard_outside_iff (t : Tri) (style : TriStyle) (hal : style.strokeAlignment = .outside)
    (hi : TriI32 t) : TriStrokeGuard t style ↔ TriOutsideStrokeGuard t style := by
  refine ⟨?_, triStrokeGuard_of_outside t style hal hi⟩
  unfold TriStrokeGuard TriOutsideStrokeGuard
  cases hs : closedSegments3 t.sortedClockwise style.strokeWidth style.strokeAlignment.toOffset with
  | none => exact id
  | some segs =>
    obtain ⟨j0, j1, j2, -, -, -, rfl⟩ := closedSegments3_eq_some hs
    rintro ⟨g0, g1, g2, g3, _⟩
    exact ⟨g0, g1, g2, g3⟩

/-- The guard left for Inside strokes: the two RIGHT (inner) corners of each of the three joins - each
join is the start join of exactly one closed segment - lie in the plain vertex box. -/
def TriInsideGuard (t : Tri) (w : Nat) : Prop :=
  match closedSegments3 t.sortedClockwise w .right with
  | some segs => ∀ s ∈ segs, t.boundingBox.contains s.startJoin.firstEdgeEnd.right = true ∧
      t.boundingBox.contains s.startJoin.secondEdgeStart.right = true
  | none => True

instance (t : Tri) (w : Nat) : Decidable (TriInsideGuard t w) := by
  unfold TriInsideGuard; split <;> exact inferInstance

theorem triOutlineGuard_of_inside (t : Tri) (style : TriStyle) (hal : style.strokeAlignment = .inside)
    (hi : TriI32 t) (hg : TriInsideGuard t style.strokeWidth) : TriOutlineGuard t style := by
  have hbb : triStyledBoundingBox t style = some t.boundingBox := by
    rw [triStyledBoundingBox_eq, if_pos (Or.inr hal)]
  have hoff : style.strokeAlignment.toOffset = .right := by rw [hal]; rfl
  obtain ⟨i1, i2, i3⟩ := sortedClockwise_i32 t hi
  obtain ⟨b1, b2, b3⟩ := sortedClockwise_all (fun p => t.boundingBox.contains p = true) t
    (tri_boundingBox_contains t).1 (tri_boundingBox_contains t).2.1 (tri_boundingBox_contains t).2.2
  unfold TriOutlineGuard
  rw [hbb, hoff]
  dsimp only
  refine ⟨?_, ?_⟩
  · have e : t.boundingBox.tl.y = min (min t.v1.y t.v2.y) t.v3.y := by
      unfold Tri.boundingBox Rect.withCorners
      dsimp only
      omega
    obtain ⟨⟨_, h1⟩, ⟨_, h2⟩, ⟨_, h3⟩⟩ := hi
    unfold inI32 at h1 h2 h3
    omega
  · unfold TriInsideGuard at hg
    cases hs : closedSegments3 t.sortedClockwise style.strokeWidth .right with
    | none => trivial
    | some segs =>
      rw [hs] at hg
      dsimp only at hg ⊢
      refine ⟨?_, tri_boundingBox_contains t⟩
      obtain ⟨j0, j1, j2, h0, h1, h2, rfl⟩ := closedSegments3_eq_some hs
      -- every join has its left corners on the vertex and its right corners in the box by the guard
      obtain ⟨l0, l0'⟩ := join_left_exact _ _ _ style.strokeWidth .right i1.1 i1.2 (Or.inr rfl) j0 h0
      obtain ⟨l1, l1'⟩ := join_left_exact _ _ _ style.strokeWidth .right i2.1 i2.2 (Or.inr rfl) j1 h1
      obtain ⟨l2, l2'⟩ := join_left_exact _ _ _ style.strokeWidth .right i3.1 i3.2 (Or.inr rfl) j2 h2
      have J0 : j0.All fun p => t.boundingBox.contains p = true :=
        ⟨by rw [l0]; exact b1, (hg ⟨j0, j1⟩ (by simp)).1, by rw [l0']; exact b1, (hg ⟨j0, j1⟩ (by simp)).2⟩
      have J1 : j1.All fun p => t.boundingBox.contains p = true :=
        ⟨by rw [l1]; exact b2, (hg ⟨j1, j2⟩ (by simp)).1, by rw [l1']; exact b2, (hg ⟨j1, j2⟩ (by simp)).2⟩
      have J2 : j2.All fun p => t.boundingBox.contains p = true :=
        ⟨by rw [l2]; exact b3, (hg ⟨j2, j0⟩ (by simp)).1, by rw [l2']; exact b3, (hg ⟨j2, j0⟩ (by simp)).2⟩
      intro s hs
      simp only [List.mem_cons, List.not_mem_nil, or_false] at hs
      rcases hs with rfl | rfl | rfl
      · exact outline_ends_of_joins (midClosed_contains _) _ J0 J1
      · exact outline_ends_of_joins (midClosed_contains _) _ J1 J2
      · exact outline_ends_of_joins (midClosed_contains _) _ J2 J0

theorem right_edge_mem_outline (s : ThickSegment) : s.edges.1 ∈ s.outline := by
  cases h : s.isSkeleton with
  | true => rw [outline_skeleton s h]; exact List.mem_cons_self
  | false => rw [outline_eq s h]; simp

/-- `TriInsideGuard` is the weaker guard: it holds wherever `TriOutlineGuard` does (the inner corners are
end points of the right edges, which are outline lines). -/
theorem triInsideGuard_of_outline (t : Tri) (style : TriStyle) (hal : style.strokeAlignment = .inside)
    (h : TriOutlineGuard t style) : TriInsideGuard t style.strokeWidth := by
  have hbb : triStyledBoundingBox t style = some t.boundingBox := by
    rw [triStyledBoundingBox_eq, if_pos (Or.inr hal)]
  have hoff : style.strokeAlignment.toOffset = .right := by rw [hal]; rfl
  unfold TriOutlineGuard at h
  rw [hbb, hoff] at h
  unfold TriInsideGuard
  cases hs : closedSegments3 t.sortedClockwise style.strokeWidth .right with
  | none => trivial
  | some segs =>
    rw [hs] at h
    dsimp only at h ⊢
    obtain ⟨_, hout, _⟩ := h
    obtain ⟨j0, j1, j2, -, -, -, rfl⟩ := closedSegments3_eq_some hs
    -- the right edge of each segment runs from its start join to its end join
    have e0 := hout ⟨j0, j1⟩ (by simp) _ (right_edge_mem_outline _)
    have e1 := hout ⟨j1, j2⟩ (by simp) _ (right_edge_mem_outline _)
    have e2 := hout ⟨j2, j0⟩ (by simp) _ (right_edge_mem_outline _)
    unfold ThickSegment.edges at e0 e1 e2
    dsimp only at e0 e1 e2
    intro s hs
    simp only [List.mem_cons, List.not_mem_nil, or_false] at hs
    rcases hs with rfl | rfl | rfl
    · exact ⟨e2.2, e0.1⟩
    · exact ⟨e0.2, e1.1⟩
    · exact ⟨e1.2, e2.1⟩

end Joins
end EG
