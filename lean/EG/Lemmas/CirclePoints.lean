/-
  EG.Lemmas.CirclePoints — every row of the bounding box has a hit (`row_hits_interval`: the
  centre column), so the scanline iterator, which is not fused and would stop at a row without one,
  yields one scanline per row; hence `points() = bounding_box().points().filter(contains)`.
-/
import EG.Lemmas.Circle
namespace EG
namespace Circle

theorem scanlines_eq {c : Circle} (h : c.InRange) :
    c.scanlines = ⟨c.tl.y, c.tl.y + c.d, c.tl.x, c.tl.x + c.d, c.center2x, c.threshold⟩ := by
  unfold scanlines
  simp only [Rect.rowsEnd_eq h, Rect.columnsEnd_eq h]
  rfl

theorem scanShape (c : Circle) :
    ScanShape (hit c.center2x c.threshold) c.tl.x (c.tl.x + c.d) c.tl.y (c.tl.y + c.d) := by
  constructor
  · intro y
    by_cases hd : c.d = 0
    · apply SymConvex.of_forall_false
      intro x
      rw [← contains_eq_hit, contains_false_of_zero hd]
    · exact hit_symConvex_row _ _ (by rw [center2x_x]; omega)
  · intro x y hx
    rw [← contains_eq_hit] at hx
    exact contains_imp_box hx

theorem scanShape_col (c : Circle) :
    ScanShape (fun x y => hit c.center2x c.threshold y x) c.tl.y (c.tl.y + c.d) c.tl.x (c.tl.x + c.d) := by
  constructor
  · intro x
    by_cases hd : c.d = 0
    · apply SymConvex.of_forall_false
      intro y
      rw [← contains_eq_hit, contains_false_of_zero hd]
    · exact hit_symConvex_col _ _ (by rw [center2x_y]; omega)
  · intro y x hx
    rw [← contains_eq_hit] at hx
    obtain ⟨hx0, hx1, hy0, hy1⟩ := contains_imp_box hx
    exact ⟨hy0, hy1, hx0, hx1⟩

/-- In a row of the bounding box the search finds a hit (the early `None` of `Scanlines::next` never
fires): the centre column is one. The rest is `ScanShape.row_spec`. -/
theorem row_hits_interval {c : Circle} {y : Int} (h1 : c.tl.y ≤ y) (h2 : y < c.tl.y + c.d) :
    ∃ l u, mirroredRange (hit c.center2x c.threshold y) c.tl.x (c.tl.x + c.d) = some (l, u) ∧
      c.tl.x ≤ l ∧ l < u ∧ u ≤ c.tl.x + c.d ∧ l + u = c.tl.x + (c.tl.x + c.d) ∧
      (∀ x, c.contains ⟨x, y⟩ = true ↔ l ≤ x ∧ x < u) := by
  simp only [contains_eq_hit]
  rcases c.scanShape.row_spec y with ⟨_, hno⟩ | h
  · have := center_col_hit h1 h2
    rw [contains_eq_hit, hno] at this
    cases this
  · exact h

theorem column_hits_interval {c : Circle} {x : Int} (h1 : c.tl.x ≤ x) (h2 : x < c.tl.x + c.d) :
    ∃ l u, c.tl.y ≤ l ∧ l < u ∧ u ≤ c.tl.y + c.d ∧ l + u = c.tl.y + (c.tl.y + c.d) ∧
      (∀ y, c.contains ⟨x, y⟩ = true ↔ l ≤ y ∧ y < u) := by
  simp only [contains_eq_hit]
  rcases c.scanShape_col.row_spec x with ⟨_, hno⟩ | ⟨l, u, _, h⟩
  · have := center_row_hit h1 h2
    rw [contains_eq_hit, hno] at this
    cases this
  · exact ⟨l, u, h⟩

/-- Closed form of what the (not fused) scanline iterator still yields: the scanlines of the rows
up to the first row without a hit. -/
def ScanlinesIt.rest (it : ScanlinesIt) : List Scanline :=
  untilNone ((irange it.y it.yEnd).map it.row)

theorem ScanlinesIt.drains : Drains (ofPair ScanlinesIt.next) ScanlinesIt.toListFuel :=
  ⟨fun _ => rfl, fun n it => by
    rw [ScanlinesIt.toListFuel]; unfold ofPair; rcases it.next with ⟨_ | _, _⟩ <;> rfl⟩

theorem ScanlinesIt.yields : Yields (ofPair ScanlinesIt.next) ScanlinesIt.rest := by
  intro it
  unfold ofPair ScanlinesIt.next ScanlinesIt.rest
  by_cases hy : it.y < it.yEnd
  · rw [if_pos hy, irange_cons hy, List.map_cons]
    cases it.row it.y <;> rfl
  · rw [if_neg hy, irange_empty (a := it.y) (b := it.yEnd) (by omega)]
    rfl

theorem ScanlinesIt.rest_length_le (it : ScanlinesIt) : it.rest.length ≤ (it.yEnd - it.y).toNat := by
  have := untilNone_length_le ((irange it.y it.yEnd).map it.row)
  rw [List.length_map, irange_length] at this
  exact this

theorem ScanlinesIt.toListFuel_eq (fuel : Nat) (it : ScanlinesIt) (h : (it.yEnd - it.y).toNat < fuel) :
    it.toListFuel fuel = untilNone ((irange it.y it.yEnd).map it.row) :=
  ScanlinesIt.drains.eq_rest ScanlinesIt.yields (by have := it.rest_length_le; omega)

theorem ScanlinesIt.toList_eq (it : ScanlinesIt) :
    it.toList = untilNone ((irange it.y it.yEnd).map it.row) :=
  ScanlinesIt.toListFuel_eq _ it (by omega)

theorem scanlines_toList_eq {c : Circle} (h : c.InRange) :
    c.scanlines.toList =
      rowLines (scanRow (hit c.center2x c.threshold) c.tl.x (c.tl.x + c.d)) c.tl.y (c.tl.y + c.d) := by
  rw [ScanlinesIt.toList_eq, scanlines_eq h]
  apply untilNone_map_eq_filterMap
  intro y hy
  rw [mem_irange] at hy
  obtain ⟨l, u, hm, _⟩ := row_hits_interval hy.1 hy.2
  unfold ScanlinesIt.row
  rw [hm]
  exact Option.some_ne_none _

def PointsIt.rest (it : PointsIt) : List Pt := it.current.points ++ joinNonEmpty it.scanlines.rest

theorem PointsIt.drains : Drains PointsIt.next PointsIt.toListFuel :=
  ⟨fun _ => rfl, fun n it => by rw [PointsIt.toListFuel]; cases it.next <;> rfl⟩

theorem PointsIt.yields : Yields PointsIt.next PointsIt.rest := by
  intro it
  unfold PointsIt.next PointsIt.rest
  rw [Scanline.yields it.current]
  cases it.current.next with
  | some q => rfl
  | none =>
    have hs := ScanlinesIt.yields it.scanlines
    unfold ofPair at hs
    rw [hs]
    rcases it.scanlines.next with ⟨_ | s, sl'⟩
    · rfl
    · dsimp only [unroll, Option.map_some, List.nil_append]
      rw [joinNonEmpty, Scanline.yields s]
      unfold Scanline.next
      by_cases hx : s.xs < s.xe
      · rw [if_pos hx, if_pos hx]; rfl
      · rw [if_neg hx, if_neg hx]

theorem points_eq_filter {c : Circle} (h : c.InRange) :
    c.points = c.boundingBox.points.filter c.contains := by
  have hrest : c.pointsIt.rest = c.boundingBox.points.filter c.contains := by
    have hs : c.pointsIt.scanlines.rest = c.scanlines.toList := (ScanlinesIt.toList_eq _).symm
    have hc : (fun p : Pt => hit c.center2x c.threshold p.y p.x) = c.contains :=
      funext fun p => (contains_eq_hit c p.x p.y).symm
    unfold PointsIt.rest
    rw [hs, scanlines_toList_eq h,
      joinNonEmpty_eq_flatMap _ (fun s hs => (c.scanShape.scanRow_some_of_mem hs).1),
      c.scanShape.rowScan.flatMap_points, Rect.points_eq_grid (Or.inr h), hc]
    rfl
  unfold points
  rw [PointsIt.drains.eq_rest PointsIt.yields ?_, hrest]
  rw [hrest, show c.pointsIt.budget = c.d * c.d by
    simp [PointsIt.budget, pointsIt, scanlines_eq h, Scanline.newEmpty]]
  exact Nat.le_succ_of_le ((List.length_filter_le _ _).trans (Rect.points_length h).le)

end Circle
end EG
