/-
  EG.Lemmas.ThickForms — the linear functionals in which the geometry of a stroked line is measured.

  With `M`, `m` the major / minor unit steps of the line and `D >= d >= 0` its major / minor lengths
  (`delta = D M + d m`):
    amaj p = M . p        the coordinate of `p` along the line's major axis
    amin p = m . p        the coordinate along its minor axis
    dt   p = D amaj p + d amin p  = delta . p          (`dot` of the oracle, up to the origin)
    ph   p = 2 d amaj p - 2 D amin p                    (= -+ 2 cross(p): the Bresenham error form)
  A major step of a parallel changes `ph` by `2 d` (= `error_step.major`), a minor step by `-2 D`
  (= `-error_step.minor`): along a parallel `error - ph(point)` is constant.
-/
import EG.Lemmas.ThickStep
import Mathlib.Tactic.Ring
set_option linter.unusedSimpArgs false
namespace EG
namespace Thick
open Line

namespace StrokeCtx

def amaj (c : StrokeCtx) (p : Pt) : Int := c.M.x * p.x + c.M.y * p.y
def amin (c : StrokeCtx) (p : Pt) : Int := c.m.x * p.x + c.m.y * p.y
/-- `delta . p`. -/
def dt (c : StrokeCtx) (p : Pt) : Int := c.D * c.amaj p + c.d * c.amin p
/-- The error form: `2 d amaj - 2 D amin`. -/
def ph (c : StrokeCtx) (p : Pt) : Int := 2 * c.d * c.amaj p - 2 * c.D * c.amin p

theorem amaj_add (c : StrokeCtx) (p q : Pt) : c.amaj (p + q) = c.amaj p + c.amaj q := by
  unfold amaj; simp only [Pt.add_x, Pt.add_y, Int.mul_add]; omega
theorem amaj_sub (c : StrokeCtx) (p q : Pt) : c.amaj (p - q) = c.amaj p - c.amaj q := by
  unfold amaj; simp only [Pt.sub_x, Pt.sub_y, Int.mul_sub]; omega
theorem amin_add (c : StrokeCtx) (p q : Pt) : c.amin (p + q) = c.amin p + c.amin q := by
  unfold amin; simp only [Pt.add_x, Pt.add_y, Int.mul_add]; omega
theorem amin_sub (c : StrokeCtx) (p q : Pt) : c.amin (p - q) = c.amin p - c.amin q := by
  unfold amin; simp only [Pt.sub_x, Pt.sub_y, Int.mul_sub]; omega

theorem dt_add (c : StrokeCtx) (p q : Pt) : c.dt (p + q) = c.dt p + c.dt q := by
  unfold dt; rw [amaj_add, amin_add, Int.mul_add, Int.mul_add]; omega
theorem dt_sub (c : StrokeCtx) (p q : Pt) : c.dt (p - q) = c.dt p - c.dt q := by
  unfold dt; rw [amaj_sub, amin_sub, Int.mul_sub, Int.mul_sub]; omega
theorem ph_add (c : StrokeCtx) (p q : Pt) : c.ph (p + q) = c.ph p + c.ph q := by
  unfold ph; rw [amaj_add, amin_add, Int.mul_add, Int.mul_add]; omega
theorem ph_sub (c : StrokeCtx) (p q : Pt) : c.ph (p - q) = c.ph p - c.ph q := by
  unfold ph; rw [amaj_sub, amin_sub, Int.mul_sub, Int.mul_sub]; omega

theorem amaj_smul (c : StrokeCtx) (k : Int) (v : Pt) : c.amaj (smul k v) = k * c.amaj v := by
  unfold amaj; simp only [smul_x, smul_y]; ring
theorem amin_smul (c : StrokeCtx) (k : Int) (v : Pt) : c.amin (smul k v) = k * c.amin v := by
  unfold amin; simp only [smul_x, smul_y]; ring
theorem dt_smul (c : StrokeCtx) (k : Int) (v : Pt) : c.dt (smul k v) = k * c.dt v := by
  unfold dt; rw [amaj_smul, amin_smul]; ring
theorem ph_smul (c : StrokeCtx) (k : Int) (v : Pt) : c.ph (smul k v) = k * c.ph v := by
  unfold ph; rw [amaj_smul, amin_smul]; ring

theorem amaj_M {c : StrokeCtx} (h : AxisPair c.M c.m) : c.amaj c.M = 1 := by
  unfold amaj
  rcases h with ⟨e1 | e1, e2 | e2⟩ | ⟨e1 | e1, e2 | e2⟩ <;> rw [e1] <;> decide
theorem amaj_m {c : StrokeCtx} (h : AxisPair c.M c.m) : c.amaj c.m = 0 := by
  unfold amaj
  rcases h with ⟨e1 | e1, e2 | e2⟩ | ⟨e1 | e1, e2 | e2⟩ <;> rw [e1, e2] <;> decide
theorem amin_M {c : StrokeCtx} (h : AxisPair c.M c.m) : c.amin c.M = 0 := by
  unfold amin
  rcases h with ⟨e1 | e1, e2 | e2⟩ | ⟨e1 | e1, e2 | e2⟩ <;> rw [e1, e2] <;> decide
theorem amin_m {c : StrokeCtx} (h : AxisPair c.M c.m) : c.amin c.m = 1 := by
  unfold amin
  rcases h with ⟨e1 | e1, e2 | e2⟩ | ⟨e1 | e1, e2 | e2⟩ <;> rw [e2] <;> decide

theorem ph_M {c : StrokeCtx} (h : AxisPair c.M c.m) : c.ph c.M = 2 * c.d := by
  unfold ph; rw [amaj_M h, amin_M h]; omega
theorem ph_m {c : StrokeCtx} (h : AxisPair c.M c.m) : c.ph c.m = -(2 * c.D) := by
  unfold ph; rw [amaj_m h, amin_m h]; omega
theorem dt_M {c : StrokeCtx} (h : AxisPair c.M c.m) : c.dt c.M = c.D := by
  unfold dt; rw [amaj_M h, amin_M h]; omega
theorem dt_m {c : StrokeCtx} (h : AxisPair c.M c.m) : c.dt c.m = c.d := by
  unfold dt; rw [amaj_m h, amin_m h]; omega

theorem pt_eq_of_coords {c : StrokeCtx} (h : AxisPair c.M c.m) {p q : Pt}
    (h1 : c.amaj p = c.amaj q) (h2 : c.amin p = c.amin q) : p = q := by
  unfold amaj at h1
  unfold amin at h2
  rw [Pt.ext_iff']
  rcases h with ⟨e1 | e1, e2 | e2⟩ | ⟨e1 | e1, e2 | e2⟩ <;> rw [e1] at h1 <;> rw [e2] at h2 <;>
    simp only at h1 h2 <;> omega

end StrokeCtx

end Thick
end EG
