/-
  EG.Lemmas.RawLoadStore — the laws of `RawData::load` / `RawData::store` for all seven raw types
  at once. A buffer is an array of cells (EG/Lemmas/Raw.lean): one byte holding `8 / bits` pixels
  below 8 bits, the `bits / 8` bytes of one pixel from 8 bits on. For every `bits`, `load` takes the
  pixel's cell and reads slot `i % perCell` of it (`load_eq`, `getPx`), `store` splices the cell back
  with that slot replaced (`store_eq`, `setPx`); the three families differ only in `getPx` / `setPx`,
  whose laws (`getPx_setPx`, ..) are the byte-field law of RawBits.lean resp. `decode_encode`. The
  laws of `load` / `store` (`load_store`, `load_eq_none_iff`, `store_other_bytes`, `load_take`,
  `load_drop`, ..) follow from the two equations and the cell lemmas without looking at `bits` again.
  Then the arithmetic of rows padded to whole bytes and of row-major indices (`lin_lt`, `lin_inj`)
  that images and framebuffers share.
-/
import EG.Lemmas.Raw
import EG.Basic.Arith
namespace EG.Raw

/-- What the laws below use of `validBits`: a depth below 8 divides 8 (so that a byte holds
`8 / bits > 0` pixels), any other is a whole number of bytes. -/
theorem validBits_shape {bits : Nat} (hb : validBits bits = true) :
    (bits < 8 ∧ 0 < 8 / bits) ∨
      (¬ bits < 8 ∧ 0 < bits / 8 ∧ 8 * (bits / 8) = bits ∧ 256 ^ (bits / 8) = 2 ^ bits) := by
  simp only [validBits, Bool.or_eq_true, beq_iff_eq] at hb
  rcases hb with (((((rfl | rfl) | rfl) | rfl) | rfl) | rfl) | rfl <;> decide

def cellBytes (bits : Nat) : Nat := if bits < 8 then 1 else bits / 8

/-- `pixels_per_byte` below 8 bits. -/
def perCell (bits : Nat) : Nat := if bits < 8 then 8 / bits else 1

/-- Pixel `k` of a cell. -/
def getPx (bits : Nat) (o : Order) (k : Nat) (w : List Nat) : Nat :=
  if bits < 8 then loadByte bits (slotShift bits o k) (w.headD 0)
  else if bits = 8 then w.headD 0
  else decodeBytes o w

/-- The cell with pixel `k` replaced by `v`. -/
def setPx (bits : Nat) (o : Order) (k v : Nat) (w : List Nat) : List Nat :=
  if bits < 8 then [storeByte bits (slotShift bits o k) v (w.headD 0)]
  else if bits = 8 then [v]
  else encodeBytes o (bits / 8) v

theorem cellBytes_pos {bits : Nat} (hb : validBits bits = true) : 0 < cellBytes bits := by
  unfold cellBytes
  rcases validBits_shape hb with h | h
  · rw [if_pos h.1]
    decide
  · rw [if_neg h.1]
    exact h.2.1

theorem perCell_pos {bits : Nat} (hb : validBits bits = true) : 0 < perCell bits := by
  unfold perCell
  rcases validBits_shape hb with h | h
  · rw [if_pos h.1]
    exact h.2
  · rw [if_neg h.1]
    decide

theorem load_eq (bits : Nat) (o : Order) (buf : List Nat) (i : Nat) :
    load bits o buf i
      = (cell? (cellBytes bits) buf (i / perCell bits)).map (getPx bits o (i % perCell bits)) := by
  unfold load cellBytes perCell getPx
  split
  · rw [loadBits_eq, cell?_one, Option.map_map]
    rfl
  · split
    · rename_i h8
      subst h8
      rw [Nat.div_one, cell?_one, Option.map_map]
      show buf[i]? = _
      cases buf[i]? <;> rfl
    · rw [Nat.div_one, loadBytes_eq]

theorem store_eq (bits : Nat) (o : Order) (v : Nat) (buf : List Nat) (i : Nat) :
    store bits o v buf i =
      match cell? (cellBytes bits) buf (i / perCell bits) with
      | none => (false, buf)
      | some w => (true, splice buf (i / perCell bits * cellBytes bits)
          (setPx bits o (i % perCell bits) v w)) := by
  unfold store cellBytes perCell setPx
  split
  · rw [storeBits_eq, cell?_one]
    cases h : buf[i / (8 / bits)]? with
    | none => rfl
    | some b =>
      simp only [Option.map_some, Nat.mul_one]
      rw [set_eq_splice (List.getElem?_eq_some_iff.mp h).1]
      rfl
  · split
    · rename_i h8
      subst h8
      rw [Nat.div_one, cell?_one]
      show storeU8 v buf i = _
      unfold storeU8
      cases h : buf[i]? with
      | none => rfl
      | some b =>
        simp only [Option.map_some]
        rw [set_eq_splice (List.getElem?_eq_some_iff.mp h).1, Nat.div_self (by decide), Nat.mul_one]
    · rw [Nat.div_one, storeBytes_eq]
      cases cell? (bits / 8) buf i <;> rfl

theorem headD_lt {w : List Nat} (hw : BytesOk w) : w.headD 0 < 256 := by
  cases w with
  | nil => decide
  | cons b _ => exact hw.head

theorem setPx_length (bits : Nat) (o : Order) (k v : Nat) (w : List Nat) :
    (setPx bits o k v w).length = cellBytes bits := by
  unfold setPx cellBytes
  split
  · rfl
  · split
    · rename_i h
      subst h
      rfl
    · exact encodeBytes_length _ _ _

section cell
variable {bits : Nat} (hb : validBits bits = true) (o : Order) {k : Nat} (hk : k < perCell bits)
  {v : Nat} (hv : v < 2 ^ bits) {w : List Nat} (hw : BytesOk w)
include hb hw

include hk hv in
theorem getPx_setPx (k' : Nat) (hk' : k' < perCell bits) :
    getPx bits o k' (setPx bits o k v w) = if k' = k then v else getPx bits o k' w := by
  unfold perCell at hk hk'
  unfold getPx setPx
  rcases validBits_shape hb with h | h
  · rw [if_pos h.1] at hk hk'
    rw [if_pos h.1, if_pos h.1, if_pos h.1, List.headD_cons]
    by_cases hkk : k' = k
    · rw [if_pos hkk, hkk]
      exact loadByte_storeByte_same (slotShift_add_le o hk) hv (headD_lt hw)
    · rw [if_neg hkk]
      exact loadByte_storeByte_other (slotShift_add_le o hk) hv (headD_lt hw)
        (slotShift_disjoint o hk hk' hkk)
  · -- one pixel per cell: `k' = k = 0`
    rw [if_neg h.1] at hk hk'
    rw [if_pos (by omega : k' = k), if_neg h.1, if_neg h.1]
    split
    · rfl
    · exact decode_encode o _ v (by rw [h.2.2.2]; exact hv)

include hk hv in
theorem setPx_bytesOk : BytesOk (setPx bits o k v w) := by
  unfold perCell at hk
  unfold setPx
  rcases validBits_shape hb with h | h
  · rw [if_pos h.1] at hk ⊢
    intro b hb'
    rw [List.mem_singleton.mp hb']
    exact storeByte_lt (slotShift_add_le o hk) hv (headD_lt hw)
  · rw [if_neg h.1]
    split
    · rename_i h8
      intro b hb'
      rw [List.mem_singleton.mp hb']
      rw [h8] at hv
      exact hv
    · exact encodeBytes_bytesOk _ _ _

theorem getPx_lt (k : Nat) (hl : w.length = cellBytes bits) : getPx bits o k w < 2 ^ bits := by
  unfold cellBytes at hl
  unfold getPx
  rcases validBits_shape hb with h | h
  · rw [if_pos h.1]
    exact loadByte_lt _ _ _
  · rw [if_neg h.1] at hl ⊢
    split
    · rename_i h8
      rw [h8]
      exact headD_lt hw
    · have := decodeBytes_lt o hw
      rwa [hl, h.2.2.2] at this

end cell

theorem fromLe_replicate_zero (n : Nat) : fromLe (List.replicate n 0) = 0 := by
  induction n with
  | zero => rfl
  | succ n ih => simp only [List.replicate_succ, fromLe, ih]

theorem getPx_zero (bits : Nat) (o : Order) (k : Nat) :
    getPx bits o k (List.replicate (cellBytes bits) 0) = 0 := by
  unfold getPx cellBytes
  split
  · simp only [List.replicate_one, List.headD_cons, loadByte, rawNew, Nat.zero_shiftRight, Nat.zero_and]
  · split
    · rename_i h
      subst h
      rfl
    · simp only [decodeBytes, fromBe, List.reverse_replicate, fromLe_replicate_zero, ite_self]

theorem pixelCount_eq_cells (bits len : Nat) :
    pixelCount bits len = len / cellBytes bits * perCell bits := by
  unfold pixelCount cellBytes perCell
  split
  · rw [Nat.div_one]
  · rw [Nat.mul_one]

theorem cell?_pixel_eq_none_iff {bits : Nat} (hb : validBits bits = true) (buf : List Nat) (i : Nat) :
    cell? (cellBytes bits) buf (i / perCell bits) = none ↔ pixelCount bits buf.length ≤ i := by
  rw [cell?_eq_none_iff (cellBytes_pos hb), pixelCount_eq_cells, ← Nat.not_lt, ← Nat.not_lt,
    Nat.div_lt_iff_lt_mul (perCell_pos hb)]

/-- The byte positions that belong to pixel `i`. -/
def ownByte (bits i k : Nat) : Prop :=
  if bits < 8 then k = i / (8 / bits) else i * (bits / 8) ≤ k ∧ k < i * (bits / 8) + bits / 8
instance (bits i k : Nat) : Decidable (ownByte bits i k) := by unfold ownByte; exact inferInstance

theorem ownByte_iff (bits i k : Nat) :
    ownByte bits i k ↔ i / perCell bits * cellBytes bits ≤ k ∧
      k < i / perCell bits * cellBytes bits + cellBytes bits := by
  unfold ownByte perCell cellBytes
  split
  · omega
  · rw [Nat.div_one]

section laws
variable {bits : Nat} (hb : validBits bits = true) (o : Order)
include hb

theorem load_eq_none_iff (buf : List Nat) (i : Nat) :
    load bits o buf i = none ↔ pixelCount bits buf.length ≤ i := by
  rw [load_eq, Option.map_eq_none_iff, cell?_pixel_eq_none_iff hb]

theorem load_outside (buf : List Nat) (i : Nat) (hout : pixelCount bits buf.length ≤ i) :
    load bits o buf i = none :=
  (load_eq_none_iff hb o buf i).mpr hout

theorem load_inside (buf : List Nat) (i : Nat) (hin : i < pixelCount bits buf.length) :
    ∃ v, load bits o buf i = some v := by
  cases hl : load bits o buf i with
  | some v => exact ⟨v, rfl⟩
  | none => exact absurd ((load_eq_none_iff hb o buf i).mp hl) (by omega)

theorem store_outside (v : Nat) (buf : List Nat) (i : Nat) (hout : pixelCount bits buf.length ≤ i) :
    store bits o v buf i = (false, buf) := by
  rw [store_eq, (cell?_pixel_eq_none_iff hb buf i).mpr hout]

theorem store_inside_eq (v : Nat) {buf : List Nat} {i : Nat} (hin : i < pixelCount bits buf.length) :
    ∃ w, cell? (cellBytes bits) buf (i / perCell bits) = some w ∧
      store bits o v buf i = (true, splice buf (i / perCell bits * cellBytes bits)
        (setPx bits o (i % perCell bits) v w)) := by
  cases h : cell? (cellBytes bits) buf (i / perCell bits) with
  | none => exact absurd ((cell?_pixel_eq_none_iff hb buf i).mp h) (by omega)
  | some w => exact ⟨w, rfl, by rw [store_eq, h]⟩

theorem store_inside (v : Nat) (buf : List Nat) (i : Nat) (hin : i < pixelCount bits buf.length) :
    (store bits o v buf i).1 = true := by
  obtain ⟨w, _, h⟩ := store_inside_eq hb o v hin
  rw [h]

theorem load_store {v : Nat} {buf : List Nat} {i : Nat} (hw : BytesOk buf) (hv : v < 2 ^ bits)
    (hin : i < pixelCount bits buf.length) (j : Nat) :
    load bits o (store bits o v buf i).2 j = if j = i then some v else load bits o buf j := by
  obtain ⟨w, hc, hs⟩ := store_inside_eq hb o v hin
  obtain ⟨_, hle, _⟩ := cell?_some hc
  have hp := perCell_pos hb
  rw [hs, load_eq, load_eq, cell?_splice (setPx_length _ _ _ _ _) hle]
  by_cases hcc : j / perCell bits = i / perCell bits
  · -- the same cell: `j = i` iff the same slot
    have hslot : j % perCell bits = i % perCell bits ↔ j = i :=
      ⟨fun hm => by rw [← Nat.div_add_mod j (perCell bits), ← Nat.div_add_mod i (perCell bits), hcc, hm],
        fun h => by rw [h]⟩
    rw [if_pos hcc, Option.map_some, hcc, hc, Option.map_some,
      getPx_setPx hb o (Nat.mod_lt i hp) hv (cell?_bytesOk hw hc) _ (Nat.mod_lt j hp)]
    simp only [hslot]
    split <;> rfl
  · rw [if_neg hcc, if_neg (fun h => hcc (by rw [h]))]

omit hb in
theorem store_length (v : Nat) (buf : List Nat) (i : Nat) :
    (store bits o v buf i).2.length = buf.length := by
  rw [store_eq]
  cases hc : cell? (cellBytes bits) buf (i / perCell bits) with
  | none => rfl
  | some w => exact splice_length (by rw [setPx_length]; exact (cell?_some hc).2.1)

omit hb in
theorem store_other_bytes (v : Nat) (buf : List Nat) (i k : Nat) (hk : ¬ ownByte bits i k) :
    (store bits o v buf i).2[k]? = buf[k]? := by
  rw [ownByte_iff] at hk
  rw [store_eq]
  cases hc : cell? (cellBytes bits) buf (i / perCell bits) with
  | none => rfl
  | some w =>
    apply splice_getElem?_outside (by rw [setPx_length]; exact (cell?_some hc).2.1)
    rw [setPx_length]
    omega

theorem ownByte_lt {i k m : Nat} (hi : i < pixelCount bits m) (hk : ownByte bits i k) : k < m := by
  rw [ownByte_iff] at hk
  rw [pixelCount_eq_cells, ← Nat.div_lt_iff_lt_mul (perCell_pos hb)] at hi
  have := (Nat.le_div_iff_mul_le (cellBytes_pos hb)).mp (Nat.succ_le_of_lt hi)
  rw [Nat.succ_mul] at this
  omega

theorem store_bytesOk {v : Nat} {buf : List Nat} (i : Nat) (hw : BytesOk buf) (hv : v < 2 ^ bits) :
    BytesOk (store bits o v buf i).2 := by
  rw [store_eq]
  cases hc : cell? (cellBytes bits) buf (i / perCell bits) with
  | none => exact hw
  | some w =>
    exact splice_bytesOk hw
      (setPx_bytesOk hb o (Nat.mod_lt i (perCell_pos hb)) hv (cell?_bytesOk hw hc))

theorem load_lt {buf : List Nat} {i v : Nat} (hw : BytesOk buf) (hl : load bits o buf i = some v) :
    v < 2 ^ bits := by
  rw [load_eq] at hl
  obtain ⟨w, hc, rfl⟩ := Option.map_eq_some_iff.mp hl
  exact getPx_lt hb o (cell?_bytesOk hw hc) _ (cell?_some hc).1

theorem load_replicate_zero {n i : Nat} (hi : i < pixelCount bits n) :
    load bits o (List.replicate n 0) i = some 0 := by
  rw [load_eq]
  cases hc : cell? (cellBytes bits) (List.replicate n 0) (i / perCell bits) with
  | none =>
    rw [cell?_pixel_eq_none_iff hb, List.length_replicate] at hc
    omega
  | some w =>
    have hle := (cell?_some hc).2.1
    rw [List.length_replicate] at hle
    rw [cell?_replicate_zero hle] at hc
    cases hc
    rw [Option.map_some, getPx_zero]

theorem load_take (buf : List Nat) {m i : Nat} (hm : m ≤ buf.length) (hi : i < pixelCount bits m) :
    load bits o (buf.take m) i = load bits o buf i := by
  have hlen : (buf.take m).length = m := by rw [List.length_take]; omega
  rw [load_eq, load_eq, cell?_take buf hm]
  cases hc : cell? (cellBytes bits) (buf.take m) (i / perCell bits) with
  | none =>
    rw [cell?_pixel_eq_none_iff hb, hlen] at hc
    omega
  | some w =>
    rw [← hlen]
    exact (cell?_some hc).2.1

theorem load_drop (buf : List Nat) (j i : Nat) :
    load bits o (buf.drop (j * cellBytes bits)) i = load bits o buf (i + j * perCell bits) := by
  rw [load_eq, load_eq, cell?_drop (cellBytes_pos hb), Nat.add_mul_div_right _ _ (perCell_pos hb),
    Nat.add_mul_mod_self_right]

end laws

theorem load_store_same {bits : Nat} (hb : validBits bits = true) (o : Order) {v : Nat}
    {buf : List Nat} {i : Nat} (hw : BytesOk buf) (hv : v < 2 ^ bits)
    (hin : i < pixelCount bits buf.length) :
    load bits o (store bits o v buf i).2 i = some v := by
  rw [load_store hb o hw hv hin, if_pos rfl]

theorem load_store_other {bits : Nat} (hb : validBits bits = true) (o : Order) {v : Nat}
    {buf : List Nat} {i j : Nat} (hw : BytesOk buf) (hv : v < 2 ^ bits) (hne : j ≠ i) :
    load bits o (store bits o v buf i).2 j = load bits o buf j := by
  by_cases hin : i < pixelCount bits buf.length
  · rw [load_store hb o hw hv hin, if_neg hne]
  · rw [store_outside hb o v buf i (by omega)]

theorem pixelCount_mono (bits : Nat) {m m' : Nat} (h : m ≤ m') :
    pixelCount bits m ≤ pixelCount bits m' := by
  unfold pixelCount
  split
  · exact Nat.mul_le_mul_right _ h
  · exact Nat.div_le_div_right h

/-! By family, for the layout theorems of Props/C11 (which bit of which byte) and for `subByte_of_lt`. -/

def multiByte (bits : Nat) : Prop := bits = 16 ∨ bits = 24 ∨ bits = 32
instance (bits : Nat) : Decidable (multiByte bits) := by unfold multiByte; exact inferInstance

theorem validBits_cases {bits : Nat} (h : validBits bits = true) :
    subByte bits ∨ bits = 8 ∨ multiByte bits := by
  simp only [validBits, Bool.or_eq_true, beq_iff_eq] at h
  rcases h with (((((h | h) | h) | h) | h) | h) | h
  · exact .inl (.inl h)
  · exact .inl (.inr (.inl h))
  · exact .inl (.inr (.inr h))
  · exact .inr (.inl h)
  · exact .inr (.inr (.inl h))
  · exact .inr (.inr (.inr (.inl h)))
  · exact .inr (.inr (.inr (.inr h)))

theorem load_sub {bits : Nat} (h : subByte bits) (o : Order) (buf : List Nat) (i : Nat) :
    load bits o buf i = loadBits bits o buf i := by
  simp only [load, subByte_lt h, ↓reduceIte]

theorem store_sub {bits : Nat} (h : subByte bits) (o : Order) (v : Nat) (buf : List Nat) (i : Nat) :
    store bits o v buf i = storeBits bits o v buf i := by
  simp only [store, subByte_lt h, ↓reduceIte]

theorem load_multi {bits : Nat} (h : multiByte bits) (o : Order) (buf : List Nat) (i : Nat) :
    load bits o buf i = loadBytes (bits / 8) o buf i := by
  rcases h with rfl | rfl | rfl <;> rfl

/-! `(w * bits + 7) / 8` is `bytes_per_row(w, bits)`; an image or framebuffer of `h` rows occupies
`bytes_per_row * h` bytes. -/

/-- Width of a row in pixels, padding pixels included (`ImageRaw::data_width`).
`Img.ImageRaw.dataWidth`, `Fb.Img.dataWidth` and `Fb.rowPixels` unfold to it; the lemmas about them are
the lemmas below, taken up to that unfolding. -/
def paddedWidth (bits w : Nat) : Nat :=
  if bits < 8 then (w * bits + 7) / 8 * (8 / bits) else w

theorem subByte_of_lt {bits : Nat} (hb : validBits bits = true) (h8 : bits < 8) : subByte bits := by
  rcases validBits_cases hb with h | h | h
  · exact h
  · omega
  · rcases h with h | h | h <;> omega

theorem le_paddedWidth {bits : Nat} (hb : validBits bits = true) (w : Nat) : w ≤ paddedWidth bits w := by
  unfold paddedWidth
  split
  · rename_i h8
    rcases subByte_of_lt hb h8 with rfl | rfl | rfl
    · omega
    · omega
    · omega
  · exact Nat.le_refl w

theorem paddedWidth_lt {bits : Nat} (h : subByte bits) (w : Nat) :
    paddedWidth bits w < w + 8 / bits := by
  unfold paddedWidth
  rw [if_pos (subByte_lt h)]
  rcases h with rfl | rfl | rfl
  · omega
  · omega
  · omega

theorem row_cells {bits : Nat} (hb : validBits bits = true) (w : Nat) :
    ∃ r, (w * bits + 7) / 8 = r * cellBytes bits ∧ paddedWidth bits w = r * perCell bits := by
  unfold cellBytes perCell paddedWidth
  rcases validBits_shape hb with h | h
  · rw [if_pos h.1, if_pos h.1, if_pos h.1]
    exact ⟨(w * bits + 7) / 8, (Nat.mul_one _).symm, rfl⟩
  · have e : w * bits = 8 * (w * (bits / 8)) := by rw [Nat.mul_left_comm, h.2.2.1]
    rw [if_neg h.1, if_neg h.1, if_neg h.1, e]
    exact ⟨w, by omega, (Nat.mul_one w).symm⟩

theorem pixelCount_rows {bits : Nat} (hb : validBits bits = true) (w h : Nat) :
    pixelCount bits ((w * bits + 7) / 8 * h) = paddedWidth bits w * h := by
  obtain ⟨r, h1, h2⟩ := row_cells hb w
  rw [h1, h2, pixelCount_eq_cells, Nat.mul_right_comm r, Nat.mul_div_cancel _ (cellBytes_pos hb),
    Nat.mul_right_comm]

theorem lin_lt {x y w h R : Nat} (hx : x < w) (hy : y < h) (hw : w ≤ R) : x + y * R < R * h := by
  have h1 := mul_add_le_mul R hy
  rw [Nat.mul_comm R h]
  omega

theorem lin_inj {x y x' y' w R : Nat} (hx : x < w) (hx' : x' < w) (hw : w ≤ R)
    (h : x + y * R = x' + y' * R) : x = x' ∧ y = y' := by
  rw [Nat.add_comm x, Nat.add_comm x', Nat.mul_comm y, Nat.mul_comm y'] at h
  exact (digits_unique (by omega) (by omega) h).symm

end EG.Raw
