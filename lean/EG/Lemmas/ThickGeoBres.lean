/-
  EG.Lemmas.ThickGeoBres — the points of ONE parallel of a stroked line as a lattice band.
  `n` calls of `Bresenham::next` from the state `b` (error in `(-D, 3D]`) with the line's parameters
  yield exactly the lattice points `q` with
    amaj b.point <= amaj q < amaj b.point + n         (one per column of the major axis, in order)
    -D < (b.error - ph b.point) + ph q <= D           (the half-open band of height `2 D`)
  (`amaj`, `ph`: EG.Lemmas.ThickForms; `parPts_mem_geo`, `parPts_complete`). `b.error - ph b.point` is
  constant along the parallel. The bound `3 D`: `next` tests `error > D` before it subtracts `2 D`, so
  between two calls the error is up to a major step `2 d <= 2 D` above the threshold. Without the lower
  bound on the initial error the lower edge of the band still holds from the first minor step on
  (`parPts_mem_band`).
-/
import EG.Lemmas.ThickForms
import EG.Lemmas.ThickRun
set_option linter.unusedSimpArgs false
namespace EG
namespace Thick
open StrokeCtx

/-- The band constant of a Bresenham state: `error - ph(point)`. -/
def bandK (c : StrokeCtx) (b : Bresenham) : Int := b.error - c.ph b.point

/-- `q` lies in the band with constant `K`. -/
def InBandK (c : StrokeCtx) (K : Int) (q : Pt) : Prop := -c.D < K + c.ph q ∧ K + c.ph q ≤ c.D

/-- One call of `Bresenham::next` with the line's parameters: the yielded point lies in the column of the
state and below the upper edge of its band, above the lower edge if the state's error is above `-D` or
the call takes a minor step; the state moves on to the next column of the same band. -/
theorem bres_next_geo (c : StrokeCtx) (hd0 : 0 ≤ c.d) (hdD : c.d ≤ c.D)
    (hax : AxisPair c.M c.m) (b : Bresenham) (h2 : b.error ≤ 3 * c.D) :
    c.amaj (b.next c.pp).1 = c.amaj b.point ∧ bandK c b + c.ph (b.next c.pp).1 ≤ c.D ∧
    (-c.D < b.error ∨ c.amin b.point < c.amin (b.next c.pp).1 →
      -c.D < bandK c b + c.ph (b.next c.pp).1) ∧
    c.amin b.point ≤ c.amin (b.next c.pp).1 ∧
    c.amaj (b.next c.pp).2.point = c.amaj b.point + 1 ∧
    c.amin (b.next c.pp).2.point = c.amin (b.next c.pp).1 ∧
    bandK c (b.next c.pp).2 = bandK c b ∧
    (-c.D < b.error ∨ c.amin b.point < c.amin (b.next c.pp).1 → -c.D < (b.next c.pp).2.error) ∧
    (b.next c.pp).2.error ≤ 3 * c.D := by
  have e1 := amaj_M hax
  have e2 := amaj_m hax
  have e3 := amin_M hax
  have e4 := amin_m hax
  have e5 := ph_M hax
  have e6 := ph_m hax
  unfold bandK
  by_cases hE : b.error > c.D
  · have hn : b.next c.pp = (b.point + c.m, ⟨b.point + c.m + c.M, b.error - 2 * c.D + 2 * c.d⟩) := by
      unfold Bresenham.next StrokeCtx.pp
      simp only [hE, ↓reduceIte]
    rw [hn]
    simp only [amaj_add, amin_add, ph_add, e1, e2, e3, e4, e5, e6]
    refine ⟨?_, ?_, ?_, ?_, ?_, ?_, ?_, ?_, ?_⟩ <;> first | trivial | omega
  · have hn : b.next c.pp = (b.point, ⟨b.point + c.M, b.error + 2 * c.d⟩) := by
      unfold Bresenham.next StrokeCtx.pp
      simp only [hE, ↓reduceIte]
    rw [hn]
    simp only [amaj_add, amin_add, ph_add, e1, e2, e3, e4, e5, e6]
    refine ⟨?_, ?_, ?_, ?_, ?_, ?_, ?_, ?_, ?_⟩ <;> first | trivial | omega

theorem parPts_mem_band (c : StrokeCtx) (hD : 0 < c.D) (hd0 : 0 ≤ c.d) (hdD : c.d ≤ c.D)
    (hax : AxisPair c.M c.m) :
    ∀ (n : Nat) (b : Bresenham), b.error ≤ 3 * c.D →
    ∀ q ∈ parPts n b c.pp, ∃ k : Nat, k < n ∧ c.amaj q = c.amaj b.point + k ∧
      c.amin b.point ≤ c.amin q ∧ bandK c b + c.ph q ≤ c.D ∧
      (-c.D < b.error ∨ c.amin b.point < c.amin q → -c.D < bandK c b + c.ph q)
  | 0, _, _, q, hq => by cases hq
  | n + 1, b, h2, q, hq => by
    obtain ⟨g1, g2, g3, g4, g5, g6, g7, g8, g9⟩ := bres_next_geo c hd0 hdD hax b h2
    unfold parPts at hq
    rcases List.mem_cons.mp hq with rfl | hq
    · exact ⟨0, by omega, by rw [g1]; simp, g4, g2, g3⟩
    · obtain ⟨k, k1, k2, k3, k4, k5⟩ := parPts_mem_band c hD hd0 hdD hax n _ g9 q hq
      refine ⟨k + 1, by omega, by rw [k2, g5]; push_cast; omega, by omega, by rw [← g7]; exact k4,
        fun h => ?_⟩
      rw [← g7]
      -- the lower edge is inherited from the next state, whose error is above `-D` after a minor step
      apply k5
      by_cases hm : c.amin b.point < c.amin (b.next c.pp).1
      · exact Or.inl (g8 (Or.inr hm))
      · rcases h with h | h
        · exact Or.inl (g8 (Or.inl h))
        · exact Or.inr (by omega)

theorem parPts_mem_geo (c : StrokeCtx) (hv : c.Valid) (n : Nat) (b : Bresenham) (h1 : -c.D < b.error)
    (h2 : b.error ≤ 3 * c.D) (q : Pt) (hq : q ∈ parPts n b c.pp) :
    ∃ k : Nat, k < n ∧ c.amaj q = c.amaj b.point + k ∧ c.amin b.point ≤ c.amin q ∧
      InBandK c (bandK c b) q := by
  obtain ⟨k, k1, k2, k3, k4, k5⟩ := parPts_mem_band c hv.hD hv.hd0 hv.hdD hv.ax n b h2 q hq
  exact ⟨k, k1, k2, k3, k5 (Or.inl h1), k4⟩

theorem parPts_pairwise (c : StrokeCtx) (hv : c.Valid) :
    ∀ (n : Nat) (b : Bresenham), b.error ≤ 3 * c.D →
    List.Pairwise (fun p q => c.amaj p < c.amaj q) (parPts n b c.pp)
  | 0, _, _ => List.Pairwise.nil
  | n + 1, b, h2 => by
    obtain ⟨g1, -, -, -, g5, -, -, -, g9⟩ := bres_next_geo c hv.hd0 hv.hdD hv.ax b h2
    unfold parPts
    refine List.Pairwise.cons ?_ (parPts_pairwise c hv n _ g9)
    intro q hq
    obtain ⟨k, _, k2, _⟩ := parPts_mem_band c hv.hD hv.hd0 hv.hdD hv.ax n _ g9 q hq
    rw [g1, k2, g5]; omega

theorem parPts_nodup (c : StrokeCtx) (hv : c.Valid) (n : Nat) (b : Bresenham)
    (h2 : b.error ≤ 3 * c.D) : (parPts n b c.pp).Nodup := by
  have := parPts_pairwise c hv n b h2
  exact this.imp (fun {p q} h e => by rw [e] at h; omega)

theorem band_unique (c : StrokeCtx) (hv : c.Valid) (K : Int) (p q : Pt) (hp : InBandK c K p)
    (hq : InBandK c K q) (ha : c.amaj p = c.amaj q) : p = q := by
  apply pt_eq_of_coords hv.ax ha
  unfold InBandK ph at hp hq
  rw [ha] at hp
  have hD := hv.hD
  by_contra hne
  rcases Int.lt_or_gt_of_ne hne with h | h
  · have : c.D * (c.amin p + 1) ≤ c.D * c.amin q :=
      Int.mul_le_mul_of_nonneg_left (by omega) (by omega)
    rw [Int.mul_add, Int.mul_one] at this
    have a1 : 2 * c.D * c.amin p = 2 * (c.D * c.amin p) := Int.mul_assoc _ _ _
    have a2 : 2 * c.D * c.amin q = 2 * (c.D * c.amin q) := Int.mul_assoc _ _ _
    omega
  · have : c.D * (c.amin q + 1) ≤ c.D * c.amin p :=
      Int.mul_le_mul_of_nonneg_left (by omega) (by omega)
    rw [Int.mul_add, Int.mul_one] at this
    have a1 : 2 * c.D * c.amin p = 2 * (c.D * c.amin p) := Int.mul_assoc _ _ _
    have a2 : 2 * c.D * c.amin q = 2 * (c.D * c.amin q) := Int.mul_assoc _ _ _
    omega

theorem parPts_complete (c : StrokeCtx) (hv : c.Valid) :
    ∀ (n : Nat) (b : Bresenham), -c.D < b.error → b.error ≤ 3 * c.D →
    ∀ q : Pt, c.amaj b.point ≤ c.amaj q → c.amaj q < c.amaj b.point + n →
      InBandK c (bandK c b) q → q ∈ parPts n b c.pp
  | 0, _, _, _, q, ha1, ha2, _ => by omega
  | n + 1, b, h1, h2, q, ha1, ha2, hb => by
    obtain ⟨g1, g2, g3, -, g5, -, g7, g8, g9⟩ := bres_next_geo c hv.hd0 hv.hdD hv.ax b h2
    unfold parPts
    by_cases hk : c.amaj q = c.amaj b.point
    · have : q = (b.next c.pp).1 :=
        band_unique c hv _ q _ hb ⟨g3 (Or.inl h1), g2⟩ (by rw [g1, hk])
      rw [this]; exact List.mem_cons_self
    · apply List.mem_cons_of_mem
      apply parPts_complete c hv n _ (g8 (Or.inl h1)) g9 q
      · rw [g5]; omega
      · rw [g5]; push_cast at ha2 ⊢; omega
      · rw [g7]; exact hb

end Thick
end EG
