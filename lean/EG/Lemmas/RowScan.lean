/-
  EG.Lemmas.RowScan — what the scanline iterators of circle, ellipse and rounded rectangle have in
  common: for every row of a box they build a scanline, and that scanline is the set of points of the
  row that pass the shape's test (`IsRun`). A row function with that specification (`RowScan`) yields
  scanlines whose points are the box points that pass the test, in the box's order, whatever the
  search. Circle and ellipse search "first hit .. mirrored" (`scanRow`), which is correct for a test
  that is symmetric and convex in every row and false outside the box (`ScanShape`); the rounded
  rectangle has its own search (Lemmas/RoundedRectPoints.lean).
-/
import EG.Lemmas.Scanline
import EG.Lemmas.RectPoints
import EG.Lemmas.Stream
namespace EG

theorem SymConvex.of_sum_eq {p : Int → Bool} {a b a' b' : Int} (h : SymConvex p a b)
    (e : a' + b' = a + b) : SymConvex p a' b' := by
  constructor
  · intro x
    rw [e]
    exact h.sym x
  · intro x z hx h1 h2
    rw [e] at h2
    exact h.conv x z hx h1 h2

theorem SymConvex.of_forall_false {p : Int → Bool} {a b : Int} (h : ∀ x, p x = false) :
    SymConvex p a b :=
  ⟨fun x => by rw [h, h], fun x _ hx => by rw [h] at hx; cases hx⟩

/-- Between two hits everything is a hit: left of the mirror of `x1` by convexity from `x1`,
right of it by convexity from the mirror of `x2`. -/
theorem SymConvex.convex {p : Int → Bool} {a b x1 x x2 : Int} (h : SymConvex p a b)
    (h1 : p x1 = true) (h2 : p x2 = true) (hx1 : x1 ≤ x) (hx2 : x ≤ x2) : p x = true := by
  by_cases hm : x ≤ a + b - 1 - x1
  · exact h.conv x1 x h1 hx1 hm
  · have h2' : p (a + b - 1 - x2) = true := by rw [h.sym]; exact h2
    exact h.conv _ x h2' (by omega) (by omega)

/-- A test `w (2x - c)^2 + r < T` with `w ≥ 0` is mirror-symmetric about `c / 2` and convex: the
shape of a row or a column of the circle and ellipse hit tests. -/
theorem symConvex_of_quad {p : Int → Bool} {w r T c a b : Int} (hw : 0 ≤ w) (hc : c = a + b - 1)
    (hp : ∀ x, p x = true ↔ w * ((x * 2 - c) * (x * 2 - c)) + r < T) : SymConvex p a b := by
  constructor
  · intro x
    rw [Bool.eq_iff_iff, hp, hp]
    have e : (a + b - 1 - x) * 2 - c = -(x * 2 - c) := by omega
    rw [e, Int.neg_mul_neg]
  · intro x z hx h1 h2
    rw [hp] at hx ⊢
    -- `|2z - c| ≤ c - 2x = |2x - c|`
    have hs := sq_le_of_abs_le (a := z * 2 - c) (B := -(x * 2 - c)) (by omega) (by omega)
    rw [Int.neg_mul_neg] at hs
    have := Int.mul_le_mul_of_nonneg_left hs hw
    omega

/-- `s` is the scanline of row `y` of the shape `hit` (`hit y x`: the row comes first, as in the
closures of `find`) scanned over the columns `xs..xe`: its points are the hits of the row, and its
ends lie within the columns (also when it is empty). -/
structure IsRun (hit : Int → Int → Bool) (xs xe y : Int) (s : Scanline) : Prop where
  y_eq : s.y = y
  inCols : xs ≤ s.xs ∧ s.xs ≤ xe ∧ xs ≤ s.xe ∧ s.xe ≤ xe
  hits : ∀ x, hit y x = true ↔ s.xs ≤ x ∧ x < s.xe

/-- `row` is a correct row search for `hit` over the box `xs..xe` x `ys..ye`: a row for which it
returns nothing has no hit, a scanline it returns is the run of its row; no hit outside the rows. -/
structure RowScan (hit : Int → Int → Bool) (xs xe ys ye : Int) (row : Int → Option Scanline) : Prop where
  inRows : ∀ {x y}, hit y x = true → ys ≤ y ∧ y < ye
  none_row : ∀ {y}, ys ≤ y → y < ye → row y = none → ∀ x, hit y x = false
  some_row : ∀ {y s}, ys ≤ y → y < ye → row y = some s → IsRun hit xs xe y s

/-- The scanlines of the rows `ys..ye` that have one: what a `for` loop sees of the ellipse's
`rows.find_map`, and of the circle's `next`, which ends at the first row without one, when there is
no such row. -/
def rowLines (row : Int → Option Scanline) (ys ye : Int) : List Scanline := (irange ys ye).filterMap row

theorem mem_rowLines {row : Int → Option Scanline} {ys ye : Int} {s : Scanline} :
    s ∈ rowLines row ys ye ↔ ∃ y, ys ≤ y ∧ y < ye ∧ row y = some s := by
  unfold rowLines
  simp only [List.mem_filterMap, mem_irange, and_assoc]

namespace RowScan
variable {hit : Int → Int → Bool} {xs xe ys ye : Int} {row : Int → Option Scanline}

theorem isRun_of_mem (h : RowScan hit xs xe ys ye row) {s : Scanline} (hs : s ∈ rowLines row ys ye) :
    ys ≤ s.y ∧ s.y < ye ∧ IsRun hit xs xe s.y s := by
  obtain ⟨y, h1, h2, hr⟩ := mem_rowLines.mp hs
  have hrun := h.some_row h1 h2 hr
  rw [hrun.y_eq]
  exact ⟨h1, h2, hrun⟩

theorem exists_mem_of_hit (h : RowScan hit xs xe ys ye row) {x y : Int} (hx : hit y x = true) :
    ∃ s ∈ rowLines row ys ye, IsRun hit xs xe y s := by
  obtain ⟨h1, h2⟩ := h.inRows hx
  cases hr : row y with
  | none => rw [h.none_row h1 h2 hr x] at hx; cases hx
  | some s => exact ⟨s, mem_rowLines.mpr ⟨y, h1, h2, hr⟩, h.some_row h1 h2 hr⟩

theorem mem_points_iff (h : RowScan hit xs xe ys ye row) {p : Pt} :
    (∃ s ∈ rowLines row ys ye, p ∈ s.points) ↔ hit p.y p.x = true := by
  constructor
  · rintro ⟨s, hs, hp⟩
    obtain ⟨_, _, hrun⟩ := h.isRun_of_mem hs
    rw [Scanline.mem_points] at hp
    rw [hp.1, hrun.hits]
    exact hp.2
  · intro hp
    obtain ⟨s, hs, hrun⟩ := h.exists_mem_of_hit hp
    exact ⟨s, hs, Scanline.mem_points.mpr ⟨hrun.y_eq.symm, (hrun.hits _).mp hp⟩⟩

theorem row_points (h : RowScan hit xs xe ys ye row) {y : Int} (h1 : ys ≤ y) (h2 : y < ye) :
    (row y).toList.flatMap Scanline.points =
      ((irange xs xe).filter (hit y)).map (fun x => (⟨x, y⟩ : Pt)) := by
  cases hr : row y with
  | none =>
    rw [List.filter_eq_nil_iff.mpr (fun x _ => by rw [h.none_row h1 h2 hr x]; exact Bool.false_ne_true)]
    rfl
  | some s =>
    have hrun := h.some_row h1 h2 hr
    obtain ⟨c1, c2, c3, c4⟩ := hrun.inCols
    rw [Option.toList_some, List.flatMap_singleton]
    by_cases hne : s.xs ≤ s.xe
    · rw [filter_irange (hit y) xs xe s.xs s.xe (fun x _ _ => hrun.hits x) c1 c4, Scanline.points,
        hrun.y_eq]
    · rw [Scanline.points_empty (by omega), List.filter_eq_nil_iff.mpr (fun x _ => by
        rw [hrun.hits x]; omega)]
      rfl

theorem flatMap_points (h : RowScan hit xs xe ys ye row) :
    (rowLines row ys ye).flatMap Scanline.points =
      ((irange ys ye).flatMap (fun y => (irange xs xe).map (fun x => (⟨x, y⟩ : Pt)))).filter
        (fun p => hit p.y p.x) := by
  unfold rowLines
  have key : ∀ rows : List Int, (∀ y ∈ rows, ys ≤ y ∧ y < ye) →
      (rows.filterMap row).flatMap Scanline.points =
        (rows.flatMap (fun y => (irange xs xe).map (fun x => (⟨x, y⟩ : Pt)))).filter
          (fun p => hit p.y p.x) := by
    intro rows
    induction rows with
    | nil => intro _; rfl
    | cons y rows ih =>
      intro hy
      obtain ⟨h1, h2⟩ := hy y List.mem_cons_self
      have hrow : (irange xs xe).filter ((fun p : Pt => hit p.y p.x) ∘ fun x => (⟨x, y⟩ : Pt)) =
          (irange xs xe).filter (hit y) := rfl
      rw [List.flatMap_cons, List.filter_append, List.filter_map, hrow,
        ← ih (fun z hz => hy z (List.mem_cons_of_mem _ hz)), ← h.row_points h1 h2,
        List.filterMap_cons]
      cases row y with
      | none => rfl
      | some s => rw [Option.toList_some, List.flatMap_singleton, List.flatMap_cons]
  exact key _ (fun y hy => mem_irange.mp hy)

end RowScan

/-- The scanline of row `y` as circle and ellipse search it: `columns.find(hit).map(|x|
Scanline::new(y, x..columns.end - (x - columns.start)))`. -/
def scanRow (hit : Int → Int → Bool) (xs xe y : Int) : Option Scanline :=
  (mirroredRange (hit y) xs xe).map (fun r => ⟨y, r.1, r.2⟩)

/-- `hit` is a shape that "first hit .. mirrored" over the box `xs..xe` x `ys..ye` scans correctly:
every row is symmetric about the middle of the columns and convex, and nothing outside the box is
hit. -/
structure ScanShape (hit : Int → Int → Bool) (xs xe ys ye : Int) : Prop where
  symConvex : ∀ y, SymConvex (hit y) xs xe
  inBox : ∀ {x y}, hit y x = true → xs ≤ x ∧ x < xe ∧ ys ≤ y ∧ y < ye

namespace ScanShape
variable {hit : Int → Int → Bool} {xs xe ys ye : Int}

/-- The row interval lemma of DESIGN.md section 8 (`row_hits_interval`), for any `ScanShape`: the
two outcomes of the search of row `y`, each with what it says about the whole row, not only the
columns searched. -/
theorem row_spec (h : ScanShape hit xs xe ys ye) (y : Int) :
    (mirroredRange (hit y) xs xe = none ∧ ∀ x, hit y x = false) ∨
    (∃ l u, mirroredRange (hit y) xs xe = some (l, u) ∧ xs ≤ l ∧ l < u ∧ u ≤ xe ∧
      l + u = xs + xe ∧ (∀ x, hit y x = true ↔ l ≤ x ∧ x < u)) := by
  -- within the columns by the search, outside them nothing is hit
  have hcols : ∀ x, hit y x = true → xs ≤ x ∧ x < xe := fun x hx => ⟨(h.inBox hx).1, (h.inBox hx).2.1⟩
  cases hm : mirroredRange (hit y) xs xe with
  | none =>
    refine Or.inl ⟨rfl, fun x => ?_⟩
    cases hx : hit y x with
    | false => rfl
    | true => rw [mirroredRange_none.mp hm x (hcols x hx).1 (hcols x hx).2] at hx; cases hx
  | some r =>
    obtain ⟨s1, s2, s3, s4, s5⟩ := mirroredRange_spec (l := r.1) (u := r.2) (h.symConvex y) hm
    refine Or.inr ⟨r.1, r.2, rfl, s2, s4, s3, s5, fun x => ⟨fun hx => ?_, fun hx => ?_⟩⟩
    · exact (s1 x (hcols x hx).1 (hcols x hx).2).mp hx
    · exact (s1 x (by omega) (by omega)).mpr hx

theorem scanRow_some (h : ScanShape hit xs xe ys ye) {y : Int} {s : Scanline}
    (hs : scanRow hit xs xe y = some s) : s.xs < s.xe ∧ s.xs + s.xe = xs + xe := by
  unfold scanRow at hs
  rcases h.row_spec y with ⟨hm, _⟩ | ⟨l, u, hm, _, hlu, _, hc, _⟩
  · rw [hm] at hs; cases hs
  · rw [hm] at hs; cases hs; exact ⟨hlu, hc⟩

theorem rowScan (h : ScanShape hit xs xe ys ye) : RowScan hit xs xe ys ye (scanRow hit xs xe) := by
  refine ⟨fun hx => (h.inBox hx).2.2, fun {y} _ _ hr => ?_, fun {y s} _ _ hr => ?_⟩
  · unfold scanRow at hr
    rcases h.row_spec y with ⟨_, hno⟩ | ⟨l, u, hm, _⟩
    · exact hno
    · rw [hm] at hr; cases hr
  · unfold scanRow at hr
    rcases h.row_spec y with ⟨hm, _⟩ | ⟨l, u, hm, hl, hlu, hu, _, hh⟩
    · rw [hm] at hr; cases hr
    · rw [hm] at hr; cases hr
      exact ⟨rfl, ⟨hl, by dsimp only; omega, by dsimp only; omega, hu⟩, hh⟩

theorem scanRow_some_of_mem (h : ScanShape hit xs xe ys ye) {s : Scanline}
    (hs : s ∈ rowLines (scanRow hit xs xe) ys ye) : s.xs < s.xe ∧ s.xs + s.xe = xs + xe := by
  obtain ⟨y, _, _, hr⟩ := mem_rowLines.mp hs
  exact h.scanRow_some hr

end ScanShape

/-- Concatenate scanlines as `Points::next` does: an empty scanline ends the stream. -/
def joinNonEmpty : List Scanline → List Pt
  | [] => []
  | s :: r => if s.xs < s.xe then s.points ++ joinNonEmpty r else []

theorem joinNonEmpty_eq_flatMap : ∀ (l : List Scanline), (∀ s ∈ l, s.xs < s.xe) →
    joinNonEmpty l = l.flatMap Scanline.points := by
  intro l
  induction l with
  | nil => intro _; rfl
  | cons s l ih =>
    intro h
    rw [joinNonEmpty, if_pos (h s List.mem_cons_self), List.flatMap_cons,
      ih (fun t ht => h t (List.mem_cons_of_mem _ ht))]

theorem untilNone_map_eq_filterMap {α β : Type} (f : α → Option β) :
    ∀ (l : List α), (∀ a ∈ l, f a ≠ none) → untilNone (l.map f) = l.filterMap f := by
  intro l
  induction l with
  | nil => intro _; rfl
  | cons a l ih =>
    intro h
    rw [List.map_cons, List.filterMap_cons]
    cases hf : f a with
    | none => exact absurd hf (h a List.mem_cons_self)
    | some b =>
      simp only [untilNone]
      rw [ih (fun c hc => h c (List.mem_cons_of_mem _ hc))]

theorem untilNone_length_le {α : Type} : ∀ (l : List (Option α)), (untilNone l).length ≤ l.length
  | [] => Nat.le_refl _
  | none :: _ => Nat.zero_le _
  | some _ :: l => Nat.succ_le_succ (untilNone_length_le l)

theorem Rect.mem_filter_points {B : Rect} (hB : B.InRange) {f : Pt → Bool}
    (hsub : ∀ p, f p = true → B.contains p = true) {p : Pt} :
    p ∈ B.points.filter f ↔ f p = true := by
  rw [List.mem_filter, Rect.mem_points hB]
  exact ⟨fun hp => hp.2, fun hp => ⟨hsub p hp, hp⟩⟩

end EG
