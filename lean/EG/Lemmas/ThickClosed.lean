/-
  EG.Lemmas.ThickClosed — a side of `ParallelsIterator` in closed form.
  After `i` major and `j` minor steps of its perpendicular walker, `E` of the minor steps having
  returned an `Extra` parallel (the other `j - E` were skipped), the walker of side `s` stands at
  `pos i j = s0 +- (i M' + j m')`, its own Bresenham error is `+-(2 d i - 2 D j)` and the side's
  parallel error is `+-(2 d j - 2 D E)` (`Side`). The three moves of a call keep this form
  (`Side.major`, `Side.minor`); `nextParallel_pos` says where the returned parallel starts in these
  coordinates. What the developments on stroked lines need of a side are readings of it: its bounds
  (totality), the band and position equations (EG.Lemmas.ThickGeoSide), the order of the parallels'
  start points (EG.Lemmas.ThickBBoxRun), the counts themselves (EG.Lemmas.ThickGeoDiscount).
-/
import EG.Lemmas.ThickStep
import Mathlib.Tactic.Ring
namespace EG
namespace Thick
open ParallelsIterator

/-- `+1` if the left side's parallel error is stepped by `increase_error`, `-1` for `decrease_error`
(the right side does the opposite). -/
def dirL (flip : Bool) : Int := if flip then -1 else 1

theorem dirL_cases (fl : Bool) : dirL fl = 1 ∨ dirL fl = -1 := by cases fl <;> simp [dirL]

theorem dir_eq (it : ParallelsIterator) (s : LineSide) : it.dir s = s.sgn * dirL it.flip := by
  unfold ParallelsIterator.dir ParallelsIterator.decr dirL
  cases s <;> cases it.flip <;> rfl

def LineSide.pick {α : Type} : LineSide → α × α → α
  | .left, p => p.1
  | .right, p => p.2

def LineSide.put {α : Type} : LineSide → α → α × α → α × α
  | .left, x, p => (x, p.2)
  | .right, x, p => (p.1, x)

theorem LineSide.pick_put {α : Type} (s : LineSide) (x : α) (p : α × α) : s.pick (s.put x p) = x := by
  cases s <;> rfl

theorem LineSide.pick_put_ne {α : Type} {s s' : LineSide} (h : s' ≠ s) (x : α) (p : α × α) :
    s'.pick (s.put x p) = s'.pick p := by
  cases s <;> cases s' <;> first | rfl | exact absurd rfl h

/-- The lattice point `a` major and `b` minor steps of the perpendicular walk away from `s0`, on side `s`. -/
def pos (c : StrokeCtx) (s0 : Pt) (s : LineSide) (a b : Int) : Pt :=
  s0 + smul (s.sgn * a) c.M' + smul (s.sgn * b) c.m'

theorem pos_move_major (c : StrokeCtx) (s0 : Pt) (s : LineSide) (a b : Int) :
    s.move (pos c s0 s a b) c.M' = pos c s0 s (a + 1) b := by
  unfold pos
  rw [Pt.ext_iff']
  cases s <;> simp only [LineSide.move, LineSide.sgn, Pt.add_x, Pt.add_y, Pt.sub_x, Pt.sub_y, smul_x,
    smul_y] <;> constructor <;> ring

theorem pos_move_minor (c : StrokeCtx) (s0 : Pt) (s : LineSide) (a b : Int) :
    s.move (pos c s0 s a b) c.m' = pos c s0 s a (b + 1) := by
  unfold pos
  rw [Pt.ext_iff']
  cases s <;> simp only [LineSide.move, LineSide.sgn, Pt.add_x, Pt.add_y, Pt.sub_x, Pt.sub_y, smul_x,
    smul_y] <;> constructor <;> ring

theorem pos_swap_move_major (c : StrokeCtx) (s0 : Pt) (s : LineSide) (a b : Int) :
    s.swap.move (pos c s0 s a b) c.M' = pos c s0 s (a - 1) b := by
  unfold pos
  rw [Pt.ext_iff']
  cases s <;> simp only [LineSide.move, LineSide.swap, LineSide.sgn, Pt.add_x, Pt.add_y, Pt.sub_x,
    Pt.sub_y, smul_x, smul_y] <;> constructor <;> ring

theorem pos_zero (c : StrokeCtx) (s0 : Pt) (s : LineSide) : pos c s0 s 0 0 = s0 := by
  unfold pos
  rw [Pt.ext_iff']
  simp only [Pt.add_x, Pt.add_y, smul_x, smul_y, Int.mul_zero, Int.zero_mul, Int.add_zero, and_self]

/-- **A side of the iterator in closed form** (see the file header); `fl` is the iterator's `flip`. A
skipped step (`E < j`) occurs only on lines that are not diagonal, a minor step only on oblique ones. -/
structure Side (c : StrokeCtx) (fl : Bool) (s0 : Pt) (s : LineSide) (w : Bresenham) (e : Int)
    (i j E : Int) : Prop where
  pos : w.point = pos c s0 s i j
  werr : w.error = s.sgn * (2 * c.d * i - 2 * c.D * j)
  perr : e = s.sgn * dirL fl * (2 * c.d * j - 2 * c.D * E)
  bnd : SideB c s w e
  cnt : 0 ≤ E ∧ E ≤ j
  d0 : c.d = 0 → j = 0
  obl : E < j → c.d < c.D

namespace Side
variable {c : StrokeCtx} {fl : Bool} {s0 : Pt} {s : LineSide} {w : Bresenham} {e i j E : Int}

theorem major (h : Side c fl s0 s w e i j E)
    (hb : SideB c s ⟨s.move w.point c.M', w.error + s.sgn * (2 * c.d)⟩ e) :
    Side c fl s0 s ⟨s.move w.point c.M', w.error + s.sgn * (2 * c.d)⟩ e (i + 1) j E :=
  ⟨by show s.move w.point c.M' = _; rw [h.pos, pos_move_major],
    by show w.error + _ = _; rw [h.werr]; ring, h.perr, hb, h.cnt, h.d0, h.obl⟩

/-- A minor step of the walker; the parallel error wraps (`x = 1`) or not (`x = 0`, only on lines that are
not diagonal). -/
theorem minor (h : Side c fl s0 s w e i j E) (hd : 0 < c.d) (x : Int) (hx : x = 0 ∧ c.d < c.D ∨ x = 1)
    (e' : Int) (he : e' = e + s.sgn * dirL fl * (2 * c.d - 2 * c.D * x))
    (hb : SideB c s ⟨s.move w.point c.m', w.error - s.sgn * (2 * c.D)⟩ e') :
    Side c fl s0 s ⟨s.move w.point c.m', w.error - s.sgn * (2 * c.D)⟩ e' i (j + 1) (E + x) :=
  ⟨by show s.move w.point c.m' = _; rw [h.pos, pos_move_minor],
    by show w.error - _ = _; rw [h.werr]; ring,
    by rw [he, h.perr]; ring, hb,
    by have := h.cnt; rcases hx with ⟨rfl, _⟩ | rfl <;> omega,
    fun h0 => by omega,
    fun hlt => by
      rcases hx with ⟨_, hx⟩ | rfl
      · exact hx
      · exact h.obl (by omega)⟩

end Side

/-- The perpendicular point that becomes the start of a parallel of type `ty`. -/
def ptOf : ParallelLineType → Pt → BresenhamPoint
  | .normal, P => .normal P
  | .extra, P => .extra P

theorem ptOf_cases (ty : ParallelLineType) (P : Pt) :
    (ptOf ty P = .normal P ∧ ty = .normal) ∨ (ptOf ty P = .extra P ∧ ty = .extra) := by
  cases ty
  · exact Or.inl ⟨rfl, rfl⟩
  · exact Or.inr ⟨rfl, rfl⟩

/-- How the parallel `(b, ty)` that a call on side `s` returns from the state `(i, j, E)` starts: a
`Normal` one (`x = 0`) at a walker `w` in the state `(i, j + k, E)` that has a `Normal` point ahead; an
`Extra` one (`x = 1`, nothing skipped, the line oblique) at `extraStart` with `extraErr`, which has just
wrapped; the walker was beyond the threshold before the call and is within it after. -/
def StartOK (c : StrokeCtx) (fl : Bool) (s0 : Pt) (s : LineSide) (it it' : ParallelsIterator)
    (i j E : Int) (b : Bresenham) (ty : ParallelLineType) (x : Int) (k : Nat) : Prop :=
  (x = 0 ∧ ty = .normal ∧ ∃ w : Bresenham, b.point = w.point ∧ Side c fl s0 s w b.error i (j + k) E ∧
      s.sgn * w.error ≤ c.D - s.eps) ∨
    (x = 1 ∧ k = 0 ∧ ty = .extra ∧ b.point = it.extraStart s ∧ b.error = it.extraErr s ∧ 0 < c.d ∧
      ¬ s.sgn * (it.walk s).error ≤ c.D - s.eps ∧ s.sgn * (it'.walk s).error ≤ c.D - s.eps ∧
      -c.D < b.error ∧ b.error ≤ 2 * c.d - c.D ∧
      (it.stepErr s).1 = it.sideError s + s.sgn * dirL fl * (2 * c.d - 2 * c.D))

theorem StartOK.congr {c : StrokeCtx} {fl : Bool} {s0 : Pt} {s : LineSide}
    {it it' it'' : ParallelsIterator} {i j E : Int} {b : Bresenham} {ty : ParallelLineType} {x : Int}
    {k : Nat} (h : StartOK c fl s0 s it it' i j E b ty x k) (hw : it''.walk s = it'.walk s) :
    StartOK c fl s0 s it it'' i j E b ty x k := by
  unfold StartOK at h ⊢
  rw [hw]
  exact h

/-- **One call of `next_parallel(s)` in closed form.** From the state `(i, j, E)` the call skips `k <= 1`
minor steps and returns the start of a parallel `(b, ty)` (`StartOK`); the side goes on to
`(i + 1 - x, j + k + x, E + x)`, `x = 1` for an `Extra` parallel. -/
theorem nextParallel_pos (c : StrokeCtx) (hv : c.Valid) (fl : Bool) (s0 : Pt) (s : LineSide)
    (it : ParallelsIterator) (i j E : Int) (hperp : it.perpendicularParameters = c.perp)
    (hpp : it.parallelParameters = c.pp) (hflip : it.flip = fl)
    (hS : Side c fl s0 s (it.walk s) (it.sideError s) i j E) :
    ∃ (b : Bresenham) (ty : ParallelLineType) (it' : ParallelsIterator) (x : Int) (k : Nat),
      it.nextParallel s = some ((ptOf ty b.point, b.error), it') ∧ skipsFuel loopFuel it s = k ∧
      Side c fl s0 s (it'.walk s) (it'.sideError s) (i + 1 - x) (j + k + x) (E + x) ∧
      StartOK c fl s0 s it it' i j E b ty x k := by
  obtain ⟨pt, e, it', k, hnp, hk, hcall, hb'⟩ := nextParallel_call c hv it s hperp hpp hS.bnd
  have hdir := dir_eq it s
  rw [hflip] at hdir
  cases hcall with
  | normal hr =>
    refine ⟨⟨(it.walk s).point, it.sideError s⟩, .normal, _, 0, 0, hnp, hk, ?_,
      Or.inl ⟨rfl, rfl, it.walk s, rfl, by simpa using hS, hr⟩⟩
    rw [walk_major, sideError_major, hperp] at hb' ⊢
    rw [show i + 1 - 0 = i + 1 by omega, show j + ((0 : Nat) : Int) + 0 = j by omega, Int.add_zero]
    exact hS.major hb'
  | extra hr hd hnew b1 b2 hr' =>
    refine ⟨⟨it.extraStart s, it.extraErr s⟩, .extra, _, 1, 0, hnp, hk, ?_,
      Or.inr ⟨rfl, rfl, rfl, rfl, rfl, hd, hr, hr', b1, b2, by rw [hnew, hdir]⟩⟩
    rw [walk_minor, sideError_minor, hperp] at hb' ⊢
    rw [show i + 1 - 1 = i by omega, show j + ((0 : Nat) : Int) + 1 = j + 1 by omega]
    exact hS.minor hd 1 (Or.inr rfl) _ (by rw [hnew, hdir]; ring) hb'
  | skip hr hd hlt hnew hB hr' =>
    rw [walk_minor, sideError_minor, hperp] at hB
    have hm := hS.minor hd 0 (Or.inl ⟨rfl, hlt⟩) (it.stepErr s).1 (by rw [hnew, hdir]; ring) hB
    rw [Int.add_zero] at hm
    refine ⟨⟨((it.minor s).walk s).point, (it.minor s).sideError s⟩, .normal, _, 0, 1, hnp, hk, ?_,
      Or.inl ⟨rfl, rfl, (it.minor s).walk s, rfl, ?_, hr'⟩⟩
    · rw [walk_major, sideError_major, perp_minor, walk_minor, sideError_minor, hperp] at hb' ⊢
      rw [show i + 1 - 0 = i + 1 by omega, show j + ((1 : Nat) : Int) + 0 = j + 1 by omega,
        Int.add_zero]
      exact hm.major hb'
    · rw [walk_minor, sideError_minor, hperp]
      exact hm

/-- What a parallel adds to the thickness accumulator. -/
def accStep (c : StrokeCtx) : ParallelLineType → Int
  | .normal => 2 * c.D
  | .extra => 2 * c.d

/-- Both sides in closed form: the iterator of the stroke `c` that started at `s0`, with the counters
`(I, J, E)` of the left and the right side. -/
structure Closed (c : StrokeCtx) (fl : Bool) (s0 : Pt) (it : ParallelsIterator) (I J E : Int × Int) :
    Prop where
  hperp : it.perpendicularParameters = c.perp
  hpp : it.parallelParameters = c.pp
  hflip : it.flip = fl
  side : ∀ s : LineSide, Side c fl s0 s (it.walk s) (it.sideError s) (s.pick I) (s.pick J) (s.pick E)

/-- **One call of `ParallelsIterator::next` below the threshold, in closed form**: the side that is due
skips `k` steps and returns a parallel (`StartOK`), its counters move on, the other side is left alone;
the accumulator grows by `accStep` and, without a stroke offset, the side is swapped. -/
theorem next_pos (c : StrokeCtx) (hv : c.Valid) (fl : Bool) (s0 : Pt) (it : ParallelsIterator)
    (I J E : Int × Int) (h : Closed c fl s0 it I J E)
    (hacc : ¬ it.thicknessAccumulator * it.thicknessAccumulator > it.thicknessThreshold) :
    ∃ (b : Bresenham) (ty : ParallelLineType) (it' : ParallelsIterator) (x : Int) (k : Nat),
      it.next = some (some (b, ty), it') ∧ skipsFuel loopFuel it it.nextSide = k ∧
      StartOK c fl s0 it.nextSide it it' (it.nextSide.pick I) (it.nextSide.pick J) (it.nextSide.pick E)
        b ty x k ∧
      Closed c fl s0 it' (it.nextSide.put (it.nextSide.pick I + 1 - x) I)
        (it.nextSide.put (it.nextSide.pick J + k + x) J) (it.nextSide.put (it.nextSide.pick E + x) E) ∧
      it'.thicknessAccumulator = it.thicknessAccumulator + accStep c ty ∧
      it'.thicknessThreshold = it.thicknessThreshold ∧ it'.strokeOffset = it.strokeOffset ∧
      it'.nextSide = if it.strokeOffset = .none then it.nextSide.swap else it.nextSide := by
  obtain ⟨b, ty, it1, x, k, hnp, hk, hS', hst⟩ :=
    nextParallel_pos c hv fl s0 it.nextSide it _ _ _ h.hperp h.hpp h.hflip (h.side _)
  obtain ⟨w', e', rfl⟩ := nextParallelFuel_setSide _ _ _ _ _ hnp
  obtain ⟨f1, f2, f3, f4, f5, f6, f7⟩ := sameFrame_setSide it it.nextSide w' e'
  rw [walk_setSide, sideError_setSide] at hS'
  refine ⟨b, ty, _, x, k, next_of_nextParallel it _ _ _ hacc hnp b.point ty (ptOf_cases ty b.point), hk,
    hst.congr (walk_next_update _ _ _ _).1, ⟨f2.trans h.hperp, f1.trans h.hpp, f5.trans h.hflip, fun s => ?_⟩,
    ?_, f4, f7, ?_⟩
  · -- `next` itself leaves the walkers alone; `next_parallel` has moved the one of the side that was due
    rw [(walk_next_update _ _ _ s).1, (walk_next_update _ _ _ s).2]
    by_cases hs : s = it.nextSide
    · subst hs
      rw [walk_setSide, sideError_setSide, LineSide.pick_put, LineSide.pick_put, LineSide.pick_put]
      exact hS'
    · rw [walk_setSide_ne it hs, sideError_setSide_ne it hs, LineSide.pick_put_ne hs,
        LineSide.pick_put_ne hs, LineSide.pick_put_ne hs]
      exact h.side s
  · show _ + _ = _
    rw [f2, f3, h.hperp]
    cases ty <;> rfl
  · show (if _ then _ else _) = _
    rw [f6, f7]

/-- **The fresh iterator in closed form** (`StrokeOffset::None`): the right walker stands at `start`, the
left one has taken the major step that skips the centre line; no minor step yet on either side. -/
theorem new_closed (l : Line) (t : Int) :
    ∃ it, ParallelsIterator.new l t .none = some it ∧ it.nextSide = .right ∧
      it.strokeOffset = .none ∧ Closed (ctxOf l) (flipOf l) l.start it (1, 0) (0, 0) (0, 0) ∧
      it.thicknessAccumulator = (ctxOf l).D + (ctxOf l).d ∧
      it.thicknessThreshold = t * 2 * (t * 2) *
        (Line.dxOf (paramLine l) * Line.dxOf (paramLine l) +
          Line.dyOf (paramLine l) * Line.dyOf (paramLine l)) := by
  obtain ⟨it, hnew, hs, hso, hfl, -, hperp, -, -, hw, he, hlp, hle, hlE⟩ := new_fresh l t .none
  obtain ⟨it', hnew', hsides, hacc, hthr⟩ := new_sides l t .none
  obtain rfl := Option.some.inj (hnew.symm.trans hnew')
  rw [← ctxOf_perp] at hlp hle
  have hw : it.walk .right = ⟨l.start, 0⟩ := hw
  have he : it.sideError .right = 0 := he
  have hlp : (it.walk .left).point = LineSide.left.move l.start (ctxOf l).M' := hlp
  have hle : (it.walk .left).error = LineSide.left.sgn * (2 * (ctxOf l).d) := hle
  have hlE : it.sideError .left = 0 := hlE
  refine ⟨it, hnew, hs, hso, ⟨hsides.hperp, hsides.hpp, hfl, fun s => ?_⟩, hacc, hthr⟩
  cases s
  · refine ⟨?_, ?_, ?_, hsides.side .left, ⟨Int.le_refl _, Int.le_refl _⟩, fun _ => rfl,
      fun h => absurd h (by decide)⟩
    · rw [← pos_zero (ctxOf l) l.start .left, pos_move_major] at hlp
      exact hlp
    · rw [hle]
      show _ = LineSide.left.sgn * (2 * (ctxOf l).d * 1 - 2 * (ctxOf l).D * 0)
      rw [Int.mul_one, Int.mul_zero, Int.sub_zero]
    · rw [hlE]
      simp [LineSide.pick]
  · refine ⟨?_, ?_, ?_, hsides.side .right, ⟨Int.le_refl _, Int.le_refl _⟩, fun _ => rfl,
      fun h => absurd h (by decide)⟩
    · rw [hw]
      exact (pos_zero _ _ _).symm
    · rw [hw]
      simp [LineSide.pick]
    · rw [he]
      simp [LineSide.pick]

end Thick
end EG
