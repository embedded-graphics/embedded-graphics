/-
  EG.Lemmas.LinePoints — `Line::points()` (state machine) = closed form `(List.range n).map (ptAt l)`.

  The arithmetic of the closed form (the Bresenham error invariant): after `k` major steps the returned
  point has made `mAt k` minor steps, where
    `mPre 0 = 0`, `mAt k = bump k (mPre k)`, `mPre (k+1) = mAt k`,
    `bump k m = if 2 (dmin k - dmaj m) > dmaj then m + 1 else m`
  (the test `error > error_threshold` of `Bresenham::next`, with
  `error = 2 (dmin k - dmaj m)`, `error_threshold = dmaj`).
  Invariant (for `0 < dmaj`): `-dmaj < 2 (dmin k - dmaj (mAt k)) ≤ dmaj`.

  The vocabulary of the closed form: the signed deltas `dxOf dyOf`, `aabs`, `sgn`, the major axis
  (`yMajor`), `dmaj dmin` (major / minor length), `pmaj pmin` (unit steps), `ptAt`. And the iterator
  as a drain: `points_remaining` is the exact number of items, so `toList` is itself what a state
  still yields (`PointsIt.yields`), for every fuel that covers it (`PointsIt.toListFuel_stable`).
-/
import EG.Model.Line
import EG.Basic.Arith
import EG.Lemmas.Stream
namespace EG

/-- `Point::abs` per coordinate is `i32::abs` (the model writes it with an `if`). -/
theorem Pt.abs_x_eq (p : Pt) : p.abs.x = (p.x.natAbs : Int) := by unfold Pt.abs; dsimp only; split <;> omega
theorem Pt.abs_y_eq (p : Pt) : p.abs.y = (p.y.natAbs : Int) := by unfold Pt.abs; dsimp only; split <;> omega

namespace Line

def bump (dmaj dmin : Int) (k : Nat) (m : Int) : Int :=
  if 2 * (dmin * (k : Int) - dmaj * m) > dmaj then m + 1 else m

def mPre (dmaj dmin : Int) : Nat → Int
  | 0 => 0
  | k + 1 => bump dmaj dmin k (mPre dmaj dmin k)

def mAt (dmaj dmin : Int) (k : Nat) : Int := bump dmaj dmin k (mPre dmaj dmin k)

theorem mPre_succ (dmaj dmin : Int) (k : Nat) : mPre dmaj dmin (k + 1) = mAt dmaj dmin k := rfl

theorem bump_cases (dmaj dmin : Int) (k : Nat) (m : Int) :
    (2 * (dmin * (k : Int) - dmaj * m) > dmaj ∧ bump dmaj dmin k m = m + 1) ∨
    (2 * (dmin * (k : Int) - dmaj * m) ≤ dmaj ∧ bump dmaj dmin k m = m) := by
  unfold bump
  split
  · exact Or.inl ⟨by assumption, rfl⟩
  · exact Or.inr ⟨by omega, rfl⟩

theorem mAt_zero {dmaj dmin : Int} (h : 0 ≤ dmaj) : mAt dmaj dmin 0 = 0 := by
  rcases bump_cases dmaj dmin 0 0 with ⟨hc, _⟩ | ⟨_, hb⟩
  · omega
  · exact hb

theorem mAt_succ (dmaj dmin : Int) (k : Nat) :
    mAt dmaj dmin (k + 1) = mAt dmaj dmin k ∨ mAt dmaj dmin (k + 1) = mAt dmaj dmin k + 1 := by
  rcases bump_cases dmaj dmin (k + 1) (mAt dmaj dmin k) with ⟨_, hb⟩ | ⟨_, hb⟩
  · exact Or.inr hb
  · exact Or.inl hb

theorem mAt_nonneg {dmaj dmin : Int} (h : 0 ≤ dmaj) (k : Nat) : 0 ≤ mAt dmaj dmin k := by
  induction k with
  | zero => rw [mAt_zero h]; omega
  | succ k ih => rcases mAt_succ dmaj dmin k with e | e <;> omega

/-- The error invariant: after the correction of call `k` the error is in `(-dmaj, dmaj]`. -/
theorem err_bounds {dmaj dmin : Int} (h0 : 0 ≤ dmin) (h1 : dmin ≤ dmaj) (hpos : 0 < dmaj) (k : Nat) :
    -dmaj < 2 * (dmin * (k : Int) - dmaj * mAt dmaj dmin k) ∧
      2 * (dmin * (k : Int) - dmaj * mAt dmaj dmin k) ≤ dmaj := by
  induction k with
  | zero =>
    rw [mAt_zero (by omega)]
    omega
  | succ k ih =>
    have e : dmin * ((k + 1 : Nat) : Int) = dmin * (k : Int) + dmin := by
      rw [Int.natCast_succ, Int.mul_add, Int.mul_one]
    rcases bump_cases dmaj dmin (k + 1) (mAt dmaj dmin k) with ⟨hc, hb⟩ | ⟨hc, hb⟩
    · rw [show mAt dmaj dmin (k + 1) = mAt dmaj dmin k + 1 from hb, Int.mul_add, Int.mul_one]
      omega
    · rw [show mAt dmaj dmin (k + 1) = mAt dmaj dmin k from hb]
      omega

theorem le_of_mul_lt_add {D a b : Int} (hD : 0 < D) (h : D * a < D * b + D) : a ≤ b := by
  apply Int.le_of_lt_add_one
  apply Int.lt_of_mul_lt_mul_left (a := D) _ (by omega)
  rw [Int.mul_add, Int.mul_one]
  exact h

/-- The error window `(-dmaj, dmaj]` has width `2 * dmaj`, the error changes by `2 * dmaj` per minor step:
only one minor count fits. -/
theorem mAt_unique {dmaj dmin : Int} (h0 : 0 ≤ dmin) (h1 : dmin ≤ dmaj) (hpos : 0 < dmaj) (k : Nat)
    (m : Int) (hl : -dmaj < 2 * (dmin * (k : Int) - dmaj * m))
    (hu : 2 * (dmin * (k : Int) - dmaj * m) ≤ dmaj) : mAt dmaj dmin k = m := by
  obtain ⟨h3, h4⟩ := err_bounds h0 h1 hpos k
  exact Int.le_antisymm (le_of_mul_lt_add hpos (by omega)) (le_of_mul_lt_add hpos (by omega))

theorem mAt_end {dmaj dmin : Int} (h0 : 0 ≤ dmin) (h1 : dmin ≤ dmaj) (hpos : 0 < dmaj) (k : Nat)
    (hk : (k : Int) = dmaj) : mAt dmaj dmin k = dmin := by
  have e : dmin * (k : Int) = dmaj * dmin := by rw [hk, Int.mul_comm]
  exact mAt_unique h0 h1 hpos k dmin (by omega) (by omega)

theorem mAt_le {dmaj dmin : Int} (h0 : 0 ≤ dmin) (h1 : dmin ≤ dmaj) (k : Nat)
    (hk : (k : Int) ≤ dmaj) : mAt dmaj dmin k ≤ dmin := by
  by_cases hpos : 0 < dmaj
  · obtain ⟨h3, _⟩ := err_bounds h0 h1 hpos k
    have a2 : dmin * (k : Int) ≤ dmin * dmaj := Int.mul_le_mul_of_nonneg_left hk h0
    rw [Int.mul_comm dmin dmaj] at a2
    exact le_of_mul_lt_add hpos (by omega)
  · have hk0 : k = 0 := by omega
    rw [hk0, mAt_zero (by omega)]
    exact h0

/-- Point returned by call `k` of a Bresenham walk from `s` (generic parameters). -/
def ptAtG (s pmaj pmin : Pt) (dmaj dmin : Int) (k : Nat) : Pt :=
  ⟨s.x + (k : Int) * pmaj.x + mAt dmaj dmin k * pmin.x,
   s.y + (k : Int) * pmaj.y + mAt dmaj dmin k * pmin.y⟩

theorem succ_mul' (k : Nat) (a : Int) : ((k + 1 : Nat) : Int) * a = (k : Int) * a + a := by
  rw [Int.natCast_succ, Int.add_mul, Int.one_mul]

/-- Simulation: before call `k` the state holds the point after `k` major and `mPre k` minor steps and
the error `2 (dmin k - dmaj (mPre k))`; the call corrects (`bump`), emits, and takes the major step. -/
theorem toListFuel_closed (P : BresenhamParameters) (s : Pt) (dmaj dmin : Int)
    (hT : P.errorThreshold = dmaj) (hM : P.errorStep.major = 2 * dmin)
    (hm : P.errorStep.minor = 2 * dmaj) :
    ∀ (fuel k : Nat) (b : Bresenham),
      b.point = ⟨s.x + (k : Int) * P.positionStep.major.x + mPre dmaj dmin k * P.positionStep.minor.x,
                 s.y + (k : Int) * P.positionStep.major.y + mPre dmaj dmin k * P.positionStep.minor.y⟩ →
      b.error = 2 * (dmin * (k : Int) - dmaj * mPre dmaj dmin k) →
      PointsIt.toListFuel fuel ⟨P, b, fuel⟩ =
        (List.range' k fuel).map (ptAtG s P.positionStep.major P.positionStep.minor dmaj dmin) := by
  intro fuel
  induction fuel with
  | zero => intro k b _ _; simp [PointsIt.toListFuel]
  | succ fuel ih =>
    intro k b hp he
    obtain ⟨bp, be⟩ := b
    simp only at hp he
    subst hp he
    rw [List.range'_succ, List.map_cons]
    unfold PointsIt.toListFuel
    simp only [PointsIt.next, Nat.zero_lt_succ, ↓reduceIte, Bresenham.next, hT, hM, hm,
      Nat.add_sub_cancel]
    rcases bump_cases dmaj dmin k (mPre dmaj dmin k) with ⟨hc, hb⟩ | ⟨hc, hb⟩
    · simp only [hc, ↓reduceIte]
      have hmk : mAt dmaj dmin k = mPre dmaj dmin k + 1 := hb
      congr 1
      · simp only [ptAtG, hmk, Pt.ext_iff', Pt.add_x, Pt.add_y, Int.add_mul, Int.one_mul]
        refine ⟨?_, ?_⟩ <;> omega
      · apply ih (k + 1)
        · simp only [mPre_succ, hmk, Pt.ext_iff', Pt.add_x, Pt.add_y, Int.add_mul, Int.one_mul,
            succ_mul']
          refine ⟨?_, ?_⟩ <;> omega
        · simp only [mPre_succ, hmk, Int.mul_add, Int.mul_one, Int.natCast_succ]
          omega
    · have hc' : ¬ (2 * (dmin * (k : Int) - dmaj * mPre dmaj dmin k) > dmaj) := by omega
      simp only [hc', ↓reduceIte]
      have hmk : mAt dmaj dmin k = mPre dmaj dmin k := hb
      congr 1
      · simp only [ptAtG, hmk]
      · apply ih (k + 1)
        · simp only [mPre_succ, hmk, Pt.ext_iff', Pt.add_x, Pt.add_y, succ_mul']
          refine ⟨?_, ?_⟩ <;> omega
        · simp only [mPre_succ, hmk, Int.mul_add, Int.mul_one, Int.natCast_succ]
          omega

def aabs (a : Int) : Int := if a < 0 then -a else a
def sgn (a : Int) : Int := if a ≥ 0 then 1 else -1
def dxOf (l : Line) : Int := l.stop.x - l.start.x
def dyOf (l : Line) : Int := l.stop.y - l.start.y
/-- The y axis is the major axis (the tie `|dy| = |dx|` counts as y-major, as in the code). -/
def yMajor (l : Line) : Prop := aabs (dyOf l) ≥ aabs (dxOf l)
instance (l : Line) : Decidable (yMajor l) :=
  inferInstanceAs (Decidable (aabs (dyOf l) ≥ aabs (dxOf l)))
def dmaj (l : Line) : Int := if yMajor l then aabs (dyOf l) else aabs (dxOf l)
def dmin (l : Line) : Int := if yMajor l then aabs (dxOf l) else aabs (dyOf l)
def pmaj (l : Line) : Pt := if yMajor l then ⟨0, sgn (dyOf l)⟩ else ⟨sgn (dxOf l), 0⟩
def pmin (l : Line) : Pt := if yMajor l then ⟨sgn (dxOf l), 0⟩ else ⟨0, sgn (dyOf l)⟩

/-- The point returned by the `k`-th call of `next` (k = 0, 1, ..). -/
def ptAt (l : Line) (k : Nat) : Pt := ptAtG l.start (pmaj l) (pmin l) (dmaj l) (dmin l) k

theorem ptAt_eq (l : Line) (k : Nat) :
    ptAt l k = ⟨l.start.x + (k : Int) * (pmaj l).x + mAt (dmaj l) (dmin l) k * (pmin l).x,
                l.start.y + (k : Int) * (pmaj l).y + mAt (dmaj l) (dmin l) k * (pmin l).y⟩ := rfl

theorem params_new (l : Line) :
    BresenhamParameters.new l = ⟨dmaj l, ⟨2 * dmin l, 2 * dmaj l⟩, ⟨pmaj l, pmin l⟩⟩ := by
  unfold BresenhamParameters.new dmaj dmin pmaj pmin
  by_cases h : yMajor l
  · have h' : (l.stop - l.start).abs.y ≥ (l.stop - l.start).abs.x := h
    simp only [h, ↓reduceIte]
    rw [if_pos h']
    rfl
  · have h' : ¬ (l.stop - l.start).abs.y ≥ (l.stop - l.start).abs.x := h
    simp only [h, ↓reduceIte]
    rw [if_neg h']
    rfl

theorem dmin_nonneg (l : Line) : 0 ≤ dmin l := by
  unfold dmin aabs; omega
theorem dmin_le_dmaj (l : Line) : dmin l ≤ dmaj l := by
  unfold dmin dmaj
  by_cases h : yMajor l
  · simp only [h, ↓reduceIte]; exact h
  · simp only [h, ↓reduceIte]; unfold yMajor at h; omega
theorem dmaj_nonneg (l : Line) : 0 ≤ dmaj l := by
  have := dmin_nonneg l; have := dmin_le_dmaj l; omega

theorem dmaj_eq_max (l : Line) : dmaj l = max (aabs (dxOf l)) (aabs (dyOf l)) := by
  unfold dmaj yMajor
  rw [Int.max_def]
  rfl

theorem majorLength_eq (l : Line) : majorLength l = (dmaj l).toNat + 1 := by
  rw [dmaj_eq_max]; rfl

theorem points_eq (l : Line) : points l = (List.range ((dmaj l).toNat + 1)).map (ptAt l) := by
  unfold points PointsIt.toList pointsIt
  simp only [majorLength_eq, params_new]
  rw [toListFuel_closed _ l.start (dmaj l) (dmin l) rfl rfl rfl _ 0]
  · rw [List.range_eq_range']; rfl
  · simp [Bresenham.new, mPre]
  · simp [Bresenham.new, mPre]

theorem points_length' (l : Line) : (points l).length = (dmaj l).toNat + 1 := by
  rw [points_eq]; simp

theorem points_getElem (l : Line) (i : Nat) (h : i < (points l).length) :
    (points l)[i] = ptAt l i := by
  simp [points_eq]

theorem mem_points {l : Line} {p : Pt} :
    p ∈ points l ↔ ∃ k : Nat, (k : Int) ≤ dmaj l ∧ p = ptAt l k := by
  rw [points_eq]
  simp only [List.mem_map, List.mem_range]
  have := dmaj_nonneg l
  constructor
  · rintro ⟨k, hk, rfl⟩; exact ⟨k, by omega, rfl⟩
  · rintro ⟨k, hk, rfl⟩; exact ⟨k, by omega, rfl⟩

theorem PointsIt.drains : Drains PointsIt.next PointsIt.toListFuel :=
  ⟨fun _ => rfl, fun n it => by rw [PointsIt.toListFuel]; cases it.next <;> rfl⟩

theorem PointsIt.yields : Yields PointsIt.next PointsIt.toList := by
  intro it
  unfold PointsIt.toList
  cases hr : it.pointsRemaining with
  | zero => rw [PointsIt.toListFuel, PointsIt.next, hr]; rfl
  | succ m => rw [PointsIt.toListFuel, PointsIt.next, hr]; rfl

theorem PointsIt.toList_length_le (it : PointsIt) : it.toList.length ≤ it.pointsRemaining := by
  rw [PointsIt.toList, PointsIt.drains.eq_take PointsIt.yields]
  exact List.length_take_le _ _

theorem PointsIt.toListFuel_stable (fuel : Nat) (it : PointsIt) (h : it.pointsRemaining ≤ fuel) :
    it.toListFuel fuel = it.toList :=
  PointsIt.drains.eq_rest PointsIt.yields (Nat.le_trans it.toList_length_le h)

theorem pointsIt_next (l : Line) : ∃ p seg, (pointsIt l).next = some (p, seg) := by
  unfold PointsIt.next
  rw [if_pos (show (pointsIt l).pointsRemaining > 0 from Nat.succ_pos _)]
  exact ⟨_, _, rfl⟩

end Line
end EG
