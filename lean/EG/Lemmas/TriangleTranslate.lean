/-
  EG.Lemmas.TriangleTranslate — translation commutes with everything the triangle code computes:
  `sorted_yx`, `area_doubled`, the bounding box, the Bresenham edge lines (`Line.points_translate`),
  `bresenham_intersection` / `scanline_intersection` (row spans move with the triangle),
  `points()` and `contains()`.
  The only non-equivariant ingredient is the saturating arithmetic of `Rectangle::rows()`; the
  theorem about `points()` therefore assumes `Rect.InRange` of both bounding boxes (no `i32`
  saturation), which display coordinates satisfy.
-/
import EG.Lemmas.TriangleLine
import EG.Lemmas.TrianglePoints
import EG.Lemmas.RectTranslate
namespace EG

theorem beq_add_right (a b c : Int) : (a + c == b + c) = (a == b) := by
  apply Bool.eq_iff_iff.mpr
  simp only [beq_iff_eq]; omega

namespace Scanline

/-- `s'` is `s` moved by `d`; empty scanlines only have to agree on the row. -/
def Moved (d : Pt) (s s' : Scanline) : Prop :=
  s'.y = s.y + d.y ∧
    ((¬ s.xs < s.xe ∧ ¬ s'.xs < s'.xe) ∨ (s'.xs = s.xs + d.x ∧ s'.xe = s.xe + d.x))

theorem Moved.newEmpty (d : Pt) (y : Int) : Moved d (newEmpty y) (newEmpty (y + d.y)) := by
  unfold Moved Scanline.newEmpty; simp

theorem Moved.isEmpty {d : Pt} {s s' : Scanline} (h : Moved d s s') : s'.isEmpty = s.isEmpty := by
  unfold Scanline.isEmpty
  obtain ⟨_, h | h⟩ := h
  · simp [h.1, h.2]
  · apply congrArg; apply decide_eq_decide.mpr; omega

theorem Moved.extend {d : Pt} {s s' : Scanline} (h : Moved d s s') (x : Int) :
    Moved d (s.extend x) (s'.extend (x + d.x)) := by
  obtain ⟨hy, h⟩ := h
  rw [extend_eq, extend_eq]
  by_cases h0 : s.xs < s.xe
  · obtain h | ⟨h1, h2⟩ := h
    · exact absurd h0 h.1
    · rw [if_pos h0, if_pos (show s'.xs < s'.xe by omega), h1, h2, Int.min_add_right,
        Int.add_right_comm x d.x 1, Int.max_add_right]
      exact ⟨hy, Or.inr ⟨rfl, rfl⟩⟩
  · rw [if_neg h0, if_neg (show ¬ s'.xs < s'.xe by omega)]
    exact ⟨hy, Or.inr ⟨rfl, by dsimp only; omega⟩⟩

theorem Moved.extendAll (d : Pt) : ∀ (l : List Pt) (s s' : Scanline), Moved d s s' →
    Moved d (s.extendAll l) (s'.extendAll (l.map (· + d))) := by
  intro l
  induction l with
  | nil => intro s s' h; exact h
  | cons p l ih =>
    intro s s' h
    simp only [Scanline.extendAll, List.map_cons, List.foldl_cons]
    exact ih _ _ (h.extend p.x)

theorem rowPixels_translate (l : Line) (d : Pt) (y : Int) :
    rowPixels (l.translate d) (y + d.y) = (rowPixels l y).map (· + d) := by
  unfold rowPixels
  rw [Line.points_translate, List.filter_map]
  congr 2
  funext p
  simp only [Function.comp, Pt.add_y]
  exact beq_add_right _ _ _

theorem Moved.bint {d : Pt} {s s' : Scanline} (h : Moved d s s') (l : Line) :
    Moved d (s.bint l) (s'.bint (l.translate d)) := by
  rw [bint_eq_extendAll, bint_eq_extendAll, h.1, rowPixels_translate]
  exact Moved.extendAll d _ _ _ h

theorem Moved.points {d : Pt} {s s' : Scanline} (h : Moved d s s') :
    s'.points = s.points.map (· + d) := by
  obtain ⟨hy, h | ⟨h1, h2⟩⟩ := h
  · rw [points_empty h.1, points_empty h.2]; rfl
  · unfold Scanline.points
    rw [h1, h2, irange_shift, List.map_map, List.map_map]
    apply List.map_congr_left
    intro x _
    simp only [Function.comp, Pt.ext_iff', Pt.add_x, Pt.add_y, hy, and_self]

end Scanline

namespace Triangle

theorem yxLt_translate (p q d : Pt) : yxLt (p + d) (q + d) ↔ yxLt p q := by
  unfold yxLt; simp only [Pt.add_x, Pt.add_y]; omega

theorem sortTwoYx_translate (p q d : Pt) :
    sortTwoYx (p + d) (q + d) = ((sortTwoYx p q).1 + d, (sortTwoYx p q).2 + d) := by
  unfold sortTwoYx
  by_cases h : yxLt p q
  · have h' := (yxLt_translate p q d).mpr h
    simp only [h, h', ↓reduceIte]
  · have h' : ¬ yxLt (p + d) (q + d) := fun c => h ((yxLt_translate p q d).mp c)
    simp only [h, h', ↓reduceIte]

theorem sortedYx_translate (t : Triangle) (d : Pt) :
    (t.translate d).sortedYx = t.sortedYx.translate d := by
  unfold sortedYx translate
  simp only [sortTwoYx_translate]

theorem extremes_translate (t : Triangle) (d : Pt) :
    xMin (t.translate d) = xMin t + d.x ∧ xMax (t.translate d) = xMax t + d.x ∧
    yMin (t.translate d) = yMin t + d.y ∧ yMax (t.translate d) = yMax t + d.y := by
  simp only [xMin, xMax, yMin, yMax, translate, Pt.add_x, Pt.add_y, Int.min_add_right,
    Int.max_add_right, and_self]

theorem boundingBox_translate (t : Triangle) (d : Pt) :
    (t.translate d).boundingBox = t.boundingBox.translate d := by
  obtain ⟨e1, e2, e3, e4⟩ := extremes_translate t d
  rw [boundingBox_eq_withCorners, boundingBox_eq_withCorners, e1, e2, e3, e4]
  exact Rect.withCorners_translate ⟨xMin t, yMin t⟩ ⟨xMax t, yMax t⟩ d

theorem sortedClockwise_translate (t : Triangle) (d : Pt) :
    (t.translate d).sortedClockwise = t.sortedClockwise.translate d := by
  unfold sortedClockwise
  rw [areaDoubled_translate, sortedYx_translate]
  split
  · rfl
  · split <;> rfl

theorem scanlineIntersection_translate (t : Triangle) (d : Pt) (y : Int) :
    Scanline.Moved d (t.scanlineIntersection y) ((t.translate d).scanlineIntersection (y + d.y)) := by
  unfold scanlineIntersection
  rw [areaDoubled_translate, sortedYx_translate]
  have h0 := Scanline.Moved.newEmpty d y
  split
  · exact h0.bint ⟨t.sortedYx.v1, t.sortedYx.v3⟩
  · exact ((h0.bint ⟨t.sortedYx.v1, t.sortedYx.v2⟩).bint ⟨t.sortedYx.v1, t.sortedYx.v3⟩).bint
      ⟨t.sortedYx.v2, t.sortedYx.v3⟩

theorem span_translate (t : Triangle) (d : Pt) (y : Int) :
    Scanline.Moved d (t.span y) ((t.translate d).span (y + d.y)) := by
  unfold span
  rw [sortedClockwise_translate]
  exact scanlineIntersection_translate _ d y

theorem untilEmpty_moved (d : Pt) (sp sp' : Int → Scanline)
    (h : ∀ y, Scanline.Moved d (sp y) (sp' (y + d.y))) : ∀ (ys : List Int),
    (untilEmpty sp' (ys.map (· + d.y))).flatMap Scanline.points =
      ((untilEmpty sp ys).flatMap Scanline.points).map (· + d) := by
  intro ys
  induction ys with
  | nil => rfl
  | cons y ys ih =>
    simp only [List.map_cons, untilEmpty]
    rw [(h y).isEmpty]
    by_cases he : (sp y).isEmpty = true
    · simp only [he, ↓reduceIte]; rfl
    · simp only [he, Bool.false_eq_true, ↓reduceIte, List.flatMap_cons, List.map_append, ih,
        (h y).points]

theorem rowsSpec_moved (d : Pt) (sp sp' : Int → Scanline)
    (h : ∀ y, Scanline.Moved d (sp y) (sp' (y + d.y))) (rs re : Int) :
    rowsSpec sp' (rs + d.y) (re + d.y) = (rowsSpec sp rs re).map (· + d) := by
  unfold rowsSpec seen
  have e : rs + d.y < re + d.y ↔ rs < re := by omega
  by_cases hr : rs < re
  · have hr' := e.mpr hr
    simp only [hr, hr', ↓reduceIte]
    rw [(h rs).isEmpty]
    have e2 : rs + d.y + 1 = rs + 1 + d.y := by omega
    rw [e2, irange_shift]
    by_cases he : (sp rs).isEmpty = true
    · simp only [he, ↓reduceIte]
      exact untilEmpty_moved d sp sp' h _
    · simp only [he, Bool.false_eq_true, ↓reduceIte, List.flatMap_cons, List.map_append,
        untilEmpty_moved d sp sp' h, (h rs).points]
  · have hr' : ¬ rs + d.y < re + d.y := fun c => hr (e.mp c)
    simp only [hr, hr', ↓reduceIte, List.map_nil]

theorem points_translate (t : Triangle) (d : Pt) (h1 : t.boundingBox.InRange)
    (h2 : (t.translate d).boundingBox.InRange) :
    (t.translate d).points = t.points.map (· + d) := by
  rw [points_eq_take, points_eq_take, List.map_take]
  have hb := boundingBox_translate t d
  have e1 : (t.translate d).pointsBudget = t.pointsBudget := by
    unfold pointsBudget; rw [hb]; rfl
  have e2 : (t.translate d).boundingBox.tl.y = t.boundingBox.tl.y + d.y := by rw [hb]; rfl
  have e3 : (t.translate d).boundingBox.rowsEnd = t.boundingBox.rowsEnd + d.y := by
    rw [Rect.rowsEnd_eq h2, Rect.rowsEnd_eq h1, hb]
    simp only [Rect.translate, Pt.add_y]; omega
  rw [e1, e2, e3, rowsSpec_moved d t.span (t.translate d).span (span_translate t d)]

theorem isInside_translate (t : Triangle) (d p : Pt) :
    (t.translate d).isInside (p + d) = t.isInside p := by
  unfold isInside
  rw [baryS_translate, baryT_translate, areaDoubled_translate]

theorem edgePoints_translate (t : Triangle) (d : Pt) :
    (t.translate d).edgePoints = t.edgePoints.map (· + d) := by
  unfold edgePoints edgeLines
  rw [sortedYx_translate]
  simp only [translate, List.flatMap_cons, List.flatMap_nil, List.append_nil, List.map_append]
  have e : ∀ a b : Pt, Line.points ⟨a + d, b + d⟩ = (Line.points ⟨a, b⟩).map (· + d) :=
    fun a b => Line.points_translate ⟨a, b⟩ d
  rw [e, e, e]

theorem contains_translate (t : Triangle) (d p : Pt) :
    (t.translate d).contains (p + d) = t.contains p := by
  unfold contains containsWith
  rw [boundingBox_translate, Rect.contains_translate, areaDoubled_translate, isInside_translate,
    edgePoints_translate]
  have e : (t.edgePoints.map (· + d)).any (fun q => q == p + d) = t.edgePoints.any (fun q => q == p) := by
    rw [List.any_map]
    apply congrArg (fun f => List.any t.edgePoints f)
    funext q
    apply Bool.eq_iff_iff.mpr
    simp only [Function.comp, beq_iff_eq]
    exact Pt.add_right_cancel'
  rw [e]

end Triangle
end EG
