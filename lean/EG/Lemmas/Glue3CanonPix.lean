/-
  EG.Lemmas.Glue3CanonPix — the driver's canonical pixel-map text is a proved function of the
  pixel map: `Driver.canonPix ws` (stable merge sort by (y, x), then the last entry of every run
  of equal points) lists, in strictly increasing row-major order, exactly the pairs `(p, c)` with
  `lastWrite ws p = some c` (= `PMap.empty.apply ws p`, EG/Lemmas/PMap.lean).
-/
import EG.Driver.Util
import EG.Lemmas.Target
namespace EG
namespace Glue3
open EG.Tgt EG.Driver

theorem ptLe_iff (a b : Pt) : ptLe a b = true ↔ a.y < b.y ∨ (a.y = b.y ∧ a.x ≤ b.x) := by
  unfold ptLe; simp

theorem ptLe_trans (a b c : Pt) (h1 : ptLe a b = true) (h2 : ptLe b c = true) : ptLe a c = true := by
  rw [ptLe_iff] at *; omega

theorem ptLe_total (a b : Pt) : (ptLe a b || ptLe b a) = true := by
  rw [Bool.or_eq_true, ptLe_iff, ptLe_iff]; omega

theorem ptLe_refl (a : Pt) : ptLe a a = true := by rw [ptLe_iff]; omega

theorem rowMajorLt_of_ptLe_ne {a b : Pt} (h : ptLe a b = true) (hne : a ≠ b) : Pt.rowMajorLt a b := by
  rw [ptLe_iff] at h
  unfold Pt.rowMajorLt
  have : ¬ (a.x = b.x ∧ a.y = b.y) := fun e => hne (Pt.ext_iff'.mpr e)
  omega

theorem rowMajorLt_of_lt_of_le {a b c : Pt} (h1 : Pt.rowMajorLt a b) (h2 : ptLe b c = true) :
    Pt.rowMajorLt a c := by
  rw [ptLe_iff] at h2; unfold Pt.rowMajorLt at *; omega

theorem rowMajorLt_ne {a b : Pt} (h : Pt.rowMajorLt a b) : a ≠ b := by
  intro e; subst e; unfold Pt.rowMajorLt at h; omega

theorem lastWrite_cons_isSome (w : Pt × Color) (ws : Writes) : (lastWrite (w :: ws) w.1).isSome = true := by
  rw [lastWrite_cons]
  cases lastWrite ws w.1 <;> simp

theorem lastWrite_filter_key (ws : Writes) (p : Pt) :
    lastWrite (ws.filter (fun w => w.1 == p)) p = lastWrite ws p := by
  have := lastWrite_filter (fun q => q == p) ws p
  simpa using this

/-- The order the driver sorts by. -/
def keyLe (a b : Pt × Color) : Bool := ptLe a.1 b.1

theorem lastOfRuns_sublist : ∀ (l : List (Pt × Color)), (lastOfRuns l).Sublist l
  | [] => List.Sublist.refl _
  | [a] => List.Sublist.refl _
  | a :: b :: rest => by
    rw [lastOfRuns]
    split
    · exact (lastOfRuns_sublist (b :: rest)).cons _
    · exact (lastOfRuns_sublist (b :: rest)).cons_cons _

theorem head_lt_tail {a b : Pt × Color} {rest : List (Pt × Color)}
    (hs : (a :: b :: rest).Pairwise (fun a b => keyLe a b = true)) (hab : a.1 ≠ b.1) :
    ∀ w ∈ b :: rest, Pt.rowMajorLt a.1 w.1 := by
  obtain ⟨hle, hs'⟩ := List.pairwise_cons.mp hs
  have hb : Pt.rowMajorLt a.1 b.1 := rowMajorLt_of_ptLe_ne (hle b List.mem_cons_self) hab
  intro w hw
  rcases List.mem_cons.mp hw with rfl | hw
  · exact hb
  · exact rowMajorLt_of_lt_of_le hb ((List.pairwise_cons.mp hs').1 w hw)

theorem mem_lastOfRuns_sorted : ∀ (l : List (Pt × Color)), l.Pairwise (fun a b => keyLe a b = true) →
    ∀ (p : Pt) (c : Color), (p, c) ∈ lastOfRuns l ↔ lastWrite l p = some c
  | [], _, p, c => by simp [lastOfRuns, lastWrite_nil]
  | [a], _, p, c => by
    rw [lastOfRuns, lastWrite_singleton]
    obtain ⟨q, d⟩ := a
    by_cases h : q = p
    · subst h; simp [eq_comm]
    · have h' : ¬ p = q := fun e => h e.symm
      simp [h, h']
  | a :: b :: rest, hs, p, c => by
    have ih := mem_lastOfRuns_sorted (b :: rest) (List.pairwise_cons.mp hs).2 p c
    rw [lastOfRuns, lastWrite_cons]
    by_cases hab : a.1 = b.1
    · simp only [hab, beq_self_eq_true, ↓reduceIte]
      rw [ih]
      by_cases hp : b.1 = p
      · have hsome := lastWrite_cons_isSome b rest
        rw [hp] at hsome
        cases hl : lastWrite (b :: rest) p with
        | none => rw [hl] at hsome; cases hsome
        | some d => simp
      · simp [hp]
    · have hab' : (a.1 == b.1) = false := by simpa using hab
      simp only [hab', Bool.false_eq_true, ↓reduceIte, List.mem_cons]
      rw [ih]
      by_cases hp : a.1 = p
      · have hnone : lastWrite (b :: rest) p = none :=
          (lastWrite_eq_none_iff _ _).mpr
            (fun w hw e => rowMajorLt_ne (head_lt_tail hs hab w hw) (hp.trans e.symm))
        rw [hnone]
        obtain ⟨q, d⟩ := a
        simp only at hp
        subst hp
        simp [eq_comm]
      · have : (p, c) ≠ a := fun e => hp (by rw [← e])
        simp [hp, this]

theorem lastOfRuns_strict : ∀ (l : List (Pt × Color)), l.Pairwise (fun a b => keyLe a b = true) →
    (lastOfRuns l).Pairwise (fun a b => Pt.rowMajorLt a.1 b.1)
  | [], _ => by simp [lastOfRuns]
  | [a], _ => by simp [lastOfRuns]
  | a :: b :: rest, hs => by
    have ih := lastOfRuns_strict (b :: rest) (List.pairwise_cons.mp hs).2
    rw [lastOfRuns]
    by_cases hab : a.1 = b.1
    · simp only [hab, beq_self_eq_true, ↓reduceIte]; exact ih
    · have hab' : (a.1 == b.1) = false := by simpa using hab
      simp only [hab', Bool.false_eq_true, ↓reduceIte]
      exact List.pairwise_cons.mpr
        ⟨fun w hw => head_lt_tail hs hab w ((lastOfRuns_sublist (b :: rest)).subset hw), ih⟩

theorem keyLe_trans (a b c : Pt × Color) (h1 : keyLe a b = true) (h2 : keyLe b c = true) :
    keyLe a c = true := ptLe_trans _ _ _ h1 h2

theorem keyLe_total (a b : Pt × Color) : (keyLe a b || keyLe b a) = true := ptLe_total _ _

/-- Stability: the writes to one point keep their order under the driver's sort. -/
theorem mergeSort_filter_key (ws : Writes) (p : Pt) :
    (ws.mergeSort keyLe).filter (fun w => w.1 == p) = ws.filter (fun w => w.1 == p) := by
  have hpw : (ws.filter (fun w => w.1 == p)).Pairwise (fun a b => keyLe a b = true) := by
    rw [List.pairwise_filter]
    apply List.pairwise_of_forall
    intro a b ha hb
    have ea : a.1 = p := by simpa using ha
    have eb : b.1 = p := by simpa using hb
    unfold keyLe; rw [ea, eb]; exact ptLe_refl p
  have hsub : (ws.filter (fun w => w.1 == p)).Sublist (ws.mergeSort keyLe) :=
    List.sublist_mergeSort keyLe_trans keyLe_total hpw List.filter_sublist
  have h2 := hsub.filter (fun w => w.1 == p)
  rw [List.filter_filter] at h2
  simp only [Bool.and_self] at h2
  have hlen : (ws.filter (fun w => w.1 == p)).length =
      ((ws.mergeSort keyLe).filter (fun w => w.1 == p)).length :=
    ((List.mergeSort_perm ws keyLe).filter _).length_eq.symm
  exact (h2.eq_of_length hlen).symm

theorem lastWrite_mergeSort (ws : Writes) (p : Pt) :
    lastWrite (ws.mergeSort keyLe) p = lastWrite ws p := by
  rw [← lastWrite_filter_key, mergeSort_filter_key, lastWrite_filter_key]

theorem canonPix_eq (ws : Writes) : canonPix ws = lastOfRuns (ws.mergeSort keyLe) := rfl

/-- **`canonPix` lists exactly the pixel map**: `(p, c)` is printed iff the last write to `p` has
colour `c`. -/
theorem mem_canonPix (ws : Writes) (p : Pt) (c : Color) :
    (p, c) ∈ canonPix ws ↔ lastWrite ws p = some c := by
  rw [canonPix_eq, mem_lastOfRuns_sorted _ (List.pairwise_mergeSort keyLe_trans keyLe_total ws),
    lastWrite_mergeSort]

/-- **`canonPix` is strictly sorted row-major** (y first, then x): no point occurs twice. -/
theorem canonPix_strict (ws : Writes) :
    (canonPix ws).Pairwise (fun a b => Pt.rowMajorLt a.1 b.1) := by
  rw [canonPix_eq]
  exact lastOfRuns_strict _ (List.pairwise_mergeSort keyLe_trans keyLe_total ws)

/-- **The canonical text decides equality of pixel maps**: two write lists have the same `canonPix`
iff the last write to every point is the same. -/
theorem canonPix_eq_iff (ws ws' : Writes) :
    canonPix ws = canonPix ws' ↔ ∀ p, lastWrite ws p = lastWrite ws' p := by
  constructor
  · intro h p
    exact Option.ext fun c => by rw [← mem_canonPix, ← mem_canonPix, h]
  · intro h
    -- two strictly sorted lists with the same entries: permutations of each other, hence equal
    have nodup : ∀ ws, (canonPix ws).Nodup := fun ws =>
      (canonPix_strict ws).imp fun h e => rowMajorLt_ne h (congrArg Prod.fst e)
    refine List.Perm.eq_of_pairwise (le := fun a b => Pt.rowMajorLt a.1 b.1) ?_ (canonPix_strict ws)
      (canonPix_strict ws') ((List.perm_ext_iff_of_nodup (nodup ws) (nodup ws')).mpr ?_)
    · intro a b _ _ h1 h2
      unfold Pt.rowMajorLt at h1 h2
      omega
    · rintro ⟨p, c⟩
      rw [mem_canonPix, mem_canonPix, h p]

end Glue3
end EG
