/-
  EG.Lemmas.RawBits — one byte of the sub-byte raw types (RawU1, RawU2, RawU4): `storeByte` writes
  a field of `bits` bits at shift `sh` and `loadByte` reads it, bit by bit (`Nat.testBit`), for any
  field that lies inside the byte; the fields of the slots of a byte lie inside it and are disjoint.
-/
import EG.Model.Raw
namespace EG.Raw

def subByte (bits : Nat) : Prop := bits = 1 ∨ bits = 2 ∨ bits = 4
instance (bits : Nat) : Decidable (subByte bits) := by unfold subByte; exact inferInstance

theorem testBit_eq_false_of_lt {x n p : Nat} (hx : x < 2 ^ n) (hp : n ≤ p) : x.testBit p = false :=
  Nat.testBit_lt_two_pow (Nat.lt_of_lt_of_le hx (Nat.pow_le_pow_right (by decide) hp))

theorem loadByte_testBit (bits sh b k : Nat) :
    (loadByte bits sh b).testBit k = (decide (k < bits) && b.testBit (sh + k)) := by
  unfold loadByte rawNew mask
  rw [Nat.testBit_and, Nat.testBit_shiftRight, Nat.testBit_two_pow_sub_one, Bool.and_comm]

theorem loadByte_lt (bits sh b : Nat) : loadByte bits sh b < 2 ^ bits := by
  unfold loadByte rawNew mask
  rw [Nat.and_two_pow_sub_one_eq_mod]
  exact Nat.mod_lt _ (Nat.two_pow_pos bits)

/-- The mask clears the field (`255 ^^^ (mask <<< sh)` has exactly the bits outside it), the shifted
value has no bit outside it, and the `% 256` cut nothing off as the field ends below bit 8. -/
theorem storeByte_testBit {bits sh v b : Nat} (hsh : sh + bits ≤ 8) (hv : v < 2 ^ bits)
    (hb : b < 256) (p : Nat) :
    (storeByte bits sh v b).testBit p =
      if sh ≤ p ∧ p < sh + bits then v.testBit (p - sh) else b.testBit p := by
  have h255 : (255 : Nat) = 2 ^ 8 - 1 := rfl
  have h256 : (256 : Nat) = 2 ^ 8 := rfl
  unfold storeByte mask
  rw [h255, h256]
  simp only [Nat.testBit_or, Nat.testBit_and, Nat.testBit_xor, Nat.testBit_mod_two_pow,
    Nat.testBit_shiftLeft, Nat.testBit_two_pow_sub_one]
  by_cases hp : sh ≤ p ∧ p < sh + bits
  · have h8 : p < 8 := by omega
    have hf : p - sh < bits := by omega
    simp [hp, h8, hf]
  · rw [if_neg hp]
    by_cases h8 : p < 8
    · by_cases hle : sh ≤ p
      · have hf : ¬ p - sh < bits := by omega
        have hvf : v.testBit (p - sh) = false := testBit_eq_false_of_lt hv (by omega)
        simp [h8, hle, hf, hvf]
      · simp [h8, hle]
    · have hbf : b.testBit p = false := testBit_eq_false_of_lt (n := 8) hb (by omega)
      simp [h8, hbf]

theorem storeByte_lt {bits sh v b : Nat} (hsh : sh + bits ≤ 8) (hv : v < 2 ^ bits)
    (hb : b < 256) : storeByte bits sh v b < 256 := by
  apply Nat.lt_pow_two_of_testBit (n := 8)
  intro p hp
  rw [storeByte_testBit hsh hv hb, if_neg (by omega)]
  exact testBit_eq_false_of_lt (n := 8) hb hp

theorem loadByte_storeByte_same {bits sh v b : Nat} (hsh : sh + bits ≤ 8) (hv : v < 2 ^ bits)
    (hb : b < 256) : loadByte bits sh (storeByte bits sh v b) = v := by
  apply Nat.eq_of_testBit_eq
  intro k
  rw [loadByte_testBit, storeByte_testBit hsh hv hb]
  by_cases hk : k < bits
  · simp [hk]
  · simp [hk, testBit_eq_false_of_lt hv (Nat.le_of_not_lt hk)]

theorem loadByte_storeByte_other {bits sh sh' v b : Nat} (hsh : sh + bits ≤ 8) (hv : v < 2 ^ bits)
    (hb : b < 256) (hd : sh' + bits ≤ sh ∨ sh + bits ≤ sh') :
    loadByte bits sh' (storeByte bits sh v b) = loadByte bits sh' b := by
  apply Nat.eq_of_testBit_eq
  intro k
  rw [loadByte_testBit, loadByte_testBit, storeByte_testBit hsh hv hb]
  by_cases hk : k < bits
  · rw [if_neg (by omega)]
  · simp [hk]

/-- `bit_index` of slot `k` (= `index % pixels_per_byte`) of a byte. -/
def slotShift (bits : Nat) (o : Order) (k : Nat) : Nat :=
  (if o.alt then k else (8 / bits - 1) - k) * bits

theorem bitPosition_eq (bits : Nat) (o : Order) (i : Nat) :
    bitPosition bits o i = (i / (8 / bits), slotShift bits o (i % (8 / bits))) := rfl

theorem mul_add_le_mul {a b : Nat} (n : Nat) (h : a < b) : a * n + n ≤ b * n := by
  rw [← Nat.succ_mul]
  exact Nat.mul_le_mul_right n h

theorem slotShift_add_le {bits : Nat} (o : Order) {k : Nat} (hk : k < 8 / bits) :
    slotShift bits o k + bits ≤ 8 := by
  have hm : (if o.alt then k else (8 / bits - 1) - k) < 8 / bits := by split <;> omega
  exact Nat.le_trans (mul_add_le_mul bits hm) (Nat.div_mul_le_self 8 bits)

theorem slotShift_disjoint {bits : Nat} (o : Order) {k k' : Nat} (hk : k < 8 / bits)
    (hk' : k' < 8 / bits) (hne : k' ≠ k) :
    slotShift bits o k' + bits ≤ slotShift bits o k ∨
      slotShift bits o k + bits ≤ slotShift bits o k' := by
  have hm : (if o.alt then k' else (8 / bits - 1) - k') ≠ (if o.alt then k else (8 / bits - 1) - k) := by
    split <;> omega
  rcases Nat.lt_or_gt_of_ne hm with h | h
  · exact Or.inl (mul_add_le_mul bits h)
  · exact Or.inr (mul_add_le_mul bits h)

/-- `LittleEndianMsb0`: slot `s` of a byte occupies the bits just below `8 - bits * s`
(most significant bits first). -/
theorem slotShift_le {bits : Nat} (h : subByte bits) (s : Nat) :
    slotShift bits .le s = 8 - bits * (s + 1) := by
  have hdiv : 8 / bits * bits = 8 := by rcases h with rfl | rfl | rfl <;> rfl
  show (8 / bits - 1 - s) * bits = 8 - bits * (s + 1)
  rw [Nat.sub_sub, Nat.sub_mul, hdiv, Nat.mul_comm, Nat.add_comm]

/-- `BigEndianLsb0`: slot `s` starts at bit `bits * s` (least significant bits first). -/
theorem slotShift_be (bits s : Nat) : slotShift bits .be s = bits * s := by
  unfold slotShift Order.alt
  simp only [↓reduceIte, Nat.mul_comm]

end EG.Raw
