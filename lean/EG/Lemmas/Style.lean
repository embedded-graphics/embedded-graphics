/-
  EG.Lemmas.Style — facts about the `PrimitiveStyle` model EG.Model.Style: the split of the stroke width into
  its inside and outside part, the two offsets, transparency, the effective stroke colour; and the same
  facts about EG.Model.PrimStyle, the model of the same record that circle and ellipse use, read off
  through `PrimStyle.toStyle`.
-/
import EG.Model.Style
import EG.Model.PrimStyle
import EG.Lemmas.Rect
namespace EG
namespace Style

theorem outside_le_width (s : Style) : s.outsideStrokeWidth ≤ s.width := by
  obtain ⟨f, st, w, a⟩ := s
  cases a <;> simp only [outsideStrokeWidth] <;> omega

theorem inside_le_width (s : Style) : s.insideStrokeWidth ≤ s.width := by
  obtain ⟨f, st, w, a⟩ := s
  -- only `Center` has a case split: the `u32` saturation of `saturating_add(1)`
  cases a <;> simp only [insideStrokeWidth, satAddU32] <;> (try split) <;> omega

theorem inside_add_outside (s : Style) (h : s.width < 4294967295) :
    s.insideStrokeWidth + s.outsideStrokeWidth = s.width := by
  obtain ⟨f, st, w, a⟩ := s
  simp only at h
  cases a <;> simp only [insideStrokeWidth, outsideStrokeWidth, satAddU32] <;> (try split) <;> omega

/-- `Center`: the larger half is inside (below the saturation point). -/
theorem center_split (s : Style) (h : s.width < 4294967295) (ha : s.align = .center) :
    s.outsideStrokeWidth = s.width / 2 ∧ s.insideStrokeWidth = (s.width + 1) / 2 := by
  obtain ⟨f, st, w, a⟩ := s
  simp only at h ha
  subst ha
  simp only [insideStrokeWidth, outsideStrokeWidth, satAddU32]
  refine ⟨trivial, ?_⟩
  split <;> omega

theorem strokeOffset_eq (s : Style) (h : s.width ≤ 2147483647) :
    s.strokeOffset = (s.outsideStrokeWidth : Int) := by
  have := s.outside_le_width
  unfold strokeOffset
  rw [satAsI32_of_le (by omega)]

theorem fillOffset_eq (s : Style) (h : s.width ≤ 2147483647) :
    s.fillOffset = -(s.insideStrokeWidth : Int) := by
  have := s.inside_le_width
  unfold fillOffset
  rw [satAsI32_of_le (by omega)]

/-- Width 0: both parts are 0, so `stroke_area = fill_area = shape.offset(0)`. -/
theorem offsets_of_width_zero (s : Style) (h : s.width = 0) :
    s.strokeOffset = 0 ∧ s.fillOffset = 0 := by
  obtain ⟨f, st, w, a⟩ := s
  simp only at h
  subst h
  cases a <;> simp [strokeOffset, fillOffset, outsideStrokeWidth, insideStrokeWidth, satAsI32, satAddU32]

theorem isTransparent_iff (s : Style) :
    s.isTransparent = true ↔ (s.stroke = none ∨ s.width = 0) ∧ s.fill = none := by
  unfold isTransparent
  simp [Option.isNone_iff_eq_none]

theorem effectiveStrokeColor_eq (s : Style) :
    s.effectiveStrokeColor = if s.width > 0 then s.stroke else none := by
  unfold effectiveStrokeColor
  cases hs : s.stroke with
  | none => simp
  | some c => by_cases hw : s.width > 0 <;> simp [Option.filter, hw]

theorem effectiveStrokeColor_eq_none {s : Style} (h : s.stroke = none ∨ s.width = 0) :
    s.effectiveStrokeColor = none := by
  rw [effectiveStrokeColor_eq]
  rcases h with h | h
  · rw [h, ite_self]
  · rw [if_neg (by omega)]

end Style

namespace PrimStyle

theorem strokeOffset_nonneg (s : PrimStyle) : s.strokeOffset ≥ 0 := satAsI32_nonneg _

/-- The same record as the `Style` of the other shapes (`PrimitiveStyle` is modelled twice); the stroke
widths and offsets of the two agree by definition. -/
def toStyle (s : PrimStyle) : Style := ⟨s.fillColor, s.strokeColor, s.strokeWidth, s.strokeAlignment⟩

theorem width_split (s : PrimStyle) (h : s.strokeWidth < 4294967295) :
    s.insideStrokeWidth + s.outsideStrokeWidth = s.strokeWidth :=
  s.toStyle.inside_add_outside h

theorem zero_width_offsets (s : PrimStyle) (h : s.strokeWidth = 0) :
    s.strokeOffset = 0 ∧ s.fillOffset = 0 :=
  s.toStyle.offsets_of_width_zero h

theorem effectiveStrokeColor_eq (s : PrimStyle) :
    s.effectiveStrokeColor = if s.strokeWidth > 0 then s.strokeColor else none := by
  unfold effectiveStrokeColor
  cases s.strokeColor with
  | none => rw [ite_self]
  | some c => rfl

end PrimStyle

end EG
