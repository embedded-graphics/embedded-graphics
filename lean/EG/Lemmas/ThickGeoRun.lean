/-
  EG.Lemmas.ThickGeoRun — the whole run of the `ParallelsIterator` of a stroked line, band by band.
  With `cnt = (iL, jR)` parallels already yielded on the left / right (the centre line is the first
  right one), the sides alternate (`NInv.alt`), the side that is due yields the band `nextBand`
  (`next_geo`), and the thickness accumulator counts `2 D` per normal and `2 d` per extra parallel.
  The invariant is the closed form of the two sides (`Closed`, EG.Lemmas.ThickClosed) with its counters
  linked to `cnt` (`NInvC`; `NInv` hides the counters).
  * `Run.induct_closed`, `Run.induct_geo`: induction along a run with these facts at hand, with and
    without the counters;
  * `run_bands`: the parallels of the rest of the run lie in the bands `tau n`, `n = iL + 1, iL + 2, ..`
    (left) and `n = -jR, -jR - 1, ..` (right), each exactly once, and each satisfies `ParOK`;
  * `run_upper`: the run yields EVERY band `n` with `-nR < n <= nL` (`nL` / `nR` = final numbers of
    left / right parallels, `nR = nL` or `nL + 1`); the accumulator value `A` that ends the run satisfies
    `A^2 > threshold` and `A <= D + d + 2 D (nL + nR) - 2 (D - d) E` (`E` = number of extra parallels);
    `run_cover`: the same without the extra parallels counted;
  * `run_fetch`: a parallel of band `n` is fetched at an accumulator value `a`, `a^2 <= threshold`, after
    `2|n| - 1` resp. `2|n|` parallels that have each been counted.
-/
import EG.Lemmas.ThickGeoSide
import EG.Lemmas.ThickRun
set_option linter.unusedSimpArgs false
namespace EG
namespace Thick
open ParallelsIterator StrokeCtx

/-- The band a side yields next when `cnt = (iL, jR)` parallels have been yielded on the left /
right. -/
def nextBand : LineSide → Nat × Nat → Int
  | .left, cnt => (cnt.1 : Int) + 1
  | .right, cnt => -(cnt.2 : Int)

def bump (s : LineSide) (cnt : Nat × Nat) : Nat × Nat := s.put (s.pick cnt + 1) cnt

theorem nextBand_bump (s : LineSide) (cnt : Nat × Nat) :
    nextBand s (bump s cnt) = nextBand s cnt + s.sgn := by
  cases s
  · show ((cnt.1 + 1 : Nat) : Int) + 1 = (cnt.1 : Int) + 1 + 1; omega
  · show -((cnt.2 + 1 : Nat) : Int) = -(cnt.2 : Int) + -1; omega

theorem nextBand_bump_ne {s s' : LineSide} (h : s' ≠ s) (cnt : Nat × Nat) :
    nextBand s' (bump s cnt) = nextBand s' cnt := by
  cases s <;> cases s' <;> first | rfl | exact absurd rfl h

/-- `1` for an `Extra` parallel, `0` for a `Normal` one. -/
def exTy : ParallelLineType → Int
  | .normal => 0
  | .extra => 1

theorem exTy_cases (ty : ParallelLineType) : exTy ty = 0 ∨ exTy ty = 1 := by
  cases ty <;> simp [exTy]

/-- The invariant of the iterator between two calls of `next`, with the counters `(I, J, E)` of its two
sides (`Closed`, EG.Lemmas.ThickClosed): `cnt = (iL, jR)` parallels have been yielded on the left / right so
far, so the side `s` yields the band `+-(I + E) = nextBand s cnt` next; the sides alternate, starting on
the right with the centre line. -/
structure NInvC (c : StrokeCtx) (s0 : Pt) (fl : Bool) (it : ParallelsIterator) (cnt : Nat × Nat)
    (I J E : Int × Int) : Prop where
  closed : Closed c fl s0 it I J E
  hoff : it.strokeOffset = .none
  link : ∀ s : LineSide, s.sgn * (s.pick I + s.pick E) = nextBand s cnt
  alt : (it.nextSide = .right ∧ cnt.2 = cnt.1) ∨ (it.nextSide = .left ∧ cnt.2 = cnt.1 + 1)

/-- The same without the counters. -/
def NInv (c : StrokeCtx) (s0 : Pt) (fl : Bool) (it : ParallelsIterator) (cnt : Nat × Nat) : Prop :=
  ∃ I J E, NInvC c s0 fl it cnt I J E

theorem NInv.hperp {c : StrokeCtx} {s0 : Pt} {fl : Bool} {it : ParallelsIterator} {cnt : Nat × Nat}
    (h : NInv c s0 fl it cnt) : it.perpendicularParameters = c.perp := by
  obtain ⟨_, _, _, h⟩ := h
  exact h.closed.hperp

theorem NInv.hpp {c : StrokeCtx} {s0 : Pt} {fl : Bool} {it : ParallelsIterator} {cnt : Nat × Nat}
    (h : NInv c s0 fl it cnt) : it.parallelParameters = c.pp := by
  obtain ⟨_, _, _, h⟩ := h
  exact h.closed.hpp

theorem NInv.alt {c : StrokeCtx} {s0 : Pt} {fl : Bool} {it : ParallelsIterator} {cnt : Nat × Nat}
    (h : NInv c s0 fl it cnt) :
    (it.nextSide = .right ∧ cnt.2 = cnt.1) ∨ (it.nextSide = .left ∧ cnt.2 = cnt.1 + 1) := by
  obtain ⟨_, _, _, h⟩ := h
  exact h.alt

def bandOf (c : StrokeCtx) (s : Pt) (x : ParItem) : Int := c.ph x.2.1.point - c.ph s - x.2.1.error

theorem next_none_acc (it it' : ParallelsIterator) (h : it.next = some (none, it')) :
    it.thicknessAccumulator * it.thicknessAccumulator > it.thicknessThreshold := by
  unfold ParallelsIterator.next at h
  split at h
  · assumption
  · cases hnp : it.nextParallel it.nextSide with
    | none => rw [hnp] at h; simp at h
    | some v =>
      obtain ⟨⟨point, error⟩, it1⟩ := v
      rw [hnp] at h
      cases point <;> simp at h

theorem next_acc (c : StrokeCtx) (it it' : ParallelsIterator) (b : Bresenham) (ty : ParallelLineType)
    (hperp : it.perpendicularParameters = c.perp) (h : it.next = some (some (b, ty), it')) :
    ¬ (it.thicknessAccumulator * it.thicknessAccumulator > it.thicknessThreshold) ∧
    it'.thicknessThreshold = it.thicknessThreshold ∧
    it'.thicknessAccumulator = it.thicknessAccumulator + accStep c ty := by
  obtain ⟨hacc, pt, w, e, -, -, rfl⟩ := next_some it it' b ty h
  refine ⟨hacc, (sameFrame_setSide it it.nextSide w e).2.2.2.1, ?_⟩
  show it.thicknessAccumulator + _ = _
  rw [hperp]; cases ty <;> rfl

/-- **One call of `next` that yields a parallel, with the counters**: the side that is due skips
`k` steps and yields its next band, an `Extra` parallel (`E + 1`, after a minor step) or a `Normal` one
(`I + 1`); the accumulator moves as `next_acc` says. -/
theorem next_closed (c : StrokeCtx) (hv : c.Valid) (fl : Bool) (hfr : c.FrameOK fl) (s0 : Pt)
    (it it' : ParallelsIterator) (cnt : Nat × Nat) (I J E : Int × Int)
    (hg : NInvC c s0 fl it cnt I J E) (b : Bresenham) (ty : ParallelLineType)
    (h : it.next = some (some (b, ty), it')) :
    NInvC c s0 fl it' (bump it.nextSide cnt)
      (it.nextSide.put (it.nextSide.pick I + 1 - exTy ty) I)
      (it.nextSide.put (it.nextSide.pick J + (skipsFuel loopFuel it it.nextSide : Int) + exTy ty) J)
      (it.nextSide.put (it.nextSide.pick E + exTy ty) E) ∧
    ParOK c s0 (c.ph c.M' * nextBand it.nextSide cnt) b ty := by
  have hacc := (next_acc c it it' b ty hg.closed.hperp h).1
  obtain ⟨b', ty', it'', x, k, hn, hk, hst, hcl, -, -, hoff', hside'⟩ :=
    next_pos c hv fl s0 it I J E hg.closed hacc
  rw [h] at hn
  simp only [Option.some.injEq, Prod.mk.injEq] at hn
  obtain ⟨⟨rfl, rfl⟩, rfl⟩ := hn
  have hok := hst.parOK hv hfr hg.closed.hperp hg.closed.hflip (hg.closed.side _)
  rw [hg.link] at hok
  have hx : x = exTy ty := by
    rcases hst with ⟨rfl, rfl, -⟩ | ⟨rfl, -, rfl, -⟩ <;> rfl
  subst hx
  rw [hk]
  refine ⟨⟨hcl, hoff'.trans hg.hoff, fun s => ?_, ?_⟩, hok⟩
  · by_cases hs : s = it.nextSide
    · rw [hs, LineSide.pick_put, LineSide.pick_put, nextBand_bump, ← hg.link]
      rcases it.nextSide.sgn_eps with ⟨a, _⟩ | ⟨a, _⟩ <;> rw [a] <;> omega
    · rw [LineSide.pick_put_ne hs, LineSide.pick_put_ne hs, nextBand_bump_ne hs]
      exact hg.link s
  · rw [hside', hg.hoff, if_pos rfl]
    rcases hg.alt with ⟨q1, q2⟩ | ⟨q1, q2⟩ <;> rw [q1]
    · exact Or.inr ⟨rfl, by show cnt.2 + 1 = cnt.1 + 1; omega⟩
    · exact Or.inl ⟨rfl, by show cnt.2 = cnt.1 + 1; omega⟩

theorem next_geo (c : StrokeCtx) (hv : c.Valid) (fl : Bool) (hfr : c.FrameOK fl) (s0 : Pt)
    (it it' : ParallelsIterator) (cnt : Nat × Nat) (hg : NInv c s0 fl it cnt) (b : Bresenham)
    (ty : ParallelLineType) (h : it.next = some (some (b, ty), it')) :
    NInv c s0 fl it' (bump it.nextSide cnt) ∧
    ParOK c s0 (c.ph c.M' * nextBand it.nextSide cnt) b ty ∧
    ¬ (it.thicknessAccumulator * it.thicknessAccumulator > it.thicknessThreshold) ∧
    it'.thicknessThreshold = it.thicknessThreshold ∧
    it'.thicknessAccumulator = it.thicknessAccumulator + accStep c ty := by
  obtain ⟨I, J, E, hg⟩ := hg
  obtain ⟨g1, g2⟩ := next_closed c hv fl hfr s0 it it' cnt I J E hg b ty h
  exact ⟨⟨_, _, _, g1⟩, g2, next_acc c it it' b ty hg.closed.hperp h⟩

theorem Run.induct_closed (c : StrokeCtx) (hv : c.Valid) (fl : Bool) (hfr : c.FrameOK fl) (s0 : Pt)
    {motive : ParallelsIterator → Nat × Nat → Int × Int → Int × Int → Int × Int → List ParItem → Prop}
    (done : ∀ it cnt I J E, NInvC c s0 fl it cnt I J E →
      it.thicknessAccumulator * it.thicknessAccumulator > it.thicknessThreshold → motive it cnt I J E [])
    (step : ∀ it it' cnt I J E b ty xs, NInvC c s0 fl it cnt I J E →
      it.next = some (some (b, ty), it') →
      NInvC c s0 fl it' (bump it.nextSide cnt)
        (it.nextSide.put (it.nextSide.pick I + 1 - exTy ty) I)
        (it.nextSide.put (it.nextSide.pick J + (skipsFuel loopFuel it it.nextSide : Int) + exTy ty) J)
        (it.nextSide.put (it.nextSide.pick E + exTy ty) E) →
      ParOK c s0 (c.ph c.M' * nextBand it.nextSide cnt) b ty →
      ¬ (it.thicknessAccumulator * it.thicknessAccumulator > it.thicknessThreshold) →
      it'.thicknessThreshold = it.thicknessThreshold →
      it'.thicknessAccumulator = it.thicknessAccumulator + accStep c ty →
      motive it' (bump it.nextSide cnt)
        (it.nextSide.put (it.nextSide.pick I + 1 - exTy ty) I)
        (it.nextSide.put (it.nextSide.pick J + (skipsFuel loopFuel it it.nextSide : Int) + exTy ty) J)
        (it.nextSide.put (it.nextSide.pick E + exTy ty) E) xs →
      motive it cnt I J E ((it.nextSide, b, ty) :: xs))
    {it : ParallelsIterator} {xs : List ParItem} (hrun : Run it xs) :
    ∀ cnt I J E, NInvC c s0 fl it cnt I J E → motive it cnt I J E xs := by
  induction hrun with
  | done hn => exact fun cnt I J E hg => done _ cnt I J E hg (next_none_acc _ _ hn)
  | step hn _ ih =>
    intro cnt I J E hg
    obtain ⟨g1, g2⟩ := next_closed c hv fl hfr s0 _ _ cnt I J E hg _ _ hn
    obtain ⟨g3, g4, g5⟩ := next_acc c _ _ _ _ hg.closed.hperp hn
    exact step _ _ cnt I J E _ _ _ hg hn g1 g2 g3 g4 g5 (ih _ _ _ _ g1)

theorem Run.induct_geo (c : StrokeCtx) (hv : c.Valid) (fl : Bool) (hfr : c.FrameOK fl) (s0 : Pt)
    {motive : ParallelsIterator → Nat × Nat → List ParItem → Prop}
    (done : ∀ it cnt, NInv c s0 fl it cnt →
      it.thicknessAccumulator * it.thicknessAccumulator > it.thicknessThreshold → motive it cnt [])
    (step : ∀ it it' cnt b ty xs, NInv c s0 fl it cnt → it.next = some (some (b, ty), it') →
      NInv c s0 fl it' (bump it.nextSide cnt) →
      ParOK c s0 (c.ph c.M' * nextBand it.nextSide cnt) b ty →
      ¬ (it.thicknessAccumulator * it.thicknessAccumulator > it.thicknessThreshold) →
      it'.thicknessThreshold = it.thicknessThreshold →
      it'.thicknessAccumulator = it.thicknessAccumulator + accStep c ty →
      motive it' (bump it.nextSide cnt) xs → motive it cnt ((it.nextSide, b, ty) :: xs))
    {it : ParallelsIterator} {xs : List ParItem} (hrun : Run it xs) :
    ∀ cnt, NInv c s0 fl it cnt → motive it cnt xs := by
  intro cnt ⟨I, J, E, hg⟩
  exact Run.induct_closed c hv fl hfr s0 (motive := fun it cnt _ _ _ xs => motive it cnt xs)
    (fun it cnt I J E hg hacc => done it cnt ⟨I, J, E, hg⟩ hacc)
    (fun it it' cnt I J E b ty xs hg hn hg' hok g3 g4 g5 ih =>
      step it it' cnt b ty xs ⟨I, J, E, hg⟩ hn ⟨_, _, _, hg'⟩ hok g3 g4 g5 ih)
    hrun cnt I J E hg

theorem tau_cases {c : StrokeCtx} {fl : Bool} (hfr : c.FrameOK fl) :
    c.ph c.M' = 2 * c.D ∨ c.ph c.M' = -(2 * c.D) := hfr.tau

/-- The band of the side that is due lies beyond the bands yielded so far, on its side. -/
theorem nextBand_range (s : LineSide) (cnt : Nat × Nat) :
    ((cnt.1 : Int) < nextBand s cnt ∧ nextBand s cnt ≤ (bump s cnt).1 ∧ (bump s cnt).2 = cnt.2) ∨
    (-((bump s cnt).2 : Int) < nextBand s cnt ∧ nextBand s cnt ≤ -(cnt.2 : Int) ∧
      (bump s cnt).1 = cnt.1) := by
  cases s
  · left; refine ⟨?_, ?_, rfl⟩
    · show (cnt.1 : Int) < cnt.1 + 1; omega
    · show (cnt.1 : Int) + 1 ≤ ((cnt.1 + 1 : Nat) : Int); omega
  · right; refine ⟨?_, ?_, rfl⟩
    · show -((cnt.2 + 1 : Nat) : Int) < -(cnt.2 : Int); omega
    · show -(cnt.2 : Int) ≤ -(cnt.2 : Int); omega

theorem run_bands (c : StrokeCtx) (hv : c.Valid) (fl : Bool) (hfr : c.FrameOK fl) (s : Pt)
    {it : ParallelsIterator} {xs : List ParItem} (hrun : Run it xs) :
    ∀ (cnt : Nat × Nat), NInv c s fl it cnt →
    (∀ x ∈ xs, ∃ n : Int, ((cnt.1 : Int) < n ∨ n ≤ -(cnt.2 : Int)) ∧
      ParOK c s (c.ph c.M' * n) x.2.1 x.2.2) ∧
    xs.Pairwise (fun x y => bandOf c s x ≠ bandOf c s y) := by
  have hD := hv.hD
  have htau0 : c.ph c.M' ≠ 0 := by rcases tau_cases hfr with h | h <;> rw [h] <;> omega
  refine Run.induct_geo c hv fl hfr s (motive := fun _ cnt xs =>
    (∀ x ∈ xs, ∃ n : Int, ((cnt.1 : Int) < n ∨ n ≤ -(cnt.2 : Int)) ∧
      ParOK c s (c.ph c.M' * n) x.2.1 x.2.2) ∧
    xs.Pairwise (fun x y => bandOf c s x ≠ bandOf c s y)) ?_ ?_ hrun
  · exact fun _ _ _ _ => ⟨fun x hx => (by cases hx), List.Pairwise.nil⟩
  · intro it it' cnt b ty xs _ _ _ hok _ _ _ ⟨i1, i2⟩
    have hr := nextBand_range it.nextSide cnt
    refine ⟨?_, List.Pairwise.cons ?_ i2⟩
    · intro x hx
      rcases List.mem_cons.mp hx with rfl | hx
      · exact ⟨_, by omega, hok⟩
      · obtain ⟨n, hn1, hn2⟩ := i1 x hx
        exact ⟨n, by omega, hn2⟩
    · intro y hy
      obtain ⟨n, hn1, hn2⟩ := i1 y hy
      unfold bandOf
      rw [hn2.1]
      show c.ph b.point - c.ph s - b.error ≠ _
      rw [hok.1]
      intro heq
      have := Int.eq_of_mul_eq_mul_left htau0 heq
      omega

theorem bump_sum (s : LineSide) (cnt : Nat × Nat) :
    ((bump s cnt).1 : Int) + (bump s cnt).2 = (cnt.1 : Int) + cnt.2 + 1 := by
  cases s
  · show ((cnt.1 + 1 : Nat) : Int) + cnt.2 = _; omega
  · show (cnt.1 : Int) + ((cnt.2 + 1 : Nat) : Int) = _; omega

def exCount : List ParItem → Int
  | [] => 0
  | x :: xs => (if x.2.2 = .extra then 1 else 0) + exCount xs

theorem exCount_nonneg : ∀ xs : List ParItem, 0 ≤ exCount xs
  | [] => Int.le_refl _
  | x :: xs => by
    have := exCount_nonneg xs
    unfold exCount
    split <;> omega

theorem accStep_eq (c : StrokeCtx) (ty : ParallelLineType) :
    accStep c ty = 2 * c.D - 2 * (c.D - c.d) * (if ty = .extra then 1 else 0) := by
  cases ty
  · simp [accStep]
  · simp only [accStep, ↓reduceIte]; omega

/-- **The run yields every band between the outermost ones**, from any state whose accumulator is at most
what `cnt` parallels, `e0` of them extra, can have added; the accumulator that ends it is bounded by the
final numbers of parallels and of extra parallels. -/
theorem run_upper (c : StrokeCtx) (hv : c.Valid) (fl : Bool) (hfr : c.FrameOK fl) (s : Pt) (T : Int)
    {it : ParallelsIterator} {xs : List ParItem} (hrun : Run it xs) :
    ∀ (cnt : Nat × Nat), NInv c s fl it cnt → it.thicknessThreshold = T → ∀ e0 : Int,
    it.thicknessAccumulator ≤ c.D + c.d + 2 * c.D * ((cnt.1 : Int) + cnt.2) - 2 * (c.D - c.d) * e0 →
    0 ≤ it.thicknessAccumulator →
    ∃ (nL nR : Nat) (A : Int), cnt.1 ≤ nL ∧ cnt.2 ≤ nR ∧ (nR = nL ∨ nR = nL + 1) ∧
      0 ≤ A ∧ A * A > T ∧
      A ≤ c.D + c.d + 2 * c.D * ((nL : Int) + nR) - 2 * (c.D - c.d) * (e0 + exCount xs) ∧
      ∀ n : Int, (((cnt.1 : Int) < n ∧ n ≤ nL) ∨ (-(nR : Int) < n ∧ n ≤ -(cnt.2 : Int))) →
        ∃ x ∈ xs, ParOK c s (c.ph c.M' * n) x.2.1 x.2.2 := by
  have hD := hv.hD; have hd0 := hv.hd0; have hdD := hv.hdD
  refine Run.induct_geo c hv fl hfr s (motive := fun it cnt xs => it.thicknessThreshold = T →
    ∀ e0 : Int,
    it.thicknessAccumulator ≤ c.D + c.d + 2 * c.D * ((cnt.1 : Int) + cnt.2) - 2 * (c.D - c.d) * e0 →
    0 ≤ it.thicknessAccumulator →
    ∃ (nL nR : Nat) (A : Int), cnt.1 ≤ nL ∧ cnt.2 ≤ nR ∧ (nR = nL ∨ nR = nL + 1) ∧
      0 ≤ A ∧ A * A > T ∧
      A ≤ c.D + c.d + 2 * c.D * ((nL : Int) + nR) - 2 * (c.D - c.d) * (e0 + exCount xs) ∧
      ∀ n : Int, (((cnt.1 : Int) < n ∧ n ≤ nL) ∨ (-(nR : Int) < n ∧ n ≤ -(cnt.2 : Int))) →
        ∃ x ∈ xs, ParOK c s (c.ph c.M' * n) x.2.1 x.2.2) ?_ ?_ hrun
  · intro it cnt hg hacc hT e0 hA hA0
    exact ⟨cnt.1, cnt.2, it.thicknessAccumulator, Nat.le_refl _, Nat.le_refl _,
      by rcases hg.alt with ⟨_, h⟩ | ⟨_, h⟩ <;> omega, hA0, hT ▸ hacc,
      by simp only [exCount, Int.add_zero]; exact hA, fun n hn => by omega⟩
  · intro it it' cnt b ty xs hg _ _ hok _ hthr hstep ih hT e0 hA hA0
    have hty := accStep_eq c ty
    have hty0 : 0 ≤ accStep c ty := by cases ty <;> simp only [accStep] <;> omega
    have hcnt := bump_sum it.nextSide cnt
    have hexc : exCount ((it.nextSide, b, ty) :: xs) =
        (if ty = .extra then 1 else 0) + exCount xs := rfl
    obtain ⟨nL, nR, A, b1, b2, b3, b0, b4, b5, b6⟩ := ih (hthr.trans hT)
      (e0 + (if ty = .extra then 1 else 0)) (by rw [hstep, hty, hcnt]; linarith) (by rw [hstep]; omega)
    have hr := nextBand_range it.nextSide cnt
    refine ⟨nL, nR, A, by omega, by omega, b3, b0, b4, by rw [hexc, ← Int.add_assoc]; exact b5,
      fun n hn' => ?_⟩
    by_cases hn1 : n = nextBand it.nextSide cnt
    · exact ⟨_, List.mem_cons_self, by rw [hn1]; exact hok⟩
    · obtain ⟨x, hx, hxo⟩ := b6 n (by omega)
      exact ⟨x, List.mem_cons_of_mem _ hx, hxo⟩

theorem run_cover (c : StrokeCtx) (hv : c.Valid) (fl : Bool) (hfr : c.FrameOK fl) (s : Pt) (T : Int)
    {it : ParallelsIterator} {xs : List ParItem} (hrun : Run it xs) :
    ∀ (cnt : Nat × Nat), NInv c s fl it cnt → it.thicknessThreshold = T →
    it.thicknessAccumulator ≤ c.D + c.d + 2 * c.D * ((cnt.1 : Int) + cnt.2) →
    0 ≤ it.thicknessAccumulator →
    ∃ (nL nR : Nat) (A : Int), cnt.1 ≤ nL ∧ cnt.2 ≤ nR ∧ (nR = nL ∨ nR = nL + 1) ∧
      0 ≤ A ∧ A * A > T ∧ A ≤ c.D + c.d + 2 * c.D * ((nL : Int) + nR) ∧
      ∀ n : Int, (((cnt.1 : Int) < n ∧ n ≤ nL) ∨ (-(nR : Int) < n ∧ n ≤ -(cnt.2 : Int))) →
        ∃ x ∈ xs, ParOK c s (c.ph c.M' * n) x.2.1 x.2.2 := by
  intro cnt hg hT hA hA0
  obtain ⟨nL, nR, A, b1, b2, b3, b0, b4, b5, b6⟩ :=
    run_upper c hv fl hfr s T hrun cnt hg hT 0 (by simpa using hA) hA0
  have := Int.mul_nonneg (show 0 ≤ c.D - c.d by have := hv.hdD; omega)
    (Int.add_nonneg (Int.le_refl 0) (exCount_nonneg xs))
  exact ⟨nL, nR, A, b1, b2, b3, b0, b4, by linarith, b6⟩

/-- **Every parallel is fetched while the accumulator is below the threshold**, after `2|n| - 1` resp.
`2|n|` parallels that have each been counted, the extra ones, of which the run from the state `it` (reached
with `e0` of them) has `e0 + exCount xs`, with `2 (D - d)` less. -/
theorem run_fetch (c : StrokeCtx) (hv : c.Valid) (fl : Bool) (hfr : c.FrameOK fl) (s : Pt)
    {it : ParallelsIterator} {xs : List ParItem} (hrun : Run it xs) :
    ∀ (cnt : Nat × Nat), NInv c s fl it cnt → ∀ e0 : Int,
    it.thicknessAccumulator = c.D + c.d + 2 * c.D * ((cnt.1 : Int) + cnt.2) - 2 * (c.D - c.d) * e0 →
    ∀ x ∈ xs, ∃ (n a : Int), ParOK c s (c.ph c.M' * n) x.2.1 x.2.2 ∧
      a * a ≤ it.thicknessThreshold ∧
      (0 < n → c.D + c.d + 2 * c.D * (2 * n - 1) - 2 * (c.D - c.d) * (e0 + exCount xs) ≤ a) ∧
      (n ≤ 0 → c.D + c.d + 2 * c.D * (-(2 * n)) - 2 * (c.D - c.d) * (e0 + exCount xs) ≤ a) := by
  have hD := hv.hD; have hd0 := hv.hd0; have hdD := hv.hdD
  refine Run.induct_geo c hv fl hfr s (motive := fun it cnt xs => ∀ e0 : Int,
    it.thicknessAccumulator = c.D + c.d + 2 * c.D * ((cnt.1 : Int) + cnt.2) - 2 * (c.D - c.d) * e0 →
    ∀ x ∈ xs, ∃ (n a : Int), ParOK c s (c.ph c.M' * n) x.2.1 x.2.2 ∧
      a * a ≤ it.thicknessThreshold ∧
      (0 < n → c.D + c.d + 2 * c.D * (2 * n - 1) - 2 * (c.D - c.d) * (e0 + exCount xs) ≤ a) ∧
      (n ≤ 0 → c.D + c.d + 2 * c.D * (-(2 * n)) - 2 * (c.D - c.d) * (e0 + exCount xs) ≤ a)) ?_ ?_ hrun
  · intro it cnt _ _ e0 _ x hx
    cases hx
  · intro it it' cnt b ty xs hg hn _ hok hacc hthr hstep ih e0 hA
    have hexc : exCount ((it.nextSide, b, ty) :: xs) =
        (if ty = .extra then 1 else 0) + exCount xs := rfl
    have hty := accStep_eq c ty
    have hcnt := bump_sum it.nextSide cnt
    -- the band of the side that is due is the `(iL + jR + 1)`-th parallel
    have hpos : (0 < nextBand it.nextSide cnt →
          2 * nextBand it.nextSide cnt - 1 = (cnt.1 : Int) + cnt.2) ∧
        (nextBand it.nextSide cnt ≤ 0 → -(2 * nextBand it.nextSide cnt) = (cnt.1 : Int) + cnt.2) := by
      rcases hg.alt with ⟨q1, q2⟩ | ⟨q1, q2⟩ <;> rw [q1]
      · exact ⟨fun h0 => by change 0 < -(cnt.2 : Int) at h0; omega,
          fun _ => by show -(2 * -(cnt.2 : Int)) = _; omega⟩
      · exact ⟨fun _ => by show 2 * ((cnt.1 : Int) + 1) - 1 = _; omega,
          fun h0 => by change (cnt.1 : Int) + 1 ≤ 0 at h0; omega⟩
    have hall := ih (e0 + (if ty = .extra then 1 else 0)) (by rw [hstep, hA, hty, hcnt]; ring)
    have hmono : (c.D - c.d) * e0 ≤ (c.D - c.d) * (e0 + exCount ((it.nextSide, b, ty) :: xs)) := by
      apply Int.mul_le_mul_of_nonneg_left _ (by omega)
      have := exCount_nonneg xs
      rw [hexc]; split <;> omega
    intro x hx
    rcases List.mem_cons.mp hx with rfl | hx
    · refine ⟨_, it.thicknessAccumulator, hok, by omega, fun h0 => ?_, fun h0 => ?_⟩
      · rw [hpos.1 h0, hA]; linarith
      · rw [hpos.2 h0, hA]; linarith
    · obtain ⟨n, a, g1, g2, g3, g4⟩ := hall x hx
      refine ⟨n, a, g1, by rw [← hthr]; exact g2, fun h0 => ?_, fun h0 => ?_⟩
      · have := g3 h0; rw [hexc, ← Int.add_assoc]; exact this
      · have := g4 h0; rw [hexc, ← Int.add_assoc]; exact this

end Thick
end EG
