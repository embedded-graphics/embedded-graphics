/-
  EG.Lemmas.ThickStep — one call of `ParallelsIterator::next_parallel(side)` in a state of a run.
  `StrokeCtx`: the constants of a stroke. `SideB`: the bounds on a side's perpendicular walker and
  parallel error that every run keeps; under them the `loop` goes round at most twice
  (`nextParallel_eq`), and `nextParallel_call` says what the call does: which of the three moves, the
  returned point and error (`ParCall`), the number of skipped steps, and that the bounds hold again.
  `Sides`: both sides and the two parameter sets; `next_call`: one call of `ParallelsIterator::next`;
  `new_sides`: the fresh iterator satisfies `Sides`, for every stroke offset.
-/
import EG.Lemmas.ThickFrame
import EG.Lemmas.ThickAccumulator
namespace EG
namespace Thick
open ParallelsIterator Line

/-- The constants of a stroke: major / minor lengths, the step vectors of the line (`M`, `m`) and
of its perpendicular (`M'`, `m'`). -/
structure StrokeCtx where
  D : Int
  d : Int
  M : Pt
  m : Pt
  M' : Pt
  m' : Pt

namespace StrokeCtx

/-- `BresenhamParameters::new(line)`. -/
def pp (c : StrokeCtx) : BresenhamParameters := ⟨c.D, ⟨2 * c.d, 2 * c.D⟩, ⟨c.M, c.m⟩⟩
/-- `BresenhamParameters::new(line.perpendicular())`. -/
def perp (c : StrokeCtx) : BresenhamParameters := ⟨c.D, ⟨2 * c.d, 2 * c.D⟩, ⟨c.M', c.m'⟩⟩

theorem perp_smaj (c : StrokeCtx) : c.perp.errorStep.major = 2 * c.d := rfl
theorem perp_smin (c : StrokeCtx) : c.perp.errorStep.minor = 2 * c.D := rfl

structure Valid (c : StrokeCtx) : Prop where
  hD : 0 < c.D
  hd0 : 0 ≤ c.d
  hdD : c.d ≤ c.D
  ax : AxisPair c.M c.m
  ax' : AxisPair c.M' c.m'
  red : 0 < c.d → (c.perp.mirrorExtraPoints = true → c.M + c.m = c.m' - c.M') ∧
    (c.perp.mirrorExtraPoints = false → c.M + c.m = c.M' - c.m')

end StrokeCtx

/-- The constants of the stroke of `l` (taken from `paramLine l`, as the code does). -/
def ctxOf (l : Line) : StrokeCtx :=
  ⟨dmaj (paramLine l), dmin (paramLine l), pmaj (paramLine l), pmin (paramLine l),
    pmaj (paramLine l).perpendicular, pmin (paramLine l).perpendicular⟩

theorem ctxOf_pp (l : Line) : (ctxOf l).pp = BresenhamParameters.new (paramLine l) := by
  rw [params_new]; rfl

theorem ctxOf_perp (l : Line) : (ctxOf l).perp = BresenhamParameters.new (paramLine l).perpendicular := by
  rw [params_new, dmaj_perpendicular, dmin_perpendicular]; rfl

theorem ctxOf_valid (l : Line) : (ctxOf l).Valid := by
  refine ⟨dmaj_paramLine_pos l, dmin_nonneg _, dmin_le_dmaj _, axisPair_params _, axisPair_params _, ?_⟩
  intro hd
  rw [ctxOf_perp]
  exact mirror_red (paramLine l) ((dmin_pos_iff _).mp hd).1

/-- `+1` if `next_parallel` calls `increase_error` for the side, `-1` for `decrease_error`. -/
def ParallelsIterator.dir (it : ParallelsIterator) (side : LineSide) : Int :=
  if it.decr side then -1 else 1

theorem dir_cases (it : ParallelsIterator) (side : LineSide) :
    (it.decr side = true ∧ it.dir side = -1) ∨ (it.decr side = false ∧ it.dir side = 1) := by
  unfold ParallelsIterator.dir
  cases it.decr side
  · exact Or.inr ⟨rfl, rfl⟩
  · exact Or.inl ⟨rfl, rfl⟩

theorem decreaseError_spec (c : StrokeCtx) (e : Int) :
    (c.pp.decreaseError e = (e - 2 * c.d + 2 * c.D, true) ∧ e - 2 * c.d ≤ -c.D) ∨
    (c.pp.decreaseError e = (e - 2 * c.d, false) ∧ -c.D < e - 2 * c.d) := by
  unfold BresenhamParameters.decreaseError StrokeCtx.pp
  dsimp only
  by_cases h : e - 2 * c.d ≤ -c.D
  · rw [if_pos h]; exact Or.inl ⟨rfl, h⟩
  · rw [if_neg h]; exact Or.inr ⟨rfl, by omega⟩

theorem increaseError_spec (c : StrokeCtx) (e : Int) :
    (c.pp.increaseError e = (e + 2 * c.d - 2 * c.D, true) ∧ c.D < e + 2 * c.d) ∨
    (c.pp.increaseError e = (e + 2 * c.d, false) ∧ e + 2 * c.d ≤ c.D) := by
  unfold BresenhamParameters.increaseError StrokeCtx.pp
  dsimp only
  by_cases h : e + 2 * c.d > c.D
  · rw [if_pos h]; exact Or.inl ⟨rfl, h⟩
  · rw [if_neg h]; exact Or.inr ⟨rfl, by omega⟩

/-- The parallel error of the side moves by `+-2 d`; it wraps (by `-+2 D`) when it leaves
`(-D, D]`. -/
theorem stepErr_cases (c : StrokeCtx) (it : ParallelsIterator) (side : LineSide)
    (hpp : it.parallelParameters = c.pp) :
    (it.stepErr side = (it.sideError side + it.dir side * (2 * c.d - 2 * c.D), true) ∧
      (it.dir side = 1 → c.D < it.sideError side + 2 * c.d) ∧
      (it.dir side = -1 → it.sideError side - 2 * c.d ≤ -c.D)) ∨
    (it.stepErr side = (it.sideError side + it.dir side * (2 * c.d), false) ∧
      (it.dir side = 1 → it.sideError side + 2 * c.d ≤ c.D) ∧
      (it.dir side = -1 → -c.D < it.sideError side - 2 * c.d)) := by
  unfold ParallelsIterator.stepErr
  rw [hpp]
  rcases dir_cases it side with ⟨h1, h2⟩ | ⟨h1, h2⟩ <;> rw [h1, h2]
  · rw [if_pos rfl]
    rcases decreaseError_spec c (it.sideError side) with ⟨hs, hb⟩ | ⟨hs, hb⟩ <;> rw [hs]
    · exact Or.inl ⟨by congr 1; omega, fun hc => absurd hc (by decide), fun _ => hb⟩
    · exact Or.inr ⟨by congr 1; omega, fun hc => absurd hc (by decide), fun _ => hb⟩
  · rw [if_neg Bool.false_ne_true]
    rcases increaseError_spec c (it.sideError side) with ⟨hs, hb⟩ | ⟨hs, hb⟩ <;> rw [hs]
    · exact Or.inl ⟨by congr 1; omega, fun _ => hb, fun hc => absurd hc (by decide)⟩
    · exact Or.inr ⟨by congr 1; omega, fun _ => hb, fun hc => absurd hc (by decide)⟩

/-- With the parallel error in `(-D, D]` before the step: it is there after the step, an error
returned with an `Extra` point is at most `2 d - D`, and a step that does not wrap needs `d < D`. -/
theorem stepErr_bounds (c : StrokeCtx) (hv : c.Valid) (it : ParallelsIterator) (side : LineSide)
    (hpp : it.parallelParameters = c.pp) (h1 : -c.D < it.sideError side)
    (h2 : it.sideError side ≤ c.D) :
    -c.D < (it.stepErr side).1 ∧ (it.stepErr side).1 ≤ c.D ∧
    ((it.stepErr side).2 = true →
      (if it.decr side then it.sideError side else (it.stepErr side).1) ≤ 2 * c.d - c.D ∧
      -c.D < (if it.decr side then it.sideError side else (it.stepErr side).1)) ∧
    ((it.stepErr side).2 = false → c.d < c.D) := by
  have hD := hv.hD; have hd0 := hv.hd0; have hdD := hv.hdD
  rcases dir_cases it side with ⟨g1, g2⟩ | ⟨g1, g2⟩ <;>
    rcases stepErr_cases c it side hpp with ⟨hs, a1, a2⟩ | ⟨hs, a1, a2⟩ <;> rw [hs, g1] <;>
    rw [g2] at a1 a2 ⊢
  · have := a2 rfl
    exact ⟨by dsimp only; omega, by dsimp only; omega, fun _ => by simp only [↓reduceIte]; omega,
      fun hc => Bool.noConfusion hc⟩
  · have := a2 rfl
    exact ⟨by dsimp only; omega, by dsimp only; omega, fun hc => Bool.noConfusion hc,
      fun _ => by omega⟩
  · have := a1 rfl
    exact ⟨by dsimp only; omega, by dsimp only; omega,
      fun _ => by simp only [Bool.false_eq_true, ↓reduceIte]; omega, fun hc => Bool.noConfusion hc⟩
  · have := a1 rfl
    exact ⟨by dsimp only; omega, by dsimp only; omega, fun hc => Bool.noConfusion hc,
      fun _ => by omega⟩

theorem LineSide.sgn_mul_sgn (s : LineSide) (a b : Int) :
    s.sgn * (a + s.sgn * b) = s.sgn * a + b ∧ s.sgn * (a - s.sgn * b) = s.sgn * a - b := by
  rcases s.sgn_eps with ⟨h, _⟩ | ⟨h, _⟩ <;> rw [h] <;> omega

/-- The bounds on a side's walker `w` and parallel error `e` between two calls: the parallel error
lies in `(-D, D]`, the walker's own error is at most a major step beyond the threshold in the
direction of the walk (so an `Extra` point, which takes a minor step back, is followed by a `Normal`
one) and stays 0 on axis-parallel lines. They decide what the next call does. -/
structure SideB (c : StrokeCtx) (s : LineSide) (w : Bresenham) (e : Int) : Prop where
  e1 : -c.D < e
  e2 : e ≤ c.D
  w1 : -c.D - s.eps < s.sgn * w.error
  w2 : s.sgn * w.error ≤ c.D + 2 * c.d - s.eps
  d0 : c.d = 0 → w.error = 0

/-- What one call of `next_parallel(s)` does in a state of a run: the returned point, the returned
error, the new state, the number of skipped `Extra` steps. -/
inductive ParCall (c : StrokeCtx) (it : ParallelsIterator) (s : LineSide) :
    BresenhamPoint → Int → ParallelsIterator → Nat → Prop
  | normal : s.sgn * (it.walk s).error ≤ c.D - s.eps →
      ParCall c it s (.normal (it.walk s).point) (it.sideError s) (it.major s) 0
  | extra : ¬ s.sgn * (it.walk s).error ≤ c.D - s.eps → 0 < c.d →
      (it.stepErr s).1 = it.sideError s + it.dir s * (2 * c.d - 2 * c.D) →
      -c.D < it.extraErr s → it.extraErr s ≤ 2 * c.d - c.D →
      s.sgn * ((it.minor s).walk s).error ≤ c.D - s.eps →
      ParCall c it s (.extra (it.extraStart s)) (it.extraErr s) (it.minor s) 0
  | skip : ¬ s.sgn * (it.walk s).error ≤ c.D - s.eps → 0 < c.d → c.d < c.D →
      (it.stepErr s).1 = it.sideError s + it.dir s * (2 * c.d) →
      SideB c s ((it.minor s).walk s) ((it.minor s).sideError s) →
      s.sgn * ((it.minor s).walk s).error ≤ c.D - s.eps →
      ParCall c it s (.normal ((it.minor s).walk s).point) ((it.minor s).sideError s)
        ((it.minor s).major s) 1

theorem ParCall.eq_setSide {c : StrokeCtx} {it it' : ParallelsIterator} {s : LineSide}
    {pt : BresenhamPoint} {e : Int} {k : Nat} (h : ParCall c it s pt e it' k) :
    ∃ w' e', it' = it.setSide s w' e' := by
  cases h
  · exact major_eq_setSide it s
  · exact minor_eq_setSide it s
  · exact minor_major_eq_setSide it s

theorem ParCall.of_extra {c : StrokeCtx} {it it' : ParallelsIterator} {s : LineSide} {P : Pt} {e : Int}
    {k : Nat} (h : ParCall c it s (.extra P) e it' k) :
    0 < c.d ∧ k = 0 ∧ ¬ s.sgn * (it.walk s).error ≤ c.D - s.eps ∧
      s.sgn * (it'.walk s).error ≤ c.D - s.eps ∧ -c.D < e ∧ e ≤ 2 * c.d - c.D := by
  generalize hpt : BresenhamPoint.extra P = pt at h
  cases h with
  | normal _ => cases hpt
  | extra hr hd _ b1 b2 hr' => exact ⟨hd, rfl, hr, hr', b1, b2⟩
  | skip _ _ _ _ _ _ => cases hpt

theorem ready_ctx (c : StrokeCtx) (it : ParallelsIterator) (s : LineSide)
    (hperp : it.perpendicularParameters = c.perp) :
    Ready it s ↔ s.sgn * (it.walk s).error ≤ c.D - s.eps := by
  rw [ready_iff, hperp]
  rfl

theorem SideB.major {c : StrokeCtx} {it : ParallelsIterator} {s : LineSide} (hd0 : 0 ≤ c.d)
    (hperp : it.perpendicularParameters = c.perp) (hb : SideB c s (it.walk s) (it.sideError s))
    (hr : s.sgn * (it.walk s).error ≤ c.D - s.eps) :
    SideB c s ((it.major s).walk s) ((it.major s).sideError s) := by
  obtain ⟨e1, e2, w1, w2, d0⟩ := hb
  rw [walk_major, sideError_major, hperp]
  have := (s.sgn_mul_sgn (it.walk s).error (2 * c.d)).1
  exact ⟨e1, e2, by show _ < s.sgn * (_ + s.sgn * (2 * c.d)); omega,
    by show s.sgn * (_ + s.sgn * (2 * c.d)) ≤ _; omega,
    fun h0 => by show _ + s.sgn * (2 * c.d) = 0; rw [d0 h0, h0]; simp⟩

theorem nextParallel_call (c : StrokeCtx) (hv : c.Valid) (it : ParallelsIterator) (s : LineSide)
    (hperp : it.perpendicularParameters = c.perp) (hpp : it.parallelParameters = c.pp)
    (hb : SideB c s (it.walk s) (it.sideError s)) :
    ∃ pt e it' k, it.nextParallel s = some ((pt, e), it') ∧ skipsFuel loopFuel it s = k ∧
      ParCall c it s pt e it' k ∧ SideB c s (it'.walk s) (it'.sideError s) := by
  have hD := hv.hD; have hd0 := hv.hd0; have hdD := hv.hdD
  have hmin : (it.minor s).perpendicularParameters = c.perp := (perp_minor it s).trans hperp
  by_cases hr : s.sgn * (it.walk s).error ≤ c.D - s.eps
  · have hR := (ready_ctx c it s hperp).mpr hr
    refine ⟨_, _, _, 0, ?_, ?_, ParCall.normal hr, hb.major hd0 hperp hr⟩
    · rw [nextParallel_eq it s (fun h => absurd hR h), if_pos hR]
    · rw [skips_eq it s (fun h => absurd hR h), if_pos hR]
  · have hR : ¬ Ready it s := fun h => hr ((ready_ctx c it s hperp).mp h)
    -- an `Extra` point ahead: the line is oblique
    have hd : 0 < c.d := by
      refine Decidable.byContradiction fun hc => ?_
      rw [hb.d0 (by omega)] at hr
      rcases s.sgn_eps with ⟨a, b⟩ | ⟨a, b⟩ <;> rw [a, b] at hr <;> omega
    obtain ⟨b1, b2, bwrap, bskip⟩ := stepErr_bounds c hv it s hpp hb.e1 hb.e2
    -- after the minor step the walker is within the threshold again
    have hw' := (s.sgn_mul_sgn (it.walk s).error (2 * c.D)).2
    have hw1 := hb.w1; have hw2 := hb.w2
    have hB : SideB c s ((it.minor s).walk s) ((it.minor s).sideError s) := by
      rw [walk_minor, sideError_minor, hperp]
      exact ⟨b1, b2, by show _ < s.sgn * (_ - s.sgn * (2 * c.D)); omega,
        by show s.sgn * (_ - s.sgn * (2 * c.D)) ≤ _; omega, fun h0 => by omega⟩
    have hr' : s.sgn * ((it.minor s).walk s).error ≤ c.D - s.eps := by
      rw [walk_minor, hperp]
      show s.sgn * (_ - s.sgn * (2 * c.D)) ≤ _
      omega
    have hR' : ¬ Ready it s → Ready (it.minor s) s := fun _ => (ready_ctx c _ s hmin).mpr hr'
    rw [nextParallel_eq it s hR', skips_eq it s hR', if_neg hR, if_neg hR]
    rcases stepErr_cases c it s hpp with ⟨hs, _⟩ | ⟨hs, _⟩
    · have hst : (it.stepErr s).2 = true := by rw [hs]
      rw [if_pos hst, if_pos hst]
      exact ⟨_, _, _, 0, rfl, rfl, ParCall.extra hr hd (by rw [hs]) (bwrap hst).2 (bwrap hst).1 hr', hB⟩
    · have hst : ¬ (it.stepErr s).2 = true := by rw [hs]; exact Bool.false_ne_true
      rw [if_neg hst, if_neg hst]
      exact ⟨_, _, _, 1, rfl, rfl, ParCall.skip hr hd (bskip (by rw [hs])) (by rw [hs]) hB hr',
        hB.major hd0 hmin hr'⟩

/-- Both sides of the iterator between two calls of `next`, for the stroke with the constants `c`. -/
structure Sides (c : StrokeCtx) (it : ParallelsIterator) : Prop where
  hperp : it.perpendicularParameters = c.perp
  hpp : it.parallelParameters = c.pp
  side : ∀ s : LineSide, SideB c s (it.walk s) (it.sideError s)

theorem Sides.of_eq {c : StrokeCtx} {a b : ParallelsIterator} (h : Sides c a)
    (e1 : b.perpendicularParameters = a.perpendicularParameters)
    (e2 : b.parallelParameters = a.parallelParameters) (e3 : ∀ s, b.walk s = a.walk s)
    (e4 : ∀ s, b.sideError s = a.sideError s) : Sides c b :=
  ⟨e1.trans h.hperp, e2.trans h.hpp, fun s => by rw [e3, e4]; exact h.side s⟩

theorem Sides.setSide {c : StrokeCtx} {it : ParallelsIterator} (h : Sides c it) (s : LineSide)
    (w : Bresenham) (e : Int) (hb : SideB c s w e) : Sides c (it.setSide s w e) := by
  obtain ⟨f1, f2, -, -, -, -, -⟩ := sameFrame_setSide it s w e
  refine ⟨f2.trans h.hperp, f1.trans h.hpp, fun s' => ?_⟩
  by_cases hs : s' = s
  · subst hs
    rw [walk_setSide, sideError_setSide]
    exact hb
  · rw [walk_setSide_ne it hs, sideError_setSide_ne it hs]
    exact h.side s'

theorem next_of_nextParallel (it it1 : ParallelsIterator) (pt : BresenhamPoint) (e : Int)
    (hacc : ¬ it.thicknessAccumulator * it.thicknessAccumulator > it.thicknessThreshold)
    (hnp : it.nextParallel it.nextSide = some ((pt, e), it1)) (P : Pt) (ty : ParallelLineType)
    (hpt : (pt = .normal P ∧ ty = .normal) ∨ (pt = .extra P ∧ ty = .extra)) :
    it.next = some (some (⟨P, e⟩, ty),
      { it1 with
        thicknessAccumulator := it1.thicknessAccumulator +
          (match (generalizing := false) ty with
           | .normal => it1.perpendicularParameters.errorStep.minor
           | .extra => it1.perpendicularParameters.errorStep.major)
        nextSide := if it1.strokeOffset = .none then it1.nextSide.swap else it1.nextSide }) := by
  unfold ParallelsIterator.next
  rw [if_neg hacc, hnp]
  rcases hpt with ⟨rfl, rfl⟩ | ⟨rfl, rfl⟩ <;> dsimp only <;>
    by_cases hso : it1.strokeOffset = .none <;> simp only [hso, ↓reduceIte] <;> rfl

/-- `next` itself leaves the walkers and the parallel errors alone. -/
theorem walk_next_update (x : ParallelsIterator) (a : Int) (n s : LineSide) :
    ({ x with thicknessAccumulator := a, nextSide := n } : ParallelsIterator).walk s = x.walk s ∧
    ({ x with thicknessAccumulator := a, nextSide := n } : ParallelsIterator).sideError s =
      x.sideError s := by
  cases s <;> exact ⟨rfl, rfl⟩

theorem next_call (c : StrokeCtx) (hv : c.Valid) (it : ParallelsIterator) (hs : Sides c it)
    (hacc : ¬ it.thicknessAccumulator * it.thicknessAccumulator > it.thicknessThreshold) :
    ∃ pt it1 k b ty it', ParCall c it it.nextSide pt b.error it1 k ∧
      skipsFuel loopFuel it it.nextSide = k ∧
      ((pt = .normal b.point ∧ ty = .normal) ∨ (pt = .extra b.point ∧ ty = .extra)) ∧
      it.next = some (some (b, ty), it') ∧ Sides c it' ∧
      it' = { it1 with
        thicknessAccumulator := it1.thicknessAccumulator +
          (match (generalizing := false) ty with
           | .normal => it1.perpendicularParameters.errorStep.minor
           | .extra => it1.perpendicularParameters.errorStep.major)
        nextSide := if it1.strokeOffset = .none then it1.nextSide.swap else it1.nextSide } := by
  obtain ⟨pt, e, it1, k, hnp, hk, hcall, hb⟩ :=
    nextParallel_call c hv it it.nextSide hs.hperp hs.hpp (hs.side _)
  obtain ⟨w', e', rfl⟩ := hcall.eq_setSide
  rw [walk_setSide, sideError_setSide] at hb
  have hs1 := hs.setSide it.nextSide w' e' hb
  have hsides : ∀ (a : Int) (n : LineSide), Sides c
      { it.setSide it.nextSide w' e' with thicknessAccumulator := a, nextSide := n } :=
    fun a n => hs1.of_eq rfl rfl (fun s => (walk_next_update _ a n s).1)
      (fun s => (walk_next_update _ a n s).2)
  cases pt with
  | normal P =>
    exact ⟨_, _, k, ⟨P, e⟩, .normal, _, hcall, hk, Or.inl ⟨rfl, rfl⟩,
      next_of_nextParallel it _ _ e hacc hnp P .normal (Or.inl ⟨rfl, rfl⟩), hsides _ _, rfl⟩
  | extra P =>
    exact ⟨_, _, k, ⟨P, e⟩, .extra, _, hcall, hk, Or.inr ⟨rfl, rfl⟩,
      next_of_nextParallel it _ _ e hacc hnp P .extra (Or.inr ⟨rfl, rfl⟩), hsides _ _, rfl⟩

theorem LineSide.eq_or_eq_swap (s t : LineSide) : s = t ∨ s = t.swap := by
  cases s <;> cases t <;> simp [LineSide.swap]

theorem new_sides (l : Line) (t : Int) (off : StrokeOffset) :
    ∃ iter, ParallelsIterator.new l t off = some iter ∧ Sides (ctxOf l) iter ∧
      iter.thicknessAccumulator = (ctxOf l).D + (ctxOf l).d ∧
      iter.thicknessThreshold =
        t * 2 * (t * 2) * (Line.dxOf (paramLine l) * Line.dxOf (paramLine l) +
          Line.dyOf (paramLine l) * Line.dyOf (paramLine l)) := by
  obtain ⟨iter, hnew, _, _, _, hpp, hperp, hacc, hthr, hw, he, _, hwe, hee⟩ := new_fresh l t off
  rw [← ctxOf_perp] at hperp hwe
  rw [← ctxOf_pp] at hpp
  have hv := ctxOf_valid l
  have hD := hv.hD; have hd0 := hv.hd0; have hdD := hv.hdD
  refine ⟨iter, hnew, ⟨hperp, hpp, fun s => ?_⟩, hacc, hthr⟩
  have hε : s.eps = 0 ∨ s.eps = 1 := by rcases s.sgn_eps with ⟨_, h⟩ | ⟨_, h⟩ <;> simp [h]
  rcases s.eq_or_eq_swap off.side with rfl | rfl
  · rw [hw, he]
    exact ⟨by omega, by omega, by simp only [Int.mul_zero]; omega, by simp only [Int.mul_zero]; omega,
      fun _ => rfl⟩
  · rw [hee]
    have h2 := (off.side.swap.sgn_mul_sgn 0 (2 * (ctxOf l).d)).1
    rw [Int.zero_add, Int.mul_zero, Int.zero_add] at h2
    have hw' : (iter.walk off.side.swap).error = off.side.swap.sgn * (2 * (ctxOf l).d) := hwe
    exact ⟨by omega, by omega, by rw [hw', h2]; omega, by rw [hw', h2]; omega,
      fun h0 => by rw [hw', h0]; simp⟩

end Thick
end EG
