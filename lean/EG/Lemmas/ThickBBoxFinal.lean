/-
  EG.Lemmas.ThickBBoxFinal — every point of `thickPoints l w` lies in `styledBoundingBox l w`
  (`Line::extents(width, StrokeOffset::None)`). The run of a stroked line is tied to the model by two
  facts: the fresh `ParallelsIterator` satisfies the run invariant `GInv` (`new_ginv`), and
  `Line::extents` returns the last left / right parallels of the run (`extentsLoop_run`). With the
  order theorem `run_order` (EG.Lemmas.ThickBBoxRun) and the extent of one parallel
  (EG.Lemmas.ThickBBoxBres) they give `thickPoints_in_bbox`.
-/
import EG.Lemmas.ThickBBoxRun
import EG.Lemmas.ThickBBoxBres
import EG.Lemmas.JoinsBox
set_option linter.unusedSimpArgs false
namespace EG
namespace Thick
open ParallelsIterator Line

theorem new_fields (l : Line) (t : Int) :
    ∃ it, ParallelsIterator.new l t .none = some it ∧ it.flip = flipOf l ∧ it.nextSide = .right ∧
      it.strokeOffset = .none ∧ it.parallelParameters = (ctxOf l).pp ∧
      it.perpendicularParameters = (ctxOf l).perp ∧
      it.left = ⟨l.start + (ctxOf l).M', 2 * (ctxOf l).d⟩ ∧ it.leftError = 0 ∧
      it.right = ⟨l.start, 0⟩ ∧ it.rightError = 0 ∧
      it.thicknessAccumulator = (ctxOf l).D + (ctxOf l).d ∧
      it.thicknessThreshold = t * 2 * (t * 2) *
        (dxOf (paramLine l) * dxOf (paramLine l) + dyOf (paramLine l) * dyOf (paramLine l)) := by
  obtain ⟨it, hnew, hs, hso, hfl, hpp, hperp, hacc, hthr, hr, hre, hlp, hle, hlE⟩ := new_fresh l t .none
  rw [← ctxOf_perp] at hlp hle
  refine ⟨it, hnew, hfl, hs, hso, by rw [hpp, ctxOf_pp], by rw [hperp, ctxOf_perp], ?_, hlE, hr, hre,
    hacc, hthr⟩
  have hp : it.left.point = l.start + (ctxOf l).M' := hlp
  have he : it.left.error = 1 * (2 * (ctxOf l).d) := hle
  rw [Int.one_mul] at he
  cases hb : it.left
  rw [hb] at hp he
  simp only at hp he
  rw [hp, he]

/-- The fresh iterator of `ParallelsIterator::new(line, t, StrokeOffset::None)` satisfies the run
invariant with the centre line standing in for both sides. -/
theorem new_ginv (l : Line) (t : Int) :
    ∃ it, ParallelsIterator.new l t .none = some it ∧ it.nextSide = .right ∧
      GInv (ctxOf l) l.start it ((l.start, .normal), (l.start, .normal)) := by
  obtain ⟨it, hnew, hs, hso, hcl, -, -⟩ := new_closed l t
  have hD := (ctxOf_valid l).hD
  refine ⟨it, hnew, hs, hso, flipOf l, _, _, _, hcl, fun s => ?_⟩
  -- the centre line, at `(0, 0)`, stands in for the last parallel of both sides; the right walker, which
  -- stands on it, has a `Normal` point ahead
  have hz := pos_zero (ctxOf l) l.start s
  refine ⟨0, 0, 0, 0, ?_, ?_, ⟨Int.le_refl _, Int.le_refl _, Int.le_refl _, Int.le_refl _⟩, ?_, ?_⟩
  · cases s <;> exact hz.symm
  · cases s <;> exact (adj_normal _ _).trans hz.symm
  · cases s <;> simp [LineSide.pick]
  · cases s
    · intro _; simp [LineSide.pick]
    · intro hr
      refine absurd ?_ hr
      rw [(hcl.side .right).werr]
      simp [LineSide.pick, LineSide.sgn, LineSide.eps]
      omega

theorem runPar_nil_of_done {it it' : ParallelsIterator} (h : it.next = some (none, it')) (F : Nat) :
    runPar F it = [] := by
  cases F with
  | zero => rfl
  | succ F => unfold runPar; rw [h]

/-- A round of `extentsLoop` is two calls of `next`, so `fuel` rounds read `runPar (2 * fuel)`. A loop that
returned has seen the iterator end: no fuel `F` shows a parallel that is not in that list (the second
conjunct), so `runPar (2 * fuel)` is the whole run. -/
theorem extentsLoop_run (c : StrokeCtx) (hv : c.Valid) (ctr : Pt) :
    ∀ (fuel : Nat) (it : ParallelsIterator) (L R Lf Rf : Last), GInv c ctr it (L, R) →
    it.nextSide = .right → extentsLoop fuel it L R = some (Lf, Rf) →
    (Lf, Rf) = lasts (runPar (2 * fuel) it) (L, R) ∧
      ∀ F, ∀ x ∈ runPar F it, x ∈ runPar (2 * fuel) it
  | 0, _, _, _, _, _, _, _, h => by simp [extentsLoop] at h
  | fuel + 1, it, L, R, Lf, Rf, hg, hs, h => by
    have h2 : 2 * (fuel + 1) = 2 * fuel + 1 + 1 := by omega
    rw [h2]
    unfold extentsLoop at h
    cases hn : it.next with
    | none => rw [hn] at h; cases h
    | some r =>
      obtain ⟨o, it1⟩ := r
      rw [hn] at h
      cases o with
      | none =>
        simp only [Option.some.injEq] at h
        rw [runPar_nil_of_done hn]
        refine ⟨by rw [← h]; rfl, ?_⟩
        intro F x hx
        rw [runPar_nil_of_done hn] at hx
        cases hx
      | some r1 =>
        obtain ⟨b1, ty1⟩ := r1
        simp only at h
        obtain ⟨_, hside1, hg1, _, _⟩ := next_spec c hv ctr it it1 (L, R) hg b1 ty1 hn
        rw [hs] at hside1 hg1
        have hrun1 : ∀ F, runPar (F + 1) it = (LineSide.right, b1, ty1) :: runPar F it1 := by
          intro F
          show (match it.next with
            | some (some r, it') => (it.nextSide, r.1, r.2) :: runPar F it'
            | _ => []) = _
          rw [hn, hs]
        cases hn1 : it1.next with
        | none => rw [hn1] at h; cases h
        | some r' =>
          obtain ⟨o', it2⟩ := r'
          rw [hn1] at h
          cases o' with
          | none =>
            simp only [Option.some.injEq] at h
            rw [hrun1, runPar_nil_of_done hn1]
            refine ⟨by rw [← h]; rfl, ?_⟩
            intro F x hx
            cases F with
            | zero => cases hx
            | succ F =>
              rw [hrun1, runPar_nil_of_done hn1] at hx
              exact hx
          | some r2 =>
            obtain ⟨b2, ty2⟩ := r2
            simp only at h
            obtain ⟨_, hside2, hg2, _, _⟩ :=
              next_spec c hv ctr it1 it2 (L, (b1.point, ty1)) hg1 b2 ty2 hn1
            rw [hside1] at hside2 hg2
            have hrun2 : ∀ F, runPar (F + 1) it1 = (LineSide.left, b2, ty2) :: runPar F it2 := by
              intro F
              show (match it1.next with
                | some (some r, it') => (it1.nextSide, r.1, r.2) :: runPar F it'
                | _ => []) = _
              rw [hn1, hside1]
              rfl
            obtain ⟨i1, i2⟩ := extentsLoop_run c hv ctr fuel it2 (b2.point, ty2) (b1.point, ty1) Lf Rf
              hg2 hside2 h
            rw [hrun1, hrun2]
            refine ⟨by rw [i1]; rfl, ?_⟩
            intro F x hx
            cases F with
            | zero => cases hx
            | succ F =>
              rw [hrun1] at hx
              rcases List.mem_cons.mp hx with rfl | hx
              · exact List.mem_cons_self
              · cases F with
                | zero => cases hx
                | succ F =>
                  rw [hrun2] at hx
                  rcases List.mem_cons.mp hx with rfl | hx
                  · exact List.mem_cons_of_mem _ List.mem_cons_self
                  · exact List.mem_cons_of_mem _ (List.mem_cons_of_mem _ (i2 F x hx))


theorem smul_pred (k : Int) (v : Pt) : smul (k - 1) v = smul k v - v := by
  rw [Pt.ext_iff']
  simp only [smul_x, smul_y, Pt.sub_x, Pt.sub_y]
  constructor <;> rw [Int.sub_mul, Int.one_mul]

/-- **Every point of a parallel lies between its start and its shortened end**
`start + delta - red(type)` (the two corners `Line::extents` computes for it). -/
theorem par_points_btw (l : Line) (p : Pt) (e0 : Int) (ty : ParallelLineType)
    (herr : ErrOK (ctxOf l) ⟨p, e0⟩ ty) (q : Pt)
    (hq : q ∈ parPts (lenOf (majorLength l) ty) ⟨p, e0⟩ (ctxOf l).pp) :
    Btw p (p - (ctxOf l).redOf ty + (l.stop - l.start)) q := by
  have hv := ctxOf_valid l
  by_cases hdeg : l.start = l.stop
  · -- a zero-length line: one point per normal parallel, none per extra parallel
    have hlen : majorLength l = 1 := by
      rw [majorLength_eq, (dmaj_zero_iff l).mpr hdeg]; rfl
    rw [hlen] at hq
    cases ty with
    | extra => simp [lenOf, parPts] at hq
    | normal =>
      have he : ¬ (e0 > (ctxOf l).D) := by have := herr.1 rfl; simp only at this; omega
      simp only [lenOf, parPts, List.mem_cons, List.not_mem_nil, or_false] at hq
      have hnext : ((⟨p, e0⟩ : Bresenham).next (ctxOf l).pp).1 = p := by
        unfold Bresenham.next StrokeCtx.pp
        simp only [he, ↓reduceIte]
      rw [hnext] at hq
      subst hq
      exact ⟨⟨by omega, by omega⟩, by omega, by omega⟩
  · have hp : paramLine l = l := by simp [paramLine, hdeg]
    have hD : (ctxOf l).D = dmaj l := by unfold ctxOf; rw [hp]
    have hd : (ctxOf l).d = dmin l := by unfold ctxOf; rw [hp]
    have hM : (ctxOf l).M = pmaj l := by unfold ctxOf; rw [hp]
    have hm : (ctxOf l).m = pmin l := by unfold ctxOf; rw [hp]
    have hdelta := delta_decomp l
    rw [← hD, ← hd, ← hM, ← hm] at hdelta
    have hlen : majorLength l = ((ctxOf l).D).toNat + 1 := by rw [majorLength_eq, hD]
    have hDpos := hv.hD
    rw [hlen] at hq
    cases ty with
    | normal =>
      have he := herr.1 rfl
      simp only at he
      have h1 := normal_parallel_between hv.ax (ctxOf l).D (ctxOf l).d hv.hD hv.hd0 hv.hdD p e0 he
        (((ctxOf l).D).toNat + 1) (by omega) q hq
      have hx : (p - (ctxOf l).redOf .normal + (l.stop - l.start)) =
          p + smul (ctxOf l).D (ctxOf l).M + smul (ctxOf l).d (ctxOf l).m := by
        rw [hdelta]; pt_arith
      rw [hx]
      exact h1
    | extra =>
      obtain ⟨he, hd1⟩ := herr.2 rfl
      simp only at he
      have hq' : q ∈ parPts ((ctxOf l).D).toNat ⟨p, e0⟩ (ctxOf l).pp := by
        simpa [lenOf] using hq
      have h1 := extra_parallel_between hv.ax (ctxOf l).D (ctxOf l).d hv.hD (by omega) hv.hdD p e0 he
        (((ctxOf l).D).toNat) (by omega) q hq'
      have hx : (p - (ctxOf l).redOf .extra + (l.stop - l.start)) =
          p + smul ((ctxOf l).D - 1) (ctxOf l).M + smul ((ctxOf l).d - 1) (ctxOf l).m := by
        rw [hdelta, smul_pred, smul_pred]; pt_arith
      rw [hx]
      exact h1

theorem cone_shift {A a u v : Pt} (d : Pt) (h : Cone A a (u - v)) : Cone A a (u + d - (v + d)) := by
  have : u + d - (v + d) = u - v := by pt_arith
  rw [this]; exact h

theorem thickPoints_in_bbox (l : Line) (w : Nat) (ps : List Pt) (hps : thickPoints l w = some ps)
    (bb : Rect) (hbb : styledBoundingBox l w = some bb) : ∀ q ∈ ps, bb.contains q = true := by
  have hv := ctxOf_valid l
  obtain ⟨it0, hnew, hside, hg0⟩ := new_ginv l (satAsI32 w)
  -- the point `q` belongs to a parallel `x` of the run
  by_cases hw0 : w = 0
  · rw [hw0, thickPoints_width0] at hps
    simp only [Option.some.injEq] at hps
    subst hps; intro q hq; cases hq
  obtain ⟨it, xs, hnew', hrun, rfl⟩ := thickPoints_run l w hw0 ps hps
  obtain rfl := Option.some.inj (hnew.symm.trans hnew')
  intro q hq
  obtain ⟨x, hx, hqx⟩ := List.mem_flatMap.mp hq
  rw [← hrun.runPar_eq _ (Nat.le_refl _)] at hx
  -- the box
  unfold styledBoundingBox extents at hbb
  rw [hnew] at hbb
  simp only at hbb
  cases hel : extentsLoop (2 * w + 4) it0 (l.start, ParallelLineType.normal)
      (l.start, ParallelLineType.normal) with
  | none => rw [hel] at hbb; cases hbb
  | some r =>
    obtain ⟨Lf, Rf⟩ := r
    rw [hel] at hbb
    simp only [Option.some.injEq] at hbb
    obtain ⟨hl, hcomplete⟩ := extentsLoop_run (ctxOf l) hv l.start (2 * w + 4) it0 _ _ Lf Rf hg0 hside hel
    have hxrun := hcomplete _ x hx
    obtain ⟨_, _, _, _, hall⟩ := run_order (ctxOf l) hv l.start (2 * (2 * w + 4)) it0 _ _ hg0
    obtain ⟨o1, o2, o3, o4, herr⟩ := hall x hxrun
    rw [← hl] at o1 o2 o3 o4
    simp only at o1 o2 o3 o4
    -- the reduction vector of `extents` is `M + m`
    have hred : it0.parallelParameters.positionStep.major + it0.parallelParameters.positionStep.minor =
        (ctxOf l).M + (ctxOf l).m := by rw [hg0.hpp]; rfl
    rw [hred] at hbb
    -- the four corners are in the box
    have hbb' : Rect.withCorners
        (((Lf.1.componentMin (Lf.1 + (l.stop - l.start) - (ctxOf l).redOf Lf.2)).componentMin
          Rf.1).componentMin (Rf.1 + (l.stop - l.start) - (ctxOf l).redOf Rf.2))
        (((Lf.1.componentMax (Lf.1 + (l.stop - l.start) - (ctxOf l).redOf Lf.2)).componentMax
          Rf.1).componentMax (Rf.1 + (l.stop - l.start) - (ctxOf l).redOf Rf.2)) = bb := by
      rw [← hbb]
      obtain ⟨pL, tyL⟩ := Lf
      obtain ⟨pR, tyR⟩ := Rf
      cases tyL <;> cases tyR <;> rfl
    have hc := fun p h => Joins.contains_box4 Lf.1 (Lf.1 + (l.stop - l.start) - (ctxOf l).redOf Lf.2)
      Rf.1 (Rf.1 + (l.stop - l.start) - (ctxOf l).redOf Rf.2) p h
    rw [hbb'] at hc
    have c1 := hc _ (Or.inl rfl)
    have c2 := hc _ (Or.inr (Or.inl rfl))
    have c3 := hc _ (Or.inr (Or.inr (Or.inl rfl)))
    have c4 := hc _ (Or.inr (Or.inr (Or.inr rfl)))
    -- the start and the shortened end of the parallel `x` are in the box
    have hstart : bb.contains x.2.1.point = true :=
      contains_btw c3 c1 (between_of_cone hv.ax' o2 o1)
    have hend : bb.contains (x.2.1.point - (ctxOf l).redOf x.2.2 + (l.stop - l.start)) = true := by
      have e1 : Lf.1 + (l.stop - l.start) - (ctxOf l).redOf Lf.2 =
          adj (ctxOf l) Lf + (l.stop - l.start) := by unfold adj; pt_arith
      have e2 : Rf.1 + (l.stop - l.start) - (ctxOf l).redOf Rf.2 =
          adj (ctxOf l) Rf + (l.stop - l.start) := by unfold adj; pt_arith
      rw [e1] at c2
      rw [e2] at c4
      have e3 : x.2.1.point - (ctxOf l).redOf x.2.2 + (l.stop - l.start) =
          adj (ctxOf l) (x.2.1.point, x.2.2) + (l.stop - l.start) := rfl
      rw [e3]
      exact contains_btw c4 c2 (between_of_cone hv.ax' (cone_shift _ o4) (cone_shift _ o3))
    -- every point of the parallel lies between the two
    have hb : Btw x.2.1.point (x.2.1.point - (ctxOf l).redOf x.2.2 + (l.stop - l.start)) q := by
      obtain ⟨side, ⟨p, e0⟩, ty⟩ := x
      exact par_points_btw l p e0 ty herr q hqx
    exact contains_btw hstart hend hb

end Thick
end EG
