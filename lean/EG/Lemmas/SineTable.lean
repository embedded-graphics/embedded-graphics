/-
  EG.Lemmas.SineTable — accuracy of the 91-entry `SIN` table of the `fixed_point` build against the
  REAL sine: `|SIN[k] - 65536 * Real.sin (k * π / 180)| <= 1/2` for `k = 0..90`, i.e. every entry is
  the correctly rounded value (the largest deviation is 0.4954 at 83 degrees).

  Method: certified interval arithmetic in integers scaled by `M = 2^40`.
    * base: `sin 1°` from `Real.sin_bound` (`|sin x - (x - x^3/6)| <= |x|^5 / 100`) and Mathlib's 20
      decimals of π; `cos 1°` from `sin 1°` by `sin^2 + cos^2 = 1` (`valid_one`);
    * step: the addition formulas `sin (a + b)`, `cos (a + b)` on intervals with non-negative end
      points (first quadrant), rounded outward to multiples of `1/M` (`valid_add`);
    * `iter k` = `k` times one degree added to `(sin 0, cos 0) = (0, 1)`; `valid_iter` by induction;
    * the comparison of `iter k` with the table entry is a finite check (`decide +kernel`).
  The interval widths stay below `5641 / 2^40` (3.4e-4 of a table unit).

  This file and EG/Lemmas/FixedTrigExact.lean are the only ones that import Mathlib's analysis library
  (`Real.sin`, π); of the property files only EG/Props/C18/SineTable.lean depends on this one.
-/
import Mathlib.Analysis.Real.Pi.Bounds
import EG.Generated.TrigTable
namespace EG.SineTable
open Real EG.Generated

def M : Int := 2 ^ 40

theorem M_cast : ((M : Int) : ℝ) = 2 ^ 40 := by norm_num [M]

theorem M_pos : (0 : ℝ) < (M : Int) := by rw [M_cast]; positivity

structure Iv where
  sLo : Int
  sHi : Int
  cLo : Int
  cHi : Int

/-- `v` encloses the angle `a`: `sLo/M <= sin a <= sHi/M`, `cLo/M <= cos a <= cHi/M`. -/
def Valid (a : ℝ) (v : Iv) : Prop :=
  (v.sLo : ℝ) ≤ M * sin a ∧ M * sin a ≤ v.sHi ∧ (v.cLo : ℝ) ≤ M * cos a ∧ M * cos a ≤ v.cHi

/-- Taylor enclosure of the sine of a small angle enclosed in `[xl, xh]`. -/
theorem sin_small_bounds {x xl xh : ℝ} (h0 : 0 < xl) (h1 : xl ≤ x) (h2 : x ≤ xh) (h3 : xh ≤ 1) :
    xl - xh ^ 3 / 6 - xh ^ 5 / 100 ≤ sin x ∧ sin x ≤ xh - xl ^ 3 / 6 + xh ^ 5 / 100 := by
  have hx : 0 < x := lt_of_lt_of_le h0 h1
  have hb := Real.sin_bound (x := x) (by rw [abs_of_pos hx]; exact le_trans h2 h3)
  rw [abs_of_pos hx, abs_le] at hb
  have p3l : xl ^ 3 ≤ x ^ 3 := pow_le_pow_left₀ h0.le h1 3
  have p3h : x ^ 3 ≤ xh ^ 3 := pow_le_pow_left₀ hx.le h2 3
  have p5h : x ^ 5 ≤ xh ^ 5 := pow_le_pow_left₀ hx.le h2 5
  constructor
  · linear_combination hb.1 + h1 + (1 / 6) * p3h + (1 / 100) * p5h
  · linear_combination hb.2 + h2 + (1 / 6) * p3l + (1 / 100) * p5h

/-- The enclosure of `sin 1°`, `cos 1°`. -/
def one : Iv := ⟨19189123777, 19189123814, 1099344166829, 1099344166831⟩

/-- The sine from the Taylor enclosure, the cosine from the sine by Pythagoras. -/
theorem valid_one : Valid (π / 180) one := by
  have h := sin_small_bounds (x := π / 180) (xl := 3.14159265358979323846 / 180)
    (xh := 3.14159265358979323847 / 180) (by norm_num)
    (div_le_div_of_nonneg_right Real.pi_gt_d20.le (by norm_num))
    (div_le_div_of_nonneg_right Real.pi_lt_d20.le (by norm_num)) (by norm_num)
  have p1 : (one.sLo : ℝ) ≤ M * sin (π / 180) := by
    refine le_trans ?_ (mul_le_mul_of_nonneg_left h.1 M_pos.le)
    norm_num [one, M]
  have p2 : M * sin (π / 180) ≤ (one.sHi : ℝ) := by
    refine le_trans (mul_le_mul_of_nonneg_left h.2 M_pos.le) ?_
    norm_num [one, M]
  have hc : 0 ≤ M * cos (π / 180) :=
    mul_nonneg M_pos.le (cos_nonneg_of_neg_pi_div_two_le_of_le
      (le_trans (neg_nonpos.mpr (by positivity)) (by positivity))
      (div_le_div_of_nonneg_left pi_pos.le (by norm_num) (by norm_num)))
  have e : (M * cos (π / 180)) ^ 2 = (M : ℝ) ^ 2 - (M * sin (π / 180)) ^ 2 := by
    linear_combination (M : ℝ) ^ 2 * sin_sq_add_cos_sq (π / 180)
  have s1 := pow_le_pow_left₀ (by norm_num [one]) p1 2
  have s2 := pow_le_pow_left₀ (le_trans (by norm_num [one]) p1) p2 2
  refine ⟨p1, p2, le_of_sq_le_sq ?_ hc, le_of_sq_le_sq ?_ (by norm_num [one])⟩
  · rw [e]
    refine le_trans ?_ (sub_le_sub_left s2 _)
    norm_num [one, M]
  · rw [e]
    refine le_trans (sub_le_sub_left s1 _) ?_
    norm_num [one, M]

/-- The enclosure of `a + b` from those of `a` and `b` (all end points non-negative), rounded outward. -/
def Iv.add (v w : Iv) : Iv :=
  ⟨(v.sLo * w.cLo + v.cLo * w.sLo) / M, -((-(v.sHi * w.cHi + v.cHi * w.sHi)) / M),
   (v.cLo * w.cLo - v.sHi * w.sHi) / M, -((-(v.cHi * w.cHi - v.sLo * w.sLo)) / M)⟩

theorem floor_le {x : Int} {y : ℝ} (h : (x : ℝ) ≤ y * M) : ((x / M : Int) : ℝ) ≤ y := by
  have h1 : ((x / M * M : Int) : ℝ) ≤ (x : ℝ) := by exact_mod_cast Int.ediv_mul_le x (by decide)
  rw [Int.cast_mul] at h1
  exact le_of_mul_le_mul_right (le_trans h1 h) M_pos

theorem le_ceil {x : Int} {y : ℝ} (h : y * M ≤ (x : ℝ)) : y ≤ ((-((-x) / M) : Int) : ℝ) := by
  have h1 : (x : ℝ) ≤ ((-((-x) / M) * M : Int) : ℝ) := by
    have : x ≤ -((-x) / M) * M := by unfold M; omega
    exact_mod_cast this
  rw [Int.cast_mul] at h1
  exact le_of_mul_le_mul_right (le_trans h h1) M_pos

/-- The addition formulas on real enclosures with non-negative lower ends. -/
theorem add_enclosure {S C s c sl sh cl ch s1l s1h c1l c1h : ℝ}
    (hS : sl ≤ S ∧ S ≤ sh) (hC : cl ≤ C ∧ C ≤ ch) (hs : s1l ≤ s ∧ s ≤ s1h) (hc : c1l ≤ c ∧ c ≤ c1h)
    (sl0 : 0 ≤ sl) (cl0 : 0 ≤ cl) (s0 : 0 ≤ s1l) (c0 : 0 ≤ c1l) :
    (sl * c1l + cl * s1l ≤ S * c + C * s ∧ S * c + C * s ≤ sh * c1h + ch * s1h) ∧
    (cl * c1l - sh * s1h ≤ C * c - S * s ∧ C * c - S * s ≤ ch * c1h - sl * s1l) := by
  have S0 : 0 ≤ S := le_trans sl0 hS.1
  have C0 : 0 ≤ C := le_trans cl0 hC.1
  have s0' : 0 ≤ s := le_trans s0 hs.1
  have c0' : 0 ≤ c := le_trans c0 hc.1
  have sh0 : 0 ≤ sh := le_trans S0 hS.2
  have ch0 : 0 ≤ ch := le_trans C0 hC.2
  exact ⟨⟨add_le_add (mul_le_mul hS.1 hc.1 c0 S0) (mul_le_mul hC.1 hs.1 s0 C0),
      add_le_add (mul_le_mul hS.2 hc.2 c0' sh0) (mul_le_mul hC.2 hs.2 s0' ch0)⟩,
    ⟨sub_le_sub (mul_le_mul hC.1 hc.1 c0 C0) (mul_le_mul hS.2 hs.2 s0' sh0),
      sub_le_sub (mul_le_mul hC.2 hc.2 c0' ch0) (mul_le_mul hS.1 hs.1 s0 S0)⟩⟩

theorem valid_add {a b : ℝ} {v w : Iv} (hv : Valid a v) (hw : Valid b w)
    (hvs : 0 ≤ v.sLo) (hvc : 0 ≤ v.cLo) (hws : 0 ≤ w.sLo) (hwc : 0 ≤ w.cLo) :
    Valid (a + b) (v.add w) := by
  obtain ⟨⟨l1, u1⟩, l2, u2⟩ := add_enclosure ⟨hv.1, hv.2.1⟩ hv.2.2 ⟨hw.1, hw.2.1⟩ hw.2.2
    (by exact_mod_cast hvs) (by exact_mod_cast hvc) (by exact_mod_cast hws) (by exact_mod_cast hwc)
  have eS : M * sin (a + b) * M = M * sin a * (M * cos b) + M * cos a * (M * sin b) := by
    rw [sin_add]; ring
  have eC : M * cos (a + b) * M = M * cos a * (M * cos b) - M * sin a * (M * sin b) := by
    rw [cos_add]; ring
  refine ⟨floor_le ?_, le_ceil ?_, floor_le ?_, le_ceil ?_⟩
  · rw [eS]; exact_mod_cast l1
  · rw [eS]; exact_mod_cast u1
  · rw [eC]; exact_mod_cast l2
  · rw [eC]; exact_mod_cast u2

/-- The enclosure of `k` degrees. -/
def iter : Nat → Iv
  | 0 => ⟨0, 0, M, M⟩
  | k + 1 => (iter k).add one

/-- In the first quadrant the lower end points stay non-negative (what `valid_add` needs). -/
theorem iter_nonneg : ∀ k : Nat, k < 90 → 0 ≤ (iter k).sLo ∧ 0 ≤ (iter k).cLo := by decide +kernel

theorem valid_iter : ∀ k : Nat, k ≤ 90 → Valid ((k : ℝ) * (π / 180)) (iter k)
  | 0, _ => by
    -- `sin 0 = 0`, `cos 0 = 1`
    unfold Valid iter
    simp
  | k + 1, hk => by
    obtain ⟨n1, n2⟩ := iter_nonneg k (by omega)
    rw [show ((k + 1 : Nat) : ℝ) * (π / 180) = (k : ℝ) * (π / 180) + π / 180 by push_cast; ring]
    exact valid_add (valid_iter k (by omega)) valid_one n1 n2 (by decide) (by decide)

/-- The table entry against the enclosure of `sin k°`: both ends within half a unit of 1/65536
(`131072 = 2 * 65536`), evaluated for the 91 entries. -/
theorem table_check : ∀ k : Nat, k < 91 →
    (2 * sinTable.getD k 0 - 1) * M ≤ 131072 * (iter k).sLo ∧
    131072 * (iter k).sHi ≤ (2 * sinTable.getD k 0 + 1) * M := by decide +kernel

/-- Every table entry is the correctly rounded sine. -/
theorem sine_table_accurate (k : Nat) (hk : k ≤ 90) :
    |((sinTable.getD k 0 : Int) : ℝ) - 65536 * Real.sin ((k : ℝ) * π / 180)| ≤ 1 / 2 := by
  obtain ⟨v1, v2, _, _⟩ := valid_iter k hk
  obtain ⟨c1, c2⟩ := table_check k (by omega)
  have c1' := (Int.cast_le (R := ℝ)).mpr c1
  have c2' := (Int.cast_le (R := ℝ)).mpr c2
  push_cast [M_cast] at c1' c2'
  rw [M_cast] at v1 v2
  rw [show (k : ℝ) * π / 180 = (k : ℝ) * (π / 180) by ring, abs_le]
  constructor
  · linear_combination (1 / 2 ^ 41) * c2' + (1 / 2 ^ 24) * v2
  · linear_combination (1 / 2 ^ 41) * c1' + (1 / 2 ^ 24) * v1

end EG.SineTable
