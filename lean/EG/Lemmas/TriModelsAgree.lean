/-
  EG.Lemmas.TriModelsAgree — the two transcriptions of the styled-triangle iterators agree at stroke
  width 1: `Joins.triPixels` (EG.Model.ThickTriangle, every width, join code inlined) and
  `Triangle.outlinePixelsAligned` (EG.Model.TriangleAligned, the join code replaced by
  `skeletonSeg` / `collapsedFlag1`) yield the same pixel list, for every triangle with `i32`
  vertices and a bounding box in range, every colour and every alignment
  (`aligned_outline_models_agree`).
  Both `generate_lines` are the pure `Joins.genLines` (EG.Lemmas.TriGenLines); at width 1 its
  arguments agree (`segJ_width1`: the per-edge scanline is the skeleton scanline; the collapsed flag;
  the plain scanline: `gen_newSelf`), so the scanline run of the styled model is the closed form of
  the triangle model's scanline iterator (`triScanlineRun_width1`: `Joins.triScanlineRun_eq` against
  `ScanlineIterator.rest`), and the closed forms of the two pixel iterators give the same list.
-/
import EG.Lemmas.TriTopRow
import EG.Lemmas.TriangleOutlineAligned
namespace EG
open Joins (TriIntersections Tri TriI32 alignOffset)

/-- `PointType`, `LineConfig` and a typed scanline of Model/Triangle.lean as those of
Model/ThickTriangle.lean. -/
def PointType.toJ : PointType → Joins.PointType
  | .stroke => .stroke
  | .fill => .fill

def LineConfig.toJ (c : LineConfig) : Joins.LineConfig := ⟨c.first, c.second, c.internal, c.internalType.toJ⟩

def convItem (x : Scanline × PointType) : Scanline × Joins.PointType := (x.1, x.2.toJ)

theorem ScanlineIntersections.generateLines_eq (it : ScanlineIntersections) (y : Int) :
    (it.generateLines y).toJ = Joins.genLines it.strokeWidth it.hasFill it.isCollapsed
      (it.triangle.scanlineIntersection y) (it.seg y) y := by
  unfold generateLines Joins.genLines
  split <;> rfl

/-- At stroke width 1 the per-edge scanline of the styled model is the skeleton scanline of the
triangle model (`i32` vertices: the cast of the exact join intersection does not saturate). -/
theorem Joins.TriIntersections.segJ_width1 (it : TriIntersections) (hw : it.strokeWidth = 1)
    (hi : TriI32 it.triangle) (y : Int) (i : Nat) :
    it.segJ y i = it.triangle.toTriangle.skeletonSeg i y := by
  have hv : ∀ k, inI32 (it.triangle.vertex k).x ∧ inI32 (it.triangle.vertex k).y := by
    intro k
    unfold Tri.vertex
    split
    · exact hi.1
    · exact hi.2.1
    · exact hi.2.2
  obtain ⟨j1, j2, e1, e2, -, hint⟩ := Joins.segment_width1_off (it.triangle.vertex i)
    (it.triangle.vertex (i + 1)) (it.triangle.vertex (i + 2)) (it.triangle.vertex (i + 3)) it.strokeOffset
    (hv _).1 (hv _).2 (hv _).1 (hv _).2
  rw [segJ_of_joins (a := j1) (b := j2) (by rw [hw]; exact e1) (by rw [hw]; exact e2), hint y,
    Joins.bint_eq_scanline_bint]
  unfold Triangle.skeletonSeg
  rw [Joins.toTriangle_vertex, Joins.toTriangle_vertex]

/-- `newSelfTri` / `template`: the value `ScanlineIntersections::new` resets to its first row, in the
styled model and in the triangle model. -/
theorem gen_newSelf (tc : Tri) (a : TriAlign) (hasFill : Bool) (hi : TriI32 tc) (y : Int) :
    (Joins.newSelfTri tc 1 (alignOffset a) hasFill (decide (tc.areaDoubled ≤ 0))).generateLines y =
      some ((ScanlineIntersections.template tc.toTriangle 1 hasFill
        (tc.toTriangle.collapsedFlag1 a)).generateLines y).toJ := by
  rw [TriIntersections.generateLines_eq, ScanlineIntersections.generateLines_eq]
  have hs : (Joins.newSelfTri tc 1 (alignOffset a) hasFill (decide (tc.areaDoubled ≤ 0))).segJ y =
      (ScanlineIntersections.template tc.toTriangle 1 hasFill (tc.toTriangle.collapsedFlag1 a)).seg y := by
    funext i
    exact TriIntersections.segJ_width1 _ rfl hi y i
  have hc : (Joins.newSelfTri tc 1 (alignOffset a) hasFill (decide (tc.areaDoubled ≤ 0))).isCollapsed =
      tc.toTriangle.collapsedFlag1 a := by
    unfold Triangle.collapsedFlag1 Joins.newSelfTri
    cases a <;> rfl
  rw [hs, hc]
  show some (Joins.genLines 1 hasFill _ (tc.scanlineIntersection y) _ y) = _
  rw [Joins.Tri.scanlineIntersection_eq]
  rfl

theorem LineConfig.pending_toJ (c : LineConfig) : c.toJ.pending = c.pending.map convItem := by
  unfold Joins.LineConfig.pending LineConfig.pending LineConfig.toJ
  dsimp only
  cases c.internal.isEmpty <;> cases c.first.isEmpty <;> cases c.second.isEmpty <;> rfl

theorem triScanlineRun_width1 (t : Triangle) (c : Nat) (a : TriAlign) (al : Joins.StrokeAlignment)
    (hal : al.toOffset = alignOffset a) (fc : Option Nat) (hi : TriI32 ⟨t.v1, t.v2, t.v3⟩)
    (h : t.boundingBox.InRange) :
    C01Thick.triScanlineRun ⟨t.v1, t.v2, t.v3⟩ ⟨fc, some c, 1, al⟩ =
      some ((ScanlineIterator.newAligned t a fc.isSome t.boundingBox).rest.map convItem) := by
  obtain ⟨hrs, hre, hlt⟩ := Triangle.boundingBox_rows t h
  have hlt' : t.boundingBox.tl.y < t.boundingBox.rowsEnd := by rw [hrs, hre]; exact hlt
  have hi' : TriI32 (Tri.mk t.v1 t.v2 t.v3).sortedClockwise :=
    Joins.sortedClockwise_all (fun p => inI32 p.x ∧ inI32 p.y) _ hi.1 hi.2.1 hi.2.2
  have htc : (Tri.mk t.v1 t.v2 t.v3).sortedClockwise.toTriangle = t.sortedClockwise :=
    Joins.toTriangle_sortedClockwise ⟨t.v1, t.v2, t.v3⟩
  have hb : Joins.triStyledBoundingBox ⟨t.v1, t.v2, t.v3⟩ ⟨fc, some c, 1, al⟩ = some t.boundingBox := by
    unfold Joins.triStyledBoundingBox
    rw [if_pos (Or.inl (show (1 : Nat) < 2 by omega))]
    rfl
  rw [Joins.triScanlineRun_eq _ _ hb (Joins.isCollapsed_width1 _ _ hi')]
  -- the row function of the styled model is that of the triangle model
  have hpend : ∀ y, ((Joins.newSelfTri (Tri.mk t.v1 t.v2 t.v3).sortedClockwise 1 al.toOffset fc.isSome
      (decide ((Tri.mk t.v1 t.v2 t.v3).sortedClockwise.areaDoubled ≤ 0))).row y).pending =
      ((ScanlineIntersections.template t.sortedClockwise 1 fc.isSome
        (t.sortedClockwise.collapsedFlag1 a)).generateLines y).pending.map convItem := by
    intro y
    rw [hal, ← htc, Option.some.inj ((TriIntersections.gen_row _ y).symm.trans (gen_newSelf _ a fc.isSome hi' y))]
    exact LineConfig.pending_toJ _
  have hmore := Joins.moreRows_map convItem
    (fun y => ((Joins.newSelfTri (Tri.mk t.v1 t.v2 t.v3).sortedClockwise 1 al.toOffset fc.isSome
      (decide ((Tri.mk t.v1 t.v2 t.v3).sortedClockwise.areaDoubled ≤ 0))).row y).pending)
    (fun y => ((ScanlineIntersections.template t.sortedClockwise 1 fc.isSome
      (t.sortedClockwise.collapsedFlag1 a)).generateLines y).pending) id
    (irange (t.boundingBox.tl.y + 1) t.boundingBox.rowsEnd) hpend
  rw [List.map_id] at hmore
  unfold Joins.triRows ScanlineIterator.newAligned
  rw [if_pos hlt', if_pos hlt']
  show some (_ ++ _) = some (List.map convItem (ScanlineIterator.rest ⟨_, _, _, ScanlineIntersections.reset _ _⟩))
  rw [ScanlineIterator.rest_start, List.map_append, hpend, hmore]
  rfl

theorem typedPixels_stroke (c : Nat) (s : Scanline) :
    C01Thick.typedPixels none (some c) (convItem (s, PointType.stroke)) = s.points.map (fun p => (p, c)) := rfl

open Triangle in
/-- **The two transcriptions of the styled-triangle iterators agree at stroke width 1**, for every
alignment (`al` is `a` as a `StrokeAlignment` of the styled model), every colour and every
triangle with `i32` vertices whose bounding box is in range: the scanline runs agree
(`triScanlineRun_width1`) and both pixel iterators walk their scanlines point by point in the
stroke colour (`triPixels_eq_run`, `outlinePixels_eq`, `outlinePixelsAligned_collapsed`). -/
theorem aligned_outline_models_agree (t : Triangle) (c : Nat) (a : TriAlign) (al : Joins.StrokeAlignment)
    (hal : al.toOffset = alignOffset a) (hi : TriI32 ⟨t.v1, t.v2, t.v3⟩) (h : t.boundingBox.InRange) :
    Joins.triPixels ⟨t.v1, t.v2, t.v3⟩ ⟨none, some c, 1, al⟩ = some (t.outlinePixelsAligned c a) := by
  have hrun : C01Thick.triScanlineRun ⟨t.v1, t.v2, t.v3⟩ ⟨none, some c, 1, al⟩ =
      some ((ScanlineIterator.newAligned t a false t.boundingBox).rest.map convItem) :=
    triScanlineRun_width1 t c a al hal none hi h
  have hf := C01Thick.triFirstNoneFinal ⟨t.v1, t.v2, t.v3⟩ ⟨none, some c, 1, al⟩ (fun _ => hi)
  obtain ⟨L, hL, -, hpix⟩ := C01Thick.triPixels_eq_run _ _ hf
  rw [hrun] at hL
  obtain rfl := Option.some.inj hL
  rw [hpix]
  congr 1
  show List.flatMap (C01Thick.typedPixels none (some c)) _ = _
  by_cases hc : t.areaDoubled = 0 ∧ a = .inside
  · obtain ⟨ha, rfl⟩ := hc
    rw [rest_collapsed t h ha, outlinePixelsAligned_collapsed t c h ha, points_eq_rows t h]
    unfold rowList
    rw [List.map_flatMap, List.flatMap_assoc, List.map_flatMap, List.flatMap_def, List.flatMap_def]
    congr 1
    apply List.map_congr_left
    intro y hy
    rw [mem_irange] at hy
    rw [(Scanline.isEmpty_false_iff _).mpr (span_nonempty t y hy.1 (by omega))]
    simp only [Bool.false_eq_true, ↓reduceIte, List.map_cons, List.map_nil, List.flatMap_cons, List.flatMap_nil,
      List.append_nil, typedPixels_stroke]
  · have hflag : t.sortedClockwise.collapsedFlag1 a = false := by
      cases hcf : t.sortedClockwise.collapsedFlag1 a with
      | false => rfl
      | true => exact absurd ((collapsedFlag1_sortedClockwise t a).mp hcf) hc
    have hS : ScanlineIterator.newAligned t a false t.boundingBox =
        ScanlineIterator.new t 1 false t.boundingBox := by
      unfold ScanlineIterator.newAligned ScanlineIterator.new ScanlineIntersections.newAligned
        ScanlineIntersections.new
      simp only [hflag]
    rw [hS, rest_stroke t h, outlinePixelsAligned_of_not_collapsed t c a hc, outlinePixels_eq t c h]
    unfold outlineRow
    simp only [List.map_flatMap, List.flatMap_map, List.map_map, List.flatMap_assoc]
    rfl

end EG
