/-
  EG.Lemmas.LineRows — the rows of a Bresenham line (`Line::points()`, any direction), from the
  closed form of EG.Lemmas.LinePoints / LineProps: the rows along the line are monotone, every row
  between the end points is hit (`exists_point_in_row`), the pixels of one row are contiguous
  (`row_contiguous`), and the line stays in every box that holds its end points.
-/
import EG.Lemmas.LineProps
namespace EG

namespace Line

theorem sgn_of_nonneg {a : Int} (h : 0 ≤ a) : sgn a = 1 := by
  unfold sgn; simp [h]

theorem sgn_of_neg {a : Int} (h : a < 0) : sgn a = -1 := by
  unfold sgn; simp; omega

theorem pt_eta (q : Pt) : (⟨q.x, q.y⟩ : Pt) = q := by cases q; rfl

theorem start_mem_points (l : Line) : l.start ∈ points l :=
  mem_points.mpr ⟨0, by have := dmaj_nonneg l; omega, (ptAt_zero l).symm⟩

theorem stop_mem_points (l : Line) : l.stop ∈ points l := by
  have hd := dmaj_nonneg l
  exact mem_points.mpr ⟨(dmaj l).toNat, by omega, (ptAt_last l _ (by omega)).symm⟩

theorem ptAt_y_step (l : Line) (k : Nat) :
    (ptAt l (k + 1)).y = (ptAt l k).y ∨ (ptAt l (k + 1)).y = (ptAt l k).y + sgn (dyOf l) := by
  obtain ⟨hy, hx⟩ := ptAt_step l k
  by_cases hm : yMajor l
  · have := (hy hm).1; omega
  · have := (hx hm).2; omega

theorem ptAt_y_mono (l : Line) {i j : Nat} (hij : i ≤ j) :
    (0 ≤ dyOf l → (ptAt l i).y ≤ (ptAt l j).y) ∧ (dyOf l < 0 → (ptAt l j).y ≤ (ptAt l i).y) := by
  obtain ⟨n, rfl⟩ := Nat.exists_eq_add_of_le hij
  induction n with
  | zero => exact ⟨fun _ => Int.le_refl _, fun _ => Int.le_refl _⟩
  | succ n ih =>
    have hs := ptAt_y_step l (i + n)
    rw [← Nat.add_assoc]
    constructor
    · intro h; have := (ih (by omega)).1 h; rw [sgn_of_nonneg h] at hs; omega
    · intro h; have := (ih (by omega)).2 h; rw [sgn_of_neg h] at hs; omega

theorem points_pairwise_y (l : Line) :
    (0 ≤ dyOf l → (points l).Pairwise (fun a b => a.y ≤ b.y)) ∧
    (dyOf l < 0 → (points l).Pairwise (fun a b => -a.y ≤ -b.y)) := by
  rw [points_eq, List.pairwise_map, List.pairwise_map]
  have hr : (List.range ((dmaj l).toNat + 1)).Pairwise (· < ·) := List.pairwise_lt_range
  constructor <;> intro h <;> refine hr.imp ?_ <;> intro i j hij
  · exact (ptAt_y_mono l (Nat.le_of_lt hij)).1 h
  · have := (ptAt_y_mono l (Nat.le_of_lt hij)).2 h; omega

/-- A sequence that moves by at most one per step takes every value between its first and its
`n`-th term. -/
theorem exists_eq_of_steps (f : Nat → Int) (hstep : ∀ k, f (k + 1) - f k ≤ 1 ∧ f k - f (k + 1) ≤ 1)
    (y : Int) : ∀ n : Nat, min (f 0) (f n) ≤ y → y ≤ max (f 0) (f n) → ∃ j, j ≤ n ∧ f j = y := by
  intro n
  induction n with
  | zero => intro h1 h2; exact ⟨0, Nat.le_refl _, by omega⟩
  | succ n ih =>
    intro h1 h2
    by_cases hc : min (f 0) (f n) ≤ y ∧ y ≤ max (f 0) (f n)
    · obtain ⟨j, hj, e⟩ := ih hc.1 hc.2
      exact ⟨j, by omega, e⟩
    · have := hstep n
      exact ⟨n + 1, Nat.le_refl _, by omega⟩

theorem exists_point_in_row (l : Line) (y : Int) (h1 : min l.start.y l.stop.y ≤ y)
    (h2 : y ≤ max l.start.y l.stop.y) : ∃ p ∈ points l, p.y = y := by
  have hd := dmaj_nonneg l
  have hstep : ∀ k, (ptAt l (k + 1)).y - (ptAt l k).y ≤ 1 ∧ (ptAt l k).y - (ptAt l (k + 1)).y ≤ 1 := by
    intro k
    have := ptAt_y_step l k
    rcases sgn_cases (dyOf l) with ⟨_, hs, _⟩ | ⟨_, hs, _⟩ <;> rw [hs] at this <;> omega
  obtain ⟨j, hj, e⟩ := exists_eq_of_steps (fun k => (ptAt l k).y) hstep y (dmaj l).toNat
    (by rw [ptAt_zero, ptAt_last l _ (by omega)]; exact h1)
    (by rw [ptAt_zero, ptAt_last l _ (by omega)]; exact h2)
  exact ⟨ptAt l j, mem_points.mpr ⟨j, by omega, rfl⟩, e⟩

theorem row_contiguous (l : Line) {q q' : Pt} (hq : q ∈ points l) (hq' : q' ∈ points l)
    (hy : q.y = q'.y) {x : Int} (h1 : q.x ≤ x) (h2 : x ≤ q'.x) : (⟨x, q.y⟩ : Pt) ∈ points l := by
  obtain ⟨k, hk, rfl⟩ := mem_points.mp hq
  obtain ⟨k', hk', rfl⟩ := mem_points.mp hq'
  by_cases hm : yMajor l
  · -- one pixel per row
    rw [ptAt_of_yMajor hm, ptAt_of_yMajor hm] at hy
    dsimp only at hy
    have e : k = k' := by
      rcases sgn_cases (dyOf l) with ⟨_, hs, _⟩ | ⟨_, hs, _⟩ <;> rw [hs] at hy <;> omega
    subst e
    have : x = (ptAt l k).x := by omega
    rw [this, pt_eta]
    exact mem_points.mpr ⟨k, hk, rfl⟩
  · -- one pixel per column: the pixel of column `x` lies between the two, hence in their row
    have ex : ∀ m : Nat, (ptAt l m).x = l.start.x + (m : Int) * sgn (dxOf l) := by
      intro m; rw [ptAt_of_xMajor hm]
    rw [ex k] at h1
    rw [ex k'] at h2
    have inRow : ∀ m : Nat, (k ≤ m ∧ m ≤ k') ∨ (k' ≤ m ∧ m ≤ k) → (ptAt l m).y = (ptAt l k).y := by
      intro m hm'
      rcases hm' with ⟨a, b⟩ | ⟨a, b⟩
      · have y1 := ptAt_y_mono l a
        have y2 := ptAt_y_mono l b
        omega
      · have y1 := ptAt_y_mono l a
        have y2 := ptAt_y_mono l b
        omega
    rcases sgn_cases (dxOf l) with ⟨_, hs, _⟩ | ⟨_, hs, _⟩
    · rw [hs] at h1 h2
      obtain ⟨m, em⟩ := Int.eq_ofNat_of_zero_le (show 0 ≤ x - l.start.x by omega)
      refine mem_points.mpr ⟨m, by omega, ?_⟩
      rw [Pt.ext_iff', ex m, hs, inRow m (Or.inl ⟨by omega, by omega⟩)]
      dsimp only; omega
    · rw [hs] at h1 h2
      obtain ⟨m, em⟩ := Int.eq_ofNat_of_zero_le (show 0 ≤ l.start.x - x by omega)
      refine mem_points.mpr ⟨m, by omega, ?_⟩
      rw [Pt.ext_iff', ex m, hs, inRow m (Or.inr ⟨by omega, by omega⟩)]
      dsimp only; omega

theorem mem_points_box {a b : Pt} {x0 x1 y0 y1 : Int}
    (ha : x0 ≤ a.x ∧ a.x ≤ x1 ∧ y0 ≤ a.y ∧ a.y ≤ y1) (hb : x0 ≤ b.x ∧ b.x ≤ x1 ∧ y0 ≤ b.y ∧ b.y ≤ y1)
    {q : Pt} (hq : q ∈ points ⟨a, b⟩) : x0 ≤ q.x ∧ q.x ≤ x1 ∧ y0 ≤ q.y ∧ q.y ≤ y1 := by
  have h := mem_points_in_box hq
  dsimp only at h
  omega

theorem mem_points_rows {l : Line} {q : Pt} (hq : q ∈ points l) :
    min l.start.y l.stop.y ≤ q.y ∧ q.y ≤ max l.start.y l.stop.y :=
  (mem_points_in_box hq).2.2

theorem mem_points_translate (l : Line) (d p : Pt) :
    p + d ∈ points (l.translate d) ↔ p ∈ points l := by
  rw [points_translate]
  exact Pt.mem_map_add

end Line

end EG
