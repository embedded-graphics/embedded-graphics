/-
  EG.Lemmas.TriangleExact — the converse of EG.Lemmas.TriangleCover: for a triangle with non-zero
  area every point of `points()` is accepted by `contains()`, hence
  `points() = bounding_box().points().filter(contains)`.

  Ingredients: the pixels of a line within one row are contiguous (`Line.row_contiguous`), so a
  lattice point that is no pixel of an edge does not lie between two pixels of that edge in its row
  (`not_between_pixels`), and with a pixel of the edge on one side it lies strictly on the other
  side of the ideal edge (`pixel_left` / `pixel_right` contraposed). A point of the row hull that is
  no edge pixel therefore lies strictly between the long edge `p1 p3` and one of the short edges
  (`closedIn_top`, `closedIn_bottom`); the third half-plane follows from the barycentric identity
  of the row.
-/
import EG.Lemmas.TriangleCover
import EG.Lemmas.TriangleContains
import EG.Lemmas.Scanline
namespace EG
namespace Line

theorem not_between_pixels {l : Line} {p q q' : Pt} (hp : p ∉ points l)
    (hq : q ∈ points l) (hq' : q' ∈ points l) (hy : q.y = p.y) (hy' : q'.y = p.y) :
    ¬ (q.x ≤ p.x ∧ p.x ≤ q'.x) := by
  rintro ⟨h1, h2⟩
  have := row_contiguous l hq hq' (by omega) h1 h2
  rw [hy, pt_eta] at this
  exact hp this

/-- In the row of a pixel `v` that two lines share, a lattice point that is a pixel of neither has
the pixels of both lines on one and the same side. -/
theorem not_across_shared_pixel {l l' : Line} {p v qa qb : Pt} (n : p ∉ points l) (n' : p ∉ points l')
    (hv : v ∈ points l) (hv' : v ∈ points l') (hqa : qa ∈ points l) (hqb : qb ∈ points l')
    (hvy : v.y = p.y) (hya : qa.y = p.y) (hyb : qb.y = p.y) :
    ¬ ((qa.x ≤ p.x ∧ p.x ≤ qb.x) ∨ (qb.x ≤ p.x ∧ p.x ≤ qa.x)) := by
  have h1 := not_between_pixels n hqa hv hya hvy
  have h2 := not_between_pixels n hv hqa hvy hya
  have h3 := not_between_pixels n' hqb hv' hyb hvy
  have h4 := not_between_pixels n' hv' hqb hvy hyb
  omega

theorem side_neg_of_pixel_left {l : Line} (hdy : 0 < dyOf l) {p q : Pt} (hp : p ∉ points l)
    (hq : q ∈ points l) (hy : q.y = p.y) (hx : q.x ≤ p.x) : side l p < 0 := by
  have hr := mem_points_rows hq
  have hd : l.start.y ≤ l.stop.y := by unfold dyOf at hdy; omega
  by_contra hc
  obtain ⟨q', hq', hy', hx'⟩ := pixel_right hdy p (by omega) (by omega) (by omega)
  exact not_between_pixels hp hq hq' hy hy' ⟨hx, hx'⟩

theorem side_pos_of_pixel_right {l : Line} (hdy : 0 < dyOf l) {p q : Pt} (hp : p ∉ points l)
    (hq : q ∈ points l) (hy : q.y = p.y) (hx : p.x ≤ q.x) : 0 < side l p := by
  have hr := mem_points_rows hq
  have hd : l.start.y ≤ l.stop.y := by unfold dyOf at hdy; omega
  by_contra hc
  obtain ⟨q', hq', hy', hx'⟩ := pixel_left hdy p (by omega) (by omega) (by omega)
  exact not_between_pixels hp hq' hq hy' hy ⟨hx', hx⟩

end Line

namespace Triangle
open Line

/-- How the sign of the third edge function is read off `edgeFn_third_top/_bottom` (`A` the distance
of the row from the end vertex, `d` the third edge function): `d` takes the sign that `e` and `f`
share; `A + u > 0` says that not both coefficients of the identity vanish. -/
theorem shared_sign_of_mul_eq_add {A d e f u v : Int} (I : A * d = e * u + f * v) (hA : 0 ≤ A) (hu : 0 ≤ u)
    (hv : 0 ≤ v) (hAu : 0 < A + u) : (0 < e → 0 < f → 0 ≤ d) ∧ (e < 0 → f < 0 → d ≤ 0) := by
  constructor
  · intro he hf
    by_contra hd
    have := Int.mul_nonpos_of_nonneg_of_nonpos hA (show d ≤ 0 by omega)
    have := Int.mul_nonneg (Int.le_of_lt he) hu
    have := Int.mul_nonneg (Int.le_of_lt hf) hv
    by_cases h0 : A = 0
    · have := Int.mul_pos he (show 0 < u by omega); omega
    · have := Int.mul_neg_of_pos_of_neg (show 0 < A by omega) (show d < 0 by omega); omega
  · intro he hf
    by_contra hd
    have := Int.mul_nonneg hA (show 0 ≤ d by omega)
    have := Int.mul_nonpos_of_nonpos_of_nonneg (Int.le_of_lt he) hu
    have := Int.mul_nonpos_of_nonpos_of_nonneg (Int.le_of_lt hf) hv
    by_cases h0 : A = 0
    · have := Int.mul_neg_of_neg_of_pos he (show 0 < u by omega); omega
    · have := Int.mul_pos (show 0 < A by omega) (show 0 < d by omega); omega

/-- The closed triangle in the rows above the middle vertex: a point that is no pixel of the edges
`p1 p2`, `p1 p3` and has a pixel of one of them on its left and a pixel of the other on its right.
(These edges share the pixel `p1`, so the rows of `p1` and `p2` differ.) -/
theorem closedIn_top {p1 p2 p3 p qa qb : Pt} (hy12 : p1.y ≤ p2.y) (hy23 : p2.y ≤ p3.y)
    (n12 : p ∉ Line.points ⟨p1, p2⟩) (n13 : p ∉ Line.points ⟨p1, p3⟩)
    (hqa : qa ∈ Line.points ⟨p1, p3⟩) (hqb : qb ∈ Line.points ⟨p1, p2⟩) (hya : qa.y = p.y)
    (hyb : qb.y = p.y) (hx : (qa.x ≤ p.x ∧ p.x ≤ qb.x) ∨ (qb.x ≤ p.x ∧ p.x ≤ qa.x)) :
    ClosedIn ⟨p1, p2, p3⟩ p := by
  have rb := mem_points_rows hqb
  dsimp only at rb
  have hflat : p1.y < p2.y := by
    by_contra hc
    exact not_across_shared_pixel n13 n12 (start_mem_points ⟨p1, p3⟩) (start_mem_points ⟨p1, p2⟩)
      hqa hqb (show p1.y = p.y by omega) hya hyb hx
  have s13 : side ⟨p1, p3⟩ p = -edgeFn p3 p1 p := by rw [← edgeFn_swap]; rfl
  have s12 : side ⟨p1, p2⟩ p = edgeFn p1 p2 p := rfl
  obtain ⟨hpos, hneg⟩ := shared_sign_of_mul_eq_add (edgeFn_third_top p1 p2 p3 p) (show 0 ≤ p.y - p1.y by omega)
    (show 0 ≤ p3.y - p.y by omega) (show 0 ≤ p2.y - p.y by omega) (by omega)
  unfold ClosedIn
  dsimp only
  rcases hx with ⟨ha, hb⟩ | ⟨hb, ha⟩
  · have e31 := side_neg_of_pixel_left (l := ⟨p1, p3⟩) (by unfold dyOf; dsimp only; omega) n13 hqa hya ha
    have e12 := side_pos_of_pixel_right (l := ⟨p1, p2⟩) (by unfold dyOf; dsimp only; omega) n12 hqb hyb hb
    have := hpos (by omega) (by omega)
    left; omega
  · have e31 := side_pos_of_pixel_right (l := ⟨p1, p3⟩) (by unfold dyOf; dsimp only; omega) n13 hqa hya ha
    have e12 := side_neg_of_pixel_left (l := ⟨p1, p2⟩) (by unfold dyOf; dsimp only; omega) n12 hqb hyb hb
    have := hneg (by omega) (by omega)
    right; omega

/-- The same in the rows below the middle vertex, with the edges `p1 p3`, `p2 p3`. -/
theorem closedIn_bottom {p1 p2 p3 p qa qb : Pt} (hy12 : p1.y ≤ p2.y) (hy23 : p2.y ≤ p3.y)
    (n23 : p ∉ Line.points ⟨p2, p3⟩) (n13 : p ∉ Line.points ⟨p1, p3⟩)
    (hqa : qa ∈ Line.points ⟨p1, p3⟩) (hqb : qb ∈ Line.points ⟨p2, p3⟩) (hya : qa.y = p.y)
    (hyb : qb.y = p.y) (hx : (qa.x ≤ p.x ∧ p.x ≤ qb.x) ∨ (qb.x ≤ p.x ∧ p.x ≤ qa.x)) :
    ClosedIn ⟨p1, p2, p3⟩ p := by
  have rb := mem_points_rows hqb
  dsimp only at rb
  have hflat : p2.y < p3.y := by
    by_contra hc
    exact not_across_shared_pixel n13 n23 (stop_mem_points ⟨p1, p3⟩) (stop_mem_points ⟨p2, p3⟩)
      hqa hqb (show p3.y = p.y by omega) hya hyb hx
  have s13 : side ⟨p1, p3⟩ p = -edgeFn p3 p1 p := by rw [← edgeFn_swap]; rfl
  have s23 : side ⟨p2, p3⟩ p = edgeFn p2 p3 p := rfl
  obtain ⟨hpos, hneg⟩ := shared_sign_of_mul_eq_add (edgeFn_third_bottom p1 p2 p3 p) (show 0 ≤ p3.y - p.y by omega)
    (show 0 ≤ p.y - p1.y by omega) (show 0 ≤ p.y - p2.y by omega) (by omega)
  unfold ClosedIn
  dsimp only
  rcases hx with ⟨ha, hb⟩ | ⟨hb, ha⟩
  · have e31 := side_neg_of_pixel_left (l := ⟨p1, p3⟩) (by unfold dyOf; dsimp only; omega) n13 hqa hya ha
    have e23 := side_pos_of_pixel_right (l := ⟨p2, p3⟩) (by unfold dyOf; dsimp only; omega) n23 hqb hyb hb
    have := hpos (by omega) (by omega)
    left; omega
  · have e31 := side_pos_of_pixel_right (l := ⟨p1, p3⟩) (by unfold dyOf; dsimp only; omega) n13 hqa hya ha
    have e23 := side_neg_of_pixel_left (l := ⟨p2, p3⟩) (by unfold dyOf; dsimp only; omega) n23 hqb hyb hb
    have := hneg (by omega) (by omega)
    right; omega

theorem closedIn_of_mem_points (t : Triangle) (h : t.boundingBox.InRange) (ha : t.areaDoubled ≠ 0)
    (p : Pt) (hp : p ∈ t.points) (hne : p ∉ t.edgePoints) : ClosedIn t p := by
  rw [← closedIn_of_mem_orders (sortedYx_mem_orders t) p]
  obtain ⟨hy12, hy23⟩ := sortedYx_y_le t
  have hused : usedLines t = [⟨t.sortedYx.v1, t.sortedYx.v2⟩, ⟨t.sortedYx.v1, t.sortedYx.v3⟩,
      ⟨t.sortedYx.v2, t.sortedYx.v3⟩] := usedLines_of_nonzero ha
  have hedge : t.edgePoints = Line.points ⟨t.sortedYx.v1, t.sortedYx.v2⟩ ++
      (Line.points ⟨t.sortedYx.v1, t.sortedYx.v3⟩ ++ Line.points ⟨t.sortedYx.v2, t.sortedYx.v3⟩) := by
    unfold edgePoints edgeLines; simp
  rw [hedge] at hne
  simp only [List.mem_append, not_or] at hne
  obtain ⟨n12, n13, n23⟩ := hne
  -- the hull of the row: an edge pixel at or left of `p` and one at or right of it
  obtain ⟨q1, q2, hq1, hq2, hx1, hx2⟩ := (mem_points_iff_between t h p).mp hp
  obtain ⟨l1, hl1, hq1, hy1⟩ := mem_rowPix.mp hq1
  obtain ⟨l2, hl2, hq2, hy2⟩ := mem_rowPix.mp hq2
  rw [hused] at hl1 hl2
  simp only [List.mem_cons, List.mem_nil_iff, or_false] at hl1 hl2
  generalize t.sortedYx = s at *
  obtain ⟨p1, p2, p3⟩ := s
  dsimp only at *
  -- the short edges share the pixel `p2`: they cannot carry the two witnesses
  have mid : ∀ {qa qb : Pt}, qa ∈ Line.points ⟨p1, p2⟩ → qb ∈ Line.points ⟨p2, p3⟩ → qa.y = p.y →
      qb.y = p.y → ¬ ((qa.x ≤ p.x ∧ p.x ≤ qb.x) ∨ (qb.x ≤ p.x ∧ p.x ≤ qa.x)) := by
    intro qa qb hqa hqb hya hyb
    have ra := mem_points_rows hqa
    have rb := mem_points_rows hqb
    have hp2 : p2.y = p.y := by dsimp only at ra rb; omega
    exact not_across_shared_pixel n12 n23 (stop_mem_points ⟨p1, p2⟩) (start_mem_points ⟨p2, p3⟩)
      hqa hqb hp2 hya hyb
  rcases hl1 with rfl | rfl | rfl <;> rcases hl2 with rfl | rfl | rfl
  · exact absurd ⟨hx1, hx2⟩ (not_between_pixels n12 hq1 hq2 hy1 hy2)
  · exact closedIn_top hy12 hy23 n12 n13 hq2 hq1 hy2 hy1 (Or.inr ⟨hx1, hx2⟩)
  · exact absurd (Or.inl ⟨hx1, hx2⟩) (mid hq1 hq2 hy1 hy2)
  · exact closedIn_top hy12 hy23 n12 n13 hq1 hq2 hy1 hy2 (Or.inl ⟨hx1, hx2⟩)
  · exact absurd ⟨hx1, hx2⟩ (not_between_pixels n13 hq1 hq2 hy1 hy2)
  · exact closedIn_bottom hy12 hy23 n23 n13 hq1 hq2 hy1 hy2 (Or.inl ⟨hx1, hx2⟩)
  · exact absurd (Or.inr ⟨hx1, hx2⟩) (mid hq2 hq1 hy2 hy1)
  · exact closedIn_bottom hy12 hy23 n23 n13 hq2 hq1 hy2 hy1 (Or.inr ⟨hx1, hx2⟩)
  · exact absurd ⟨hx1, hx2⟩ (not_between_pixels n23 hq1 hq2 hy1 hy2)

theorem contains_of_mem_points (t : Triangle) (h : t.boundingBox.InRange) (ha : t.areaDoubled ≠ 0)
    (p : Pt) (hp : p ∈ t.points) : t.contains p = true := by
  rw [contains_iff]
  refine ⟨points_in_bbox t h p hp, ha, ?_⟩
  by_cases he : p ∈ t.edgePoints
  · exact Or.inr he
  · left
    have hc := closedIn_of_mem_points t h ha p hp he
    have hsum := edgeFn_sum t.v1 t.v2 t.v3 p
    have harea := edgeFn_area t
    rw [isInside_iff_half_planes t p ha]
    unfold ClosedIn at hc
    rcases hc with ⟨h1, h2, h3⟩ | ⟨h1, h2, h3⟩
    · exact Or.inl ⟨h1, h2, h3, by omega⟩
    · exact Or.inr ⟨h1, h2, h3, by omega⟩

theorem mem_points_of_contains (t : Triangle) (h : t.boundingBox.InRange) (p : Pt)
    (hc : t.contains p = true) : p ∈ t.points := by
  obtain ⟨_, ha, hin | hedge⟩ := (contains_iff t p).mp hc
  · apply closed_triangle_covered t h ha p
    rcases (isInside_iff_half_planes t p ha).mp hin with ⟨h1, h2, h3, _⟩ | ⟨h1, h2, h3, _⟩
    · exact Or.inl ⟨h1, h2, h3⟩
    · exact Or.inr ⟨h1, h2, h3⟩
  · unfold edgePoints at hedge
    obtain ⟨l, hl, hpl⟩ := List.mem_flatMap.mp hedge
    exact edge_pixel_mem_points t h (by rw [usedLines_of_nonzero ha]; exact hl) hpl

theorem mem_points_iff_contains (t : Triangle) (h : t.boundingBox.InRange) (ha : t.areaDoubled ≠ 0)
    (p : Pt) : p ∈ t.points ↔ t.contains p = true :=
  ⟨contains_of_mem_points t h ha p, mem_points_of_contains t h p⟩

theorem points_eq_filter_contains (t : Triangle) (h : t.boundingBox.InRange)
    (ha : t.areaDoubled ≠ 0) : t.points = t.boundingBox.points.filter t.contains := by
  obtain ⟨etl, ew, eh⟩ := boundingBox_eq t
  have hrows : irange t.boundingBox.tl.y (t.boundingBox.tl.y + t.boundingBox.size.h) = rowList t := by
    unfold rowList
    rw [etl]; dsimp only
    congr 1; omega
  have hcols : irange t.boundingBox.tl.x (t.boundingBox.tl.x + t.boundingBox.size.w) =
      irange (xMin t) (xMax t + 1) := by
    rw [etl]; dsimp only
    congr 1; omega
  rw [points_eq_rows t h, Rect.points_eq_grid (Or.inr h), Rect.grid, hrows, hcols, List.filter_flatMap]
  rw [List.flatMap_def, List.flatMap_def]
  congr 1
  apply List.map_congr_left
  intro y hy
  unfold rowList at hy
  rw [mem_irange] at hy
  rw [List.filter_map]
  have hne := span_nonempty t y hy.1 (by omega)
  have hw := span_within t y
  have hfil : (irange (xMin t) (xMax t + 1)).filter (t.contains ∘ fun x => (⟨x, y⟩ : Pt)) =
      irange (t.span y).xs (t.span y).xe := by
    apply filter_irange _ _ _ _ _ _ (by omega) (by omega)
    intro x _ _
    simp only [Function.comp]
    rw [← mem_points_iff_contains t h ha, mem_points_iff t h]
    unfold Scanline.Covers
    dsimp only
    constructor
    · rintro ⟨_, _, h3⟩; exact h3
    · intro h3; exact ⟨hy.1, by omega, h3⟩
  rw [hfil]
  unfold Scanline.points
  rw [span_y]

end Triangle
end EG
