/-
  EG.Lemmas.Rect — characterisation lemmas for the Rectangle model: one `_iff` per Boolean method
  (`contains`, `is_zero_sized`, `overlaps`), `bottom_right`, `with_corners`, and the range guard
  `Rect.InRange`. What `intersection`, `envelope`, `offset`, `resized*` return is in
  EG/Lemmas/RectOps.lean.
-/
import EG.Model.Rect
import EG.Basic.Arith
namespace EG
namespace Rect

theorem bottomRight_some {r : Rect} (h : 0 < r.size.w ∧ 0 < r.size.h) :
    r.bottomRight = some ⟨r.tl.x + (r.size.w : Int) - 1, r.tl.y + (r.size.h : Int) - 1⟩ := by
  unfold bottomRight; simp [h]

theorem bottomRight_none {r : Rect} (h : ¬ (0 < r.size.w ∧ 0 < r.size.h)) :
    r.bottomRight = none := by
  unfold bottomRight; simp only [gt_iff_lt]; rw [if_neg h]

theorem bottomRight_eq {r : Rect} {br : Pt} (h : r.bottomRight = some br) :
    (0 < r.size.w ∧ 0 < r.size.h) ∧ br.x = r.tl.x + r.size.w - 1 ∧ br.y = r.tl.y + r.size.h - 1 := by
  unfold bottomRight at h
  split at h
  · cases h; exact ⟨‹_›, rfl, rfl⟩
  · cases h

theorem bottomRight_eq_none_iff {r : Rect} : r.bottomRight = none ↔ r.size.w = 0 ∨ r.size.h = 0 := by
  unfold bottomRight
  split <;> simp <;> omega

theorem isZeroSized_iff {r : Rect} : r.isZeroSized = true ↔ r.size.w = 0 ∨ r.size.h = 0 := by
  unfold isZeroSized; simp; omega

theorem contains_iff {r : Rect} {p : Pt} :
    r.contains p = true ↔
      r.tl.x ≤ p.x ∧ p.x < r.tl.x + r.size.w ∧ r.tl.y ≤ p.y ∧ p.y < r.tl.y + r.size.h := by
  unfold contains
  -- without a bottom right corner (a zero side) both sides are false
  by_cases hz : 0 < r.size.w ∧ 0 < r.size.h
  · rw [bottomRight_some hz]
    split <;> simp <;> omega
  · rw [bottomRight_none hz]
    split <;> simp <;> omega

theorem contains_iff_axes {r : Rect} {p : Pt} :
    r.contains p = true ↔
      (r.tl.x ≤ p.x ∧ p.x < r.tl.x + r.size.w) ∧ (r.tl.y ≤ p.y ∧ p.y < r.tl.y + r.size.h) := by
  rw [contains_iff, and_assoc]

theorem contains_false_of_zero {r : Rect} {p : Pt} (h : r.size.w = 0 ∨ r.size.h = 0) :
    r.contains p = false := by
  cases hc : r.contains p with
  | false => rfl
  | true => rw [contains_iff] at hc; omega

theorem overlaps_iff {f0 f1 s0 s1 : Int} (hf : f0 ≤ f1) (hs : s0 ≤ s1) :
    overlaps f0 f1 s0 s1 = true ↔ max f0 s0 ≤ min f1 s1 := by
  unfold overlaps; simp only [decide_eq_true_eq]; omega

theorem withCorners_tl_x (a b : Pt) : (withCorners a b).tl.x = min a.x b.x := rfl
theorem withCorners_tl_y (a b : Pt) : (withCorners a b).tl.y = min a.y b.y := rfl
theorem withCorners_w (a b : Pt) : ((withCorners a b).size.w : Int) = max a.x b.x - min a.x b.x + 1 := by
  simp only [withCorners]; omega
theorem withCorners_h (a b : Pt) : ((withCorners a b).size.h : Int) = max a.y b.y - min a.y b.y + 1 := by
  simp only [withCorners]; omega

theorem contains_withCorners {a b p : Pt} :
    (withCorners a b).contains p = true ↔
      min a.x b.x ≤ p.x ∧ p.x ≤ max a.x b.x ∧ min a.y b.y ≤ p.y ∧ p.y ≤ max a.y b.y := by
  rw [contains_iff, withCorners_tl_x, withCorners_tl_y, withCorners_w, withCorners_h]; omega

/-- `Rectangle::contains` is convex along each axis. -/
theorem contains_between {c : Rect} {a b p : Pt} (ha : c.contains a = true) (hb : c.contains b = true)
    (hx : min a.x b.x ≤ p.x ∧ p.x ≤ max a.x b.x) (hy : min a.y b.y ≤ p.y ∧ p.y ≤ max a.y b.y) :
    c.contains p = true := by
  rw [contains_iff_axes] at ha hb ⊢
  exact ⟨between_of_mem ha.1 hb.1 hx, between_of_mem ha.2 hb.2 hy⟩

theorem contains_of_withCorners {c : Rect} {a b p : Pt} (ha : c.contains a = true)
    (hb : c.contains b = true) (hp : (withCorners a b).contains p = true) : c.contains p = true := by
  rw [contains_withCorners] at hp
  exact contains_between ha hb ⟨hp.1, hp.2.1⟩ hp.2.2

theorem withCorners_min_max_axis (a b : Int) :
    min (min a b) (max a b) = min a b ∧ (min a b - max a b).natAbs = (a - b).natAbs := by
  omega

theorem withCorners_min_max (a b : Pt) :
    withCorners (a.componentMin b) (a.componentMax b) = withCorners a b := by
  have hx := withCorners_min_max_axis a.x b.x
  have hy := withCorners_min_max_axis a.y b.y
  simp only [withCorners, Pt.componentMin, Pt.componentMax, hx.1, hx.2, hy.1, hy.2]

/-- No `u32 -> i32` saturation and no `i32` overflow when adding the size to the top-left
corner: what the real code needs anyway to avoid a panic in a checked build. -/
def InRange (r : Rect) : Prop :=
  inI32 r.tl.x ∧ inI32 r.tl.y ∧ r.size.w ≤ 2147483647 ∧ r.size.h ≤ 2147483647 ∧
    r.tl.x + r.size.w ≤ 2147483647 ∧ r.tl.y + r.size.h ≤ 2147483647

instance (r : Rect) : Decidable r.InRange := by unfold InRange; exact inferInstance

theorem InRange.w_le {r : Rect} (h : r.InRange) : r.size.w ≤ 2147483647 := by
  unfold InRange inI32 at h; omega
theorem InRange.h_le {r : Rect} (h : r.InRange) : r.size.h ≤ 2147483647 := by
  unfold InRange inI32 at h; omega

theorem InRange.of_within {q sa : Rect} (h : sa.InRange)
    (hx : sa.tl.x ≤ q.tl.x ∧ q.tl.x + q.size.w ≤ sa.tl.x + sa.size.w)
    (hy : sa.tl.y ≤ q.tl.y ∧ q.tl.y + q.size.h ≤ sa.tl.y + sa.size.h) : q.InRange := by
  unfold InRange inI32 at h ⊢
  omega

end Rect
end EG
