/-
  EG.Lemmas.Stream — what a `for` loop sees of a model iterator, for both kinds of model iterator.

  Total kind: a state type `σ` with `next : σ → Option (α × σ)` (or, for iterators that are not
  fused, `σ → Option α × σ`, read through `ofPair`) and a drain `toListFuel : Nat → σ → List α` by
  recursion on explicit fuel. `Drains next run` ties the drain to its `next`; `Yields next rest` says
  that `rest s` is what the iterator still yields from `s`: `next` peels its head off. Then the
  drain on `fuel` is the first `fuel` items of `rest` (`Drains.eq_take`), so it is `rest` as soon as
  the fuel covers its length, whatever the fuel. Everything else about such an iterator is a fact
  about the list `rest`. `Drains.comap`: two transcriptions of one iterator whose steps correspond
  collect corresponding lists. `loop_stable`: an inner loop on fuel does not depend on the fuel
  above a measure.

  Partial kind (the stroke models): `next : σ → Option (Option (α × σ))` (outer `none` = a step
  budget of the model ran out; `some none` = Rust's `None`), drained with explicit fuel by a
  `toListFuel` that returns the prefix seen so far when the fuel is used up. All these drains are
  `listFuel next` (`eq_listFuel`). `Run next s l` says, without any fuel, that a `for` loop started in
  state `s` sees exactly the items `l` and then `None`:
  * `Run.listFuel_take`, `Run.listFuel`, `Run.unique`: the run determines the fuelled drain (its
    first `fuel` items), and is unique;
  * `Run.of_pop`: an iterator whose step pops the head of a list `items s` runs that list.
  `OptRel R` relates two optional results: both `none`, or both `some` and related by `R`.

  The equations that tie a model drain to this file are stated over the named combinators `unroll`
  and `unrollP`, never over a `match`: a `match` in a hypothesis is an auxiliary constant of its own
  that the model's `toListFuel` does not unfold to.
-/
namespace EG

/-- One round of a `for` loop: the item that `next` returned, then what the successor yields. -/
def unroll {σ α : Type} (o : Option (α × σ)) (k : σ → List α) : List α :=
  match o with
  | some (a, it') => a :: k it'
  | none => []

/-- A `next` that returns the pair (item, state), read as one that returns an item with a state or
nothing: a `for` loop never looks at the state behind a `None`. -/
def ofPair {σ α : Type} (next : σ → Option α × σ) (s : σ) : Option (α × σ) :=
  (next s).1.map (·, (next s).2)

structure Drains {σ α : Type} (next : σ → Option (α × σ)) (run : Nat → σ → List α) : Prop where
  zero : ∀ s, run 0 s = []
  succ : ∀ n s, run (n + 1) s = unroll (next s) (run n)

/-- `rest s` is what the iterator still yields from the state `s`. -/
def Yields {σ α : Type} (next : σ → Option (α × σ)) (rest : σ → List α) : Prop :=
  ∀ s, rest s = unroll (next s) rest

namespace Drains
variable {σ α : Type} {next : σ → Option (α × σ)} {run : Nat → σ → List α} {rest : σ → List α}

theorem eq_take_on (hr : Drains next run) (Inv : σ → Prop)
    (hinv : ∀ s a s', Inv s → next s = some (a, s') → Inv s')
    (hy : ∀ s, Inv s → rest s = unroll (next s) rest) :
    ∀ (fuel : Nat) (s : σ), Inv s → run fuel s = (rest s).take fuel := by
  intro fuel
  induction fuel with
  | zero => intro s _; rw [hr.zero, List.take_zero]
  | succ n ih =>
    intro s hs
    rw [hr.succ, hy s hs]
    cases hx : next s with
    | none => rfl
    | some q => exact congrArg (q.1 :: ·) (ih q.2 (hinv s q.1 q.2 hs hx))

theorem eq_take (hr : Drains next run) (hy : Yields next rest) (fuel : Nat) (s : σ) :
    run fuel s = (rest s).take fuel :=
  hr.eq_take_on (fun _ => True) (fun _ _ _ _ _ => trivial) (fun s _ => hy s) fuel s trivial

theorem eq_rest_on (hr : Drains next run) (Inv : σ → Prop)
    (hinv : ∀ s a s', Inv s → next s = some (a, s') → Inv s')
    (hy : ∀ s, Inv s → rest s = unroll (next s) rest) {fuel : Nat} {s : σ} (hs : Inv s)
    (hf : (rest s).length ≤ fuel) : run fuel s = rest s := by
  rw [hr.eq_take_on Inv hinv hy fuel s hs, List.take_of_length_le hf]

theorem eq_rest (hr : Drains next run) (hy : Yields next rest) {fuel : Nat} {s : σ}
    (hf : (rest s).length ≤ fuel) : run fuel s = rest s := by
  rw [hr.eq_take hy, List.take_of_length_le hf]

/-- The form for a step budget: a measure that every yield lowers bounds the length of `rest`. -/
theorem eq_rest_of_measure (hr : Drains next run) (Inv : σ → Prop) (mu : σ → Nat)
    (hstep : ∀ s, Inv s → rest s = unroll (next s) rest ∧
      ∀ a s', next s = some (a, s') → Inv s' ∧ mu s' < mu s) :
    ∀ (fuel : Nat) (s : σ), Inv s → mu s < fuel → run fuel s = rest s := by
  intro fuel
  induction fuel with
  | zero => intro s _ h; omega
  | succ n ih =>
    intro s hs hf
    obtain ⟨hy, hk⟩ := hstep s hs
    rw [hr.succ, hy]
    cases hx : next s with
    | none => rfl
    | some q =>
      obtain ⟨hi, hm⟩ := hk q.1 q.2 hx
      exact congrArg (q.1 :: ·) (ih q.2 hi (by omega))

/-- Two transcriptions of one iterator, the states of the second viewed through `g` and its items
through `f`: if the steps correspond, the drains collect corresponding lists. -/
theorem comap {σ' α' : Type} {next' : σ' → Option (α' × σ')} {run' : Nat → σ' → List α'}
    (hr : Drains next run) (hr' : Drains next' run') (g : σ' → σ) (f : α' → α)
    (hstep : ∀ s', next (g s') = (next' s').map fun p => (f p.1, g p.2)) :
    ∀ (fuel : Nat) (s' : σ'), run fuel (g s') = (run' fuel s').map f := by
  intro fuel
  induction fuel with
  | zero => intro s'; rw [hr.zero, hr'.zero]; rfl
  | succ n ih =>
    intro s'
    rw [hr.succ, hr'.succ, hstep]
    cases next' s' with
    | none => rfl
    | some p => exact congrArg (f p.1 :: ·) (ih p.2)

end Drains

/-- An inner loop on fuel does not depend on the fuel above a measure: enough that one round calls
the loop only on states of smaller measure. -/
theorem loop_stable {σ β : Type} {loop : Nat → σ → β} (mu : σ → Nat)
    (hround : ∀ n m s, (∀ s', mu s' < mu s → loop n s' = loop m s') →
      loop (n + 1) s = loop (m + 1) s) :
    ∀ (n m : Nat) (s : σ), mu s < n → mu s < m → loop n s = loop m s := by
  intro n
  induction n with
  | zero => intro m s h; omega
  | succ n ih =>
    intro m s h1 h2
    cases m with
    | zero => omega
    | succ m => exact hround n m s fun s' h => ih m s' (by omega) (by omega)

namespace Joins

def OptRel {α β : Type} (R : α → β → Prop) : Option α → Option β → Prop
  | some a, some b => R a b
  | none, none => True
  | _, _ => False

theorem OptRel.cases {α β : Type} {R : α → β → Prop} {a : Option α} {b : Option β}
    (h : OptRel R a b) : (a = none ∧ b = none) ∨ ∃ x y, a = some x ∧ b = some y ∧ R x y := by
  cases a <;> cases b
  · exact Or.inl ⟨rfl, rfl⟩
  · exact h.elim
  · exact h.elim
  · exact Or.inr ⟨_, _, rfl, rfl, h⟩

end Joins

namespace C01Thick

/-- The complete run of an iterator: the items a `for` loop sees, up to the first `None`. -/
inductive Run {σ α : Type} (next : σ → Option (Option (α × σ))) : σ → List α → Prop
  | done {s : σ} : next s = some none → Run next s []
  | step {s s' : σ} {a : α} {l : List α} : next s = some (some (a, s')) → Run next s' l →
      Run next s (a :: l)

/-- The fuelled drain all `toListFuel`s of the join models are instances of. -/
def listFuel {σ α : Type} (next : σ → Option (Option (α × σ))) : Nat → σ → Option (List α)
  | 0, _ => some []
  | fuel + 1, s =>
    match next s with
    | none => none
    | some none => some []
    | some (some (a, s')) =>
      match listFuel next fuel s' with
      | none => none
      | some rest => some (a :: rest)

/-- One round of a `for` loop over a partial iterator: stuck, finished, or the item that `next`
returned in front of what the successor yields. -/
def unrollP {σ α : Type} (o : Option (Option (α × σ))) (k : σ → Option (List α)) :
    Option (List α) :=
  match o with
  | none => none
  | some none => some []
  | some (some (a, s')) => (k s').map (a :: ·)

theorem listFuel_succ {σ α : Type} (next : σ → Option (Option (α × σ))) (n : Nat) (s : σ) :
    listFuel next (n + 1) s = unrollP (next s) (listFuel next n) := by
  rw [listFuel]
  rcases next s with _ | _ | ⟨a, s'⟩
  · rfl
  · rfl
  · dsimp only [unrollP]
    cases listFuel next n s' <;> rfl

theorem eq_listFuel {σ α : Type} {next : σ → Option (Option (α × σ))}
    {f : Nat → σ → Option (List α)} (h0 : ∀ s, f 0 s = some [])
    (hs : ∀ n s, f (n + 1) s = unrollP (next s) (f n)) : ∀ n s, f n s = listFuel next n s := by
  intro n
  induction n with
  | zero => exact h0
  | succ n ih => intro s; rw [hs, listFuel_succ, funext ih]

theorem Run.unique {σ α : Type} {next : σ → Option (Option (α × σ))} {s : σ} {l l' : List α}
    (h : Run next s l) (h' : Run next s l') : l = l' := by
  induction h generalizing l' with
  | done h1 =>
    cases h' with
    | done _ => rfl
    | step h2 _ => rw [h1] at h2; cases h2
  | step h1 _ ih =>
    cases h' with
    | done h2 => rw [h1] at h2; cases h2
    | step h2 hr =>
      rw [h1] at h2
      simp only [Option.some.injEq, Prod.mk.injEq] at h2
      obtain ⟨rfl, rfl⟩ := h2
      rw [ih hr]

theorem listFuel_succ_some {σ α : Type} {next : σ → Option (Option (α × σ))} {n : Nat} {s : σ}
    {l : List α} (h : listFuel next (n + 1) s = some l) :
    (next s = some none ∧ l = []) ∨
      ∃ a s' rest, next s = some (some (a, s')) ∧ listFuel next n s' = some rest ∧ l = a :: rest := by
  rw [listFuel] at h
  rcases hn : next s with _ | _ | ⟨a, s'⟩
  · rw [hn] at h; cases h
  · rw [hn] at h; exact Or.inl ⟨rfl, (Option.some.inj h).symm⟩
  · rw [hn] at h
    dsimp only at h
    cases hr : listFuel next n s' with
    | none => rw [hr] at h; cases h
    | some rest => rw [hr] at h; exact Or.inr ⟨a, s', rest, rfl, hr, (Option.some.inj h).symm⟩

theorem Run.listFuel_take {σ α : Type} {next : σ → Option (Option (α × σ))} {s : σ} {l : List α}
    (h : Run next s l) : ∀ fuel, C01Thick.listFuel next fuel s = some (l.take fuel) := by
  induction h with
  | done h1 =>
    intro fuel
    cases fuel with
    | zero => rfl
    | succ n => rw [C01Thick.listFuel, h1]; rfl
  | step h1 _ ih =>
    intro fuel
    cases fuel with
    | zero => rfl
    | succ n =>
      rw [C01Thick.listFuel, h1]
      dsimp only
      rw [ih n]
      rfl

theorem Run.listFuel {σ α : Type} {next : σ → Option (Option (α × σ))} {s : σ} {l : List α}
    (h : Run next s l) (fuel : Nat) (hf : l.length < fuel) : C01Thick.listFuel next fuel s = some l := by
  rw [h.listFuel_take fuel, List.take_of_length_le (Nat.le_of_lt hf)]

theorem listFuel_length {σ α : Type} {next : σ → Option (Option (α × σ))} :
    ∀ (fuel : Nat) (s : σ) (l : List α), listFuel next fuel s = some l → l.length ≤ fuel := by
  intro fuel
  induction fuel with
  | zero => intro s l h; simp only [listFuel, Option.some.injEq] at h; subst h; exact Nat.le_refl _
  | succ n ih =>
    intro s l h
    rcases listFuel_succ_some h with ⟨-, rfl⟩ | ⟨a, s', rest, -, hr, rfl⟩
    · exact Nat.zero_le _
    · exact Nat.succ_le_succ (ih s' rest hr)

/-- **An iterator whose step pops the head of `items` runs `items`**: `items s` is what is still to
come in state `s` (under the invariant `Inv`). -/
theorem Run.of_pop {σ α : Type} {next : σ → Option (Option (α × σ))} (Inv : σ → Prop)
    (items : σ → List α)
    (hstep : ∀ s, Inv s → ∃ r, next s = some r ∧ r.map Prod.fst = (items s).head? ∧
      ∀ a s', r = some (a, s') → Inv s' ∧ items s' = (items s).tail) :
    ∀ (I : List α) (s : σ), Inv s → items s = I → Run next s I
  | [], s, h, hI => by
    obtain ⟨r, hr, hhead, -⟩ := hstep s h
    rw [hI] at hhead
    cases r with
    | none => exact Run.done hr
    | some x => cases hhead
  | a :: I, s, h, hI => by
    obtain ⟨r, hr, hhead, hnext⟩ := hstep s h
    rw [hI] at hhead hnext
    cases r with
    | none => cases hhead
    | some x =>
      obtain ⟨a', s'⟩ := x
      simp only [Option.map_some, List.head?_cons, Option.some.injEq] at hhead
      subst hhead
      obtain ⟨h', hI'⟩ := hnext _ _ rfl
      exact Run.step hr (Run.of_pop Inv items hstep I s' h' hI')

end C01Thick
end EG
