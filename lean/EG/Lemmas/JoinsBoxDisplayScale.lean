/-
  EG.Lemmas.JoinsBoxDisplayScale — the guards of the picture-level join theorems hold at display
  scale (vertices within +-1024 (`VDS`), stroke widths up to 128, moves within +-2^30 (`MoveDS`)):
  the saturation guards `JoinNoSat`, `PolyNoSat`, `TriNoSat` (the edge lines are in `EdgeDS`,
  Lemmas/JoinsExtentsBound.lean) and the box guards `BoxGuard`, `RowsGuard`, `TriBoxGuard`,
  `TriRowsGuard`.

  Every corner point of a `LineJoin` is an end point of an edge line of `Line::extents` (within
  8192 of the origin) or a USED rounded intersection point (within 2^27 of the start of an edge
  line: `rawPoint_near_start`), so every join corner lies within K = 2^27 + 4096 of the origin
  (`PtNear`, `Chk.Joins.Near`). Hence the corners of every segment box and of the folded bounding
  box do, the first box absorbs the `i32::MAX / MIN` sentinels of the fold before and after the move
  (`SentinelOK`), and `rows()` of the moved box does not saturate (3 K + 2^30 + 1 < 2^31).
-/
import EG.Lemmas.JoinsExtentsBound
import EG.Lemmas.JoinsPolyScan
import EG.Lemmas.JoinsTriMove
namespace EG.Chk.Joins
open EG EG.Joins

/-- within 2^27 + 4096 of the origin -/
def Near (p : Pt) : Prop := (-134221824 ≤ p.x ∧ p.x ≤ 134221824) ∧ (-134221824 ≤ p.y ∧ p.y ≤ 134221824)
instance (p : Pt) : Decidable (Near p) := by unfold Near; exact inferInstance
attribute [reducible] Near

def JoinNear (j : LineJoin) : Prop :=
  Near j.firstEdgeEnd.left ∧ Near j.firstEdgeEnd.right ∧ Near j.secondEdgeStart.left ∧
  Near j.secondEdgeStart.right

theorem edge_ends_near {l : Line} (h : EdgeDS l) : Near l.start ∧ Near l.stop := by
  unfold EdgeDS at h
  simp only [Line.delta, Pt.sub_x, Pt.sub_y] at h
  omega

/-- The point `intersection()` returns for two display-scale edge lines, when it is used. -/
theorem intersection_point_near {l1 l2 : Line} (h1 : EdgeDS l1) (h2 : EdgeDS l2) {p : Pt} {side : Thick.LineSide}
    (hi : (IntersectionParams.fromLines l1 l2).intersection = .point p side)
    (hnc : (IntersectionParams.fromLines l1 l2).nearlyColinearHasError = false) : Near p := by
  have hr := rawPoint_near_start h1 h2 hnc
  have hs := h1.1
  unfold IntersectionParams.intersection at hi
  split at hi
  · cases hi
  · simp only [Intersection.point.injEq] at hi
    rw [← hi.1]
    unfold IntersectionParams.rawPoint at hr
    simp only at hr
    rw [roundDiv_eq, roundDiv_eq, satI32_of_inI32 (by unfold inI32; omega),
      satI32_of_inI32 (by unfold inI32; omega)]
    unfold Near
    simp only
    omega

theorem fromExtents_near (mid : Pt) (w : Nat) {fl fr sl sr : Line} (h1 : EdgeDS fl) (h2 : EdgeDS fr)
    (h3 : EdgeDS sl) (h4 : EdgeDS sr) : JoinNear (LineJoin.fromExtents mid w fl fr sl sr) :=
  fromExtents_all (P := Near) mid w
    ⟨(edge_ends_near h1).2, (edge_ends_near h2).2, (edge_ends_near h3).1, (edge_ends_near h4).1⟩
    (fun _ _ hi hn => intersection_point_near h3 h1 hi hn) (fun _ _ hi hn => intersection_point_near h4 h2 hi hn)

theorem fromPoints_near {start mid stop : Pt} (h1 : VDS start) (h2 : VDS mid) (h3 : VDS stop) {w : Nat}
    (hw : w ≤ 128) {off : Thick.StrokeOffset} {j : LineJoin}
    (h : LineJoin.fromPoints start mid stop w off = some j) : JoinNear j := by
  obtain ⟨fl, fr, sl, sr, he1, he2, rfl⟩ := extents_of_fromPoints h
  obtain ⟨e1, e2⟩ := extents_edgeDS (l := ⟨start, mid⟩) h1 h2 hw he1
  obtain ⟨e3, e4⟩ := extents_edgeDS (l := ⟨mid, stop⟩) h2 h3 hw he2
  exact fromExtents_near mid w e1 e2 e3 e4

theorem start_near {a b : Pt} (h1 : VDS a) (h2 : VDS b) {w : Nat} (hw : w ≤ 128) {off : Thick.StrokeOffset}
    {j : LineJoin} (h : LineJoin.start a b w off = some j) : JoinNear j := by
  obtain ⟨l, r, he, rfl⟩ := extents_of_start h
  obtain ⟨e1, e2⟩ := extents_edgeDS (l := ⟨a, b⟩) h1 h2 hw he
  exact ⟨(edge_ends_near e1).1, (edge_ends_near e2).1, (edge_ends_near e1).1, (edge_ends_near e2).1⟩

theorem stop_near {a b : Pt} (h1 : VDS a) (h2 : VDS b) {w : Nat} (hw : w ≤ 128) {off : Thick.StrokeOffset}
    {j : LineJoin} (h : LineJoin.stop a b w off = some j) : JoinNear j := by
  obtain ⟨l, r, he, rfl⟩ := extents_of_stop h
  obtain ⟨e1, e2⟩ := extents_edgeDS (l := ⟨a, b⟩) h1 h2 hw he
  exact ⟨(edge_ends_near e1).2, (edge_ends_near e2).2, (edge_ends_near e1).2, (edge_ends_near e2).2⟩

def ThickSegment.SegNear (s : EG.Joins.ThickSegment) : Prop := JoinNear s.startJoin ∧ JoinNear s.endJoin

end EG.Chk.Joins

namespace EG
namespace Joins
open Thick (LineSide StrokeOffset)

theorem joinNoSat_display_scale {start mid stop : Pt} (h1 : VDS start) (h2 : VDS mid) (h3 : VDS stop)
    {w : Nat} (hw : w ≤ 128) (off : StrokeOffset) {d : Pt} (hd : MoveDS d) :
    JoinNoSat start mid stop w off d := by
  unfold JoinNoSat
  split
  · rename_i fl fr sl sr e1 e2
    have hf := extents_edgeDS (l := ⟨start, mid⟩) h1 h2 hw e1
    have hs := extents_edgeDS (l := ⟨mid, stop⟩) h2 h3 hw e2
    exact ⟨pointOK_display_scale hs.1 hf.1 hd, pointOK_display_scale hs.2 hf.2 hd⟩
  · trivial

theorem polyNoSat_display_scale {w : Nat} (hw : w ≤ 128) {d : Pt} (hd : MoveDS d) :
    ∀ (vs : List Pt), (∀ v ∈ vs, VDS v) → PolyNoSat w d vs
  | [], _ => trivial
  | [_], _ => trivial
  | [_, _], _ => trivial
  | a :: b :: c :: rest, h => by
    unfold PolyNoSat
    refine ⟨joinNoSat_display_scale (h a (by simp)) (h b (by simp)) (h c (by simp)) hw _ hd, ?_⟩
    exact polyNoSat_display_scale hw hd (b :: c :: rest) (fun v hv => h v (by simp at hv ⊢; tauto))

theorem sortedClockwise_VDS {t : Tri} (h1 : VDS t.v1) (h2 : VDS t.v2) (h3 : VDS t.v3) :
    VDS t.sortedClockwise.v1 ∧ VDS t.sortedClockwise.v2 ∧ VDS t.sortedClockwise.v3 :=
  sortedClockwise_all VDS t h1 h2 h3

theorem triNoSat_display_scale {t : Tri} (h1 : VDS t.v1) (h2 : VDS t.v2) (h3 : VDS t.v3)
    {w : Nat} (hw : w ≤ 128) (off : StrokeOffset) {d : Pt} (hd : MoveDS d) : TriNoSat t w off d :=
  ⟨joinNoSat_display_scale h3 h1 h2 hw off hd, joinNoSat_display_scale h1 h2 h3 hw off hd,
    joinNoSat_display_scale h2 h3 h1 hw off hd⟩

/-- Within `K = 2^27 + 4096` of the origin. -/
def PtNear (p : Pt) : Prop :=
  (-134221824 ≤ p.x ∧ p.x ≤ 134221824) ∧ (-134221824 ≤ p.y ∧ p.y ≤ 134221824)

theorem VDS.near {p : Pt} (h : VDS p) : PtNear p := by
  unfold VDS at h; unfold PtNear; omega

theorem PtNear.min {a b : Pt} (ha : PtNear a) (hb : PtNear b) : PtNear (a.componentMin b) := by
  unfold PtNear at *; simp only [Pt.componentMin]; omega

theorem PtNear.max {a b : Pt} (ha : PtNear a) (hb : PtNear b) : PtNear (a.componentMax b) := by
  unfold PtNear at *; simp only [Pt.componentMax]; omega

open Chk.Joins (JoinNear)
open Chk.Joins.ThickSegment (SegNear)

/-- Top-left and bottom-right corner of a box within `K` (and its size at most `2 K + 1`). -/
def RectNear (r : Rect) : Prop :=
  PtNear r.tl ∧ PtNear (r.bottomRight.getD r.tl) ∧ r.size.w ≤ 268443649 ∧ r.size.h ≤ 268443649

/-- One coordinate of `withCorners_near`: corner `min a b`, far corner `min a b + size - 1 = max a b`. -/
theorem near_hull {a b : Int} (ha : -134221824 ≤ a ∧ a ≤ 134221824) (hb : -134221824 ≤ b ∧ b ≤ 134221824) :
    (-134221824 ≤ min a b ∧ min a b ≤ 134221824) ∧
    (-134221824 ≤ min a b + (max a b - min a b + 1) - 1 ∧ min a b + (max a b - min a b + 1) - 1 ≤ 134221824) ∧
    max a b - min a b + 1 ≤ 268443649 := by
  omega

theorem withCorners_near {a b : Pt} (ha : PtNear a) (hb : PtNear b) : RectNear (Rect.withCorners a b) := by
  have hw := Rect.withCorners_w a b
  have hh := Rect.withCorners_h a b
  have hbr : (Rect.withCorners a b).bottomRight =
      some ⟨(Rect.withCorners a b).tl.x + ((Rect.withCorners a b).size.w : Int) - 1,
        (Rect.withCorners a b).tl.y + ((Rect.withCorners a b).size.h : Int) - 1⟩ := by
    unfold Rect.bottomRight
    rw [if_pos (by constructor <;> omega)]
  obtain ⟨x1, x2, x3⟩ := near_hull ha.1 hb.1
  obtain ⟨y1, y2, y3⟩ := near_hull ha.2 hb.2
  unfold RectNear
  rw [hbr]
  simp only [Option.getD_some, PtNear, Rect.withCorners_tl_x, Rect.withCorners_tl_y, hw, hh]
  refine ⟨⟨x1, y1⟩, ⟨x2, y2⟩, ?_, ?_⟩
  · exact Int.ofNat_le.mp (hw ▸ x3)
  · exact Int.ofNat_le.mp (hh ▸ y3)

theorem edgesBoundingBox_near {s : ThickSegment} (h : SegNear s) : RectNear s.edgesBoundingBox := by
  obtain ⟨-, -, s1, s2⟩ := h.1
  obtain ⟨e1, e2, -, -⟩ := h.2
  unfold ThickSegment.edgesBoundingBox ThickSegment.edges lineBoundingBox
  dsimp only
  split
  · exact withCorners_near s2 e2
  · exact withCorners_near (.min (.min (.min s2 e2) e1) s1) (.max (.max (.max s2 e2) e1) s1)

theorem sentinelOK_of_near {r : Rect} (h : RectNear r) {d : Pt} (hd : MoveDS d) : SentinelOK r d := by
  unfold RectNear PtNear at h
  unfold MoveDS at hd
  unfold SentinelOK
  dsimp only
  omega

theorem foldl_boxStep_near : ∀ (segs : List ThickSegment) (acc : Pt × Pt), PtNear acc.1 → PtNear acc.2 →
    (∀ s ∈ segs, SegNear s) →
    PtNear (segs.foldl boxStep acc).1 ∧ PtNear (segs.foldl boxStep acc).2 := by
  intro segs
  induction segs with
  | nil => intro acc h1 h2 _; exact ⟨h1, h2⟩
  | cons s rest ih =>
    intro acc h1 h2 hs
    have hb := edgesBoundingBox_near (hs s List.mem_cons_self)
    rw [List.foldl_cons]
    exact ih (boxStep acc s) (h1.min hb.1) (h2.max hb.2.1) (fun s' hs' => hs s' (List.mem_cons_of_mem _ hs'))

/-- The first box absorbs the sentinels: after one step both corners are within `K`. -/
theorem boxStep_init_near {s : ThickSegment} (h : SegNear s) :
    PtNear (boxStep (⟨2147483647, 2147483647⟩, ⟨-2147483648, -2147483648⟩) s).1 ∧
    PtNear (boxStep (⟨2147483647, 2147483647⟩, ⟨-2147483648, -2147483648⟩) s).2 := by
  have hb := edgesBoundingBox_near h
  unfold RectNear PtNear at hb
  unfold boxStep PtNear
  simp only [Pt.componentMin, Pt.componentMax]
  omega

theorem foldEdgeBoxes_near {s : ThickSegment} {rest : List ThickSegment} (hs : SegNear s)
    (hr : ∀ s' ∈ rest, SegNear s') : RectNear (foldEdgeBoxes (s :: rest)) := by
  rw [foldEdgeBoxes_eq, List.foldl_cons]
  obtain ⟨i1, i2⟩ := boxStep_init_near hs
  obtain ⟨f1, f2⟩ := foldl_boxStep_near rest _ i1 i2 hr
  exact withCorners_near f1 f2

theorem rowsEnd_translate_of_near {r : Rect} (h : RectNear r) {d : Pt} (hd : MoveDS d) :
    (r.translate d).rowsEnd = r.rowsEnd + d.y := by
  unfold RectNear PtNear at h
  unfold MoveDS at hd
  unfold Rect.rowsEnd
  rw [Rect.translate_tl, Rect.translate_size, Pt.add_y, satAsI32_of_le (by omega)]
  unfold satAddI32
  rw [if_neg (by omega), if_neg (by omega), if_neg (by omega), if_neg (by omega)]
  omega

theorem polySegments_near {vs : List Pt} {w : Nat} (hn : 2 ≤ vs.length) (hv : ∀ v ∈ vs, VDS v)
    (hw : w ≤ 128) {segs : List ThickSegment} (h : polySegments vs w = some segs) :
    ∃ s rest, segs = s :: rest ∧ ∀ x ∈ s :: rest, SegNear x := by
  rcases vs with _ | ⟨a, _ | ⟨b, rest⟩⟩
  · simp at hn
  · simp at hn
  · rw [polySegments_eq_chain] at h
    obtain ⟨j0, h0, hc⟩ := Option.bind_eq_some_iff.mp h
    have hall := chainFrom_all (Q := VDS) (P := JoinNear)
      (fun h1 h2 h3 hj => Chk.Joins.fromPoints_near h1 h2 h3 hw hj)
      (fun h1 h2 hj => Chk.Joins.stop_near h1 h2 hw hj) _ j0 segs hv
      (Chk.Joins.start_near (hv a (by simp)) (hv b (by simp)) hw h0) hc
    cases segs with
    | nil => cases chainFrom_length _ _ _ hc
    | cons s segs => exact ⟨_, _, rfl, hall⟩

theorem guards_of_near {s : ThickSegment} {rest : List ThickSegment} (hs : ∀ x ∈ s :: rest, SegNear x)
    {d : Pt} (hd : MoveDS d) :
    SentinelOK s.edgesBoundingBox d ∧
      ((foldEdgeBoxes (s :: rest)).translate d).rowsEnd = (foldEdgeBoxes (s :: rest)).rowsEnd + d.y :=
  ⟨sentinelOK_of_near (edgesBoundingBox_near (hs s List.mem_cons_self)) hd,
    rowsEnd_translate_of_near (foldEdgeBoxes_near (hs s List.mem_cons_self)
      (fun x hx => hs x (List.mem_cons_of_mem _ hx))) hd⟩

theorem boxGuard_display_scale {vs : List Pt} {w : Nat} {d : Pt} (hn : 2 ≤ vs.length)
    (hv : ∀ v ∈ vs, VDS v) (hw : w ≤ 128) (hd : MoveDS d) : BoxGuard vs w d := by
  unfold BoxGuard
  cases hp : polySegments vs w with
  | none => trivial
  | some segs =>
    obtain ⟨s, rest, rfl, hs⟩ := polySegments_near hn hv hw hp
    exact (guards_of_near hs hd).1

/-- For the stroked polylines the picture theorems are about: non-zero width, at least two vertices. -/
theorem rowsGuard_display_scale {vs : List Pt} {w : Nat} {d : Pt} (hw0 : 0 < w) (hn : 2 ≤ vs.length)
    (hv : ∀ v ∈ vs, VDS v) (hw : w ≤ 128) (hd : MoveDS d) : RowsGuard vs w d := by
  unfold RowsGuard
  rw [untranslatedBoundingBox_eq _ _ ⟨hw0, by show vs.length > 1; omega⟩]
  show (match (polySegments vs w).map foldEdgeBoxes with
    | some bb => (bb.translate d).rowsEnd = bb.rowsEnd + d.y
    | none => True)
  cases hp : polySegments vs w with
  | none => trivial
  | some segs =>
    obtain ⟨s, rest, rfl, hs⟩ := polySegments_near hn hv hw hp
    exact (guards_of_near hs hd).2

theorem closedSegments3_near {t : Tri} (h1 : VDS t.v1) (h2 : VDS t.v2) (h3 : VDS t.v3) {w : Nat}
    (hw : w ≤ 128) {off : StrokeOffset} {segs : List ThickSegment}
    (h : closedSegments3 t w off = some segs) : ∃ s rest, segs = s :: rest ∧ ∀ x ∈ s :: rest, SegNear x := by
  unfold closedSegments3 at h
  rcases e0 : LineJoin.fromPoints t.v3 t.v1 t.v2 w off with _ | j0
  · rw [e0] at h; cases h
  rcases e1 : LineJoin.fromPoints t.v1 t.v2 t.v3 w off with _ | j1
  · rw [e0, e1] at h; cases h
  rcases e2 : LineJoin.fromPoints t.v2 t.v3 t.v1 w off with _ | j2
  · rw [e0, e1, e2] at h; cases h
  rw [e0, e1, e2] at h
  cases h
  have n0 := Chk.Joins.fromPoints_near h3 h1 h2 hw e0
  have n1 := Chk.Joins.fromPoints_near h1 h2 h3 hw e1
  have n2 := Chk.Joins.fromPoints_near h2 h3 h1 hw e2
  refine ⟨_, _, rfl, fun x hx => ?_⟩
  simp only [List.mem_cons, List.not_mem_nil, or_false] at hx
  rcases hx with rfl | rfl | rfl
  · exact ⟨n0, n1⟩
  · exact ⟨n1, n2⟩
  · exact ⟨n2, n0⟩

theorem triBoxGuard_display_scale {t : Tri} (h1 : VDS t.v1) (h2 : VDS t.v2) (h3 : VDS t.v3)
    {style : TriStyle} (hw : style.strokeWidth ≤ 128) {d : Pt} (hd : MoveDS d) :
    TriBoxGuard t style d := by
  obtain ⟨s1, s2, s3⟩ := sortedClockwise_VDS h1 h2 h3
  unfold TriBoxGuard
  cases hp : closedSegments3 t.sortedClockwise style.strokeWidth style.strokeAlignment.toOffset with
  | none => trivial
  | some segs =>
    obtain ⟨s, rest, rfl, hs⟩ := closedSegments3_near s1 s2 s3 hw hp
    exact (guards_of_near hs hd).1

theorem tri_boundingBox_near {t : Tri} (h1 : VDS t.v1) (h2 : VDS t.v2) (h3 : VDS t.v3) :
    RectNear t.boundingBox := by
  exact withCorners_near ((h1.near.min h2.near).min h3.near) ((h1.near.max h2.near).max h3.near)

theorem triRowsGuard_display_scale {t : Tri} (h1 : VDS t.v1) (h2 : VDS t.v2) (h3 : VDS t.v3)
    {style : TriStyle} (hw : style.strokeWidth ≤ 128) {d : Pt} (hd : MoveDS d) :
    TriRowsGuard t style d := by
  obtain ⟨s1, s2, s3⟩ := sortedClockwise_VDS h1 h2 h3
  unfold TriRowsGuard
  rw [triStyledBoundingBox_eq]
  by_cases hc : style.strokeWidth < 2 ∨ style.strokeAlignment = .inside
  · rw [if_pos hc]
    exact rowsEnd_translate_of_near (tri_boundingBox_near h1 h2 h3) hd
  · rw [if_neg hc]
    cases hp : closedSegments3 t.sortedClockwise style.strokeWidth style.strokeAlignment.toOffset with
    | none => trivial
    | some segs =>
      obtain ⟨s, rest, rfl, hs⟩ := closedSegments3_near s1 s2 s3 hw hp
      exact (guards_of_near hs hd).2

theorem triGuards_display_scale {t : Tri} (h1 : VDS t.v1) (h2 : VDS t.v2) (h3 : VDS t.v3)
    {style : TriStyle} (hw : style.strokeWidth ≤ 128) {d : Pt} (hd : MoveDS d) :
    TriGuards t style d := by
  obtain ⟨s1, s2, s3⟩ := sortedClockwise_VDS h1 h2 h3
  exact ⟨triNoSat_display_scale s1 s2 s3 hw _ hd, triBoxGuard_display_scale h1 h2 h3 hw hd,
    triRowsGuard_display_scale h1 h2 h3 hw hd⟩

end Joins
end EG
