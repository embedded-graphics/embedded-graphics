/-
  EG.Lemmas.JoinsBBoxPolyMain — **every scanline a stroked polyline of width > 1 fills lies inside the
  untranslated bounding box** (hence `draw_styled`'s `fill_solid` rectangles lie inside
  `styled_bounding_box`), under the decidable guard `PolyBBoxGuard`:
  * `chainOK`: no LEFT-side filler line between a skeleton and a non-skeleton segment escapes the
    box (see EG.Lemmas.JoinsBBoxCover; never observed to fail);
  * the top row of the box is an `i32` (`Rectangle::rows` saturates there).
  First the part without the box: the scanlines lie in the columns `lo ..= hi` and the rows
  `r0 .. rEnd` whenever every outline line of every segment ends in these columns (`SegOK`):
  merging the scanlines of a row keeps them in the columns of its inputs (`mergeRow_within`), hence
  `polyRows_good`.
-/
import EG.Lemmas.JoinsBBoxCover
import EG.Lemmas.JoinsPolyScan
set_option linter.unusedSimpArgs false
namespace EG
namespace Joins
open Thick (LineSide StrokeOffset)

def SegOK (lo hi : Int) (s : ThickSegment) : Prop :=
  ∀ l ∈ s.outline, lo ≤ l.start.x ∧ lo ≤ l.stop.x ∧ l.start.x ≤ hi ∧ l.stop.x ≤ hi

/-- A non-empty scanline inside the columns `lo ..= hi` and the rows `r0 .. rEnd`. -/
def GoodLine (lo hi r0 rEnd : Int) (sc : Scanline) : Prop :=
  sc.xs < sc.xe ∧ lo ≤ sc.xs ∧ sc.xe ≤ hi + 1 ∧ r0 ≤ sc.y ∧ sc.y < rEnd

theorem tryExtend_within {a b : Scanline} {lo hi : Int} (ha : Within a lo hi) (hb : Within b lo hi) :
    Within (a.tryExtend b).2 lo hi ∧ (a.tryExtend b).2.y = a.y := by
  unfold Scanline.tryExtend
  by_cases ht : a.touches b = true
  · simp only [ht, ↓reduceIte]
    obtain ⟨n1, n2, _⟩ := (touches_iff a b).mp ht
    rcases ha with ha | ha
    · rw [isEmpty_iff] at ha; omega
    rcases hb with hb | hb
    · rw [isEmpty_iff] at hb; omega
    refine ⟨Or.inr ?_, trivial⟩
    dsimp only
    omega
  · simp only [ht, Bool.false_eq_true, ↓reduceIte]
    exact ⟨ha, trivial⟩

theorem tryTake_cases (s : Scanline) :
    (s.xs < s.xe ∧ s.tryTake = (some s, { s with xs := 0, xe := 0 })) ∨
    (¬ s.xs < s.xe ∧ s.tryTake = (none, s)) := by
  by_cases h : s.xs < s.xe
  · exact Or.inl ⟨h, Scanline.tryTake_of_nonempty ((Scanline.isEmpty_false_iff s).mpr h)⟩
  · exact Or.inr ⟨h, Scanline.tryTake_of_empty ((Scanline.isEmpty_iff s).mpr h)⟩

theorem tryTake_within {a : Scanline} {lo hi : Int} (ha : Within a lo hi) :
    Within a.tryTake.2 lo hi ∧ a.tryTake.2.y = a.y ∧
      ∀ sc, a.tryTake.1 = some sc → sc = a := by
  rcases tryTake_cases a with ⟨_, e⟩ | ⟨_, e⟩ <;> rw [e]
  · exact ⟨Or.inl rfl, rfl, fun sc h => (Option.some.inj h).symm⟩
  · exact ⟨ha, rfl, nofun⟩

theorem within_newEmpty {y lo hi : Int} : Within (Scanline.newEmpty y) lo hi := Or.inl rfl

theorem goodLine_of_within {lo hi r0 rEnd : Int} {sc : Scanline} (hw : Within sc lo hi)
    (hne : sc.isEmpty = false) (h1 : r0 ≤ sc.y) (h2 : sc.y < rEnd) : GoodLine lo hi r0 rEnd sc := by
  have hne' : sc.xs < sc.xe := by
    by_cases h : sc.xs < sc.xe
    · exact h
    · rw [(isEmpty_iff sc).mpr h] at hne; cases hne
  rcases hw with hw | hw
  · rw [hne] at hw; cases hw
  · exact ⟨hne', hw.1, hw.2, h1, h2⟩

/-- One point taken off a scanline that is empty or good: the point lies in the columns and rows,
and what is left is empty or good. -/
theorem scanline_next_good {lo hi r0 rEnd : Int} {s s' : Scanline} {p : Pt}
    (hg : ¬ s.xs < s.xe ∨ GoodLine lo hi r0 rEnd s) (h : s.next = some (p, s')) :
    (lo ≤ p.x ∧ p.x ≤ hi ∧ r0 ≤ p.y ∧ p.y < rEnd) ∧
      (¬ s'.xs < s'.xe ∨ GoodLine lo hi r0 rEnd s') := by
  unfold Scanline.next at h
  split at h
  · rename_i hlt
    cases h
    obtain ⟨-, g2, g3, g4, g5⟩ := hg.resolve_left (not_not_intro hlt)
    refine ⟨⟨g2, by dsimp only; omega, g4, g5⟩, ?_⟩
    by_cases hlt' : s.xs + 1 < s.xe
    · exact Or.inr ⟨hlt', by dsimp only; omega, g3, g4, g5⟩
    · exact Or.inl hlt'
  · cases h

/-- The invariant of `polyline::scanline_intersections::ScanlineIntersections` for the polyline
`vs`, width `w`, whose segments all satisfy `SegOK lo hi`. The theorems below are about the closed
form of the rows (`mergeRow`, `polyRows`) and follow no state. -/
structure PIInv (vs : List Pt) (w : Nat) (lo hi : Int) (it : PolyIntersections) : Prop where
  points : it.points = vs
  width : it.width = w
  within : Within it.scanline lo hi
  chain : ∀ sj, it.nextStartJoin = some sj →
    ∃ L, chainFrom w sj it.remainingPoints = some L ∧ ∀ s ∈ L, SegOK lo hi s

theorem mergeRow_within {lo hi y : Int} : ∀ (ns : List Scanline) {cur : Scanline}, Within cur lo hi →
    cur.y = y → (∀ n ∈ ns, Within n lo hi ∧ n.y = y) → ∀ sc ∈ mergeRow cur ns, Within sc lo hi ∧ sc.y = y
  | [], cur, hc, hy, _, sc, hsc => by
    unfold mergeRow at hsc
    rcases tryTake_cases cur with ⟨_, e⟩ | ⟨_, e⟩
    · rw [e] at hsc
      simp only [Option.toList_some, List.mem_singleton] at hsc
      subst hsc; exact ⟨hc, hy⟩
    · rw [e] at hsc; cases hsc
  | n :: ns, cur, hc, hy, hns, sc, hsc => by
    obtain ⟨hn, hny⟩ := hns n List.mem_cons_self
    have hns' := fun m hm => hns m (List.mem_cons_of_mem _ hm)
    unfold mergeRow at hsc
    split at hsc
    · obtain ⟨a, b⟩ := tryExtend_within hc hn
      exact mergeRow_within ns a (by rw [b]; exact hy) hns' sc hsc
    · rcases List.mem_cons.mp hsc with rfl | hsc
      · exact ⟨hc, hy⟩
      · exact mergeRow_within ns hn hny hns' sc hsc

theorem polyRows_good {segs : List ThickSegment} {lo hi r0 rEnd : Int} (hok : ∀ s ∈ segs, SegOK lo hi s) :
    ∀ sc ∈ polyRows segs r0 rEnd, GoodLine lo hi r0 rEnd sc := by
  intro sc hsc
  obtain ⟨y, hy, hsc⟩ := List.mem_flatMap.mp hsc
  obtain ⟨hm, hne⟩ := List.mem_filter.mp hsc
  obtain ⟨a, b⟩ := mergeRow_within (lo := lo) (hi := hi) (y := y) _ within_newEmpty rfl (by
    intro n hn
    obtain ⟨s, hs, rfl⟩ := List.mem_map.mp hn
    exact intersection_within_outline s y lo hi (hok s hs)) sc hm
  have hrow := mem_irange.mp hy
  exact goodLine_of_within a (by simpa using hne) (by omega) (by omega)

/-- The guard of the stroked-polyline theorems (see the file header). -/
def PolyBBoxGuard (pl : Polyline) (w : Nat) : Prop :=
  match untranslatedBoundingBox pl w, polySegments pl.vertices w with
  | some ubb, some segs => -2147483648 ≤ ubb.tl.y ∧ chainOK ubb segs = true
  | _, _ => True

instance (pl : Polyline) (w : Nat) : Decidable (PolyBBoxGuard pl w) := by
  unfold PolyBBoxGuard; split <;> exact inferInstance

theorem rowsEnd_le (r : Rect) (h : -2147483648 ≤ r.tl.y) : r.rowsEnd ≤ r.tl.y + r.size.h := by
  -- a saturating `i32` sum of the top row and the (saturated) height: every clamp leaves it at or below
  -- the exact sum as long as the top row is not below `i32::MIN`
  unfold Rect.rowsEnd satAddI32 satAsI32
  split <;> split <;> (try split) <;> omega

theorem covered_segOK {U : Rect} {s : ThickSegment} (h : ∀ l ∈ s.outline, Covered U l) :
    SegOK U.tl.x (U.tl.x + U.size.w - 1) s := by
  intro l hl
  obtain ⟨h1, h2⟩ := h l hl
  rw [Rect.contains_iff] at h1 h2
  omega

/-- Every outline line of every segment of a polyline ends inside the fold of the segment boxes: the
first start join and the last end join of the chain have no filler line. -/
theorem polyChain_outline_covered {vs : List Pt} {w : Nat} {segs : List ThickSegment}
    (hc : polyChain vs w = some segs) (hok : chainOK (foldEdgeBoxes segs) segs = true) :
    ∀ s ∈ segs, ∀ l ∈ s.outline, Covered (foldEdgeBoxes segs) l := by
  obtain ⟨h1, h2, h3⟩ := polyChain_spec vs w segs hc
  exact chain_outline_covered (foldEdgeBoxes segs) segs h1 hok
    (fun s hs => foldEdgeBoxes_boxIn segs s hs)
    (by intro s hs _ f hf; rw [h2 s hs] at hf; cases hf)
    (by intro s hs _ f hf; rw [h3 s hs] at hf; cases hf)

theorem polySegments_short (vs : List Pt) (w : Nat) (h : vs.length < 2) : polySegments vs w = some [] := by
  rcases vs with _ | ⟨a, _ | ⟨b, rest⟩⟩
  · rfl
  · rfl
  · simp only [List.length_cons] at h; omega

theorem polyScanlines_good (pl : Polyline) (w : Nat) (hw : 0 < w) (hg : PolyBBoxGuard pl w)
    (ubb : Rect) (hb : untranslatedBoundingBox pl w = some ubb) (lines : List Scanline)
    (hl : C01Thick.polyScanlineRun pl w = some lines) :
    -2147483648 ≤ ubb.tl.y ∧
    ∀ sc ∈ lines, GoodLine ubb.tl.x (ubb.tl.x + ubb.size.w - 1) ubb.tl.y ubb.rowsEnd sc := by
  unfold PolyBBoxGuard at hg
  rw [hb] at hg
  by_cases hn : 2 ≤ pl.vertices.length
  · -- the box is the fold of the segment boxes, which holds the outline of the chain
    have hb' := hb
    rw [untranslatedBoundingBox_eq pl w ⟨hw, by omega⟩] at hb'
    obtain ⟨segs, hs, rfl⟩ := Option.map_eq_some_iff.mp hb'
    rw [hs] at hg
    rw [polyScanlineRun_eq hb hs] at hl
    cases hl
    rw [polySegments_eq_chain] at hs
    exact ⟨hg.1, polyRows_good fun s hs' => covered_segOK (polyChain_outline_covered hs hg.2 s hs')⟩
  · -- fewer than two vertices: no segment
    have hs := polySegments_short pl.vertices w (by omega)
    rw [hs] at hg
    rw [polyScanlineRun_eq hb hs] at hl
    cases hl
    exact ⟨hg.1, polyRows_good fun s hs' => by cases hs'⟩

theorem point_in_box {U : Rect} (hmin : -2147483648 ≤ U.tl.y) {p : Pt}
    (h : U.tl.x ≤ p.x ∧ p.x ≤ U.tl.x + U.size.w - 1 ∧ U.tl.y ≤ p.y ∧ p.y < U.rowsEnd) :
    U.contains p = true := by
  have hre := rowsEnd_le U hmin
  rw [Rect.contains_iff]
  omega

theorem goodLine_in_box {U : Rect} (hmin : -2147483648 ≤ U.tl.y) {sc : Scanline}
    (hg : GoodLine U.tl.x (U.tl.x + U.size.w - 1) U.tl.y U.rowsEnd sc) (p : Pt)
    (hp : p.y = sc.y ∧ sc.xs ≤ p.x ∧ p.x < sc.xe) : U.contains p = true := by
  obtain ⟨g1, g2, g3, g4, g5⟩ := hg
  exact point_in_box hmin (by omega)

theorem goodLine_rect_in_box {U : Rect} (hmin : -2147483648 ≤ U.tl.y) {sc : Scanline}
    (hg : GoodLine U.tl.x (U.tl.x + U.size.w - 1) U.tl.y U.rowsEnd sc) (p : Pt)
    (hp : sc.toRectangle.contains p = true) : U.contains p = true := by
  apply goodLine_in_box hmin hg
  have hne : sc.isEmpty = false := by unfold Scanline.isEmpty; simp [hg.1]
  unfold Scanline.toRectangle at hp
  simp only [hne, Bool.not_false, ↓reduceIte] at hp
  rw [Rect.contains_iff] at hp
  simp only at hp
  omega

theorem drawThickRects_in_box (pl : Polyline) (w : Nat) (hw : 0 < w) (hg : PolyBBoxGuard pl w)
    (ubb : Rect) (hb : untranslatedBoundingBox pl w = some ubb) (rs : List Rect)
    (hrs : drawThickRects pl w = some rs) :
    ∀ r ∈ rs, ∀ p, r.contains p = true → ubb.contains p = true := by
  rw [drawThickRects_eq] at hrs
  obtain ⟨lines, hl, rfl⟩ := Option.map_eq_some_iff.mp hrs
  obtain ⟨hmin, hgood⟩ := polyScanlines_good pl w hw hg ubb hb lines hl
  intro r hr p hp
  rw [List.mem_filter, List.mem_map] at hr
  obtain ⟨⟨sc, hsc, rfl⟩, _⟩ := hr
  exact goodLine_rect_in_box hmin (hgood sc hsc) p hp

theorem drawStyled_in_bbox (pl : Polyline) (w : Nat) (hw : 2 ≤ w) (hg : PolyBBoxGuard pl w)
    (bb : Rect) (hb : styledBoundingBox pl w = some bb) (rs : List Rect)
    (hd : drawStyled pl w = some (.fillSolids rs)) :
    ∀ r ∈ rs, ∀ p, r.contains p = true → bb.contains p = true := by
  unfold styledBoundingBox at hb
  obtain ⟨ubb, hu, hb⟩ := Option.bind_eq_some_iff.mp hb
  cases hb
  obtain ⟨w', rfl⟩ : ∃ w', w = w' + 2 := ⟨w - 2, by omega⟩
  unfold drawStyled at hd
  obtain ⟨rs0, hr, hd⟩ := Option.bind_eq_some_iff.mp hd
  have hin := drawThickRects_in_box pl (w' + 2) (by omega) hg ubb hu rs0 hr
  by_cases ht : pl.translate = Pt.zero
  · -- drawn on the target itself
    simp only [ht, ne_eq, not_true_eq_false, ↓reduceIte, pure, Option.some.injEq,
      PolyDraw.fillSolids.injEq] at hd
    subst hd
    intro r hr' p hp
    rw [ht]
    show (ubb.translate ⟨0, 0⟩).contains p = true
    rw [Rect.translate_zero]
    exact hin r hr' p hp
  · -- drawn on `target.translated(translate)`: every rectangle is moved
    simp only [ht, ne_eq, not_false_eq_true, ↓reduceIte, pure, Option.some.injEq,
      PolyDraw.fillSolids.injEq] at hd
    subst hd
    intro r hr' p hp
    rw [List.mem_map] at hr'
    obtain ⟨r0, hr0, rfl⟩ := hr'
    rw [Rect.contains_translate'] at hp ⊢
    exact hin r0 hr0 _ hp

end Joins
end EG
