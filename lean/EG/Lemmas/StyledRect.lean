/-
  EG.Lemmas.StyledRect — geometry of the styled rectangle (EG.Model.StyledRect):
  closed forms of `stroke_area` / `fill_area`, and the key lemma: the four border rectangles of
  `draw_styled` cover exactly `stroke_area \ fill_area`, in every collapse case.
-/
import EG.Lemmas.RectOps
import EG.Model.StyledRect
import EG.Lemmas.Style
namespace EG
namespace StyledRect
open Rect

/-- No saturation anywhere in the style / offset arithmetic: the stroke width fits `i32`
(`saturating_as`) and the grown size fits `u32` (`saturating_add`). -/
def NoSat (s : Style) (r : Rect) : Prop :=
  s.width ≤ 2147483647 ∧ r.size.w + 2 * s.outsideStrokeWidth ≤ 4294967295 ∧
    r.size.h + 2 * s.outsideStrokeWidth ≤ 4294967295

instance (s : Style) (r : Rect) : Decidable (NoSat s r) := by unfold NoSat; exact inferInstance

/-- The guard of the pixel-level theorems: additionally the stroke area (= styled bounding box)
lies in the `i32` coordinate range, so that `points()` does not saturate. -/
def Guard (s : Style) (r : Rect) : Prop := s.width ≤ 2147483647 ∧ (strokeArea s r).InRange

instance (s : Style) (r : Rect) : Decidable (Guard s r) := by unfold Guard; exact inferInstance

theorem strokeArea_eq (s : Style) (r : Rect) (h : NoSat s r) :
    strokeArea s r =
      ⟨⟨r.tl.x - s.outsideStrokeWidth, r.tl.y - s.outsideStrokeWidth⟩,
       ⟨r.size.w + 2 * s.outsideStrokeWidth, r.size.h + 2 * s.outsideStrokeWidth⟩⟩ := by
  unfold strokeArea
  rw [s.strokeOffset_eq h.1, offset_grow r _ h.2.1 h.2.2]

theorem fillArea_eq (s : Style) (r : Rect) (h : NoSat s r) :
    fillArea s r =
      ⟨⟨r.tl.x + (((r.size.w - 1) / 2 : Nat) : Int)
          - (((r.size.w - 2 * s.insideStrokeWidth - 1) / 2 : Nat) : Int),
        r.tl.y + (((r.size.h - 1) / 2 : Nat) : Int)
          - (((r.size.h - 2 * s.insideStrokeWidth - 1) / 2 : Nat) : Int)⟩,
       ⟨r.size.w - 2 * s.insideStrokeWidth, r.size.h - 2 * s.insideStrokeWidth⟩⟩ := by
  unfold fillArea
  rw [s.fillOffset_eq h.1, offset_shrink r _ (by have := h.2.1; omega) (by have := h.2.2; omega)]

/-- With an inside stroke the stroke area is the rectangle itself; with an outside stroke the fill
area is. -/
theorem strokeArea_inside {s : Style} {r : Rect} (h : NoSat s r) (ha : s.align = .inside) :
    strokeArea s r = r := by
  unfold strokeArea Style.strokeOffset Style.outsideStrokeWidth
  rw [ha]
  exact offset_zero r (Nat.le_of_add_right_le h.2.1) (Nat.le_of_add_right_le h.2.2)

theorem fillArea_outside {s : Style} {r : Rect} (h : NoSat s r) (ha : s.align = .outside) :
    fillArea s r = r := by
  unfold fillArea Style.fillOffset Style.insideStrokeWidth
  rw [ha]
  exact offset_zero r (Nat.le_of_add_right_le h.2.1) (Nat.le_of_add_right_le h.2.2)

def strokeRects (s : Style) (r : Rect) : List Rect :=
  [topBorder s r, bottomBorder s r] ++
    (if (fillArea s r).size.h > 0 then [leftBorder s r, rightBorder s r] else [])

theorem strokeCalls_eq (s : Style) (r : Rect) (sc : Color) :
    strokeCalls s r sc = (strokeRects s r).map (fun a => Call.fillSolid a sc) := by
  unfold strokeCalls strokeRects
  split <;> simp

/-! ### One axis of the border arithmetic

On one axis the shape covers `[x0, x0 + n)`, the stroke has `i` pixels inside and `o` outside its
edge, the stroke area is `[X, X + S)` and the fill area `[FX, FX + F)`. `draw_styled` paints a first
border `[X, X + f)` and a last one of length `l` ending at `X + S`; rows and columns differ only in
how `f` and `l` are capped when the stroke is wider than the shape. -/

/-- Rows: `top = min(width, height / 2)`, `bottom = min(width, height - top)`: both are the stroke
width when that fits twice, else together they cover the area. -/
theorem rows_caps (w S : Nat) :
    min w (S / 2) + min w (S - min w (S / 2)) ≤ S ∧
    (2 * w < S → min w (S / 2) = w ∧ min w (S - min w (S / 2)) = w) ∧
    (S ≤ 2 * w → S ≤ min w (S / 2) + min w (S - min w (S / 2))) := by
  omega

/-- Columns: `left = right = min(width * 2, width_of_area + 1) / 2`. -/
theorem cols_caps (w S : Nat) :
    min (w * 2) (S + 1) / 2 ≤ S ∧
    (2 * w < S → min (w * 2) (S + 1) / 2 = w) ∧
    (S ≤ 2 * w → S ≤ 2 * (min (w * 2) (S + 1) / 2)) := by
  omega

/-- If the fill area is empty the two borders meet or overlap; otherwise they are both as wide as
the stroke and end / start where the fill area starts / ends. -/
theorem border_facts {x0 X FX : Int} {n i o w S F f l : Nat} (hio : i + o = w)
    (hX : X = x0 - o) (hS : S = n + 2 * o) (hF : F = n - 2 * i) (hFX : 0 < F → FX = x0 + i)
    (hbig : 2 * w < S → f = w ∧ l = w) (hsmall : S ≤ 2 * w → S ≤ f + l) :
    (F = 0 → S ≤ f + l) ∧
    (F > 0 → X + (f : Int) = FX ∧ X + ((S - l : Nat) : Int) = FX + F) := by
  subst hX hS hF
  constructor
  · intro h
    exact hsmall (by omega)
  · intro h
    obtain ⟨rfl, rfl⟩ := hbig (by omega)
    rw [hFX h]
    constructor
    · omega
    · omega

/-- The first and the last border cover exactly the stroke interval minus the fill interval. -/
theorem frame_axis {X FX p : Int} {S F f l : Nat} (hf : f ≤ S) (hl : l ≤ S)
    (h0 : F = 0 → S ≤ f + l)
    (h1 : F > 0 → X + (f : Int) = FX ∧ X + ((S - l : Nat) : Int) = FX + F) :
    ((X ≤ p ∧ p < X + f) ∨ (X + ((S - l : Nat) : Int) ≤ p ∧ p < X + ((S - l : Nat) : Int) + l)) ↔
      ((X ≤ p ∧ p < X + S) ∧ ¬ (FX ≤ p ∧ p < FX + F)) := by
  by_cases hF : F = 0
  · have := h0 hF
    omega
  · have := h1 (by omega)
    omega

theorem fillArea_tl_x {s : Style} {r : Rect} (h : NoSat s r) (hp : 0 < (fillArea s r).size.w) :
    (fillArea s r).tl.x = r.tl.x + s.insideStrokeWidth := by
  rw [fillArea_eq s r h] at hp ⊢
  have := Rect.half_sub_half (n := r.size.w) (k := s.insideStrokeWidth) (by simp only at hp; omega)
  simp only
  omega

theorem fillArea_tl_y {s : Style} {r : Rect} (h : NoSat s r) (hp : 0 < (fillArea s r).size.h) :
    (fillArea s r).tl.y = r.tl.y + s.insideStrokeWidth := by
  rw [fillArea_eq s r h] at hp ⊢
  have := Rect.half_sub_half (n := r.size.h) (k := s.insideStrokeWidth) (by simp only at hp; omega)
  simp only
  omega

/-- Row arithmetic of `draw_styled` (`top`, `bottom` heights): the hypotheses of `frame_axis` for
the y axis. -/
theorem rows_facts (s : Style) (r : Rect) (h : NoSat s r) :
    ((topBorder s r).size.h + bottomStrokeWidth s r ≤ (strokeArea s r).size.h) ∧
    ((fillArea s r).size.h = 0 → (strokeArea s r).size.h ≤ (topBorder s r).size.h + bottomStrokeWidth s r) ∧
    ((fillArea s r).size.h > 0 →
      (strokeArea s r).tl.y + ((topBorder s r).size.h : Int) = (fillArea s r).tl.y ∧
      (strokeArea s r).tl.y + (((strokeArea s r).size.h - bottomStrokeWidth s r : Nat) : Int)
        = (fillArea s r).tl.y + (fillArea s r).size.h) := by
  have hio := s.inside_add_outside (by have := h.1; omega)
  have hc := rows_caps s.width (strokeArea s r).size.h
  have hS := strokeArea_eq s r h
  have hF := fillArea_eq s r h
  exact ⟨hc.1, border_facts hio (by rw [hS]) (by rw [hS]) (by rw [hF]) (fillArea_tl_y h) hc.2.1 hc.2.2⟩

/-- Column arithmetic of `draw_styled` (`left` width, `right` position): the hypotheses of
`frame_axis` for the x axis. -/
theorem cols_facts (s : Style) (r : Rect) (h : NoSat s r) :
    ((leftBorder s r).size.w ≤ (strokeArea s r).size.w) ∧
    ((fillArea s r).size.w = 0 → (strokeArea s r).size.w ≤ 2 * (leftBorder s r).size.w) ∧
    ((fillArea s r).size.w > 0 →
      (strokeArea s r).tl.x + ((leftBorder s r).size.w : Int) = (fillArea s r).tl.x ∧
      (strokeArea s r).tl.x + (((strokeArea s r).size.w - (leftBorder s r).size.w : Nat) : Int)
        = (fillArea s r).tl.x + (fillArea s r).size.w) := by
  have hio := s.inside_add_outside (by have := h.1; omega)
  have hc : (leftBorder s r).size.w ≤ (strokeArea s r).size.w ∧
      (2 * s.width < (strokeArea s r).size.w → (leftBorder s r).size.w = s.width) ∧
      ((strokeArea s r).size.w ≤ 2 * s.width → (strokeArea s r).size.w ≤ 2 * (leftBorder s r).size.w) :=
    cols_caps s.width (strokeArea s r).size.w
  have hS := strokeArea_eq s r h
  have hF := fillArea_eq s r h
  have := border_facts (X := (strokeArea s r).tl.x) (S := (strokeArea s r).size.w)
    (F := (fillArea s r).size.w) (f := (leftBorder s r).size.w) (l := (leftBorder s r).size.w) hio
    (by rw [hS]) (by rw [hS]) (by rw [hF]) (fillArea_tl_x h) (fun hb => ⟨hc.2.1 hb, hc.2.1 hb⟩)
    (fun hs => by have := hc.2.2 hs; omega)
  exact ⟨hc.1, fun h0 => by have := this.1 h0; omega, this.2⟩

theorem topBorder_tl (s : Style) (r : Rect) : (topBorder s r).tl = (strokeArea s r).tl := rfl
theorem topBorder_w (s : Style) (r : Rect) : (topBorder s r).size.w = (strokeArea s r).size.w := rfl

theorem exists_mem_strokeRects (s : Style) (r : Rect) (p : Pt) :
    (∃ a ∈ strokeRects s r, a.contains p = true) ↔
      ((topBorder s r).contains p = true ∨ (bottomBorder s r).contains p = true ∨
        ((fillArea s r).size.h > 0 ∧
          ((leftBorder s r).contains p = true ∨ (rightBorder s r).contains p = true))) := by
  unfold strokeRects
  by_cases h : (fillArea s r).size.h > 0
  · simp [h]
  · simp [h]

/-- **Key lemma.** The border rectangles of `draw_styled` cover exactly the points of the stroke
area that are not in the fill area — for every size, stroke width and alignment, including the
cases where the fill area collapses to zero width and/or height. -/
theorem mem_strokeRects_iff (s : Style) (r : Rect) (h : NoSat s r) (p : Pt) :
    (∃ a ∈ strokeRects s r, a.contains p = true) ↔
      ((strokeArea s r).contains p = true ∧ ¬ (fillArea s r).contains p = true) := by
  obtain ⟨R1, R2, R3⟩ := rows_facts s r h
  obtain ⟨C1, C2, C3⟩ := cols_facts s r h
  -- top or bottom rows = stroke rows minus fill rows; left or right columns likewise
  have hy := frame_axis (p := p.y) (by omega) (by omega) R2 R3
  have hx := frame_axis (p := p.x) C1 C1 (fun h0 => by have := C2 h0; omega) C3
  rw [exists_mem_strokeRects]
  simp only [contains_iff_axes, bottomBorder, leftBorder, rightBorder, Rect.translate, Pt.add_x, Pt.add_y,
    topBorder_tl, topBorder_w, Int.natCast_zero, Int.add_zero]
  constructor
  · rintro (⟨hxS, hT⟩ | ⟨hxS, hB⟩ | ⟨hpos, ⟨hL, hM⟩ | ⟨hR, hM⟩⟩)
    · have := hy.mp (Or.inl hT)
      exact ⟨⟨hxS, this.1⟩, fun hF => this.2 hF.2⟩
    · have := hy.mp (Or.inr hB)
      exact ⟨⟨hxS, this.1⟩, fun hF => this.2 hF.2⟩
    -- the side borders span the rows of the fill area
    · have := hx.mp (Or.inl hL)
      have := R3 hpos
      exact ⟨⟨by omega, by omega⟩, fun hF => by omega⟩
    · have := hx.mp (Or.inr hR)
      have := R3 hpos
      exact ⟨⟨by omega, by omega⟩, fun hF => by omega⟩
  · rintro ⟨⟨hxS, hyS⟩, hn⟩
    by_cases hF : (fillArea s r).tl.y ≤ p.y ∧ p.y < (fillArea s r).tl.y + (fillArea s r).size.h
    · have hpos : (fillArea s r).size.h > 0 := by omega
      have := R3 hpos
      rcases hx.mpr ⟨hxS, fun hxF => hn ⟨hxF, hF⟩⟩ with hL | hR
      · exact Or.inr (Or.inr ⟨hpos, Or.inl ⟨hL, by omega⟩⟩)
      · exact Or.inr (Or.inr ⟨hpos, Or.inr ⟨hR, by omega⟩⟩)
    · rcases hy.mpr ⟨hyS, hF⟩ with hT | hB
      · exact Or.inl ⟨hxS, hT⟩
      · exact Or.inr (Or.inl ⟨hxS, hB⟩)

end StyledRect
end EG
