/-
  EG.Lemmas.StyledPicture — the picture of a styled closed shape.

  `scanExpected` is the colour the property text prescribes at a point, from the two colours, the
  stroke width and the membership tests of the stroke area and of the fill area. `StyledPicture`
  says of a call list that it leaves exactly that inside every target's box, that the fill area
  lies in the stroke area and the stroke area in a box. Circle, ellipse, rectangle and (where its
  fill area lies in its stroke area) rounded rectangle are instances (`Circle.styledPicture`, ..);
  what C01, C02, C06 and C07 say of each of them follows here from the structure alone.
-/
import EG.Lemmas.PMapTranslate
namespace EG
open EG.Tgt

/-- The colour the property text prescribes for a point, given the stroke colour, the fill colour, the
stroke width and the membership tests of the stroke area and of the fill area. -/
def scanExpected (sc fc : Option Color) (w : Nat) (S F : Pt → Bool) (p : Pt) : Option Color :=
  if F p = true then fc
  else if S p = true ∧ w > 0 then sc
  else none

theorem scanExpected_eq_some (sc fc : Option Color) (w : Nat) (S F : Pt → Bool) (p : Pt) (col : Color) :
    scanExpected sc fc w S F p = some col ↔
      (F p = true ∧ fc = some col) ∨ (S p = true ∧ F p = false ∧ w > 0 ∧ sc = some col) := by
  unfold scanExpected
  by_cases hf : F p = true
  · simp [hf]
  · have hf' : F p = false := by simpa using hf
    by_cases hs : S p = true ∧ w > 0
    · simp [hf', hs]
    · simp only [hf', Bool.false_eq_true, ↓reduceIte, hs, false_and, false_or, true_and]
      constructor
      · intro h; cases h
      · rintro ⟨h1, h2, _⟩; exact absurd ⟨h1, h2⟩ hs

theorem scanExpected_some_imp {sc fc : Option Color} {w : Nat} {S F : Pt → Bool} {p : Pt} {col : Color}
    (hsub : F p = true → S p = true) (h : scanExpected sc fc w S F p = some col) : S p = true := by
  rcases (scanExpected_eq_some sc fc w S F p col).mp h with ⟨hf, _⟩ | ⟨hs, _⟩
  · exact hsub hf
  · exact hs

theorem scanExpected_transparent {sc fc : Option Color} {w : Nat} (S F : Pt → Bool) (p : Pt)
    (hf : fc = none) (hs : sc = none ∨ w = 0) : scanExpected sc fc w S F p = none := by
  unfold scanExpected
  rw [hf]
  rcases hs with hs | hs
  · rw [hs]; simp
  · simp [hs]

/-- What `pixels()` of a styled shape yields at a point of the stroke area: the fill colour inside the
fill area, the stroke colour elsewhere, whatever the width. This is the prescribed colour, since at
width 0 the two areas coincide. -/
theorem scanExpected_eq_some_iff_pixel {sc fc : Option Color} {w : Nat} {S F : Pt → Bool} {p : Pt}
    {col : Color} (hsub : F p = true → S p = true) (h0 : w = 0 → S = F) :
    scanExpected sc fc w S F p = some col ↔ S p = true ∧ (if F p = true then fc else sc) = some col := by
  rw [scanExpected_eq_some]
  by_cases hf : F p = true
  · simp [hf, hsub hf]
  · have hf' : F p = false := by simpa using hf
    by_cases hw : w > 0
    · simp [hf', hw]
    · have : S p = false := by rw [h0 (by omega)]; exact hf'
      simp [hf', hw, this]

theorem apply_clip_eq_of_mem_iff (ws : Writes) (e : Pt → Option Color)
    (h : ∀ p c, (p, c) ∈ ws ↔ e p = some c) (B : Rect) (p : Pt) :
    PMap.empty.apply (clipWrites B ws) p = if B.contains p = true then e p else none := by
  apply Scan.apply_eq_of_mem_iff
  intro q col
  rw [mem_clipWrites, h]
  by_cases hb : B.contains q = true <;> simp [hb]

/-- `calls` leave the picture of a styled closed shape with stroke colour `sc`, fill colour `fc`,
stroke width `w`, stroke area `S`, fill area `F` and bounding box `bb`. -/
structure StyledPicture (calls : List Call) (sc fc : Option Color) (w : Nat) (S F : Pt → Bool)
    (bb : Rect) : Prop where
  draw : ∀ B p, runNative B calls p = if B.contains p = true then scanExpected sc fc w S F p else none
  sub : ∀ p, F p = true → S p = true
  box : ∀ p, S p = true → bb.contains p = true

namespace StyledPicture
variable {calls calls' : List Call} {sc fc : Option Color} {w : Nat} {S F S' F' : Pt → Bool}
  {bb bb' : Rect}

theorem default (h : StyledPicture calls sc fc w S F bb) (B : Rect) (p : Pt) :
    runDefault B calls p = if B.contains p = true then scanExpected sc fc w S F p else none := by
  rw [runDefault_eq_runNative]
  exact h.draw B p

/-- Whatever is painted lies in the stroke area ... -/
theorem some_imp_stroke (h : StyledPicture calls sc fc w S F bb) {B : Rect} {p : Pt} {col : Color}
    (hp : runNative B calls p = some col) : S p = true := by
  rw [h.draw] at hp
  split at hp
  · exact scanExpected_some_imp (h.sub p) hp
  · cases hp

/-- ... hence in the box. -/
theorem drawn_in_box (h : StyledPicture calls sc fc w S F bb) {B : Rect} {p : Pt}
    (hp : runNative B calls p ≠ none) : bb.contains p = true := by
  obtain ⟨col, hc⟩ := Option.ne_none_iff_exists'.mp hp
  exact h.box p (h.some_imp_stroke hc)

theorem transparent (h : StyledPicture calls sc fc w S F bb) (hf : fc = none) (hs : sc = none ∨ w = 0)
    (B : Rect) (p : Pt) : runNative B calls p = none := by
  rw [h.draw, scanExpected_transparent S F p hf hs, ite_self]

theorem eq_some_iff (h : StyledPicture calls sc fc w S F bb) {B : Rect} {p : Pt}
    (hB : B.contains p = true) (col : Color) :
    runNative B calls p = some col ↔
      (F p = true ∧ fc = some col) ∨ (S p = true ∧ F p = false ∧ w > 0 ∧ sc = some col) := by
  rw [h.draw, if_pos hB, scanExpected_eq_some]

theorem eq_fill (h : StyledPicture calls sc fc w S F bb) (B : Rect) {p : Pt} (hp : F p = true) :
    runNative B calls p = if B.contains p = true then fc else none := by
  rw [h.draw]
  unfold scanExpected
  rw [if_pos hp]

/-- A pixel list that holds exactly the prescribed colours leaves, fed to `draw_iter`, the picture
of `draw()`, on both targets. -/
theorem pixels_eq_draw (h : StyledPicture calls sc fc w S F bb) {px : Writes}
    (hpx : ∀ p col, (p, col) ∈ px ↔ scanExpected sc fc w S F p = some col) (B : Rect) :
    runNative B calls = PMap.empty.apply (clipWrites B px) ∧
    runDefault B calls = PMap.empty.apply (clipWrites B px) :=
  both_targets (funext fun p => by rw [h.draw, apply_clip_eq_of_mem_iff _ _ hpx])

/-- The shape whose two areas are those of another moved by `d` leaves, on the target box moved
along, the other's picture shifted by `d`. -/
theorem shift_moved_box (h : StyledPicture calls sc fc w S F bb)
    (h' : StyledPicture calls' sc fc w S' F' bb') {d : Pt} (hS : ∀ p, S' p = S (p - d))
    (hF : ∀ p, F' p = F (p - d)) (B : Rect) :
    runNative (B.translate d) calls' = PMap.shift d (runNative B calls) ∧
    runDefault (B.translate d) calls' = PMap.shift d (runDefault B calls) := by
  rw [runDefault_eq_runNative B calls]
  refine both_targets (funext fun p => ?_)
  rw [PMap.shift_at, h'.draw, h.draw, Rect.contains_translate']
  unfold scanExpected
  rw [hS, hF]

/-- The same on one fixed target whose box contains both bounding boxes. -/
theorem shift_fixed_box (h : StyledPicture calls sc fc w S F bb)
    (h' : StyledPicture calls' sc fc w S' F' bb') {d : Pt} (hS : ∀ p, S' p = S (p - d))
    (hF : ∀ p, F' p = F (p - d)) {B : Rect} (hB : ∀ q, bb.contains q = true → B.contains q = true)
    (hB' : ∀ q, bb'.contains q = true → B.contains q = true) :
    runNative B calls' = PMap.shift d (runNative B calls) ∧
    runDefault B calls' = PMap.shift d (runDefault B calls) := by
  rw [runDefault_eq_runNative B calls]
  exact both_targets (PMap.eq_shift_of_pointwise (h'.draw B) (h.draw B)
    (fun p => by unfold scanExpected; rw [hS, hF])
    (fun q c hc => hB q (h.box q (scanExpected_some_imp (h.sub q) hc)))
    (fun q c hc => hB' q (h'.box q (by rw [hS]; exact scanExpected_some_imp (h.sub _) hc))))

end StyledPicture
end EG
