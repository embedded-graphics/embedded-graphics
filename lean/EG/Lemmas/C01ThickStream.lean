/-
  EG.Lemmas.C01ThickStream — the drains of the join models (EG.Model.ThickPolyline,
  EG.Model.ThickTriangle) are `listFuel next` (EG.Lemmas.Stream, where what is proved about a drain
  is proved once from a fact about one step). Also here: permuting a write list whose points are
  pairwise distinct does not change the map.
-/
import EG.Lemmas.Stream
import EG.Lemmas.PMap
import EG.Model.ThickPolyline
import EG.Model.ThickTriangle
namespace EG
namespace Joins

theorem bind_bind_pure {α β γ : Type} (x : Option α) (f : α → Option β) (g : β → γ) :
    (x.bind fun a => (f a).bind fun b => some (g b)) = (x.bind f).map g := by
  cases x with
  | none => rfl
  | some a => simp only [Option.bind_some]; cases f a <;> rfl

end Joins

namespace C01Thick
open EG.Tgt

section
open EG.Joins

theorem polyScanlines_toListFuel_eq : ∀ (fuel : Nat) (it : PolyScanlines),
    it.toListFuel fuel = listFuel PolyScanlines.next fuel it :=
  eq_listFuel (fun _ => rfl) fun n it => by
    rw [PolyScanlines.toListFuel]
    rcases it.next with _ | _ | ⟨a, it'⟩
    · rfl
    · rfl
    · simp only [unrollP, Option.bind_eq_bind, Option.bind_some]
      cases PolyScanlines.toListFuel n it' <;> rfl

theorem polyThickPixels_toListFuel_eq : ∀ (fuel : Nat) (it : PolyThickPixels),
    it.toListFuel fuel = listFuel PolyThickPixels.next fuel it :=
  eq_listFuel (fun _ => rfl) fun n it => by
    rw [PolyThickPixels.toListFuel]
    rcases it.next with _ | _ | ⟨a, it'⟩
    · rfl
    · rfl
    · simp only [unrollP, Option.bind_eq_bind, Option.bind_some]
      cases PolyThickPixels.toListFuel n it' <;> rfl

theorem triScanlines_toListFuel_eq : ∀ (fuel : Nat) (it : TriScanlines),
    it.toListFuel fuel = listFuel TriScanlines.nextLoop fuel it :=
  eq_listFuel (fun _ => rfl) fun n it => by
    rw [TriScanlines.toListFuel]
    rcases it.nextLoop with _ | _ | ⟨a, it'⟩
    · rfl
    · rfl
    · simp only [unrollP, Option.bind_eq_bind, Option.bind_some]
      cases TriScanlines.toListFuel n it' <;> rfl

theorem triPixels_toListFuel_eq : ∀ (fuel : Nat) (it : TriPixels),
    it.toListFuel fuel = listFuel TriPixels.next fuel it :=
  eq_listFuel (fun _ => rfl) fun n it => by
    rw [TriPixels.toListFuel]
    rcases it.next with _ | _ | ⟨a, it'⟩
    · rfl
    · rfl
    · simp only [unrollP, Option.bind_eq_bind, Option.bind_some]
      cases TriPixels.toListFuel n it' <;> rfl

end

/-- **Permuting a write list whose points are pairwise distinct leaves the same pixel map** (on
every target box): no point is written twice, so "last write wins" never decides anything. -/
theorem apply_clip_perm (B : Rect) {ws ws' : Writes} (hperm : ws.Perm ws')
    (hn : (ws.map Prod.fst).Nodup) :
    PMap.empty.apply (clipWrites B ws) = PMap.empty.apply (clipWrites B ws') := by
  have hn' : (ws'.map Prod.fst).Nodup := (hperm.map Prod.fst).nodup_iff.mp hn
  funext p
  cases h : PMap.empty.apply (clipWrites B ws') p with
  | none =>
    rw [PMap.apply_clip_eq_none] at h ⊢
    intro ⟨hb, c, hc⟩
    exact h ⟨hb, c, hperm.mem_iff.mp hc⟩
  | some c =>
    rw [PMap.apply_clip_nodup B ws' hn'] at h
    rw [PMap.apply_clip_nodup B ws hn]
    exact ⟨hperm.mem_iff.mpr h.1, h.2⟩

end C01Thick
end EG
