/-
  EG.Lemmas.RoundedRectShape — what `RoundedRectangle::contains` accepts:
  * for every shape: the points of the rectangle that pass, in each corner box of the confined
    radii that contains them, that corner's ellipse test (`contains_iff_confined`),
  * zero radii: the rectangle,
  * every row and every column is one contiguous run,
  * the corner ellipse test is "pixel centre strictly inside the ideal quarter ellipse"
    (doubled coordinates), except for the circular corners of radius 1 and 2 (special thresholds).
-/
import EG.Lemmas.RoundedRectPoints
namespace EG

namespace CornerRadii

def zero : CornerRadii := ⟨Sz.zero, Sz.zero, Sz.zero, Sz.zero⟩

theorem zero_fits (bb : Sz) : zero.Fits bb :=
  ⟨Nat.zero_le _, Nat.zero_le _, Nat.zero_le _, Nat.zero_le _⟩

theorem confine_zero (bb : Sz) : zero.confine bb = zero :=
  confine_noop zero bb (zero_fits bb)

end CornerRadii

namespace Glue
open RoundedRect

/-- The four corner conditions of `contains` written with the radii themselves (no `confine`, no
`leftCorner` / `rightCorner` case split): valid when the radii fit the rectangle. -/
def CornerConds (r : RoundedRect) (p : Pt) : Prop :=
  (p.y < r.rect.tl.y + r.corners.tl.h → p.x < r.rect.tl.x + r.corners.tl.w →
    (EllipseQuadrant.new r.rect.tl r.corners.tl .topLeft).contains p = true) ∧
  (r.rect.tl.y + r.rect.size.h - r.corners.bl.h ≤ p.y → p.x < r.rect.tl.x + r.corners.bl.w →
    (EllipseQuadrant.new ⟨r.rect.tl.x, r.rect.tl.y + r.rect.size.h - r.corners.bl.h⟩ r.corners.bl
      .bottomLeft).contains p = true) ∧
  (p.y < r.rect.tl.y + r.corners.tr.h → r.rect.tl.x + r.rect.size.w - r.corners.tr.w ≤ p.x →
    (EllipseQuadrant.new ⟨r.rect.tl.x + r.rect.size.w - r.corners.tr.w, r.rect.tl.y⟩ r.corners.tr
      .topRight).contains p = true) ∧
  (r.rect.tl.y + r.rect.size.h - r.corners.br.h ≤ p.y →
    r.rect.tl.x + r.rect.size.w - r.corners.br.w ≤ p.x →
    (EllipseQuadrant.new ⟨r.rect.tl.x + r.rect.size.w - r.corners.br.w,
      r.rect.tl.y + r.rect.size.h - r.corners.br.h⟩ r.corners.br .bottomRight).contains p = true)

end Glue

namespace RoundedRect

/-- Membership corner by corner, for any radii: inside the rectangle and, in each of the four corner
boxes of the confined radii, accepted by that corner's quarter ellipse. The confined radii fit, so
the boxes of the two left (right) corners share no row and the row's corner is the one whose box the
row meets. -/
theorem contains_iff_confined (r : RoundedRect) (h : r.InRange) (p : Pt) :
    r.contains p = true ↔ r.rect.contains p = true ∧ Glue.CornerConds r.confineRadii p := by
  obtain ⟨_, f2, _, f4⟩ := CornerRadii.confine_fits r.corners r.rect.size
  have btl := cornerQuadrant_bbox_inRange r h .topLeft
  have bbl := cornerQuadrant_bbox_inRange r h .bottomLeft
  rw [cq_tl] at btl
  rw [cq_bl] at bbl
  unfold contains
  rw [RRContains.contains_iff, RRContains.forall_leftCorner, RRContains.forall_rightCorner,
    new_eq r h, Rect.contains_iff, cq_tl, cq_tr, cq_br, cq_bl]
  unfold Glue.CornerConds confineRadii
  rw [EllipseQuadrant.new_colsEnd _ _ _ btl, EllipseQuadrant.new_colsEnd _ _ _ bbl,
    EllipseQuadrant.new_colsStart, EllipseQuadrant.new_colsStart]
  dsimp only
  constructor
  · rintro ⟨⟨r1, r2⟩, ⟨c1, c2⟩, ⟨tl, bl⟩, ⟨tr, br⟩⟩
    exact ⟨⟨c1, c2, r1, r2⟩, tl, fun hy => bl (by omega) hy, tr, fun hy => br (by omega) hy⟩
  · rintro ⟨⟨c1, c2, r1, r2⟩, tl, bl, tr, br⟩
    exact ⟨⟨r1, r2⟩, ⟨c1, c2⟩, ⟨tl, fun _ hy => bl hy⟩, ⟨tr, fun _ hy => br hy⟩⟩

theorem contains_iff_of_fits (r : RoundedRect) (h : r.InRange) (hf : r.corners.Fits r.rect.size)
    (p : Pt) : r.contains p = true ↔ r.rect.contains p = true ∧ Glue.CornerConds r p := by
  rw [contains_iff_confined r h]
  unfold confineRadii
  rw [CornerRadii.confine_noop _ _ hf]

theorem contains_imp_bbox (r : RoundedRect) (h : r.InRange) {p : Pt} (hc : r.contains p = true) :
    r.boundingBox.contains p = true :=
  ((contains_iff_confined r h p).mp hc).1

theorem row_contiguous (r : RoundedRect) (h : r.InRange) (y x1 x2 x : Int)
    (h1 : r.contains ⟨x1, y⟩ = true) (h2 : r.contains ⟨x2, y⟩ = true) (hx : x1 ≤ x ∧ x ≤ x2) :
    r.contains ⟨x, y⟩ = true := by
  rw [contains_iff_row r h] at h1 h2 ⊢
  exact ⟨h1.1, by omega, by omega⟩

theorem radius_pos_lo {a p : Int} {ρ : Nat} (h1 : a ≤ p) (h2 : p < a + ρ) : 1 ≤ ρ := by
  omega

theorem radius_pos_hi {a p : Int} {n ρ : Nat} (h1 : a + n - ρ ≤ p) (h2 : p < a + n) : 1 ≤ ρ := by
  omega

/-- Every column is one contiguous run: in a top corner box the test holds from the upper point down
to the inner corner's row, in a bottom corner box from the lower point up. -/
theorem column_contiguous (r : RoundedRect) (h : r.InRange) (x y1 y2 y : Int)
    (h1 : r.contains ⟨x, y1⟩ = true) (h2 : r.contains ⟨x, y2⟩ = true) (hy : y1 ≤ y ∧ y ≤ y2) :
    r.contains ⟨x, y⟩ = true := by
  rw [contains_iff_confined r h, Rect.contains_iff] at h1 h2 ⊢
  unfold Glue.CornerConds confineRadii at h1 h2 ⊢
  dsimp only at h1 h2 ⊢
  obtain ⟨⟨x1, x2, t1, _⟩, tl1, _, tr1, _⟩ := h1
  obtain ⟨⟨_, _, _, t2⟩, _, bl2, _, br2⟩ := h2
  have ty1 := Int.le_trans t1 hy.1
  have ty2 := Int.lt_of_le_of_lt hy.2 t2
  refine ⟨⟨x1, x2, ty1, ty2⟩, ?_, ?_, ?_, ?_⟩
  · intro hy' hx
    exact EllipseQuadrant.new_contains_column _ _ _ (radius_pos_lo ty1 hy') (Or.inl ⟨hy.1, hy'⟩)
      (tl1 (Int.lt_of_le_of_lt hy.1 hy') hx)
  · intro hy' hx
    exact EllipseQuadrant.new_contains_column _ _ _ (radius_pos_hi hy' ty2) (Or.inr ⟨hy', hy.2⟩)
      (bl2 (Int.le_trans hy' hy.2) hx)
  · intro hy' hx
    exact EllipseQuadrant.new_contains_column _ _ _ (radius_pos_lo ty1 hy') (Or.inl ⟨hy.1, hy'⟩)
      (tr1 (Int.lt_of_le_of_lt hy.1 hy') hx)
  · intro hy' hx
    exact EllipseQuadrant.new_contains_column _ _ _ (radius_pos_hi hy' ty2) (Or.inr ⟨hy', hy.2⟩)
      (br2 (Int.le_trans hy' hy.2) hx)

/-- With all radii zero `contains` is the rectangle's `contains`: no corner box contains a point
of the rectangle. -/
theorem zero_contains (rect : Rect) (h : rect.InRange) (p : Pt) :
    (⟨rect, CornerRadii.zero⟩ : RoundedRect).contains p = rect.contains p := by
  rw [Bool.eq_iff_iff, contains_iff_of_fits ⟨rect, CornerRadii.zero⟩ h (CornerRadii.zero_fits _)]
  refine ⟨fun hc => hc.1, fun hb => ⟨hb, ?_⟩⟩
  rw [Rect.contains_iff] at hb
  unfold Glue.CornerConds CornerRadii.zero Sz.zero
  dsimp only
  exact ⟨fun hy _ => by omega, fun hy _ => by omega, fun hy _ => by omega, fun hy _ => by omega⟩

theorem zero_points (rect : Rect) (h : rect.InRange) :
    (⟨rect, CornerRadii.zero⟩ : RoundedRect).points = rect.points := by
  rw [points_eq_filter _ (show (⟨rect, CornerRadii.zero⟩ : RoundedRect).InRange from h)]
  unfold boundingBox
  rw [List.filter_eq_self]
  intro p hp
  rw [zero_contains rect h]
  exact (Rect.mem_points h).mp hp

end RoundedRect

namespace EllipseQuadrant

/-- Doubled offset of the centre of pixel `p` from the ellipse centre, squared, as naturals (what
`EllipseContains.contains` computes with). -/
def dx2 (tl : Pt) (r : Sz) (k : Quadrant) (p : Pt) : Nat :=
  ((p.x * 2 + 1 - 2 * (innerCorner tl r k).x) ^ 2).toNat
def dy2 (tl : Pt) (r : Sz) (k : Quadrant) (p : Pt) : Nat :=
  ((p.y * 2 + 1 - 2 * (innerCorner tl r k).y) ^ 2).toNat

theorem contains_eq (tl : Pt) (r : Sz) (k : Quadrant) (hw : 1 ≤ r.w) (hh : 1 ≤ r.h) (p : Pt) :
    (new tl r k).contains p =
      (EllipseContains.new ⟨r.w * 2, r.h * 2⟩).contains
        ⟨p.x * 2 + 1 - 2 * (innerCorner tl r k).x, p.y * 2 + 1 - 2 * (innerCorner tl r k).y⟩ := by
  unfold contains
  rw [new_center2x tl r k hw hh]
  have e1 : p.x * 2 - (2 * (innerCorner tl r k).x - 1) = p.x * 2 + 1 - 2 * (innerCorner tl r k).x := by
    omega
  have e2 : p.y * 2 - (2 * (innerCorner tl r k).y - 1) = p.y * 2 + 1 - 2 * (innerCorner tl r k).y := by
    omega
  simp only [e1, e2]
  rfl

/-- **Elliptic corners** (`rw ≠ rh`): the pixel is accepted iff its centre is strictly inside the
ideal ellipse with semi-axes `rw`, `rh` around the inner corner of the box
(`(2rh)^2 dx^2 + (2rw)^2 dy^2 < (2rw)^2 (2rh)^2` in doubled coordinates). -/
theorem contains_iff_ideal_ellipse (tl : Pt) (r : Sz) (k : Quadrant) (hw : 1 ≤ r.w) (hh : 1 ≤ r.h)
    (hne : r.w ≠ r.h) (p : Pt) :
    (new tl r k).contains p = true ↔
      (r.h * 2) ^ 2 * dx2 tl r k p + (r.w * 2) ^ 2 * dy2 tl r k p < (r.h * 2) ^ 2 * (r.w * 2) ^ 2 := by
  rw [contains_eq tl r k hw hh]
  unfold EllipseContains.contains EllipseContains.new dx2 dy2
  have hab : ¬ ((r.w * 2) ^ 2 = (r.h * 2) ^ 2) := by
    intro hc
    rcases Nat.lt_trichotomy (r.w * 2) (r.h * 2) with hlt | heq | hgt
    · have := Nat.pow_lt_pow_left hlt (n := 2) (by decide); omega
    · omega
    · have := Nat.pow_lt_pow_left hgt (n := 2) (by decide); omega
  have hwh : ¬ (r.w * 2 = r.h * 2) := by omega
  simp only [hab, hwh, ↓reduceIte, decide_eq_true_eq]

/-- **Circular corners**: the circle test with the threshold of the doubled radius. -/
theorem contains_iff_circle (tl : Pt) (r : Sz) (k : Quadrant) (he : r.w = r.h) (hw : 1 ≤ r.w) (p : Pt) :
    (new tl r k).contains p = true ↔
      dx2 tl r k p + dy2 tl r k p < diameterToThreshold (r.w * 2) := by
  rw [contains_eq tl r k hw (he ▸ hw)]
  unfold EllipseContains.contains EllipseContains.new dx2 dy2
  simp only [he, ↓reduceIte, decide_eq_true_eq]

/-- **Circular corners of radius > 2**: the pixel is accepted iff its centre is strictly inside the
ideal circle of radius `r` around the inner corner of the box. -/
theorem contains_iff_ideal_circle (tl : Pt) (r : Sz) (k : Quadrant) (he : r.w = r.h) (h2 : 2 < r.w)
    (p : Pt) :
    (new tl r k).contains p = true ↔ dx2 tl r k p + dy2 tl r k p < (r.w * 2) ^ 2 := by
  rw [contains_iff_circle tl r k he (by omega), diameterToThreshold, if_neg (by omega), Nat.pow_two]

/-- **Circular corners of radius 1 and 2** use the small-circle thresholds 3 (ideal 4) and 14
(ideal 16): `diameterToThreshold 2` and `diameterToThreshold 4`. -/
theorem contains_iff_small_circle (tl : Pt) (r : Sz) (k : Quadrant) (he : r.w = r.h)
    (h1 : 1 ≤ r.w) (h2 : r.w ≤ 2) (p : Pt) :
    (new tl r k).contains p = true ↔
      dx2 tl r k p + dy2 tl r k p < (if r.w = 1 then 3 else 14) := by
  rw [contains_iff_circle tl r k he h1]
  rcases (by omega : r.w = 1 ∨ r.w = 2) with hr | hr <;> rw [hr] <;> rfl

end EllipseQuadrant
end EG
