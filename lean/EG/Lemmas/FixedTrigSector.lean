/-
  EG.Lemmas.FixedTrigSector — the angular claim of C18 for the `fixed_point` build, with no
  hypothesis about the trigonometry: the plane sector `PlaneSector::new` computes from two raw angles
  accepts every pixel (of a circle of diameter up to 128) that is at least 1.5 px inside both boundary
  lines and rejects every pixel more than 1.5 px outside — the boundary lines being those through the
  centre in the TABLE directions `(cosT k, sinT k)` of the whole degrees `k` the code rounds the two
  boundary angles to.
  It is an instance (`K = Int`, scale 64) of `sectorOf_margin`: the computed sector `sectorOf r w` against
  any two reference lines its normals are near to; EG.Lemmas.FixedTrigExact gives the instance for the
  exact lines.

  Scale: `tableDist k delta = delta · (-sinT k, cosT k)` is the signed distance of the pixel centre
  `delta` (doubled coordinates: half pixels) from that line in units of 1/65536 half pixel (the table
  entries are I16F16 bits), so 1.5 px = 3 half pixels = 196608.

  Error budget (all in these units, `|dx|, |dy| <= 127`):
    * truncation of `1024 sin` / `1024 cos` to integers: the code's distance, times 64, differs from
      `tableDist` by at most `63 (|dx| + |dy|) <= 11403` (0.087 px);
    * the cosine's degree off by one (`deg_shift`; about one raw angle in 2300): `1144 |dy|` more, at
      most `63 |dx| + 1207 |dy| <= 161290` (1.23 px);
  both below 196608. What this does NOT contain is the rounding of the angle to whole degrees
  (`deg_nearest`: up to half a degree, 0.56 px at radius 64) and the accuracy of the table itself
  against the real sine: relative to the EXACT lines the fixed_point build needs about 0.09 + 0.56 px
  (proved with 1.5 px in EG.Lemmas.FixedTrigExact over `Real.sin`).
-/
import EG.Lemmas.FixedTrigNormals
import EG.Lemmas.SectorAngular
namespace EG.Fx
open EG EG.Generated

/-- Signed distance (1/65536 half pixel) of `delta` from the line through the centre in the table
direction of the whole degree `k`; positive on the right side (the side a positive sweep turns to). -/
def tableDist (k : Int) (delta : Pt) : Int := delta.x * (-(sinT k)) + delta.y * cosT k

theorem t64_err (s : Int) : |64 * t64 s - s| ≤ 63 := by
  unfold t64 truncDiv
  rw [abs_le]
  split <;> constructor <;> omega

theorem sinT_step' (k : Int) : |sinT (k + 1) - sinT k| ≤ 1144 :=
  abs_le.mpr (sinT_step k)

/-- The bound on the cosine component's error: 63 when the cosine's degree is exact, 1207 else. -/
def cosErr (d c : Int) : Int := if c = d + 90 then 63 else 1207

theorem cosErr_le (d c : Int) : 0 ≤ cosErr d c ∧ cosErr d c ≤ 1207 := by
  unfold cosErr; split <;> omega

theorem normal_x_err (d : Int) : |64 * -(t64 (sinT d)) - -(sinT d)| ≤ 63 := by
  have := t64_err (sinT d)
  rw [abs_le] at this ⊢
  constructor <;> omega

theorem normal_y_err (d c : Int) (hc : c = d + 90 ∨ c = d + 91) :
    |64 * t64 (sinT c) - cosT d| ≤ cosErr d c := by
  have h1 := t64_err (sinT c)
  unfold cosErr cosT
  rcases hc with hc | hc
  · subst hc; rw [if_pos rfl]; exact h1
  · rw [if_neg (by omega)]
    have h2 := sinT_step' (d + 90)
    rw [show d + 90 + 1 = c by omega] at h2
    rw [abs_le] at h1 h2 ⊢
    constructor <;> omega

/-- The computed normal against the table normal of its sine degree, scaled by 64 = 65536 / 1024. -/
theorem normalOf_near_table (a : Int) :
    NormalNear (K := Int) 64 (normalOf a) (-(sinT (deg a)), cosT (deg a)) 63 (cosErr (deg a) (deg (a + 102944))) :=
  ⟨normal_x_err (deg a), normal_y_err (deg a) _ (deg_shift a)⟩

theorem tableDist_eq (k : Int) (delta : Pt) :
    tableDist k delta = exactDist (K := Int) (-(sinT k), cosT k) delta := rfl

theorem abs_le_127 (delta : Pt) (hd : delta.x * delta.x + delta.y * delta.y < 128 * 128) :
    |delta.x| ≤ 127 ∧ |delta.y| ≤ 127 := by
  have hx0 := mul_self_nonneg delta.x
  have hy0 := mul_self_nonneg delta.y
  have hx := abs_lt_of_sq_lt (a := delta.x) (B := 128) (by decide) (by omega)
  have hy := abs_lt_of_sq_lt (a := delta.y) (B := 128) (by decide) (by omega)
  exact ⟨abs_le.mpr ⟨by omega, by omega⟩, abs_le.mpr ⟨by omega, by omega⟩⟩

/-- Budget for every raw angle: `63 * 127 + 1207 * 127 = 161290`, below 196608 (1.5 px). -/
theorem margin_le (d c : Int) (delta : Pt) (hd : delta.x * delta.x + delta.y * delta.y < 128 * 128) :
    budget (K := Int) 63 (cosErr d c) delta ≤ 196608 := by
  obtain ⟨hx, hy⟩ := abs_le_127 delta hd
  obtain ⟨h0, h1⟩ := cosErr_le d c
  have : cosErr d c * |delta.y| ≤ 1207 * 127 := mul_le_mul h1 hy (abs_nonneg _) (by omega)
  unfold budget
  simp only [Int.cast_id]
  omega

/-- Budget when the cosine's degree is exact: `63 (|dx| + |dy|) <= 63 * 181 = 11403`. -/
theorem margin_le_exact (d : Int) (delta : Pt) (hd : delta.x * delta.x + delta.y * delta.y < 128 * 128) :
    budget (K := Int) 63 (cosErr d (d + 90)) delta ≤ 11403 := by
  have h := norm1_le_181 (K := Int) delta hd
  unfold norm1 at h
  unfold budget cosErr
  rw [if_pos rfl]
  simp only [Int.cast_id] at h ⊢
  omega

/-- Two table lines one degree apart are never both 1.5 px away (with the sector between them)
inside a circle of diameter 128: `290576 = 2 * 127 * 1144 < 2 * 196608`, so the degenerate one-degree
sweeps make no acceptance claim. -/
theorem tableDist_adjacent (k : Int) (delta : Pt) (hd : delta.x * delta.x + delta.y * delta.y < 128 * 128) :
    |tableDist k delta - tableDist (k + 1) delta| ≤ 290576 := by
  unfold tableDist cosT
  have e : delta.x * -(sinT k) + delta.y * sinT (k + 90) - (delta.x * -(sinT (k + 1)) + delta.y * sinT (k + 1 + 90)) =
      delta.x * (sinT (k + 1) - sinT k) + delta.y * (-(sinT (k + 90 + 1) - sinT (k + 90))) := by
    have : k + 1 + 90 = k + 90 + 1 := by omega
    rw [this]; ring
  rw [e]
  obtain ⟨hx, hy⟩ := abs_le_127 delta hd
  have h1 := abs_mul_le_of_abs_le delta.x _ 1144 (sinT_step' k)
  have h2 := abs_mul_le_of_abs_le delta.y (-(sinT (k + 90 + 1) - sinT (k + 90))) 1144 (by rw [abs_neg]; exact sinT_step' (k + 90))
  have h3 := abs_add_le (delta.x * (sinT (k + 1) - sinT k)) (delta.y * (-(sinT (k + 90 + 1) - sinT (k + 90))))
  omega

/-- The normals of a computed intersection are correctly oriented, or at least do not point the
same way, whenever the boundary degrees, of the sines and of the cosines, are strictly ordered. -/
theorem sectorOf_orient {r w : Int} (hw0 : 0 ≤ w) (hw : w < 205887)
    (hord : deg r < deg (r + w) ∧ deg (r + 102944) < deg (r + w + 102944)) :
    0 < (sectorOf r w).cross ∨ dotProduct (sectorOf r w).left (sectorOf r w).right ≤ 0 := by
  have hD := deg_diff_intersection r w hw0 hw
  have ho := (orientOK_iff _ _ _ _).mp
    (orient_table _ _ _ _ hord.1 (by omega) hord.2 (deg_shift r) (deg_shift (r + w)))
  unfold PlaneSector.cross dotProduct sectorOf normalOf tableNormal
  simp only [Int.neg_mul, Int.mul_neg]
  rw [Int.mul_comm (t64 (sinT (deg (r + 102944))))]
  omega

theorem sectorOf_op_intersection {r w : Int} (h : (sectorOf r w).op = .intersection) : w < 205887 := by
  unfold sectorOf at h
  simp only at h
  split at h
  · cases h
  · omega

/-- The computed plane sector against ANY two reference lines its normals are near to**: right
boundary angle `r`, left boundary `r + w`, any tolerance `m` that covers the budgets of both normals,
provided the acceptance hypothesis of an intersection can only hold where the boundary degrees are
strictly ordered. The table lines (`K = Int`, scale 64) and the exact lines (`K = ℝ`, scale 1) are
instances. -/
theorem sectorOf_margin {K : Type} [CommRing K] [LinearOrder K] [IsStrictOrderedRing K] {r w : Int}
    (hw0 : 0 ≤ w) {s : K} (hs : 0 < s) {Nl Nr : K × K} {exl eyl exr eyr m : K}
    (hl : NormalNear s (normalOf (r + w)) Nl exl eyl) (hr : NormalNear s (normalOf r) Nr exr eyr)
    (delta : Pt) (hml : budget exl eyl delta ≤ m) (hmr : budget exr eyr delta ≤ m)
    (hord : w < 205887 → exactDist Nl delta ≤ -m → m ≤ exactDist Nr delta →
      deg r < deg (r + w) ∧ deg (r + 102944) < deg (r + w + 102944)) :
    MarginClaim (sectorOf r w).op ((sectorOf r w).contains delta) (exactDist Nl delta) (exactDist Nr delta) m :=
  (containsPlain_margin (sectorOf r w) hs hl hr delta hml hmr).contains (sectorOf r w) delta
    fun hi h1 h2 => sectorOf_orient hw0 (sectorOf_op_intersection hi) (hord (sectorOf_op_intersection hi) h1 h2)

/-- Boundary degrees that are not strictly ordered, sines and cosines, are at most one apart. -/
theorem deg_unordered {r w : Int} (hw0 : 0 ≤ w)
    (hno : ¬ (deg r < deg (r + w) ∧ deg (r + 102944) < deg (r + w + 102944))) :
    deg (r + w) = deg r ∨ deg (r + w) = deg r + 1 := by
  have := deg_mono r (r + w) (by omega)
  have := deg_shift r
  have := deg_shift (r + w)
  have := deg_mono (r + 102944) (r + w + 102944) (by omega)
  omega

/-- Every raw angle pair against the table lines, 1.5 px (196608). Boundaries less than two table
degrees apart make no acceptance claim: no pixel of such a circle is 1.5 px inside both lines. -/
theorem sectorOf_table_margin (r w : Int) (hw0 : 0 ≤ w) (delta : Pt)
    (hd : delta.x * delta.x + delta.y * delta.y < 128 * 128) :
    MarginClaim (sectorOf r w).op ((sectorOf r w).contains delta) (tableDist (deg (r + w)) delta)
      (tableDist (deg r) delta) 196608 := by
  rw [tableDist_eq, tableDist_eq]
  refine sectorOf_margin hw0 (by decide) (normalOf_near_table (r + w)) (normalOf_near_table r) delta
    (margin_le _ _ delta hd) (margin_le _ _ delta hd) fun _ h1 h2 => ?_
  rw [← tableDist_eq] at h1 h2
  by_contra hno
  rcases deg_unordered hw0 hno with e | e <;> rw [e] at h1
  · omega
  · have := abs_le.mp (tableDist_adjacent (deg r) delta hd)
    omega

/-- The same with the truncation error alone (0.087 px = 11403) when both cosine degrees are exact
(`deg (a + FRAC_PI_2) = deg a + 90` for both boundary angles: all but about one raw angle in 2300). -/
theorem sectorOf_table_margin_exact_cos (r w : Int) (hw0 : 0 ≤ w)
    (hcr : deg (r + 102944) = deg r + 90) (hcl : deg (r + w + 102944) = deg (r + w) + 90) (delta : Pt)
    (hd : delta.x * delta.x + delta.y * delta.y < 128 * 128) :
    MarginClaim (sectorOf r w).op ((sectorOf r w).contains delta) (tableDist (deg (r + w)) delta)
      (tableDist (deg r) delta) 11403 := by
  rw [tableDist_eq, tableDist_eq]
  refine sectorOf_margin hw0 (by decide) (normalOf_near_table (r + w)) (normalOf_near_table r) delta
    (by rw [hcl]; exact margin_le_exact _ delta hd) (by rw [hcr]; exact margin_le_exact _ delta hd)
    fun _ h1 h2 => ?_
  rw [← tableDist_eq] at h1 h2
  have := deg_mono r (r + w) (by omega)
  by_contra hno
  rw [show deg (r + w) = deg r by omega] at h1
  omega

end EG.Fx
