/-
  EG.Lemmas.CheckedSegment — range theorems of the thick-segment kernels
  (Model/CheckedSegment.lean): for segments whose join corners are `Near` (Lemmas/JoinsBoxDisplayScale.lean:
  every display-scale join), `edges_bounding_box`, the cap midpoints and all Bresenham
  intersections of `intersection` are the plain ones (line ends within 2^28 = `W`). That the
  boxes of such segments and their fold have `Near` corners is Lemmas/JoinsBoxDisplayScale.lean
  (`Joins.PtNear` there is `Near`).
-/
import EG.Lemmas.CheckedScanline
import EG.Lemmas.JoinsBoxDisplayScale
import EG.Lemmas.JoinsBBoxCover
import EG.Model.CheckedSegment
namespace EG.Chk.Joins
open EG EG.Joins EG.Chk

theorem Near.W {p : Pt} (h : Near p) : W.pt p := by
  omega

theorem Near.withCorners_ok {a b : Pt} (ha : Near a) (hb : Near b) :
    withCorners a b = some (Rect.withCorners a b) :=
  Chk.withCorners_ok (W.coord.sub_fits ha.W.1 hb.W.1) (W.coord.sub_fits ha.W.2 hb.W.2)

theorem midpoint_ok {l : Line} (hs : Near l.start) (he : Near l.stop) :
    Ret (EG.Chk.Joins.midpoint l) (EG.Joins.midpoint l) Near := by
  have hx := tdiv2_bounds (l.stop.x - l.start.x)
  have hy := tdiv2_bounds (l.stop.y - l.start.y)
  constructor
  · rw [EG.Chk.Joins.midpoint, ptSub_ok (by omega), some_bind,
      ptAdd_ok (by simp only [Pt.sub_x, Pt.sub_y]; omega)]
    rfl
  · unfold EG.Joins.midpoint Near
    simp only [Pt.add_x, Pt.add_y, Pt.sub_x, Pt.sub_y]
    omega

theorem midClosed_near : MidClosed Near := fun l h => (midpoint_ok h.1 h.2).2

theorem cap_eq {j : LineJoin} (hj : JoinNear j) (c : EdgeCorners) :
    EG.Chk.Joins.cap j c = some (j.cap c) := by
  unfold EG.Chk.Joins.cap LineJoin.cap
  cases hf : j.fillerLine with
  | none => rfl
  | some f =>
    obtain ⟨fs, fe⟩ := LineJoin.All.filler (P := Near) hj hf
    dsimp only
    rw [(midpoint_ok fs fe).1]; rfl

theorem bint_eq (s : EG.Scanline) (l : Line) :
    EG.Joins.bint s l = s.bresenhamIntersection l.start l.stop (Line.points l) := by
  unfold EG.Joins.bint EG.Scanline.bresenhamIntersection
  simp only
  generalize (if l.start.y ≤ l.stop.y then decide (l.start.y ≤ s.y ∧ s.y ≤ l.stop.y)
    else decide (l.stop.y ≤ s.y ∧ s.y ≤ l.start.y)) = inY
  cases inY <;> simp

namespace ThickSegment

theorem edges_near {s : EG.Joins.ThickSegment} (h : SegNear s) :
    (Near s.edges.1.start ∧ Near s.edges.1.stop) ∧ (Near s.edges.2.start ∧ Near s.edges.2.stop) :=
  ⟨⟨h.1.2.2.2, h.2.2.1⟩, ⟨h.2.1, h.1.2.2.1⟩⟩

/-- The box of the edges is `with_corners` of two `Near` points in both arms. -/
theorem edgesBoundingBox_corners {s : EG.Joins.ThickSegment} (h : SegNear s) :
    ∃ a b, Near a ∧ Near b ∧ s.edgesBoundingBox = Rect.withCorners a b ∧
      edgesBoundingBox s = withCorners a b := by
  obtain ⟨⟨rs, re⟩, ⟨ls, le⟩⟩ := edges_near h
  unfold edgesBoundingBox EG.Joins.ThickSegment.edgesBoundingBox EG.Joins.lineBoundingBox lineBoundingBox
  simp only
  split
  · exact ⟨_, _, rs, re, rfl, rfl⟩
  · exact ⟨_, _, PtNear.min (PtNear.min (PtNear.min rs re) ls) le,
      PtNear.max (PtNear.max (PtNear.max rs re) ls) le, rfl, rfl⟩

theorem edgesBoundingBox_ok {s : EG.Joins.ThickSegment} (h : SegNear s) :
    edgesBoundingBox s = some s.edgesBoundingBox := by
  obtain ⟨a, b, na, nb, e1, e2⟩ := edgesBoundingBox_corners h
  rw [e1, e2, na.withCorners_ok nb]

theorem bintAll_ok : ∀ (ls : List Line) (s : EG.Scanline),
    (∀ l ∈ ls, Near l.start ∧ Near l.stop) → bintAll ls s = some (ls.foldl EG.Joins.bint s) := by
  intro ls
  induction ls with
  | nil => intro s _; rfl
  | cons l rest ih =>
    intro s h
    obtain ⟨hs, he⟩ := h l (List.mem_cons_self ..)
    rw [bintAll, Scanline.bresenhamIntersection_ok s hs.W he.W, some_bind, List.foldl_cons, bint_eq]
    exact ih _ (fun l' hl' => h l' (List.mem_cons_of_mem _ hl'))

theorem outline_ok {s : EG.Joins.ThickSegment} (h : SegNear s) :
    Ret (outline s) s.outline fun ls => ∀ l ∈ ls, Near l.start ∧ Near l.stop := by
  refine ⟨?_, outline_ends_of_joins midClosed_near s h.1 h.2⟩
  unfold outline EG.Joins.ThickSegment.outline
  split
  · rfl
  · rw [cap_eq h.1, cap_eq h.2]; rfl

theorem intersection_ok {s : EG.Joins.ThickSegment} (h : SegNear s) (y : Int) :
    intersection s y = some (s.intersection y) := by
  obtain ⟨e, hn⟩ := outline_ok h
  rw [intersection, e, some_bind]
  exact bintAll_ok _ _ hn

end ThickSegment

theorem RectNear.brFits {r : Rect} (h : RectNear r) : BrFits r := by
  obtain ⟨h1, h2, h3, h4⟩ := h
  unfold PtNear at h1 h2
  refine ⟨by omega, ?_⟩
  by_cases hp : 0 < r.size.w ∧ 0 < r.size.h
  · rw [Rect.bottomRight_some hp] at h2
    simp only [Option.getD_some] at h2
    omega
  · omega

/-- One step of the fold. No checked operation touches the accumulator (`min` / `max` only), so
nothing is asked of it. -/
theorem foldBoxStep_ok (acc : Pt × Pt) {seg : EG.Joins.ThickSegment} (hs : ThickSegment.SegNear seg) :
    foldBoxStep acc seg = some (boxStep acc seg) := by
  rw [foldBoxStep, ThickSegment.edgesBoundingBox_ok hs, some_bind,
    bottomRight_of_brFits (RectNear.brFits (edgesBoundingBox_near hs))]
  rfl

theorem foldBoxes_ok : ∀ (segs : List EG.Joins.ThickSegment) (acc : Pt × Pt),
    (∀ s ∈ segs, ThickSegment.SegNear s) → foldBoxes segs acc = some (segs.foldl boxStep acc)
  | [], _, _ => rfl
  | s :: rest, acc, hs => by
    rw [foldBoxes, foldBoxStep_ok acc (hs s (List.mem_cons_self ..)), some_bind]
    exact foldBoxes_ok rest _ fun t ht => hs t (List.mem_cons_of_mem _ ht)

/-- **The bounding-box fold** of `untranslated_bounding_box` / `styled_bounding_box` over a
non-empty list of segments with `Near` corners: the first box absorbs the `(i32::MAX, i32::MIN)`
start value, from then on both corners are `Near`, so the final `with_corners` fits. -/
theorem foldEdgeBoxes_ok {segs : List EG.Joins.ThickSegment} (hne : segs ≠ [])
    (hs : ∀ s ∈ segs, ThickSegment.SegNear s) :
    foldEdgeBoxes segs = some (EG.Joins.foldEdgeBoxes segs) := by
  obtain ⟨s, rest, rfl⟩ := List.exists_cons_of_ne_nil hne
  obtain ⟨i1, i2⟩ := boxStep_init_near (hs s (List.mem_cons_self ..))
  obtain ⟨f1, f2⟩ := foldl_boxStep_near rest _ i1 i2
    fun t ht => hs t (List.mem_cons_of_mem _ ht)
  rw [foldEdgeBoxes, foldBoxes_ok _ _ hs, some_bind, foldEdgeBoxes_eq]
  exact Near.withCorners_ok f1 f2

end EG.Chk.Joins
