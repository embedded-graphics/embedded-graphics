/-
  EG.Lemmas.CheckedDS — the display-scale hypotheses of property C08 as explicit decidable
  predicates, and their inclusion in the proof domains `W` (linear kernels, 2^28) and `S`
  (quadratic kernels of circles / ellipses).

  `DS.*`   the property text: coordinates within +-1024, sizes up to 1024, stroke widths 0..=128.
  `DS.x*`  what the library derives from such inputs: stroke areas (`offset` by at most the stroke
           width: top-left corners down to -1024 - 128, sizes up to 1024 + 2 * 128), every point of
           such an area (up to 1024 + 1024 + 128), stroke offsets in -128..=128.
  Every `DS.foo` implies `DS.xfoo`; the theorems are stated for the larger `x` domain.
-/
import EG.Lemmas.CheckedShapes
import EG.Model.Bresenham
namespace EG.DS
open EG

def coord (x : Int) : Prop := -1024 ≤ x ∧ x ≤ 1024
def size (n : Nat) : Prop := n ≤ 1024
def width (w : Nat) : Prop := w ≤ 128
def pt (p : Pt) : Prop := coord p.x ∧ coord p.y
def sz (s : Sz) : Prop := size s.w ∧ size s.h
def rect (r : Rect) : Prop := pt r.tl ∧ sz r.size

/-- coordinates of stroke areas and of their points: `-1024 - 128 ..= 1024 + 1024 + 128` -/
def xcoord (x : Int) : Prop := -1152 ≤ x ∧ x ≤ 2176
/-- sizes of stroke areas: `<= 1024 + 2 * 128` -/
def xsize (n : Nat) : Prop := n ≤ 1280
/-- stroke / fill offsets: `-128 ..= 128` -/
def offs (o : Int) : Prop := -128 ≤ o ∧ o ≤ 128
def xpt (p : Pt) : Prop := xcoord p.x ∧ xcoord p.y
def xsz (s : Sz) : Prop := xsize s.w ∧ xsize s.h
def xrect (r : Rect) : Prop := xpt r.tl ∧ xsz r.size
def circle (c : Circle) : Prop := pt c.tl ∧ size c.d
def xcircle (c : Circle) : Prop := xpt c.tl ∧ xsize c.d
def ellipse (e : Ellipse) : Prop := pt e.tl ∧ sz e.size
def xellipse (e : Ellipse) : Prop := xpt e.tl ∧ xsz e.size
/-- both end points within +-1024 -/
def line (l : Line) : Prop := pt l.start ∧ pt l.stop

instance (x : Int) : Decidable (coord x) := by unfold coord; exact inferInstance
instance (n : Nat) : Decidable (size n) := by unfold size; exact inferInstance
instance (n : Nat) : Decidable (width n) := by unfold width; exact inferInstance
instance (p : Pt) : Decidable (pt p) := by unfold pt; exact inferInstance
instance (s : Sz) : Decidable (sz s) := by unfold sz; exact inferInstance
instance (r : Rect) : Decidable (rect r) := by unfold rect; exact inferInstance
instance (x : Int) : Decidable (xcoord x) := by unfold xcoord; exact inferInstance
instance (n : Nat) : Decidable (xsize n) := by unfold xsize; exact inferInstance
instance (o : Int) : Decidable (offs o) := by unfold offs; exact inferInstance
instance (p : Pt) : Decidable (xpt p) := by unfold xpt; exact inferInstance
instance (s : Sz) : Decidable (xsz s) := by unfold xsz; exact inferInstance
instance (r : Rect) : Decidable (xrect r) := by unfold xrect; exact inferInstance
instance (c : Circle) : Decidable (circle c) := by unfold circle; exact inferInstance
instance (c : Circle) : Decidable (xcircle c) := by unfold xcircle; exact inferInstance
instance (e : Ellipse) : Decidable (ellipse e) := by unfold ellipse; exact inferInstance
instance (e : Ellipse) : Decidable (xellipse e) := by unfold xellipse; exact inferInstance
attribute [reducible] coord size width pt sz rect xcoord xsize offs xpt xsz xrect circle xcircle ellipse xellipse
-- elaborated with `pt` already reducible: the instance term depends on it
instance (l : Line) : Decidable (line l) := by unfold line; exact inferInstance
attribute [reducible] line

theorem coord_x {x : Int} (h : coord x) : xcoord x := by omega
theorem size_x {n : Nat} (h : size n) : xsize n := by omega
theorem pt_x {p : Pt} (h : pt p) : xpt p := ⟨coord_x h.1, coord_x h.2⟩
theorem sz_x {s : Sz} (h : sz s) : xsz s := ⟨size_x h.1, size_x h.2⟩
theorem rect_x {r : Rect} (h : rect r) : xrect r := ⟨pt_x h.1, sz_x h.2⟩
theorem circle_x {c : Circle} (h : circle c) : xcircle c := ⟨pt_x h.1, size_x h.2⟩
theorem ellipse_x {e : Ellipse} (h : ellipse e) : xellipse e := ⟨pt_x h.1, sz_x h.2⟩
theorem width_offs {w : Nat} (h : width w) : offs (w : Int) ∧ offs (-(w : Int)) := by
  omega

open EG.Chk
theorem xcoord_W {x : Int} (h : xcoord x) : W.coord x := by omega
theorem xsize_W {n : Nat} (h : xsize n) : W.size n := by omega
theorem offs_W {o : Int} (h : offs o) : W.coord o := by omega
theorem xpt_W {p : Pt} (h : xpt p) : W.pt p := ⟨xcoord_W h.1, xcoord_W h.2⟩
theorem xsz_W {s : Sz} (h : xsz s) : W.sz s := ⟨xsize_W h.1, xsize_W h.2⟩
theorem xrect_W {r : Rect} (h : xrect r) : W.rect r := ⟨xpt_W h.1, xsz_W h.2⟩
theorem xcoord_S {x : Int} (h : xcoord x) : S.coord x := by omega
theorem xcoord_probe {x : Int} (h : xcoord x) : S.probe x := by omega
theorem xsize_S {n : Nat} (h : xsize n) : S.size n := by omega

end EG.DS
