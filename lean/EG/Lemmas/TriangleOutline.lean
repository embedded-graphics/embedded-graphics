/-
  EG.Lemmas.TriangleOutline — the one-pixel outline (`StyledPixelsIterator` with stroke width 1, no
  fill, `StrokeOffset::None`) is the union of the three edge lines of the `sorted_clockwise`
  triangle.

  Part 1: `edge_intersections` — the `left` / `right` merging of the three per-edge scanlines of a
  row loses nothing, provided the three scanlines are not pairwise separated (then the third one
  would be dropped by the ignored result of `right.try_extend`): `rowPend_spec`, from one round of
  the loop by cases (`stepState_cases`, EG.Lemmas.TriEdge) and the two calls of the closure after it
  (`finish_twice`).
  That two of the three edges of a row of a triangle share a vertex of that row is part 2
  (EG.Lemmas.TriangleOutlineIter).
-/
import EG.Lemmas.TriangleLine
import EG.Lemmas.TriEdge
namespace EG

namespace EdgeIt
open Scanline

/-- The scanline pieces of a row, in the order `ScanlineIntersections` hands them out. -/
def rowPend (seg : Nat → Scanline) (y : Int) : List Scanline :=
  let r1 := next 1 seg y ⟨0, Scanline.newEmpty y, Scanline.newEmpty y⟩
  let r2 := next 1 seg y r1.2
  r1.1.toList ++ r2.1.toList

/-- Two calls of the closure after the loop has run: `left` and `right` if they do not touch (the
non-empty ones), else their hull. -/
theorem finish_twice (y : Int) (seg : Nat → Scanline) (l r : Scanline) :
    (finish y ⟨3, l, r⟩).1.toList ++ (next 1 seg y (finish y ⟨3, l, r⟩).2).1.toList =
      if Touch l r then [⟨l.y, min l.xs r.xs, max l.xe r.xe⟩]
      else (if l.isEmpty then [] else [l]) ++ (if r.isEmpty then [] else [r]) := by
  have hnext : ∀ l' r', next 1 seg y ⟨3, l', r'⟩ = finish y ⟨3, l', r'⟩ := fun l' r' => by
    rw [next_eq_finish Nat.one_ne_zero, loop_of_idx_ge _ _ _ (Nat.le_refl 3)]
  have hfin : ∀ l' r', finish y ⟨3, l', r'⟩ =
      match (if Touch l' r' then (⟨l'.y, min l'.xs r'.xs, max l'.xe r'.xe⟩, Scanline.newEmpty y)
        else (l', r') : Scanline × Scanline) with
      | (a, b) =>
        match a.tryTake.1 with
        | some x => (some x, ⟨3, a.tryTake.2, b⟩)
        | none => (b.tryTake.1, ⟨3, a.tryTake.2, b.tryTake.2⟩) := fun l' r' => by
    unfold finish
    by_cases h : Touch l' r'
    · rw [tryExtend_of_touch h, if_pos h]; rfl
    · rw [tryExtend_of_not_touch h, if_neg h]; rfl
  have hclr : ∀ (a b : Scanline), ¬ Touch (⟨a.y, 0, 0⟩ : Scanline) b :=
    fun a b => not_touch_of_empty (Or.inl (cleared_isEmpty _))
  by_cases ht : Touch l r
  · have hne : (⟨l.y, min l.xs r.xs, max l.xe r.xe⟩ : Scanline).isEmpty = false := by
      rw [isEmpty_false_iff]; unfold Touch at ht; dsimp only; omega
    rw [hfin, if_pos ht, if_pos ht]
    dsimp only
    rw [tryTake_of_nonempty hne]
    dsimp only
    rw [hnext, hfin, if_neg (hclr _ _)]
    dsimp only
    rw [tryTake_of_empty (cleared_isEmpty _), tryTake_of_empty (newEmpty_isEmpty y)]
    rfl
  · rw [hfin, if_neg ht, if_neg ht]
    dsimp only
    cases hl : l.isEmpty
    · rw [tryTake_of_nonempty hl]
      dsimp only
      rw [hnext, hfin, if_neg (hclr _ _)]
      dsimp only
      rw [tryTake_of_empty (cleared_isEmpty _)]
      cases hr : r.isEmpty
      · rw [tryTake_of_nonempty hr]; rfl
      · rw [tryTake_of_empty hr]; rfl
    · rw [tryTake_of_empty hl]
      dsimp only
      cases hr : r.isEmpty
      · rw [tryTake_of_nonempty hr]
        dsimp only
        rw [hnext, hfin, if_neg (not_touch_of_empty (Or.inl hl))]
        dsimp only
        rw [tryTake_of_empty hl, tryTake_of_empty (cleared_isEmpty _)]
        rfl
      · rw [tryTake_of_empty hr]
        dsimp only
        rw [hnext, hfin, if_neg ht]
        dsimp only
        rw [tryTake_of_empty hl, tryTake_of_empty hr]
        rfl

theorem rowPend_spec (seg : Nat → Scanline) (y : Int) (hy : ∀ i, (seg i).y = y)
    (H : ¬ ((seg 0).xs < (seg 0).xe ∧ (seg 1).xs < (seg 1).xe ∧ (seg 2).xs < (seg 2).xe ∧
      ¬ Touch (seg 0) (seg 1) ∧ ¬ Touch (seg 0) (seg 2) ∧ ¬ Touch (seg 1) (seg 2))) :
    (∀ p ∈ rowPend seg y, p.xs < p.xe ∧ p.y = y) ∧
    (∀ x, (∃ p ∈ rowPend seg y, p.Covers x) ↔
      (seg 0).Covers x ∨ (seg 1).Covers x ∨ (seg 2).Covers x) := by
  have hloop3 := loop3 seg (Scanline.newEmpty y) (Scanline.newEmpty y)
  have hrows : (stepState seg (stepState seg (stepState seg
        ⟨0, Scanline.newEmpty y, Scanline.newEmpty y⟩))).left.y = y ∧
      (stepState seg (stepState seg (stepState seg
        ⟨0, Scanline.newEmpty y, Scanline.newEmpty y⟩))).right.y = y := by
    obtain ⟨l1, r1⟩ := stepState_spec seg y hy ⟨0, Scanline.newEmpty y, Scanline.newEmpty y⟩ rfl rfl
    obtain ⟨l2, r2⟩ := stepState_spec seg y hy _ l1 r1
    exact stepState_spec seg y hy _ l2 r2
  -- the state after the three rounds covers what the three scanlines cover
  obtain ⟨l, r, hloop, hcov⟩ : ∃ l r : Scanline,
      loop seg 3 ⟨0, Scanline.newEmpty y, Scanline.newEmpty y⟩ = ⟨3, l, r⟩ ∧
      ∀ x, l.Covers x ∨ r.Covers x ↔ (seg 0).Covers x ∨ (seg 1).Covers x ∨ (seg 2).Covers x := by
    clear hrows
    have e1 : stepState seg ⟨0, Scanline.newEmpty y, Scanline.newEmpty y⟩ =
        ⟨1, seg 0, Scanline.newEmpty y⟩ := by
      unfold stepState; simp [newEmpty_isEmpty]
    rw [hloop3, e1]
    have he : ¬ (Scanline.newEmpty y).xs < (Scanline.newEmpty y).xe := (isEmpty_iff _).mp (newEmpty_isEmpty y)
    generalize Scanline.newEmpty y = e at he ⊢
    -- the second round, then the third (`right` is still empty unless the second round filled it);
    -- in each leaf `Covers` of a hull is rewritten by `covers_hull`, `Covers` of an empty scanline by
    -- `not_covers_of_empty`, the hypotheses of the case serving as side conditions
    clear hy
    rcases stepState_cases_right_empty seg 1 (seg 0) e he with ⟨h2, e2⟩ | ⟨h2, e2⟩ | ⟨h2, g2, e2⟩
    · rcases stepState_cases_right_empty seg 2 (seg 1) e he with ⟨h3, e3⟩ | ⟨h3, e3⟩ | ⟨h3, g3, e3⟩ <;>
      rw [e2, e3] <;> refine ⟨_, _, rfl, fun x => ?_⟩ <;>
      simp only [covers_hull, not_covers_of_empty, *, not_false_eq_true, false_or, or_false]
    · -- `left` is the hull `m` of `seg 0` and `seg 1`
      have hm := covers_hull h2 (seg 0).y
      have hne : (⟨(seg 0).y, min (seg 0).xs (seg 1).xs, max (seg 0).xe (seg 1).xe⟩ : Scanline).xs <
          (⟨(seg 0).y, min (seg 0).xs (seg 1).xs, max (seg 0).xe (seg 1).xe⟩ : Scanline).xe := by
        unfold Touch at h2; dsimp only; omega
      rw [e2]
      generalize (⟨(seg 0).y, min (seg 0).xs (seg 1).xs, max (seg 0).xe (seg 1).xe⟩ : Scanline) = m at hm hne ⊢
      rcases stepState_cases_right_empty seg 2 m e he with ⟨h3, e3⟩ | ⟨h3, e3⟩ | ⟨h3, g3, e3⟩
      · exact absurd hne h3
      · rw [e3]; refine ⟨_, _, rfl, fun x => ?_⟩
        simp only [covers_hull h3, not_covers_of_empty he, hm, or_false, or_assoc]
      · rw [e3]; refine ⟨_, _, rfl, fun x => ?_⟩
        simp only [hm, or_assoc]
    · -- the only place where a scanline can be dropped: `seg 2`, separated from `seg 0` and `seg 1`
      rcases stepState_cases seg 2 (seg 0) (seg 1) with
        ⟨h3, e3⟩ | ⟨h3, e3⟩ | ⟨h3, g3, k3, e3⟩ | ⟨h3, g3, k3, e3⟩ | ⟨h3, g3, k3, m3, e3⟩
      · exact absurd h2 h3
      · rw [e2, e3]; refine ⟨_, _, rfl, fun x => ?_⟩
        simp only [covers_hull, *, or_comm, or_left_comm]
      · rw [e2, e3]; refine ⟨_, _, rfl, fun x => ?_⟩
        simp only [not_covers_of_empty, *, not_false_eq_true, false_or]
      · rw [e2, e3]; refine ⟨_, _, rfl, fun x => ?_⟩
        simp only [covers_hull, *]
      · have hc : ¬ (seg 2).xs < (seg 2).xe := fun hc => H ⟨h2, k3, hc, g2, g3, m3⟩
        rw [e2, e3]; refine ⟨_, _, rfl, fun x => ?_⟩
        simp only [not_covers_of_empty, *, not_false_eq_true, or_false]
  rw [← hloop3, hloop] at hrows
  obtain ⟨hly, hry⟩ : l.y = y ∧ r.y = y := hrows
  have hrp : rowPend seg y = (finish y ⟨3, l, r⟩).1.toList ++
      (next 1 seg y (finish y ⟨3, l, r⟩).2).1.toList := by
    unfold rowPend
    dsimp only
    rw [next_eq_finish Nat.one_ne_zero, hloop]
  rw [hrp, finish_twice]
  -- the pieces handed out cover what `left` and `right` cover
  have hpieces : (∀ p ∈ (if Touch l r then [(⟨l.y, min l.xs r.xs, max l.xe r.xe⟩ : Scanline)]
        else (if l.isEmpty then [] else [l]) ++ (if r.isEmpty then [] else [r])), p.xs < p.xe ∧ p.y = y) ∧
      ∀ x, (∃ p ∈ (if Touch l r then [(⟨l.y, min l.xs r.xs, max l.xe r.xe⟩ : Scanline)]
        else (if l.isEmpty then [] else [l]) ++ (if r.isEmpty then [] else [r])), p.Covers x) ↔
        l.Covers x ∨ r.Covers x := by
    have hmem : ∀ s p : Scanline, p ∈ (if s.isEmpty then [] else [s]) ↔ p = s ∧ s.xs < s.xe := by
      intro s p
      cases hs : s.isEmpty
      · simpa using fun _ => (isEmpty_false_iff s).mp hs
      · simpa using fun _ => (isEmpty_iff s).mp hs
    by_cases ht : Touch l r
    · rw [if_pos ht]
      unfold Touch at ht
      refine ⟨fun p hp => ?_, fun x => ?_⟩
      · rw [List.mem_singleton.mp hp]; dsimp only; omega
      · simp only [List.mem_singleton, exists_eq_left, Covers]; omega
    · rw [if_neg ht]
      refine ⟨fun p hp => ?_, fun x => ⟨?_, ?_⟩⟩
      · rcases List.mem_append.mp hp with h | h <;> obtain ⟨rfl, hne⟩ := (hmem _ _).mp h
        · exact ⟨hne, hly⟩
        · exact ⟨hne, hry⟩
      · rintro ⟨p, hp, hc⟩
        rcases List.mem_append.mp hp with h | h <;> obtain ⟨rfl, _⟩ := (hmem _ _).mp h
        · exact Or.inl hc
        · exact Or.inr hc
      · rintro (hc | hc)
        · exact ⟨l, List.mem_append_left _ ((hmem _ _).mpr ⟨rfl, by unfold Covers at hc; omega⟩), hc⟩
        · exact ⟨r, List.mem_append_right _ ((hmem _ _).mpr ⟨rfl, by unfold Covers at hc; omega⟩), hc⟩
  exact ⟨hpieces.1, fun x => (hpieces.2 x).trans (hcov x)⟩

end EdgeIt
end EG
