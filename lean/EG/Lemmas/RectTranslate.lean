/-
  EG.Lemmas.RectTranslate — how the `Rect` operations behave under translation
  (`Rectangle::translate` moves `top_left`, all other formulas are relative to it).
  Where the real code saturates (`points`, `rows`, `columns`: `saturating_add` / `saturating_as`)
  the statement carries `Rect.InRange` for the rectangle before and after the move.
-/
import EG.Lemmas.RectPoints
namespace EG

namespace Rect

@[simp] theorem translate_tl (r : Rect) (d : Pt) : (r.translate d).tl = r.tl + d := rfl
@[simp] theorem translate_size (r : Rect) (d : Pt) : (r.translate d).size = r.size := rfl

theorem translate_zero (r : Rect) : r.translate ⟨0, 0⟩ = r := by
  cases r; simp [translate, Pt.add_zero']

theorem translate_translate (r : Rect) (d e : Pt) :
    (r.translate d).translate e = r.translate (d + e) :=
  congrArg (Rect.mk · r.size) (Pt.add_assoc' r.tl d e)

theorem contains_translate (r : Rect) (d p : Pt) :
    (r.translate d).contains (p + d) = r.contains p := by
  rw [Bool.eq_iff_iff, contains_iff, contains_iff]
  simp only [translate_tl, translate_size, Pt.add_x, Pt.add_y]
  omega

theorem contains_translate' (r : Rect) (d p : Pt) :
    (r.translate d).contains p = r.contains (p - d) := by
  rw [← contains_translate r d (p - d), Pt.sub_add_cancel']

theorem isZeroSized_translate (r : Rect) (d : Pt) : (r.translate d).isZeroSized = r.isZeroSized := rfl

theorem bottomRight_translate (r : Rect) (d : Pt) :
    (r.translate d).bottomRight = r.bottomRight.map (fun p => p + d) := by
  unfold bottomRight
  simp only [translate_size, translate_tl]
  by_cases h : r.size.w > 0 ∧ r.size.h > 0
  · simp only [h, and_self, ↓reduceIte, Option.map_some, Option.some.injEq]
    rw [Pt.ext_iff']; simp only [Pt.add_x, Pt.add_y]; omega
  · simp only [h, ↓reduceIte, Option.map_none]

theorem center_translate (r : Rect) (d : Pt) : (r.translate d).center = r.center + d := by
  unfold center
  rw [Pt.ext_iff']
  simp only [translate_tl, translate_size, Pt.add_x, Pt.add_y]
  omega

theorem withCenter_translate (c d : Pt) (s : Sz) :
    withCenter (c + d) s = (withCenter c s).translate d := by
  simp only [withCenter, translate, Rect.mk.injEq, and_true]
  rw [Pt.ext_iff']; simp only [Pt.add_x, Pt.add_y]; omega

theorem offset_translate (r : Rect) (d : Pt) (n : Int) :
    (r.translate d).offset n = (r.offset n).translate d := by
  unfold offset
  by_cases h : n ≥ 0
  · simp only [h, ↓reduceIte, translate_size, translate, Rect.mk.injEq, and_true]
    rw [Pt.ext_iff']; simp only [Pt.add_x, Pt.add_y, Pt.sub_x, Pt.sub_y]; omega
  · simp only [h, ↓reduceIte, translate_size, center_translate, withCenter_translate]

theorem withCorners_translate (a b d : Pt) :
    withCorners (a + d) (b + d) = (withCorners a b).translate d := by
  simp only [withCorners, translate, Rect.mk.injEq, Sz.mk.injEq, Pt.add_x, Pt.add_y]
  refine ⟨?_, ?_, ?_⟩
  · rw [Pt.ext_iff']; simp only [Pt.add_x, Pt.add_y]; omega
  · omega
  · omega

theorem overlaps_shift (f0 f1 s0 s1 d : Int) :
    overlaps (f0 + d) (f1 + d) (s0 + d) (s1 + d) = overlaps f0 f1 s0 s1 := by
  unfold overlaps
  rw [Bool.eq_iff_iff]
  simp only [decide_eq_true_eq]
  omega

/-- Either `intersection` commutes with the translation, or it returns `Rectangle::zero()` before
and after the move (`zero()` is at the origin and does not move; these are the arms without a
common point). -/
theorem intersection_translate (a b : Rect) (d : Pt) :
    (a.translate d).intersection (b.translate d) = (a.intersection b).translate d ∨
    ((a.translate d).intersection (b.translate d) = zero ∧ a.intersection b = zero) := by
  unfold intersection
  rw [bottomRight_translate, bottomRight_translate]
  cases hb : b.bottomRight <;> cases ha : a.bottomRight <;> simp only [Option.map_some, Option.map_none]
  · simp
  · have hc : (a.translate d).contains (b.translate d).tl = a.contains b.tl := by
      rw [translate_tl, contains_translate]
    rw [hc]
    cases a.contains b.tl
    · right; exact ⟨rfl, rfl⟩
    · left; rfl
  · have hc : (b.translate d).contains (a.translate d).tl = b.contains a.tl := by
      rw [translate_tl, contains_translate]
    rw [hc]
    cases b.contains a.tl
    · right; exact ⟨rfl, rfl⟩
    · left; rfl
  · rename_i obr sbr
    simp only [translate_tl, Pt.add_x, Pt.add_y, overlaps_shift]
    cases (overlaps a.tl.x sbr.x b.tl.x obr.x && overlaps a.tl.y sbr.y b.tl.y obr.y)
    · right; exact ⟨rfl, rfl⟩
    · left
      simp only [↓reduceIte]
      rw [← withCorners_translate]
      congr 1
      · rw [Pt.ext_iff']; simp only [Pt.componentMax, Pt.add_x, Pt.add_y]; omega
      · rw [Pt.ext_iff']; simp only [Pt.componentMin, Pt.add_x, Pt.add_y]; omega

theorem grid_translate (r : Rect) (d : Pt) : (r.translate d).grid = r.grid.map (· + d) := by
  simp only [grid, translate_tl, translate_size, Pt.add_x, Pt.add_y]
  have e1 : r.tl.y + d.y + ↑r.size.h = (r.tl.y + ↑r.size.h) + d.y := by omega
  have e2 : r.tl.x + d.x + ↑r.size.w = (r.tl.x + ↑r.size.w) + d.x := by omega
  rw [e1, e2, irange_shift, irange_shift]
  simp only [List.flatMap_map, List.map_flatMap, List.map_map]
  rfl

theorem pointsSpec_translate (r : Rect) (d : Pt) (h : r.InRange) (h' : (r.translate d).InRange) :
    (r.translate d).pointsSpec = r.pointsSpec.map (fun p => p + d) := by
  rw [pointsSpec_eq_grid (Or.inr h), pointsSpec_eq_grid (Or.inr h'), grid_translate]

theorem points_translate (r : Rect) (d : Pt) (h : r.InRange) (h' : (r.translate d).InRange) :
    (r.translate d).points = r.points.map (fun p => p + d) := by
  rw [points_eq_spec, points_eq_spec, pointsSpec_translate r d h h']

/-- What a shape takes from the points of its box, point by point, moves with the box: `f'` at the
moved point yields `g` of what `f` yields at the point. -/
theorem filterMap_points_translate {β β' : Type} {r : Rect} {d : Pt} (h : r.InRange)
    (h' : (r.translate d).InRange) {f : Pt → Option β} {f' : Pt → Option β'} {g : β → β'}
    (hf : ∀ p, f' (p + d) = (f p).map g) :
    (r.translate d).points.filterMap f' = (r.points.filterMap f).map g := by
  rw [points_translate r d h h', List.filterMap_map, List.map_filterMap]
  exact congrArg (fun k => r.points.filterMap k) (funext hf)

theorem filter_points_translate {r : Rect} {d : Pt} (h : r.InRange) (h' : (r.translate d).InRange)
    {c c' : Pt → Bool} (hc : ∀ p, c' (p + d) = c p) :
    (r.translate d).points.filter c' = (r.points.filter c).map (· + d) := by
  rw [points_translate r d h h', List.filter_map]
  exact congrArg _ (List.filter_congr fun p _ => hc p)

end Rect
end EG
