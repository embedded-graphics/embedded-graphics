/-
  EG.Lemmas.CheckedDSMore — the display-scale domains of triangles and rounded rectangles, and the
  inclusion of the `DS` domains in the proof domains of the lemma files that themselves import
  CheckedDS.lean: `Sec.*`, `RR.*`, `Chk.Ellipse.Dom`, `Joins.VDS`, `Triangle.SmallPt`.
-/
import EG.Lemmas.CheckedDS
import EG.Lemmas.CheckedRRect
import EG.Lemmas.CheckedSector
import EG.Lemmas.CheckedSegment
import EG.Lemmas.CheckedStyledScanline
import EG.Lemmas.CheckedTriangle
namespace EG.DS
def xtri (t : Triangle) : Prop := xpt t.v1 ∧ xpt t.v2 ∧ xpt t.v3
def tri (t : Triangle) : Prop := pt t.v1 ∧ pt t.v2 ∧ pt t.v3
instance (t : Triangle) : Decidable (xtri t) := by unfold xtri; exact inferInstance
instance (t : Triangle) : Decidable (tri t) := by unfold tri; exact inferInstance
attribute [reducible] xtri tri
theorem tri_x {t : Triangle} (h : tri t) : xtri t := ⟨pt_x h.1, pt_x h.2.1, pt_x h.2.2⟩
theorem xpt_small {p : Pt} (h : xpt p) : Triangle.SmallPt p := by
  unfold Triangle.SmallPt; omega

open EG.Chk
def xrrect (r : RoundedRect) : Prop := xrect r.rect ∧ CornerRadii.InU32 r.corners
instance (r : RoundedRect) : Decidable (xrrect r) := by unfold xrrect; exact inferInstance
theorem xrect_RR {r : Rect} (h : xrect r) : RR.rect r := by omega
theorem xpt_RR {p : Pt} (h : xpt p) : RR.probe p := by omega
theorem circle_base {c : Circle} (h : circle c) : Sec.base c := by omega
theorem xcircle_sec {c : Circle} (h : xcircle c) : Sec.circle c := by omega
theorem width_sec {st : Style} (h : width st.width) : Sec.width st := by omega
theorem xellipse_dom {e : Ellipse} (h : xellipse e) : Chk.Ellipse.Dom e := by
  unfold Chk.Ellipse.Dom; omega
theorem pt_VDS {p : Pt} (h : pt p) : Joins.VDS p := h
end EG.DS
