/-
  EG.Lemmas.CircleStyled — stroke / fill areas of a styled circle (the fill area lies in the stroke
  area and has its centre), its two scanline lists as `StyledLines` of the two areas' `contains`, and
  their translation (the scanlines of the moved areas are the moved scanlines; guards:
  `Circle.InRange` of the iterated areas before and after the move).
-/
import EG.Lemmas.CirclePoints
import EG.Lemmas.EllipseStyled
namespace EG

namespace Circle

theorem toEllipse_strokeArea (st : PrimStyle) (c : Circle) :
    toEllipse (c.strokeArea st) = (toEllipse c).strokeArea st := toEllipse_offset c _

theorem toEllipse_fillArea (st : PrimStyle) (c : Circle) :
    toEllipse (c.fillArea st) = (toEllipse c).fillArea st := toEllipse_offset c _

theorem strokeArea_d {st : PrimStyle} {c : Circle} (hS : (c.strokeArea st).InRange) :
    (c.strokeArea st).d = c.d + 2 * st.strokeOffset.toNat := by
  have hS' : ((toEllipse c).strokeArea st).InRange := by rw [← toEllipse_strokeArea]; exact hS
  have h := Ellipse.strokeArea_size hS'
  rw [← toEllipse_strokeArea] at h
  exact congrArg Sz.w h

theorem fillArea_d {st : PrimStyle} {c : Circle} (hF : (c.fillArea st).InRange) :
    (c.fillArea st).d = c.d - 2 * (-st.fillOffset).toNat := by
  have hF' : ((toEllipse c).fillArea st).InRange := by rw [← toEllipse_fillArea]; exact hF
  have h := Ellipse.fillArea_size hF'
  rw [← toEllipse_fillArea] at h
  exact congrArg Sz.w h

/-- The fill area is not larger than the stroke area, and (when it is not empty) has the same
`center_2x`: the scanline code may use the stroke area's centre with the fill threshold. -/
theorem areas_rel {st : PrimStyle} {c : Circle} (hS : (c.strokeArea st).InRange)
    (hF : (c.fillArea st).InRange) :
    (c.fillArea st).d ≤ (c.strokeArea st).d ∧
      (1 ≤ (c.fillArea st).d → (c.fillArea st).center2x = (c.strokeArea st).center2x) := by
  have hS' : ((toEllipse c).strokeArea st).InRange := by rw [← toEllipse_strokeArea]; exact hS
  have hF' : ((toEllipse c).fillArea st).InRange := by rw [← toEllipse_fillArea]; exact hF
  have h := Ellipse.areasRel hS' hF'
  rw [← toEllipse_strokeArea, ← toEllipse_fillArea] at h
  exact ⟨h.w_le, fun h1 => h.centre h1 h1⟩

theorem areas_eq_of_zero_width {st : PrimStyle} (c : Circle) (h : st.strokeWidth = 0) :
    c.strokeArea st = c.fillArea st := by
  unfold strokeArea fillArea
  rw [(st.zero_width_offsets h).1, (st.zero_width_offsets h).2]

theorem strokeArea_inside {st : PrimStyle} (c : Circle) (h : st.strokeAlignment = .inside)
    (hd : c.d ≤ 4294967295) : c.strokeArea st = c := by
  unfold strokeArea PrimStyle.strokeOffset PrimStyle.outsideStrokeWidth
  rw [h]
  exact offset_zero c hd

theorem fillArea_outside {st : PrimStyle} (c : Circle) (h : st.strokeAlignment = .outside)
    (hd : c.d ≤ 4294967295) : c.fillArea st = c := by
  unfold fillArea PrimStyle.fillOffset PrimStyle.insideStrokeWidth
  rw [h]
  exact offset_zero c hd

section areas
variable {S F : Circle}

/-- The fill test as the styled scanlines evaluate it (the stroke area's centre with the fill
threshold) is symmetric and convex about the middle of the stroke area's columns. -/
theorem fill_symConvex (hd : F.d ≤ S.d) (y : Int) :
    SymConvex (hit S.center2x F.threshold y) S.tl.x (S.tl.x + S.d) := by
  by_cases hS : S.d = 0
  · exact SymConvex.of_forall_false (hit_false_of_zero (by omega) _ y)
  · exact hit_symConvex_row _ _ (by rw [center2x_x]; omega)

/-- It is the fill area's `contains` (which is empty when the centres may differ). -/
theorem fill_hit_eq (hc : 1 ≤ F.d → F.center2x = S.center2x) (p : Pt) :
    hit S.center2x F.threshold p.y p.x = F.contains p := by
  by_cases h1 : 1 ≤ F.d
  · rw [show p = ⟨p.x, p.y⟩ from rfl, contains_eq_hit, hc h1]
  · rw [contains_false_of_zero (by omega), hit_false_of_zero (by omega)]

theorem fill_subset (hd : F.d ≤ S.d) (hc : 1 ≤ F.d → F.center2x = S.center2x) {p : Pt}
    (h : F.contains p = true) : S.contains p = true := by
  have hT : F.threshold ≤ S.threshold := threshold_mono hd
  rw [← fill_hit_eq hc, hit_iff] at h
  rw [show p = ⟨p.x, p.y⟩ from rfl, contains_eq_hit, hit_iff]
  omega

end areas

theorem fill_subset_stroke {st : PrimStyle} {c : Circle} (hS : (c.strokeArea st).InRange)
    (hF : (c.fillArea st).InRange) {p : Pt} (h : (c.fillArea st).contains p = true) :
    (c.strokeArea st).contains p = true :=
  fill_subset (areas_rel hS hF).1 (areas_rel hS hF).2 h

theorem StyledScanlinesIt.drains : Drains (ofPair StyledScanlinesIt.next) StyledScanlinesIt.toListFuel :=
  ⟨fun _ => rfl, fun n it => by
    rw [StyledScanlinesIt.toListFuel]; unfold ofPair; rcases it.next with ⟨_ | _, _⟩ <;> rfl⟩

theorem StyledScanlinesIt.toListFuel_eq : ∀ (fuel : Nat) (it : StyledScanlinesIt),
    it.toListFuel fuel = (it.scanlines.toListFuel fuel).map it.style := by
  intro fuel
  induction fuel with
  | zero => intro it; rfl
  | succ fuel ih =>
    intro it
    unfold StyledScanlinesIt.toListFuel StyledScanlinesIt.next ScanlinesIt.toListFuel
    cases hn : it.scanlines.next with
    | mk o sl' =>
      cases o with
      | none => rfl
      | some s =>
        -- `next` keeps `center_2x`, so the successor styles its scanlines in the same way
        have : sl'.center2x = it.scanlines.center2x := by
          unfold ScanlinesIt.next at hn
          split at hn
          · simp only [Prod.mk.injEq] at hn; rw [← hn.2]
          · simp only [Prod.mk.injEq] at hn; cases hn.1
        simp only [List.map_cons]
        rw [ih]
        unfold StyledScanlinesIt.style
        simp only [this]

theorem StyledScanlinesIt.toList_eq (it : StyledScanlinesIt) :
    it.toList = it.scanlines.toList.map it.style :=
  StyledScanlinesIt.toListFuel_eq _ it

theorem styledScanlines_toList_eq {S : Circle} (F : Circle) (hS : S.InRange) :
    (styledScanlines S F).toList =
      (rowLines (scanRow (hit S.center2x S.threshold) S.tl.x (S.tl.x + S.d)) S.tl.y (S.tl.y + S.d)).map
        (styleRow (hit S.center2x F.threshold)) := by
  rw [StyledScanlinesIt.toList_eq]
  exact congrArg _ (scanlines_toList_eq hS)

/-- What is true of every styled scanline the iterator yields for stroke area `S`, fill area `F`. -/
structure RowOK (S F : Circle) (l : StyledScanline) : Prop where
  order : l.ss ≤ l.fs ∧ l.fs ≤ l.fe ∧ l.fe ≤ l.se
  inbox : S.tl.x ≤ l.ss ∧ l.se ≤ S.tl.x + S.d ∧ S.tl.y ≤ l.y ∧ l.y < S.tl.y + S.d
  stroke : ∀ x, S.contains ⟨x, l.y⟩ = true ↔ l.ss ≤ x ∧ x < l.se
  fill : ∀ x, F.contains ⟨x, l.y⟩ = true ↔ l.fs ≤ x ∧ x < l.fe

section lines
variable {S F : Circle} (hS : S.InRange) (hd : F.d ≤ S.d) (hc : 1 ≤ F.d → F.center2x = S.center2x)
include hS hd hc

theorem lines_ok : ∀ l ∈ (styledScanlines S F).toList, RowOK S F l := by
  intro l hl
  rw [styledScanlines_toList_eq F hS, List.mem_map] at hl
  obtain ⟨s, hs, rfl⟩ := hl
  obtain ⟨a1, a2, hrun⟩ := S.scanShape.rowScan.isRun_of_mem hs
  have hst := S.scanShape.styleRow_isStyledRun (fill_symConvex hd) s hs
  have e1 := hst.y_eq
  have e2 := hst.ss_eq
  have e3 := hst.se_eq
  have o1 := hst.ord
  obtain ⟨b1, b2, b3, b4⟩ := hrun.inCols
  have hne := (S.scanShape.scanRow_some_of_mem hs).1
  refine ⟨by omega, by omega, ?_, ?_⟩
  · intro x; rw [e1, e2, e3, contains_eq_hit]; exact hrun.hits x
  · intro x
    rw [e1, ← fill_hit_eq hc]
    refine hst.fill_iff hrun (fun x hx => ?_) x
    rw [← contains_eq_hit]
    exact fill_subset hd hc (by rw [← fill_hit_eq hc]; exact hx)

end lines

theorem styledLines {S F : Circle} (hS : S.InRange) (hF : F.InRange) (hd : F.d ≤ S.d)
    (hc : 1 ≤ F.d → F.center2x = S.center2x) :
    StyledLines S.contains F.contains (styledScanlines S F).toList F.scanlines.toList := by
  rw [styledScanlines_toList_eq F hS, scanlines_toList_eq hF]
  exact .of_rowScan S.scanShape.rowScan (S.scanShape.styleRow_isStyledRun (fill_symConvex hd))
    F.scanShape.rowScan (fun p => (contains_eq_hit S p.x p.y).symm) (fill_hit_eq hc)
    (fun p => (contains_eq_hit F p.x p.y).symm) hS rfl rfl hF rfl rfl

/-- The colour the property text prescribes for point `p` (before clipping to the target). -/
def styledExpected (st : PrimStyle) (c : Circle) (p : Pt) : Option Color :=
  if (c.fillArea st).contains p = true then st.fillColor
  else if (c.strokeArea st).contains p = true ∧ st.strokeWidth > 0 then st.strokeColor
  else none

theorem styledExpected_eq (st : PrimStyle) (c : Circle) :
    styledExpected st c = scanExpected st.strokeColor st.fillColor st.strokeWidth
      (c.strokeArea st).contains (c.fillArea st).contains := rfl

theorem drawStyled_eq (st : PrimStyle) (c : Circle) :
    c.drawStyled st = scanDraw st.effectiveStrokeColor st.fillColor
      (styledScanlines (c.strokeArea st) (c.fillArea st)).toList (c.fillArea st).scanlines.toList := rfl

theorem styledLines_of_style {st : PrimStyle} {c : Circle} (hS : (c.strokeArea st).InRange)
    (hF : (c.fillArea st).InRange) :
    StyledLines (c.strokeArea st).contains (c.fillArea st).contains
      (styledScanlines (c.strokeArea st) (c.fillArea st)).toList (c.fillArea st).scanlines.toList :=
  styledLines hS hF (areas_rel hS hF).1 (areas_rel hS hF).2

theorem styledPicture {st : PrimStyle} {c : Circle} (hS : (c.strokeArea st).InRange)
    (hF : (c.fillArea st).InRange) :
    StyledPicture (c.drawStyled st) st.strokeColor st.fillColor st.strokeWidth
      (c.strokeArea st).contains (c.fillArea st).contains (c.strokeArea st).boundingBox := by
  rw [drawStyled_eq, PrimStyle.effectiveStrokeColor_eq]
  exact (styledLines_of_style hS hF).styledPicture (fun _ => fill_subset_stroke hS hF)
    (fun _ => contains_imp_bbox) _ _ _

/-- `pixels()` yields the prescribed colours too (it looks at `stroke_color`, not at the effective
stroke colour; at width 0 the two areas coincide). -/
theorem mem_styledPixels_iff {st : PrimStyle} {c : Circle} (hS : (c.strokeArea st).InRange)
    (hF : (c.fillArea st).InRange) (p : Pt) (col : Color) :
    (p, col) ∈ c.styledPixels st ↔ scanExpected st.strokeColor st.fillColor st.strokeWidth
      (c.strokeArea st).contains (c.fillArea st).contains p = some col :=
  (styledLines_of_style hS hF).mem_pixels_iff (fun _ => fill_subset_stroke hS hF) _ _ _
    (fun h0 => by rw [areas_eq_of_zero_width c h0]) p col

theorem translate_strokeArea (st : PrimStyle) (c : Circle) (d : Pt) :
    (c.translate d).strokeArea st = (c.strokeArea st).translate d := translate_offset c d _

theorem translate_fillArea (st : PrimStyle) (c : Circle) (d : Pt) :
    (c.translate d).fillArea st = (c.fillArea st).translate d := translate_offset c d _

theorem translate_styledBoundingBox (st : PrimStyle) (c : Circle) (d : Pt) :
    (c.translate d).styledBoundingBox st = (c.styledBoundingBox st).translate d := by
  unfold styledBoundingBox
  rw [translate_boundingBox, Rect.offset_translate]

theorem scanlines_toList_translate {c : Circle} {d : Pt} (h : c.InRange)
    (h' : (c.translate d).InRange) :
    (c.translate d).scanlines.toList = c.scanlines.toList.map (Scanline.shift d) := by
  rw [scanlines_toList_eq h', scanlines_toList_eq h, translate_center2x, translate_threshold,
    ← rowLines_scanRow_shift d (hit_shift c.center2x c.threshold d)]
  simp only [translate_tl, translate_d, Pt.add_x, Pt.add_y]
  rw [show c.tl.x + d.x + (c.d : Int) = c.tl.x + c.d + d.x by omega,
    show c.tl.y + d.y + (c.d : Int) = c.tl.y + c.d + d.y by omega]

theorem styledScanlines_toList_translate {S F : Circle} {d : Pt} (h : S.InRange)
    (h' : (S.translate d).InRange) :
    (styledScanlines (S.translate d) (F.translate d)).toList =
      (styledScanlines S F).toList.map (StyledScanline.shift d) := by
  have hsl : ∀ A B : Circle, (styledScanlines A B).scanlines = A.scanlines := fun _ _ => rfl
  have hst : ∀ (A B : Circle) (s : Scanline),
      (styledScanlines A B).style s = styleRow (hit A.center2x B.threshold) s := fun _ _ _ => rfl
  rw [StyledScanlinesIt.toList_eq, StyledScanlinesIt.toList_eq, hsl, hsl,
    scanlines_toList_translate h h', List.map_map, List.map_map]
  apply List.map_congr_left
  intro s _
  simp only [Function.comp, hst, translate_center2x, translate_threshold]
  exact styleRow_shift d (hit_shift S.center2x F.threshold d) s

theorem drawStyled_translate (st : PrimStyle) (c : Circle) (d : Pt)
    (hS : (c.strokeArea st).InRange) (hF : (c.fillArea st).InRange)
    (hS' : ((c.translate d).strokeArea st).InRange) (hF' : ((c.translate d).fillArea st).InRange) :
    (c.translate d).drawStyled st = (c.drawStyled st).map (Call.translate d) := by
  rw [translate_strokeArea] at hS'
  rw [translate_fillArea] at hF'
  rw [drawStyled_eq, drawStyled_eq, translate_strokeArea, translate_fillArea,
    styledScanlines_toList_translate hS hS', scanlines_toList_translate hF hF', scanDraw_shift]

theorem styledPixels_translate (st : PrimStyle) (c : Circle) (d : Pt)
    (hS : (c.strokeArea st).InRange) (hS' : ((c.translate d).strokeArea st).InRange) :
    (c.translate d).styledPixels st = Writes.translate d (c.styledPixels st) := by
  rw [translate_strokeArea] at hS'
  unfold styledPixels styledPixelsIt
  rw [translate_strokeArea, translate_fillArea, styledScanlines_toList_translate hS hS',
    StyledPixelsIt.toList_new_shift]

end Circle
end EG
