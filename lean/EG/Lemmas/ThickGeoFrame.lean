/-
  EG.Lemmas.ThickGeoFrame — the values of the forms `ph`, `dt` (EG.Lemmas.ThickForms) on the two steps
  of the perpendicular walk.

  The frame: `Line::perpendicular` turns `delta` by a quarter (`rot`), and in the coordinates of the
  step pair a quarter turn swaps the two coordinates up to the orientation `om = det (M, m)`, so the two
  forms are each other's turn: `ph (rot v) = om * 2 dt v`, `2 dt (rot v) = -om * ph v`. The steps `M'`,
  `m'` of the perpendicular are `M`, `m` turned (`steps_perpendicular`), hence the values of the forms
  on them (`FrameOK`), in terms of the two Booleans the code derives from the step vectors: `flip`
  (decides between `increase_error` and `decrease_error`) and `mirror_extra_points` (`sg`).
-/
import EG.Lemmas.ThickFrame
import EG.Lemmas.ThickClosed
import EG.Lemmas.ThickForms
import Mathlib.Tactic.Linarith
import Mathlib.Tactic.LinearCombination
set_option linter.unusedSimpArgs false
namespace EG
namespace Thick
open Line

theorem sgn_mul_self (a : Int) : sgn a * sgn a = 1 := by
  rcases sgn_eq a with h | h <;> rw [h] <;> decide

theorem aabs_zero_iff (a : Int) : aabs a = 0 ↔ a = 0 := Line.aabs_eq_zero_iff a

theorem neg_pt (a b : Int) : -(⟨a, b⟩ : Pt) = ⟨-a, -b⟩ := rfl

theorem sgn_abs_cases (x : Int) :
    (0 < x ∧ sgn x = 1 ∧ aabs x = x ∧ sgn (-x) = -1 ∧ aabs (-x) = x) ∨
    (x = 0 ∧ sgn x = 1 ∧ aabs x = 0 ∧ sgn (-x) = 1 ∧ aabs (-x) = 0) ∨
    (x < 0 ∧ sgn x = -1 ∧ aabs x = -x ∧ sgn (-x) = 1 ∧ aabs (-x) = -x) := by
  unfold sgn aabs
  rcases Int.lt_trichotomy 0 x with h | h | h
  · left; refine ⟨h, ?_, ?_, ?_, ?_⟩ <;> split <;> omega
  · right; left; subst h; decide
  · right; right; refine ⟨h, ?_, ?_, ?_, ?_⟩ <;> split <;> omega

/-- The sign that relates the error of a perpendicular walker to its position along the line. -/
def sg (c : StrokeCtx) : Int := if c.perp.mirrorExtraPoints then -1 else 1

namespace StrokeCtx

/-- The values of the two forms on the steps of the perpendicular walk: `ph M' = +-2 D` is the height
of a band, a major step moves the walker by `sg d` along the line; for oblique lines a minor step
moves it back by `sg D`, the band form of the minor step is what makes a wrapping error step
(`+-(2 d - 2 D)`) land in the next band, and - unless the line is diagonal, where the error always
wraps - the sign of `ph M'` is that of the error steps and the `Extra` points are shifted on exactly
one side. -/
structure FrameOK (c : StrokeCtx) (flip : Bool) : Prop where
  tau : c.ph c.M' = 2 * c.D ∨ c.ph c.M' = -(2 * c.D)
  dtM : c.dt c.M' = sg c * c.d
  dtm : 0 < c.d → c.dt c.m' = -(sg c * c.D)
  phm : 0 < c.d → c.ph c.m' + dirL flip * (2 * c.D - 2 * c.d) = c.ph c.M'
  obl : 0 < c.d → c.d < c.D → c.ph c.M' = dirL flip * (2 * c.D) ∧ sg c = -dirL flip

/-- The orientation of the step pair of the line: `det (M, m) = +-1`. -/
def om (c : StrokeCtx) : Int := orient c.M c.m

theorem om_cases {c : StrokeCtx} (h : AxisPair c.M c.m) : c.om = 1 ∨ c.om = -1 := orient_cases h

theorem amaj_rot {c : StrokeCtx} (h : AxisPair c.M c.m) (v : Pt) : c.amaj (rot v) = c.om * c.amin v := by
  obtain ⟨h1, h2, -, -⟩ := axisPair_orient h
  unfold amaj amin rot
  rw [h1, h2]
  unfold om
  ring

theorem amin_rot {c : StrokeCtx} (h : AxisPair c.M c.m) (v : Pt) : c.amin (rot v) = -(c.om * c.amaj v) := by
  obtain ⟨-, -, h3, h4⟩ := axisPair_orient h
  unfold amaj amin rot
  rw [h3, h4]
  unfold om
  ring

theorem ph_rot {c : StrokeCtx} (h : AxisPair c.M c.m) (v : Pt) : c.ph (rot v) = c.om * (2 * c.dt v) := by
  unfold ph dt
  rw [amaj_rot h, amin_rot h]
  ring

theorem dt_rot {c : StrokeCtx} (h : AxisPair c.M c.m) (v : Pt) : 2 * c.dt (rot v) = -(c.om * c.ph v) := by
  unfold ph dt
  rw [amaj_rot h, amin_rot h]
  ring

end StrokeCtx

open StrokeCtx in
/-- What the two Booleans of the code say about a turned step pair: `mirror_extra_points` reads its
orientation, `flip` whether its minor step is the line's major step reversed. -/
theorem sg_dirL_rot {c : StrokeCtx} (h : AxisPair c.M c.m) (e1 : c.M' = rot c.M) (e2 : c.m' = rot c.m) :
    sg c = -c.om ∧ dirL (decide (c.m' = -c.M)) = c.om := by
  obtain ⟨D, d, M, m, M', m'⟩ := c
  dsimp only at h e1 e2
  subst e1 e2
  rcases h with ⟨h1 | h1, h2 | h2⟩ | ⟨h1 | h1, h2 | h2⟩ <;> subst h1 <;> subst h2 <;> exact ⟨rfl, rfl⟩

open StrokeCtx in
theorem sg_dirL_rot_diag {c : StrokeCtx} (h : AxisPair c.M c.m) (e1 : c.M' = rot c.m) (e2 : c.m' = rot c.M) :
    sg c = c.om ∧ dirL (decide (c.m' = -c.M)) = 1 := by
  obtain ⟨D, d, M, m, M', m'⟩ := c
  dsimp only at h e1 e2
  subst e1 e2
  rcases h with ⟨h1 | h1, h2 | h2⟩ | ⟨h1 | h1, h2 | h2⟩ <;> subst h1 <;> subst h2 <;> exact ⟨rfl, rfl⟩

open StrokeCtx in
/-- **The frame of a stroke whose perpendicular steps are its own steps turned**: the band height is
`ph M' = om * 2 D`, and the frame equations hold. The values of the forms on `M'`, `m'` are those of
`dt`, `ph` on `M`, `m` (`ph_rot`, `dt_rot`); what is left is to express `om` through `sg` and `flip`. -/
theorem frame_of_rot {c : StrokeCtx} (hax : AxisPair c.M c.m) (hD : 0 < c.D) (hd0 : 0 ≤ c.d)
    (h : (c.d ≠ c.D ∧ c.M' = rot c.M ∧ (0 < c.d → c.m' = rot c.m)) ∨
      (c.d = c.D ∧ (0 < c.d → c.M' = rot c.m ∧ c.m' = rot c.M))) :
    c.ph c.M' = c.om * (2 * c.D) ∧ c.FrameOK (decide (c.m' = -c.M)) := by
  have a1 := dt_M hax; have a2 := dt_m hax; have a3 := ph_M hax; have a4 := ph_m hax
  have t1 := ph_rot hax c.M; have t2 := dt_rot hax c.M
  have t3 := ph_rot hax c.m; have t4 := dt_rot hax c.m
  rw [a1] at t1; rw [a3] at t2; rw [a2] at t3; rw [a4] at t4
  have ho := om_cases hax
  rcases h with ⟨hne, eM, em⟩ | ⟨heq, hdiag⟩
  · rw [← eM] at t1 t2
    refine ⟨t1, ?_⟩
    by_cases hd : 0 < c.d
    · -- oblique, not diagonal: `sg = -om`, `dirL flip = om`
      obtain ⟨hs, hf⟩ := sg_dirL_rot hax eM (em hd)
      rw [← em hd] at t3 t4
      have : (c.ph c.M' = 2 * c.D ∨ c.ph c.M' = -(2 * c.D)) ∧ c.dt c.M' = sg c * c.d ∧
          c.dt c.m' = -(sg c * c.D) ∧
          c.ph c.m' + dirL (decide (c.m' = -c.M)) * (2 * c.D - 2 * c.d) = c.ph c.M' ∧
          c.ph c.M' = dirL (decide (c.m' = -c.M)) * (2 * c.D) ∧ sg c = -dirL (decide (c.m' = -c.M)) := by
        rw [hs, hf]
        generalize c.om = o at *
        rcases ho with rfl | rfl <;> omega
      exact ⟨this.1, this.2.1, fun _ => this.2.2.1, fun _ => this.2.2.2.1, fun _ _ => this.2.2.2.2⟩
    · -- axis-parallel: only the major step of the perpendicular matters
      have hz : c.d = 0 := by omega
      rw [hz] at t2
      exact ⟨by rcases ho with h | h <;> rw [h] at t1 <;> omega,
        by rw [hz]; rcases ho with h | h <;> rw [h] at t2 <;> omega,
        fun h => absurd h hd, fun h => absurd h hd, fun h => absurd h hd⟩
  · -- diagonal: the turned steps have changed places, `sg = om`, no `flip`
    obtain ⟨eM, em⟩ := hdiag (by omega)
    obtain ⟨hs, hf⟩ := sg_dirL_rot_diag hax eM em
    rw [← eM] at t3 t4; rw [← em] at t1 t2
    refine ⟨by rw [t3, heq], ?_⟩
    have : (c.ph c.M' = 2 * c.D ∨ c.ph c.M' = -(2 * c.D)) ∧ c.dt c.M' = sg c * c.d ∧
        c.dt c.m' = -(sg c * c.D) ∧
        c.ph c.m' + dirL (decide (c.m' = -c.M)) * (2 * c.D - 2 * c.d) = c.ph c.M' := by
      rw [hs, hf]
      generalize c.om = o at *
      rcases ho with rfl | rfl <;> omega
    exact ⟨this.1, this.2.1, fun _ => this.2.2.1, fun _ => this.2.2.2, fun _ h => absurd heq (by omega)⟩

theorem dmin_eq_dmaj_iff (n : Line) : dmin n = dmaj n ↔ aabs (dxOf n) = aabs (dyOf n) := by
  unfold dmin dmaj
  split <;> omega

theorem frame_ctxOf (l : Line) :
    (ctxOf l).ph (ctxOf l).M' = (ctxOf l).om * (2 * (ctxOf l).D) ∧ (ctxOf l).FrameOK (flipOf l) := by
  have hv := ctxOf_valid l
  have hx : 0 < dmin (paramLine l) → dxOf (paramLine l) ≠ 0 := fun hd => ((dmin_pos_iff _).mp hd).1
  have h := frame_of_rot (c := ctxOf l) hv.ax hv.hD hv.hd0
    ((steps_perpendicular (paramLine l)).imp
      (fun h => ⟨fun e => h.1 ((dmin_eq_dmaj_iff _).mp e), h.2.1, fun hd => h.2.2 (hx hd)⟩)
      (fun h => ⟨(dmin_eq_dmaj_iff _).mpr h.1, fun hd => h.2 (hx hd)⟩))
  unfold flipOf
  rw [params_new, params_new]
  exact h

theorem frameOK_ctxOf (l : Line) : (ctxOf l).FrameOK (flipOf l) := (frame_ctxOf l).2

open StrokeCtx in
theorem ph_move (c : StrokeCtx) (s : LineSide) (p v : Pt) :
    c.ph (s.move p v) = c.ph p + s.sgn * c.ph v := by
  cases s
  · show c.ph (p + v) = _ + 1 * _; rw [ph_add]; omega
  · show c.ph (p - v) = _ + -1 * _; rw [ph_sub]; omega

open StrokeCtx in
theorem dt_move (c : StrokeCtx) (s : LineSide) (p v : Pt) :
    c.dt (s.move p v) = c.dt p + s.sgn * c.dt v := by
  cases s
  · show c.dt (p + v) = _ + 1 * _; rw [dt_add]; omega
  · show c.dt (p - v) = _ + -1 * _; rw [dt_sub]; omega

end Thick
end EG
