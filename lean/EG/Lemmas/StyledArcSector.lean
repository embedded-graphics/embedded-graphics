/-
  EG.Lemmas.StyledArcSector — the styled sector's pixel iterator equals its closed form:
  `pixels()` = the points of the stroke area circle's bounding box, each mapped through
  "inside the circle? -> point type by the plane sector -> bevel -> circular stroke -> colour"
  (`pixelAt`), points without a colour dropped; nothing for a transparent style. Consequences: the
  pixels lie in the styled bounding box, the picture is known pointwise and commutes with
  translation.
  The plane sector and the bevel are arbitrary parameters throughout.
-/
import EG.Lemmas.StyledArc
import EG.Model.StyledSector
namespace EG

namespace Sector

/-- The point of an item passes through the loop body untouched: only `delta` and `distance`
decide whether there is a pixel and which colour it has. -/
theorem StyledPixelsIt.pixel_point (it : StyledPixelsIt) (x : DistItem) (q : Pt) :
    it.pixel (q, x.2) = (it.pixel x).map (fun w => (q, w.2)) := by
  unfold StyledPixelsIt.pixel
  simp only
  cases it.planeSector.pointType x.2.1 it.strokeThresholdInside it.strokeThresholdOutside with
  | none => rfl
  | some pt =>
    simp only
    cases (if pt = SecPointType.stroke then it.bevelStroke x.2.1 else some pt) with
    | none => rfl
    | some pt2 =>
      simp only
      cases (if pt2 = SecPointType.fill ∧ x.2.2 ≥ it.innerThreshold then SecPointType.stroke else pt2) with
      | stroke => simp only; cases it.strokeColor <;> rfl
      | fill => simp only; cases it.fillColor <;> rfl

theorem StyledPixelsIt.pixel_fst {it : StyledPixelsIt} {x : DistItem} {w : Pt × Color}
    (h : it.pixel x = some w) : w.1 = x.1 := by
  have e : it.pixel x = (it.pixel x).map (fun w => (x.1, w.2)) := StyledPixelsIt.pixel_point it x x.1
  rw [h] at e
  exact congrArg Prod.fst (Option.some.inj e)

def StyledPixelsIt.rest (it : StyledPixelsIt) : Writes :=
  (it.iter.rest.filter it.inOuter).filterMap it.pixel

theorem StyledPixelsIt.nextFuel_spec : ∀ (fuel : Nat) (it : StyledPixelsIt),
    (it.iter.rest.filter it.inOuter).length < fuel →
    it.rest = unroll (it.nextFuel fuel) StyledPixelsIt.rest := by
  intro fuel
  induction fuel with
  | zero => intro it h; omega
  | succ fuel ih =>
    intro it h
    unfold StyledPixelsIt.nextFuel StyledPixelsIt.rest
    rw [it.iter.find_spec it.inOuter] at h ⊢
    generalize it.iter.find it.inOuter = r at h ⊢
    cases r with
    | none => rfl
    | some q =>
      simp only [unroll] at h ⊢
      cases hpx : it.pixel q.1 with
      | some w => exact List.filterMap_cons_some hpx
      | none =>
        rw [List.filterMap_cons_none hpx]
        exact ih { it with iter := q.2 } (Nat.lt_of_succ_lt_succ h)

theorem StyledPixelsIt.drains : Drains StyledPixelsIt.next StyledPixelsIt.toListFuel :=
  ⟨fun _ => rfl, fun n it => by rw [StyledPixelsIt.toListFuel]; cases it.next <;> rfl⟩

theorem StyledPixelsIt.yields : Yields StyledPixelsIt.next StyledPixelsIt.rest := fun it =>
  StyledPixelsIt.nextFuel_spec _ it
    (Nat.lt_of_le_of_lt (List.length_filter_le _ _) it.iter.rest_length_lt_budget)

/-- The circle whose bounding box is iterated: `stroke_area.to_circle()`. -/
def strokeCircle (st : Style) (s : Sector) : Circle := (s.strokeArea st).toCircle

/-- What `pixels()` yields for the point `p` of the iterated box (`none`: nothing). -/
def pixelAt (st : Style) (s : Sector) (bevel : SectorBevel) (p : Pt) : Option (Pt × Color) :=
  let it := s.styledPixelsIt st bevel
  let x := DistIt.item (s.strokeCircle st).center2x p
  if it.inOuter x then it.pixel x else none

theorem styledPixels_eq (st : Style) (s : Sector) (bevel : SectorBevel) :
    s.styledPixels st bevel =
      if st.isTransparent then []
      else (s.strokeCircle st).boundingBox.points.filterMap (s.pixelAt st bevel) :=
  (StyledPixelsIt.drains.eq_rest StyledPixelsIt.yields (DistIt.length_filterMap_le_budget _ _ _)).trans
    (DistIt.filterMap_styled st.isTransparent (s.strokeCircle st) _ _)

theorem pixelAt_fst (st : Style) (s : Sector) (bevel : SectorBevel) (p : Pt) (w : Pt × Color)
    (hw : s.pixelAt st bevel p = some w) : w.1 = p := by
  unfold pixelAt at hw
  simp only at hw
  split at hw
  · exact StyledPixelsIt.pixel_fst hw
  · cases hw

theorem toCircle_fromCircle (c : Circle) (ps : PlaneSector) : (fromCircle c ps).toCircle = c := rfl

theorem strokeCircle_eq (st : Style) (s : Sector) : s.strokeCircle st = s.toCircle.offset st.strokeOffset :=
  toCircle_fromCircle _ _

theorem styledBoundingBox_eq (st : Style) (s : Sector) :
    s.styledBoundingBox st = (s.strokeCircle st).boundingBox :=
  (Circle.offset_boundingBox_of_nonneg s.toCircle _ st.strokeOffset_nonneg).symm

theorem boxPixels (st : Style) (s : Sector) (bevel : SectorBevel) :
    BoxPixels (s.styledPixels st bevel) st.isTransparent (s.styledBoundingBox st) (s.pixelAt st bevel) :=
  ⟨by rw [styledBoundingBox_eq]; exact styledPixels_eq st s bevel, pixelAt_fst st s bevel⟩

/-- What a styled sector paints at `p` on an unbounded target. -/
def styledExpected (st : Style) (s : Sector) (bevel : SectorBevel) (p : Pt) : Option Color :=
  if st.isTransparent then none
  else if (s.styledBoundingBox st).contains p = true then (s.pixelAt st bevel p).map (·.2)
  else none

theorem draw_map (st : Style) (s : Sector) (bevel : SectorBevel) (B : Rect)
    (h : (s.styledBoundingBox st).InRange) (p : Pt) :
    runNative B (s.drawStyled st bevel) p =
      if B.contains p = true then s.styledExpected st bevel p else none :=
  (boxPixels st s bevel).draw_map h B p

theorem offset_translate (s : Sector) (t : Pt) (o : Int) :
    (s.translate t).offset o = (s.offset o).translate t := by
  unfold offset
  have : (s.translate t).toCircle = s.toCircle.translate t := rfl
  rw [this, Circle.translate_offset]
  rfl

theorem translate_strokeCircle (st : Style) (s : Sector) (t : Pt) :
    (s.translate t).strokeCircle st = (s.strokeCircle st).translate t :=
  congrArg Sector.toCircle (offset_translate s t st.strokeOffset)

theorem translate_styledBoundingBox (st : Style) (s : Sector) (t : Pt) :
    (s.translate t).styledBoundingBox st = (s.styledBoundingBox st).translate t :=
  Rect.offset_translate s.boundingBox t st.strokeOffset

/-- The stroke and fill areas move with the sector, so everything of the iterator state except the
distance iterator is translation independent. -/
theorem styledPixelsIt_translate (st : Style) (s : Sector) (bevel : SectorBevel) (t : Pt) :
    (s.translate t).styledPixelsIt st bevel =
      { s.styledPixelsIt st bevel with iter := ((s.translate t).styledPixelsIt st bevel).iter } := by
  have hS : (s.translate t).strokeArea st = (s.strokeArea st).translate t := offset_translate s t _
  have hF : (s.translate t).fillArea st = (s.fillArea st).translate t := offset_translate s t _
  unfold styledPixelsIt
  rw [hS, hF]
  rfl

/-- The distance iterator plays no part in what the loop body makes of an item. (About a variable
`it`: for the concrete state `s.styledPixelsIt st bevel` the same `rfl` is slow to check.) -/
theorem StyledPixelsIt.inOuter_iter (it : StyledPixelsIt) (i : DistIt) (x : DistItem) :
    ({ it with iter := i } : StyledPixelsIt).inOuter x = it.inOuter x := rfl
theorem StyledPixelsIt.pixel_iter (it : StyledPixelsIt) (i : DistIt) (x : DistItem) :
    ({ it with iter := i } : StyledPixelsIt).pixel x = it.pixel x := rfl

theorem pixelAt_translate (st : Style) (s : Sector) (bevel : SectorBevel) (t p : Pt) :
    (s.translate t).pixelAt st bevel (p + t) = (s.pixelAt st bevel p).map (fun w => (w.1 + t, w.2)) := by
  unfold pixelAt
  simp only
  rw [translate_strokeCircle, Circle.translate_center2x, DistIt.item_translate, styledPixelsIt_translate,
    StyledPixelsIt.inOuter_iter, StyledPixelsIt.pixel_iter]
  obtain ⟨x, hx, hx1⟩ : ∃ x, DistIt.item (s.strokeCircle st).center2x p = x ∧ x.1 = p := ⟨_, rfl, rfl⟩
  rw [hx, StyledPixelsIt.pixel_point _ x (p + t)]
  show (if (s.styledPixelsIt st bevel).inOuter x then _ else none) = _
  split
  · cases hpx : (s.styledPixelsIt st bevel).pixel x with
    | none => rfl
    | some w => rw [Option.map_some, Option.map_some, ← hx1, StyledPixelsIt.pixel_fst hpx]
  · rfl

end Sector
end EG
