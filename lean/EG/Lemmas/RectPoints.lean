/-
  EG.Lemmas.RectPoints — the `rectangle::Points` iterator (state machine) equals its closed form
  `pointsSpec` (rows and columns with the code's saturating ends), row-major, each point once; inside
  the `i32` range, or for an empty rectangle, that is `Rect.grid`, rows times columns without
  saturation (`pointsSpec_eq_grid`, the one place where the range guard is used): exactly the points
  `contains` accepts, `width * height` of them. Counting (`Glue3`, behind the step bounds of
  Props/C08/TerminationThick.lean): a duplicate-free list of points that all lie in a rectangle has at
  most `width * height` items, whatever the rectangle (`Rect.contains` is the unbounded "top left + size"
  test).
-/
import EG.Lemmas.Rect
import EG.Lemmas.Stream
namespace EG

/-- Range guard for one rectangle: empty, or no `i32`/`u32` saturation in `points()`. -/
def Rect.Ok (r : Rect) : Prop := r.isZeroSized = true ∨ r.InRange
instance (r : Rect) : Decidable r.Ok := by unfold Rect.Ok; exact inferInstance

namespace Rect

/-- Closed form of what the iterator state still has to yield. -/
def PointsIt.rest (it : PointsIt) : List Pt :=
  if it.y < it.yEnd then
    (irange it.x it.xEnd).map (fun x => (⟨x, it.y⟩ : Pt)) ++
      (irange (it.y + 1) it.yEnd).flatMap (fun y => (irange it.xStart it.xEnd).map (fun x => (⟨x, y⟩ : Pt)))
  else []

/-- One call of `next` may step to the next row once, so the fuel counts the rows that are left. -/
theorem PointsIt.nextFuel_spec : ∀ (fuel : Nat) (it : PointsIt), (it.yEnd - it.y).toNat < fuel →
    it.rest = unroll (it.nextFuel fuel) PointsIt.rest := by
  intro fuel
  induction fuel with
  | zero => intro it h; omega
  | succ fuel ih =>
    intro it h
    unfold PointsIt.nextFuel
    by_cases hy : it.y < it.yEnd
    · rw [if_pos hy]
      by_cases hx : it.x < it.xEnd
      · rw [if_pos hx]
        simp only [PointsIt.rest, if_pos hy, unroll]
        rw [irange_cons hx]
        simp
      · rw [if_neg hx, ← ih { it with y := it.y + 1, x := it.xStart } (by dsimp only; omega)]
        simp only [PointsIt.rest, if_pos hy]
        rw [irange_empty (by omega)]
        by_cases hy2 : it.y + 1 < it.yEnd
        · rw [if_pos hy2, irange_cons hy2]; simp
        · rw [if_neg hy2, irange_empty (a := it.y + 1) (b := it.yEnd) (by omega)]; simp
    · rw [if_neg hy]
      simp [PointsIt.rest, hy, unroll]

theorem PointsIt.yields : Yields PointsIt.next PointsIt.rest :=
  fun it => PointsIt.nextFuel_spec _ it (by omega)

theorem PointsIt.drains : Drains PointsIt.next PointsIt.toListFuel :=
  ⟨fun _ => rfl, fun n it => by rw [PointsIt.toListFuel]; cases it.next <;> rfl⟩

theorem PointsIt.nextFuel_stable : ∀ (f1 f2 : Nat) (it : PointsIt),
    (it.yEnd - it.y).toNat < f1 → (it.yEnd - it.y).toNat < f2 → it.nextFuel f1 = it.nextFuel f2 :=
  loop_stable (fun it : PointsIt => (it.yEnd - it.y).toNat) fun n m it h => by
    unfold PointsIt.nextFuel
    by_cases hy : it.y < it.yEnd
    · rw [if_pos hy, if_pos hy, h _ (by dsimp only; omega)]
    · rw [if_neg hy, if_neg hy]

theorem PointsIt.nextFuel_rows_le : ∀ (fuel : Nat) (it : PointsIt) (p : Pt) (it' : PointsIt),
    it.nextFuel fuel = some (p, it') → (it'.yEnd - it'.y).toNat ≤ (it.yEnd - it.y).toNat := by
  intro fuel
  induction fuel with
  | zero => intro it p it' h; simp [PointsIt.nextFuel] at h
  | succ n ih =>
    intro it p it' h
    unfold PointsIt.nextFuel at h
    by_cases hy : it.y < it.yEnd
    · rw [if_pos hy] at h
      by_cases hx : it.x < it.xEnd
      · rw [if_pos hx] at h
        injection h with h
        injection h with _ h2
        subst h2
        exact Nat.le_refl _
      · rw [if_neg hx] at h
        have := ih _ p it' h
        dsimp only at this
        omega
    · rw [if_neg hy] at h
      exact absurd h (by simp)

theorem PointsIt.rest_length (it : PointsIt) (hy : it.y < it.yEnd) :
    it.rest.length = (it.xEnd - it.x).toNat + (it.yEnd - (it.y + 1)).toNat * (it.xEnd - it.xStart).toNat := by
  simp only [PointsIt.rest, if_pos hy, List.length_append, List.length_map, irange_length]
  rw [length_flatMap_const _ _ (it.xEnd - it.xStart).toNat (by intro a _; simp [irange_length]), irange_length]

theorem points_eq_rest (r : Rect) : r.points = r.pointsIt.rest := by
  unfold points
  apply PointsIt.drains.eq_rest PointsIt.yields
  unfold pointsIt
  by_cases hz : r.isZeroSized = true
  · simp [hz, PointsIt.rest, PointsIt.empty]
  · simp only [hz, Bool.false_eq_true, ↓reduceIte]
    by_cases hy : r.tl.y < r.rowsEnd
    · rw [PointsIt.rest_length _ hy]
      dsimp only
      have : (r.rowsEnd - r.tl.y).toNat = (r.rowsEnd - (r.tl.y + 1)).toNat + 1 := by omega
      rw [this, Nat.succ_mul]; omega
    · simp [PointsIt.rest, hy]

theorem points_eq_spec (r : Rect) : r.points = r.pointsSpec := by
  rw [points_eq_rest]
  unfold pointsSpec pointsIt
  by_cases hz : r.isZeroSized = true
  · simp only [hz, if_true]
    rfl
  · simp only [hz, Bool.false_eq_true, if_false, PointsIt.rest, rows, columns, rowsEnd, columnsEnd]
    by_cases hy : r.tl.y < satAddI32 r.tl.y (satAsI32 r.size.h)
    · simp only [hy, ↓reduceIte]; rw [irange_cons hy]; simp
    · simp only [hy, ↓reduceIte]
      rw [irange_empty (a := r.tl.y) (b := satAddI32 r.tl.y (satAsI32 r.size.h)) (by omega)]; simp

theorem satAddI32_satAsI32 {a : Int} {n : Nat} (ha : inI32 a) (hn : n ≤ 2147483647)
    (hs : a + n ≤ 2147483647) : satAddI32 a (satAsI32 n) = a + n := by
  unfold inI32 at ha
  rw [satAsI32_of_le hn]
  unfold satAddI32
  rw [if_neg (by omega), if_neg (by omega)]

theorem rowsEnd_eq {r : Rect} (h : r.InRange) : r.rowsEnd = r.tl.y + r.size.h := by
  obtain ⟨_, hy, _, hh, _, hyh⟩ := h
  exact satAddI32_satAsI32 hy hh hyh

theorem columnsEnd_eq {r : Rect} (h : r.InRange) : r.columnsEnd = r.tl.x + r.size.w := by
  obtain ⟨hx, _, hw, _, hxw, _⟩ := h
  exact satAddI32_satAsI32 hx hw hxw

/-- Rows times columns, without saturation. -/
def grid (r : Rect) : List Pt :=
  (irange r.tl.y (r.tl.y + r.size.h)).flatMap fun y =>
    (irange r.tl.x (r.tl.x + r.size.w)).map fun x => (⟨x, y⟩ : Pt)

theorem mem_grid {r : Rect} {p : Pt} : p ∈ r.grid ↔ r.contains p = true := by
  rw [contains_iff]
  simp only [grid, List.mem_flatMap, List.mem_map, mem_irange]
  constructor
  · rintro ⟨y, hy, x, hx, rfl⟩; simp only; omega
  · intro hp; exact ⟨p.y, by omega, p.x, by omega, rfl⟩

theorem grid_of_zero {r : Rect} (h : r.isZeroSized = true) : r.grid = [] := by
  apply List.eq_nil_iff_forall_not_mem.mpr
  intro p hp
  rw [mem_grid, contains_false_of_zero (isZeroSized_iff.mp h)] at hp
  cases hp

theorem pointsSpec_of_zero {r : Rect} (h : r.isZeroSized = true) : r.pointsSpec = [] := by
  unfold pointsSpec; rw [if_pos h]

theorem pointsSpec_eq_grid {r : Rect} (h : r.Ok) : r.pointsSpec = r.grid := by
  rcases h with hz | h
  · rw [pointsSpec_of_zero hz, grid_of_zero hz]
  · unfold pointsSpec
    split
    · rename_i hz; rw [grid_of_zero hz]
    · have hr := rowsEnd_eq h
      have hc := columnsEnd_eq h
      unfold rowsEnd at hr; unfold columnsEnd at hc
      simp only [rows, columns, hr, hc, grid]

theorem points_eq_grid {r : Rect} (h : r.Ok) : r.points = r.grid := by
  rw [points_eq_spec, pointsSpec_eq_grid h]

theorem mem_pointsSpec {r : Rect} (h : r.InRange) {p : Pt} :
    p ∈ r.pointsSpec ↔ r.contains p = true := by
  rw [pointsSpec_eq_grid (Or.inr h), mem_grid]

theorem mem_points {r : Rect} (h : r.InRange) {p : Pt} : p ∈ r.points ↔ r.contains p = true := by
  rw [points_eq_spec, mem_pointsSpec h]

theorem pairwise_flatMap_rows (ys xs : List Int) (hy : ys.Pairwise (· < ·)) (hx : xs.Pairwise (· < ·)) :
    (ys.flatMap (fun y => xs.map (fun x => (⟨x, y⟩ : Pt)))).Pairwise Pt.rowMajorLt := by
  induction ys with
  | nil => simp
  | cons y ys ih =>
    rw [List.pairwise_cons] at hy
    simp only [List.flatMap_cons]
    rw [List.pairwise_append]
    refine ⟨?_, ih hy.2, ?_⟩
    · rw [List.pairwise_map]
      exact hx.imp (by intro a b hab; right; exact ⟨rfl, hab⟩)
    · intro a ha b hb
      simp only [List.mem_map] at ha
      simp only [List.mem_flatMap, List.mem_map] at hb
      obtain ⟨x, _, rfl⟩ := ha
      obtain ⟨y', hy', x', _, rfl⟩ := hb
      left; exact hy.1 y' hy'

/-- **Row-major order, hence each point once.** -/
theorem points_rowMajor (r : Rect) : r.points.Pairwise Pt.rowMajorLt := by
  rw [points_eq_spec]
  unfold pointsSpec
  split
  · simp
  · exact pairwise_flatMap_rows _ _ (irange_pairwise_lt _ _) (irange_pairwise_lt _ _)

theorem nodup_of_rowMajor {l : List Pt} (h : l.Pairwise Pt.rowMajorLt) : l.Nodup :=
  h.imp (by
    intro a b h heq
    subst heq
    unfold Pt.rowMajorLt at h
    omega)

theorem points_nodup (r : Rect) : r.points.Nodup := nodup_of_rowMajor (points_rowMajor r)

theorem grid_rowMajor (r : Rect) : r.grid.Pairwise Pt.rowMajorLt :=
  pairwise_flatMap_rows _ _ (irange_pairwise_lt _ _) (irange_pairwise_lt _ _)

theorem grid_nodup (r : Rect) : r.grid.Nodup := nodup_of_rowMajor (grid_rowMajor r)

theorem grid_length (r : Rect) : r.grid.length = r.size.w * r.size.h := by
  unfold grid
  rw [length_flatMap_const _ _ r.size.w (by intro a _; simp only [List.length_map, irange_length]; omega),
    irange_length, Nat.mul_comm]
  congr 1; omega

theorem grid_row (x y : Int) (w : Nat) :
    (⟨⟨x, y⟩, ⟨w, 1⟩⟩ : Rect).grid = (irange x (x + w)).map fun x' => (⟨x', y⟩ : Pt) := by
  simp only [grid]
  rw [show y + ((1 : Nat) : Int) = y + 1 by omega, irange_cons (a := y) (b := y + 1) (by omega),
    irange_empty (a := y + 1) (b := y + 1) (Int.le_refl _)]
  simp

theorem points_length {r : Rect} (h : r.InRange) : r.points.length = r.size.w * r.size.h := by
  rw [points_eq_grid (Or.inr h), grid_length]

theorem PointsIt.rest_length_lt_budget (it : PointsIt) : it.rest.length < it.budget := by
  unfold PointsIt.budget
  by_cases hy : it.y < it.yEnd
  · rw [PointsIt.rest_length _ hy]
    have h1 : (it.yEnd - it.y).toNat = (it.yEnd - (it.y + 1)).toNat + 1 := by omega
    rw [h1]
    have h2 : (it.yEnd - (it.y + 1)).toNat * (it.xEnd - it.xStart).toNat ≤
        ((it.yEnd - (it.y + 1)).toNat + 1) * ((it.xEnd - it.xStart).toNat + 1) :=
      Nat.mul_le_mul (Nat.le_succ _) (Nat.le_succ _)
    omega
  · simp [PointsIt.rest, hy]

theorem PointsIt.empty_rest : PointsIt.empty.rest = [] := by
  simp [PointsIt.rest, PointsIt.empty]

theorem grid_eq_range (r : Rect) :
    r.grid = (List.range r.size.h).flatMap fun (dy : Nat) =>
      (List.range r.size.w).map fun (dx : Nat) => (⟨r.tl.x + (dx : Int), r.tl.y + (dy : Int)⟩ : Pt) := by
  simp only [grid, irange]
  rw [show (r.tl.y + (r.size.h : Int) - r.tl.y).toNat = r.size.h by omega,
    show (r.tl.x + (r.size.w : Int) - r.tl.x).toNat = r.size.w by omega, List.flatMap_map]
  simp only [List.map_map]
  rfl

theorem pointsSpec_range {r : Rect} (h : r.InRange) :
    r.pointsSpec = (List.range r.size.h).flatMap (fun (dy : Nat) =>
      (List.range r.size.w).map (fun (dx : Nat) => (⟨r.tl.x + (dx : Int), r.tl.y + (dy : Int)⟩ : Pt))) := by
  rw [pointsSpec_eq_grid (Or.inr h), grid_eq_range]

end Rect

namespace Glue3

theorem nodup_in_rect_length_le (ps : List Pt) (hn : ps.Nodup) (r : Rect)
    (h : ∀ p ∈ ps, r.contains p = true) : ps.length ≤ r.size.w * r.size.h := by
  rw [← Rect.grid_length r]
  exact hn.length_le_of_subset fun p hp => Rect.mem_grid.mpr (h p hp)

theorem filter_points_length_le (r : Rect) (f : Pt → Bool) :
    (r.points.filter f).length ≤ r.points.length := List.length_filter_le _ _

end Glue3
end EG
