/-
  EG.Lemmas.ImageRaw — `ImageRaw::new`, row padding, `pixel`; pixel `(x, y)` of an image is pixel `x`
  of the byte slice `data[y * bytes_per_row .. (y + 1) * bytes_per_row]`, for every depth and both
  data orders.
-/
import EG.Model.ImageRaw
import EG.Lemmas.RawIter
import EG.Lemmas.RectPoints
namespace EG.Img
open EG EG.Raw

/-- The buffer holds at most `usize::MAX` pixels: true of every Rust slice for depths >= 8
(`len <= isize::MAX`); for sub-byte depths it says `len * (8 / bits) <= usize::MAX`. Under it the
saturating addition in `nth` is invisible. -/
def Fits (bits : Nat) (data : List Nat) : Prop := pixelCount bits data.length ≤ usizeMax

/-- A well-formed raw image: the length check of `ImageRaw::new` passed, the depth is one of the
seven raw types, width and height survive the `as i32` casts of `pixel`, and the buffer holds at
most `usize::MAX` pixels (`Fits`). -/
structure ImageRaw.WF (im : ImageRaw) : Prop where
  bits : validBits im.bits = true
  len : im.data.length = bytesPerRow im.size.w im.bits * im.size.h
  wI32 : im.size.w ≤ 2147483647
  hI32 : im.size.h ≤ 2147483647
  fits : Fits im.bits im.data

namespace ImageRaw

theorem new_eq (bits : Nat) (o : Order) (data : List Nat) (size : Sz) :
    new bits o data size =
      if data.length = bytesPerRow size.w bits * size.h then .ok ⟨bits, o, data, size⟩
      else .error (bytesPerRow size.w bits * size.h) := by
  unfold new
  by_cases h : data.length = bytesPerRow size.w bits * size.h
  · simp only [h, bne_self_eq_false, Bool.false_eq_true, ↓reduceIte]
  · have hb : (data.length != bytesPerRow size.w bits * size.h) = true := by simpa using h
    simp only [hb, ↓reduceIte, h]

theorem new_ok_iff (bits : Nat) (o : Order) (data : List Nat) (size : Sz) (im : ImageRaw) :
    new bits o data size = .ok im ↔
      (data.length = bytesPerRow size.w bits * size.h ∧ im = ⟨bits, o, data, size⟩) := by
  rw [new_eq]
  split
  · rename_i h
    simp only [Except.ok.injEq, h, true_and]
    exact eq_comm
  · rename_i h
    simp only [reduceCtorEq, h, false_and]

theorem wf_of_new {bits : Nat} {o : Order} {data : List Nat} {size : Sz} {im : ImageRaw}
    (h : new bits o data size = .ok im) (hb : validBits bits = true)
    (hw : size.w ≤ 2147483647) (hh : size.h ≤ 2147483647) (hf : Fits bits data) : im.WF := by
  rw [new_ok_iff] at h
  obtain ⟨hl, rfl⟩ := h
  exact ⟨hb, hl, hw, hh, hf⟩

theorem dataWidth_sub_byte {im : ImageRaw} (h : im.bits < 8) :
    im.dataWidth = bytesPerRow im.size.w im.bits * (8 / im.bits) := by
  unfold dataWidth; simp only [h, ↓reduceIte]

theorem dataWidth_whole_byte {im : ImageRaw} (h : ¬ im.bits < 8) : im.dataWidth = im.size.w := by
  unfold dataWidth; simp only [h, ↓reduceIte]

/-- No underflow in `row_skip = data_width - width`. -/
theorem width_le_dataWidth {im : ImageRaw} (hb : validBits im.bits = true) :
    im.size.w ≤ im.dataWidth :=
  le_paddedWidth hb im.size.w

theorem pixelCount_eq {im : ImageRaw} (hw : im.WF) :
    pixelCount im.bits im.data.length = im.dataWidth * im.size.h := by
  rw [hw.len]
  exact pixelCount_rows hw.bits im.size.w im.size.h

theorem asI32_of_le {n : Nat} (h : n ≤ 2147483647) : asI32 n = n := by
  unfold asI32
  have : n % 4294967296 = n := Nat.mod_eq_of_lt (by omega)
  rw [this]
  have : n < 2147483648 := by omega
  simp only [this, ↓reduceIte]

/-- Beyond `i32::MAX` the cast wraps: a width of `2^31` becomes `i32::MIN`, so the test
`p.x >= width as i32` holds for every `p` and `pixel` answers `None` everywhere. -/
theorem pixel_none_of_width_wraps (im : ImageRaw) (h : im.size.w = 2147483648) (p : Pt) :
    im.pixel p = none := by
  unfold pixel asI32
  rw [h]
  have : p.x < 0 ∨ p.y < 0 ∨ p.x ≥ (if 2147483648 % 4294967296 < 2147483648
      then (((2147483648 % 4294967296 : Nat)) : Int)
      else ((2147483648 % 4294967296 : Nat) : Int) - 4294967296) ∨
      p.y ≥ (if im.size.h % 4294967296 < 2147483648 then ((im.size.h % 4294967296 : Nat) : Int)
        else ((im.size.h % 4294967296 : Nat) : Int) - 4294967296) := by
    simp only [show ¬ (2147483648 % 4294967296 < 2147483648) from by omega, ↓reduceIte]
    omega
  simp only [this, ↓reduceIte]

theorem contains_boundingBox {im : ImageRaw} {p : Pt} :
    im.boundingBox.contains p = true ↔ 0 ≤ p.x ∧ p.x < im.size.w ∧ 0 ≤ p.y ∧ p.y < im.size.h := by
  rw [Rect.contains_iff]; simp only [boundingBox, Pt.zero]; omega

theorem index_lt {im : ImageRaw} (hw : im.WF) {x y : Nat} (hx : x < im.size.w) (hy : y < im.size.h) :
    x + y * im.dataWidth < pixelCount im.bits im.data.length := by
  rw [pixelCount_eq hw]
  exact lin_lt hx hy (width_le_dataWidth hw.bits)

theorem pixel_eq {im : ImageRaw} (hw : im.WF) (p : Pt) :
    im.pixel p =
      if im.boundingBox.contains p = true then
        load im.bits im.order im.data (p.x.toNat + p.y.toNat * im.dataWidth)
      else none := by
  unfold pixel
  rw [asI32_of_le hw.wI32, asI32_of_le hw.hI32]
  by_cases hc : im.boundingBox.contains p = true
  · simp only [hc, ↓reduceIte]
    rw [contains_boundingBox] at hc
    have : ¬ (p.x < 0 ∨ p.y < 0 ∨ p.x ≥ (im.size.w : Int) ∨ p.y ≥ (im.size.h : Int)) := by omega
    simp only [this, ↓reduceIte]
    have := Iter.nth_fst (Iter.new im.bits im.order im.data) hw.bits hw.fits
      (p.x.toNat + p.y.toNat * im.dataWidth)
    simp only [Iter.new, Nat.zero_add] at this ⊢
    exact this
  · simp only [hc]
    rw [contains_boundingBox] at hc
    have : (p.x < 0 ∨ p.y < 0 ∨ p.x ≥ (im.size.w : Int) ∨ p.y ≥ (im.size.h : Int)) := by omega
    simp only [this, ↓reduceIte, Bool.false_eq_true]

theorem pixel_of_lt {im : ImageRaw} (hw : im.WF) {x y : Nat} (hx : x < im.size.w) (hy : y < im.size.h) :
    im.pixel ⟨x, y⟩ = load im.bits im.order im.data (x + y * im.dataWidth) := by
  have hc : im.boundingBox.contains ⟨x, y⟩ = true := by
    rw [contains_boundingBox]
    show (0 : Int) ≤ x ∧ (x : Int) < im.size.w ∧ (0 : Int) ≤ y ∧ (y : Int) < im.size.h
    omega
  rw [pixel_eq hw, if_pos hc]
  rfl

theorem pixel_none_iff {im : ImageRaw} (hw : im.WF) (p : Pt) :
    im.pixel p = none ↔ im.boundingBox.contains p = false := by
  rw [pixel_eq hw]
  by_cases hc : im.boundingBox.contains p = true
  · simp only [hc, ↓reduceIte, Bool.true_eq_false, iff_false]
    rw [contains_boundingBox] at hc
    rw [load_eq_none_iff hw.bits]
    have := index_lt hw (x := p.x.toNat) (y := p.y.toNat) (by omega) (by omega)
    omega
  · simp only [hc, Bool.false_eq_true, ↓reduceIte]

end ImageRaw

def ImageRaw.rowBytes (im : ImageRaw) (y : Nat) : List Nat :=
  (im.data.drop (y * bytesPerRow im.size.w im.bits)).take (bytesPerRow im.size.w im.bits)

theorem ImageRaw.pixel_row_aligned {im : ImageRaw} (hw : im.WF) {x y : Nat} (hx : x < im.size.w)
    (hy : y < im.size.h) :
    im.pixel ⟨x, y⟩ = load im.bits im.order (im.rowBytes y) x := by
  obtain ⟨cells, hrow, hdw⟩ : ∃ r, bytesPerRow im.size.w im.bits = r * cellBytes im.bits ∧
      im.dataWidth = r * perCell im.bits := row_cells hw.bits im.size.w
  have hrows : bytesPerRow im.size.w im.bits ≤ (im.data.drop (y * bytesPerRow im.size.w im.bits)).length := by
    have := mul_add_le_mul (bytesPerRow im.size.w im.bits) hy
    rw [List.length_drop, hw.len, Nat.mul_comm (bytesPerRow im.size.w im.bits) im.size.h]
    omega
  have hx1 : x < pixelCount im.bits (bytesPerRow im.size.w im.bits) := by
    have h1 : pixelCount im.bits (bytesPerRow im.size.w im.bits * 1) = im.dataWidth * 1 :=
      pixelCount_rows hw.bits im.size.w 1
    have := ImageRaw.width_le_dataWidth hw.bits
    rw [Nat.mul_one, Nat.mul_one] at h1
    omega
  rw [ImageRaw.pixel_of_lt hw hx hy]
  unfold ImageRaw.rowBytes
  rw [load_take hw.bits _ _ hrows hx1, hrow, ← Nat.mul_assoc, load_drop hw.bits, hdw, Nat.mul_assoc]

end EG.Img
