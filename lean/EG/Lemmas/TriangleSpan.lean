/-
  EG.Lemmas.TriangleSpan — the row spans of a filled triangle and the full closed form of
  `points()`.

  * `scanline_intersection(y)` is the empty scanline extended by every pixel, in row `y`, of the
    Bresenham edge lines in use (`usedLines`: the three edges of the sorted triangle, or only
    `p1 p3` when the area is zero): the span is the hull of those pixels (`span_covers`,
    `span_ends`), it lies inside the columns of the bounding box, and it is non-empty for every row
    of the bounding box (the line `p1 p3` passes through every row).
  * Hence the early `None` of the non-fused iterators never fires and the step budget is never
    exhausted: `points_eq_rows` — `points()` is exactly the rows of the bounding box in order, each
    contributing its span; so it is row-major sorted, duplicate-free and inside the bounding box,
    and it contains every pixel of every edge line.
-/
import EG.Lemmas.TriangleLine
import EG.Lemmas.TrianglePoints
import EG.Lemmas.RectPoints
namespace EG
namespace Triangle

/-- The lines `scanline_intersection` intersects the scanline with. -/
def usedLines (t : Triangle) : List Line :=
  if t.areaDoubled = 0 then [⟨t.sortedYx.v1, t.sortedYx.v3⟩] else t.edgeLines

theorem long_edge_mem_usedLines (t : Triangle) :
    (⟨t.sortedYx.v1, t.sortedYx.v3⟩ : Line) ∈ usedLines t := by
  unfold usedLines edgeLines
  split <;> simp

theorem usedLines_of_nonzero {t : Triangle} (h : t.areaDoubled ≠ 0) : usedLines t = t.edgeLines := by
  unfold usedLines; simp [h]

theorem scanlineIntersection_eq_foldl_used (t : Triangle) (y : Int) :
    t.scanlineIntersection y = (usedLines t).foldl Scanline.bint (Scanline.newEmpty y) := by
  unfold scanlineIntersection usedLines edgeLines
  split <;> rfl

def rowPix (t : Triangle) (y : Int) : List Pt := (usedLines t).flatMap (fun l => Scanline.rowPixels l y)

theorem mem_rowPix {t : Triangle} {y : Int} {q : Pt} :
    q ∈ rowPix t y ↔ ∃ l ∈ usedLines t, q ∈ Line.points l ∧ q.y = y := by
  unfold rowPix
  simp only [List.mem_flatMap, Scanline.mem_rowPixels]

theorem foldl_bint_eq_extendAll : ∀ (L : List Line) (s : Scanline),
    L.foldl Scanline.bint s = s.extendAll (L.flatMap (fun l => Scanline.rowPixels l s.y)) := by
  intro L
  induction L with
  | nil => intro s; rfl
  | cons l L ih =>
    intro s
    rw [List.foldl_cons, ih, Scanline.bint_eq_extendAll s l, Scanline.extendAll_y, List.flatMap_cons]
    unfold Scanline.extendAll
    rw [List.foldl_append]

theorem scanlineIntersection_eq_extendAll (t : Triangle) (y : Int) :
    t.scanlineIntersection y = (Scanline.newEmpty y).extendAll (rowPix t y) := by
  rw [scanlineIntersection_eq_foldl_used, foldl_bint_eq_extendAll]
  rfl

theorem span_eq_scanlineIntersection (t : Triangle) (y : Int) :
    t.span y = t.scanlineIntersection y := by
  unfold span
  exact scanlineIntersection_of_mem_orders (sortedClockwise_mem_orders t) y

theorem span_eq_extendAll (t : Triangle) (y : Int) :
    t.span y = (Scanline.newEmpty y).extendAll (rowPix t y) := by
  rw [span_eq_scanlineIntersection, scanlineIntersection_eq_extendAll]

theorem span_y (t : Triangle) (y : Int) : (t.span y).y = y := by
  rw [span_eq_extendAll, Scanline.extendAll_y]; rfl

theorem span_covers {t : Triangle} {y : Int} {q : Pt} (h : q ∈ rowPix t y) : (t.span y).Covers q.x := by
  rw [span_eq_extendAll]; exact Scanline.extendAll_covers _ _ q h

theorem span_ends (t : Triangle) (y : Int) (h : (t.span y).xs < (t.span y).xe) :
    (∃ q ∈ rowPix t y, q.x = (t.span y).xs) ∧ (∃ q ∈ rowPix t y, q.x + 1 = (t.span y).xe) := by
  rw [span_eq_extendAll] at h ⊢
  obtain ⟨h1, h2⟩ := Scanline.extendAll_ends (rowPix t y) (Scanline.newEmpty y) h
  have hne : ¬ ((Scanline.newEmpty y).xs < (Scanline.newEmpty y).xe) := by
    simp [Scanline.newEmpty]
  constructor
  · rcases h1 with h1 | ⟨c, _⟩
    · exact h1
    · exact absurd c hne
  · rcases h2 with h2 | ⟨c, _⟩
    · exact h2
    · exact absurd c hne

theorem boundingBox_eq (t : Triangle) :
    t.boundingBox.tl = ⟨xMin t, yMin t⟩ ∧ (t.boundingBox.size.w : Int) = xMax t - xMin t + 1 ∧
    (t.boundingBox.size.h : Int) = yMax t - yMin t + 1 := by
  obtain ⟨hx, hy⟩ := min_le_max t
  rw [boundingBox_eq_withCorners, Pt.ext_iff']
  unfold Rect.withCorners
  dsimp only
  omega

theorem sorted_extremes (t : Triangle) :
    yMin t = t.sortedYx.v1.y ∧ yMax t = t.sortedYx.v3.y := by
  obtain ⟨_, _, e3, e4⟩ := extremes_of_mem_orders (sortedYx_mem_orders t)
  obtain ⟨h1, h2⟩ := sortedYx_y_le t
  rw [← e3, ← e4]
  unfold yMin yMax
  omega

theorem usedLines_subset (t : Triangle) : ∀ l ∈ usedLines t,
    l = ⟨t.sortedYx.v1, t.sortedYx.v2⟩ ∨ l = ⟨t.sortedYx.v1, t.sortedYx.v3⟩ ∨
    l = ⟨t.sortedYx.v2, t.sortedYx.v3⟩ := by
  intro l hl
  unfold usedLines edgeLines at hl
  split at hl
  · simp only [List.mem_cons, List.mem_nil_iff, or_false] at hl
    exact Or.inr (Or.inl hl)
  · simpa using hl

theorem usedLines_pixel_bounds {t : Triangle} {l : Line} (hl : l ∈ usedLines t) {q : Pt}
    (hq : q ∈ Line.points l) :
    xMin t ≤ q.x ∧ q.x ≤ xMax t ∧ yMin t ≤ q.y ∧ q.y ≤ yMax t := by
  obtain ⟨e1, e2, e3, e4⟩ := extremes_of_mem_orders (sortedYx_mem_orders t)
  have v1 := vertices_within t.sortedYx (Or.inl rfl)
  have v2 := vertices_within t.sortedYx (Or.inr (Or.inl rfl))
  have v3 := vertices_within t.sortedYx (Or.inr (Or.inr rfl))
  rw [e1, e2, e3, e4] at v1 v2 v3
  rcases usedLines_subset t l hl with rfl | rfl | rfl
  · exact Line.mem_points_box v1 v2 hq
  · exact Line.mem_points_box v1 v3 hq
  · exact Line.mem_points_box v2 v3 hq

theorem span_within (t : Triangle) (y : Int) :
    ¬ (t.span y).xs < (t.span y).xe ∨ (xMin t ≤ (t.span y).xs ∧ (t.span y).xe ≤ xMax t + 1) := by
  rw [span_eq_extendAll]
  apply Scanline.extendAll_within
  · left; simp [Scanline.newEmpty]
  · intro q hq
    obtain ⟨l, hl, hq', _⟩ := mem_rowPix.mp hq
    have := usedLines_pixel_bounds hl hq'
    omega

theorem span_nonempty (t : Triangle) (y : Int) (h1 : yMin t ≤ y) (h2 : y ≤ yMax t) :
    (t.span y).xs < (t.span y).xe := by
  obtain ⟨e1, e2⟩ := sorted_extremes t
  have hl := long_edge_mem_usedLines t
  obtain ⟨q, hq, hy⟩ := Line.exists_point_in_row ⟨t.sortedYx.v1, t.sortedYx.v3⟩ y
    (by dsimp only; omega) (by dsimp only; omega)
  have := span_covers (mem_rowPix.mpr ⟨_, hl, hq, hy⟩)
  unfold Scanline.Covers at this; omega

theorem untilEmpty_all (sp : Int → Scanline) : ∀ (ys : List Int),
    (∀ y ∈ ys, (sp y).isEmpty = false) → untilEmpty sp ys = ys.map sp := by
  intro ys
  induction ys with
  | nil => intro _; rfl
  | cons y ys ih =>
    intro h
    simp only [untilEmpty, h y List.mem_cons_self, Bool.false_eq_true, ↓reduceIte, List.map_cons]
    rw [ih (fun y' hy' => h y' (List.mem_cons_of_mem _ hy'))]

theorem rowsSpec_all (sp : Int → Scanline) (rs re : Int)
    (h : ∀ y, rs ≤ y → y < re → (sp y).isEmpty = false) :
    rowsSpec sp rs re = (irange rs re).flatMap (fun y => (sp y).points) := by
  unfold rowsSpec seen
  by_cases hr : rs < re
  · simp only [hr, ↓reduceIte, h rs (Int.le_refl _) hr, Bool.false_eq_true]
    rw [untilEmpty_all sp _ (fun y hy => by
      rw [mem_irange] at hy; exact h y (by omega) hy.2), irange_cons hr]
    simp only [List.flatMap_cons, List.flatMap_map]
  · simp only [hr, ↓reduceIte]
    rw [irange_empty (a := rs) (b := re) (by omega)]; rfl

/-- The rows of the bounding box. -/
def rowList (t : Triangle) : List Int := irange (yMin t) (yMax t + 1)

theorem boundingBox_rows (t : Triangle) (h : t.boundingBox.InRange) :
    t.boundingBox.tl.y = yMin t ∧ t.boundingBox.rowsEnd = yMax t + 1 ∧ yMin t < yMax t + 1 := by
  obtain ⟨etl, ew, eh⟩ := boundingBox_eq t
  have := min_le_max t
  refine ⟨by rw [etl], ?_, by omega⟩
  rw [Rect.rowsEnd_eq h, etl]; dsimp only; omega

theorem rows_length_le (t : Triangle) :
    ((rowList t).flatMap (fun y => (t.span y).points)).length ≤
      t.boundingBox.size.w * t.boundingBox.size.h := by
  obtain ⟨etl, ew, eh⟩ := boundingBox_eq t
  have hlen := length_flatMap_le (rowList t) (fun y => (t.span y).points) t.boundingBox.size.w (by
    intro y _
    rw [Scanline.points_length]
    have := span_within t y
    omega)
  unfold rowList at hlen ⊢
  rw [irange_length, show (yMax t + 1 - yMin t).toNat = t.boundingBox.size.h by omega,
    Nat.mul_comm] at hlen
  exact hlen

theorem points_eq_rows (t : Triangle) (h : t.boundingBox.InRange) :
    t.points = (rowList t).flatMap (fun y => (t.span y).points) := by
  obtain ⟨hrs, hre, -⟩ := boundingBox_rows t h
  rw [points_eq_take, hre, hrs, rowsSpec_all]
  · exact List.take_of_length_le (Nat.le_succ_of_le (rows_length_le t))
  · intro y h1 h2
    rw [Scanline.isEmpty_false_iff]
    exact span_nonempty t y h1 (by omega)

theorem mem_points_iff (t : Triangle) (h : t.boundingBox.InRange) (p : Pt) :
    p ∈ t.points ↔ yMin t ≤ p.y ∧ p.y ≤ yMax t ∧ (t.span p.y).Covers p.x := by
  rw [points_eq_rows t h]
  unfold rowList
  simp only [List.mem_flatMap, mem_irange, Scanline.mem_points, span_y, Scanline.Covers]
  constructor
  · rintro ⟨y, ⟨h1, h2⟩, h3, h4, h5⟩
    subst h3
    exact ⟨h1, by omega, h4, h5⟩
  · rintro ⟨h1, h2, h3, h4⟩
    exact ⟨p.y, ⟨h1, by omega⟩, rfl, h3, h4⟩

theorem points_in_bbox (t : Triangle) (h : t.boundingBox.InRange) (p : Pt) (hp : p ∈ t.points) :
    t.boundingBox.contains p = true := by
  obtain ⟨h1, h2, h3⟩ := (mem_points_iff t h p).mp hp
  obtain ⟨etl, ew, eh⟩ := boundingBox_eq t
  rw [Rect.contains_iff, etl]
  dsimp only
  have := span_within t p.y
  unfold Scanline.Covers at h3
  refine ⟨?_, ?_, ?_, ?_⟩ <;> omega

theorem points_rowMajor (t : Triangle) (h : t.boundingBox.InRange) :
    t.points.Pairwise Pt.rowMajorLt := by
  rw [points_eq_rows t h, List.pairwise_flatMap]
  refine ⟨fun y _ => Scanline.points_pairwise _, ?_⟩
  unfold rowList
  refine (irange_pairwise_lt _ _).imp ?_
  intro y1 y2 hlt p hp q hq
  rw [Scanline.mem_points, span_y] at hp hq
  left; omega

theorem points_nodup (t : Triangle) (h : t.boundingBox.InRange) : t.points.Nodup :=
  (points_rowMajor t h).imp (by
    intro a b hab e
    subst e
    unfold Pt.rowMajorLt at hab; omega)

theorem edge_pixel_mem_points (t : Triangle) (h : t.boundingBox.InRange) {l : Line}
    (hl : l ∈ usedLines t) {q : Pt} (hq : q ∈ Line.points l) : q ∈ t.points := by
  rw [mem_points_iff t h]
  have hb := usedLines_pixel_bounds hl hq
  exact ⟨hb.2.2.1, hb.2.2.2, span_covers (mem_rowPix.mpr ⟨l, hl, hq, rfl⟩)⟩

theorem mem_points_iff_between (t : Triangle) (h : t.boundingBox.InRange) (p : Pt) :
    p ∈ t.points ↔
      ∃ q1 q2, q1 ∈ rowPix t p.y ∧ q2 ∈ rowPix t p.y ∧ q1.x ≤ p.x ∧ p.x ≤ q2.x := by
  rw [mem_points_iff t h]
  constructor
  · rintro ⟨_, _, h3⟩
    unfold Scanline.Covers at h3
    obtain ⟨⟨q1, hq1, e1⟩, ⟨q2, hq2, e2⟩⟩ := span_ends t p.y (by omega)
    exact ⟨q1, q2, hq1, hq2, by omega, by omega⟩
  · rintro ⟨q1, q2, hq1, hq2, h1, h2⟩
    have c1 := span_covers hq1
    have c2 := span_covers hq2
    obtain ⟨l, hl, hq, hy⟩ := mem_rowPix.mp hq1
    have hb := usedLines_pixel_bounds hl hq
    unfold Scanline.Covers at *
    refine ⟨by omega, by omega, by omega, by omega⟩

end Triangle
end EG
