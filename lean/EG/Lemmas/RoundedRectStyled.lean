/-
  EG.Lemmas.RoundedRectStyled — the styled rounded rectangle:
  * `StyledScanlines` in closed form; its fill range is "first hit .. last hit + 1" of the fill area's
    test within the stroke scanline, a correct search because the rows of a rounded rectangle are
    contiguous; so the two scanline lists of any stroke area and fill area in range are `StyledLines`
    of the two `contains` (no relation between the areas needed), and every styled scanline splits its
    row into stroke-left / fill / stroke-right (`RowOK`),
  * `FillInStroke` (the fill area lies in the stroke area), under which the colour of every point is
    the one the property text of C06 prescribes (`styledExpected`).
-/
import EG.Lemmas.RoundedRectShape
import EG.Lemmas.RowScanStyled
import EG.Lemmas.Style
namespace EG
namespace RoundedRect

theorem StyledScanlinesIt.style_advance (it : StyledScanlinesIt) (sl : RRContains) :
    ({ it with scanlines := sl } : StyledScanlinesIt).style = it.style := rfl

/-- What `StyledScanlines` still yields: the styled scanlines of the rows left. -/
def StyledScanlinesIt.rest (it : StyledScanlinesIt) : List StyledScanline :=
  it.scanlines.rest.map it.style

theorem StyledScanlinesIt.drains : Drains StyledScanlinesIt.next StyledScanlinesIt.toListFuel :=
  ⟨fun _ => rfl, fun n it => by rw [StyledScanlinesIt.toListFuel]; cases it.next <;> rfl⟩

theorem StyledScanlinesIt.yields : Yields StyledScanlinesIt.next StyledScanlinesIt.rest := by
  intro it
  unfold StyledScanlinesIt.next StyledScanlinesIt.rest
  rw [RRContains.yields it.scanlines]
  cases it.scanlines.next <;> rfl

theorem StyledScanlinesIt.toList_eq (it : StyledScanlinesIt) :
    it.toList = (irange it.scanlines.rowsStart it.scanlines.rowsEnd).map
      (fun y => it.style (it.scanlines.row y)) := by
  unfold StyledScanlinesIt.toList
  rw [StyledScanlinesIt.drains.eq_rest StyledScanlinesIt.yields (by
    unfold StyledScanlinesIt.rest RRContains.rest
    rw [List.length_map, List.length_map, irange_length]
    omega)]
  unfold StyledScanlinesIt.rest RRContains.rest
  rw [List.map_map]
  rfl

/-- What the styled scanline `l` of row `y` of the stroke area `S` is, relative to the fill area `F`. -/
structure RowOK (S F : RoundedRect) (y : Int) (l : StyledScanline) : Prop where
  y_eq : l.y = y
  ord : l.ss ≤ l.se → l.ss ≤ l.fs ∧ l.fs ≤ l.fe ∧ l.fe ≤ l.se
  emp : l.se < l.ss → l.fs = l.se ∧ l.fe = l.se
  stroke : ∀ x, (l.ss ≤ x ∧ x < l.se) ↔ S.contains ⟨x, y⟩ = true
  fill : ∀ x, l.ss ≤ x → x < l.se → ((l.fs ≤ x ∧ x < l.fe) ↔ F.contains ⟨x, y⟩ = true)
  range : S.rect.tl.x ≤ l.ss ∧ l.ss ≤ S.rect.tl.x + S.rect.size.w ∧
    S.rect.tl.x ≤ l.se ∧ l.se ≤ S.rect.tl.x + S.rect.size.w

theorem fillArea_contains (S F : RoundedRect) (p : Pt) :
    (styledScanlines S F).fillArea.contains p = F.contains p := rfl

theorem style_eq (S F : RoundedRect) (s : Scanline) :
    (styledScanlines S F).style s = StyledScanline.new s.y s.xs s.xe
      (if (RRContains.new F).rowsStart ≤ s.y ∧ s.y < (RRContains.new F).rowsEnd then
        firstLast (hit F s.y) s.xs s.xe else none) := rfl

/-- The fill range of a styled scanline is a correct search, within any scanline: outside the rows
of the fill area there is no fill point, inside them the row of the fill area is contiguous. -/
theorem fillRange_isHitRange (F : RoundedRect) (hF : F.InRange) (s : Scanline) :
    IsHitRange (hit F s.y) s.xs s.xe
      (if (RRContains.new F).rowsStart ≤ s.y ∧ s.y < (RRContains.new F).rowsEnd then
        firstLast (hit F s.y) s.xs s.xe else none) := by
  split
  · exact firstLast_isHitRange fun x1 x x2 _ _ h1 h2 a b => row_contiguous F hF s.y x1 x2 x h1 h2 ⟨a, b⟩
  · rename_i hrow
    intro x _ _
    cases hc : hit F s.y x with
    | false => rfl
    | true =>
      unfold hit contains at hc
      rw [RRContains.contains_iff] at hc
      exact absurd hc.1 hrow

theorem style_isStyledRun (S F : RoundedRect) (hF : F.InRange) (s : Scanline) :
    IsStyledRun (hit F) s ((styledScanlines S F).style s) := by
  rw [style_eq]
  exact .of_hitRange (fillRange_isHitRange F hF s)

theorem styledScanlines_toList_eq (S F : RoundedRect) (hS : S.InRange) :
    (styledScanlines S F).toList =
      (rowLines (fun y => some ((RRContains.new S).row y)) S.rect.tl.y (S.rect.tl.y + S.rect.size.h)).map
        (styledScanlines S F).style := by
  have e1 : (styledScanlines S F).scanlines.rowsStart = S.rect.tl.y := (new_rows S hS).1
  have e2 : (styledScanlines S F).scanlines.rowsEnd = S.rect.tl.y + S.rect.size.h := (new_rows S hS).2
  unfold rowLines
  rw [StyledScanlinesIt.toList_eq, e1, e2, List.filterMap_eq_map', List.map_map]
  rfl

/-! The fill-only draw path walks the plain scanlines of the fill area. -/

theorem scanline_wf {F : RoundedRect} (hF : F.InRange) : ∀ s ∈ F.scanlines.toList, s.WF := by
  intro s hs
  rw [scanlines_toList_eq F hF] at hs
  exact (rowScan F hF).wf_of_mem hF rfl rfl hs

theorem mem_fill_lines_iff {F : RoundedRect} (hF : F.InRange) (fc : Color) (p : Pt) (col : Color) :
    (p, col) ∈ F.scanlines.toList.flatMap (fun l => l.points.map (fun q => (q, fc))) ↔
      F.contains p = true ∧ fc = col := by
  rw [scanlines_toList_eq F hF]
  exact (rowScan F hF).mem_fill_iff fc p col

section lines
variable {S F : RoundedRect} (hS : S.InRange) (hF : F.InRange)
include hS hF

/-- For any stroke area `S` and fill area `F` in range: all radii, overlapping corner boxes, empty
rows, `F` not inside `S`. -/
theorem styledLines :
    StyledLines S.contains F.contains (styledScanlines S F).toList F.scanlines.toList := by
  rw [styledScanlines_toList_eq S F hS, scanlines_toList_eq F hF]
  exact .of_rowScan (rowScan S hS) (fun s _ => style_isStyledRun S F hF s) (rowScan F hF)
    (fun _ => rfl) (fun _ => rfl) (fun _ => rfl) hS rfl rfl hF rfl rfl

theorem lines_ok : ∀ l ∈ (styledScanlines S F).toList,
    ∃ y, (S.rect.tl.y ≤ y ∧ y < S.rect.tl.y + S.rect.size.h) ∧ RowOK S F y l := by
  intro l hl
  rw [styledScanlines_toList_eq S F hS, List.mem_map] at hl
  obtain ⟨s, hs, rfl⟩ := hl
  obtain ⟨a1, a2, hrun⟩ := (rowScan S hS).isRun_of_mem hs
  obtain ⟨e1, e2, e3, o1, hf⟩ := style_isStyledRun S F hF s
  have hc := hrun.inCols
  refine ⟨s.y, ⟨a1, a2⟩, e1, fun h => by omega, fun h => by omega, fun x => ?_, fun x h1 h2 => ?_,
    by omega⟩
  · rw [e2, e3]
    exact (hrun.hits x).symm
  · rw [e2] at h1
    rw [e3] at h2
    exact (hf x h1 h2).symm

end lines

theorem offset_natCast (r : RoundedRect) (k : Nat) :
    r.offset (k : Int) = ⟨r.rect.offset k, r.corners.map (·.satAdd (Sz.newEqual k))⟩ := by
  unfold offset
  simp only [show (k : Int) ≥ 0 by omega, ↓reduceIte, Int.toNat_natCast, CornerRadii.map]

theorem offset_neg_natCast (r : RoundedRect) (k : Nat) (hk : 1 ≤ k) :
    r.offset (-(k : Int)) = ⟨r.rect.offset (-(k : Int)), r.corners.map (·.satSub (Sz.newEqual k))⟩ := by
  unfold offset
  simp only [show ¬ (-(k : Int) ≥ 0) by omega, ↓reduceIte, Int.neg_neg, Int.toNat_natCast,
    CornerRadii.map]

/-- Every point of the fill area lies in the stroke area (`fill_area()` is the shape shrunk by the
inside part of the stroke, `stroke_area()` the shape grown by the outside part). -/
def FillInStroke (st : Style) (r : RoundedRect) : Prop :=
  ∀ p, (r.fillArea st).contains p = true → (r.strokeArea st).contains p = true

theorem areas_eq_of_zero_width (st : Style) (r : RoundedRect) (h : st.width = 0) :
    r.strokeArea st = r.fillArea st := by
  unfold strokeArea fillArea
  rw [(st.offsets_of_width_zero h).1, (st.offsets_of_width_zero h).2]

theorem fillInStroke_of_zero_width (st : Style) (r : RoundedRect) (h : st.width = 0) :
    FillInStroke st r := by
  intro p hp
  rw [areas_eq_of_zero_width st r h]; exact hp

/-- A collapsed fill area (a stroke at least as wide as half the shape: zero width or height) contains
no point, so it lies in the stroke area trivially. -/
theorem fillInStroke_of_collapsed (st : Style) (r : RoundedRect) (hF : (r.fillArea st).InRange)
    (hz : (r.fillArea st).rect.size.w = 0 ∨ (r.fillArea st).rect.size.h = 0) : FillInStroke st r := by
  intro p hp
  have hb := contains_imp_bbox _ hF hp
  unfold boundingBox at hb
  rw [Rect.contains_false_of_zero hz] at hb
  cases hb

/-- The colour the text of property C06 prescribes for point `p` (before clipping to the target). -/
def styledExpected (st : Style) (r : RoundedRect) (p : Pt) : Option Color :=
  if (r.fillArea st).contains p = true then st.fill
  else if (r.strokeArea st).contains p = true ∧ st.width > 0 then st.stroke
  else none

theorem styledExpected_eq (st : Style) (r : RoundedRect) :
    styledExpected st r = scanExpected st.stroke st.fill st.width (r.strokeArea st).contains
      (r.fillArea st).contains := rfl

theorem drawStyled_eq (st : Style) (r : RoundedRect) :
    r.drawStyled st = scanDraw st.effectiveStrokeColor st.fill
      (styledScanlines (r.strokeArea st) (r.fillArea st)).toList (r.fillArea st).scanlines.toList := rfl

theorem styledBoundingBox_eq (st : Style) (r : RoundedRect) :
    r.styledBoundingBox st = (r.strokeArea st).boundingBox := rfl

/-- Where the fill area lies in the stroke area (not for all corner radii: `confine` rescales the
two areas' radii separately). -/
theorem styledPicture {st : Style} {r : RoundedRect} (hS : (r.strokeArea st).InRange)
    (hF : (r.fillArea st).InRange) (hI : FillInStroke st r) :
    StyledPicture (r.drawStyled st) st.stroke st.fill st.width (r.strokeArea st).contains
      (r.fillArea st).contains (r.styledBoundingBox st) := by
  rw [drawStyled_eq, Style.effectiveStrokeColor_eq, styledBoundingBox_eq]
  exact (styledLines hS hF).styledPicture hI (fun _ => contains_imp_bbox _ hS) _ _ _

/-- `pixels()` yields the prescribed colours too (it looks at `stroke`, not at the effective stroke
colour; at width 0 the two areas coincide). -/
theorem mem_styledPixels_iff {st : Style} {r : RoundedRect} (hS : (r.strokeArea st).InRange)
    (hF : (r.fillArea st).InRange) (hI : FillInStroke st r) (p : Pt) (col : Color) :
    (p, col) ∈ r.styledPixels st ↔ scanExpected st.stroke st.fill st.width (r.strokeArea st).contains
      (r.fillArea st).contains p = some col :=
  (styledLines hS hF).mem_pixels_iff hI _ _ _ (fun h0 => by rw [areas_eq_of_zero_width st r h0]) p col

end RoundedRect
end EG
