/-
  EG.Lemmas.ThickBBoxBres — the points of ONE parallel of a stroked line lie coordinate-wise between its
  start `p0` and the corner `Line::extents` uses for it: a point of the parallel is `p0 + k * major +
  j * minor` with `0 <= k < n` (EG.Lemmas.ThickGeoBres), and the lower edge of its band bounds the number
  `j` of minor steps by the initial error `e0` (`minor_steps_le`, EG.Lemmas.ThickArith):
  * `e0 <= threshold` (every parallel): `j <= dmin` within `dmaj + 1` points, corner `p0 + delta`;
  * `e0 <= 2 dmin - dmaj` (the extra parallels): `j <= dmin - 1` within `dmaj` points, corner
    `p0 + delta - (major + minor)`.
-/
import EG.Lemmas.ThickGeoBres
import EG.Lemmas.ThickArith
set_option linter.unusedSimpArgs false
namespace EG
namespace Thick
open StrokeCtx

theorem pt_assoc1 (p a b v : Pt) : p + a + b + v = p + (a + v) + b := by
  rw [Pt.ext_iff']; simp only [Pt.add_x, Pt.add_y]; constructor <;> omega

theorem between_steps1 {u v : Int} (h : (u = 0 ∧ (v = 1 ∨ v = -1)) ∨ ((u = 1 ∨ u = -1) ∧ v = 0))
    (x k j K J : Int) (hk : 0 ≤ k) (hkK : k ≤ K) (hj : 0 ≤ j) (hjJ : j ≤ J) :
    min x (x + K * u + J * v) ≤ x + k * u + j * v ∧ x + k * u + j * v ≤ max x (x + K * u + J * v) := by
  rcases h with ⟨rfl, rfl | rfl⟩ | ⟨rfl | rfl, rfl⟩ <;> omega

theorem between_steps {M m : Pt} (h : AxisPair M m) (p0 : Pt) (k j K J : Int) (hk : 0 ≤ k)
    (hkK : k ≤ K) (hj : 0 ≤ j) (hjJ : j ≤ J) :
    (min p0.x (p0 + smul K M + smul J m).x ≤ (p0 + smul k M + smul j m).x ∧
      (p0 + smul k M + smul j m).x ≤ max p0.x (p0 + smul K M + smul J m).x) ∧
    (min p0.y (p0 + smul K M + smul J m).y ≤ (p0 + smul k M + smul j m).y ∧
      (p0 + smul k M + smul j m).y ≤ max p0.y (p0 + smul K M + smul J m).y) := by
  have hxy : ((M.x = 0 ∧ (m.x = 1 ∨ m.x = -1)) ∨ ((M.x = 1 ∨ M.x = -1) ∧ m.x = 0)) ∧
      ((M.y = 0 ∧ (m.y = 1 ∨ m.y = -1)) ∨ ((M.y = 1 ∨ M.y = -1) ∧ m.y = 0)) := by
    rcases h with ⟨e1 | e1, e2 | e2⟩ | ⟨e1 | e1, e2 | e2⟩ <;> subst e1 <;> subst e2 <;> decide
  exact ⟨between_steps1 hxy.1 p0.x k j K J hk hkK hj hjJ, between_steps1 hxy.2 p0.y k j K J hk hkK hj hjJ⟩

/-- **A parallel stays between its start `p0` and `p0 + (dmaj - i) M + (dmin - i) m`** when its initial
error is at most `dmaj - 2 i (dmaj - dmin)` and it has `dmaj + 1 - i` points or fewer: `i = 0`, error at
most the threshold, for every parallel; `i = 1`, error at most `2 dmin - dmaj`, for the extra ones. -/
theorem parallel_between {M m : Pt} (hax : AxisPair M m) (D d i : Int) (hD : 0 < D) (hdD : d ≤ D)
    (hi0 : 0 ≤ i) (hid : i ≤ d) (p0 : Pt) (e0 : Int) (he : e0 ≤ D - 2 * i * (D - d)) (n : Nat)
    (hn : (n : Int) ≤ D + 1 - i) (q : Pt) (hq : q ∈ parPts n ⟨p0, e0⟩ ⟨D, ⟨2 * d, 2 * D⟩, ⟨M, m⟩⟩) :
    (min p0.x (p0 + smul (D - i) M + smul (d - i) m).x ≤ q.x ∧
      q.x ≤ max p0.x (p0 + smul (D - i) M + smul (d - i) m).x) ∧
    (min p0.y (p0 + smul (D - i) M + smul (d - i) m).y ≤ q.y ∧
      q.y ≤ max p0.y (p0 + smul (D - i) M + smul (d - i) m).y) := by
  have hd0 : 0 ≤ d := by omega
  have hi : 0 ≤ 2 * i * (D - d) := Int.mul_nonneg (by omega) (by omega)
  -- the band description of the parallel; the steps of the perpendicular are not read
  obtain ⟨k, hk, ha, hm, -, hlo⟩ :=
    parPts_mem_band ⟨D, d, M, m, M, m⟩ hD hd0 hdD hax n ⟨p0, e0⟩ (by show e0 ≤ 3 * D; omega) q hq
  generalize hc : (⟨D, d, M, m, M, m⟩ : StrokeCtx) = c at ha hm hlo
  have hM : c.M = M := by rw [← hc]
  have hm' : c.m = m := by rw [← hc]
  have hcD : c.D = D := by rw [← hc]
  have hcd : c.d = d := by rw [← hc]
  have hax' : AxisPair c.M c.m := by rw [hM, hm']; exact hax
  obtain ⟨j, hj⟩ : ∃ j, c.amin q = c.amin p0 + j := ⟨c.amin q - c.amin p0, by omega⟩
  have hj0 : 0 ≤ j := by simp only at hm; omega
  have hqe : q = p0 + smul k M + smul j m := by
    rw [← hM, ← hm']
    apply pt_eq_of_coords hax'
    · rw [amaj_add, amaj_add, amaj_smul, amaj_smul, amaj_M hax', amaj_m hax', ha]; simp
    · rw [amin_add, amin_add, amin_smul, amin_smul, amin_M hax', amin_m hax', hj]; simp
  -- no minor step, or the lower edge of the band bounds their number
  have hjd : j ≤ d - i := by
    by_cases hj1 : j = 0
    · omega
    · have hb := hlo (Or.inr (by simp only; omega))
      unfold bandK ph at hb
      simp only at ha hb
      rw [ha, hj, hcD, hcd] at hb
      exact minor_steps_le D d e0 k j i hD hd0 (by linear_combination hb) he (by omega)
  rw [hqe]
  exact between_steps hax p0 k j (D - i) (d - i) (by omega) (by omega) hj0 hjd

theorem normal_parallel_between {M m : Pt} (hax : AxisPair M m) (D d : Int) (hD : 0 < D) (hd : 0 ≤ d)
    (hdD : d ≤ D) (p0 : Pt) (e0 : Int) (he : e0 ≤ D) (n : Nat) (hn : (n : Int) ≤ D + 1) (q : Pt)
    (hq : q ∈ parPts n ⟨p0, e0⟩ ⟨D, ⟨2 * d, 2 * D⟩, ⟨M, m⟩⟩) :
    (min p0.x (p0 + smul D M + smul d m).x ≤ q.x ∧ q.x ≤ max p0.x (p0 + smul D M + smul d m).x) ∧
    (min p0.y (p0 + smul D M + smul d m).y ≤ q.y ∧ q.y ≤ max p0.y (p0 + smul D M + smul d m).y) := by
  simpa using parallel_between hax D d 0 hD hdD (Int.le_refl _) hd p0 e0 (by omega) n (by omega) q hq

theorem extra_parallel_between {M m : Pt} (hax : AxisPair M m) (D d : Int) (hD : 0 < D) (hd1 : 1 ≤ d)
    (hdD : d ≤ D) (p0 : Pt) (e0 : Int) (he : e0 ≤ 2 * d - D) (n : Nat) (hn : (n : Int) ≤ D) (q : Pt)
    (hq : q ∈ parPts n ⟨p0, e0⟩ ⟨D, ⟨2 * d, 2 * D⟩, ⟨M, m⟩⟩) :
    (min p0.x (p0 + smul (D - 1) M + smul (d - 1) m).x ≤ q.x ∧
      q.x ≤ max p0.x (p0 + smul (D - 1) M + smul (d - 1) m).x) ∧
    (min p0.y (p0 + smul (D - 1) M + smul (d - 1) m).y ≤ q.y ∧
      q.y ≤ max p0.y (p0 + smul (D - 1) M + smul (d - 1) m).y) :=
  parallel_between hax D d 1 hD hdD (by omega) hd1 p0 e0 (by omega) n (by omega) q hq

end Thick
end EG
