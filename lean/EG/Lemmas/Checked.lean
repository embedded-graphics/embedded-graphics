/-
  EG.Lemmas.Checked — the DSL lemmas of `EG.Model.Checked` and the range theorems of the
  `Rectangle` / `Point (+|-) Size` kernels: inside the stated coordinate / size bounds the checked
  kernel returns `some` of the plain kernel.

  A checked operation is evaluated by its bind form, `range a → (chkI32 a >>= f) = f a`; a run of
  them by `chk_simp` (`simp` with the set `chk_eval` of these forms, range conditions by `omega`);
  a composite kernel by `rw [foo_ok h, some_bind, ..]` with ONE range hypothesis `h` per call,
  which `omega` proves from the domain hypotheses. Products are bounded first (`mul_bounds`), so that
  `omega` only sees them as atoms. A kernel whose value the later stages need a range for is
  stated as `Ret c v Q` (returns `v`, and `Q v`) and consumed by `Ret.bind`; the step of an
  iterator has `Next` as its `Q`.

  Bounds: `W.coord x` = `|x| <= 2^28`, `W.size n` = `n <= 2^28` ("wide" domain, 2^18 times the
  display scale): every kernel here is linear, so the bounds are only limited by `i32`.
  `bottom_right`, `contains` and `intersection` are proved on `BrFits` (the corner is computable),
  which contains the wide domain.
-/
import EG.Model.Checked
import EG.Lemmas.RectPoints
import EG.Lemmas.SrcSimpAttr
namespace EG.Chk
open EG

theorem chkI32_ok {a : Int} (h1 : -2147483648 ≤ a) (h2 : a ≤ 2147483647) : chkI32 a = some a := by
  simp [chkI32, h1, h2]
theorem chkI64_ok {a : Int} (h1 : -9223372036854775808 ≤ a) (h2 : a ≤ 9223372036854775807) :
    chkI64 a = some a := by
  simp [chkI64, h1, h2]
theorem chkU32_ok {a : Nat} (h : a ≤ 4294967295) : chkU32 a = some a := by simp [chkU32, h]
theorem chkU64_ok {a : Nat} (h : a ≤ 18446744073709551615) : chkU64 a = some a := by simp [chkU64, h]
theorem chkUsize_ok {a : Nat} (h : a ≤ 18446744073709551615) : chkUsize a = some a := by
  simp [chkUsize, chkU64, h]
theorem subU_ok {a b : Nat} (h : b ≤ a) : subU a b = some (a - b) := by simp [subU, h]
theorem divU_ok {a b : Nat} (h : 0 < b) : divU a b = some (a / b) := by
  have : b ≠ 0 := by omega
  simp [divU, this]
theorem assert_ok {c : Prop} [Decidable c] (h : c) : assert c = some () := by simp [assert, h]

theorem chkI32_none {a : Int} (h : a < -2147483648 ∨ 2147483647 < a) : chkI32 a = none := by
  unfold chkI32; rw [if_neg]; omega
theorem chkI64_none {a : Int} (h : a < -9223372036854775808 ∨ 9223372036854775807 < a) :
    chkI64 a = none := by
  unfold chkI64; rw [if_neg]; omega
theorem chkU32_none {a : Nat} (h : 4294967295 < a) : chkU32 a = none := by
  unfold chkU32; rw [if_neg]; omega
theorem chkU64_none {a : Nat} (h : 18446744073709551615 < a) : chkU64 a = none := by
  unfold chkU64; rw [if_neg]; omega

theorem chkI32_some {a b : Int} (h : chkI32 a = some b) : b = a ∧ -2147483648 ≤ a ∧ a ≤ 2147483647 := by
  unfold chkI32 at h; split at h
  · simp only [Option.some.injEq] at h; omega
  · cases h
theorem chkI64_some {a b : Int} (h : chkI64 a = some b) :
    b = a ∧ -9223372036854775808 ≤ a ∧ a ≤ 9223372036854775807 := by
  unfold chkI64 at h; split at h
  · simp only [Option.some.injEq] at h; omega
  · cases h

theorem u32AsI32_small {n : Nat} (h : n ≤ 2147483647) : u32AsI32 n = (n : Int) := by
  simp [u32AsI32, h]
theorem i32AsU32_nonneg {a : Int} (h : 0 ≤ a) : i32AsU32 a = a.toNat := by simp [i32AsU32, h]

theorem chkI32_bind {β} {a : Int} {f : Int → Option β} (h : -2147483648 ≤ a ∧ a ≤ 2147483647) :
    (chkI32 a >>= f) = f a := by
  rw [chkI32_ok h.1 h.2]; rfl
theorem chkI64_bind {β} {a : Int} {f : Int → Option β}
    (h : -9223372036854775808 ≤ a ∧ a ≤ 9223372036854775807) : (chkI64 a >>= f) = f a := by
  rw [chkI64_ok h.1 h.2]; rfl
theorem chkU32_bind {β} {a : Nat} {f : Nat → Option β} (h : a ≤ 4294967295) :
    (chkU32 a >>= f) = f a := by
  rw [chkU32_ok h]; rfl
theorem chkU64_bind {β} {a : Nat} {f : Nat → Option β} (h : a ≤ 18446744073709551615) :
    (chkU64 a >>= f) = f a := by
  rw [chkU64_ok h]; rfl
theorem chkUsize_bind {β} {a : Nat} {f : Nat → Option β} (h : a ≤ 18446744073709551615) :
    (chkUsize a >>= f) = f a := by
  rw [chkUsize_ok h]; rfl
theorem subU_bind {β} {a b : Nat} {f : Nat → Option β} (h : b ≤ a) : (subU a b >>= f) = f (a - b) := by
  rw [subU_ok h]; rfl
theorem divU_bind {β} {a b : Nat} {f : Nat → Option β} (h : 0 < b) : (divU a b >>= f) = f (a / b) := by
  rw [divU_ok h]; rfl
theorem assert_bind {β} {c : Prop} [Decidable c] {f : Unit → Option β} (h : c) :
    (assert c >>= f) = f () := by
  rw [assert_ok h]; rfl
theorem some_bind {α β} {a : α} {f : α → Option β} : (some a >>= f) = f a := rfl

/- The bind forms are pre-lemmas (`↓`): the head operation is replaced by its value before `simp`
looks at the continuation, so no range condition is ever attempted on a bound variable. (They are
post-lemmas as well, for an argument that only fits once its casts have been simplified.) -/
attribute [chk_eval ↓] chkI32_bind chkI64_bind chkU32_bind chkU64_bind chkUsize_bind subU_bind divU_bind
  assert_bind some_bind
attribute [chk_eval] chkI32_bind chkI64_bind chkU32_bind chkU64_bind chkUsize_bind subU_bind divU_bind
  assert_bind some_bind chkI32_ok chkI64_ok chkU32_ok chkU64_ok chkUsize_ok subU_ok divU_ok assert_ok
  u32AsI32_small i32AsU32_nonneg Option.pure_def

/-- Evaluates a checked computation from the outside in: each operation whose range condition
`omega` proves from the context is replaced by its value. -/
macro "chk_simp" : tactic => `(tactic| simp (disch := omega) only [chk_eval])

theorem chkI32_eq_some {a v : Int} : chkI32 a = some v ↔ inI32 a ∧ a = v :=
  ⟨fun h => ⟨(chkI32_some h).2, (chkI32_some h).1.symm⟩, fun ⟨h, e⟩ => e ▸ chkI32_ok h.1 h.2⟩

theorem chkI32_bind_eq_some {β} {a : Int} {f : Int → Option β} {v : β} :
    (chkI32 a >>= f) = some v ↔ inI32 a ∧ f a = some v := by
  by_cases ha : inI32 a
  · rw [chkI32_bind ha, and_iff_right ha]
  · rw [chkI32_none (by unfold inI32 at ha; omega)]
    exact ⟨fun h => (nomatch h), fun h => absurd h.1 ha⟩

/-- The checked computation `c` returns the plain value `v`, and `v` satisfies `Q` (the range the
kernels behind it need). -/
def Ret {α : Type} (c : Option α) (v : α) (Q : α → Prop) : Prop := c = some v ∧ Q v
attribute [reducible] Ret

theorem Ret.pure {α : Type} {v : α} {Q : α → Prop} (h : Q v) : Ret (Pure.pure v) v Q := ⟨rfl, h⟩

theorem Ret.of_eq {α : Type} {c : Option α} {v : α} (e : c = some v) : Ret c v fun _ => True :=
  ⟨e, trivial⟩

theorem Ret.bind {α β : Type} {c : Option α} {v : α} {Q : α → Prop} {f : α → Option β} {w : β}
    {R : β → Prop} (h : Ret c v Q) (k : Q v → Ret (f v) w R) : Ret (c >>= f) w R := by
  rw [h.1]
  exact k h.2

theorem Ret.weaken {α : Type} {c : Option α} {v : α} {Q Q' : α → Prop} (h : Ret c v Q) (k : Q v → Q' v) :
    Ret c v Q' := ⟨h.1, k h.2⟩

/-- What a step of an iterator leaves behind: `P` holds of the item and the successor state, if
there are any. -/
def Next {α σ : Type} (P : α → σ → Prop) (r : Option (α × σ)) : Prop := ∀ y s, r = some (y, s) → P y s
attribute [reducible] Next

theorem Next.none {α σ : Type} {P : α → σ → Prop} : Next P none := fun _ _ h => by cases h

theorem Next.some {α σ : Type} {P : α → σ → Prop} {y : α} {s : σ} (h : P y s) : Next P (some (y, s)) :=
  fun _ _ e => by cases e; exact h

/-- `|x| <= 2^28` -/
def W.coord (x : Int) : Prop := -268435456 ≤ x ∧ x ≤ 268435456
/-- `n <= 2^28` -/
def W.size (n : Nat) : Prop := n ≤ 268435456
def W.pt (p : Pt) : Prop := W.coord p.x ∧ W.coord p.y
def W.sz (s : Sz) : Prop := W.size s.w ∧ W.size s.h
def W.rect (r : Rect) : Prop := W.pt r.tl ∧ W.sz r.size
instance (x : Int) : Decidable (W.coord x) := by unfold W.coord; exact inferInstance
instance (n : Nat) : Decidable (W.size n) := by unfold W.size; exact inferInstance
instance (p : Pt) : Decidable (W.pt p) := by unfold W.pt; exact inferInstance
instance (s : Sz) : Decidable (W.sz s) := by unfold W.sz; exact inferInstance
instance (r : Rect) : Decidable (W.rect r) := by unfold W.rect; exact inferInstance
/- `omega` reads hypotheses and goals up to reducible unfolding. -/
attribute [reducible] W.coord W.size W.pt W.sz W.rect

theorem W.coord.sub_fits {a b : Int} (ha : W.coord a) (hb : W.coord b) :
    -2147483648 ≤ a - b ∧ a - b ≤ 2147483647 := by
  omega

theorem ptAdd_ok {a b : Pt} (h : (-2147483648 ≤ a.x + b.x ∧ a.x + b.x ≤ 2147483647) ∧
    (-2147483648 ≤ a.y + b.y ∧ a.y + b.y ≤ 2147483647)) : ptAdd a b = some (a + b) := by
  rw [ptAdd, chkI32_bind h.1, chkI32_bind h.2]; rfl

theorem ptSub_ok {a b : Pt} (h : (-2147483648 ≤ a.x - b.x ∧ a.x - b.x ≤ 2147483647) ∧
    (-2147483648 ≤ a.y - b.y ∧ a.y - b.y ≤ 2147483647)) : ptSub a b = some (a - b) := by
  rw [ptSub, chkI32_bind h.1, chkI32_bind h.2]; rfl

theorem ptMul_ok {a : Pt} {k : Int} (h : (-2147483648 ≤ a.x * k ∧ a.x * k ≤ 2147483647) ∧
    (-2147483648 ≤ a.y * k ∧ a.y * k ≤ 2147483647)) : ptMul a k = some ⟨a.x * k, a.y * k⟩ := by
  rw [ptMul, chkI32_bind h.1, chkI32_bind h.2]; rfl

theorem ptAddSize_ok {p : Pt} {s : Sz} (h : (s.w ≤ 2147483647 ∧ s.h ≤ 2147483647) ∧
    (-2147483648 ≤ p.x + s.w ∧ p.x + s.w ≤ 2147483647) ∧
    (-2147483648 ≤ p.y + s.h ∧ p.y + s.h ≤ 2147483647)) :
    ptAddSize p s = some ⟨p.x + s.w, p.y + s.h⟩ := by
  simp only [ptAddSize, u32AsI32_small h.1.1, u32AsI32_small h.1.2]
  rw [assert_bind (Int.natCast_nonneg _), assert_bind (Int.natCast_nonneg _), chkI32_bind h.2.1,
    chkI32_bind h.2.2]; rfl

theorem ptSubSize_ok {p : Pt} {s : Sz} (h : (s.w ≤ 2147483647 ∧ s.h ≤ 2147483647) ∧
    (-2147483648 ≤ p.x - s.w ∧ p.x - s.w ≤ 2147483647) ∧
    (-2147483648 ≤ p.y - s.h ∧ p.y - s.h ≤ 2147483647)) :
    ptSubSize p s = some ⟨p.x - s.w, p.y - s.h⟩ := by
  simp only [ptSubSize, u32AsI32_small h.1.1, u32AsI32_small h.1.2]
  rw [assert_bind (Int.natCast_nonneg _), assert_bind (Int.natCast_nonneg _), chkI32_bind h.2.1,
    chkI32_bind h.2.2]; rfl

/-- `Point + Size` panics (debug assertion) for sizes above `i32::MAX`, whatever the point. -/
theorem ptAddSize_assert {p : Pt} {s : Sz} (hw : 2147483647 < s.w) (h32 : s.w ≤ 4294967295) :
    ptAddSize p s = none := by
  unfold ptAddSize
  have : ¬ (u32AsI32 s.w ≥ 0) := by unfold u32AsI32; split <;> omega
  simp [assert, this]

/-- `unsigned_abs() + 1` of an `i32` difference always fits `u32`. -/
theorem withCorners_ok {c1 c2 : Pt} (hx : -2147483648 ≤ c1.x - c2.x ∧ c1.x - c2.x ≤ 2147483647)
    (hy : -2147483648 ≤ c1.y - c2.y ∧ c1.y - c2.y ≤ 2147483647) :
    withCorners c1 c2 = some (Rect.withCorners c1 c2) := by
  rw [withCorners, chkI32_bind hx, chkI32_bind hy, chkU32_bind (by omega), chkU32_bind (by omega)]
  rfl

/-- `center_offset` is at most half the size (stated without a division). -/
theorem centerOffset_le (s : Sz) : (Rect.centerOffset s).w * 2 ≤ s.w ∧ (Rect.centerOffset s).h * 2 ≤ s.h := by
  unfold Rect.centerOffset; constructor <;> simp only <;> omega

/-- Corners within `2^27 - 1` span at most `2^28` pixels. -/
theorem withCorners_axis_W {a b : Int} {w : Nat} (ha : -134217727 ≤ a ∧ a ≤ 134217727)
    (hb : -134217727 ≤ b ∧ b ≤ 134217727) (hw : (w : Int) = max a b - min a b + 1) :
    W.coord (min a b) ∧ W.size w := by
  omega

theorem W.rect_withCorners {a b : Pt}
    (ha : (-134217727 ≤ a.x ∧ a.x ≤ 134217727) ∧ (-134217727 ≤ a.y ∧ a.y ≤ 134217727))
    (hb : (-134217727 ≤ b.x ∧ b.x ≤ 134217727) ∧ (-134217727 ≤ b.y ∧ b.y ≤ 134217727)) :
    W.rect (Rect.withCorners a b) :=
  have hx := withCorners_axis_W ha.1 hb.1 (Rect.withCorners_w a b)
  have hy := withCorners_axis_W ha.2 hb.2 (Rect.withCorners_h a b)
  ⟨⟨hx.1, hy.1⟩, hx.2, hy.2⟩

theorem withCenter_ok {c : Pt} {s : Sz}
    (hc : (-1073741824 ≤ c.x ∧ c.x ≤ 1073741824) ∧ (-1073741824 ≤ c.y ∧ c.y ≤ 1073741824))
    (hs : s.w ≤ 2147483648 ∧ s.h ≤ 2147483648) :
    withCenter c s = some (Rect.withCenter c s) := by
  have := centerOffset_le s
  rw [withCenter, ptSubSize_ok (by omega)]
  rfl

theorem center_ok {r : Rect} (ht : W.pt r.tl) (hs : r.size.w ≤ 2147483648 ∧ r.size.h ≤ 2147483648) :
    center r = some r.center := by
  have := centerOffset_le r.size
  exact ptAddSize_ok (by omega)

def inI32Pt (p : Pt) : Prop :=
  (-2147483648 ≤ p.x ∧ p.x ≤ 2147483647) ∧ (-2147483648 ≤ p.y ∧ p.y ≤ 2147483647)
def inU32Sz (s : Sz) : Prop := s.w ≤ 4294967295 ∧ s.h ≤ 4294967295
attribute [reducible] inI32Pt inU32Sz

/-- A rectangle whose `bottom_right()` can be computed: zero sized (no arithmetic happens), or
`top_left + size` fits `i32`. -/
def BrFits (r : Rect) : Prop :=
  inI32Pt r.tl ∧ (r.size.w = 0 ∨ r.size.h = 0 ∨
    (r.size.w ≤ 2147483647 ∧ r.size.h ≤ 2147483647 ∧
      r.tl.x + r.size.w ≤ 2147483647 ∧ r.tl.y + r.size.h ≤ 2147483647))

attribute [reducible] BrFits

theorem W.rect.brFits {r : Rect} (h : W.rect r) : BrFits r := by
  omega

theorem BrFits.size_le {r : Rect} (h : BrFits r) (hp : 0 < r.size.w ∧ 0 < r.size.h) :
    r.size.w ≤ 2147483647 ∧ r.size.h ≤ 2147483647 := by
  omega

theorem bottomRight_of_brFits {r : Rect} (h : BrFits r) : bottomRight r = some r.bottomRight := by
  unfold bottomRight Rect.bottomRight
  split
  · rw [ptAddSize_ok (by omega), some_bind, ptSub_ok (by simp only; omega)]
    rfl
  · rfl

theorem contains_of_brFits {r : Rect} (h : BrFits r) (p : Pt) : contains r p = some (r.contains p) := by
  unfold contains Rect.contains
  rw [bottomRight_of_brFits h]
  split <;> rfl

theorem overlap_corners_fit {a0 a1 b0 b1 : Int} (ha : a1 - a0 ≤ 2147483647)
    (ho : max a0 b0 ≤ min a1 b1) :
    -2147483648 ≤ max a0 b0 - min a1 b1 ∧ max a0 b0 - min a1 b1 ≤ 2147483647 := by
  omega

theorem intersection_of_brFits {a b : Rect} (ha : BrFits a) (hb : BrFits b) :
    intersection a b = some (a.intersection b) := by
  unfold intersection Rect.intersection
  rw [bottomRight_of_brFits ha, bottomRight_of_brFits hb, some_bind, some_bind]
  cases hobr : b.bottomRight <;> cases hsbr : a.bottomRight <;> simp only
  · rfl
  · rw [contains_of_brFits ha]; rfl
  · rw [contains_of_brFits hb]; rfl
  · obtain ⟨_, bx, by'⟩ := Rect.bottomRight_eq hobr
    obtain ⟨hp, ax, ay⟩ := Rect.bottomRight_eq hsbr
    have := ha.size_le hp
    split
    · rename_i ho
      rw [Bool.and_eq_true, Rect.overlaps_iff (by omega) (by omega),
        Rect.overlaps_iff (by omega) (by omega)] at ho
      exact withCorners_ok (overlap_corners_fit (by omega) ho.1) (overlap_corners_fit (by omega) ho.2)
    · rfl

theorem bottomRight_ok {r : Rect} (h : W.rect r) : bottomRight r = some r.bottomRight :=
  bottomRight_of_brFits h.brFits

theorem contains_ok {r : Rect} (h : W.rect r) (p : Pt) : contains r p = some (r.contains p) :=
  contains_of_brFits h.brFits p

theorem intersection_ok {a b : Rect} (ha : W.rect a) (hb : W.rect b) :
    intersection a b = some (a.intersection b) :=
  intersection_of_brFits ha.brFits hb.brFits

theorem W.rect.inRange {r : Rect} (h : W.rect r) : r.InRange := by
  unfold Rect.InRange inI32
  omega

theorem W.rect.ends_eq {r : Rect} (h : W.rect r) :
    r.columnsEnd = r.tl.x + r.size.w ∧ r.rowsEnd = r.tl.y + r.size.h :=
  ⟨Rect.columnsEnd_eq h.inRange, Rect.rowsEnd_eq h.inRange⟩

theorem anchored_fits {t δ : Int} (ht : W.coord t) (hδ : W.coord δ) :
    (-2147483648 ≤ t + 0 ∧ t + 0 ≤ 2147483647) ∧
    (-2147483648 ≤ t + tdiv2 δ ∧ t + tdiv2 δ ≤ 2147483647) ∧
    (-2147483648 ≤ t + δ ∧ t + δ ≤ 2147483647) := by
  have := tdiv2_bounds δ
  omega

theorem anchorDelta_bounds {n : Nat} (h : W.size n) :
    0 ≤ max (satAsI32 n) 1 - 1 ∧ max (satAsI32 n) 1 - 1 ≤ n := by
  rw [satAsI32_of_le (by omega)]; omega

theorem anchorX_ok {r : Rect} (h : W.rect r) (a : AnchorX) : anchorX r a = some (r.anchorX a) := by
  have hδ := anchorDelta_bounds h.2.1
  have hf := anchored_fits h.1.1 (δ := max (satAsI32 r.size.w) 1 - 1)
    (by have := h.2.1; omega)
  cases a
  · exact chkI32_ok hf.1.1 hf.1.2
  · exact chkI32_ok hf.2.1.1 hf.2.1.2
  · exact chkI32_ok hf.2.2.1 hf.2.2.2

theorem anchorY_ok {r : Rect} (h : W.rect r) (a : AnchorY) : anchorY r a = some (r.anchorY a) := by
  have hδ := anchorDelta_bounds h.2.2
  have hf := anchored_fits h.1.2 (δ := max (satAsI32 r.size.h) 1 - 1)
    (by have := h.2.2; omega)
  cases a
  · exact chkI32_ok hf.1.1 hf.1.2
  · exact chkI32_ok hf.2.1.1 hf.2.1.2
  · exact chkI32_ok hf.2.2.1 hf.2.2.2

theorem anchorPoint_ok {r : Rect} (h : W.rect r) (a : Anchor) :
    anchorPoint r a = some (r.anchorPoint a) := by
  unfold anchorPoint Rect.anchorPoint
  rw [anchorX_ok h, anchorY_ok h]; rfl

theorem anchor_br_bounds {r : Rect} (h : W.rect r) :
    r.tl.x ≤ (r.anchorPoint ⟨.right, .bottom⟩).x ∧ (r.anchorPoint ⟨.right, .bottom⟩).x ≤ r.tl.x + r.size.w ∧
    r.tl.y ≤ (r.anchorPoint ⟨.right, .bottom⟩).y ∧ (r.anchorPoint ⟨.right, .bottom⟩).y ≤ r.tl.y + r.size.h := by
  have hw := anchorDelta_bounds h.2.1
  have hh := anchorDelta_bounds h.2.2
  simp only [Rect.anchorPoint, Rect.anchorX, Rect.anchorY]
  omega

theorem envelope_corners_fit {a0 a1 b0 b1 : Int} (ha0 : W.coord a0) (hb0 : W.coord b0)
    (ha : a0 ≤ a1 ∧ a1 ≤ a0 + 268435456) (hb : b0 ≤ b1 ∧ b1 ≤ b0 + 268435456) :
    -2147483648 ≤ min a0 b0 - max a1 b1 ∧ min a0 b0 - max a1 b1 ≤ 2147483647 := by
  omega

theorem envelope_ok {a b : Rect} (ha : W.rect a) (hb : W.rect b) :
    envelope a b = some (a.envelope b) := by
  unfold envelope Rect.envelope
  rw [anchorPoint_ok ha, anchorPoint_ok hb, some_bind, some_bind]
  have h1 := anchor_br_bounds ha
  have h2 := anchor_br_bounds hb
  have wa := ha.2
  have wb := hb.2
  exact withCorners_ok (envelope_corners_fit ha.1.1 hb.1.1 (by omega) (by omega))
    (envelope_corners_fit ha.1.2 hb.1.2 (by omega) (by omega))

theorem resizedWidth_ok {r : Rect} (h : W.coord r.tl.x) (hs : W.size r.size.w) {w : Nat} (hw : W.size w)
    (a : AnchorX) : resizedWidth r w a = some (r.resizedWidth w a) := by
  have hf := anchored_fits h (δ := max (satAsI32 r.size.w) 1 - max (satAsI32 w) 1) (by
    rw [satAsI32_of_le (by omega), satAsI32_of_le (by omega)]; omega)
  cases a
  · exact (chkI32_bind hf.1).trans rfl
  · exact (chkI32_bind hf.2.1).trans rfl
  · exact (chkI32_bind hf.2.2).trans rfl

theorem resizedHeight_ok {r : Rect} (h : W.coord r.tl.y) (hs : W.size r.size.h) {w : Nat} (hw : W.size w)
    (a : AnchorY) : resizedHeight r w a = some (r.resizedHeight w a) := by
  have hf := anchored_fits h (δ := max (satAsI32 r.size.h) 1 - max (satAsI32 w) 1) (by
    rw [satAsI32_of_le (by omega), satAsI32_of_le (by omega)]; omega)
  cases a
  · exact (chkI32_bind hf.1).trans rfl
  · exact (chkI32_bind hf.2.1).trans rfl
  · exact (chkI32_bind hf.2.2).trans rfl

theorem resized_ok {r : Rect} (h : W.rect r) {s : Sz} (hs : W.sz s) (a : Anchor) :
    resized r s a = some (r.resized s a) := by
  unfold resized Rect.resized
  rw [resizedWidth_ok h.1.1 h.2.1 hs.1, some_bind]
  exact resizedHeight_ok (r := r.resizedWidth s.w a.ax) h.1.2 h.2.2 hs.2 a.ay

theorem center_bounds (r : Rect) :
    r.tl.x ≤ r.center.x ∧ (r.center.x - r.tl.x) * 2 ≤ r.size.w ∧
    r.tl.y ≤ r.center.y ∧ (r.center.y - r.tl.y) * 2 ≤ r.size.h := by
  have := centerOffset_le r.size
  simp only [Rect.center]; omega

theorem satAddU32_small {a b : Nat} (h : a + b ≤ 4294967295) : satAddU32 a b = a + b := by
  simp [satAddU32, h]

theorem offset_ok {r : Rect} (h : W.rect r) {o : Int} (ho : W.coord o) :
    offset r o = some (r.offset o) := by
  have hcb := center_bounds r
  have ht := h.1
  unfold offset Rect.offset
  split
  · rw [ptSub_ok (by simp only; omega), some_bind, i32AsU32_nonneg (by omega),
      chkU32_bind (by omega)]
    rfl
  · rw [chkI32_bind (by omega), i32AsU32_nonneg (by omega), chkU32_bind (by omega),
      center_ok ht (by omega), some_bind]
    apply withCenter_ok (by omega)
    simp only [Sz.satSub, Sz.newEqual]
    omega

theorem translate_ok {r : Rect} (h : W.pt r.tl) {d : Pt} (hd : W.pt d) :
    translate r d = some (r.translate d) := by
  rw [translate, ptAdd_ok (by omega)]
  rfl

end EG.Chk
