/-
  EG.Lemmas.CheckedThickIter — ties the checked thick-line scalars (`Chk.thickScalars`,
  `Chk.thickAccStep`) to the plain `Thick.ParallelsIterator` model: `next_parallel` never touches
  the threshold, the accumulator or the Bresenham parameters (`Thick.SameFrame`,
  Lemmas/ThickAccumulator.lean), so
    * `ParallelsIterator.new` stores exactly the scalars `Chk.thickScalars` computes, and
    * every `ParallelsIterator.next` that yields a parallel performs exactly one
      `Chk.thickAccStep`, which succeeds and keeps the range invariant `ScalarsInRange`.
-/
import EG.Lemmas.CheckedThick
import EG.Lemmas.ThickAccumulator
namespace EG.Thick.ParallelsIterator
open EG

structure SameScalars (a b : ParallelsIterator) : Prop where
  th : b.thicknessThreshold = a.thicknessThreshold
  acc : b.thicknessAccumulator = a.thicknessAccumulator
  perp : b.perpendicularParameters = a.perpendicularParameters
  par : b.parallelParameters = a.parallelParameters
  so : b.strokeOffset = a.strokeOffset
  ns : b.nextSide = a.nextSide

theorem SameScalars.refl (a : ParallelsIterator) : SameScalars a a := ⟨rfl, rfl, rfl, rfl, rfl, rfl⟩

/-- The scalars are among the fields `next_parallel` never touches (`Thick.SameFrame`). -/
theorem SameScalars.of_frame {a b : ParallelsIterator} (h : SameFrame a b) : SameScalars a b :=
  ⟨h.2.2.2.1, h.2.2.1, h.2.1, h.1, h.2.2.2.2.2.2, h.2.2.2.2.2.1⟩

theorem nextParallel_same {it : ParallelsIterator} {side : LineSide} {r it'}
    (h : it.nextParallel side = some (r, it')) : SameScalars it it' :=
  .of_frame (nextParallelFuel_sameFrame _ _ _ _ _ h)

theorem new_scalars {l : Line} {t : Int} {so : StrokeOffset} {it : ParallelsIterator}
    (h : ParallelsIterator.new l t so = some it) :
    let line := if l.start = l.stop then horizontalLine else l
    it.thicknessThreshold = Chk.plainThickThreshold t line.delta ∧
    it.thicknessAccumulator =
      tdiv2 ((BresenhamParameters.new line).errorStep.minor + (BresenhamParameters.new line).errorStep.major) ∧
    it.perpendicularParameters = BresenhamParameters.new line.perpendicular := by
  unfold ParallelsIterator.new at h
  simp only at h
  split at h
  · cases h
  · rename_i r it0 hnp
    simp only [Option.some.injEq] at h
    subst h
    have hs := nextParallel_same hnp
    exact ⟨hs.th, hs.acc, hs.perp⟩

theorem next_scalars {it : ParallelsIterator} {r it'} (h : it.next = some (some r, it')) :
    ¬ (it.thicknessAccumulator * it.thicknessAccumulator > it.thicknessThreshold) ∧
    it'.thicknessThreshold = it.thicknessThreshold ∧
    it'.perpendicularParameters = it.perpendicularParameters ∧
    (it'.thicknessAccumulator = it.thicknessAccumulator + it.perpendicularParameters.errorStep.minor ∨
     it'.thicknessAccumulator = it.thicknessAccumulator + it.perpendicularParameters.errorStep.major) := by
  obtain ⟨b, ty⟩ := r
  obtain ⟨hc, _, w', e', _, _, rfl⟩ := next_some it it' b ty h
  have hf := sameFrame_setSide it it.nextSide w' e'
  refine ⟨hc, hf.2.2.2.1, hf.2.1, ?_⟩
  cases ty
  · exact Or.inl rfl
  · exact Or.inr rfl

/-- The hypotheses of `Chk.thickAccStep_ok`. -/
structure ScalarsInRange (it : ParallelsIterator) : Prop where
  acc : -2147483648 ≤ it.thicknessAccumulator ∧ it.thicknessAccumulator ≤ 2147483647
  th : it.thicknessThreshold ≤ 1152921504606846976
  minor : -1073741823 ≤ it.perpendicularParameters.errorStep.minor ∧
    it.perpendicularParameters.errorStep.minor ≤ 1073741823
  major : -1073741823 ≤ it.perpendicularParameters.errorStep.major ∧
    it.perpendicularParameters.errorStep.major ≤ 1073741823

theorem next_in_range {it : ParallelsIterator} (hr : ScalarsInRange it) {r it'}
    (h : it.next = some (some r, it')) :
    (Chk.thickAccStep it.thicknessAccumulator it.thicknessThreshold
        it.perpendicularParameters.errorStep.minor = some (some it'.thicknessAccumulator) ∨
     Chk.thickAccStep it.thicknessAccumulator it.thicknessThreshold
        it.perpendicularParameters.errorStep.major = some (some it'.thicknessAccumulator)) ∧
    ScalarsInRange it' := by
  obtain ⟨hc, hth, hperp, hacc⟩ := next_scalars h
  have e1 := Chk.thickAccStep_ok hr.acc hr.th hr.minor
  have e2 := Chk.thickAccStep_ok hr.acc hr.th hr.major
  rw [if_neg hc] at e1 e2
  -- the square is below the threshold `2^60`, so the accumulator is within `+-2^30`
  have hb := abs_le_of_sq_le (a := it.thicknessAccumulator) (B := 1073741824) (by decide)
    (Int.le_trans (Int.not_lt.1 hc) hr.th)
  have hm := hr.minor
  have hM := hr.major
  refine ⟨?_, ⟨?_, hth ▸ hr.th, hperp ▸ hr.minor, hperp ▸ hr.major⟩⟩
  · rcases hacc with ha | ha
    · exact Or.inl (ha ▸ e1)
    · exact Or.inr (ha ▸ e2)
  · rcases hacc with ha | ha <;> rw [ha] <;> omega

/-- Thickness up to 8191 (display scale: 128): `(2 * 8191)^2 * 2 * 32766^2 <= 2^60`, the bound
`ScalarsInRange.th` asks of the threshold. -/
theorem new_in_range {l : Line}
    (hs : (-16383 ≤ l.start.x ∧ l.start.x ≤ 16383) ∧ (-16383 ≤ l.start.y ∧ l.start.y ≤ 16383))
    (he : (-16383 ≤ l.stop.x ∧ l.stop.x ≤ 16383) ∧ (-16383 ≤ l.stop.y ∧ l.stop.y ≤ 16383))
    {t : Int} (ht : 0 ≤ t ∧ t ≤ 8191) {so : StrokeOffset} {it : ParallelsIterator}
    (h : ParallelsIterator.new l t so = some it) :
    Chk.thickScalars l t = some (it.thicknessThreshold, it.thicknessAccumulator) ∧
    ScalarsInRange it := by
  obtain ⟨h1, h2, h3⟩ := new_scalars h
  have hsc := Chk.thickScalars_ok hs he (t := t) (by omega)
  simp only at h1 h2 h3 hsc
  refine ⟨by rw [hsc, h1, h2], ?_⟩
  generalize hl : (if l.start = l.stop then horizontalLine else l) = line at h1 h2 h3
  obtain ⟨hs', he'⟩ := Chk.thickLine_bounds hs he hl
  have hd : (-32766 ≤ line.stop.x - line.start.x ∧ line.stop.x - line.start.x ≤ 32766) ∧
      (-32766 ≤ line.stop.y - line.start.y ∧ line.stop.y - line.start.y ≤ 32766) := by omega
  have hpar := Chk.errorStep_bounds hd.1 hd.2
  -- the delta of the perpendicular is the delta of the line, turned
  have hperp := Chk.errorStep_bounds (l := line.perpendicular) (D := 32766)
    (by simp only [Line.perpendicular, Pt.add_x, Pt.sub_y]; omega)
    (by simp only [Line.perpendicular, Pt.add_y, Pt.sub_x]; omega)
  have hth := (Chk.plainThickThreshold_bounds (T := 8191) ht (d := line.delta) hd.1 hd.2).2.2
  have hacc := tdiv2_bounds
    ((BresenhamParameters.new line).errorStep.minor + (BresenhamParameters.new line).errorStep.major)
  rw [← h1] at hth
  rw [← h3] at hperp
  rw [← h2] at hacc
  exact ⟨by omega, Int.le_trans hth (by decide), by omega, by omega⟩

end EG.Thick.ParallelsIterator
