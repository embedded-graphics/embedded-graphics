/-
  EG.Lemmas.Raw — what the three families behind `load` / `store` read and write, on buffers of any
  length and any index. A cell is the group of `n` bytes at offset `c * n` (`cell?`): one byte for
  `loadBits` / `storeBits` and `loadU8` / `storeU8`, the `n` bytes of a pixel for `loadBytes` /
  `storeBytes`. The multi-byte family is "take the cell, decode" resp. "splice the cell, encoded"
  (`loadBytes_eq`, `storeBytes_eq`); the sub-byte family is stated on the byte and the slot's shift
  (`loadBits_eq`, `storeBits_eq`), and `cell?_one`, `set_eq_splice` turn a byte access into a cell of
  one byte. The facts about cells of a list (`cell?_splice`, `cell?_take`, `cell?_drop`, ..) and about
  base-256 digits (`fromLe` / `toLe`, `decodeBytes` / `encodeBytes` for either order) are all that
  EG/Lemmas/RawLoadStore.lean needs.
-/
import EG.Lemmas.RawBits
namespace EG.Raw

theorem BytesOk.of_getElem? {buf : List Nat} (h : BytesOk buf) {k b : Nat} (hb : buf[k]? = some b) :
    b < 256 := h b (List.mem_of_getElem? hb)

theorem BytesOk.getElem {buf : List Nat} (h : BytesOk buf) {k : Nat} (hk : k < buf.length) :
    buf[k] < 256 := h _ (List.getElem_mem hk)

theorem BytesOk.set {buf : List Nat} (h : BytesOk buf) (k : Nat) {nb : Nat} (hnb : nb < 256) :
    BytesOk (buf.set k nb) := by
  intro b hb
  rcases List.mem_or_eq_of_mem_set hb with h1 | h1
  · exact h b h1
  · exact h1 ▸ hnb

theorem BytesOk.head {b : Nat} {bs : List Nat} (h : BytesOk (b :: bs)) : b < 256 :=
  h b List.mem_cons_self

theorem BytesOk.tail {b : Nat} {bs : List Nat} (h : BytesOk (b :: bs)) : BytesOk bs :=
  fun x hx => h x (List.mem_cons_of_mem _ hx)

theorem BytesOk.append {a b : List Nat} (ha : BytesOk a) (hb : BytesOk b) : BytesOk (a ++ b) := by
  intro x hx
  rcases List.mem_append.mp hx with h | h
  · exact ha x h
  · exact hb x h

theorem BytesOk.take {a : List Nat} (ha : BytesOk a) (n : Nat) : BytesOk (a.take n) :=
  fun x hx => ha x (List.mem_of_mem_take hx)

theorem BytesOk.drop {a : List Nat} (ha : BytesOk a) (n : Nat) : BytesOk (a.drop n) :=
  fun x hx => ha x (List.mem_of_mem_drop hx)

theorem ppb_pos {bits : Nat} (h : subByte bits) : 0 < 8 / bits := by
  rcases h with rfl | rfl | rfl <;> decide

theorem subByte_lt {bits : Nat} (h : subByte bits) : bits < 8 := by
  rcases h with rfl | rfl | rfl <;> decide

theorem slotShift_mod_add_le {bits : Nat} (h : subByte bits) (o : Order) (i : Nat) :
    slotShift bits o (i % (8 / bits)) + bits ≤ 8 :=
  slotShift_add_le o (Nat.mod_lt i (ppb_pos h))

theorem loadBits_eq (bits : Nat) (o : Order) (buf : List Nat) (i : Nat) :
    loadBits bits o buf i
      = buf[i / (8 / bits)]?.map (loadByte bits (slotShift bits o (i % (8 / bits)))) := by
  simp only [loadBits, bitPosition_eq]
  cases buf[i / (8 / bits)]? <;> rfl


theorem storeBits_eq (bits : Nat) (o : Order) (v : Nat) (buf : List Nat) (i : Nat) :
    storeBits bits o v buf i =
      match buf[i / (8 / bits)]? with
      | none => (false, buf)
      | some b => (true, buf.set (i / (8 / bits)) (storeByte bits (slotShift bits o (i % (8 / bits))) v b)) :=
  rfl

theorem toLe_length (n v : Nat) : (toLe n v).length = n := by
  induction n generalizing v with
  | zero => rfl
  | succ n ih => simp [toLe, ih]

theorem toBe_length (n v : Nat) : (toBe n v).length = n := by
  simp [toBe, toLe_length]

theorem toLe_bytesOk (n v : Nat) : BytesOk (toLe n v) := by
  induction n generalizing v with
  | zero => intro b hb; cases hb
  | succ n ih =>
    intro b hb
    simp only [toLe, List.mem_cons] at hb
    rcases hb with rfl | hb
    · omega
    · exact ih _ b hb

theorem fromLe_toLe (n v : Nat) (hv : v < 256 ^ n) : fromLe (toLe n v) = v := by
  induction n generalizing v with
  | zero => simp only [Nat.pow_zero] at hv; simp only [toLe, fromLe]; omega
  | succ n ih =>
    have h1 : v / 256 < 256 ^ n := by
      apply Nat.div_lt_of_lt_mul
      rw [Nat.pow_succ, Nat.mul_comm] at hv
      exact hv
    simp only [toLe, fromLe, ih _ h1]
    omega

theorem fromLe_lt (s : List Nat) (hs : BytesOk s) : fromLe s < 256 ^ s.length := by
  induction s with
  | nil => simp [fromLe]
  | cons b bs ih =>
    have hb := hs.head
    have := ih hs.tail
    simp only [fromLe, List.length_cons, Nat.pow_succ]
    omega

theorem fromLe_digit (s : List Nat) (hs : BytesOk s) (j : Nat) (hj : j < s.length) :
    s[j] = fromLe s / 256 ^ j % 256 := by
  induction s generalizing j with
  | nil => cases hj
  | cons b bs ih =>
    have hb := hs.head
    have hbs := hs.tail
    cases j with
    | zero => simp only [List.getElem_cons_zero, fromLe, Nat.pow_zero, Nat.div_one]; omega
    | succ j =>
      simp only [List.getElem_cons_succ, fromLe]
      rw [ih hbs j (by simpa using hj), Nat.pow_succ, Nat.mul_comm (256 ^ j) 256,
        ← Nat.div_div_eq_div_mul]
      congr 2
      omega

theorem digit_testBit (v j p : Nat) (hp : p < 8) :
    (v / 256 ^ j % 256).testBit p = v.testBit (8 * j + p) := by
  have h256 : (256 : Nat) = 2 ^ 8 := by decide
  have hpow : (256 : Nat) ^ j = 2 ^ (8 * j) := by rw [h256, ← Nat.pow_mul]
  rw [hpow, h256, Nat.testBit_mod_two_pow, ← Nat.shiftRight_eq_div_pow, Nat.testBit_shiftRight]
  simp [hp]

def decodeBytes (o : Order) (s : List Nat) : Nat := if o.alt then fromBe s else fromLe s
def encodeBytes (o : Order) (n v : Nat) : List Nat := if o.alt then toBe n v else toLe n v

theorem encodeBytes_length (o : Order) (n v : Nat) : (encodeBytes o n v).length = n := by
  unfold encodeBytes; split
  · exact toBe_length n v
  · exact toLe_length n v

theorem encodeBytes_bytesOk (o : Order) (n v : Nat) : BytesOk (encodeBytes o n v) := by
  unfold encodeBytes toBe
  split
  · exact fun b hb => toLe_bytesOk n v b (List.mem_reverse.mp hb)
  · exact toLe_bytesOk n v

theorem decode_encode (o : Order) (n v : Nat) (hv : v < 256 ^ n) :
    decodeBytes o (encodeBytes o n v) = v := by
  unfold decodeBytes encodeBytes fromBe toBe
  split
  · rw [List.reverse_reverse]
    exact fromLe_toLe n v hv
  · exact fromLe_toLe n v hv

theorem decodeBytes_lt (o : Order) {s : List Nat} (hs : BytesOk s) : decodeBytes o s < 256 ^ s.length := by
  unfold decodeBytes fromBe
  split
  · have := fromLe_lt s.reverse (fun x hx => hs x (List.mem_reverse.mp hx))
    rw [List.length_reverse] at this
    exact this
  · exact fromLe_lt s hs

theorem splice_length {buf : List Nat} {a : Nat} {bytes : List Nat}
    (h : a + bytes.length ≤ buf.length) : (splice buf a bytes).length = buf.length := by
  simp only [splice, List.length_append, List.length_take, List.length_drop]
  omega

theorem splice_getElem?_outside {buf : List Nat} {a : Nat} {bytes : List Nat}
    (h : a + bytes.length ≤ buf.length) {k : Nat} (hk : k < a ∨ a + bytes.length ≤ k) :
    (splice buf a bytes)[k]? = buf[k]? := by
  unfold splice
  have hlt : (buf.take a).length = a := by simp only [List.length_take]; omega
  rcases hk with hk | hk
  · rw [List.append_assoc, List.getElem?_append_left (by omega)]
    simp only [List.getElem?_take, hk, ↓reduceIte]
  · rw [List.getElem?_append_right (by simp only [List.length_append, hlt]; omega)]
    simp only [List.length_append, hlt, List.getElem?_drop]
    congr 1
    omega

theorem splice_bytesOk {buf : List Nat} {a : Nat} {bytes : List Nat}
    (hw : BytesOk buf) (hb : BytesOk bytes) : BytesOk (splice buf a bytes) :=
  ((hw.take a).append hb).append (hw.drop _)

theorem window_ext {l l' : List Nat} {s n : Nat}
    (h : ∀ k, k < n → l[s + k]? = l'[s + k]?) : (l.drop s).take n = (l'.drop s).take n := by
  apply List.ext_getElem?
  intro k
  simp only [List.getElem?_take, List.getElem?_drop]
  split
  · rename_i hk; exact h k hk
  · rfl

theorem splice_window_self {buf : List Nat} {a : Nat} {bytes : List Nat}
    (h : a + bytes.length ≤ buf.length) :
    ((splice buf a bytes).drop a).take bytes.length = bytes := by
  have hlt : (buf.take a).length = a := by rw [List.length_take]; omega
  unfold splice
  rw [List.append_assoc, List.drop_left' hlt, List.take_left' rfl]

theorem set_eq_splice {buf : List Nat} {k : Nat} (h : k < buf.length) (b : Nat) :
    buf.set k b = splice buf k [b] := by
  apply List.ext_getElem?
  intro j
  by_cases hj : j = k
  · subst hj
    have hlt : (buf.take j).length = j := by rw [List.length_take]; omega
    unfold splice
    rw [List.getElem?_set_self h, List.append_assoc, List.getElem?_append_right (by omega), hlt,
      Nat.sub_self]
    rfl
  · rw [List.getElem?_set_ne (Ne.symm hj)]
    exact (splice_getElem?_outside (bytes := [b]) (Nat.succ_le_of_lt h)
      (by simp only [List.length_singleton]; omega)).symm

def cell? (n : Nat) (buf : List Nat) (c : Nat) : Option (List Nat) :=
  if c * n + n ≤ buf.length then some ((buf.drop (c * n)).take n) else none

/-- `buffer.get(c * n..)?.get(0..n)`: the two slice tests of the multi-byte `load` / `store`. -/
theorem slices_eq_cell? (n : Nat) (buf : List Nat) (c : Nat) :
    (match sliceFrom buf (c * n) with
      | none => none
      | some tail => slicePrefix tail n) = cell? n buf c := by
  unfold sliceFrom slicePrefix cell?
  by_cases h1 : c * n ≤ buf.length
  · rw [if_pos h1]
    simp only [List.length_drop]
    by_cases h2 : n ≤ buf.length - c * n
    · rw [if_pos h2, if_pos (by omega)]
    · rw [if_neg h2, if_neg (by omega)]
  · rw [if_neg h1, if_neg (by omega)]

theorem cell?_one (buf : List Nat) (c : Nat) : cell? 1 buf c = buf[c]?.map (fun b => [b]) := by
  unfold cell?
  rw [Nat.mul_one]
  by_cases h : c < buf.length
  · rw [if_pos (by omega), List.getElem?_eq_getElem h, Option.map_some]
    congr 1
    apply List.ext_getElem?
    intro k
    rw [List.getElem?_take, List.getElem?_drop]
    cases k with
    | zero => rw [if_pos (by decide), Nat.add_zero, List.getElem?_eq_getElem h]; rfl
    | succ k => rw [if_neg (by omega)]; rfl
  · rw [if_neg (by omega), List.getElem?_eq_none (by omega), Option.map_none]

theorem cell?_some {n : Nat} {buf : List Nat} {c : Nat} {w : List Nat} (h : cell? n buf c = some w) :
    w.length = n ∧ c * n + n ≤ buf.length ∧ w = (buf.drop (c * n)).take n := by
  unfold cell? at h
  split at h
  · rename_i hle
    cases h
    exact ⟨by rw [List.length_take, List.length_drop]; omega, hle, rfl⟩
  · cases h

theorem cell?_eq_none_iff {n : Nat} (hn : 0 < n) (buf : List Nat) (c : Nat) :
    cell? n buf c = none ↔ buf.length / n ≤ c := by
  have key : c * n + n ≤ buf.length ↔ c + 1 ≤ buf.length / n := by
    rw [← Nat.succ_mul, Nat.le_div_iff_mul_le hn]
  unfold cell?
  split
  · simp only [reduceCtorEq, false_iff]
    omega
  · simp only [true_iff]
    omega

theorem cell?_bytesOk {n : Nat} {buf : List Nat} {c : Nat} {w : List Nat} (hw : BytesOk buf)
    (h : cell? n buf c = some w) : BytesOk w := by
  rw [(cell?_some h).2.2]
  exact (hw.drop _).take _

theorem cell?_splice {n : Nat} {buf : List Nat} {c : Nat} {w : List Nat} (hl : w.length = n)
    (hc : c * n + n ≤ buf.length) (c' : Nat) :
    cell? n (splice buf (c * n) w) c' = if c' = c then some w else cell? n buf c' := by
  have hle : c * n + w.length ≤ buf.length := by omega
  unfold cell?
  rw [splice_length hle]
  by_cases hcc : c' = c
  · subst hcc
    have := splice_window_self hle
    rw [hl] at this
    rw [if_pos hc, if_pos rfl, this]
  · rw [if_neg hcc]
    split
    · congr 1
      apply window_ext
      intro k hk
      apply splice_getElem?_outside hle
      rw [hl]
      -- consecutive multiples of `n` bound disjoint windows
      rcases Nat.lt_or_gt_of_ne hcc with h | h
      · left
        have := mul_add_le_mul n h
        omega
      · right
        have := mul_add_le_mul n h
        omega
    · rfl

theorem cell?_take {n : Nat} (buf : List Nat) {m c : Nat} (hm : m ≤ buf.length) (hc : c * n + n ≤ m) :
    cell? n (buf.take m) c = cell? n buf c := by
  unfold cell?
  rw [if_pos (by rw [List.length_take]; omega), if_pos (by omega)]
  congr 1
  apply window_ext
  intro k hk
  rw [List.getElem?_take, if_pos (by omega)]

theorem cell?_drop {n : Nat} (hn : 0 < n) (buf : List Nat) (j c : Nat) :
    cell? n (buf.drop (j * n)) c = cell? n buf (c + j) := by
  unfold cell?
  rw [List.length_drop, List.drop_drop, Nat.add_mul, Nat.add_comm (c * n) (j * n)]
  by_cases h : j * n + c * n + n ≤ buf.length
  · rw [if_pos (by omega), if_pos h]
  · rw [if_neg (by omega), if_neg h]

theorem cell?_replicate_zero {n len c : Nat} (h : c * n + n ≤ len) :
    cell? n (List.replicate len 0) c = some (List.replicate n 0) := by
  unfold cell?
  rw [List.length_replicate, if_pos h, List.drop_replicate, List.take_replicate, Nat.min_eq_left (by omega)]

theorem loadBytes_eq (n : Nat) (o : Order) (buf : List Nat) (i : Nat) :
    loadBytes n o buf i = (cell? n buf i).map (decodeBytes o) := by
  rw [← slices_eq_cell?]
  unfold loadBytes decodeBytes
  cases sliceFrom buf (i * n) with
  | none => rfl
  | some tail =>
    dsimp only
    cases slicePrefix tail n <;> rfl

theorem storeBytes_eq (n : Nat) (o : Order) (v : Nat) (buf : List Nat) (i : Nat) :
    storeBytes n o v buf i =
      match cell? n buf i with
      | none => (false, buf)
      | some _ => (true, splice buf (i * n) (encodeBytes o n v)) := by
  rw [← slices_eq_cell?]
  unfold storeBytes encodeBytes
  cases sliceFrom buf (i * n) with
  | none => rfl
  | some tail =>
    dsimp only
    cases slicePrefix tail n <;> rfl

theorem loadBytes_digit {n : Nat} {o : Order} {buf : List Nat} {i v : Nat} (hw : BytesOk buf)
    (hl : loadBytes n o buf i = some v) {j : Nat} (hj : j < n) :
    buf[i * n + (if o.alt then n - 1 - j else j)]? = some (v / 256 ^ j % 256) := by
  rw [loadBytes_eq] at hl
  obtain ⟨s, hc, rfl⟩ := Option.map_eq_some_iff.mp hl
  have hok := cell?_bytesOk hw hc
  obtain ⟨hlen, hle, rfl⟩ := cell?_some hc
  have hget : ∀ m, (hm : m < n) → ((buf.drop (i * n)).take n)[m]'(by omega) = buf[i * n + m]'(by omega) := by
    intro m hm
    simp only [List.getElem_take, List.getElem_drop]
  unfold decodeBytes
  cases o with
  | le =>
    simp only [Order.alt, Bool.false_eq_true, ↓reduceIte]
    rw [List.getElem?_eq_getElem (by omega), ← hget j hj,
      fromLe_digit _ hok j (by omega)]
  | be =>
    simp only [Order.alt, ↓reduceIte, fromBe]
    have hokr : BytesOk ((buf.drop (i * n)).take n).reverse :=
      fun x hx => hok x (List.mem_reverse.mp hx)
    have := fromLe_digit _ hokr j (by rw [List.length_reverse]; omega)
    rw [← this, List.getElem_reverse, List.getElem?_eq_getElem (by omega), ← hget (n - 1 - j) (by omega)]
    simp only [hlen]

end EG.Raw
