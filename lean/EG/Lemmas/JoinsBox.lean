/-
  EG.Lemmas.JoinsBox — `ThickSegment::edges_bounding_box` and what `intersection(scanline_y)` paints.
  * the box contains the end points of the edges it is made of (both edges; for a skeleton segment
    the edge that is drawn);
  * the scanline of any segment lies inside the x-hull of the end points of its outline lines;
  * hence every pixel of a skeleton segment lies inside its box.
-/
import EG.Model.ThickSegment
import EG.Lemmas.Rect
import EG.Lemmas.Scanline
import EG.Lemmas.LineProps
set_option linter.unusedSimpArgs false
namespace EG
namespace Joins
open Thick (LineSide StrokeOffset)

theorem contains_lineBoundingBox_start (l : Line) : (lineBoundingBox l).contains l.start = true := by
  unfold lineBoundingBox; rw [Rect.contains_withCorners]; omega

theorem contains_lineBoundingBox_stop (l : Line) : (lineBoundingBox l).contains l.stop = true := by
  unfold lineBoundingBox; rw [Rect.contains_withCorners]; omega

theorem min4_le (a b c e : Int) :
    min (min (min a b) c) e ≤ a ∧ min (min (min a b) c) e ≤ b ∧ min (min (min a b) c) e ≤ c ∧
      min (min (min a b) c) e ≤ e :=
  have h3 : min (min (min a b) c) e ≤ min (min a b) c := Int.min_le_left _ _
  have h2 : min (min (min a b) c) e ≤ min a b := Int.le_trans h3 (Int.min_le_left _ _)
  ⟨Int.le_trans h2 (Int.min_le_left _ _), Int.le_trans h2 (Int.min_le_right _ _),
    Int.le_trans h3 (Int.min_le_right _ _), Int.min_le_right _ _⟩

theorem le_max4 (a b c e : Int) :
    a ≤ max (max (max a b) c) e ∧ b ≤ max (max (max a b) c) e ∧ c ≤ max (max (max a b) c) e ∧
      e ≤ max (max (max a b) c) e :=
  have h3 : max (max a b) c ≤ max (max (max a b) c) e := Int.le_max_left _ _
  have h2 : max a b ≤ max (max (max a b) c) e := Int.le_trans (Int.le_max_left _ _) h3
  ⟨Int.le_trans (Int.le_max_left _ _) h2, Int.le_trans (Int.le_max_right _ _) h2,
    Int.le_trans (Int.le_max_right _ _) h3, Int.le_max_right _ _⟩

theorem contains_withCorners_between {a b p : Pt} (hx : a.x ≤ p.x ∧ p.x ≤ b.x) (hy : a.y ≤ p.y ∧ p.y ≤ b.y) :
    (Rect.withCorners a b).contains p = true :=
  Rect.contains_withCorners.mpr
    ⟨Int.le_trans (Int.min_le_left _ _) hx.1, Int.le_trans hx.2 (Int.le_max_right _ _),
      Int.le_trans (Int.min_le_left _ _) hy.1, Int.le_trans hy.2 (Int.le_max_right _ _)⟩

theorem contains_box4 (a b c e p : Pt) (h : p = a ∨ p = b ∨ p = c ∨ p = e) :
    (Rect.withCorners (((a.componentMin b).componentMin c).componentMin e)
      (((a.componentMax b).componentMax c).componentMax e)).contains p = true := by
  obtain ⟨x1, x2, x3, x4⟩ := min4_le a.x b.x c.x e.x
  obtain ⟨X1, X2, X3, X4⟩ := le_max4 a.x b.x c.x e.x
  obtain ⟨y1, y2, y3, y4⟩ := min4_le a.y b.y c.y e.y
  obtain ⟨Y1, Y2, Y3, Y4⟩ := le_max4 a.y b.y c.y e.y
  rcases h with rfl | rfl | rfl | rfl
  · exact contains_withCorners_between ⟨x1, X1⟩ ⟨y1, Y1⟩
  · exact contains_withCorners_between ⟨x2, X2⟩ ⟨y2, Y2⟩
  · exact contains_withCorners_between ⟨x3, X3⟩ ⟨y3, Y3⟩
  · exact contains_withCorners_between ⟨x4, X4⟩ ⟨y4, Y4⟩

theorem edgesBoundingBox_skeleton (s : ThickSegment) (h : s.isSkeleton = true) :
    s.edgesBoundingBox.contains s.edges.1.start = true ∧
    s.edgesBoundingBox.contains s.edges.1.stop = true := by
  unfold ThickSegment.edgesBoundingBox
  simp only [h, ↓reduceIte]
  exact ⟨contains_lineBoundingBox_start _, contains_lineBoundingBox_stop _⟩

theorem edgesBoundingBox_thick (s : ThickSegment) (h : s.isSkeleton = false) :
    s.edgesBoundingBox.contains s.edges.1.start = true ∧
    s.edgesBoundingBox.contains s.edges.1.stop = true ∧
    s.edgesBoundingBox.contains s.edges.2.start = true ∧
    s.edgesBoundingBox.contains s.edges.2.stop = true := by
  unfold ThickSegment.edgesBoundingBox
  simp only [h, Bool.false_eq_true, ↓reduceIte]
  refine ⟨?_, ?_, ?_, ?_⟩ <;> apply contains_box4 <;> simp

/-- The scanline is empty or lies within the columns `lo ..= hi`. -/
def Within (s : Scanline) (lo hi : Int) : Prop := s.isEmpty = true ∨ (lo ≤ s.xs ∧ s.xe ≤ hi + 1)

theorem isEmpty_iff (s : Scanline) : s.isEmpty = true ↔ ¬ s.xs < s.xe := Scanline.isEmpty_iff s

theorem extend_y (s : Scanline) (x : Int) : (s.extend x).y = s.y := Scanline.extend_y s x

theorem extend_within (s : Scanline) (x lo hi : Int) (h : Within s lo hi) (h1 : lo ≤ x) (h2 : x ≤ hi) :
    Within (s.extend x) lo hi := by
  rw [Scanline.extend_eq]
  right
  rcases h with h | h
  · rw [if_neg ((isEmpty_iff s).mp h)]; dsimp only; omega
  · split <;> (dsimp only; omega)

theorem foldl_extend_within (ps : List Pt) (s : Scanline) (lo hi : Int)
    (hps : ∀ p ∈ ps, lo ≤ p.x ∧ p.x ≤ hi) (h : Within s lo hi) :
    Within (ps.foldl (fun s p => s.extend p.x) s) lo hi ∧
      (ps.foldl (fun s p => s.extend p.x) s).y = s.y := by
  induction ps generalizing s with
  | nil => exact ⟨h, rfl⟩
  | cons p ps ih =>
    simp only [List.foldl_cons]
    have hp := hps p (List.mem_cons_self)
    obtain ⟨a, b⟩ := ih (s.extend p.x) (fun q hq => hps q (List.mem_cons_of_mem _ hq))
      (extend_within s p.x lo hi h hp.1 hp.2)
    exact ⟨a, by rw [b, extend_y]⟩

/-- The row test of `bresenham_intersection`. -/
def inYb (s : Scanline) (l : Line) : Bool :=
  if l.start.y ≤ l.stop.y then decide (l.start.y ≤ s.y ∧ s.y ≤ l.stop.y)
  else decide (l.stop.y ≤ s.y ∧ s.y ≤ l.start.y)

theorem inYb_iff (s : Scanline) (l : Line) :
    inYb s l = true ↔ (min l.start.y l.stop.y ≤ s.y ∧ s.y ≤ max l.start.y l.stop.y) := by
  unfold inYb
  by_cases h : l.start.y ≤ l.stop.y
  · simp only [h, ↓reduceIte, decide_eq_true_eq]; omega
  · simp only [h, ↓reduceIte, decide_eq_true_eq]; omega

/-- The points of the line in the scanline's row, as `bresenham_intersection` selects them. -/
def rowPoints (s : Scanline) (l : Line) : List Pt :=
  ((Line.points l).dropWhile (fun p => p.y != s.y)).takeWhile (fun p => p.y == s.y)

theorem bint_eq (s : Scanline) (l : Line) :
    bint s l = if inYb s l then (rowPoints s l).foldl (fun s p => s.extend p.x) s else s := by
  unfold bint Scanline.bresenhamIntersection
  show (if inYb s l = true then (if (!inYb s l) = true then s else _) else s) = _
  by_cases h : inYb s l = true
  · simp only [h, ↓reduceIte, Bool.not_true, Bool.false_eq_true]; rfl
  · simp only [h, Bool.false_eq_true, ↓reduceIte]

theorem foldl_extend_y (ps : List Pt) (s : Scanline) : (ps.foldl (fun s p => s.extend p.x) s).y = s.y := by
  induction ps generalizing s with
  | nil => rfl
  | cons p ps ih => rw [List.foldl_cons, ih, extend_y]

theorem bint_y (s : Scanline) (l : Line) : (bint s l).y = s.y := by
  rw [bint_eq]
  split
  · exact foldl_extend_y _ _
  · rfl

theorem foldl_bint_y (ls : List Line) (s : Scanline) : (ls.foldl bint s).y = s.y := by
  induction ls generalizing s with
  | nil => rfl
  | cons l ls ih => rw [List.foldl_cons, ih, bint_y]

theorem intersection_y (s : ThickSegment) (y : Int) : (s.intersection y).y = y :=
  foldl_bint_y s.outline (Scanline.newEmpty y)

theorem bint_within (s : Scanline) (l : Line) (lo hi : Int) (h : Within s lo hi)
    (h1 : lo ≤ l.start.x) (h2 : lo ≤ l.stop.x) (h3 : l.start.x ≤ hi) (h4 : l.stop.x ≤ hi) :
    Within (bint s l) lo hi ∧ (bint s l).y = s.y := by
  rw [bint_eq]
  by_cases hb : inYb s l = true
  · simp only [hb, ↓reduceIte]
    apply foldl_extend_within _ _ _ _ _ h
    intro p hp
    have hp' : p ∈ Line.points l :=
      (List.dropWhile_sublist _).subset ((List.takeWhile_sublist _).subset hp)
    have hb := Line.mem_points_in_box hp'
    omega
  · simp only [hb, Bool.false_eq_true, ↓reduceIte]
    exact ⟨h, trivial⟩

theorem bint_of_not_inY (s : Scanline) (l : Line)
    (h : ¬ (min l.start.y l.stop.y ≤ s.y ∧ s.y ≤ max l.start.y l.stop.y)) : bint s l = s := by
  rw [bint_eq]
  have hb : ¬ inYb s l = true := fun c => h ((inYb_iff s l).mp c)
  simp only [hb, Bool.false_eq_true, ↓reduceIte]

theorem foldl_bint_within (ls : List Line) (s : Scanline) (lo hi : Int) (h : Within s lo hi)
    (hl : ∀ l ∈ ls, lo ≤ l.start.x ∧ lo ≤ l.stop.x ∧ l.start.x ≤ hi ∧ l.stop.x ≤ hi) :
    Within (ls.foldl bint s) lo hi ∧ (ls.foldl bint s).y = s.y := by
  induction ls generalizing s with
  | nil => exact ⟨h, rfl⟩
  | cons l ls ih =>
    simp only [List.foldl_cons]
    obtain ⟨a1, a2, a3, a4⟩ := hl l List.mem_cons_self
    obtain ⟨b1, b2⟩ := bint_within s l lo hi h a1 a2 a3 a4
    obtain ⟨c1, c2⟩ := ih (bint s l) b1 (fun m hm => hl m (List.mem_cons_of_mem _ hm))
    exact ⟨c1, by rw [c2, b2]⟩

theorem intersection_within_outline (s : ThickSegment) (y lo hi : Int)
    (hl : ∀ l ∈ s.outline, lo ≤ l.start.x ∧ lo ≤ l.stop.x ∧ l.start.x ≤ hi ∧ l.stop.x ≤ hi) :
    Within (s.intersection y) lo hi ∧ (s.intersection y).y = y := by
  unfold ThickSegment.intersection
  exact foldl_bint_within s.outline (Scanline.newEmpty y) lo hi (Or.inl rfl) hl

theorem outline_skeleton (s : ThickSegment) (h : s.isSkeleton = true) : s.outline = [s.edges.1] := by
  unfold ThickSegment.outline; simp only [h, ↓reduceIte]

theorem intersection_skeleton (s : ThickSegment) (h : s.isSkeleton = true) (y : Int) :
    s.intersection y = bint (Scanline.newEmpty y) s.edges.1 := by
  unfold ThickSegment.intersection; rw [outline_skeleton s h]; rfl

theorem skeleton_pixels_in_box (s : ThickSegment) (h : s.isSkeleton = true) (y : Int) (p : Pt)
    (hp : p ∈ (s.intersection y).points) : s.edgesBoundingBox.contains p = true := by
  rw [intersection_skeleton s h] at hp
  have hbox : s.edgesBoundingBox = lineBoundingBox s.edges.1 := by
    unfold ThickSegment.edgesBoundingBox; simp only [h, ↓reduceIte]
  rw [hbox]
  generalize s.edges.1 = l at *
  unfold lineBoundingBox
  rw [Rect.contains_withCorners]
  have hw0 : Within (Scanline.newEmpty y) (min l.start.x l.stop.x) (max l.start.x l.stop.x) := by
    left; rfl
  obtain ⟨hw, hy⟩ := bint_within (Scanline.newEmpty y) l _ _ hw0 (by omega) (by omega) (by omega) (by omega)
  rw [Scanline.mem_points] at hp
  obtain ⟨py, px1, px2⟩ := hp
  have hne : ¬ (bint (Scanline.newEmpty y) l).isEmpty = true := by
    rw [isEmpty_iff]; omega
  rcases hw with hw | ⟨hw1, hw2⟩
  · exact absurd hw hne
  · by_cases hin : min l.start.y l.stop.y ≤ (Scanline.newEmpty y).y ∧ (Scanline.newEmpty y).y ≤ max l.start.y l.stop.y
    · rw [hy] at py
      refine ⟨by omega, by omega, by omega, by omega⟩
    · rw [bint_of_not_inY _ _ hin] at hne
      exact absurd rfl hne

end Joins
end EG
