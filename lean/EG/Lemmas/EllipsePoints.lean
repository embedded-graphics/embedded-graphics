/-
  EG.Lemmas.EllipsePoints — the ellipse's scanline and point iterators equal their closed forms
  (`rows.find_map` skips rows without a hit); `points() = bounding_box().points().filter(contains)`.
-/
import EG.Lemmas.Ellipse
namespace EG
namespace Ellipse

theorem scanlines_eq {e : Ellipse} (h : e.InRange) :
    e.scanlines = ⟨e.tl.y, e.tl.y + e.size.h, e.tl.x, e.tl.x + e.size.w, e.center2x,
      EllipseContains.new e.size⟩ := by
  unfold scanlines
  simp only [Rect.rowsEnd_eq h, Rect.columnsEnd_eq h]
  rfl

theorem scanShape (e : Ellipse) :
    ScanShape (hit e.center2x (EllipseContains.new e.size)) e.tl.x (e.tl.x + e.size.w) e.tl.y
      (e.tl.y + e.size.h) := by
  constructor
  · intro y
    by_cases hw : e.size.w = 0
    · exact SymConvex.of_forall_false (fun x => contains_false_of_zero (Or.inl hw) ⟨x, y⟩)
    · exact hit_symConvex_row _ _ (by rw [center2x_x]; omega)
  · intro x y hx
    exact contains_imp_box (p := ⟨x, y⟩) hx

/-- Closed form of what the scanline iterator still yields: the rows that have a hit. -/
def ScanlinesIt.rest (it : ScanlinesIt) : List Scanline := (irange it.y it.yEnd).filterMap it.row

/-- `rows.find_map(..)` peels the scanline of the next row with a hit off `rest`. -/
theorem ScanlinesIt.nextFuel_yields : ∀ (fuel : Nat) (it : ScanlinesIt), (it.yEnd - it.y).toNat < fuel →
    it.rest = unroll (ofPair (ScanlinesIt.nextFuel fuel) it) ScanlinesIt.rest := by
  intro fuel
  induction fuel with
  | zero => intro it h; omega
  | succ fuel ih =>
    intro it h
    unfold ofPair ScanlinesIt.nextFuel
    by_cases hy : it.y < it.yEnd
    · have hr : it.rest = (it.row it.y).toList ++ ({ it with y := it.y + 1 } : ScanlinesIt).rest := by
        unfold ScanlinesIt.rest
        rw [irange_cons hy, List.filterMap_cons]
        cases it.row it.y <;> rfl
      simp only [hy, ↓reduceIte]
      rw [hr]
      cases it.row it.y with
      | some s => rfl
      | none => exact ih { it with y := it.y + 1 } (by dsimp only; omega)
    · simp only [hy, ↓reduceIte]
      unfold ScanlinesIt.rest
      rw [irange_empty (a := it.y) (b := it.yEnd) (by omega)]
      rfl

theorem ScanlinesIt.yields : Yields (ofPair ScanlinesIt.next) ScanlinesIt.rest := fun it =>
  ScanlinesIt.nextFuel_yields _ it (Nat.lt_succ_self _)

theorem ScanlinesIt.drains : Drains (ofPair ScanlinesIt.next) ScanlinesIt.toListFuel :=
  ⟨fun _ => rfl, fun n it => by
    rw [ScanlinesIt.toListFuel]; unfold ofPair; rcases it.next with ⟨_ | _, _⟩ <;> rfl⟩

theorem ScanlinesIt.rest_length_le (it : ScanlinesIt) : it.rest.length ≤ (it.yEnd - it.y).toNat := by
  unfold ScanlinesIt.rest
  have := List.length_filterMap_le it.row (irange it.y it.yEnd)
  rw [irange_length] at this
  exact this

theorem ScanlinesIt.toListFuel_eq (fuel : Nat) (it : ScanlinesIt) (h : it.rest.length < fuel) :
    it.toListFuel fuel = it.rest :=
  ScanlinesIt.drains.eq_rest ScanlinesIt.yields (Nat.le_of_lt h)

theorem ScanlinesIt.toList_eq (it : ScanlinesIt) : it.toList = it.rest :=
  ScanlinesIt.toListFuel_eq _ it (by have := it.rest_length_le; omega)

theorem scanlines_toList_eq {e : Ellipse} (h : e.InRange) :
    e.scanlines.toList = rowLines (scanRow (hit e.center2x (EllipseContains.new e.size)) e.tl.x
      (e.tl.x + e.size.w)) e.tl.y (e.tl.y + e.size.h) := by
  rw [ScanlinesIt.toList_eq, scanlines_eq h]
  rfl

def PointsIt.rest (it : PointsIt) : List Pt := it.current.points ++ joinNonEmpty it.scanlines.rest

theorem PointsIt.drains : Drains PointsIt.next PointsIt.toListFuel :=
  ⟨fun _ => rfl, fun n it => by rw [PointsIt.toListFuel]; cases it.next <;> rfl⟩

theorem PointsIt.yields : Yields PointsIt.next PointsIt.rest := by
  intro it
  unfold PointsIt.next PointsIt.rest
  rw [Scanline.yields it.current]
  cases it.current.next with
  | some q => rfl
  | none =>
    have hs := ScanlinesIt.yields it.scanlines
    unfold ofPair at hs
    rw [hs]
    rcases it.scanlines.next with ⟨_ | s, sl'⟩
    · rfl
    · dsimp only [unroll, Option.map_some, List.nil_append]
      rw [joinNonEmpty, Scanline.yields s]
      unfold Scanline.next
      by_cases hx : s.xs < s.xe
      · rw [if_pos hx, if_pos hx]; rfl
      · rw [if_neg hx, if_neg hx]

/-- Also for the thin ellipses whose first and last rows have no hit. -/
theorem points_eq_filter {e : Ellipse} (h : e.InRange) :
    e.points = e.boundingBox.points.filter e.contains := by
  have hrest : e.pointsIt.rest = e.boundingBox.points.filter e.contains := by
    have hs : e.pointsIt.scanlines.rest = e.scanlines.toList := (ScanlinesIt.toList_eq _).symm
    unfold PointsIt.rest
    rw [hs, scanlines_toList_eq h,
      joinNonEmpty_eq_flatMap _ (fun s hs => (e.scanShape.scanRow_some_of_mem hs).1),
      e.scanShape.rowScan.flatMap_points, Rect.points_eq_grid (Or.inr h)]
    rfl
  unfold points
  rw [PointsIt.drains.eq_rest PointsIt.yields ?_, hrest]
  rw [hrest, show e.pointsIt.budget = e.size.h * e.size.w by
    simp [PointsIt.budget, pointsIt, scanlines_eq h, Scanline.newEmpty], Nat.mul_comm]
  exact Nat.le_succ_of_le ((List.length_filter_le _ _).trans (Rect.points_length h).le)

end Ellipse
end EG
