/-
  EG.Lemmas.MockSrc — what EG/Props/C20/Generated*.lean need to compare the regenerated `MockDisplay` code with the hand
  model. The panic monad `MutRes` of EG/Model/MockSrcPrelude.lean is read through `toOpt` (the hand model's `Option`,
  `none` = panicked); a `for` loop of the `do` notation without `break` / `return` is `loopM` (`forIn_yield`), and `loopM`
  is the hand model's `foldl` over `Option` (`loopM_foldl`). The prelude's `chunks` / `rchunks` on fuel are the hand
  model's `chunks64`, and what the prelude's formatter writes is read as a list of characters (`rows_fold_toList`).
-/
import EG.Model.MockSrcPrelude
namespace EG.MockSrcLemmas
open EG EG.Mock EG.MockSrcPrelude

/-- forget the panic message and state: the hand model's `Option`. -/
def toOpt {σ α : Type} : MutRes σ α → Option α
  | .ok v => some v
  | .panic _ _ => none

theorem bind_def {σ α β : Type} (r : MutRes σ α) (k : α → MutRes σ β) : (r >>= k) = r.bind k := rfl
theorem pure_def {σ α : Type} (v : α) : (pure v : MutRes σ α) = .ok v := rfl
/- Trap: the two reduction laws must not be `rfl` lemmas. `simp` uses a `rfl` lemma by `dsimp` and leaves the kernel to re-check
   `(ok v).bind k ≡ k v` by unfolding; when `k v` is again a `bind` over a 4096-step loop the kernel runs that loop (deep recursion). -/
theorem bind_ok {σ α β : Type} (v : α) (k : α → MutRes σ β) : (MutRes.ok v).bind k = k v := by
  cases h : k v <;> simp only [MutRes.bind, h]
theorem bind_panic {σ α β : Type} (m : String) (s : σ) (k : α → MutRes σ β) :
    (MutRes.panic m s).bind k = .panic m s := by
  simp only [MutRes.bind]
theorem bind_ok_right {σ α : Type} (r : MutRes σ α) : r.bind MutRes.ok = r := by cases r <;> rfl
theorem at_state_ok {σ σ' α : Type} (s : σ') (v : α) : at_state s (MutRes.ok v : MutRes σ α) = .ok v := rfl
theorem at_state_panic {σ σ' α : Type} (s : σ') (m : String) (t : σ) :
    at_state s (MutRes.panic m t : MutRes σ α) = .panic m s := rfl
theorem toOpt_at_state {σ σ' α : Type} (s : σ') (r : MutRes σ α) : toOpt (at_state s r) = toOpt r := by
  cases r <;> rfl
theorem toOpt_ok {σ α : Type} (v : α) : toOpt (MutRes.ok v : MutRes σ α) = some v := rfl
theorem toOpt_panic {σ α : Type} (m : String) (s : σ) : toOpt (MutRes.panic m s : MutRes σ α) = none := rfl

/-- a `for` loop whose body only continues (no `break` / `return` inside), written out. -/
def loopM {σ α β : Type} (F : α → β → MutRes σ β) : List α → β → MutRes σ β
  | [], b => .ok b
  | a :: as, b => (F a b).bind (fun v => loopM F as v)

theorem forIn_yield {σ α β : Type} (F : α → β → MutRes σ β) : ∀ (l : List α) (init : β),
    forIn l init (fun a b => (F a b).bind (fun v => MutRes.ok (ForInStep.yield v))) = loopM F l init := by
  intro l
  induction l with
  | nil => intro b; rfl
  | cons a as ih =>
    intro b
    rw [List.forIn_cons]
    simp only [loopM, bind, MutRes.bind]
    cases F a b with
    | ok v => simp only []; exact ih v
    | panic m s => rfl

theorem bind_assoc {σ α β γ : Type} (r : MutRes σ α) (f : α → MutRes σ β) (g : β → MutRes σ γ) :
    (r.bind f).bind g = r.bind (fun x => (f x).bind g) := by
  cases r with
  | ok v => rw [bind_ok, bind_ok]
  | panic m s => rw [bind_panic, bind_panic, bind_panic]

/-- `forIn_yield` for a body given as it comes out of the `do` notation. -/
theorem forIn_yield' {σ α β : Type} (body : α → β → MutRes σ (ForInStep β)) (F : α → β → MutRes σ β)
    (h : ∀ a b, body a b = (F a b).bind (fun v => MutRes.ok (ForInStep.yield v))) (l : List α) (init : β) :
    forIn l init body = loopM F l init := by
  have hb : body = fun a b => (F a b).bind (fun v => MutRes.ok (ForInStep.yield v)) := by
    funext a b; exact h a b
  rw [hb]; exact forIn_yield F l init

theorem foldl_none {α β : Type} (G : Option β → α → Option β) (hG : ∀ a, G none a = none) :
    ∀ l : List α, l.foldl G none = none := by
  intro l; induction l with
  | nil => rfl
  | cons a as ih => rw [List.foldl_cons, hG, ih]

/-- a loop in the panic monad against a `foldl` over `Option` (`none` = panicked), as the hand model writes loops. -/
theorem loopM_foldl {σ α β : Type} (F : α → β → MutRes σ β) (G : Option β → α → Option β) (hG : ∀ a, G none a = none)
    (h : ∀ a b, toOpt (F a b) = G (some b) a) : ∀ (l : List α) (b : β), toOpt (loopM F l b) = l.foldl G (some b) := by
  intro l
  induction l with
  | nil => intro b; rfl
  | cons a as ih =>
    intro b
    have hab := h a b
    rw [List.foldl_cons, ← hab]
    simp only [loopM, MutRes.bind]
    cases F a b with
    | ok v => simp only [toOpt]; exact ih v
    | panic m s => simp only [toOpt]; exact (foldl_none G hG as).symm

theorem toOpt_eq_some {σ α : Type} {r : MutRes σ α} {v : α} (h : toOpt r = some v) : r = .ok v := by
  cases r with
  | ok w => cases h; rfl
  | panic m s => cases h

theorem toOpt_eq_none {σ α : Type} {r : MutRes σ α} (h : toOpt r = none) : ∃ m s, r = .panic m s := by
  cases r with
  | ok v => cases h
  | panic m s => exact ⟨m, s, rfl⟩

theorem toOpt_bind {σ α β : Type} (r : MutRes σ α) (k : α → MutRes σ β) :
    toOpt (r.bind k) = (toOpt r).bind (fun v => toOpt (k v)) := by
  cases r with
  | ok v => rw [bind_ok]; rfl
  | panic m s => rw [bind_panic]; rfl

theorem isEmpty_false_of_length {l : List (Option Color)} {n : Nat} (h : l.length = 64 * (n + 1)) :
    l.isEmpty = false := by
  cases l with
  | nil => simp at h
  | cons a as => rfl

theorem chunksFuel_eq_chunks64 : ∀ (n fuel : Nat) (l : List (Option Color)), l.length = 64 * n → n ≤ fuel →
    chunksFuel 64 fuel l = chunks64 l n
  | 0, fuel, l, hl, _ => by
    have : l = [] := List.eq_nil_of_length_eq_zero (by omega)
    subst this
    cases fuel <;> rfl
  | n + 1, 0, l, _, hf => by omega
  | n + 1, fuel + 1, l, hl, hf => by
    have hne := isEmpty_false_of_length hl
    simp only [chunksFuel, hne, Bool.false_eq_true, ↓reduceIte, chunks64]
    rw [chunksFuel_eq_chunks64 n fuel (l.drop 64) (by rw [List.length_drop]; omega) (by omega)]

theorem chunks64_snoc : ∀ (n : Nat) (l : List (Option Color)),
    chunks64 l (n + 1) = chunks64 (l.take (64 * n)) n ++ [(l.drop (64 * n)).take 64]
  | 0, l => by simp [chunks64]
  | n + 1, l => by
    have h1 : (l.take (64 * (n + 1))).take 64 = l.take 64 := by
      rw [List.take_take, Nat.min_eq_left (by omega)]
    have h2 : (l.take (64 * (n + 1))).drop 64 = (l.drop 64).take (64 * n) := by
      rw [List.drop_take, show 64 * (n + 1) - 64 = 64 * n by omega]
    have h3 : (l.drop 64).drop (64 * n) = l.drop (64 * (n + 1)) := by
      rw [List.drop_drop, show 64 + 64 * n = 64 * (n + 1) by omega]
    rw [chunks64, chunks64_snoc n (l.drop 64), h3]
    conv => rhs; rw [chunks64, h1, h2]
    rfl

theorem rchunksFuel_eq_chunks64 : ∀ (n fuel : Nat) (l : List (Option Color)), l.length = 64 * n → n ≤ fuel →
    rchunksFuel 64 fuel l = (chunks64 l n).reverse
  | 0, fuel, l, hl, _ => by
    have : l = [] := List.eq_nil_of_length_eq_zero (by omega)
    subst this
    cases fuel <;> rfl
  | n + 1, 0, l, _, hf => by omega
  | n + 1, fuel + 1, l, hl, hf => by
    have hne := isEmpty_false_of_length hl
    have hlen : l.length - 64 = 64 * n := by omega
    simp only [rchunksFuel, hne, Bool.false_eq_true, ↓reduceIte, hlen]
    rw [rchunksFuel_eq_chunks64 n fuel (l.take (64 * n)) (by rw [List.length_take]; omega) (by omega), chunks64_snoc n l,
      List.reverse_append, List.reverse_singleton, List.singleton_append]
    congr 1
    rw [List.take_of_length_le (by rw [List.length_drop]; omega)]

theorem push_fold_toList : ∀ (row : List Char) (s : String), (row.foldl fmt_write_char s).toList = s.toList ++ row
  | [], s => by simp
  | c :: rest, s => by
    rw [List.foldl_cons, push_fold_toList rest]
    simp only [fmt_write_char, String.toList_push, List.append_assoc, List.singleton_append]

theorem fmtSubst_nil : ∀ l : List Char, fmtSubst l [] = l
  | [] => rfl
  | c :: rest => by
    rw [fmtSubst.eq_2 _ _ _ (fun _ _ _ h => absurd h.symm (List.cons_ne_nil _ _)), fmtSubst_nil rest]

theorem rows_fold_toList : ∀ (rows : List (List Char)) (s : String),
    (rows.foldl (fun s row => fmt_writeln (row.foldl fmt_write_char s) "" []) s).toList
      = s.toList ++ rows.flatMap (fun r => r ++ ['\n'])
  | [], s => by simp
  | r :: rest, s => by
    rw [List.foldl_cons, rows_fold_toList rest]
    simp only [fmt_writeln, String.toList_append, push_fold_toList, fmtSubst_nil, String.toList_empty, String.toList_ofList,
      List.flatMap_cons, List.append_assoc, List.append_nil]
    rfl

end EG.MockSrcLemmas
