/-
  EG.Lemmas.CheckedRRect — range theorems of the `RoundedRectangle` kernels
  (Model/CheckedRRect.lean).

  * `CornerRadii::confine` cannot panic for ANY `u32` radii and sizes (`confine_ok`): the `u64`
    sums, `u128` cross products and the `u64` scaling product always fit, the divisor is
    positive, the `as u32` cast does not truncate.
  * Everything behind it (`EllipseQuadrant`, `RoundedRectangleContains`, `Scanlines`,
    `StyledScanlines`) is proved for rectangles in `RR.rect` (corner within +-4096, sides up to
    4096: 4 times the display scale) with ARBITRARY `u32` corner radii — `confine` makes every
    radius at most the side it lies along — and probed points within +-8192 (`RR.probe`).
-/
import EG.Lemmas.CheckedDS
import EG.Lemmas.RoundedRectRow
import EG.Model.CheckedRRect
namespace EG.Chk
open EG

theorem chkU128_ok {a : Nat} (h : a ≤ 340282366920938463463374607431768211455) : chkU128 a = some a := by
  simp [chkU128, h]

theorem findFuel_ok {pred : Int → Option Bool} {p : Int → Bool} :
    ∀ (fuel : Nat) (a b : Int), (b - a).toNat = fuel →
      (∀ x, a ≤ x → x < b → pred x = some (p x)) →
      findFuel pred fuel a b = some (EG.rangeFind p a b) := by
  intro fuel
  induction fuel with
  | zero =>
    intro a b hf _
    unfold findFuel EG.rangeFind
    rw [irange_empty (a := a) (b := b) (by omega)]; rfl
  | succ fuel ih =>
    intro a b hf hp
    have hab : a < b := by omega
    unfold findFuel EG.rangeFind
    rw [if_pos hab, hp a (by omega) hab, irange_cons hab]
    simp only [Option.bind_eq_bind, Option.bind_some, List.find?_cons]
    cases hpa : p a with
    | true => simp
    | false =>
      simp only [Bool.false_eq_true, ↓reduceIte]
      rw [ih (a + 1) b (by omega) (fun x h1 h2 => hp x (by omega) h2)]
      rfl

theorem rfindFuel_ok {pred : Int → Option Bool} {p : Int → Bool} :
    ∀ (fuel : Nat) (a b : Int), (b - a).toNat = fuel →
      (∀ x, a ≤ x → x < b → pred x = some (p x)) →
      rfindFuel pred fuel a b = some (EG.rangeRFind p a b) := by
  intro fuel
  induction fuel with
  | zero =>
    intro a b hf _
    unfold rfindFuel EG.rangeRFind
    rw [irange_empty (a := a) (b := b) (by omega)]; rfl
  | succ fuel ih =>
    intro a b hf hp
    have hab : a < b := by omega
    unfold rfindFuel EG.rangeRFind
    rw [if_pos hab, hp (b - 1) (by omega) (by omega), irange_snoc hab]
    simp only [Option.bind_eq_bind, Option.bind_some, List.reverse_append, List.reverse_cons,
      List.reverse_nil, List.nil_append, List.cons_append, List.find?_cons]
    cases hpa : p (b - 1) with
    | true => simp
    | false =>
      simp only [Bool.false_eq_true, ↓reduceIte]
      rw [ih a (b - 1) (by omega) (fun x h1 h2 => hp x h1 (by omega))]
      rfl

theorem rangeFind_ok {pred : Int → Option Bool} {p : Int → Bool} {a b : Int}
    (hp : ∀ x, a ≤ x → x < b → pred x = some (p x)) :
    rangeFind pred a b = some (EG.rangeFind p a b) := findFuel_ok _ a b rfl hp

theorem rangeRFind_ok {pred : Int → Option Bool} {p : Int → Bool} {a b : Int}
    (hp : ∀ x, a ≤ x → x < b → pred x = some (p x)) :
    rangeRFind pred a b = some (EG.rangeRFind p a b) := rfindFuel_ok _ a b rfl hp

namespace CornerRadii
open EG.CornerRadii

def InU32 (c : EG.CornerRadii) : Prop :=
  (c.tl.w ≤ 4294967295 ∧ c.tl.h ≤ 4294967295) ∧ (c.tr.w ≤ 4294967295 ∧ c.tr.h ≤ 4294967295) ∧
  (c.br.w ≤ 4294967295 ∧ c.br.h ≤ 4294967295) ∧ (c.bl.w ≤ 4294967295 ∧ c.bl.h ≤ 4294967295)
instance (c : EG.CornerRadii) : Decidable (InU32 c) := by unfold InU32; exact inferInstance

/-- A side (`u32`) and the sum of the two `u32` radii along it. -/
def Pair (p : Nat × Nat) : Prop := p.1 ≤ 4294967295 ∧ p.2 ≤ 8589934590
attribute [reducible] InU32 Pair

theorem sides_ok {c : EG.CornerRadii} (hc : InU32 c) (bb : Sz) :
    sides c bb = some (EG.CornerRadii.sides c bb) := by
  unfold sides EG.CornerRadii.sides
  chk_simp

theorem sides_pair {c : EG.CornerRadii} (hc : InU32 c) {bb : Sz} (hw : bb.w ≤ 4294967295)
    (hh : bb.h ≤ 4294967295) : ∀ s ∈ EG.CornerRadii.sides c bb, Pair s := by
  intro s hs
  unfold EG.CornerRadii.sides at hs
  simp only [List.mem_cons, List.not_mem_nil, or_false] at hs
  unfold Pair
  rcases hs with rfl | rfl | rfl | rfl <;> simp only <;> omega

theorem confineStep_ok {acc side : Nat × Nat} (ha : Pair acc) (hs : Pair side) :
    Ret (confineStep acc side) (EG.CornerRadii.confineStep acc side) Pair := by
  obtain ⟨a1, a2⟩ := ha
  obtain ⟨s1, s2⟩ := hs
  have h1 : side.1 * acc.2 ≤ 4294967295 * 8589934590 := Nat.mul_le_mul s1 a2
  have h2 : acc.1 * side.2 ≤ 4294967295 * 8589934590 := Nat.mul_le_mul a1 s2
  constructor
  · unfold confineStep EG.CornerRadii.confineStep
    rw [chkU128_ok (by omega), chkU128_ok (by omega)]
    rfl
  · unfold EG.CornerRadii.confineStep
    split
    · exact ⟨s1, s2⟩
    · exact ⟨a1, a2⟩

theorem factorFold_ok : ∀ (l : List (Nat × Nat)) (acc : Nat × Nat), Pair acc → (∀ s ∈ l, Pair s) →
    Ret (factorFold l acc) (l.foldl EG.CornerRadii.confineStep acc) Pair
  | [], _, ha, _ => ⟨rfl, ha⟩
  | s :: rest, acc, ha, hl =>
    (confineStep_ok ha (hl s (List.mem_cons_self ..))).bind fun hp =>
      factorFold_ok rest _ hp fun t ht => hl t (List.mem_cons_of_mem _ ht)

theorem factor_ok {c : EG.CornerRadii} (hc : InU32 c) {bb : Sz} (hw : bb.w ≤ 4294967295)
    (hh : bb.h ≤ 4294967295) : Ret (factor c bb) (EG.CornerRadii.factor c bb) Pair :=
  (Ret.of_eq (sides_ok hc bb)).bind fun _ =>
    factorFold_ok _ (1, 1) (by unfold Pair; simp) (sides_pair hc hw hh)

theorem scaleLength_ok {f : Nat × Nat} (hf : Pair f) (hpos : 0 < f.2) (hle : f.1 ≤ f.2) {a : Nat}
    (ha : a ≤ 4294967295) : scaleLength f a = some (EG.CornerRadii.scaleLength f a) := by
  have h1 : a * f.1 ≤ 4294967295 * 4294967295 := Nat.mul_le_mul ha hf.1
  have h2 := EG.CornerRadii.scaleLength_le hle a
  unfold scaleLength
  rw [chkU64_ok (by omega)]
  simp only [Option.bind_eq_bind, Option.bind_some]
  rw [divU_ok hpos]
  simp only [Option.bind_some, Option.pure_def]
  unfold EG.CornerRadii.scaleLength at h2 ⊢
  rw [Nat.mod_eq_of_lt (by omega)]

theorem scaleSz_ok {f : Nat × Nat} (hf : Pair f) (hpos : 0 < f.2) (hle : f.1 ≤ f.2) {r : Sz}
    (hr : r.w ≤ 4294967295 ∧ r.h ≤ 4294967295) : scaleSz f r = some (EG.CornerRadii.scaleSz f r) := by
  unfold scaleSz EG.CornerRadii.scaleSz
  rw [scaleLength_ok hf hpos hle hr.1, scaleLength_ok hf hpos hle hr.2]
  rfl

theorem confine_ok {c : EG.CornerRadii} (hc : InU32 c) {bb : Sz} (hw : bb.w ≤ 4294967295)
    (hh : bb.h ≤ 4294967295) : confine c bb = some (EG.CornerRadii.confine c bb) := by
  obtain ⟨e, hp⟩ := factor_ok hc hw hh
  obtain ⟨hpos, hle, _⟩ := EG.CornerRadii.factor_spec c bb
  unfold confine EG.CornerRadii.confine
  rw [e]
  simp only [Option.bind_eq_bind, Option.bind_some]
  split
  · rw [scaleSz_ok hp hpos hle hc.1, scaleSz_ok hp hpos hle hc.2.1, scaleSz_ok hp hpos hle hc.2.2.1,
      scaleSz_ok hp hpos hle hc.2.2.2]
    rfl
  · rfl

end CornerRadii

def RR.rect (r : Rect) : Prop :=
  (-4096 ≤ r.tl.x ∧ r.tl.x ≤ 4096) ∧ (-4096 ≤ r.tl.y ∧ r.tl.y ≤ 4096) ∧ r.size.w ≤ 4096 ∧ r.size.h ≤ 4096
instance (r : Rect) : Decidable (RR.rect r) := by unfold RR.rect; exact inferInstance
def RR.probe (p : Pt) : Prop := (-8192 ≤ p.x ∧ p.x ≤ 8192) ∧ (-8192 ≤ p.y ∧ p.y ≤ 8192)
instance (p : Pt) : Decidable (RR.probe p) := by unfold RR.probe; exact inferInstance
attribute [reducible] RR.rect RR.probe

/-- What the proofs need to know about a corner quadrant: its box lies inside the rectangle's
range, its ellipse constants are `u32`, and its doubled centre is so small that for probes within
`+-8192` the doubled difference is at most `40960 <= 46340` (`EllipseContains.contains_ok`). -/
structure QuadOk (e : EG.EllipseQuadrant) : Prop where
  cx : -16384 ≤ e.center2x.x ∧ e.center2x.x ≤ 24576
  cy : -16384 ≤ e.center2x.y ∧ e.center2x.y ≤ 24576
  a : e.ellipse.a ≤ 4294967295
  b : e.ellipse.b ≤ 4294967295
  tlx : -4096 ≤ e.bbox.tl.x ∧ e.bbox.tl.x + e.bbox.size.w ≤ 8192
  tly : -4096 ≤ e.bbox.tl.y ∧ e.bbox.tl.y + e.bbox.size.h ≤ 8192
  w : e.bbox.size.w ≤ 4096
  h : e.bbox.size.h ≤ 4096

namespace EllipseQuadrant

theorem szMul_ok {s : Sz} (h : s.w ≤ 2147483647 ∧ s.h ≤ 2147483647) :
    szMul s 2 = some ⟨s.w * 2, s.h * 2⟩ := by
  rw [szMul, chkU32_bind (by omega), chkU32_bind (by omega)]; rfl

/-- The part of `EllipseQuadrant::new` behind the corner of the ellipse box `etl` (within
`+-8192`): doubled radii, doubled centre, ellipse constants. -/
theorem new_tail {tl etl : Pt} {radius : Sz}
    (h : (-8192 ≤ etl.x ∧ etl.x ≤ 8192) ∧ (-8192 ≤ etl.y ∧ etl.y ≤ 8192))
    (hr : radius.w ≤ 4096 ∧ radius.h ≤ 4096) :
    (do
      let size2 ← szMul radius 2
      let c ← Ellipse.center2xOf etl size2
      let size2' ← szMul radius 2
      let e ← EllipseContains.new size2'
      pure (⟨⟨tl, radius⟩, c, e⟩ : EG.EllipseQuadrant)) =
    some ⟨⟨tl, radius⟩, EG.EllipseQuadrant.ellipseCenter2x etl ⟨radius.w * 2, radius.h * 2⟩,
      EG.EllipseContains.new ⟨radius.w * 2, radius.h * 2⟩⟩ := by
  have hw2 : radius.w * 2 ≤ 65535 := by omega
  have hh2 : radius.h * 2 ≤ 65535 := by omega
  rw [szMul_ok (by omega), some_bind, Ellipse.center2xOf, ptMul_ok (by omega), some_bind,
    ptAddSize_ok (by simp only; omega), some_bind, some_bind, EllipseContains.new_ok hw2 hh2]
  rfl

theorem quadOk_of_etl {tl etl : Pt} {radius : Sz}
    (he : (-8192 ≤ etl.x ∧ etl.x ≤ 8192) ∧ (-8192 ≤ etl.y ∧ etl.y ≤ 8192))
    (h : (-4096 ≤ tl.x ∧ tl.x + radius.w ≤ 8192) ∧ (-4096 ≤ tl.y ∧ tl.y + radius.h ≤ 8192) ∧
      radius.w ≤ 4096 ∧ radius.h ≤ 4096) :
    QuadOk ⟨⟨tl, radius⟩, EG.EllipseQuadrant.ellipseCenter2x etl ⟨radius.w * 2, radius.h * 2⟩,
      EG.EllipseContains.new ⟨radius.w * 2, radius.h * 2⟩⟩ := by
  have hw2 : radius.w * 2 ≤ 8192 := by omega
  have hh2 : radius.h * 2 ≤ 8192 := by omega
  obtain ⟨ha, hb⟩ := EllipseContains.new_ab (s := ⟨radius.w * 2, radius.h * 2⟩)
    (Nat.le_trans hw2 (by decide)) (Nat.le_trans hh2 (by decide))
  exact ⟨by simp only [EG.EllipseQuadrant.ellipseCenter2x]; omega,
    by simp only [EG.EllipseQuadrant.ellipseCenter2x]; omega, ha, hb, h.1, h.2.1, h.2.2.1, h.2.2.2⟩

theorem new_ok {tl : Pt} {radius : Sz} (q : Quadrant)
    (h : (-4096 ≤ tl.x ∧ tl.x + radius.w ≤ 8192) ∧ (-4096 ≤ tl.y ∧ tl.y + radius.h ≤ 8192) ∧
      radius.w ≤ 4096 ∧ radius.h ≤ 4096) :
    Ret (new tl radius q) (EG.EllipseQuadrant.new tl radius q) QuadOk := by
  unfold new
  cases q <;> simp only
  · have he : (-8192 ≤ tl.x ∧ tl.x ≤ 8192) ∧ (-8192 ≤ tl.y ∧ tl.y ≤ 8192) := by omega
    exact ⟨by rw [pure_bind]; exact new_tail he h.2.2, quadOk_of_etl he h⟩
  · have he : (-8192 ≤ tl.x - radius.w ∧ tl.x - radius.w ≤ 8192) ∧ (-8192 ≤ tl.y ∧ tl.y ≤ 8192) := by omega
    refine ⟨?_, quadOk_of_etl (etl := ⟨tl.x - radius.w, tl.y⟩) he h⟩
    rw [ptSubSize_ok (by simp only; omega), some_bind, Int.natCast_zero, Int.sub_zero]
    exact new_tail he h.2.2
  · have he : (-8192 ≤ tl.x - radius.w ∧ tl.x - radius.w ≤ 8192) ∧
        (-8192 ≤ tl.y - radius.h ∧ tl.y - radius.h ≤ 8192) := by omega
    refine ⟨?_, quadOk_of_etl (etl := ⟨tl.x - radius.w, tl.y - radius.h⟩) he h⟩
    rw [ptSubSize_ok (by omega), some_bind]
    exact new_tail he h.2.2
  · have he : (-8192 ≤ tl.x ∧ tl.x ≤ 8192) ∧ (-8192 ≤ tl.y - radius.h ∧ tl.y - radius.h ≤ 8192) := by omega
    refine ⟨?_, quadOk_of_etl (etl := ⟨tl.x, tl.y - radius.h⟩) he h⟩
    rw [ptSubSize_ok (by simp only; omega), some_bind, Int.natCast_zero, Int.sub_zero]
    exact new_tail he h.2.2

theorem contains_ok {e : EG.EllipseQuadrant} (he : QuadOk e) {p : Pt} (hp : RR.probe p) :
    contains e p = some (e.contains p) := by
  have hcx := he.cx
  have hcy := he.cy
  rw [contains, ptMul_ok (by omega), some_bind, ptSub_ok (by simp only; omega), some_bind]
  exact EllipseContains.contains_ok he.a he.b (by simp only [Pt.sub_x]; omega)
    (by simp only [Pt.sub_y]; omega)

end EllipseQuadrant

namespace RoundedRect
open EG.CornerRadii

theorem rr_u32 {r : Rect} (h : RR.rect r) : r.size.w ≤ 4294967295 ∧ r.size.h ≤ 4294967295 := by
  omega

theorem cornerQuadrant_ok {r : EG.RoundedRect} (hr : RR.rect r.rect) (hc : CornerRadii.InU32 r.corners)
    (q : Quadrant) :
    Ret (cornerQuadrant r q) (r.cornerQuadrant q) QuadOk := by
  have hu := rr_u32 hr
  have hle := confine_radius_le r.corners r.rect.size
  unfold cornerQuadrant EG.RoundedRect.cornerQuadrant
  dsimp only
  rw [CornerRadii.confine_ok hc hu.1 hu.2, some_bind]
  generalize EG.CornerRadii.confine r.corners r.rect.size = cc at hle ⊢
  obtain ⟨tlw, tlh, trw, trh, brw, brh, blw, blh⟩ := hle
  -- each case keeps the two radii of its own corner: `omega` is much cheaper without the other six
  cases q <;> simp only
  · clear hu trw trh brw brh blw blh
    exact EllipseQuadrant.new_ok .topLeft (by omega)
  · clear hu tlw tlh brw brh blw blh
    rw [ptAddSize_ok (by simp only; omega), some_bind, ptSubSize_ok (by simp only; omega), some_bind,
      Int.natCast_zero, Int.add_zero, Int.sub_zero]
    exact EllipseQuadrant.new_ok .topRight (by simp only; omega)
  · clear hu tlw tlh trw trh blw blh
    rw [ptAddSize_ok (by omega), some_bind, ptSubSize_ok (by simp only; omega), some_bind]
    exact EllipseQuadrant.new_ok .bottomRight (by simp only; omega)
  · clear hu tlw tlh trw trh brw brh
    rw [ptAddSize_ok (by simp only; omega), some_bind, ptSubSize_ok (by simp only; omega), some_bind,
      Int.natCast_zero, Int.add_zero, Int.sub_zero]
    exact EllipseQuadrant.new_ok .bottomLeft (by simp only; omega)

theorem offset_ok {r : EG.RoundedRect} (hr : W.rect r.rect) {o : Int} (ho : W.coord o) :
    offset r o = some (r.offset o) := by
  unfold offset EG.RoundedRect.offset
  rw [Chk.offset_ok hr ho, some_bind]
  split
  · rename_i hpos
    rw [i32AsU32_nonneg hpos]; rfl
  · rw [chkI32_bind (by omega), i32AsU32_nonneg (by omega)]; rfl

theorem translate_ok {r : EG.RoundedRect} (h : W.pt r.rect.tl) {d : Pt} (hd : W.pt d) :
    translate r d = some (r.translate d) := by
  unfold translate EG.RoundedRect.translate
  rw [Chk.translate_ok h hd]; rfl

end RoundedRect

/-- Invariant of the `Scanlines` iterator over a rectangle in `RR.rect`: `next_ok` keeps it while
`rowsStart` grows. -/
structure RRCOk (c : EG.RRContains) : Prop where
  tl : QuadOk c.topLeft
  tr : QuadOk c.topRight
  bl : QuadOk c.bottomLeft
  br : QuadOk c.bottomRight
  rows : -4096 ≤ c.rowsStart ∧ c.rowsEnd ≤ 8192
  cols : -4096 ≤ c.colsStart ∧ c.colsEnd ≤ 8192
  colsLe : c.colsStart ≤ c.colsEnd

namespace RRContains

theorem rowsEnd_eq {r : Rect} (h : RR.rect r) : r.rowsEnd = r.tl.y + r.size.h ∧ r.columnsEnd = r.tl.x + r.size.w :=
  And.symm (W.rect.ends_eq (by omega))

/-- `RoundedRectangleContains::new`, which is also `Scanlines::new`. -/
theorem new_ok {r : EG.RoundedRect} (hr : RR.rect r.rect) (hc : CornerRadii.InU32 r.corners) :
    Ret (new r) (EG.RRContains.new r) RRCOk := by
  obtain ⟨re, ce⟩ := rowsEnd_eq hr
  unfold new EG.RRContains.new
  refine (RoundedRect.cornerQuadrant_ok hr hc .topLeft).bind fun q1 =>
    (RoundedRect.cornerQuadrant_ok hr hc .topRight).bind fun q2 =>
    (RoundedRect.cornerQuadrant_ok hr hc .bottomLeft).bind fun q3 =>
    (RoundedRect.cornerQuadrant_ok hr hc .bottomRight).bind fun q4 => ?_
  have h1 := q1.h; have h2 := q2.h; have h3 := q3.h; have h4 := q4.h
  constructor
  · rw [re]
    chk_simp
  · exact ⟨q1, q2, q3, q4, by simp only [re]; omega, by simp only [ce]; omega, by simp only [ce]; omega⟩

theorem leftCorner_ok {c : EG.RRContains} (hc : RRCOk c) {y : Int} {e : EG.EllipseQuadrant}
    (h : c.leftCorner y = some e) : QuadOk e :=
  EG.RRContains.forall_leftCorner.2 ⟨fun _ => hc.tl, fun _ _ => hc.bl⟩ e h

theorem rightCorner_ok {c : EG.RRContains} (hc : RRCOk c) {y : Int} {e : EG.EllipseQuadrant}
    (h : c.rightCorner y = some e) : QuadOk e :=
  EG.RRContains.forall_rightCorner.2 ⟨fun _ => hc.tr, fun _ _ => hc.br⟩ e h

/-- `contains` of a corner that may be absent (absent = inside). -/
theorem cornerOpt_ok {p : Pt} (hp : RR.probe p) (o : Option EG.EllipseQuadrant) :
    (∀ e, o = some e → QuadOk e) →
    (match o with
      | some corner => EllipseQuadrant.contains corner p
      | none => pure true) = some (o.toList.all fun corner => corner.contains p) := by
  intro ho
  cases o with
  | none => rfl
  | some e => simp only [EllipseQuadrant.contains_ok (ho e rfl) hp, Option.toList_some, List.all_cons,
      List.all_nil, Bool.and_true]

theorem contains_ok {c : EG.RRContains} (hc : RRCOk c) {p : Pt} (hp : RR.probe p) :
    contains c p = some (c.contains p) := by
  have hr := cornerOpt_ok hp ((c.rightCorner p.y).filter fun corner => decide (p.x ≥ corner.colsStart))
    fun e h => rightCorner_ok hc (Option.filter_eq_some_iff.1 h).1
  unfold contains EG.RRContains.contains
  split
  · rfl
  · simp only [List.all_append]
    cases hl : (c.leftCorner p.y).filter fun corner => decide (p.x < corner.colsEnd) with
    | none => exact hr
    | some el =>
      simp only [Option.toList_some, List.all_cons, List.all_nil, Bool.and_true]
      rw [EllipseQuadrant.contains_ok (leftCorner_ok hc (Option.filter_eq_some_iff.1 hl).1) hp, some_bind]
      cases el.contains p
      · rfl
      · exact hr

theorem quad_cols {e : EG.EllipseQuadrant} (he : QuadOk e) :
    e.colsStart = e.bbox.tl.x ∧ e.colsEnd = e.bbox.tl.x + e.bbox.size.w := by
  have h1 := he.tlx; have h2 := he.tly; have h3 := he.w; have h4 := he.h
  exact ⟨rfl, (W.rect.ends_eq (r := e.bbox) (by omega)).1⟩

theorem xStart_ok {c : EG.RRContains} (hc : RRCOk c) {y : Int} (hy : -8192 ≤ y ∧ y ≤ 8192) :
    xStart c y = some (c.xStart y) := by
  unfold xStart EG.RRContains.xStart
  cases hl : c.leftCorner y with
  | none => rfl
  | some e =>
    have q := leftCorner_ok hc hl
    obtain ⟨cs, ce⟩ := quad_cols q
    have b1 := q.tlx; have b2 := q.w
    simp only [Option.map_some, Option.getD_some]
    rw [rangeFind_ok (p := fun x => e.contains ⟨x, y⟩) (by
      intro x h1 h2
      exact EllipseQuadrant.contains_ok q ⟨⟨by simp only; omega, by simp only; omega⟩, hy⟩)]
    rfl

theorem xEnd_ok {c : EG.RRContains} (hc : RRCOk c) {y : Int} (hy : -8192 ≤ y ∧ y ≤ 8192) :
    xEnd c y = some (c.xEnd y) := by
  unfold xEnd EG.RRContains.xEnd
  cases hr : c.rightCorner y with
  | none => rfl
  | some e =>
    have q := rightCorner_ok hc hr
    obtain ⟨cs, ce⟩ := quad_cols q
    have b1 := q.tlx; have b2 := q.w
    simp only [Option.map_some, Option.getD_some]
    rw [rangeRFind_ok (p := fun x => e.contains ⟨x, y⟩) (by
      intro x h1 h2
      exact EllipseQuadrant.contains_ok q ⟨⟨by simp only; omega, by simp only; omega⟩, hy⟩)]
    simp only [Option.bind_eq_bind, Option.bind_some]
    cases hf : EG.rangeRFind (fun x => e.contains ⟨x, y⟩) e.colsStart e.colsEnd with
    | none => rfl
    | some x =>
      obtain ⟨hx, hx2, _, _⟩ := rangeRFind_some.1 hf
      simp only [Option.map_some, Option.getD_some]
      exact chkI32_ok (by omega) (by omega)

theorem row_ok {c : EG.RRContains} (hc : RRCOk c) {y : Int} (hy : -8192 ≤ y ∧ y ≤ 8192) :
    row c y = some (c.row y) := by
  unfold row EG.RRContains.row
  rw [xStart_ok hc hy, xEnd_ok hc hy]; rfl

theorem row_bounds {c : EG.RRContains} (hc : RRCOk c) (y : Int) :
    (-4096 ≤ (c.row y).xs ∧ (c.row y).xs ≤ 8192) ∧ (-4096 ≤ (c.row y).xe ∧ (c.row y).xe ≤ 8192) := by
  have hcols := hc.cols
  constructor
  · unfold EG.RRContains.row EG.RRContains.xStart
    simp only
    cases hl : c.leftCorner y with
    | none =>
      simp only [Option.map_none, Option.getD_none]
      have h1 := hc.colsLe
      omega
    | some e =>
      have q := leftCorner_ok hc hl
      obtain ⟨cs, ce⟩ := quad_cols q
      have b1 := q.tlx; have b2 := q.w
      simp only [Option.map_some, Option.getD_some]
      cases hf : EG.rangeFind (fun x => e.contains ⟨x, y⟩) e.colsStart e.colsEnd with
      | none => simp only [Option.getD_none]; omega
      | some x =>
        obtain ⟨h1, h2, _, _⟩ := rangeFind_some.1 hf
        simp only [Option.getD_some]; omega
  · unfold EG.RRContains.row EG.RRContains.xEnd
    simp only
    cases hr : c.rightCorner y with
    | none =>
      simp only [Option.map_none, Option.getD_none]
      have h1 := hc.colsLe
      omega
    | some e =>
      have q := rightCorner_ok hc hr
      obtain ⟨cs, ce⟩ := quad_cols q
      have b1 := q.tlx; have b2 := q.w
      simp only [Option.map_some, Option.getD_some]
      cases hf : EG.rangeRFind (fun x => e.contains ⟨x, y⟩) e.colsStart e.colsEnd with
      | none => simp only [Option.map_none, Option.getD_none]; omega
      | some x =>
        obtain ⟨h1, h2, _, _⟩ := rangeRFind_some.1 hf
        simp only [Option.map_some, Option.getD_some]; omega

theorem next_ok {c : EG.RRContains} (hc : RRCOk c) :
    Ret (next c) c.next (Next fun _ c' => RRCOk c') := by
  have hr := hc.rows
  unfold next EG.RRContains.next
  split
  · exact (Ret.of_eq (row_ok hc (by omega))).bind fun _ =>
      Ret.pure (Next.some ⟨hc.tl, hc.tr, hc.bl, hc.br, by simp only; omega, hc.cols, hc.colsLe⟩)
  · exact Ret.pure Next.none

theorem fillRange_ok {f : EG.RRContains} (hf : RRCOk f) {s : EG.Scanline}
    (hxs : -8192 ≤ s.xs) (hxe : s.xe ≤ 8192) :
    fillRange f s = some (
      if f.rowsStart ≤ s.y ∧ s.y < f.rowsEnd then
        match EG.rangeFind (fun x => f.contains ⟨x, s.y⟩) s.xs s.xe,
              (EG.rangeRFind (fun x => f.contains ⟨x, s.y⟩) s.xs s.xe).map (· + 1) with
        | some a, some b => some (a, b)
        | _, _ => none
      else none) := by
  have hr := hf.rows
  unfold fillRange
  split
  · rename_i hy
    have hp : ∀ x, s.xs ≤ x → x < s.xe → contains f ⟨x, s.y⟩ = some (f.contains ⟨x, s.y⟩) := by
      intro x h1 h2
      exact contains_ok hf ⟨⟨by simp only; omega, by simp only; omega⟩, ⟨by simp only; omega, by simp only; omega⟩⟩
    rw [rangeFind_ok (p := fun x => f.contains ⟨x, s.y⟩) hp,
      rangeRFind_ok (p := fun x => f.contains ⟨x, s.y⟩) hp]
    simp only [Option.bind_eq_bind, Option.bind_some]
    cases hb : EG.rangeRFind (fun x => f.contains ⟨x, s.y⟩) s.xs s.xe with
    | none => simp
    | some x =>
      obtain ⟨hx, hx2, _, _⟩ := rangeRFind_some.1 hb
      simp only [Option.bind_some, Option.pure_def, Option.map_some]
      rw [chkI32_ok (by omega) (by omega)]
      simp only [Option.bind_some]
      cases EG.rangeFind (fun x => f.contains ⟨x, s.y⟩) s.xs s.xe <;> rfl
  · rfl

end RRContains

theorem RoundedRect.contains_ok {r : EG.RoundedRect} (hr : RR.rect r.rect)
    (hc : CornerRadii.InU32 r.corners) {p : Pt} (hp : RR.probe p) :
    RoundedRect.contains r p = some (r.contains p) := by
  obtain ⟨e, ok⟩ := RRContains.new_ok hr hc
  unfold RoundedRect.contains EG.RoundedRect.contains
  rw [e]
  simp only [Option.bind_eq_bind, Option.bind_some]
  exact RRContains.contains_ok ok hp

end EG.Chk
