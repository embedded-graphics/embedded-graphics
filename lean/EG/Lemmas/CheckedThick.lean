/-
  EG.Lemmas.CheckedThick — range theorems of the thick-line scalars (`ParallelsIterator`) and of
  the intersection kernels (`LinearEquation::from_line`, `IntersectionParams`, miter length).

  Largest uniform bounds proved:
    * thickness threshold (`i64`): thickness `0..=32767`, `|delta| <= 32767` per axis (the
      largest deltas whose `length_squared` fits `i32`): `(2 t)^2 * |delta|^2 < 2^63`;
    * accumulator: while `acc^2 <= threshold <= 2^60` and `|step| < 2^30`, `acc + step` fits `i32`;
      `i64::from(acc).pow(2)` fits for every `i32`;
    * intersections: coordinates of the start points and deltas within `+-32767` (`J.coord`), the
      largest uniform bound for which `origin_distance = start . normal` fits `i32`
      (`2 * 32767^2 < 2^31`); the `i64` numerators then stay below `2^48`.
-/
import EG.Lemmas.CheckedLine
namespace EG.Chk
open EG

/-- The plain threshold, as in `Thick.ParallelsIterator.new`. -/
def plainThickThreshold (thickness : Int) (delta : Pt) : Int :=
  (thickness * 2) * (thickness * 2) * delta.lengthSquared

theorem plainThickThreshold_bounds {t T D : Int} (ht : 0 ≤ t ∧ t ≤ T) {d : Pt}
    (hx : -D ≤ d.x ∧ d.x ≤ D) (hy : -D ≤ d.y ∧ d.y ≤ D) :
    (0 ≤ (t * 2) * (t * 2) ∧ (t * 2) * (t * 2) ≤ (T * 2) * (T * 2)) ∧
    0 ≤ plainThickThreshold t d ∧ plainThickThreshold t d ≤ (T * 2) * (T * 2) * (D * D + D * D) := by
  have h2 : 0 ≤ t * 2 ∧ t * 2 ≤ T * 2 := by omega
  have hsq := mul_bounds_nonneg h2 h2
  exact ⟨hsq, mul_bounds_nonneg hsq (lengthSquared_bounds hx hy)⟩

theorem thickThreshold_ok {t : Int} (ht : 0 ≤ t ∧ t ≤ 32767) {d : Pt}
    (hx : -32767 ≤ d.x ∧ d.x ≤ 32767) (hy : -32767 ≤ d.y ∧ d.y ≤ 32767) :
    thickThreshold t d = some (plainThickThreshold t d) := by
  obtain ⟨hsq, hth⟩ := plainThickThreshold_bounds ht hx hy
  unfold thickThreshold
  rw [chkI64_bind (by omega), chkI64_bind (by omega), lengthSquared_ok hx hy, some_bind]
  exact chkI64_ok (Int.le_trans (by decide) hth.1) (Int.le_trans hth.2 (by decide))

theorem thickAccumulator_ok {P : BresenhamParameters}
    (h : -2147483648 ≤ P.errorStep.minor + P.errorStep.major ∧
      P.errorStep.minor + P.errorStep.major ≤ 2147483647) :
    thickAccumulator P = some (tdiv2 (P.errorStep.minor + P.errorStep.major)) := by
  rw [thickAccumulator, chkI32_bind h]; rfl

theorem errorStep_bounds {l : Line} {D : Int} (hx : -D ≤ l.stop.x - l.start.x ∧ l.stop.x - l.start.x ≤ D)
    (hy : -D ≤ l.stop.y - l.start.y ∧ l.stop.y - l.start.y ≤ D) :
    (0 ≤ (BresenhamParameters.new l).errorStep.major ∧ (BresenhamParameters.new l).errorStep.major ≤ 2 * D) ∧
    (0 ≤ (BresenhamParameters.new l).errorStep.minor ∧ (BresenhamParameters.new l).errorStep.minor ≤ 2 * D) := by
  have h1 := Line.dmin_nonneg l
  have h2 := Line.dmin_le_dmaj l
  have h3 := dmaj_le hx hy
  rw [Line.params_new]; simp only; omega

/-- The line `ParallelsIterator::new` works on: a degenerate line is replaced by `HORIZONTAL_LINE`,
whose end points are within `+-16383` too. -/
theorem thickLine_bounds {l : Line}
    (hs : (-16383 ≤ l.start.x ∧ l.start.x ≤ 16383) ∧ (-16383 ≤ l.start.y ∧ l.start.y ≤ 16383))
    (he : (-16383 ≤ l.stop.x ∧ l.stop.x ≤ 16383) ∧ (-16383 ≤ l.stop.y ∧ l.stop.y ≤ 16383))
    {line : Line} (hl : (if l.start = l.stop then Thick.horizontalLine else l) = line) :
    ((-16383 ≤ line.start.x ∧ line.start.x ≤ 16383) ∧ (-16383 ≤ line.start.y ∧ line.start.y ≤ 16383)) ∧
    ((-16383 ≤ line.stop.x ∧ line.stop.x ≤ 16383) ∧ (-16383 ≤ line.stop.y ∧ line.stop.y ≤ 16383)) := by
  subst hl; split
  · decide
  · exact ⟨hs, he⟩

/-- `+-16383`: the deltas of such end points are within `+-32767` (`thickThreshold_ok`). -/
theorem thickScalars_ok {l : Line} (hs : (-16383 ≤ l.start.x ∧ l.start.x ≤ 16383) ∧ (-16383 ≤ l.start.y ∧ l.start.y ≤ 16383))
    (he : (-16383 ≤ l.stop.x ∧ l.stop.x ≤ 16383) ∧ (-16383 ≤ l.stop.y ∧ l.stop.y ≤ 16383))
    {t : Int} (ht : 0 ≤ t ∧ t ≤ 32767) :
    thickScalars l t =
      let line := if l.start = l.stop then Thick.horizontalLine else l
      let pp := BresenhamParameters.new line
      some (plainThickThreshold t line.delta, tdiv2 (pp.errorStep.minor + pp.errorStep.major)) := by
  unfold thickScalars
  simp only
  generalize hl : (if l.start = l.stop then Thick.horizontalLine else l) = line
  obtain ⟨hs', he'⟩ := thickLine_bounds hs he hl
  have hd : (-32767 ≤ line.stop.x - line.start.x ∧ line.stop.x - line.start.x ≤ 32767) ∧
      (-32767 ≤ line.stop.y - line.start.y ∧ line.stop.y - line.start.y ≤ 32767) := by omega
  have hstep := errorStep_bounds hd.1 hd.2
  rw [bresenhamParametersNew_ok (by omega) (by omega),
    some_bind, lineDelta, ptSub_ok (by omega), some_bind,
    thickThreshold_ok (d := line.stop - line.start) ht hd.1 hd.2, some_bind,
    thickAccumulator_ok (by omega)]
  rfl

/-- `i64::from(acc).pow(2)` fits for every `i32` accumulator; while the iterator continues
(`acc^2 <= threshold`, threshold at most `2^60`) the increment `acc + step` fits `i32`. -/
theorem thickAccStep_ok {acc th step : Int} (ha : -2147483648 ≤ acc ∧ acc ≤ 2147483647)
    (hth : th ≤ 1152921504606846976) (hs : -1073741823 ≤ step ∧ step ≤ 1073741823) :
    thickAccStep acc th step =
      some (if acc * acc > th then none else some (acc + step)) := by
  have h1 : acc * acc ≤ 2147483648 * 2147483648 := sq_le_of_abs_le (by omega) (by omega)
  have h2 := int_mul_self_nonneg acc
  unfold thickAccStep
  rw [chkI64_bind (by omega)]
  split
  · rfl
  · have h4 := abs_le_of_sq_le (a := acc) (B := 1073741824) (by decide) (by omega)
    rw [chkI32_bind (by omega)]; rfl

def J.coord (x : Int) : Prop := -32767 ≤ x ∧ x ≤ 32767
def J.pt (p : Pt) : Prop := J.coord p.x ∧ J.coord p.y
def J.line (l : Line) : Prop := J.pt l.start ∧ J.pt (l.stop - l.start)
instance (x : Int) : Decidable (J.coord x) := by unfold J.coord; exact inferInstance
instance (p : Pt) : Decidable (J.pt p) := by unfold J.pt; exact inferInstance
instance (l : Line) : Decidable (J.line l) := by unfold J.line; exact inferInstance
attribute [reducible] J.coord J.pt J.line

theorem Isect.dot_bounded {a b : Pt} {A B : Int} (ha : (-A ≤ a.x ∧ a.x ≤ A) ∧ (-A ≤ a.y ∧ a.y ≤ A))
    (hb : (-B ≤ b.x ∧ b.x ≤ B) ∧ (-B ≤ b.y ∧ b.y ≤ B)) (hAB : 2 * (A * B) ≤ 2147483647) :
    Ret (Isect.dot a b) (EG.Isect.dot a b) fun d => -(2 * (A * B)) ≤ d ∧ d ≤ 2 * (A * B) := by
  have h1 := mul_bounds ha.1 hb.1
  have h2 := mul_bounds ha.2 hb.2
  unfold Isect.dot EG.Isect.dot
  rw [chkI32_bind (by omega), chkI32_bind (by omega)]
  exact ⟨chkI32_ok (by omega) (by omega), by omega⟩

theorem Isect.dot_ok {a b : Pt} (ha : J.pt a) (hb : J.pt b) :
    Ret (Isect.dot a b) (EG.Isect.dot a b) fun d => -2147352578 ≤ d ∧ d ≤ 2147352578 :=
  Isect.dot_bounded (A := 32767) (B := 32767) ha hb (by decide)

/-- `determinant a b` is `dot_product a (b.y, -b.x)`, but the subtraction is one `i32` operation. -/
theorem Isect.det_ok {a b : Pt} (ha : J.pt a) (hb : J.pt b) :
    Ret (Isect.det a b) (EG.Isect.det a b) fun d => -2147352578 ≤ d ∧ d ≤ 2147352578 := by
  have h1 := mul_bounds ha.1 hb.2
  have h2 := mul_bounds ha.2 hb.1
  unfold Isect.det EG.Isect.det
  rw [chkI32_bind (by omega), chkI32_bind (by omega)]
  exact ⟨chkI32_ok (by omega) (by omega), by omega⟩

theorem Isect.lineDelta_ok {l : Line} (h : J.line l) : Ret (lineDelta l) l.delta J.pt :=
  ⟨ptSub_ok (by have hd := h.2; simp only [J.pt, J.coord, Pt.sub_x, Pt.sub_y] at hd; omega), h.2⟩

theorem Isect.rotate90_ok {p : Pt} (h : J.pt p) : Ret (Isect.rotate90 p) (EG.Isect.rotate90 p) J.pt := by
  rw [Isect.rotate90, chkI32_bind (by omega)]
  exact Ret.pure (by simp only [J.pt, J.coord, EG.Isect.rotate90]; omega)

theorem Isect.fromLine_ok {l : Line} (h : J.line l) :
    Ret (Isect.fromLine l) (EG.Isect.fromLine l) fun le => J.pt le.normal ∧
      -2147352578 ≤ le.originDistance ∧ le.originDistance ≤ 2147352578 :=
  (Isect.lineDelta_ok h).bind fun hd => (Isect.rotate90_ok hd).bind fun hn =>
    (Isect.dot_ok h.1 hn).bind fun hb => Ret.pure ⟨hn, hb⟩

/-- `LinearEquation::distance` / `check_side` (the self-intersection test of a join): points
within `+-8191`, normal vectors within `+-16382` (deltas of such points), origin distance within
`+-2^30`. -/
theorem Isect.distance_ok {le : EG.Isect.LinearEquation} {p : Pt}
    (hn : (-16382 ≤ le.normal.x ∧ le.normal.x ≤ 16382) ∧ (-16382 ≤ le.normal.y ∧ le.normal.y ≤ 16382))
    (hp : (-8191 ≤ p.x ∧ p.x ≤ 8191) ∧ (-8191 ≤ p.y ∧ p.y ≤ 8191))
    (ho : -1073741824 ≤ le.originDistance ∧ le.originDistance ≤ 1073741824) :
    Isect.distance le p = some (EG.Isect.distance le p) := by
  obtain ⟨e, hb⟩ := Isect.dot_bounded (A := 8191) (B := 16382) hp hn (by decide)
  rw [Isect.distance, e, some_bind]
  exact chkI32_ok (by omega) (by omega)

theorem Isect.fromLines_ok {l1 l2 : Line} (h1 : J.line l1) (h2 : J.line l2) :
    Ret (Isect.fromLines l1 l2) (EG.Isect.fromLine l1, EG.Isect.fromLine l2, EG.Isect.denominator l1 l2)
      fun r => -2147352578 ≤ r.2.2 ∧ r.2.2 ≤ 2147352578 :=
  (Isect.fromLine_ok h1).bind fun n1 => (Isect.fromLine_ok h2).bind fun n2 =>
    (Isect.det_ok n1.1 n2.1).bind fun hb => Ret.pure hb

theorem Isect.nearlyColinear_ok {l1 l2 : Line} (h1 : J.line l1) (h2 : J.line l2) {den : Int}
    (hden : -2147483648 ≤ den ∧ den ≤ 2147483647) :
    Isect.nearlyColinearHasError l1 l2 den =
      some (let d := EG.Isect.dot l1.delta l2.delta
            decide (den * den < (if d < 0 then -d else d))) := by
  obtain ⟨e, hb⟩ := Isect.dot_ok (a := l1.delta) (b := l2.delta) h1.2 h2.2
  have hsq : den * den ≤ 2147483648 * 2147483648 := sq_le_of_abs_le (by omega) (by omega)
  have hsq0 := int_mul_self_nonneg den
  unfold Isect.nearlyColinearHasError
  rw [(Isect.lineDelta_ok h1).1, (Isect.lineDelta_ok h2).1, some_bind, some_bind, e, some_bind,
    chkI64_bind (by omega), chkI32_bind (by split <;> omega)]
  rfl

theorem signum_cases (a : Int) : EG.Isect.signum a = 1 ∨ EG.Isect.signum a = -1 ∨ EG.Isect.signum a = 0 := by
  unfold EG.Isect.signum; split <;> (try split) <;> omega

/-- `round_div` for numerators below `2^60` and a positive denominator below `2^32`. -/
theorem Isect.roundDiv_ok {sign den num : Int}
    (hs : sign = 1 ∨ sign = -1 ∨ sign = 0) (hd : 0 < den ∧ den ≤ 4294967296)
    (hn : -1152921504606846976 ≤ num ∧ num ≤ 1152921504606846976) :
    Isect.roundDiv sign den num = some (EG.Isect.roundDiv sign den num) := by
  have h1 : -(2 * 1152921504606846976) ≤ 2 * num * sign ∧ 2 * num * sign ≤ 2 * 1152921504606846976 := by
    rcases hs with h | h | h <;> subst h <;> omega
  unfold Isect.roundDiv
  rw [chkI64_bind (by omega), chkI64_bind (by omega), chkI64_bind (by omega), chkI64_bind (by omega),
    if_neg (by omega)]
  rfl

theorem Isect.intersection_ok {le1 le2 : EG.Isect.LinearEquation} (hn1 : J.pt le1.normal)
    (hn2 : J.pt le2.normal)
    (ho1 : -2147483648 ≤ le1.originDistance ∧ le1.originDistance ≤ 2147483647)
    (ho2 : -2147483648 ≤ le2.originDistance ∧ le2.originDistance ≤ 2147483647) {den : Int}
    (hden : -2147483648 ≤ den ∧ den ≤ 2147483647) :
    Isect.intersection le1 le2 den = some (EG.Isect.intersection le1 le2 den) := by
  have p1 := mul_bounds (A := 2147483648) (a := le1.originDistance) (by omega) hn2.2
  have p2 := mul_bounds (A := 2147483648) (a := le2.originDistance) (by omega) hn1.2
  have q1 := mul_bounds (B := 2147483648) hn1.1 (b := le2.originDistance) (by omega)
  have q2 := mul_bounds (B := 2147483648) hn2.1 (b := le1.originDistance) (by omega)
  unfold Isect.intersection EG.Isect.intersection
  split
  · rfl
  · have hdpos : 0 < (if den < 0 then -den else den) ∧ (if den < 0 then -den else den) ≤ 4294967296 := by
      split <;> omega
    rw [chkI64_bind (by omega), chkI64_bind (by omega), chkI64_bind (by omega), chkI64_bind (by omega),
      chkI64_bind (by omega), chkI64_bind (by omega), chkI64_bind (by omega),
      Isect.roundDiv_ok (signum_cases den) hdpos (by omega), some_bind,
      Isect.roundDiv_ok (signum_cases den) hdpos (by omega)]
    rfl

/-- The `i64` miter length fits for `i32` differences other than `i32::MIN` (two squares
below `2^62`); `(width * 2).pow(2)` fits `u32` for widths up to 32767. -/
theorem Isect.miterWithinLimit_ok {d : Pt} (hx : -2147483647 ≤ d.x ∧ d.x ≤ 2147483647)
    (hy : -2147483647 ≤ d.y ∧ d.y ≤ 2147483647) {w : Nat} (hw : w ≤ 32767) :
    Isect.miterWithinLimit d w = some (EG.Isect.miterWithinLimit d w) := by
  have h1 := lengthSquared_bounds hx hy
  have h2 := sq_le_of_abs_le hx.1 hx.2
  have h3 := sq_le_of_abs_le hy.1 hy.2
  have h4 := int_mul_self_nonneg d.x
  have h5 := int_mul_self_nonneg d.y
  have h6 : (w * 2) * (w * 2) ≤ 65534 * 65534 :=
    Nat.mul_le_mul (by omega) (by omega)
  unfold EG.lengthSquared at h1
  unfold Isect.miterWithinLimit
  rw [chkI64_bind (by omega), chkI64_bind (by omega), chkI64_bind (by omega), chkU32_bind (by omega),
    chkU32_bind (by omega)]
  rfl

/-! ## Why the widenings were needed: display-scale witnesses for the old `i32` arithmetic
(the hashes are the repair commits of the crate under /repo) -/

/-- before 2947525: a 1024 px horizontal line of width 23: `46^2 * 1024^2 > i32::MAX`. -/
theorem Old.thickThreshold_overflows :
    Old.thickThreshold 23 ⟨1024, 0⟩ = none ∧ (Chk.thickThreshold 23 ⟨1024, 0⟩).isSome = true := by
  constructor <;> decide

/-- before 2947525: the squared accumulator of a display-scale diagonal of width 128
(`acc` reaches `2 * 128 * 2897 > 46340`). -/
theorem Old.thickAccSquare_overflows : Old.thickAccSquare 46341 = none := by decide

/-- before 5970db5: the squared denominator of two perpendicular 257 px edges:
`denominator = 257 * 257 = 66049`, `66049^2 > i32::MAX`. -/
theorem Old.denominatorSquare_overflows :
    EG.Isect.denominator ⟨⟨0, 0⟩, ⟨257, 0⟩⟩ ⟨⟨257, 0⟩, ⟨257, 257⟩⟩ = 66049 ∧
    Old.denominatorSquare 66049 = none := by
  constructor <;> decide

/-- before 02cb64a: the numerators of the join of the edges (-1024,-1024)-(1024,-1024) and
(1024,-1024)-(0,1024) of a display-scale triangle. -/
theorem Old.xNumerator_overflows :
    Old.xNumerator (EG.Isect.fromLine ⟨⟨-1024, -1024⟩, ⟨1024, -1024⟩⟩)
      (EG.Isect.fromLine ⟨⟨1024, -1024⟩, ⟨0, 1024⟩⟩) = none := by decide

/-- before 77b3eec: a miter 40000 px away (sharp display-scale corner): `40000^2 > i32::MAX`. -/
theorem Old.miterLengthSquared_overflows :
    Old.miterLengthSquared ⟨40000, 30000⟩ = none ∧
    (Chk.Isect.miterWithinLimit ⟨40000, 30000⟩ 58).isSome = true := by
  constructor <;> decide

end EG.Chk
