/-
  EG.Lemmas.Ellipse — the ellipse as a set of points: `EllipseContains.contains` is
  `wb * X + wa * Y < threshold` with `X = x^2`, `Y = y^2` and weights `(1, 1)` in the equal-axes
  (circle) case, `(h^2, w^2)` otherwise. Rows and columns are symmetric and convex, nothing outside
  the box is hit, concentric ellipses are nested; `offset` and translation keep the doubled centre.
-/
import EG.Lemmas.RectOps
import EG.Lemmas.CircleThreshold
import EG.Lemmas.RowScan
import EG.Lemmas.RectTranslate
import EG.Model.Ellipse
namespace EG

namespace EllipseContains

/-- weight of `y^2` -/
def wa (e : EllipseContains) : Nat := if e.a = e.b then 1 else e.a
/-- weight of `x^2` -/
def wb (e : EllipseContains) : Nat := if e.a = e.b then 1 else e.b

/-- The weighted squared distance compared with the threshold. -/
def wdist (e : EllipseContains) (p : Pt) : Int :=
  (e.wb : Int) * (p.x * p.x) + (e.wa : Int) * (p.y * p.y)

theorem wdist_nonneg (e : EllipseContains) (p : Pt) : 0 ≤ e.wdist p :=
  Int.add_nonneg (Int.mul_nonneg (Int.natCast_nonneg _) (mul_self_nonneg _))
    (Int.mul_nonneg (Int.natCast_nonneg _) (mul_self_nonneg _))

theorem contains_iff {e : EllipseContains} {p : Pt} :
    e.contains p = true ↔ e.wdist p < (e.threshold : Int) := by
  unfold contains wdist wa wb
  have h1 := mul_self_nonneg p.x
  have h2 := mul_self_nonneg p.y
  dsimp only
  rw [Int.pow_succ, Int.pow_succ, Int.pow_zero, Int.one_mul, Int.pow_succ, Int.pow_succ, Int.pow_zero,
    Int.one_mul]
  by_cases hab : e.a = e.b
  · simp only [hab, ↓reduceIte, decide_eq_true_eq]
    omega
  · simp only [hab, ↓reduceIte, decide_eq_true_eq]
    have e1 : ((e.b * (p.x * p.x).toNat + e.a * (p.y * p.y).toNat : Nat) : Int) =
        (e.b : Int) * (p.x * p.x) + (e.a : Int) * (p.y * p.y) := by
      push_cast
      rw [Int.toNat_of_nonneg h1, Int.toNat_of_nonneg h2]
    omega

theorem new_a (s : Sz) : (new s).a = s.w * s.w := by
  unfold new; simp only [Nat.pow_succ, Nat.pow_zero, Nat.one_mul]
theorem new_b (s : Sz) : (new s).b = s.h * s.h := by
  unfold new; simp only [Nat.pow_succ, Nat.pow_zero, Nat.one_mul]

theorem new_eq_iff (s : Sz) : (new s).a = (new s).b ↔ s.w = s.h := by
  rw [new_a, new_b]
  constructor
  · intro h
    rcases Nat.lt_trichotomy s.w s.h with hlt | heq | hgt
    · have := Nat.mul_self_lt_mul_self hlt; omega
    · exact heq
    · have := Nat.mul_self_lt_mul_self hgt; omega
  · intro h; rw [h]

theorem new_circle {s : Sz} (h : s.w = s.h) :
    (new s).wa = 1 ∧ (new s).wb = 1 ∧ (new s).threshold = diameterToThreshold s.w := by
  have := (new_eq_iff s).mpr h
  unfold wa wb
  simp only [this, ↓reduceIte, true_and]
  unfold new; simp [h]

theorem new_ellipse {s : Sz} (h : s.w ≠ s.h) :
    (new s).wa = s.w * s.w ∧ (new s).wb = s.h * s.h ∧ (new s).threshold = s.h * s.h * (s.w * s.w) := by
  have : ¬ (new s).a = (new s).b := fun hc => h ((new_eq_iff s).mp hc)
  unfold wa wb
  simp only [this, ↓reduceIte]
  refine ⟨new_a s, new_b s, ?_⟩
  unfold new; simp only [h, ↓reduceIte, Nat.pow_succ, Nat.pow_zero, Nat.one_mul]

/-- In every case the test implies the ideal-ellipse inequality `h^2 X + w^2 Y < w^2 h^2`: with
equal axes `X + Y < threshold ≤ w^2`, times `w^2`. -/
theorem ideal_of_contains {s : Sz} {p : Pt} (h : (new s).contains p = true) :
    ((s.h * s.h : Nat) : Int) * (p.x * p.x) + ((s.w * s.w : Nat) : Int) * (p.y * p.y) <
      ((s.h * s.h * (s.w * s.w) : Nat) : Int) := by
  rw [contains_iff] at h
  unfold wdist at h
  by_cases hs : s.w = s.h
  · obtain ⟨h1, h2, h3⟩ := new_circle hs
    rw [h1, h2, h3] at h
    have ht : ((diameterToThreshold s.w : Nat) : Int) ≤ ((s.w * s.w : Nat) : Int) := by
      exact_mod_cast threshold_le_sq s.w
    have hx := mul_self_nonneg p.x
    have hy := mul_self_nonneg p.y
    have := Int.mul_lt_mul_of_pos_left (show p.x * p.x + p.y * p.y < ((s.w * s.w : Nat) : Int) by omega)
      (show (0 : Int) < ((s.w * s.w : Nat) : Int) by omega)
    rw [Int.mul_add] at this
    rw [← hs, Int.natCast_mul (s.w * s.w)]
    exact this
  · obtain ⟨h1, h2, h3⟩ := new_ellipse hs
    rw [h1, h2, h3] at h
    exact h

end EllipseContains

theorem lt_of_weighted_lt {a b X Y : Int} (ha : 0 ≤ a) (hb : 0 ≤ b) (hY : 0 ≤ Y)
    (h : b * X + a * Y < b * a) : X < a := by
  by_contra hc
  have := Int.mul_le_mul_of_nonneg_left (show a ≤ X by omega) hb
  have := Int.mul_nonneg ha hY
  omega

theorem ellipse_widen_a {a a' b X Y : Int} (ha : 0 ≤ a) (hX : 0 ≤ X) (hb : 0 ≤ b)
    (h : b * X + a * Y < a * b) (haa : a ≤ a') : b * X + a' * Y < a' * b := by
  have hY : Y < b := lt_of_weighted_lt hb ha hX (by omega)
  -- `(a' - a) (b - Y) ≥ 0`
  have := Int.mul_nonneg (show 0 ≤ a' - a by omega) (show 0 ≤ b - Y by omega)
  rw [Int.sub_mul, Int.mul_sub, Int.mul_sub] at this
  omega

/-- Concentric ideal ellipses: a smaller one (both half-axes) lies inside a larger one. -/
theorem ellipse_nested {a a' b b' X Y : Int} (ha : 0 ≤ a) (hb : 0 ≤ b) (hX : 0 ≤ X) (hY : 0 ≤ Y)
    (h : b * X + a * Y < b * a) (haa : a ≤ a') (hbb : b ≤ b') : b' * X + a' * Y < b' * a' := by
  rw [Int.mul_comm b a] at h
  have h1 := ellipse_widen_a ha hX hb h haa
  have h2 : a' * Y + b * X < b * a' := by rw [Int.mul_comm b a']; omega
  have h3 := ellipse_widen_a (a := b) (a' := b') (b := a') (X := Y) (Y := X) hb hY (by omega) h2 hbb
  omega

theorem ideal_bounds {w h : Nat} {x y : Int}
    (hi : ((h * h : Nat) : Int) * (x * x) + ((w * w : Nat) : Int) * (y * y) < ((h * h * (w * w) : Nat) : Int)) :
    -(w : Int) < x ∧ x < w ∧ -(h : Int) < y ∧ y < h := by
  push_cast at hi
  have hx := mul_self_nonneg x
  have hy := mul_self_nonneg y
  have hw : (0 : Int) ≤ (w : Int) * w := mul_self_nonneg _
  have hh : (0 : Int) ≤ (h : Int) * h := mul_self_nonneg _
  have a1 := abs_lt_of_sq_lt (Int.natCast_nonneg w) (lt_of_weighted_lt hw hh hy hi)
  rw [Int.mul_comm ((h : Int) * h) ((w : Int) * w), Int.add_comm] at hi
  have a2 := abs_lt_of_sq_lt (Int.natCast_nonneg h) (lt_of_weighted_lt hh hw hx hi)
  omega

namespace Ellipse

theorem center2x_x (e : Ellipse) : e.center2x.x = e.tl.x * 2 + ((e.size.w - 1 : Nat) : Int) := rfl
theorem center2x_y (e : Ellipse) : e.center2x.y = e.tl.y * 2 + ((e.size.h - 1 : Nat) : Int) := rfl

theorem hit_iff {c2 : Pt} {ec : EllipseContains} {x y : Int} :
    hit c2 ec y x = true ↔ ec.wdist ⟨x * 2 - c2.x, y * 2 - c2.y⟩ < (ec.threshold : Int) := by
  unfold hit; rw [EllipseContains.contains_iff]

theorem contains_eq_hit (e : Ellipse) (x y : Int) :
    e.contains ⟨x, y⟩ = hit e.center2x (EllipseContains.new e.size) y x := rfl

theorem contains_iff {e : Ellipse} {p : Pt} :
    e.contains p = true ↔ (EllipseContains.new e.size).wdist
      ⟨p.x * 2 - e.center2x.x, p.y * 2 - e.center2x.y⟩ < ((EllipseContains.new e.size).threshold : Int) := by
  cases p with
  | mk x y => rw [contains_eq_hit, hit_iff]

theorem hit_symConvex_row {c2 : Pt} (ec : EllipseContains) (y : Int) {a b : Int} (hc : c2.x = a + b - 1) :
    SymConvex (hit c2 ec y) a b := by
  apply symConvex_of_quad (w := ec.wb) (r := ec.wa * ((y * 2 - c2.y) * (y * 2 - c2.y)))
    (T := ec.threshold) (Int.natCast_nonneg _) hc
  intro x
  simp only [hit_iff, EllipseContains.wdist]

theorem hit_symConvex_col {c2 : Pt} (ec : EllipseContains) (x : Int) {a b : Int} (hc : c2.y = a + b - 1) :
    SymConvex (fun y => hit c2 ec y x) a b := by
  apply symConvex_of_quad (w := ec.wa) (r := ec.wb * ((x * 2 - c2.x) * (x * 2 - c2.x)))
    (T := ec.threshold) (Int.natCast_nonneg _) hc
  intro y
  simp only [hit_iff, EllipseContains.wdist]
  omega

theorem contains_mirror_y (e : Ellipse) (x y : Int) :
    e.contains ⟨x, e.center2x.y - y⟩ = e.contains ⟨x, y⟩ := by
  have h := (hit_symConvex_col (c2 := e.center2x) (EllipseContains.new e.size) x
    (a := e.center2x.y + 1) (b := 0) (by omega)).sym y
  rw [show e.center2x.y + 1 + 0 - 1 - y = e.center2x.y - y by omega] at h
  exact h

theorem contains_convex_row {e : Ellipse} {y x1 x x2 : Int} (h1 : e.contains ⟨x1, y⟩ = true)
    (h2 : e.contains ⟨x2, y⟩ = true) (hx1 : x1 ≤ x) (hx2 : x ≤ x2) : e.contains ⟨x, y⟩ = true :=
  (hit_symConvex_row (c2 := e.center2x) (EllipseContains.new e.size) y (a := e.center2x.x + 1) (b := 0)
    (by omega)).convex h1 h2 hx1 hx2

theorem contains_convex_col {e : Ellipse} {x y1 y y2 : Int} (h1 : e.contains ⟨x, y1⟩ = true)
    (h2 : e.contains ⟨x, y2⟩ = true) (hy1 : y1 ≤ y) (hy2 : y ≤ y2) : e.contains ⟨x, y⟩ = true :=
  SymConvex.convex (p := fun y => hit e.center2x (EllipseContains.new e.size) y x)
    (hit_symConvex_col (EllipseContains.new e.size) x (a := e.center2x.y + 1) (b := 0) (by omega))
    h1 h2 hy1 hy2

theorem contains_imp_box {e : Ellipse} {p : Pt} (h : e.contains p = true) :
    e.tl.x ≤ p.x ∧ p.x < e.tl.x + e.size.w ∧ e.tl.y ≤ p.y ∧ p.y < e.tl.y + e.size.h := by
  have hb := ideal_bounds (EllipseContains.ideal_of_contains (s := e.size)
    (p := ⟨p.x * 2 - e.center2x.x, p.y * 2 - e.center2x.y⟩) h)
  simp only at hb
  rw [center2x_x, center2x_y] at hb
  omega

theorem contains_imp_bbox {e : Ellipse} {p : Pt} (h : e.contains p = true) :
    e.boundingBox.contains p = true := by
  rw [Rect.contains_iff]
  exact contains_imp_box h

theorem contains_false_of_zero {e : Ellipse} (h : e.size.w = 0 ∨ e.size.h = 0) (p : Pt) :
    e.contains p = false := by
  cases hc : e.contains p with
  | false => rfl
  | true => have := contains_imp_box hc; omega

/-- Concentric areas: the test of the smaller size implies the test of the larger one. `hcls`: a
larger area with equal axes is tested against `diameter_to_threshold`, which `threshold_mono`
compares only with that of another area with equal axes. -/
theorem hit_nested {c2 : Pt} {sF sS : Sz} (hw : sF.w ≤ sS.w) (hh : sF.h ≤ sS.h)
    (hcls : sS.w = sS.h → sF.w = sF.h) {x y : Int}
    (h : hit c2 (EllipseContains.new sF) y x = true) : hit c2 (EllipseContains.new sS) y x = true := by
  by_cases hS : sS.w = sS.h
  · have hFe := hcls hS
    rw [hit_iff] at h ⊢
    obtain ⟨a1, a2, a3⟩ := EllipseContains.new_circle hFe
    obtain ⟨b1, b2, b3⟩ := EllipseContains.new_circle hS
    unfold EllipseContains.wdist at h ⊢
    rw [a1, a2, a3] at h
    rw [b1, b2, b3]
    have := threshold_mono hw
    omega
  · have hi := EllipseContains.ideal_of_contains (s := sF) h
    simp only at hi
    rw [hit_iff]
    obtain ⟨b1, b2, b3⟩ := EllipseContains.new_ellipse hS
    unfold EllipseContains.wdist
    rw [b1, b2, b3]
    simp only
    have hX := mul_self_nonneg (x * 2 - c2.x)
    have hY := mul_self_nonneg (y * 2 - c2.y)
    have haa : ((sF.w * sF.w : Nat) : Int) ≤ ((sS.w * sS.w : Nat) : Int) := by
      exact_mod_cast Nat.mul_le_mul hw hw
    have hbb : ((sF.h * sF.h : Nat) : Int) ≤ ((sS.h * sS.h : Nat) : Int) := by
      exact_mod_cast Nat.mul_le_mul hh hh
    rw [Int.natCast_mul (sF.h * sF.h)] at hi
    rw [Int.natCast_mul (sS.h * sS.h)]
    exact ellipse_nested (Int.natCast_nonneg _) (Int.natCast_nonneg _) hX hY hi haa hbb

/-- No `u32 -> i32` saturation and no `i32` overflow in the bounding box. -/
def InRange (e : Ellipse) : Prop := e.boundingBox.InRange
instance (e : Ellipse) : Decidable e.InRange := by unfold InRange; exact inferInstance

/-- The size computed by `OffsetOutline::offset`. -/
def offsetSize (s : Sz) (o : Int) : Sz :=
  if o ≥ 0 then s.satAdd (Sz.newEqual (2 * o.toNat)) else s.satSub (Sz.newEqual (2 * (-o).toNat))

theorem offset_nonneg (e : Ellipse) (o : Int) (h : o ≥ 0) :
    e.offset o = ⟨e.tl - ⟨o, o⟩, offsetSize e.size o⟩ := by
  unfold offset offsetSize; rw [if_pos h, if_pos h]
theorem offset_neg (e : Ellipse) (o : Int) (h : ¬ o ≥ 0) :
    e.offset o = withCenter e.center (offsetSize e.size o) := by
  unfold offset offsetSize; rw [if_neg h, if_neg h]
theorem offset_size (e : Ellipse) (o : Int) : (e.offset o).size = offsetSize e.size o := by
  by_cases h : o ≥ 0
  · rw [offset_nonneg e o h]
  · rw [offset_neg e o h]; rfl

theorem offset_boundingBox_of_nonneg (e : Ellipse) (o : Int) (h : 0 ≤ o) :
    (e.offset o).boundingBox = e.boundingBox.offset o := by
  have h' : o ≥ 0 := h
  rw [offset_nonneg e o h']
  unfold Rect.offset offsetSize
  rw [if_pos h', if_pos h', Nat.mul_comm]
  rfl

theorem withCenter_def (e : Ellipse) (s' : Sz) :
    withCenter e.center s' =
      ⟨⟨e.tl.x + (((e.size.w - 1) / 2 : Nat) : Int) - (((s'.w - 1) / 2 : Nat) : Int),
        e.tl.y + (((e.size.h - 1) / 2 : Nat) : Int) - (((s'.h - 1) / 2 : Nat) : Int)⟩, s'⟩ := rfl

theorem offsetSize_grow (s : Sz) (k : Nat) (hw : s.w + 2 * k ≤ 4294967295) (hh : s.h + 2 * k ≤ 4294967295) :
    offsetSize s (k : Int) = ⟨s.w + 2 * k, s.h + 2 * k⟩ := by
  unfold offsetSize Sz.satAdd Sz.newEqual satAddU32
  rw [if_pos (by omega)]
  simp only [Int.toNat_natCast]
  rw [if_pos hw, if_pos hh]

theorem offsetSize_shrink (s : Sz) (k : Nat) (hk : 1 ≤ k) :
    offsetSize s (-(k : Int)) = ⟨s.w - 2 * k, s.h - 2 * k⟩ := by
  unfold offsetSize Sz.satSub Sz.newEqual
  rw [if_neg (by omega)]
  simp only [Int.neg_neg, Int.toNat_natCast]

theorem withCenter_center2x (e : Ellipse) (s' : Sz) (hw : 1 ≤ e.size.w) (hh : 1 ≤ e.size.h)
    (hw' : 1 ≤ s'.w) (hh' : 1 ≤ s'.h) (pw : s'.w % 2 = e.size.w % 2) (ph : s'.h % 2 = e.size.h % 2) :
    (withCenter e.center s').center2x = e.center2x := by
  rw [withCenter_def, Pt.ext_iff', center2x_x, center2x_y, center2x_x, center2x_y]
  exact ⟨center2x_recentre _ hw hw' pw, center2x_recentre _ hh hh' ph⟩

theorem offset_grow (e : Ellipse) (k : Nat)
    (sw : e.size.w + 2 * k ≤ 4294967295) (sh : e.size.h + 2 * k ≤ 4294967295) :
    e.offset (k : Int) = ⟨⟨e.tl.x - k, e.tl.y - k⟩, ⟨e.size.w + 2 * k, e.size.h + 2 * k⟩⟩ := by
  rw [offset_nonneg e k (by omega), offsetSize_grow _ _ sw sh]
  rfl

theorem offset_shrink (e : Ellipse) (k : Nat) (hk : 1 ≤ k) (hw : 2 * k < e.size.w) (hh : 2 * k < e.size.h) :
    e.offset (-(k : Int)) = ⟨⟨e.tl.x + k, e.tl.y + k⟩, ⟨e.size.w - 2 * k, e.size.h - 2 * k⟩⟩ := by
  rw [offset_neg e _ (by omega), offsetSize_shrink _ _ hk, withCenter_def, recentre_shrink _ hw,
    recentre_shrink _ hh]

theorem offset_shrink_size (e : Ellipse) (k : Nat) (hk : 1 ≤ k) :
    (e.offset (-(k : Int))).size = ⟨e.size.w - 2 * k, e.size.h - 2 * k⟩ := by
  rw [offset_size, offsetSize_shrink _ _ hk]

theorem offset_zero (e : Ellipse) (hw : e.size.w ≤ 4294967295) (hh : e.size.h ≤ 4294967295) :
    e.offset 0 = e := by
  have := offsetSize_grow e.size 0 (by omega) (by omega)
  simp only [Int.natCast_zero, Nat.mul_zero, Nat.add_zero] at this
  rw [offset_nonneg e 0 (by omega), this]
  rw [show e = ⟨e.tl, e.size⟩ from rfl, Ellipse.mk.injEq, Pt.ext_iff']
  exact ⟨⟨Int.sub_zero _, Int.sub_zero _⟩, rfl⟩

/-- `lw`, `lh`: the offset fits `i32`, so growing did not saturate in `u32`. -/
theorem offset_center2x (e : Ellipse) (o : Int) (hw : 1 ≤ e.size.w) (hh : 1 ≤ e.size.h)
    (hw' : 1 ≤ (e.offset o).size.w) (hh' : 1 ≤ (e.offset o).size.h)
    (lw : (e.offset o).size.w ≤ 2147483647) (lh : (e.offset o).size.h ≤ 2147483647) :
    (e.offset o).center2x = e.center2x := by
  by_cases h : o ≥ 0
  · rw [offset_nonneg e o h] at lw lh ⊢
    unfold offsetSize Sz.satAdd Sz.newEqual at lw lh ⊢
    rw [if_pos h] at lw lh ⊢
    rw [Pt.ext_iff', center2x_x, center2x_y, center2x_x, center2x_y]
    dsimp only at lw lh ⊢
    rw [satAddU32_of_le lw, satAddU32_of_le lh]
    exact ⟨center2x_grow _ o h hw, center2x_grow _ o h hh⟩
  · have es : offsetSize e.size o = ⟨e.size.w - 2 * (-o).toNat, e.size.h - 2 * (-o).toNat⟩ := by
      rw [offsetSize, if_neg h]; rfl
    rw [offset_size, es] at hw' hh'
    rw [offset_neg e o h, es]
    -- what is left of a side after shrinking by an even amount has the parity of the side
    exact withCenter_center2x e _ hw hh hw' hh' (by dsimp only at hw' ⊢; omega)
      (by dsimp only at hh' ⊢; omega)

theorem translate_tl (e : Ellipse) (d : Pt) : (e.translate d).tl = e.tl + d := rfl
theorem translate_size (e : Ellipse) (d : Pt) : (e.translate d).size = e.size := rfl
theorem translate_boundingBox (e : Ellipse) (d : Pt) :
    (e.translate d).boundingBox = e.boundingBox.translate d := rfl

theorem translate_center (e : Ellipse) (d : Pt) : (e.translate d).center = e.center + d := by
  unfold center
  rw [translate_boundingBox, Rect.center_translate]

theorem withCenter_add (p d : Pt) (s : Sz) : withCenter (p + d) s = (withCenter p s).translate d := by
  unfold withCenter translate
  rw [Rect.withCenter_translate]
  rfl

theorem translate_offset (e : Ellipse) (d : Pt) (o : Int) :
    (e.translate d).offset o = (e.offset o).translate d := by
  by_cases h : o ≥ 0
  · rw [offset_nonneg _ o h, offset_nonneg _ o h]
    simp only [translate, Ellipse.mk.injEq, and_true]
    rw [Pt.ext_iff']; simp only [Pt.add_x, Pt.add_y, Pt.sub_x, Pt.sub_y]; omega
  · rw [offset_neg _ o h, offset_neg _ o h, translate_center, translate_size, withCenter_add]

theorem translate_center2x (e : Ellipse) (d : Pt) :
    (e.translate d).center2x = ⟨e.center2x.x + 2 * d.x, e.center2x.y + 2 * d.y⟩ := by
  rw [Pt.ext_iff']
  simp only [center2x, center2xOf, translate, Pt.add_x, Pt.add_y]
  constructor <;> omega

theorem hit_shift (c2 : Pt) (ec : EllipseContains) (d : Pt) (y x : Int) :
    hit ⟨c2.x + 2 * d.x, c2.y + 2 * d.y⟩ ec (y + d.y) (x + d.x) = hit c2 ec y x := by
  unfold hit
  have e : ((⟨(x + d.x) * 2 - (c2.x + 2 * d.x), (y + d.y) * 2 - (c2.y + 2 * d.y)⟩ : Pt)) =
      (⟨x * 2 - c2.x, y * 2 - c2.y⟩ : Pt) := by
    rw [Pt.ext_iff']; constructor <;> (dsimp only; omega)
  rw [e]

theorem translate_contains (e : Ellipse) (d p : Pt) :
    (e.translate d).contains p = e.contains (p - d) := by
  have hp : p = ⟨(p - d).x + d.x, (p - d).y + d.y⟩ := by rw [Pt.ext_iff']; simp
  conv_lhs => rw [hp]
  rw [contains_eq_hit, translate_center2x, translate_size, hit_shift, ← contains_eq_hit]

end Ellipse
end EG
