/-
  EG.Lemmas.PMapTranslate — moving write lists and pixel maps by a vector
  (EG.Model.CallTranslate): `apply` and `clipWrites` commute with translation.
-/
import EG.Model.CallTranslate
import EG.Lemmas.PMap
import EG.Lemmas.RectTranslate
namespace EG
open EG.Tgt

theorem PMap.shift_at (m : PMap) (d p : Pt) : PMap.shift d m p = m (p - d) := rfl

theorem Writes.translate_cons (d : Pt) (w : Pt × Color) (ws : Writes) :
    Writes.translate d (w :: ws) = (w.1 + d, w.2) :: Writes.translate d ws := rfl

theorem PMap.set_shift (m : PMap) (d : Pt) (w : Pt × Color) :
    Tgt.PMap.set (PMap.shift d m) (w.1 + d, w.2) = PMap.shift d (Tgt.PMap.set m w) := by
  apply funext
  intro p
  rw [PMap.set_at, PMap.shift_at, PMap.shift_at, PMap.set_at]
  by_cases h : p = w.1 + d
  · rw [if_pos h, if_pos ((Pt.eq_add_iff _ _ _).mp h)]
  · rw [if_neg h, if_neg (fun e => h ((Pt.eq_add_iff _ _ _).mpr e))]

theorem PMap.apply_translate (m : PMap) (ws : Writes) (d : Pt) :
    (PMap.shift d m).apply (Writes.translate d ws) = PMap.shift d (m.apply ws) := by
  induction ws generalizing m with
  | nil => rfl
  | cons w ws ih => rw [Writes.translate_cons, PMap.apply_cons, PMap.apply_cons, PMap.set_shift, ih]

theorem PMap.shift_empty (d : Pt) : PMap.shift d PMap.empty = PMap.empty := rfl

theorem clipWrites_translate (B : Rect) (ws : Writes) (d : Pt) :
    clipWrites (B.translate d) (Writes.translate d ws) = Writes.translate d (clipWrites B ws) := by
  unfold clipWrites Writes.translate
  rw [List.filter_map]
  congr 1
  apply List.filter_congr
  intro w _
  simp only [Function.comp, Rect.contains_translate]

theorem apply_clip_translate (B : Rect) (ws : Writes) (d : Pt) :
    PMap.empty.apply (clipWrites (B.translate d) (Writes.translate d ws)) =
      PMap.shift d (PMap.empty.apply (clipWrites B ws)) := by
  rw [clipWrites_translate, ← PMap.apply_translate, PMap.shift_empty]

/-- Two pictures given point by point inside the same box `B`: if the second prescription is the
first moved by `d`, and everything prescribed lies in `B` before and after the move, the second
picture is the first one shifted. -/
theorem PMap.eq_shift_of_pointwise {m' m : PMap} {B : Rect} {d : Pt} {e' e : Pt → Option Color}
    (hm' : ∀ p, m' p = if B.contains p = true then e' p else none)
    (hm : ∀ p, m p = if B.contains p = true then e p else none)
    (he : ∀ p, e' p = e (p - d))
    (hB : ∀ q c, e q = some c → B.contains q = true)
    (hB' : ∀ q c, e (q - d) = some c → B.contains q = true) : m' = PMap.shift d m := by
  funext p
  rw [PMap.shift_at, hm', hm, he]
  cases hc : e (p - d) with
  | none => rw [ite_self, ite_self]
  | some c => rw [if_pos (hB' p c hc), if_pos (hB (p - d) c hc)]

end EG
