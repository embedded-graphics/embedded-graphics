/-
  EG.Lemmas.PMap — more facts about pixel maps (on top of EG.Lemmas.Target: `lastWrite` algebra,
  `PMap.apply_eq`, `runDefault_eq_runNative`, and EG.Lemmas.Picture: `paint`), in particular for lists
  of `fill_solid` calls: the value at `p` is the colour of the LAST rectangle containing `p`
  (`lastSolid`), restricted to the target box; the picture of any call list at a point inside the
  box (`Glue.lw`) and what one optional solid rectangle gives it (`Glue.decoAt`); and for `draw_iter`
  of a write list whose points are pairwise distinct, or in which every point has one colour.
-/
import EG.Lemmas.Picture
namespace EG
open EG.Tgt

theorem PMap.apply_nil (m : PMap) : m.apply [] = m := rfl

theorem PMap.set_at (m : PMap) (w : Pt × Color) (p : Pt) :
    Tgt.PMap.set m w p = if p = w.1 then some w.2 else m p := rfl

theorem PMap.apply_append (m : PMap) (ws1 ws2 : Writes) :
    m.apply (ws1 ++ ws2) = (m.apply ws1).apply ws2 := by
  induction ws1 generalizing m with
  | nil => rfl
  | cons w ws1 ih => rw [List.cons_append, PMap.apply_cons, PMap.apply_cons, ih]

theorem PMap.apply_of_not_mem (m : PMap) (ws : Writes) (p : Pt) (h : ∀ w ∈ ws, w.1 ≠ p) :
    m.apply ws p = m p := by
  induction ws generalizing m with
  | nil => rfl
  | cons w ws ih =>
    rw [PMap.apply_cons, ih _ (fun w' hw' => h w' (List.mem_cons_of_mem _ hw'))]
    have := h w List.mem_cons_self
    rw [PMap.set_at, if_neg (fun e => this e.symm)]

theorem PMap.apply_nodup (m : PMap) (ws : Writes) (p : Pt) (c : Color)
    (hn : (ws.map Prod.fst).Nodup) (hp : (p, c) ∈ ws) : m.apply ws p = some c := by
  induction ws generalizing m with
  | nil => cases hp
  | cons w ws ih =>
    rw [PMap.apply_cons]
    rw [List.map_cons, List.nodup_cons] at hn
    rcases List.mem_cons.mp hp with rfl | hp'
    · rw [PMap.apply_of_not_mem]
      · rw [PMap.set_at]; simp
      · intro w' hw' e
        exact hn.1 (List.mem_map.mpr ⟨w', hw', e⟩)
    · exact ih _ hn.2 hp'

theorem runNative_nil (B : Rect) : runNative B [] = PMap.empty := rfl

theorem runNative_drawIter (B : Rect) (ws : Writes) :
    runNative B [Call.drawIter ws] = PMap.empty.apply (clipWrites B ws) := by
  simp [runNative, Call.writesNative, Call.lowerNative]

theorem runDefault_drawIter (B : Rect) (ws : Writes) :
    runDefault B [Call.drawIter ws] = PMap.empty.apply (clipWrites B ws) := by
  simp [runDefault, Call.writesDefault, Call.lowerDefault]

theorem mem_clipWrites {B : Rect} {ws : Writes} {w : Pt × Color} :
    w ∈ clipWrites B ws ↔ w ∈ ws ∧ B.contains w.1 = true := by
  unfold clipWrites; simp

def solidCalls (l : List (Rect × Color)) : List Call := l.map (fun ac => Call.fillSolid ac.1 ac.2)

/-- The colour of the last rectangle of the list that contains `p`. -/
def lastSolid (l : List (Rect × Color)) (p : Pt) : Option Color :=
  match l.reverse.find? (fun ac => ac.1.contains p) with
  | some ac => some ac.2
  | none => none

theorem lastSolid_cons (ac : Rect × Color) (l : List (Rect × Color)) (p : Pt) :
    lastSolid (ac :: l) p =
      match lastSolid l p with
      | some c => some c
      | none => if ac.1.contains p = true then some ac.2 else none := by
  unfold lastSolid
  rw [List.reverse_cons, List.find?_append]
  cases h : l.reverse.find? (fun ac => ac.1.contains p) with
  | some w' => simp
  | none =>
    by_cases e : ac.1.contains p = true
    · simp [e]
    · simp [e]

theorem lastSolid_nil (p : Pt) : lastSolid [] p = none := rfl

theorem lastSolid_singleton (ac : Rect × Color) (p : Pt) :
    lastSolid [ac] p = if ac.1.contains p = true then some ac.2 else none := by
  rw [lastSolid_cons, lastSolid_nil]

theorem lastSolid_append (l1 l2 : List (Rect × Color)) (p : Pt) :
    lastSolid (l1 ++ l2) p = (lastSolid l2 p).or (lastSolid l1 p) := by
  unfold lastSolid
  rw [List.reverse_append, List.find?_append]
  cases l2.reverse.find? (fun ac => ac.1.contains p) <;> rfl

theorem lastSolid_map_const (rs : List Rect) (c : Color) (p : Pt) :
    lastSolid (rs.map (fun a => (a, c))) p =
      if ∃ a ∈ rs, a.contains p = true then some c else none := by
  induction rs with
  | nil => simp [lastSolid_nil]
  | cons a rs ih =>
    rw [List.map_cons, lastSolid_cons, ih]
    by_cases h1 : ∃ a ∈ rs, a.contains p = true
    · simp [h1]
    · by_cases h2 : a.contains p = true <;> simp [h1, h2]

theorem lastSolid_eq_none_iff (l : List (Rect × Color)) (p : Pt) :
    lastSolid l p = none ↔ ∀ ac ∈ l, ¬ ac.1.contains p = true := by
  unfold lastSolid
  cases h : l.reverse.find? (fun ac => ac.1.contains p) with
  | some ac =>
    simp only [reduceCtorEq, false_iff]
    intro hall
    have hm := List.mem_of_find?_eq_some h
    have hc : ac.1.contains p = true := by simpa using List.find?_some h
    exact hall ac (List.mem_reverse.mp hm) hc
  | none =>
    simp only [true_iff]
    intro ac hac
    rw [List.find?_eq_none] at h
    simpa using h ac (List.mem_reverse.mpr hac)

theorem lastSolid_eq_some {l : List (Rect × Color)} {p : Pt} {c : Color} (h : lastSolid l p = some c) :
    ∃ ac ∈ l, ac.1.contains p = true ∧ ac.2 = c := by
  unfold lastSolid at h
  cases hf : l.reverse.find? (fun ac => ac.1.contains p) with
  | some ac =>
    rw [hf] at h
    simp only [Option.some.injEq] at h
    exact ⟨ac, List.mem_reverse.mp (List.mem_of_find?_eq_some hf), by simpa using List.find?_some hf, h⟩
  | none => rw [hf] at h; cases h

theorem paint_solidCalls (T : Rect) (l : List (Rect × Color)) (p : Pt) :
    paint T (solidCalls l) p = lastSolid l p := by
  induction l with
  | nil => rfl
  | cons ac l ih =>
    rw [lastSolid_cons, ← ih]
    show (paint T (solidCalls l) p).or _ = _
    cases paint T (solidCalls l) p <;> rfl

/-- One colour on a list of rectangles. -/
theorem paint_solids (T : Rect) (rs : List Rect) (c : Color) (p : Pt) :
    paint T (rs.map fun a => Call.fillSolid a c) p =
      if ∃ a ∈ rs, a.contains p = true then some c else none := by
  rw [← lastSolid_map_const, ← paint_solidCalls T, solidCalls, List.map_map]
  rfl

/-- **Solid fills on a native target**: the value at `p` is the colour of the last rectangle
containing `p`, restricted to the target box. -/
theorem runNative_solidCalls (B : Rect) (l : List (Rect × Color))
    (hl : ∀ ac ∈ l, ac.1.InRange) (p : Pt) :
    runNative B (solidCalls l) p = if B.contains p = true then lastSolid l p else none := by
  rw [runNative_eq_paint, paint_solidCalls]
  intro c hc
  obtain ⟨ac, hac, rfl⟩ := List.mem_map.mp hc
  exact Or.inr (hl ac hac)

namespace Glue

/-- The colour the call list leaves at `q` on an empty native-fill target with box `B`. -/
def lw (B : Rect) (calls : List Call) (q : Pt) : Option Color :=
  lastWrite (calls.flatMap (Call.writesNative B)) q

theorem runNative_eq_lw (B : Rect) (calls : List Call) (q : Pt) : runNative B calls q = lw B calls q := by
  unfold runNative lw; exact PMap.empty_apply _ _

theorem lw_nil (B : Rect) (q : Pt) : lw B [] q = none := rfl

theorem lw_append (B : Rect) (a b : List Call) (q : Pt) : lw B (a ++ b) q = (lw B b q).or (lw B a q) := by
  unfold lw; rw [List.flatMap_append, lastWrite_append]

/-- Inside the box the picture is the last write of the lowered calls (the trait defaults and the
native fills lower every call to the same writes); outside it nothing is recorded. -/
theorem lw_eq (B : Rect) (calls : List Call) (q : Pt) :
    lw B calls q = if B.contains q = true then lastWrite (calls.flatMap (Call.lowerDefault B)) q else none := by
  rw [← runNative_eq_lw, ← runDefault_eq_runNative, runDefault_apply]

theorem lw_eq_paint {B : Rect} {calls : List Call} (h : ∀ c ∈ calls, c.Ok B) (q : Pt) :
    lw B calls q = if B.contains q = true then paint B calls q else none := by
  rw [← runNative_eq_lw, runNative_eq_paint h]

/-- What one solid rectangle gives the point `q` (`d` = its colour, if it is drawn at all). -/
def decoAt (B : Rect) (d : Option Color) (r : Rect) (q : Pt) : Option Color :=
  match d with
  | some c => if r.contains q = true ∧ B.contains q = true then some c else none
  | none => none

theorem lw_fillSolid (B a : Rect) (c : Color) (ha : a.InRange) (q : Pt) :
    lw B [Call.fillSolid a c] q = decoAt B (some c) a q := by
  rw [lw_eq_paint (by intro k hk; rw [List.mem_singleton.mp hk]; exact Or.inr ha), paint_singleton]
  simp only [Call.paint, decoAt]
  by_cases hB : B.contains q = true <;> by_cases hp : a.contains q = true <;> simp [hB, hp]

theorem decoAt_none (B : Rect) (d : Option Color) {r : Rect} {q : Pt} (h : ¬ r.contains q = true) :
    decoAt B d r q = none := by
  unfold decoAt
  cases d with
  | none => rfl
  | some c => exact if_neg (fun hc => h hc.1)

theorem decoAt_inside (d : Option Color) (r : Rect) {B : Rect} {q : Pt} (hB : B.contains q = true) :
    decoAt B d r q = if r.contains q = true then d else none := by
  cases d with
  | none => exact (ite_self none).symm
  | some c => simp only [decoAt, hB, and_true]

end Glue

/-- The map after `draw_iter(ws)` on an empty target with box `B`, when no point occurs twice in
`ws`: `p` has colour `c` iff `(p, c)` is one of the writes and `p` is in the box. -/
theorem PMap.apply_clip_nodup (B : Rect) (ws : Writes) (hn : (ws.map Prod.fst).Nodup) (p : Pt) (c : Color) :
    PMap.empty.apply (clipWrites B ws) p = some c ↔ ((p, c) ∈ ws ∧ B.contains p = true) := by
  have hn' : ((clipWrites B ws).map Prod.fst).Nodup := by
    unfold clipWrites
    exact List.Pairwise.sublist (List.Sublist.map _ List.filter_sublist) hn
  constructor
  · intro h
    by_cases hex : ∃ w ∈ clipWrites B ws, w.1 = p
    · obtain ⟨w, hw, e⟩ := hex
      have hw' : (p, w.2) ∈ clipWrites B ws := by rw [← e]; exact hw
      rw [PMap.apply_nodup _ _ _ _ hn' hw'] at h
      simp only [Option.some.injEq] at h
      rw [h] at hw'
      exact mem_clipWrites.mp hw'
    · rw [PMap.apply_of_not_mem _ _ _ (fun w hw e => hex ⟨w, hw, e⟩)] at h
      cases h
  · rintro ⟨h1, h2⟩
    exact PMap.apply_nodup _ _ _ _ hn' (mem_clipWrites.mpr ⟨h1, h2⟩)

/-- ... and `p` is untouched iff it is not written inside the box. -/
theorem PMap.apply_clip_eq_none (B : Rect) (ws : Writes) (p : Pt) :
    PMap.empty.apply (clipWrites B ws) p = none ↔ ¬ (B.contains p = true ∧ ∃ c, (p, c) ∈ ws) := by
  rw [PMap.empty_apply, lastWrite_clipWrites]
  by_cases hB : B.contains p = true
  · rw [if_pos hB, lastWrite_eq_none_iff]
    constructor
    · rintro h ⟨_, c, hc⟩; exact h (p, c) hc rfl
    · intro h w hw e; exact h ⟨hB, w.2, e ▸ hw⟩
  · rw [if_neg hB]
    exact ⟨fun _ h => hB h.1, fun _ => rfl⟩

/-! Write lists in which every point has one colour: the map is the partial function that
describes membership (`Scan.apply_eq_of_mem_iff`). -/
namespace Scan

theorem apply_untouched (ws : Writes) (m : PMap) (p : Pt) (h : ∀ c, (p, c) ∉ ws) :
    (m.apply ws) p = m p :=
  PMap.apply_of_not_mem m ws p fun w hw e => h w.2 (e ▸ hw)

theorem apply_eq_of_mem_iff (ws : Writes) (e : Pt → Option Color)
    (h : ∀ p c, (p, c) ∈ ws ↔ e p = some c) (p : Pt) : (PMap.empty.apply ws) p = e p := by
  rw [PMap.empty_apply]
  exact lastWrite_eq_of_mem_iff fun c => h p c

end Scan

end EG
