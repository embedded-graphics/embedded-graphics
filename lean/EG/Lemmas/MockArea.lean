/-
  EG.Lemmas.MockArea — `affected_area`, `PartialEq`, `diff`, `swap_xy`, `map` of the `MockDisplay` model.
-/
import EG.Lemmas.Mock
namespace EG
namespace Mock

theorem displayArea_inRange : displayArea.InRange := by decide

theorem mem_displayPoints {p : Pt} : p ∈ displayArea.points ↔ Inside p := by
  rw [Rect.mem_points displayArea_inRange, contains_iff_inside]

theorem getElem?_flatMap64 {α β : Type} (f : α → List β) (l : List α)
    (h : ∀ a ∈ l, (f a).length = 64) (i : Nat) :
    (l.flatMap f)[i]? = (l[i / 64]?).bind (fun a => (f a)[i % 64]?) := by
  have := getElem?_flatMap_const l f 64 h (i / 64) (i % 64) (by omega)
  rwa [show i / 64 * 64 + i % 64 = i by omega] at this

theorem irange_getElem? (a b : Int) (i : Nat) (h : i < (b - a).toNat) :
    (irange a b)[i]? = some (a + i) := by
  rw [List.getElem?_eq_getElem (by rw [irange_length]; exact h), irange_getElem]

theorem displayPoints_getElem? {i : Nat} (hi : i < 4096) : displayArea.points[i]? = some (cellOf i) := by
  rw [Rect.points_eq_spec]
  have hrows : displayArea.rows = irange 0 64 := by decide
  have hcols : displayArea.columns = irange 0 64 := by decide
  unfold Rect.pointsSpec
  rw [if_neg (by decide), hrows, hcols,
    getElem?_flatMap64 _ _ (by intro a _; simp [irange_length])]
  rw [irange_getElem? 0 64 (i / 64) (by omega)]
  simp only [Option.bind_some, List.getElem?_map]
  rw [irange_getElem? 0 64 (i % 64) (by omega)]
  simp [cellOf]

theorem pixels_toList_getElem? (d : MD) {i : Nat} (hi : i < 4096) :
    d.pixels.toList[i]? = some (d.get i) := by
  rw [List.getElem?_eq_getElem (by simp; exact hi), Vector.getElem_toList]
  unfold MD.get; simp [hi]

theorem mem_zip_cells (d : MD) (p : Pt) (c : Option Color) :
    (p, c) ∈ displayArea.points.zip d.pixels.toList ↔ Inside p ∧ d.cell p = c := by
  rw [List.mem_iff_getElem?]
  constructor
  · rintro ⟨i, hi⟩
    obtain ⟨h1, h2⟩ := List.getElem?_zip_eq_some.mp hi
    have hlt : i < 4096 := by
      obtain ⟨h, _⟩ := List.getElem?_eq_some_iff.mp h2
      simpa using h
    rw [displayPoints_getElem? hlt] at h1
    rw [pixels_toList_getElem? d hlt] at h2
    simp only [Option.some.injEq] at h1 h2
    subst h1 h2
    exact ⟨inside_cellOf hlt, by unfold MD.cell; rw [idx_cellOf]⟩
  · rintro ⟨hp, rfl⟩
    have hi := idx_lt hp
    refine ⟨idx p, List.getElem?_zip_eq_some.mpr ⟨?_, pixels_toList_getElem? d hi⟩⟩
    rw [displayPoints_getElem? hi, cellOf_idx hp]

theorem mem_touched (d : MD) (p : Pt) : p ∈ d.touched ↔ Inside p ∧ (d.cell p).isSome = true := by
  unfold MD.touched
  rw [List.mem_filterMap]
  constructor
  · rintro ⟨⟨q, c⟩, hmem, hsome⟩
    obtain ⟨hq, rfl⟩ := (mem_zip_cells d q c).mp hmem
    cases hc : d.cell q with
    | none => rw [hc] at hsome; cases hsome
    | some v => rw [hc] at hsome; cases hsome; exact ⟨hq, by rw [hc]; rfl⟩
  · rintro ⟨hp, hs⟩
    obtain ⟨v, hv⟩ := Option.isSome_iff_exists.mp hs
    exact ⟨(p, d.cell p), (mem_zip_cells d p _).mpr ⟨hp, rfl⟩, by rw [hv]; rfl⟩

/-- `tl`/`br` are the componentwise minimum / maximum of the points of `L`. -/
structure Tight (L : List Pt) (tl br : Pt) : Prop where
  bound : ∀ p ∈ L, tl.x ≤ p.x ∧ tl.y ≤ p.y ∧ p.x ≤ br.x ∧ p.y ≤ br.y
  left : ∃ p ∈ L, p.x = tl.x
  top : ∃ p ∈ L, p.y = tl.y
  right : ∃ p ∈ L, p.x = br.x
  bottom : ∃ p ∈ L, p.y = br.y

theorem attained_snoc {L : List Pt} {f : Pt → Int} {m m' : Int} (q : Pt) (h : ∃ p ∈ L, f p = m)
    (hm : m' = m ∨ m' = f q) : ∃ p ∈ L ++ [q], f p = m' := by
  obtain ⟨p, hp, hfp⟩ := h
  rcases hm with rfl | rfl
  · exact ⟨p, List.mem_append_left _ hp, hfp⟩
  · exact ⟨q, by simp, rfl⟩

theorem aaFold_some : ∀ (L seen : List Pt) (tl br : Pt), Tight seen tl br →
    ∃ tl' br', L.foldl aaStep (some tl, some br) = (some tl', some br') ∧ Tight (seen ++ L) tl' br'
  | [], seen, tl, br, h => ⟨tl, br, rfl, by simpa using h⟩
  | q :: L, seen, tl, br, h => by
    have ht : Tight (seen ++ [q]) (tl.componentMin q) (br.componentMax q) := by
      refine ⟨?_, attained_snoc q h.left ?_, attained_snoc q h.top ?_, attained_snoc q h.right ?_,
        attained_snoc q h.bottom ?_⟩
      · intro p hp
        simp only [List.mem_append, List.mem_singleton] at hp
        simp only [Pt.componentMin, Pt.componentMax]
        rcases hp with hp | rfl
        · have := h.bound p hp; omega
        · omega
      all_goals simp only [Pt.componentMin, Pt.componentMax]; omega
    obtain ⟨tl', br', hf, ht'⟩ := aaFold_some L (seen ++ [q]) _ _ ht
    exact ⟨tl', br', hf, by simpa [List.append_assoc] using ht'⟩

theorem aaFold (L : List Pt) :
    (L = [] ∧ L.foldl aaStep (none, none) = (none, none)) ∨
    ∃ tl br, L.foldl aaStep (none, none) = (some tl, some br) ∧ Tight L tl br := by
  cases L with
  | nil => exact Or.inl ⟨rfl, rfl⟩
  | cons q L =>
    have h0 : Tight [q] q q :=
      ⟨by intro p hp; simp only [List.mem_singleton] at hp; subst hp; omega,
       ⟨q, by simp, rfl⟩, ⟨q, by simp, rfl⟩, ⟨q, by simp, rfl⟩, ⟨q, by simp, rfl⟩⟩
    obtain ⟨tl, br, hf, ht⟩ := aaFold_some L [q] q q h0
    exact Or.inr ⟨tl, br, hf, by simpa using ht⟩

theorem affectedArea_spec (d : MD) :
    (d.touched = [] ∧ d.affectedArea = Rect.zero) ∨
    ∃ tl br, d.affectedArea = Rect.withCorners tl br ∧ Tight d.touched tl br := by
  unfold MD.affectedArea
  rcases aaFold d.touched with ⟨h1, h2⟩ | ⟨tl, br, h1, h2⟩
  · left; rw [h2]; exact ⟨h1, rfl⟩
  · right; rw [h1]; exact ⟨tl, br, rfl, h2⟩

theorem iterEq_iff : ∀ (l1 l2 : List (Option Color)), iterEq l1 l2 = true ↔ l1 = l2
  | [], [] => by simp [iterEq]
  | [], _ :: _ => by simp [iterEq]
  | _ :: _, [] => by simp [iterEq]
  | a :: as, b :: bs => by
    unfold iterEq
    by_cases h : a = b
    · subst h; simp [iterEq_iff as bs]
    · have : (a != b) = true := bne_iff_ne.mpr h
      simp [this, h]

theorem eq_iff_pixels (a b : MD) : a.eq b = true ↔ a.pixels = b.pixels := by
  unfold MD.eq; rw [iterEq_iff, Vector.toList_inj]

theorem eq_iff_cell (a b : MD) : a.eq b = true ↔ ∀ p, Inside p → a.cell p = b.cell p := by
  rw [eq_iff_pixels]
  exact ⟨fun h p _ => by unfold MD.cell MD.get; rw [h], pixels_ext_cells⟩

/-- `diff`, `swap_xy` and `map` are folds over the points of the display whose step stores some `g q`
into the cell of `q`. -/
theorem copyFold (g : Pt → Option Color) (step : Option MD → Pt → Option MD)
    (hstep : ∀ (D : MD) (q : Pt), Inside q → step (some D) q = some (D.upd (idx q) (g q))) :
    ∀ (L : List Pt), (∀ q ∈ L, Inside q) → ∀ (D0 : MD),
    ∃ D1, L.foldl step (some D0) = some D1 ∧
      D1.allowOverdraw = D0.allowOverdraw ∧ D1.allowOob = D0.allowOob ∧
      ∀ p, Inside p → D1.cell p = if p ∈ L then g p else D0.cell p
  | [], _, D0 => ⟨D0, rfl, rfl, rfl, by intro p _; simp⟩
  | q :: L, hL, D0 => by
    have hq : Inside q := hL q (by simp)
    obtain ⟨D1, hf, ho, hb, hc⟩ := copyFold g step hstep L (fun r hr => hL r (by simp [hr]))
      (D0.upd (idx q) (g q))
    refine ⟨D1, by rw [List.foldl_cons, hstep D0 q hq]; exact hf, by simpa using ho,
      by simpa using hb, ?_⟩
    intro p hp
    rw [hc p hp, cell_upd D0 hp hq]
    by_cases hpL : p ∈ L
    · simp [hpL]
    · by_cases e : p = q
      · subst e; simp
      · simp [hpL, e]

theorem copyDisplay (g : Pt → Option Color) (step : Option MD → Pt → Option MD)
    (hstep : ∀ (D : MD) (q : Pt), Inside q → step (some D) q = some (D.upd (idx q) (g q))) :
    (∃ D, displayArea.points.foldl step (some MD.new) = some D) ∧
    ∀ D, displayArea.points.foldl step (some MD.new) = some D →
      (D.allowOverdraw = false ∧ D.allowOob = false) ∧ ∀ p, Inside p → D.cell p = g p := by
  obtain ⟨D, hf, ho, hb, hc⟩ := copyFold g step hstep displayArea.points (fun q hq => mem_displayPoints.mp hq) MD.new
  refine ⟨⟨D, hf⟩, fun D' h => ?_⟩
  rw [hf] at h
  cases h
  exact ⟨⟨ho, hb⟩, fun p hp => by rw [hc p hp, if_pos (mem_displayPoints.mpr hp)]⟩

theorem diffColor_eq_none_iff (s o : Option Color) : diffColor s o = none ↔ s = o := by
  cases s <;> cases o <;> simp [diffColor]

theorem diff_spec (a b : MD) :
    (∃ D, a.diff b = some D) ∧
    ∀ D, a.diff b = some D → ∀ p, Inside p → D.cell p = diffColor (a.cell p) (b.cell p) := by
  obtain ⟨ht, hc⟩ := copyDisplay (fun q => diffColor (a.cell q) (b.cell q)) (diffStep a b)
    (fun D q hq => by
      unfold diffStep
      simp only [getPixel_inside a hq, getPixel_inside b hq, setPixelUnchecked_inside D hq])
  exact ⟨ht, fun D h => (hc D h).2⟩

theorem inside_swap {p : Pt} (hp : Inside p) : Inside ⟨p.y, p.x⟩ := by
  unfold Inside at *; simp only; omega

theorem swapXy_spec (a : MD) :
    (∃ D, a.swapXy = some D) ∧
    ∀ D, a.swapXy = some D →
      (D.allowOverdraw = false ∧ D.allowOob = false) ∧ ∀ p, Inside p → D.cell p = a.cell ⟨p.y, p.x⟩ :=
  copyDisplay (fun q => a.cell ⟨q.y, q.x⟩) _ (fun D q hq => by
    simp only [getPixel_inside a (inside_swap hq), setPixelUnchecked_inside D hq])

theorem map_spec (a : MD) (f : Color → Color) :
    (∃ D, a.map f = some D) ∧
    ∀ D, a.map f = some D →
      (D.allowOverdraw = false ∧ D.allowOob = false) ∧ ∀ p, Inside p → D.cell p = (a.cell p).map f :=
  copyDisplay (fun q => (a.cell q).map f) _ (fun D q hq => by
    simp only [getPixel_inside a hq, setPixelUnchecked_inside D hq])

/-- Membership in `MD.touched`, said with `get_pixel`, the accessor the property theorems speak of. -/
def Touched (d : MD) (p : Pt) : Prop := Inside p ∧ ∃ c, d.getPixel p = some (some c)

theorem touched_iff (d : MD) (p : Pt) : p ∈ d.touched ↔ Touched d p := by
  rw [mem_touched]
  exact and_congr_right (fun hp => isSome_cell_iff d hp)

theorem affectedArea_of_touched (d : MD) (h : ∃ p, Touched d p) :
    ∃ tl br, d.affectedArea = Rect.withCorners tl br ∧ Tight d.touched tl br := by
  rcases affectedArea_spec d with ⟨h1, _⟩ | h2
  · obtain ⟨p, hp⟩ := h
    have := (touched_iff d p).mpr hp
    rw [h1] at this; cases this
  · exact h2

theorem affectedArea_of_untouched (d : MD) (h : ¬ ∃ p, Touched d p) : d.affectedArea = Rect.zero := by
  rcases affectedArea_spec d with ⟨_, h2⟩ | ⟨tl, br, _, ht⟩
  · exact h2
  · obtain ⟨p, hp, _⟩ := ht.left
    exact absurd ⟨p, (touched_iff d p).mp hp⟩ h

theorem tight_sides {L : List Pt} {tl br : Pt} (ht : Tight L tl br) :
    (Rect.withCorners tl br).tl = tl ∧
    (Rect.withCorners tl br).tl.x + ((Rect.withCorners tl br).size.w : Int) - 1 = br.x ∧
    (Rect.withCorners tl br).tl.y + ((Rect.withCorners tl br).size.h : Int) - 1 = br.y := by
  obtain ⟨l, hl, hl'⟩ := ht.left
  obtain ⟨t, htt, ht'⟩ := ht.top
  have b1 := ht.bound l hl
  have b2 := ht.bound t htt
  refine ⟨?_, ?_, ?_⟩
  · rw [Pt.ext_iff', Rect.withCorners_tl_x, Rect.withCorners_tl_y]; omega
  · rw [Rect.withCorners_tl_x, Rect.withCorners_w]; omega
  · rw [Rect.withCorners_tl_y, Rect.withCorners_h]; omega

end Mock
end EG
