/-
  EG.Lemmas.FontPixels — what a glyph cell and a decoration write, as closed forms in terms of the
  atlas; the colour variant a style selects (`Style.mode`) and the width of a text (`textWidth`).
-/
import EG.Lemmas.Target
import EG.Lemmas.FontLayout
namespace EG
namespace Font

theorem zip_flatMap_map {α β γ δ : Type} (l1 : List α) (l2 : List β) (f : α → β → γ) (g : α → β → δ) :
    (l1.flatMap (fun r => l2.map (f r))).zip (l1.flatMap (fun r => l2.map (g r))) =
      l1.flatMap (fun r => l2.map (fun c => (f r c, g r c))) := by
  induction l1 with
  | nil => rfl
  | cons a l ih =>
    simp only [List.flatMap_cons]
    rw [List.zip_append (by simp), ih, List.zip_map']

/-- `PMap.apply` on plain functions (`PMap` is a non-reducible synonym of `Pt → Option Color`). -/
def applyFn (m : Pt → Option Color) (ws : Writes) : Pt → Option Color :=
  ws.foldl (fun m w => fun p => if p = w.1 then some w.2 else m p) m

theorem apply_eq_applyFn (m : PMap) (ws : Writes) : m.apply ws = applyFn m ws := rfl

theorem runDefault_eq_applyFn (B : Rect) (calls : List Call) :
    runDefault B calls = applyFn PMap.empty (calls.flatMap (Call.writesDefault B)) := rfl

/-- What a colour variant does with one glyph pixel: on -> text colour, off -> background colour,
`none` = the pixel is not written. -/
def Mode.colourOf : Mode → Bool → Option Color
  | .fg tc, true => some tc
  | .fg _, false => none
  | .bg _, true => none
  | .bg bc, false => some bc
  | .both tc _, true => some tc
  | .both _ bc, false => some bc

def Mode.bgColour : Mode → Option Color
  | .fg _ => none
  | .bg bc => some bc
  | .both _ bc => some bc

def cellWrites (m : Mode) (atlas : Pt → Bool) (p : Pt) (a : Rect) : Writes :=
  (List.range a.size.h).flatMap (fun (dy : Nat) =>
    (List.range a.size.w).filterMap (fun (dx : Nat) =>
      (m.colourOf (atlas ⟨a.tl.x + (dx : Int), a.tl.y + (dy : Int)⟩)).map
        (fun c => ((⟨p.x + (dx : Int), p.y + (dy : Int)⟩ : Pt), c))))

theorem Mode.lower_fillContiguous (B : Rect) (m : Mode) (area : Rect) (bits : List Bool) :
    (m.lower (BCall.fillContiguous area bits)).flatMap (Call.lowerDefault B) =
      (area.points.zip bits).filterMap (fun pb => (m.colourOf pb.2).map (fun c => (pb.1, c))) := by
  cases m <;>
    simp only [Mode.lower, List.flatMap_cons, List.flatMap_nil, List.append_nil, Call.lowerDefault,
      List.zip_map_right] <;>
    induction area.points.zip bits with
    | nil => rfl
    | cons pb l ih => obtain ⟨p, b⟩ := pb; cases b <;> simp [Mode.colourOf, ih]

theorem glyph_lowerDefault (B : Rect) (m : Mode) (atlas : Pt → Bool) (p : Pt) (a : Rect)
    (h : (⟨p, a.size⟩ : Rect).InRange) :
    (m.lower (BCall.fillContiguous ⟨p, a.size⟩ (cellBits atlas a))).flatMap (Call.lowerDefault B) =
      cellWrites m atlas p a := by
  rw [Mode.lower_fillContiguous, Rect.points_eq_spec, Rect.pointsSpec_range h]
  simp only [cellBits, zip_flatMap_map, List.filterMap_flatMap, List.filterMap_map, cellWrites]
  rfl

theorem mem_cellWrites (m : Mode) (atlas : Pt → Bool) (p : Pt) (a : Rect) (q : Pt) (col : Color) :
    (q, col) ∈ cellWrites m atlas p a ↔
      ∃ dy, dy < a.size.h ∧ ∃ dx, dx < a.size.w ∧ q = ⟨p.x + (dx : Int), p.y + (dy : Int)⟩ ∧
        m.colourOf (atlas ⟨a.tl.x + (dx : Int), a.tl.y + (dy : Int)⟩) = some col := by
  unfold cellWrites
  simp only [List.mem_flatMap, List.mem_range, List.mem_filterMap, Option.map_eq_some_iff, Prod.mk.injEq]
  constructor
  · rintro ⟨dy, hdy, dx, hdx, c, hc, rfl, rfl⟩
    exact ⟨dy, hdy, dx, hdx, rfl, hc⟩
  · rintro ⟨dy, hdy, dx, hdx, rfl, hc⟩
    exact ⟨dy, hdy, dx, hdx, col, hc, rfl, rfl⟩

def rectWrites (r : Rect) (c : Color) : Writes :=
  (List.range r.size.h).flatMap (fun (dy : Nat) =>
    (List.range r.size.w).map (fun (dx : Nat) => ((⟨r.tl.x + (dx : Int), r.tl.y + (dy : Int)⟩ : Pt), c)))

theorem fillSolid_lowerDefault (B : Rect) (r : Rect) (c : Color) (h : r.InRange) :
    (Call.fillSolid r c).lowerDefault B = rectWrites r c := by
  simp only [Call.lowerDefault, zip_replicate_length, Rect.points_eq_spec, Rect.pointsSpec_range h, List.map_flatMap,
    List.map_map, rectWrites]
  rfl

theorem mem_rectWrites (r : Rect) (c : Color) (q : Pt) (col : Color) :
    (q, col) ∈ rectWrites r c ↔
      col = c ∧ r.tl.x ≤ q.x ∧ q.x < r.tl.x + r.size.w ∧ r.tl.y ≤ q.y ∧ q.y < r.tl.y + r.size.h := by
  unfold rectWrites
  simp only [List.mem_flatMap, List.mem_range, List.mem_map, Prod.mk.injEq]
  constructor
  · rintro ⟨dy, hdy, dx, hdx, rfl, rfl⟩
    refine ⟨rfl, ?_⟩
    dsimp only; omega
  · rintro ⟨rfl, h1, h2, h3, h4⟩
    obtain ⟨dx, hx⟩ := Int.eq_ofNat_of_zero_le (Int.sub_nonneg_of_le h1)
    obtain ⟨dy, hy⟩ := Int.eq_ofNat_of_zero_le (Int.sub_nonneg_of_le h3)
    refine ⟨dy, by omega, dx, by omega, ?_, rfl⟩
    rw [Pt.ext_iff']; dsimp only; omega

/-- The colour variant `draw_string` selects (`none`: neither text nor background colour). -/
def Style.mode (st : Style) : Option Mode :=
  match st.textColor, st.bgColor with
  | some tc, some bc => some (.both tc bc)
  | some tc, none => some (.fg tc)
  | none, some bc => some (.bg bc)
  | none, none => none

theorem Style.mode_eq_none_iff (st : Style) : st.mode = none ↔ st.textColor = none ∧ st.bgColor = none := by
  unfold Style.mode
  cases st.textColor <;> cases st.bgColor <;> simp

/-- `n` cells and `n - 1` gaps: `measure_string`'s `bb_width` (`TextLayout.bbWidth`, see `textWidth_eq_bbWidth` in
EG/Lemmas/FontText.lean) in the form the cell-by-cell recursion produces. -/
def textWidth (f : MonoFont) (n : Nat) : Nat := n * f.cw + (n - 1) * f.spacing

theorem textWidth_succ (f : MonoFont) (n : Nat) :
    textWidth f (n + 1) = f.cw + (if n = 0 then 0 else f.spacing + textWidth f n) := by
  unfold textWidth
  cases n with
  | zero => simp
  | succ k => simp only [Nat.add_sub_cancel, Nat.succ_mul]; simp; omega

end Font
end EG
