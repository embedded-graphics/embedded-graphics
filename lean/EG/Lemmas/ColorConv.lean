/-
  EG.Lemmas.ColorConv — helper lemmas for C13: `convert_channel` and the conversion bodies, for
  arbitrary well-formed records.

  `convert_channel` multiplies by a 24-bit fixed-point reciprocal and rounds half up. For `u8` maxima
  that is exact rounding of `v * T / F` (`fixed_point_nearest`); extremes, range, monotonicity and the
  widen / narrow identity follow from that by arithmetic. Every conversion body is channel-wise `new` of
  converted channels, and C12 says what `new` and the accessors do (EG.Lemmas.Color), so the statements
  about whole colours hold for any well-formed records. `chanMaxima` (the maxima occurring in the
  generated table, over which C13 states its `convert_channel` facts) only needs `chanMaxima_u8`.
-/
import EG.Lemmas.Color
import EG.Model.Conv
namespace EG.Conv
open EG EG.Generated EG.ColorSpec

/-- `out` is the representable value nearest to `v * T / F`: `|out - v*T/F| ≤ 1/2`, multiplied out -/
def Nearest (F T v out : Nat) : Prop := 2 * F * out ≤ 2 * v * T + F ∧ 2 * v * T ≤ 2 * F * out + F

theorem nearest_refl (F v : Nat) : Nearest F F v v := by
  unfold Nearest
  have : 2 * F * v = 2 * v * F := Nat.mul_right_comm 2 F v
  omega

theorem eq_of_mul_close {m a b d : Nat} (h1 : m * a ≤ m * b + d) (h2 : m * b ≤ m * a + d) (hd : d < m) :
    a = b := by
  rcases Nat.lt_trichotomy a b with h | h | h
  · have := Nat.mul_le_mul_left m (Nat.succ_le_of_lt h)
    rw [Nat.mul_succ] at this
    omega
  · exact h
  · have := Nat.mul_le_mul_left m (Nat.succ_le_of_lt h)
    rw [Nat.mul_succ] at this
    omega

theorem cc_same (F v : Nat) : convertChannel F F v = v := by
  unfold convertChannel
  rw [if_neg (fun h => h rfl)]

theorem cc_of_ne {F T : Nat} (h : T ≠ F) (v : Nat) :
    convertChannel F T v = (v * (T * 2 ^ 24 / F) + 2 ^ 23) / 2 ^ 24 % 256 := by
  unfold convertChannel
  rw [if_pos h]
  simp only [ccShift, Nat.shiftLeft_eq, Nat.shiftRight_eq_div_pow, Nat.one_mul, Nat.reduceSub]

theorem mul_recip_le {F v : Nat} (hv : v ≤ F) (N : Nat) : v * (N / F) ≤ N :=
  Nat.le_trans (Nat.mul_le_mul_right _ hv) (Nat.mul_div_le _ _)

theorem fixed_point_le {F T v : Nat} (hv : v ≤ F) : (v * (T * 2 ^ 24 / F) + 2 ^ 23) / 2 ^ 24 ≤ T := by
  have h := mul_recip_le hv (T * 2 ^ 24)
  exact Nat.le_of_lt_succ (Nat.div_lt_of_lt_mul (by omega))

/-- The fixed-point quotient is the exactly rounded one: with `K = ⌊T·2²⁴/F⌋` the product `v·K` falls
short of `v·T·2²⁴/F` by less than `v ≤ 255`, far less than the `2²⁴/(2F)` that could change the
rounding. -/
theorem fixed_point_nearest {F T v : Nat} (hF : 0 < F) (hF8 : F < 256) (hv : v ≤ F) :
    Nearest F T v ((v * (T * 2 ^ 24 / F) + 2 ^ 23) / 2 ^ 24) := by
  have hK := Nat.div_add_mod (T * 2 ^ 24) F
  have hr := Nat.mod_lt (T * 2 ^ 24) hF
  have hq := Nat.div_add_mod (v * (T * 2 ^ 24 / F) + 2 ^ 23) (2 ^ 24)
  have hr' := Nat.mod_lt (v * (T * 2 ^ 24 / F) + 2 ^ 23) (Nat.two_pow_pos 24)
  generalize T * 2 ^ 24 / F = K at *
  generalize T * 2 ^ 24 % F = r at *
  generalize (v * K + 2 ^ 23) / 2 ^ 24 = q at *
  generalize (v * K + 2 ^ 23) % 2 ^ 24 = r' at *
  -- the two divisions, times `F` resp. `v`, so that both speak of `v * (F * K)`
  have e1 : 2 ^ 24 * (F * q) + F * r' = v * (F * K) + F * 2 ^ 23 := by
    rw [← Nat.mul_left_comm, ← Nat.mul_add, hq, Nat.mul_add, Nat.mul_left_comm]
  have e2 : v * (F * K) + v * r = 2 ^ 24 * (v * T) := by
    rw [← Nat.mul_add, hK, ← Nat.mul_assoc, Nat.mul_comm]
  have b1 : F * r' ≤ F * (2 ^ 24 - 1) := Nat.mul_le_mul_left _ (by omega)
  have b2 : v * r ≤ 255 * 255 := Nat.mul_le_mul (by omega) (by omega)
  unfold Nearest
  rw [Nat.mul_assoc 2 F q, Nat.mul_assoc 2 v T]
  omega

section cc
variable {F T v : Nat}

theorem cc_le (hv : v ≤ F) : convertChannel F T v ≤ T := by
  by_cases h : T = F
  · rw [h, cc_same]
    exact hv
  · rw [cc_of_ne h]
    exact Nat.le_trans (Nat.mod_le _ _) (fixed_point_le hv)

/-- for a `u8` target the final `as u8` cuts nothing off -/
theorem cc_eq (h : T ≠ F) (hT : T < 256) (hv : v ≤ F) :
    convertChannel F T v = (v * (T * 2 ^ 24 / F) + 2 ^ 23) / 2 ^ 24 := by
  rw [cc_of_ne h]
  exact Nat.mod_eq_of_lt (Nat.lt_of_le_of_lt (fixed_point_le hv) hT)

theorem cc_nearest (hF : 0 < F) (hF8 : F < 256) (hT : T < 256) (hv : v ≤ F) :
    Nearest F T v (convertChannel F T v) := by
  by_cases h : T = F
  · rw [h, cc_same]
    exact nearest_refl F v
  · rw [cc_eq h hT hv]
    exact fixed_point_nearest hF hF8 hv

theorem cc_zero : convertChannel F T 0 = 0 := by
  by_cases h : T = F
  · rw [h, cc_same]
  · rw [cc_of_ne h, Nat.zero_mul]

theorem cc_max (hF : 0 < F) (hF8 : F < 256) (hT : T < 256) : convertChannel F T F = T := by
  obtain ⟨h1, h2⟩ := cc_nearest hF hF8 hT (Nat.le_refl F)
  exact eq_of_mul_close h1 h2 (by omega)

theorem cc_mono (hT : T < 256) {w : Nat} (hw : w ≤ F) (hvw : v ≤ w) :
    convertChannel F T v ≤ convertChannel F T w := by
  by_cases h : T = F
  · rw [h, cc_same, cc_same]
    exact hvw
  · rw [cc_eq h hT hw, cc_eq h hT (Nat.le_trans hvw hw)]
    exact Nat.div_le_div_right (Nat.add_le_add_right (Nat.mul_le_mul_right _ hvw) _)

/-- to a maximum at least as large and back: both steps round to nearest, the first is off by at most
`1/2` of a wide step, which is less than `1/2` of a narrow one -/
theorem cc_widen_narrow (hF : 0 < F) (hFT : F ≤ T) (hT : T < 256) (hv : v ≤ F) :
    convertChannel T F (convertChannel F T v) = v := by
  by_cases h : T = F
  · rw [h, cc_same, cc_same]
  · obtain ⟨h1, h2⟩ := cc_nearest hF (by omega) hT hv
    obtain ⟨h3, h4⟩ := cc_nearest (v := convertChannel F T v) (T := F) (by omega) hT (by omega) (cc_le hv)
    have c1 : 2 * convertChannel F T v * F = 2 * F * convertChannel F T v := Nat.mul_right_comm _ _ _
    have c2 : 2 * v * T = 2 * T * v := Nat.mul_right_comm _ _ _
    exact eq_of_mul_close (m := 2 * T) (d := F + T) (by omega) (by omega) (by omega)

/-- the intermediate `u32` values of `convert_channel` do not overflow -/
theorem cc_no_overflow (hT : T < 256) (hv : v ≤ F) :
    T <<< ccShift < 2 ^ 32 ∧ v * ((T <<< ccShift) / F) + (1 <<< (ccShift - 1)) < 2 ^ 32 := by
  have h := mul_recip_le hv (T * 2 ^ 24)
  simp only [ccShift, Nat.shiftLeft_eq, Nat.one_mul, Nat.reduceSub]
  omega

end cc

/-- the channel maxima (`MAX_R/G/B`, `MAX_LUMA`) of the generated colour types -/
def chanMaxima : List Nat :=
  (colorTable.flatMap fun s =>
    match s.kind with
    | .binary => []
    | .gray => [maxLuma s]
    | .rgb | .bgr => [s.maxR, s.maxG, s.maxB]).eraseDups

theorem chanMaxima_u8 : ∀ F ∈ chanMaxima, 0 < F ∧ F < 256 := by decide

theorem maxChan_succ {n : Nat} (h : n ≤ 8) : maxChan n + 1 = 2 ^ n := by
  rw [Color.maxChan_eq h]
  exact Nat.sub_add_cancel (Nat.two_pow_pos n)

theorem maxChan_pos {n : Nat} (h : 1 ≤ n ∧ n ≤ 8) : 0 < maxChan n := by
  have := maxChan_succ h.2
  have := Nat.pow_le_pow_right (by decide : 0 < 2) h.1
  omega

theorem maxChan_le {n m : Nat} (hn : n ≤ 8) (hm : m ≤ 8) (h : n ≤ m) : maxChan n ≤ maxChan m := by
  have := maxChan_succ hn
  have := maxChan_succ hm
  have := Nat.pow_le_pow_right (by decide : 0 < 2) h
  omega

theorem maxChan_lt_256 (n : Nat) : maxChan n < 256 := by
  unfold maxChan
  exact Nat.mod_lt _ (by decide)

theorem maxLuma_succ {s : ColorSpec} (hw : s.WellFormed = true) (hk : s.kind = .gray) :
    maxLuma s + 1 = 2 ^ s.rawBpp := by
  have h := Color.ones_shiftRight s.rawBpp (8 - s.rawBpp)
  rw [Nat.add_sub_of_le (Color.wf_gray hw hk)] at h
  have := Nat.two_pow_pos s.rawBpp
  unfold maxLuma grayMaxLit grayMaxShiftBase
  rw [show (255 : Nat) = 2 ^ 8 - 1 from rfl, h]
  omega

theorem maxLuma_u8 {s : ColorSpec} (hw : s.WellFormed = true) (hk : s.kind = .gray) :
    0 < maxLuma s ∧ maxLuma s < 256 := by
  have h := maxLuma_succ hw hk
  have h1 := Nat.pow_le_pow_right (by decide : 0 < 2) (Color.one_le_bpp hw)
  have h8 := Nat.pow_le_pow_right (by decide : 0 < 2) (Color.wf_gray hw hk)
  omega

theorem valid_gray_le {s : ColorSpec} (hw : s.WellFormed = true) (hk : s.kind = .gray) {c : Nat}
    (hc : s.Valid c) : s.luma c ≤ maxLuma s := by
  have := maxLuma_succ hw hk
  have := Color.valid_gray_lt hk hc
  unfold luma
  omega

theorem chan_rgbNew_of_le {s : ColorSpec} (hw : s.WellFormed = true) (hk : s.isRgb = true) {r g b : Nat}
    (hr : r ≤ s.maxR) (hg : g ≤ s.maxG) (hb : b ≤ s.maxB) :
    s.chanR (s.rgbNew r g b) = r ∧ s.chanG (s.rgbNew r g b) = g ∧ s.chanB (s.rgbNew r g b) = b := by
  obtain ⟨wr, wg, wb, _⟩ := Color.wf_rgb hw hk
  have mr : s.maxR + 1 = 2 ^ s.rbits := maxChan_succ wr.2
  have mg : s.maxG + 1 = 2 ^ s.gbits := maxChan_succ wg.2
  have mb : s.maxB + 1 = 2 ^ s.bbits := maxChan_succ wb.2
  obtain ⟨h1, h2, h3⟩ := Color.chan_rgbNew hw hk r g b
  rw [h1, h2, h3]
  exact ⟨Nat.mod_eq_of_lt (by omega), Nat.mod_eq_of_lt (by omega), Nat.mod_eq_of_lt (by omega)⟩

theorem chanR_le (s : ColorSpec) (c : Nat) : s.chanR c ≤ s.maxR := Nat.and_le_right
theorem chanG_le (s : ColorSpec) (c : Nat) : s.chanG c ≤ s.maxG := Nat.and_le_right
theorem chanB_le (s : ColorSpec) (c : Nat) : s.chanB c ≤ s.maxB := Nat.and_le_right

theorem rgbToRgb_channels {a b : ColorSpec} (hb : b.WellFormed = true) (hkb : b.isRgb = true) (c : Nat) :
    b.chanR (rgbToRgb a b c) = convertChannel a.maxR b.maxR (a.chanR c)
    ∧ b.chanG (rgbToRgb a b c) = convertChannel a.maxG b.maxG (a.chanG c)
    ∧ b.chanB (rgbToRgb a b c) = convertChannel a.maxB b.maxB (a.chanB c) :=
  chan_rgbNew_of_le hb hkb (cc_le (chanR_le a c)) (cc_le (chanG_le a c)) (cc_le (chanB_le a c))

theorem grayToGray_luma {a b : ColorSpec} (ha : a.WellFormed = true) (hb : b.WellFormed = true)
    (hka : a.kind = .gray) (hkb : b.kind = .gray) {c : Nat} (hc : a.Valid c) :
    b.luma (grayToGray a b c) = convertChannel (maxLuma a) (maxLuma b) (a.luma c) := by
  have h := cc_le (T := maxLuma b) (valid_gray_le ha hka hc)
  have := maxLuma_succ hb hkb
  unfold grayToGray
  rw [luma, Color.grayNew_eq hb]
  exact Nat.mod_eq_of_lt (by omega)

theorem grayToRgb_channels {a b : ColorSpec} (ha : a.WellFormed = true) (hb : b.WellFormed = true)
    (hka : a.kind = .gray) (hkb : b.isRgb = true) {c : Nat} (hc : a.Valid c) :
    b.chanR (grayToRgb a b c) = convertChannel (maxLuma a) b.maxR (a.luma c)
    ∧ b.chanG (grayToRgb a b c) = convertChannel (maxLuma a) b.maxG (a.luma c)
    ∧ b.chanB (grayToRgb a b c) = convertChannel (maxLuma a) b.maxB (a.luma c) :=
  have hv := valid_gray_le ha hka hc
  chan_rgbNew_of_le hb hkb (cc_le hv) (cc_le hv) (cc_le hv)

/-- RGB -> RGB to a type with at least as many bits in every channel, and back: every channel is widened
and narrowed again (`cc_widen_narrow`), and a colour is `new` of its channels. -/
theorem rgbToRgb_widen_narrow {a b : ColorSpec} (ha : a.WellFormed = true) (hb : b.WellFormed = true)
    (hka : a.isRgb = true) (hkb : b.isRgb = true) (w1 : a.rbits ≤ b.rbits) (w2 : a.gbits ≤ b.gbits)
    (w3 : a.bbits ≤ b.bbits) {c : Nat} (hc : a.Valid c) : rgbToRgb b a (rgbToRgb a b c) = c := by
  obtain ⟨ar, ag, ab, _⟩ := Color.wf_rgb ha hka
  obtain ⟨br, bg, bb, _⟩ := Color.wf_rgb hb hkb
  obtain ⟨h1, h2, h3⟩ := rgbToRgb_channels (a := a) hb hkb c
  rw [rgbToRgb, h1, h2, h3,
    cc_widen_narrow (F := a.maxR) (T := b.maxR) (maxChan_pos ar) (maxChan_le ar.2 br.2 w1)
      (maxChan_lt_256 _) (chanR_le _ c),
    cc_widen_narrow (F := a.maxG) (T := b.maxG) (maxChan_pos ag) (maxChan_le ag.2 bg.2 w2)
      (maxChan_lt_256 _) (chanG_le _ c),
    cc_widen_narrow (F := a.maxB) (T := b.maxB) (maxChan_pos ab) (maxChan_le ab.2 bb.2 w3)
      (maxChan_lt_256 _) (chanB_le _ c)]
  exact (Color.valid_eq_rgbNew ha hka hc).1.symm

theorem grayToGray_widen_narrow {a b : ColorSpec} (ha : a.WellFormed = true) (hb : b.WellFormed = true)
    (hka : a.kind = .gray) (hkb : b.kind = .gray) (w : a.rawBpp ≤ b.rawBpp) {c : Nat} (hc : a.Valid c) :
    grayToGray b a (grayToGray a b c) = c := by
  have hab : maxLuma a ≤ maxLuma b := by
    have := maxLuma_succ ha hka
    have := maxLuma_succ hb hkb
    have := Nat.pow_le_pow_right (by decide : 0 < 2) w
    omega
  rw [grayToGray, grayToGray_luma ha hb hka hkb hc,
    cc_widen_narrow (maxLuma_u8 ha hka).1 hab (maxLuma_u8 hb hkb).2 (valid_gray_le ha hka hc),
    luma, Color.grayNew_eq ha]
  exact Nat.mod_eq_of_lt (Color.valid_gray_lt hka hc)

end EG.Conv
