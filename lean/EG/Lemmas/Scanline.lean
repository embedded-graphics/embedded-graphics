/-
  EG.Lemmas.Scanline — generic facts behind every scanline-based shape:
  * `Range::find` on `a..b` (`rangeFind`) and filters of integer ranges,
  * **`mirroredRange_spec`**: for a predicate that is mirror-symmetric about the middle of `a..b` and
    convex, "first hit, mirrored" (`x..b - (x - a)`) is exactly the set of hits,
  * `IsHitRange`: what a search for the range of hits within `a..b` must return (the searches of the
    fill range in the styled scanline iterators are proved correct against it),
  * the `Scanline` operations by cases (`isEmpty_iff`, `extend_eq`, `tryTake_of_*`, `touches_iff`,
    `tryExtend_of_*`), and its iterator equals its closed form,
  * the columns of a scanline (`Covers`): what `extend` and a fold of `extend` (`extendAll`) cover,
    within which bounds, with which ends; the hull of two touching scanlines.
-/
import EG.Model.StyledScanline
import EG.Lemmas.Stream
namespace EG

theorem rangeFind_none {p : Int → Bool} {a b : Int} :
    rangeFind p a b = none ↔ ∀ x, a ≤ x → x < b → p x = false := by
  unfold rangeFind
  rw [List.find?_eq_none]
  constructor
  · intro h x h1 h2
    have := h x (mem_irange.mpr ⟨h1, h2⟩)
    simpa using this
  · intro h x hx
    rw [mem_irange] at hx
    simp [h x hx.1 hx.2]

private theorem rangeFind_some_aux (p : Int → Bool) : ∀ (n : Nat) (a b x0 : Int), (b - a).toNat = n →
    (rangeFind p a b = some x0 ↔
      a ≤ x0 ∧ x0 < b ∧ p x0 = true ∧ ∀ x, a ≤ x → x < x0 → p x = false) := by
  intro n
  induction n with
  | zero =>
    intro a b x0 hn
    unfold rangeFind
    rw [irange_empty (a := a) (b := b) (by omega)]
    simp only [List.find?_nil]
    constructor
    · intro h; cases h
    · intro h; omega
  | succ n ih =>
    intro a b x0 hn
    have hab : a < b := by omega
    unfold rangeFind
    rw [irange_cons hab, List.find?_cons]
    by_cases hpa : p a = true
    · rw [hpa]
      simp only [Option.some.injEq]
      constructor
      · intro h; subst h
        exact ⟨Int.le_refl _, hab, hpa, fun x h1 h2 => by omega⟩
      · rintro ⟨h1, _, _, h4⟩
        by_cases hx : a = x0
        · exact hx
        · have := h4 a (Int.le_refl _) (by omega)
          rw [hpa] at this; cases this
    · have hpa' : p a = false := by simpa using hpa
      rw [hpa']
      have := ih (a + 1) b x0 (by omega)
      unfold rangeFind at this
      simp only
      rw [this]
      constructor
      · rintro ⟨h1, h2, h3, h4⟩
        refine ⟨by omega, h2, h3, ?_⟩
        intro x hx1 hx2
        by_cases hxa : x = a
        · subst hxa; exact hpa'
        · exact h4 x (by omega) hx2
      · rintro ⟨h1, h2, h3, h4⟩
        have : a ≠ x0 := by
          intro hc; subst hc; rw [hpa'] at h3; cases h3
        exact ⟨by omega, h2, h3, fun x hx1 hx2 => h4 x (by omega) hx2⟩

theorem rangeFind_some {p : Int → Bool} {a b x0 : Int} :
    rangeFind p a b = some x0 ↔
      a ≤ x0 ∧ x0 < b ∧ p x0 = true ∧ ∀ x, a ≤ x → x < x0 → p x = false :=
  rangeFind_some_aux p _ a b x0 rfl

/-- `p` is mirror-symmetric about the middle of `a..b` and convex towards the middle. -/
structure SymConvex (p : Int → Bool) (a b : Int) : Prop where
  sym : ∀ x, p (a + b - 1 - x) = p x
  conv : ∀ x z, p x = true → x ≤ z → z ≤ a + b - 1 - x → p z = true

/-- **Row interval lemma (generic).** If the hit predicate of a row is symmetric about the middle of
the searched range and convex, the range "first hit .. end shortened by the same amount" is exactly
the set of hits within `a..b`; it is non-empty, lies within `a..b` and is centred. -/
theorem mirroredRange_spec {p : Int → Bool} {a b l u : Int} (hp : SymConvex p a b)
    (h : mirroredRange p a b = some (l, u)) :
    (∀ x, a ≤ x → x < b → (p x = true ↔ l ≤ x ∧ x < u)) ∧ a ≤ l ∧ u ≤ b ∧ l < u ∧ l + u = a + b := by
  unfold mirroredRange at h
  cases hf : rangeFind p a b with
  | none => rw [hf] at h; cases h
  | some x0 =>
    rw [hf] at h
    simp only [Option.map_some, Option.some.injEq, Prod.mk.injEq] at h
    obtain ⟨rfl, rfl⟩ := h
    obtain ⟨h1, h2, h3, h4⟩ := rangeFind_some.mp hf
    -- the mirror of the first hit is a hit, hence not left of the first hit
    have hm : p (a + b - 1 - x0) = true := by rw [hp.sym]; exact h3
    have hle : x0 ≤ a + b - 1 - x0 := by
      by_cases hc : x0 ≤ a + b - 1 - x0
      · exact hc
      · have := h4 (a + b - 1 - x0) (by omega) (by omega)
        rw [hm] at this; cases this
    refine ⟨?_, h1, by omega, by omega, by omega⟩
    intro x hx1 hx2
    constructor
    · intro hpx
      by_cases hlo : x < x0
      · have := h4 x hx1 hlo; rw [hpx] at this; cases this
      · by_cases hhi : x < b - (x0 - a)
        · omega
        · -- right of the mirror: its own mirror is left of the first hit
          have := h4 (a + b - 1 - x) (by omega) (by omega)
          rw [hp.sym, hpx] at this; cases this
    · rintro ⟨hx3, hx4⟩
      exact hp.conv x0 x h3 hx3 (by omega)

theorem mirroredRange_none {p : Int → Bool} {a b : Int} :
    mirroredRange p a b = none ↔ ∀ x, a ≤ x → x < b → p x = false := by
  unfold mirroredRange
  rw [Option.map_eq_none_iff, rangeFind_none]

/-- `o` is what a search for the hits of `p` within `a..b` must return: `none` when there is no hit,
else the half-open range of the hits. -/
def IsHitRange (p : Int → Bool) (a b : Int) : Option (Int × Int) → Prop
  | none => ∀ x, a ≤ x → x < b → p x = false
  | some (l, u) => a ≤ l ∧ l < u ∧ u ≤ b ∧ ∀ x, a ≤ x → x < b → (p x = true ↔ l ≤ x ∧ x < u)

theorem mirroredRange_isHitRange {p : Int → Bool} {a b : Int} (hp : SymConvex p a b) :
    IsHitRange p a b (mirroredRange p a b) := by
  cases hm : mirroredRange p a b with
  | none => exact mirroredRange_none.mp hm
  | some r =>
    obtain ⟨s1, s2, s3, s4, _⟩ := mirroredRange_spec (l := r.1) (u := r.2) hp hm
    exact ⟨s2, s4, s3, s1⟩

namespace Scanline

theorem isEmpty_iff (s : Scanline) : s.isEmpty = true ↔ ¬ s.xs < s.xe := by
  unfold isEmpty; simp

theorem isEmpty_false_iff (s : Scanline) : s.isEmpty = false ↔ s.xs < s.xe := by
  unfold isEmpty; simp

theorem newEmpty_isEmpty (y : Int) : (newEmpty y).isEmpty = true := by
  simp [newEmpty, isEmpty]

theorem cleared_isEmpty (y : Int) : (⟨y, 0, 0⟩ : Scanline).isEmpty = true := by
  simp [isEmpty]

/-- `extend`: a first column makes a one-pixel scanline, a further one stretches the range. -/
theorem extend_eq (s : Scanline) (x : Int) :
    s.extend x = if s.xs < s.xe then ⟨s.y, min s.xs x, max s.xe (x + 1)⟩ else ⟨s.y, x, x + 1⟩ := by
  obtain ⟨y, xs, xe⟩ := s
  unfold extend isEmpty
  dsimp only
  by_cases h0 : xs < xe
  · simp only [h0, decide_true, Bool.not_true, Bool.false_eq_true, ↓reduceIte]
    split
    · rw [Scanline.mk.injEq]; omega
    · split <;> rw [Scanline.mk.injEq] <;> omega
  · simp only [h0, decide_false, Bool.not_false, ↓reduceIte]

theorem extend_y (s : Scanline) (x : Int) : (s.extend x).y = s.y := by
  rw [extend_eq]; split <;> rfl

theorem tryTake_of_empty {s : Scanline} (h : s.isEmpty = true) : s.tryTake = (none, s) := by
  unfold tryTake; simp [h]

theorem tryTake_of_nonempty {s : Scanline} (h : s.isEmpty = false) :
    s.tryTake = (some s, ⟨s.y, 0, 0⟩) := by
  unfold tryTake; simp [h]

theorem tryTake_snd_isEmpty (s : Scanline) : s.tryTake.2.isEmpty = true := by
  cases h : s.isEmpty with
  | false => rw [tryTake_of_nonempty h]; exact cleared_isEmpty s.y
  | true => rw [tryTake_of_empty h]; exact h

theorem tryTake_none_state (s : Scanline) (h : s.tryTake.1 = none) : s.tryTake.2 = s := by
  cases he : s.isEmpty
  · rw [tryTake_of_nonempty he] at h; cases h
  · rw [tryTake_of_empty he]

/-- Two non-empty column ranges overlap or are adjacent. -/
def Touch (s o : Scanline) : Prop := s.xs < s.xe ∧ o.xs < o.xe ∧ o.xs ≤ s.xe ∧ s.xs ≤ o.xe

instance (s o : Scanline) : Decidable (Touch s o) := by unfold Touch; exact inferInstance

theorem touches_iff (s o : Scanline) : s.touches o = true ↔ Touch s o := by
  unfold touches Touch isEmpty
  by_cases h1 : s.xs < s.xe <;> by_cases h2 : o.xs < o.xe <;>
    simp only [h1, h2, decide_true, decide_false, Bool.not_true, Bool.not_false, Bool.or_false,
      Bool.or_true, ↓reduceIte, Bool.false_eq_true, false_and, and_false, true_and,
      Bool.or_eq_true, decide_eq_true_eq]
  omega

theorem tryExtend_of_touch {s o : Scanline} (h : Touch s o) :
    s.tryExtend o = (true, ⟨s.y, min s.xs o.xs, max s.xe o.xe⟩) := by
  unfold tryExtend; rw [if_pos ((touches_iff s o).mpr h)]

theorem tryExtend_of_not_touch {s o : Scanline} (h : ¬ Touch s o) : s.tryExtend o = (false, s) := by
  unfold tryExtend
  rw [if_neg (fun c => h ((touches_iff s o).mp c))]

theorem not_touch_of_empty {s o : Scanline} (h : s.isEmpty = true ∨ o.isEmpty = true) : ¬ Touch s o := by
  rw [isEmpty_iff, isEmpty_iff] at h
  unfold Touch; omega

theorem mem_points {s : Scanline} {p : Pt} : p ∈ s.points ↔ p.y = s.y ∧ s.xs ≤ p.x ∧ p.x < s.xe := by
  unfold points
  simp only [List.mem_map, mem_irange]
  constructor
  · rintro ⟨x, hx, rfl⟩; exact ⟨rfl, hx⟩
  · rintro ⟨h1, h2⟩; exact ⟨p.x, h2, by cases p; simp_all⟩

theorem points_empty {s : Scanline} (h : ¬ s.xs < s.xe) : s.points = [] := by
  unfold points; rw [irange_empty (a := s.xs) (b := s.xe) (by omega)]; rfl

theorem points_cons {s : Scanline} (h : s.xs < s.xe) :
    s.points = ⟨s.xs, s.y⟩ :: ({ s with xs := s.xs + 1 } : Scanline).points := by
  unfold points; rw [irange_cons h]; rfl

theorem points_length (s : Scanline) : s.points.length = (s.xe - s.xs).toNat := by
  simp [points, irange_length]

theorem drains : Drains Scanline.next Scanline.toListFuel :=
  ⟨fun _ => rfl, fun n s => by rw [Scanline.toListFuel]; cases s.next <;> rfl⟩

theorem yields : Yields Scanline.next Scanline.points := by
  intro s
  unfold Scanline.next
  by_cases h : s.xs < s.xe
  · rw [if_pos h, points_cons h]; rfl
  · rw [if_neg h, points_empty h]; rfl

theorem points_of_isEmpty {s : Scanline} (h : s.isEmpty = true) : s.points = [] :=
  points_empty ((isEmpty_iff s).mp h)

theorem next_of_isEmpty {s : Scanline} (h : s.isEmpty = true) : s.next = none := by
  unfold next; rw [if_neg ((isEmpty_iff s).mp h)]

theorem next_of_nonempty {s : Scanline} (h : s.isEmpty = false) :
    s.next = some (⟨s.xs, s.y⟩, { s with xs := s.xs + 1 }) := by
  unfold next; rw [if_pos ((isEmpty_false_iff s).mp h)]

theorem toList_eq (s : Scanline) : s.toList = s.points :=
  drains.eq_rest yields (by rw [points_length]; omega)

/-- `x` is a column of the scanline. -/
def Covers (s : Scanline) (x : Int) : Prop := s.xs ≤ x ∧ x < s.xe

theorem extend_covers_self (s : Scanline) (x : Int) : (s.extend x).Covers x := by
  rw [extend_eq]; unfold Covers; split <;> dsimp only <;> omega

theorem extend_mono {s : Scanline} {z : Int} (h : s.Covers z) (x : Int) : (s.extend x).Covers z := by
  rw [extend_eq]; unfold Covers at h ⊢; split <;> dsimp only <;> omega

theorem extend_nonempty (s : Scanline) (x : Int) : (s.extend x).xs < (s.extend x).xe := by
  have := extend_covers_self s x; unfold Covers at this; omega

theorem extend_within {s : Scanline} {lo hi x : Int} (hs : ¬ s.xs < s.xe ∨ (lo ≤ s.xs ∧ s.xe ≤ hi))
    (hx : lo ≤ x ∧ x < hi) : lo ≤ (s.extend x).xs ∧ (s.extend x).xe ≤ hi := by
  rw [extend_eq]; split <;> dsimp only <;> omega

theorem extend_ends (s : Scanline) (x : Int) :
    ((s.extend x).xs = x ∨ (s.xs < s.xe ∧ (s.extend x).xs = s.xs)) ∧
    ((s.extend x).xe = x + 1 ∨ (s.xs < s.xe ∧ (s.extend x).xe = s.xe)) := by
  rw [extend_eq]; split <;> dsimp only <;> omega

/-- `pts.for_each(|p| self.extend(p.x))`. -/
def extendAll (s : Scanline) (l : List Pt) : Scanline := l.foldl (fun s p => s.extend p.x) s

theorem extendAll_y : ∀ (l : List Pt) (s : Scanline), (s.extendAll l).y = s.y := by
  intro l
  induction l with
  | nil => intro s; rfl
  | cons p l ih => intro s; simp only [extendAll, List.foldl_cons] at ih ⊢; rw [ih, extend_y]

theorem extendAll_mono : ∀ (l : List Pt) {s : Scanline} {z : Int}, s.Covers z →
    (s.extendAll l).Covers z := by
  intro l
  induction l with
  | nil => intro s z h; exact h
  | cons p l ih =>
    intro s z h
    simp only [extendAll, List.foldl_cons] at ih ⊢
    exact ih (extend_mono h p.x)

theorem extendAll_covers : ∀ (l : List Pt) (s : Scanline) (q : Pt), q ∈ l →
    (s.extendAll l).Covers q.x := by
  intro l
  induction l with
  | nil => intro s q h; cases h
  | cons p l ih =>
    intro s q h
    simp only [extendAll, List.foldl_cons] at ih ⊢
    rcases List.mem_cons.mp h with rfl | hm
    · exact extendAll_mono l (extend_covers_self s q.x)
    · exact ih _ q hm

theorem extendAll_within {lo hi : Int} : ∀ (l : List Pt) (s : Scanline),
    (¬ s.xs < s.xe ∨ (lo ≤ s.xs ∧ s.xe ≤ hi)) → (∀ q ∈ l, lo ≤ q.x ∧ q.x < hi) →
    (¬ (s.extendAll l).xs < (s.extendAll l).xe ∨ (lo ≤ (s.extendAll l).xs ∧ (s.extendAll l).xe ≤ hi)) := by
  intro l
  induction l with
  | nil => intro s hs _; exact hs
  | cons p l ih =>
    intro s hs hl
    simp only [extendAll, List.foldl_cons] at ih ⊢
    exact ih _ (Or.inr (extend_within hs (hl p List.mem_cons_self)))
      (fun q hq => hl q (List.mem_cons_of_mem _ hq))

theorem extendAll_ends : ∀ (l : List Pt) (s : Scanline),
    (s.extendAll l).xs < (s.extendAll l).xe →
    ((∃ q ∈ l, q.x = (s.extendAll l).xs) ∨ (s.xs < s.xe ∧ (s.extendAll l).xs = s.xs)) ∧
    ((∃ q ∈ l, q.x + 1 = (s.extendAll l).xe) ∨ (s.xs < s.xe ∧ (s.extendAll l).xe = s.xe)) := by
  intro l
  induction l with
  | nil => intro s h; exact ⟨Or.inr ⟨h, rfl⟩, Or.inr ⟨h, rfl⟩⟩
  | cons p l ih =>
    intro s h
    simp only [extendAll, List.foldl_cons] at ih h ⊢
    obtain ⟨i1, i2⟩ := ih (s.extend p.x) h
    obtain ⟨e1, e2⟩ := extend_ends s p.x
    constructor
    · rcases i1 with ⟨q, hq, e⟩ | ⟨_, e⟩
      · exact Or.inl ⟨q, List.mem_cons_of_mem _ hq, e⟩
      · rcases e1 with e1 | ⟨hne, e1⟩
        · exact Or.inl ⟨p, List.mem_cons_self, by omega⟩
        · exact Or.inr ⟨hne, by omega⟩
    · rcases i2 with ⟨q, hq, e⟩ | ⟨_, e⟩
      · exact Or.inl ⟨q, List.mem_cons_of_mem _ hq, e⟩
      · rcases e2 with e2 | ⟨hne, e2⟩
        · exact Or.inl ⟨p, List.mem_cons_self, by omega⟩
        · exact Or.inr ⟨hne, by omega⟩

theorem not_covers_of_empty {s : Scanline} (h : ¬ s.xs < s.xe) (x : Int) : ¬ s.Covers x := by
  unfold Covers; omega

theorem covers_hull {s o : Scanline} (h : Touch s o) (y x : Int) :
    (⟨y, min s.xs o.xs, max s.xe o.xe⟩ : Scanline).Covers x ↔ s.Covers x ∨ o.Covers x := by
  unfold Touch at h
  simp only [Covers]
  omega

theorem nonempty_of_covers {s : Scanline} {x : Int} (h : s.Covers x) : s.isEmpty = false := by
  unfold Covers at h
  rw [isEmpty_false_iff]
  omega

theorem covers_of_nonempty {s : Scanline} (h : s.isEmpty = false) : s.Covers s.xs := by
  rw [isEmpty_false_iff] at h
  unfold Covers
  omega

theorem touch_of_common {s o : Scanline} {x : Int} (h1 : s.Covers x) (h2 : o.Covers x) :
    Touch s o := by
  unfold Covers at h1 h2; unfold Touch; omega

theorem points_pairwise (s : Scanline) : s.points.Pairwise Pt.rowMajorLt := by
  unfold Scanline.points
  rw [List.pairwise_map]
  exact (irange_pairwise_lt s.xs s.xe).imp (by
    intro a b hab; right; exact ⟨rfl, hab⟩)

end Scanline

end EG
