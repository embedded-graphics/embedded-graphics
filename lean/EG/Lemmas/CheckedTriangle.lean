/-
  EG.Lemmas.CheckedTriangle — range theorems of the `Triangle` kernels
  (Model/CheckedTriangle.lean): with every vertex within +-8192 (`Triangle.SmallPt`, 8 times the
  display scale) the checked kernel returns `some` of the plain kernel of `EG.Model.Triangle`;
  the probed point of `contains` is arbitrary (a point outside the bounding box is answered
  before any product is formed).

  Bounds behind it: coordinate x coordinate <= 2^26, coordinate x difference <= 2^27;
  `area_doubled` is a sum of products bounded by 6 * 2^26, `s`, `t` likewise, `s + t` by
  12 * 2^26 < 2^31. Props/C19/Arithmetic.lean states the result for every product and partial sum
  of `Triangle::area_doubled` and `Triangle::contains` (src/primitives/triangle/mod.rs).
-/
import EG.Lemmas.CheckedScanline
import EG.Lemmas.Rect
import EG.Model.Triangle
import EG.Model.CheckedTriangle
namespace EG
namespace Triangle

def SmallPt (p : Pt) : Prop := (-8192 ≤ p.x ∧ p.x ≤ 8192) ∧ (-8192 ≤ p.y ∧ p.y ≤ 8192)
instance (p : Pt) : Decidable (SmallPt p) := by unfold SmallPt; exact inferInstance

end Triangle
end EG

namespace EG.Chk
open EG EG.Triangle

namespace Triangle

/-- `-b2 * a3 + b1 * (a3 - a2) + a1 * (b2 - b3) + a2 * b3` in the operation order of
`area_doubled`, all six values within `+-8192`: every product is at most `2^27`, every partial
sum at most `6 * 2^26`. -/
theorem area_arith {a1 b1 a2 b2 a3 b3 : Int} (h1 : (-8192 ≤ a1 ∧ a1 ≤ 8192) ∧ (-8192 ≤ b1 ∧ b1 ≤ 8192))
    (h2 : (-8192 ≤ a2 ∧ a2 ≤ 8192) ∧ (-8192 ≤ b2 ∧ b2 ≤ 8192))
    (h3 : (-8192 ≤ a3 ∧ a3 ≤ 8192) ∧ (-8192 ≤ b3 ∧ b3 ≤ 8192)) :
    (do
      let n ← chkI32 (-b2)
      let a ← chkI32 (n * a3)
      let d1 ← chkI32 (a3 - a2)
      let b ← chkI32 (b1 * d1)
      let ab ← chkI32 (a + b)
      let d2 ← chkI32 (b2 - b3)
      let c ← chkI32 (a1 * d2)
      let abc ← chkI32 (ab + c)
      let d ← chkI32 (a2 * b3)
      chkI32 (abc + d)) = some (-b2 * a3 + b1 * (a3 - a2) + a1 * (b2 - b3) + a2 * b3) := by
  have hn : -8192 ≤ -b2 ∧ -b2 ≤ 8192 := by omega
  have hd1 : -16384 ≤ a3 - a2 ∧ a3 - a2 ≤ 16384 := by omega
  have hd2 : -16384 ≤ b2 - b3 ∧ b2 - b3 ≤ 16384 := by omega
  have p1 := mul_bounds (A := 8192) (B := 8192) hn h3.1
  have p2 := mul_bounds (A := 8192) (B := 16384) h1.2 hd1
  have p3 := mul_bounds (A := 8192) (B := 16384) h1.1 hd2
  have p4 := mul_bounds (A := 8192) (B := 8192) h2.1 h3.2
  clear h1 h2 h3 -- only the product bounds are needed below; a smaller context is cheaper for `omega`
  chk_simp

/-- `a * b - c * d + (u1 - u2) * p + (v1 - v2) * q` in the operation order of `s` and `t` of
`contains`, all ten values within `+-8192`; the result is below `2^30`. -/
theorem bary_arith {a b c d u1 u2 p v1 v2 q : Int} (ha : -8192 ≤ a ∧ a ≤ 8192) (hb : -8192 ≤ b ∧ b ≤ 8192)
    (hc : -8192 ≤ c ∧ c ≤ 8192) (hd : -8192 ≤ d ∧ d ≤ 8192) (hu1 : -8192 ≤ u1 ∧ u1 ≤ 8192)
    (hu2 : -8192 ≤ u2 ∧ u2 ≤ 8192) (hp : -8192 ≤ p ∧ p ≤ 8192) (hv1 : -8192 ≤ v1 ∧ v1 ≤ 8192)
    (hv2 : -8192 ≤ v2 ∧ v2 ≤ 8192) (hq : -8192 ≤ q ∧ q ≤ 8192) :
    Ret (do
      let m1 ← chkI32 (a * b)
      let m2 ← chkI32 (c * d)
      let s ← chkI32 (m1 - m2)
      let u ← chkI32 (u1 - u2)
      let e ← chkI32 (u * p)
      let f ← chkI32 (s + e)
      let v ← chkI32 (v1 - v2)
      let h ← chkI32 (v * q)
      chkI32 (f + h)) (a * b - c * d + (u1 - u2) * p + (v1 - v2) * q)
      fun r => -1073741824 ≤ r ∧ r ≤ 1073741823 := by
  have p1 := mul_bounds (A := 8192) (B := 8192) ha hb
  have p2 := mul_bounds (A := 8192) (B := 8192) hc hd
  have hu : -16384 ≤ u1 - u2 ∧ u1 - u2 ≤ 16384 := by omega
  have hv : -16384 ≤ v1 - v2 ∧ v1 - v2 ≤ 16384 := by omega
  have p3 := mul_bounds (A := 16384) (B := 8192) hu hp
  have p4 := mul_bounds (A := 16384) (B := 8192) hv hq
  clear ha hb hc hd hu1 hu2 hp hv1 hv2 hq
  refine ⟨?_, by omega⟩
  chk_simp

theorem minmax3_bounds {a b c lo hi : Int} (ha : lo ≤ a ∧ a ≤ hi) (hb : lo ≤ b ∧ b ≤ hi)
    (hc : lo ≤ c ∧ c ≤ hi) :
    (lo ≤ min (min a b) c ∧ min (min a b) c ≤ hi) ∧ (lo ≤ max (max a b) c ∧ max (max a b) c ≤ hi) :=
  ⟨⟨Int.le_min.2 ⟨Int.le_min.2 ⟨ha.1, hb.1⟩, hc.1⟩, Int.le_trans (Int.min_le_right _ _) hc.2⟩,
    ⟨Int.le_trans hc.1 (Int.le_max_right _ _), Int.max_le.2 ⟨Int.max_le.2 ⟨ha.2, hb.2⟩, hc.2⟩⟩⟩

theorem between_bounds {a b p lo hi : Int} (ha : lo ≤ a ∧ a ≤ hi) (hb : lo ≤ b ∧ b ≤ hi)
    (h1 : min a b ≤ p) (h2 : p ≤ max a b) : lo ≤ p ∧ p ≤ hi :=
  ⟨Int.le_trans (Int.le_min.2 ⟨ha.1, hb.1⟩) h1, Int.le_trans h2 (Int.max_le.2 ⟨ha.2, hb.2⟩)⟩

theorem boundingBox_ok {t : EG.Triangle} (h1 : W.pt t.v1) (h2 : W.pt t.v2) (h3 : W.pt t.v3) :
    boundingBox t = some t.boundingBox := by
  obtain ⟨mx, Mx⟩ := minmax3_bounds h1.1 h2.1 h3.1
  obtain ⟨my, My⟩ := minmax3_bounds h1.2 h2.2 h3.2
  exact withCorners_ok (W.coord.sub_fits mx Mx) (W.coord.sub_fits my My)

theorem areaDoubled_ok {t : EG.Triangle} (h1 : SmallPt t.v1) (h2 : SmallPt t.v2) (h3 : SmallPt t.v3) :
    areaDoubled t = some t.areaDoubled :=
  area_arith h1 h2 h3

theorem baryS_ok {t : EG.Triangle} {p : Pt} (h1 : SmallPt t.v1) (h3 : SmallPt t.v3) (hp : SmallPt p) :
    Ret (baryS t p) (t.baryS p) fun r => -1073741824 ≤ r ∧ r ≤ 1073741823 :=
  bary_arith h1.2 h3.1 h1.1 h3.2 h3.2 h1.2 hp.1 h1.1 h3.1 hp.2

theorem baryT_ok {t : EG.Triangle} {p : Pt} (h1 : SmallPt t.v1) (h2 : SmallPt t.v2) (hp : SmallPt p) :
    Ret (baryT t p) (t.baryT p) fun r => -1073741824 ≤ r ∧ r ≤ 1073741823 :=
  bary_arith h1.1 h2.2 h1.2 h2.1 h1.2 h2.2 hp.1 h2.1 h1.1 hp.2

/-- `|s|`, `|t|` below `2^30`: the guarded sum `s + t` fits `i32`. -/
theorem isInsideOf_ok {s u a : Int} (hs : -1073741824 ≤ s ∧ s ≤ 1073741823)
    (hu : -1073741824 ≤ u ∧ u ≤ 1073741823) :
    isInsideOf s u a = some (if a < 0 then decide (s ≤ 0 ∧ u ≤ 0 ∧ s + u ≥ a)
      else decide (s ≥ 0 ∧ u ≥ 0 ∧ s + u ≤ a)) := by
  unfold isInsideOf
  split <;> split
  · rw [chkI32_bind (by omega)]; simp [*]
  · rename_i hc
    rw [decide_eq_false fun h => hc ⟨h.1, h.2.1⟩]; rfl
  · rw [chkI32_bind (by omega)]; simp [*]
  · rename_i hc
    rw [decide_eq_false fun h => hc ⟨h.1, h.2.1⟩]; rfl

theorem sortTwoYx_cases (p q : Pt) : sortTwoYx p q = (p, q) ∨ sortTwoYx p q = (q, p) := by
  unfold sortTwoYx; split <;> simp

theorem sortedYx_all {t : EG.Triangle} {P : Pt → Prop} (h1 : P t.v1) (h2 : P t.v2) (h3 : P t.v3) :
    P t.sortedYx.v1 ∧ P t.sortedYx.v2 ∧ P t.sortedYx.v3 := by
  unfold EG.Triangle.sortedYx
  simp only
  rcases sortTwoYx_cases t.v1 t.v2 with e1 | e1 <;> rw [e1] <;> simp only
  · rcases sortTwoYx_cases t.v3 t.v1 with e2 | e2 <;> rw [e2] <;> simp only
    · rcases sortTwoYx_cases t.v1 t.v2 with e3 | e3 <;> rw [e3] <;> exact ⟨‹_›, ‹_›, ‹_›⟩
    · rcases sortTwoYx_cases t.v3 t.v2 with e3 | e3 <;> rw [e3] <;> exact ⟨‹_›, ‹_›, ‹_›⟩
  · rcases sortTwoYx_cases t.v3 t.v2 with e2 | e2 <;> rw [e2] <;> simp only
    · rcases sortTwoYx_cases t.v2 t.v1 with e3 | e3 <;> rw [e3] <;> exact ⟨‹_›, ‹_›, ‹_›⟩
    · rcases sortTwoYx_cases t.v3 t.v1 with e3 | e3 <;> rw [e3] <;> exact ⟨‹_›, ‹_›, ‹_›⟩

theorem onEdge_ok {t : EG.Triangle} (h1 : W.pt t.v1) (h2 : W.pt t.v2) (h3 : W.pt t.v3) (p : Pt) :
    onEdge t p = some (t.edgePoints.any (fun q => q == p)) := by
  obtain ⟨s1, s2, s3⟩ := sortedYx_all (P := W.pt) h1 h2 h3
  unfold onEdge
  simp only
  rw [linePointsNew_ok (l := ⟨t.sortedYx.v1, t.sortedYx.v2⟩) s1 s2, some_bind,
    linePointsNew_ok (l := ⟨t.sortedYx.v1, t.sortedYx.v3⟩) s1 s3, some_bind,
    linePointsNew_ok (l := ⟨t.sortedYx.v2, t.sortedYx.v3⟩) s2 s3, some_bind,
    linePointsAny_ok (l := ⟨t.sortedYx.v1, t.sortedYx.v2⟩) s1 s2, some_bind,
    linePointsAny_ok (l := ⟨t.sortedYx.v1, t.sortedYx.v3⟩) s1 s3, some_bind,
    linePointsAny_ok (l := ⟨t.sortedYx.v2, t.sortedYx.v3⟩) s2 s3]
  simp only [EG.Triangle.edgePoints, EG.Triangle.edgeLines, List.flatMap_cons,
    List.flatMap_nil, List.append_nil, List.any_append]
  cases (Line.points ⟨t.sortedYx.v1, t.sortedYx.v2⟩).any (fun q => q == p) <;>
    cases (Line.points ⟨t.sortedYx.v1, t.sortedYx.v3⟩).any (fun q => q == p) <;> rfl

theorem smallPt_W {p : Pt} (h : SmallPt p) : W.pt p := by
  unfold SmallPt at h
  omega

theorem contains_small {t : EG.Triangle} {p : Pt} (h1 : SmallPt t.v1) (h2 : SmallPt t.v2)
    (h3 : SmallPt t.v3) (hc : t.boundingBox.contains p = true) : SmallPt p := by
  obtain ⟨mx, Mx⟩ := minmax3_bounds h1.1 h2.1 h3.1
  obtain ⟨my, My⟩ := minmax3_bounds h1.2 h2.2 h3.2
  rw [EG.Triangle.boundingBox, Rect.contains_withCorners] at hc
  exact ⟨between_bounds mx Mx hc.1 hc.2.1, between_bounds my My hc.2.2.1 hc.2.2.2⟩

theorem boundingBox_W {t : EG.Triangle} (h1 : SmallPt t.v1) (h2 : SmallPt t.v2) (h3 : SmallPt t.v3) :
    W.rect t.boundingBox := by
  obtain ⟨mx, Mx⟩ := minmax3_bounds h1.1 h2.1 h3.1
  obtain ⟨my, My⟩ := minmax3_bounds h1.2 h2.2 h3.2
  exact W.rect_withCorners (by simp only; omega) (by simp only; omega)

theorem contains_ok {t : EG.Triangle} (h1 : SmallPt t.v1) (h2 : SmallPt t.v2) (h3 : SmallPt t.v3)
    (p : Pt) : contains t p = some (t.contains p) := by
  have w1 := smallPt_W h1
  have w2 := smallPt_W h2
  have w3 := smallPt_W h3
  unfold contains EG.Triangle.contains EG.Triangle.containsWith
  rw [boundingBox_ok w1 w2 w3, some_bind, Chk.contains_ok (boundingBox_W h1 h2 h3), some_bind]
  cases hc : t.boundingBox.contains p
  · rfl
  · have hp := contains_small h1 h2 h3 hc
    obtain ⟨es, bs⟩ := baryS_ok h1 h3 hp
    obtain ⟨et, bt⟩ := baryT_ok h1 h2 hp
    simp only [Bool.not_true, Bool.false_eq_true, ↓reduceIte]
    rw [es, et, areaDoubled_ok h1 h2 h3, some_bind, some_bind, some_bind]
    split
    · rfl
    · rw [isInsideOf_ok bs bt, some_bind]
      change (if t.isInside p = true then _ else _) = some (if t.isInside p = true then _ else _)
      split
      · rfl
      · exact onEdge_ok w1 w2 w3 p

theorem sortedClockwise_ok {t : EG.Triangle} (h1 : SmallPt t.v1) (h2 : SmallPt t.v2)
    (h3 : SmallPt t.v3) : sortedClockwise t = some t.sortedClockwise := by
  unfold sortedClockwise EG.Triangle.sortedClockwise
  rw [areaDoubled_ok h1 h2 h3]
  rfl

theorem scanlineIntersection_ok {t : EG.Triangle} (h1 : SmallPt t.v1) (h2 : SmallPt t.v2)
    (h3 : SmallPt t.v3) (y : Int) : scanlineIntersection t y = some (t.scanlineIntersection y) := by
  obtain ⟨s1, s2, s3⟩ := sortedYx_all (P := W.pt) (smallPt_W h1) (smallPt_W h2) (smallPt_W h3)
  unfold scanlineIntersection EG.Triangle.scanlineIntersection
  rw [areaDoubled_ok h1 h2 h3, some_bind]
  split
  · exact Scanline.bresenhamIntersection_ok _ (l := ⟨t.sortedYx.v1, t.sortedYx.v3⟩) s1 s3
  · rw [Scanline.bresenhamIntersection_ok _ (l := ⟨t.sortedYx.v1, t.sortedYx.v2⟩) s1 s2, some_bind,
      Scanline.bresenhamIntersection_ok _ (l := ⟨t.sortedYx.v1, t.sortedYx.v3⟩) s1 s3, some_bind]
    exact Scanline.bresenhamIntersection_ok _ (l := ⟨t.sortedYx.v2, t.sortedYx.v3⟩) s2 s3

theorem translate_ok {t : EG.Triangle} (h1 : W.pt t.v1) (h2 : W.pt t.v2) (h3 : W.pt t.v3) {d : Pt}
    (hd : W.pt d) : translate t d = some (t.translate d) := by
  rw [translate, ptAdd_ok (by omega), some_bind, ptAdd_ok (by omega), some_bind, ptAdd_ok (by omega)]
  rfl

end Triangle
end EG.Chk
