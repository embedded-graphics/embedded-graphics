/-
  EG.Lemmas.TriEdge — the closure of `edge_intersections` (EG.Model.TriEdge) by cases, for an
  arbitrary per-edge scanline `seg`:
  * one round of the `while` loop as a function (`stepState`, `loop_succ`, `loop3`) and by cases
    (`stepState_cases`); `left` takes the first non-empty scanline and keeps it (`stepState_left`);
  * the part after the loop (`finish`): what is handed out is not empty, and the first call in a
    row hands out a scanline as soon as one edge has one (`next_first_some`).
-/
import EG.Model.TriEdge
import EG.Lemmas.Scanline
namespace EG

namespace EdgeIt
open Scanline

/-- The body of the `while idx < 3` loop of `EdgeIt.loop`, as a function of its own (`loop_succ`). -/
def stepState (seg : Nat → Scanline) (s : EdgeIt) : EdgeIt :=
  let scanline := seg s.idx
  let s := { s with idx := s.idx + 1 }
  if !s.left.isEmpty then
    let r := s.left.tryExtend scanline
    if r.1 then { s with left := r.2 }
    else if !s.right.isEmpty then { s with right := (s.right.tryExtend scanline).2 }
    else { s with right := scanline }
  else { s with left := scanline }

theorem loop_succ (seg : Nat → Scanline) (fuel : Nat) (s : EdgeIt) :
    loop seg (fuel + 1) s = if s.idx < 3 then loop seg fuel (stepState seg s) else s := by
  unfold stepState
  conv => lhs; unfold loop
  simp only [apply_ite (loop seg fuel)]

theorem loop_of_idx_ge (seg : Nat → Scanline) (fuel : Nat) (s : EdgeIt) (h : 3 ≤ s.idx) :
    loop seg fuel s = s := by
  cases fuel with
  | zero => rfl
  | succ f => rw [loop_succ]; simp only [show ¬ s.idx < 3 by omega, ↓reduceIte]

theorem stepState_idx (seg : Nat → Scanline) (s : EdgeIt) : (stepState seg s).idx = s.idx + 1 := by
  unfold stepState
  dsimp only
  repeat' split
  all_goals rfl

theorem loop3 (seg : Nat → Scanline) (l r : Scanline) :
    loop seg 3 ⟨0, l, r⟩ = stepState seg (stepState seg (stepState seg ⟨0, l, r⟩)) := by
  rw [loop_succ, if_pos (show (0 : Nat) < 3 by omega), loop_succ,
    if_pos (by rw [stepState_idx]; show 0 + 1 < 3; omega), loop_succ,
    if_pos (by rw [stepState_idx, stepState_idx]; show 0 + 1 + 1 < 3; omega)]
  rfl

/-- One round of the loop with the scanline `seg i` of the edge: an empty `left` takes it; a `left` that
touches it is extended by it; else `right` takes it, is extended by it, or (ignoring the result of
`right.try_extend`) drops it. -/
theorem stepState_cases (seg : Nat → Scanline) (i : Nat) (l r : Scanline) :
    (¬ l.xs < l.xe ∧ stepState seg ⟨i, l, r⟩ = ⟨i + 1, seg i, r⟩) ∨
    (Touch l (seg i) ∧
      stepState seg ⟨i, l, r⟩ = ⟨i + 1, ⟨l.y, min l.xs (seg i).xs, max l.xe (seg i).xe⟩, r⟩) ∨
    (l.xs < l.xe ∧ ¬ Touch l (seg i) ∧ ¬ r.xs < r.xe ∧
      stepState seg ⟨i, l, r⟩ = ⟨i + 1, l, seg i⟩) ∨
    (l.xs < l.xe ∧ ¬ Touch l (seg i) ∧ Touch r (seg i) ∧
      stepState seg ⟨i, l, r⟩ = ⟨i + 1, l, ⟨r.y, min r.xs (seg i).xs, max r.xe (seg i).xe⟩⟩) ∨
    (l.xs < l.xe ∧ ¬ Touch l (seg i) ∧ r.xs < r.xe ∧ ¬ Touch r (seg i) ∧
      stepState seg ⟨i, l, r⟩ = ⟨i + 1, l, r⟩) := by
  unfold stepState
  dsimp only
  cases hl : l.isEmpty
  · have hl' := (isEmpty_false_iff l).mp hl
    by_cases ht : Touch l (seg i)
    · right; left
      rw [tryExtend_of_touch ht]
      exact ⟨ht, rfl⟩
    · rw [tryExtend_of_not_touch ht]
      cases hr : r.isEmpty
      · have hr' := (isEmpty_false_iff r).mp hr
        by_cases ht2 : Touch r (seg i)
        · right; right; right; left
          rw [tryExtend_of_touch ht2]
          exact ⟨hl', ht, ht2, rfl⟩
        · right; right; right; right
          rw [tryExtend_of_not_touch ht2]
          exact ⟨hl', ht, hr', ht2, rfl⟩
      · right; right; left
        exact ⟨hl', ht, (isEmpty_iff r).mp hr, rfl⟩
  · left
    exact ⟨(isEmpty_iff l).mp hl, rfl⟩

theorem stepState_cases_right_empty (seg : Nat → Scanline) (i : Nat) (l r : Scanline)
    (hr : ¬ r.xs < r.xe) :
    (¬ l.xs < l.xe ∧ stepState seg ⟨i, l, r⟩ = ⟨i + 1, seg i, r⟩) ∨
    (Touch l (seg i) ∧
      stepState seg ⟨i, l, r⟩ = ⟨i + 1, ⟨l.y, min l.xs (seg i).xs, max l.xe (seg i).xe⟩, r⟩) ∨
    (l.xs < l.xe ∧ ¬ Touch l (seg i) ∧ stepState seg ⟨i, l, r⟩ = ⟨i + 1, l, seg i⟩) := by
  rcases stepState_cases seg i l r with h | h | ⟨h1, h2, _, e⟩ | ⟨_, _, h, _⟩ | ⟨_, _, h, _⟩
  · exact Or.inl h
  · exact Or.inr (Or.inl h)
  · exact Or.inr (Or.inr ⟨h1, h2, e⟩)
  · exact absurd h.1 hr
  · exact absurd h hr

theorem stepState_spec (seg : Nat → Scanline) (y : Int) (hy : ∀ i, (seg i).y = y) (s : EdgeIt)
    (hl : s.left.y = y) (hr : s.right.y = y) :
    (stepState seg s).left.y = y ∧ (stepState seg s).right.y = y := by
  obtain ⟨i, l, r⟩ := s
  rcases stepState_cases seg i l r with ⟨_, e⟩ | ⟨_, e⟩ | ⟨_, _, _, e⟩ | ⟨_, _, _, e⟩ | ⟨_, _, _, _, e⟩ <;>
    rw [e]
  · exact ⟨hy i, hr⟩
  · exact ⟨hl, hr⟩
  · exact ⟨hl, hy i⟩
  · exact ⟨hl, hr⟩
  · exact ⟨hl, hr⟩

/-- `left` takes the first non-empty scanline and is never emptied. -/
theorem stepState_left (seg : Nat → Scanline) (s : EdgeIt) :
    (stepState seg s).left.xs < (stepState seg s).left.xe ↔
      (s.left.xs < s.left.xe ∨ (seg s.idx).xs < (seg s.idx).xe) := by
  obtain ⟨i, l, r⟩ := s
  rcases stepState_cases seg i l r with ⟨h, e⟩ | ⟨h, e⟩ | ⟨h, _, _, e⟩ | ⟨h, _, _, e⟩ | ⟨h, _, _, _, e⟩ <;>
    rw [e] <;> dsimp only
  · exact ⟨Or.inr, fun c => c.resolve_left h⟩
  · unfold Touch at h; omega
  all_goals exact ⟨Or.inl, fun _ => h⟩

/-- The part of the closure after the `while` loop: merge `right` into `left` if they touch, then
hand out `left`, else `right`. -/
def finish (y : Int) (s : EdgeIt) : Option Scanline × EdgeIt :=
  let r := s.left.tryExtend s.right
  let s := if r.1 then { s with left := r.2, right := Scanline.newEmpty y } else s
  let l := s.left.tryTake
  match l.1 with
  | some x => (some x, { s with left := l.2 })
  | none =>
    let rr := s.right.tryTake
    (rr.1, { s with left := l.2, right := rr.2 })

theorem next_eq_finish {sw : Nat} (hw : sw ≠ 0) (seg : Nat → Scanline) (y : Int) (s : EdgeIt) :
    next sw seg y s = finish y (loop seg 3 s) := by
  unfold next
  rw [if_neg hw]
  rfl

/-- What the closure hands out is not empty (`try_take`). -/
theorem next_some_nonempty {sw : Nat} {seg : Nat → Scanline} {y : Int} {s : EdgeIt} {x : Scanline}
    (h : (next sw seg y s).1 = some x) : x.isEmpty = false := by
  by_cases hw : sw = 0
  · unfold next at h
    rw [if_pos hw] at h
    cases h
  · rw [next_eq_finish hw] at h
    unfold finish at h
    dsimp only at h
    generalize (if ((loop seg 3 s).left.tryExtend (loop seg 3 s).right).1 = true then
      ({ loop seg 3 s with left := ((loop seg 3 s).left.tryExtend (loop seg 3 s).right).2,
                           right := Scanline.newEmpty y } : EdgeIt) else loop seg 3 s) = m at h
    cases hl : m.left.isEmpty
    · rw [tryTake_of_nonempty hl] at h
      cases h
      exact hl
    · rw [tryTake_of_empty hl] at h
      dsimp only at h
      cases hr : m.right.isEmpty
      · rw [tryTake_of_nonempty hr] at h
        cases h
        exact hr
      · rw [tryTake_of_empty hr] at h
        cases h

/-- The first call of the closure in a row hands out a scanline as soon as one of the three edges
has one: `left` is non-empty after the loop, stays so in the merge, and is handed out first. -/
theorem next_first_some {sw : Nat} (hw : sw ≠ 0) (seg : Nat → Scanline) (y : Int) {k : Nat} (hk : k < 3)
    (hne : (seg k).xs < (seg k).xe) :
    ∃ sc, (next sw seg y ⟨0, Scanline.newEmpty y, Scanline.newEmpty y⟩).1 = some sc ∧ sc.xs < sc.xe := by
  rw [next_eq_finish hw, loop3]
  have hl : (stepState seg (stepState seg (stepState seg
      ⟨0, Scanline.newEmpty y, Scanline.newEmpty y⟩))).left.xs < (stepState seg (stepState seg (stepState seg
      ⟨0, Scanline.newEmpty y, Scanline.newEmpty y⟩))).left.xe := by
    simp only [stepState_left, stepState_idx]
    have : k = 0 ∨ k = 1 ∨ k = 2 := by omega
    rcases this with rfl | rfl | rfl <;> simp [hne]
  generalize stepState seg (stepState seg (stepState seg ⟨0, Scanline.newEmpty y, Scanline.newEmpty y⟩)) = s at hl
  unfold finish
  by_cases ht : Touch s.left s.right
  · have hne' : (⟨s.left.y, min s.left.xs s.right.xs, max s.left.xe s.right.xe⟩ : Scanline).isEmpty = false := by
      rw [isEmpty_false_iff]; unfold Touch at ht; dsimp only; omega
    rw [tryExtend_of_touch ht]
    dsimp only
    rw [if_pos rfl, tryTake_of_nonempty hne']
    exact ⟨_, rfl, (isEmpty_false_iff _).mp hne'⟩
  · rw [tryExtend_of_not_touch ht]
    dsimp only
    rw [if_neg (by simp), tryTake_of_nonempty ((isEmpty_false_iff _).mpr hl)]
    exact ⟨_, rfl, hl⟩

end EdgeIt
end EG
