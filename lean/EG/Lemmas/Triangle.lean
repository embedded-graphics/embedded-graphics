/-
  EG.Lemmas.Triangle — vertex-order facts about the triangle model.
  The six orders are generated by two transpositions, so a quantity is independent of the order as
  soon as it survives those two (`eq_of_mem_orders`): the extreme coordinates and with them the
  bounding box, and the vanishing of `area_doubled`. `sorted_yx` returns the one arrangement in
  `(y, x)` order, so it is canonical too, and with it the edge lines and `scanline_intersection`.
  Last: the line between two vertices, as the code rasterises it (`sortedLine`), is an edge line
  whichever the order of the vertices.
-/
import EG.Lemmas.TriangleArith
namespace EG
namespace Triangle

def orders (t : Triangle) : List Triangle :=
  [⟨t.v1, t.v2, t.v3⟩, ⟨t.v1, t.v3, t.v2⟩, ⟨t.v2, t.v1, t.v3⟩,
   ⟨t.v2, t.v3, t.v1⟩, ⟨t.v3, t.v1, t.v2⟩, ⟨t.v3, t.v2, t.v1⟩]

theorem mem_orders {t t' : Triangle} : t' ∈ orders t ↔
    t' = ⟨t.v1, t.v2, t.v3⟩ ∨ t' = ⟨t.v1, t.v3, t.v2⟩ ∨ t' = ⟨t.v2, t.v1, t.v3⟩ ∨
    t' = ⟨t.v2, t.v3, t.v1⟩ ∨ t' = ⟨t.v3, t.v1, t.v2⟩ ∨ t' = ⟨t.v3, t.v2, t.v1⟩ := by
  simp [orders]

theorem eq_of_mem_orders {α : Sort _} (f : Triangle → α)
    (h12 : ∀ a b c, f ⟨b, a, c⟩ = f ⟨a, b, c⟩) (h23 : ∀ a b c, f ⟨a, c, b⟩ = f ⟨a, b, c⟩)
    {t t' : Triangle} (h : t' ∈ orders t) : f t' = f t := by
  obtain ⟨a, b, c⟩ := t
  rcases mem_orders.mp h with rfl | rfl | rfl | rfl | rfl | rfl
  · rfl
  · exact h23 a b c
  · exact h12 a b c
  · rw [h23 b a c, h12 a b c]
  · rw [h12 a c b, h23 a b c]
  · rw [h12 b c a, h23 b a c, h12 a b c]

theorem iff_of_mem_orders (P : Triangle → Prop) (h12 : ∀ a b c, P ⟨b, a, c⟩ ↔ P ⟨a, b, c⟩)
    (h23 : ∀ a b c, P ⟨a, c, b⟩ ↔ P ⟨a, b, c⟩) {t t' : Triangle} (h : t' ∈ orders t) : P t' ↔ P t :=
  Eq.to_iff (eq_of_mem_orders P (fun a b c => propext (h12 a b c)) (fun a b c => propext (h23 a b c)) h)

theorem self_mem_orders (t : Triangle) : t ∈ orders t := by
  rw [mem_orders]; exact Or.inl rfl

theorem mem_orders_symm {t t' : Triangle} (h : t' ∈ orders t) : t ∈ orders t' := by
  obtain ⟨a, b, c⟩ := t
  rcases mem_orders.mp h with rfl | rfl | rfl | rfl | rfl | rfl <;>
    simp only [mem_orders, true_or, or_true]

theorem mem_orders_trans {t t' t'' : Triangle} (h : t' ∈ orders t) (h' : t'' ∈ orders t') :
    t'' ∈ orders t := by
  obtain ⟨a, b, c⟩ := t
  rcases mem_orders.mp h with rfl | rfl | rfl | rfl | rfl | rfl <;>
    rcases mem_orders.mp h' with rfl | rfl | rfl | rfl | rfl | rfl <;>
    simp only [mem_orders, true_or, or_true]

def xMin (t : Triangle) : Int := min (min t.v1.x t.v2.x) t.v3.x
def xMax (t : Triangle) : Int := max (max t.v1.x t.v2.x) t.v3.x
def yMin (t : Triangle) : Int := min (min t.v1.y t.v2.y) t.v3.y
def yMax (t : Triangle) : Int := max (max t.v1.y t.v2.y) t.v3.y

theorem boundingBox_eq_withCorners (t : Triangle) :
    t.boundingBox = Rect.withCorners ⟨xMin t, yMin t⟩ ⟨xMax t, yMax t⟩ := rfl

theorem min3_swap12 (a b c : Int) : min (min b a) c = min (min a b) c := by
  rw [Int.min_comm b a]

theorem min3_swap23 (a b c : Int) : min (min a c) b = min (min a b) c := by
  rw [Int.min_assoc, Int.min_comm c b, ← Int.min_assoc]

theorem max3_swap12 (a b c : Int) : max (max b a) c = max (max a b) c := by
  rw [Int.max_comm b a]

theorem max3_swap23 (a b c : Int) : max (max a c) b = max (max a b) c := by
  rw [Int.max_assoc, Int.max_comm c b, ← Int.max_assoc]

theorem extremes_of_mem_orders {t t' : Triangle} (h : t' ∈ orders t) :
    xMin t' = xMin t ∧ xMax t' = xMax t ∧ yMin t' = yMin t ∧ yMax t' = yMax t :=
  ⟨eq_of_mem_orders xMin (fun a b c => min3_swap12 a.x b.x c.x) (fun a b c => min3_swap23 a.x b.x c.x) h,
   eq_of_mem_orders xMax (fun a b c => max3_swap12 a.x b.x c.x) (fun a b c => max3_swap23 a.x b.x c.x) h,
   eq_of_mem_orders yMin (fun a b c => min3_swap12 a.y b.y c.y) (fun a b c => min3_swap23 a.y b.y c.y) h,
   eq_of_mem_orders yMax (fun a b c => max3_swap12 a.y b.y c.y) (fun a b c => max3_swap23 a.y b.y c.y) h⟩

theorem min_le_max (t : Triangle) : xMin t ≤ xMax t ∧ yMin t ≤ yMax t := by
  unfold xMin xMax yMin yMax; omega

theorem vertices_within (t : Triangle) {p : Pt} (h : p = t.v1 ∨ p = t.v2 ∨ p = t.v3) :
    xMin t ≤ p.x ∧ p.x ≤ xMax t ∧ yMin t ≤ p.y ∧ p.y ≤ yMax t := by
  unfold xMin xMax yMin yMax
  rcases h with rfl | rfl | rfl <;> omega

theorem boundingBox_of_mem_orders {t t' : Triangle} (h : t' ∈ orders t) :
    t'.boundingBox = t.boundingBox := by
  obtain ⟨e1, e2, e3, e4⟩ := extremes_of_mem_orders h
  rw [boundingBox_eq_withCorners, boundingBox_eq_withCorners, e1, e2, e3, e4]

theorem natAbs_areaDoubled_of_mem_orders {t t' : Triangle} (h : t' ∈ orders t) :
    t'.areaDoubled.natAbs = t.areaDoubled.natAbs :=
  eq_of_mem_orders (fun t => t.areaDoubled.natAbs)
    (fun a b c => by rw [areaDoubled_swap12, Int.natAbs_neg])
    (fun a b c => by rw [areaDoubled_swap23, Int.natAbs_neg]) h

theorem areaDoubled_of_mem_orders {t t' : Triangle} (h : t' ∈ orders t) :
    t'.areaDoubled = t.areaDoubled ∨ t'.areaDoubled = -t.areaDoubled :=
  Int.natAbs_eq_natAbs_iff.mp (natAbs_areaDoubled_of_mem_orders h)

theorem areaDoubled_eq_zero_iff_of_mem_orders {t t' : Triangle} (h : t' ∈ orders t) :
    t'.areaDoubled = 0 ↔ t.areaDoubled = 0 := by
  rw [← Int.natAbs_eq_zero, natAbs_areaDoubled_of_mem_orders h, Int.natAbs_eq_zero]

theorem eq_of_not_yxLt {p q : Pt} (h1 : ¬ yxLt p q) (h2 : ¬ yxLt q p) : p = q := by
  rw [Pt.ext_iff']; unfold yxLt at h1 h2; omega

theorem not_yxLt_trans {p q r : Pt} (h1 : ¬ yxLt q p) (h2 : ¬ yxLt r q) : ¬ yxLt r p := by
  unfold yxLt at *; omega

theorem sortTwoYx_of_not_yxLt {p q : Pt} (h : ¬ yxLt q p) : sortTwoYx p q = (p, q) := by
  unfold sortTwoYx
  by_cases h' : yxLt p q
  · rw [if_pos h']
  · rw [if_neg h', eq_of_not_yxLt h h']

theorem sortTwoYx_comm (p q : Pt) : sortTwoYx p q = sortTwoYx q p := by
  by_cases h : yxLt q p
  · have h' : ¬ yxLt p q := by unfold yxLt at *; omega
    unfold sortTwoYx
    rw [if_pos h, if_neg h']
  · rw [sortTwoYx_of_not_yxLt h, sortTwoYx, if_neg h]

theorem sortedYx_mem_orders (t : Triangle) : sortedYx t ∈ orders t := by
  -- the eight outcomes of the three compare-and-swap steps
  simp only [sortedYx, sortTwoYx]
  repeat' split
  all_goals simp only [mem_orders, true_or, or_true]

theorem sortedYx_sorted (t : Triangle) :
    ¬ yxLt t.sortedYx.v2 t.sortedYx.v1 ∧ ¬ yxLt t.sortedYx.v3 t.sortedYx.v2 := by
  -- in each of the eight outcomes the comparisons made along the way order the result
  simp only [sortedYx, sortTwoYx]
  repeat' split
  all_goals try dsimp only at *
  all_goals
    unfold yxLt at *
    refine ⟨?_, ?_⟩ <;> omega

theorem sortedYx_y_le (t : Triangle) :
    t.sortedYx.v1.y ≤ t.sortedYx.v2.y ∧ t.sortedYx.v2.y ≤ t.sortedYx.v3.y := by
  obtain ⟨h1, h2⟩ := sortedYx_sorted t
  unfold yxLt at h1 h2
  omega

theorem eq_of_sorted_of_mem_orders {t t' : Triangle} (h : t' ∈ orders t)
    (s : ¬ yxLt t.v2 t.v1 ∧ ¬ yxLt t.v3 t.v2) (s' : ¬ yxLt t'.v2 t'.v1 ∧ ¬ yxLt t'.v3 t'.v2) :
    t' = t := by
  obtain ⟨a, b, c⟩ := t
  obtain ⟨hab, hbc⟩ := s
  have hac := not_yxLt_trans hab hbc
  rcases mem_orders.mp h with rfl | rfl | rfl | rfl | rfl | rfl <;> dsimp only at hab hbc hac s' ⊢
  · rw [eq_of_not_yxLt s'.2 hbc]
  · rw [eq_of_not_yxLt s'.1 hab]
  · obtain rfl := eq_of_not_yxLt s'.2 hac
    rw [eq_of_not_yxLt hbc hab]
  · obtain rfl := eq_of_not_yxLt s'.1 hac
    rw [eq_of_not_yxLt hbc hab]
  · rw [eq_of_not_yxLt s'.2 hab, eq_of_not_yxLt s'.1 hbc]

theorem sortedYx_of_mem_orders {t t' : Triangle} (h : t' ∈ orders t) : sortedYx t' = sortedYx t :=
  eq_of_sorted_of_mem_orders
    (mem_orders_trans (mem_orders_symm (sortedYx_mem_orders t))
      (mem_orders_trans h (sortedYx_mem_orders t')))
    (sortedYx_sorted t) (sortedYx_sorted t')

theorem sortedClockwise_mem_orders (t : Triangle) : sortedClockwise t ∈ orders t := by
  unfold sortedClockwise
  split
  · simp only [mem_orders, true_or, or_true]
  · split
    · exact self_mem_orders t
    · exact sortedYx_mem_orders t

theorem sortedClockwise_cases (t : Triangle) :
    (0 < t.areaDoubled → t.sortedClockwise = t) ∧
    (t.areaDoubled < 0 → t.sortedClockwise = ⟨t.v2, t.v1, t.v3⟩) ∧
    (t.areaDoubled = 0 → t.sortedClockwise = t.sortedYx) := by
  unfold sortedClockwise
  refine ⟨fun h => ?_, fun h => ?_, fun h => ?_⟩
  · rw [if_neg (by omega), if_pos h]
  · rw [if_pos h]
  · rw [if_neg (by omega), if_neg (by omega)]

theorem sortedClockwise_area (t : Triangle) :
    0 ≤ t.sortedClockwise.areaDoubled ∧ (t.sortedClockwise.areaDoubled = 0 ↔ t.areaDoubled = 0) := by
  obtain ⟨hpos, hneg, hzero⟩ := sortedClockwise_cases t
  by_cases h1 : t.areaDoubled < 0
  · have e := areaDoubled_swap12 t.v1 t.v2 t.v3
    have e2 : (Triangle.mk t.v1 t.v2 t.v3).areaDoubled = t.areaDoubled := rfl
    rw [hneg h1, e, e2]; omega
  · by_cases h2 : t.areaDoubled > 0
    · rw [hpos h2]; omega
    · have h0 : t.areaDoubled = 0 := by omega
      have e := (areaDoubled_eq_zero_iff_of_mem_orders (sortedYx_mem_orders t)).mpr h0
      rw [hzero h0]; omega

theorem edgeLines_of_mem_orders {t t' : Triangle} (h : t' ∈ orders t) :
    t'.edgeLines = t.edgeLines := by
  unfold edgeLines; rw [sortedYx_of_mem_orders h]

theorem edgePoints_of_mem_orders {t t' : Triangle} (h : t' ∈ orders t) :
    t'.edgePoints = t.edgePoints := by
  unfold edgePoints; rw [edgeLines_of_mem_orders h]

/-- `scanline_intersection` only looks at the sorted triple and at whether the area vanishes. -/
theorem scanlineIntersection_of_mem_orders {t t' : Triangle} (h : t' ∈ orders t) (y : Int) :
    t'.scanlineIntersection y = t.scanlineIntersection y := by
  unfold scanlineIntersection
  rw [sortedYx_of_mem_orders h]
  simp only [areaDoubled_eq_zero_iff_of_mem_orders h]

/-- The line between two vertices as the triangle code rasterises it: from the `(y, x)`-smaller to
the larger end point. -/
def sortedLine (u v : Pt) : Line := ⟨(sortTwoYx u v).1, (sortTwoYx u v).2⟩

theorem sortedLine_comm (u v : Pt) : sortedLine u v = sortedLine v u := by
  unfold sortedLine; rw [sortTwoYx_comm]

theorem sortedLine_of_not_yxLt {u v : Pt} (h : ¬ yxLt v u) : sortedLine u v = ⟨u, v⟩ := by
  unfold sortedLine; rw [sortTwoYx_of_not_yxLt h]

/-- `⟨u, v, w⟩ ∈ orders t` says that `u`, `v` are two of the three vertices, in any position. -/
theorem sortedLine_mem_edgeLines {t : Triangle} {u v w : Pt} (h : (⟨u, v, w⟩ : Triangle) ∈ orders t) :
    sortedLine u v ∈ edgeLines t := by
  obtain ⟨h12, h23⟩ := sortedYx_sorted t
  have h13 := not_yxLt_trans h12 h23
  have hs : (⟨u, v, w⟩ : Triangle) ∈ orders t.sortedYx :=
    mem_orders_trans (mem_orders_symm (sortedYx_mem_orders t)) h
  unfold edgeLines
  dsimp only
  generalize t.sortedYx = s at *
  obtain ⟨p1, p2, p3⟩ := s
  simp only [mem_orders, Triangle.mk.injEq] at hs
  dsimp only at h12 h23 h13 ⊢
  rcases hs with ⟨rfl, rfl, -⟩ | ⟨rfl, rfl, -⟩ | ⟨rfl, rfl, -⟩ | ⟨rfl, rfl, -⟩ | ⟨rfl, rfl, -⟩ |
    ⟨rfl, rfl, -⟩
  · rw [sortedLine_of_not_yxLt h12]; exact .head _
  · rw [sortedLine_of_not_yxLt h13]; exact .tail _ (.head _)
  · rw [sortedLine_comm, sortedLine_of_not_yxLt h12]; exact .head _
  · rw [sortedLine_of_not_yxLt h23]; exact .tail _ (.tail _ (.head _))
  · rw [sortedLine_comm, sortedLine_of_not_yxLt h13]; exact .tail _ (.head _)
  · rw [sortedLine_comm, sortedLine_of_not_yxLt h23]; exact .tail _ (.tail _ (.head _))

end Triangle
end EG
