/-
  EG.Lemmas.TextLayout — one line, `draw_string` against `measure_string`: widths, `draw_string` in
  closed form over the closed form of `draw_string_binary` (EG/Lemmas/FontLayout.lean), its advance
  against `bb_width`, alignment arithmetic. Chaining for fonts without character spacing: the
  binary-target calls of `s1 ++ s2` are those of `s1`, then those of `s2` started where `s1` ended; the
  advances add up; the decoration rectangle of the whole is the union of the two parts.
-/
import EG.Model.TextLayout
import EG.Lemmas.Rect
import EG.Lemmas.FontLayout
namespace EG
namespace TextLayout
open Font

theorem bbWidth_zero (f : MonoFont) : bbWidth f 0 = 0 := by simp [bbWidth]

theorem bbWidth_succ (f : MonoFont) (n : Nat) : bbWidth f (n + 1) = (n + 1) * f.cw + n * f.spacing := by
  unfold bbWidth
  rw [Nat.mul_add, Nat.add_mul n 1 f.spacing]
  omega

theorem bbWidth_one (f : MonoFont) : bbWidth f 1 = f.cw := by simpa using bbWidth_succ f 0

theorem bbWidth_succ_succ (f : MonoFont) (n : Nat) :
    bbWidth f (n + 2) = f.cw + f.spacing + bbWidth f (n + 1) := by
  rw [bbWidth_succ, bbWidth_succ, Nat.add_mul (n + 1) 1 f.cw, Nat.add_mul n 1 f.spacing]
  omega

theorem bbWidth_add (f : MonoFont) (h : f.spacing = 0) (a b : Nat) :
    bbWidth f (a + b) = bbWidth f a + bbWidth f b := by
  unfold bbWidth
  rw [h, Nat.add_mul]
  omega

theorem endPos_eq (f : MonoFont) (pos : Pt) : ∀ (n : Nat),
    endPos f pos n = ⟨pos.x + (bbWidth f n : Nat), pos.y⟩
  | 0 => by simp [endPos, bbWidth_zero]
  | n + 1 => by
    rw [Pt.ext_iff']
    simp only [endPos, cellX, Nat.add_sub_cancel, bbWidth_succ, Nat.add_mul, Nat.mul_add, Nat.one_mul,
      Int.natCast_add, Nat.succ_ne_zero, ↓reduceIte, and_true]
    omega

theorem drawStringBinary_closed (f : MonoFont) (atlas : Pt → Bool) (hasBg : Bool) (text : List Nat) (pos : Pt) :
    f.drawStringBinary atlas hasBg text pos =
      (textBCalls f atlas hasBg pos text, ⟨pos.x + (bbWidth f text.length : Nat), pos.y⟩) := by
  rw [drawStringBinary_eq, endPos_eq]

/-- x advance of `draw_string`: with a text or background colour the glyph loop (`n` cells, `n - 1`
gaps); with neither, `(cw + spacing) * n` (the `(None, None)` arm). -/
def drawAdvance (f : MonoFont) (st : Style) (n : Nat) : Nat :=
  match st.textColor, st.bgColor with
  | none, none => (f.cw + f.spacing) * n
  | _, _ => bbWidth f n

def glyphPartCalls (f : MonoFont) (atlas : Pt → Bool) (st : Style) (text : List Nat) (pos : Pt) : List Call :=
  match st.textColor, st.bgColor with
  | some tc, some bc => (textBCalls f atlas true pos text).flatMap (Mode.both tc bc).lower
  | some tc, none => (textBCalls f atlas false pos text).flatMap (Mode.fg tc).lower
  | none, some bc => (textBCalls f atlas true pos text).flatMap (Mode.bg bc).lower
  | none, none => []

def decoPartCalls (f : MonoFont) (st : Style) (n : Nat) (pos : Pt) : List Call :=
  if 0 < drawAdvance f st n then f.drawDecorations st (drawAdvance f st n) pos else []

theorem drawString_eq (f : MonoFont) (atlas : Pt → Bool) (st : Style) (text : List Nat) (position : Pt)
    (bl : Baseline) :
    f.drawString atlas st text position bl =
      (glyphPartCalls f atlas st text ⟨position.x, position.y - f.baselineOffset bl⟩ ++
        decoPartCalls f st text.length ⟨position.x, position.y - f.baselineOffset bl⟩,
       ⟨position.x + (drawAdvance f st text.length : Nat), position.y⟩) := by
  unfold MonoFont.drawString glyphPartCalls decoPartCalls drawAdvance
  cases st.textColor <;> cases st.bgColor <;>
    simp only [drawStringBinary_closed, drawDecorations_guard, Int.sub_add_cancel]

theorem drawString_calls (f : MonoFont) (atlas : Pt → Bool) (st : Style) (text : List Nat) (position : Pt)
    (bl : Baseline) :
    (f.drawString atlas st text position bl).1 =
      glyphPartCalls f atlas st text ⟨position.x, position.y - f.baselineOffset bl⟩ ++
        decoPartCalls f st text.length ⟨position.x, position.y - f.baselineOffset bl⟩ :=
  congrArg Prod.fst (drawString_eq f atlas st text position bl)

theorem drawString_next (f : MonoFont) (atlas : Pt → Bool) (st : Style) (text : List Nat) (position : Pt)
    (bl : Baseline) :
    (f.drawString atlas st text position bl).2 =
      ⟨position.x + (drawAdvance f st text.length : Nat), position.y⟩ :=
  congrArg Prod.snd (drawString_eq f atlas st text position bl)

theorem drawAdvance_eq_bbWidth (f : MonoFont) (st : Style) (n : Nat)
    (h : st.textColor ≠ none ∨ st.bgColor ≠ none ∨ f.spacing = 0 ∨ n = 0) :
    drawAdvance f st n = bbWidth f n := by
  unfold drawAdvance
  cases htc : st.textColor <;> cases hbg : st.bgColor <;> simp only
  rcases h with h | h | h | h
  · exact absurd htc h
  · exact absurd hbg h
  · unfold bbWidth; rw [h, Nat.mul_comm]; omega
  · subst h; simp [bbWidth]

theorem drawAdvance_transparent (f : MonoFont) (st : Style) (n : Nat)
    (htc : st.textColor = none) (hbg : st.bgColor = none) (hn : 0 < n) :
    drawAdvance f st n = bbWidth f n + f.spacing := by
  unfold drawAdvance bbWidth
  rw [htc, hbg]
  simp only
  obtain ⟨k, rfl⟩ : ∃ k, n = k + 1 := ⟨n - 1, by omega⟩
  rw [Nat.mul_comm, Nat.add_mul k 1, Nat.mul_add k]
  omega

theorem measureString_next (f : MonoFont) (st : Style) (text : List Nat) (position : Pt) (bl : Baseline) :
    (measureString f st text position bl).next = ⟨position.x + (bbWidth f text.length : Nat), position.y⟩ := rfl

theorem measureString_bbox (f : MonoFont) (st : Style) (text : List Nat) (position : Pt) (bl : Baseline) :
    (measureString f st text position bl).bbox =
      ⟨⟨position.x, position.y - f.baselineOffset bl⟩, ⟨bbWidth f text.length, bbHeight f st⟩⟩ := rfl

theorem alignedPos_y (f : MonoFont) (st : Style) (ts : TextStyle) (line : List Nat) (p : Pt) :
    (alignedPos f st ts line p).y = p.y := by
  unfold alignedPos
  cases ts.alignment <;> simp [measureString, Pt.zero, tdiv2]

theorem alignedPos_left (f : MonoFont) (st : Style) (ts : TextStyle) (line : List Nat) (p : Pt)
    (h : ts.alignment = .left) : alignedPos f st ts line p = p := by
  unfold alignedPos; rw [h]

theorem alignedPos_right_x (f : MonoFont) (st : Style) (ts : TextStyle) (line : List Nat) (p : Pt)
    (h : ts.alignment = .right) :
    (alignedPos f st ts line p).x = p.x - ((bbWidth f line.length : Nat) - 1) := by
  unfold alignedPos; rw [h]; simp [measureString, Pt.zero]

theorem alignedPos_center_x (f : MonoFont) (st : Style) (ts : TextStyle) (line : List Nat) (p : Pt)
    (h : ts.alignment = .center) :
    (alignedPos f st ts line p).x = p.x - tdiv2 ((bbWidth f line.length : Nat) - 1) := by
  unfold alignedPos; rw [h]; simp [measureString, Pt.zero]

/-- The font's character height and baseline fit `i32` (true of every real font; `saturating_as`
does nothing then). -/
def MetricsInRange (f : MonoFont) : Prop := f.ch ≤ 2147483648 ∧ f.baseline ≤ 2147483647
instance (f : MonoFont) : Decidable (MetricsInRange f) := by unfold MetricsInRange; exact inferInstance

theorem spacingCalls_of_no_spacing (f : MonoFont) (h : f.spacing = 0) (hasBg : Bool) (p : Pt) :
    spacingCalls f hasBg p = [] := by
  unfold spacingCalls; simp [h]

theorem textBCalls_cons (f : MonoFont) (h : f.spacing = 0) (atlas : Pt → Bool) (hasBg : Bool) (c : Nat)
    (cs : List Nat) (pos : Pt) :
    textBCalls f atlas hasBg pos (c :: cs) =
      f.glyphCalls atlas c pos ++ textBCalls f atlas hasBg ⟨pos.x + (f.cw : Int), pos.y⟩ cs := by
  cases cs with
  | nil => simp only [textBCalls, List.append_nil]
  | cons c' cs =>
    simp only [textBCalls, spacingCalls_of_no_spacing f h, List.append_nil, h, Int.natCast_zero, Int.add_zero]

theorem binCalls_append (f : MonoFont) (h : f.spacing = 0) (atlas : Pt → Bool) (hasBg : Bool) :
    ∀ (s1 s2 : List Nat) (pos : Pt),
      textBCalls f atlas hasBg pos (s1 ++ s2) =
        textBCalls f atlas hasBg pos s1 ++
          textBCalls f atlas hasBg ⟨pos.x + (bbWidth f s1.length : Nat), pos.y⟩ s2
  | [], s2, pos => by simp [textBCalls, bbWidth_zero]
  | c :: s1, s2, pos => by
    have e : (⟨pos.x + (f.cw : Int) + (bbWidth f s1.length : Nat), pos.y⟩ : Pt) =
        ⟨pos.x + (bbWidth f (c :: s1).length : Nat), pos.y⟩ := by
      rw [List.length_cons, Nat.add_comm, bbWidth_add f h, bbWidth_one, Int.natCast_add, Int.add_assoc]
    rw [List.cons_append, textBCalls_cons f h, textBCalls_cons f h, binCalls_append f h atlas hasBg s1 s2,
      List.append_assoc, e]

theorem drawAdvance_add (f : MonoFont) (h : f.spacing = 0) (st : Style) (a b : Nat) :
    drawAdvance f st (a + b) = drawAdvance f st a + drawAdvance f st b := by
  unfold drawAdvance
  cases st.textColor <;> cases st.bgColor <;> simp only [bbWidth_add f h, Nat.mul_add]

theorem decoRect_split (off h : Nat) (pos : Pt) (w1 w2 : Nat) (q : Pt) :
    (decoRect off h pos (w1 + w2)).contains q = true ↔
      (decoRect off h pos w1).contains q = true ∨
        (decoRect off h ⟨pos.x + (w1 : Int), pos.y⟩ w2).contains q = true := by
  simp only [Rect.contains_iff, decoRect, Int.natCast_add]
  omega

end TextLayout
end EG
