/-
  EG.Lemmas.CheckedText — range theorems of the text metrics (`LineHeight::to_absolute`,
  `measure_string`, the alignment shift and the line advance of `Text::lines()`,
  `Text::bounding_box()`), for texts of `k` lines of `n` characters in a monospaced font.

  Text domain `InDomain` (display scale: positions +-1024, line height <= 1024 px or 400 % of a glyph
  height <= 1024, i.e. <= 4096):
    positions within +-2^20, line height (after `to_absolute`) <= 2^20, at most 1024 lines,
    line width `n * (cw + sp) <= 2^27` (e.g. 65536 characters of 2048 px), glyph height <= 2^20.
-/
import EG.Lemmas.Checked
import EG.Model.CheckedData
namespace EG.Chk.TextM
open EG EG.Chk EG.TextM

theorem tdiv2_zero : tdiv2 (0 : Int) = 0 := by decide

/-- `base * percent` fits `u32` (nothing to check for `LineHeight::Pixels`). -/
def PercentFits (base : Nat) : LineHeight → Prop
  | .pixels _ => True
  | .percent p => base * p ≤ 4294967295

theorem toAbsolute_ok {lh : LineHeight} {base : Nat}
    (h : PercentFits base lh) :
    toAbsolute lh base = some (EG.TextM.toAbsolute lh base) := by
  cases lh with
  | pixels px => rfl
  | percent p => exact (chkU32_bind h).trans rfl

theorem lineHeight_ok {m : Metrics} {lh : LineHeight}
    (h : PercentFits m.ch lh) :
    lineHeight m lh = some (EG.TextM.lineHeight m lh) := by
  unfold lineHeight EG.TextM.lineHeight
  rw [toAbsolute_ok h]; rfl

theorem lineWidth_ok {m : Metrics} {n : Nat} (hn : n ≤ 4294967295)
    (h : n * (m.cw + m.sp) ≤ 4294967295) (hs : m.cw + m.sp ≤ 4294967295) :
    lineWidth m n = some (EG.TextM.lineWidth m n) := by
  rw [lineWidth, Nat.mod_eq_of_lt (by omega), chkU32_bind hs, chkU32_bind h]
  rfl

theorem satAsI32_bounds (n : Nat) : 0 ≤ satAsI32 n ∧ satAsI32 n ≤ 2147483647 ∧ satAsI32 n ≤ n := by
  unfold satAsI32; split <;> omega

theorem baselineOffset_bounds (m : Metrics) (bl : Baseline) :
    0 ≤ baselineOffset m bl ∧ baselineOffset m bl ≤ max (m.ch : Int) m.bl := by
  unfold baselineOffset
  cases bl <;> simp only
  · omega
  · have := satAsI32_bounds (m.ch - 1); omega
  · have := satAsI32_bounds ((m.ch - 1) / 2); omega
  · have := satAsI32_bounds m.bl; omega

/-- `x`, glyph height, baseline and line width up to `2^29`; `y` within `+-1.2e9` (room for the
line positions of `minMax_some`, up to `1025 * 2^20`). -/
theorem measureString_ok {m : Metrics} {bl : Baseline} {n : Nat} {p : Pt}
    (hp : (-536870912 ≤ p.x ∧ p.x ≤ 536870912) ∧ (-1200000000 ≤ p.y ∧ p.y ≤ 1200000000))
    (hm : m.ch ≤ 536870912 ∧ m.bl ≤ 536870912) (hn : n ≤ 4294967295)
    (hw : n * (m.cw + m.sp) ≤ 536870912) (hs : m.cw + m.sp ≤ 4294967295) :
    measureString m bl n p =
      some (⟨⟨p.x, p.y - baselineOffset m bl⟩, ⟨EG.TextM.lineWidth m n, m.ch⟩⟩,
            ⟨p.x + EG.TextM.lineWidth m n, p.y⟩) := by
  have hb := baselineOffset_bounds m bl
  have hlw : EG.TextM.lineWidth m n ≤ 536870912 := by unfold EG.TextM.lineWidth; omega
  rw [measureString, ptSub_ok (by simp only; omega), some_bind, lineWidth_ok hn (by omega) hs, some_bind,
    ptAddSize_ok (by simp only; omega)]
  rw [show p - ⟨0, baselineOffset m bl⟩ = (⟨p.x, p.y - baselineOffset m bl⟩ : Pt) from
    Pt.ext_iff'.2 ⟨Int.sub_zero _, rfl⟩, some_bind, Int.natCast_zero, Int.add_zero]
  rfl

theorem alignedPos_ok {m : Metrics} {bl : Baseline} (al : Alignment) {n : Nat} {p : Pt}
    (hp : (-1073741824 ≤ p.x ∧ p.x ≤ 1073741824) ∧ (-2147483648 ≤ p.y ∧ p.y ≤ 2147483647))
    (hm : m.ch ≤ 536870912 ∧ m.bl ≤ 536870912) (hn : n ≤ 4294967295)
    (hw : n * (m.cw + m.sp) ≤ 536870912) (hs : m.cw + m.sp ≤ 4294967295) :
    alignedPos m bl al p n =
      some (match al with
        | .left => p
        | .right => ⟨p.x - ((EG.TextM.lineWidth m n : Int) - 1), p.y⟩
        | .center => ⟨p.x - tdiv2 ((EG.TextM.lineWidth m n : Int) - 1), p.y⟩) := by
  have hlw : EG.TextM.lineWidth m n ≤ 536870912 := by unfold EG.TextM.lineWidth; omega
  have h1 := tdiv2_bounds ((EG.TextM.lineWidth m n : Int) - 1)
  unfold alignedPos
  cases al with
  | left => rfl
  | right =>
    simp only
    rw [measureString_ok (by decide) hm hn hw hs, some_bind,
      ptSub_ok (by simp only [Pt.zero]; omega), some_bind,
      ptSub_ok (by simp only [Pt.sub_x, Pt.sub_y, Pt.zero]; omega)]
    exact congrArg some (Pt.ext_iff'.2 (by simp only [Pt.sub_x, Pt.sub_y, Pt.zero]; omega))
  | center =>
    simp only
    rw [measureString_ok (by decide) hm hn hw hs, some_bind,
      ptSub_ok (by simp only [Pt.zero]; omega), some_bind,
      ptSub_ok (by simp only [Pt.sub_x, Pt.sub_y, Pt.zero, Int.zero_add, Int.sub_zero, tdiv2_zero]; omega)]
    exact congrArg some (Pt.ext_iff'.2
      (by simp only [Pt.sub_x, Pt.sub_y, Pt.zero, Int.zero_add, Int.sub_zero, tdiv2_zero, and_self]))

structure InDomain (m : Metrics) (lh : LineHeight) (pos : Pt) (k n : Nat) : Prop where
  px : -1048576 ≤ pos.x ∧ pos.x ≤ 1048576
  py : -1048576 ≤ pos.y ∧ pos.y ≤ 1048576
  lhv : match lh with | .pixels px => px ≤ 1048576 | .percent p => m.ch * p ≤ 104857600
  lines : k ≤ 1024
  chars : n ≤ 4294967295
  width : n * (m.cw + m.sp) ≤ 134217728
  cell : m.cw + m.sp ≤ 4294967295
  glyph : m.ch ≤ 1048576 ∧ m.bl ≤ 1048576

theorem InDomain.lineHeight_le {m : Metrics} {lh : LineHeight} {pos : Pt} {k n : Nat}
    (h : InDomain m lh pos k n) :
    0 ≤ EG.TextM.lineHeight m lh ∧ EG.TextM.lineHeight m lh ≤ 1048576 := by
  have hl := h.lhv
  unfold EG.TextM.lineHeight EG.TextM.toAbsolute
  cases lh with
  | pixels px =>
    simp only at hl ⊢
    have := satAsI32_bounds px; omega
  | percent p =>
    simp only at hl ⊢
    have := satAsI32_bounds (m.ch * p / 100); omega

theorem InDomain.lhv' {m : Metrics} {lh : LineHeight} {pos : Pt} {k n : Nat}
    (h : InDomain m lh pos k n) :
    PercentFits m.ch lh := by
  have hl := h.lhv
  cases lh with
  | pixels px => trivial
  | percent p => simp only [PercentFits] at hl ⊢; omega

/-- `Text::lines()`: every aligned position and every advance `position.y += line_height` (one per
line, also after the last) stays inside `i32`; line `i` sits at `linePos .. i`. -/
theorem lines_ok {m : Metrics} {lh : LineHeight} {bl : Baseline} (al : Alignment) {n : Nat}
    (hlh : PercentFits m.ch lh)
    (hH : 0 ≤ EG.TextM.lineHeight m lh ∧ EG.TextM.lineHeight m lh ≤ 1048576)
    (hm : m.ch ≤ 536870912 ∧ m.bl ≤ 536870912) (hn : n ≤ 4294967295)
    (hw : n * (m.cw + m.sp) ≤ 536870912) (hs : m.cw + m.sp ≤ 4294967295) :
    ∀ (k : Nat) (pos : Pt), (-1048576 ≤ pos.x ∧ pos.x ≤ 1048576) →
      (-1048576 ≤ pos.y ∧ pos.y + (k : Int) * 1048576 ≤ 1048576 + 1024 * 1048576) →
      lines m lh bl al n k pos =
        some ((List.range k).map (fun i => linePos m lh al pos n i)) := by
  intro k
  induction k with
  | zero => intro pos _ _; rfl
  | succ k ih =>
    intro pos hx hy
    unfold lines
    rw [alignedPos_ok al (by omega) hm hn hw hs, lineHeight_ok hlh]
    chk_simp
    have hk : ((k + 1 : Nat) : Int) * 1048576 = (k : Int) * 1048576 + 1048576 := by
      push_cast; omega
    rw [ih ⟨pos.x, pos.y + EG.TextM.lineHeight m lh⟩ hx (by simp only; omega)]
    chk_simp
    rw [List.range_succ_eq_map, List.map_cons, List.map_map]
    congr 1
    cases al <;> simp [linePos] <;> (intro a _; rw [Int.add_mul, Int.one_mul]; omega)

theorem linePos_bounds {m : Metrics} {lh : LineHeight} (al : Alignment) {pos : Pt} {n : Nat}
    (hx : -1048576 ≤ pos.x ∧ pos.x ≤ 1048576) (hy : -1048576 ≤ pos.y ∧ pos.y ≤ 1048576)
    (hH : 0 ≤ EG.TextM.lineHeight m lh ∧ EG.TextM.lineHeight m lh ≤ 1048576)
    (hw : n * (m.cw + m.sp) ≤ 134217728) {i : Nat} (hi : i < 1024) :
    (-268435456 ≤ (linePos m lh al pos n i).x ∧ (linePos m lh al pos n i).x ≤ 268435456) ∧
    (-268435456 ≤ (linePos m lh al pos n i).y ∧ (linePos m lh al pos n i).y ≤ 1048576 + 1024 * 1048576) := by
  have hlw : EG.TextM.lineWidth m n ≤ 134217728 := by unfold EG.TextM.lineWidth; omega
  have hi' : 0 ≤ (i : Int) * EG.TextM.lineHeight m lh ∧
      (i : Int) * EG.TextM.lineHeight m lh ≤ 1024 * 1048576 :=
    ⟨Int.mul_nonneg (by omega) hH.1, Int.mul_le_mul (by omega) hH.2 hH.1 (by omega)⟩
  have h1 := tdiv2_bounds ((EG.TextM.lineWidth m n : Int) - 1)
  unfold linePos
  cases al <;> simp only <;> omega

theorem min_max_in {lo hi a b : Int} (ha : lo ≤ a ∧ a ≤ hi) (hb : lo ≤ b ∧ b ≤ hi) :
    (lo ≤ min a b ∧ min a b ≤ hi) ∧ (lo ≤ max a b ∧ max a b ≤ hi) := by omega

/-- The accumulated corners of `update_min_max` stay well inside `i32`: round bounds above what a
box measured at a point of `minMax_some` reaches (`x <= 2^28 + 2^28`, `y` from `-2^28 - 2^20` to
`1025 * 2^20 + 2^20`). -/
def CornersIn (acc : Option (Pt × Pt)) : Prop :=
  ∀ mn mx, acc = some (mn, mx) →
    (-300000000 ≤ mn.x ∧ mn.x ≤ 600000000) ∧ (-300000000 ≤ mn.y ∧ mn.y ≤ 1100000000) ∧
    (-300000000 ≤ mx.x ∧ mx.x ≤ 600000000) ∧ (-300000000 ≤ mx.y ∧ mx.y ≤ 1100000000)

/-- `update_min_max` over measured lines never panics and keeps the corners in range: each measured box
lies in the range, and `min` / `max` of two numbers in a range stay in it. -/
theorem minMax_some {m : Metrics} {bl : Baseline} {n : Nat}
    (hm : m.ch ≤ 1048576 ∧ m.bl ≤ 1048576) (hn : n ≤ 4294967295)
    (hw : n * (m.cw + m.sp) ≤ 268435456) (hs : m.cw + m.sp ≤ 4294967295) :
    ∀ (ps : List Pt) (acc : Option (Pt × Pt)),
      (∀ p ∈ ps, (-268435456 ≤ p.x ∧ p.x ≤ 268435456) ∧ (-268435456 ≤ p.y ∧ p.y ≤ 1074790400)) →
      CornersIn acc → ∃ r, minMax m bl n ps acc = some r ∧ CornersIn r
  | [], acc, _, hacc => ⟨acc, rfl, hacc⟩
  | p :: ps, acc, hps, hacc => by
    obtain ⟨⟨⟨_, _⟩, ⟨_, _⟩⟩, hps'⟩ := List.forall_mem_cons.mp hps
    have hb := baselineOffset_bounds m bl
    have hlw : EG.TextM.lineWidth m n ≤ 268435456 := by unfold EG.TextM.lineWidth; omega
    rw [minMax, measureString_ok (by omega) (by omega) hn (by omega) hs, some_bind]
    simp only
    rw [bottomRight_of_brFits (by unfold BrFits inI32Pt; simp only; omega), some_bind]
    cases hbrv : Rect.bottomRight ⟨⟨p.x, p.y - baselineOffset m bl⟩, ⟨EG.TextM.lineWidth m n, m.ch⟩⟩ with
    | none => exact minMax_some hm hn hw hs ps acc hps' hacc
    | some br =>
      have hbe := Rect.bottomRight_eq hbrv
      simp only at hbe
      have hbox : (-300000000 ≤ p.x ∧ p.x ≤ 600000000) ∧
          (-300000000 ≤ p.y - baselineOffset m bl ∧ p.y - baselineOffset m bl ≤ 1100000000) ∧
          (-300000000 ≤ br.x ∧ br.x ≤ 600000000) ∧ (-300000000 ≤ br.y ∧ br.y ≤ 1100000000) := by omega
      cases acc with
      | none =>
        refine minMax_some hm hn hw hs ps _ hps' (fun mn mx he => ?_)
        cases he
        exact hbox
      | some a =>
        have ha := hacc a.1 a.2 rfl
        refine minMax_some hm hn hw hs ps _ hps' (fun mn mx he => ?_)
        cases he
        exact ⟨(min_max_in ha.1 hbox.1).1, (min_max_in ha.2.1 hbox.2.1).1,
          (min_max_in ha.2.2.1 hbox.2.2.1).2, (min_max_in ha.2.2.2 hbox.2.2.2).2⟩

end EG.Chk.TextM
