/-
  EG.Lemmas.Polyline — `polyline::Points` (state machine) = the union of the segment lines with
  each joint once: the specification `pointsSpec` (first segment line, then `tailSegs`: every later
  segment without its first point) and what a state of the iterator still yields (`PointsIt.rest`,
  `PointsIt.yields`).
-/
import EG.Lemmas.LineProps
import EG.Model.Polyline
namespace EG
namespace Polyline

/-- The segments after the first: each contributes its points without its first point. -/
def tailSegs (tr : Pt) : List Pt → List Pt
  | [] => []
  | [_] => []
  | a :: b :: rest => (Line.points ⟨a + tr, b + tr⟩).tail ++ tailSegs tr (b :: rest)

/-- Specification of `Polyline::points()`: `seg0.points ++ seg1.points.tail ++ seg2.points.tail ++ ..`
(nothing for fewer than two vertices). -/
def pointsSpec (pl : Polyline) : List Pt :=
  match pl.vertices with
  | [] => []
  | [_] => []
  | a :: b :: rest =>
    Line.points ⟨a + pl.translate, b + pl.translate⟩ ++ tailSegs pl.translate (b :: rest)

/-- Closed form of what the iterator state still has to yield. -/
def PointsIt.rest (it : PointsIt) : List Pt :=
  it.segmentIter.toList ++ tailSegs it.translate it.vertices

/-- One call of `next` may step to the next segment once per remaining vertex (the recursion through
`nth(1)`), so the fuel counts the vertices that are left. -/
theorem PointsIt.nextFuel_spec : ∀ (fuel : Nat) (it : PointsIt), it.vertices.length < fuel →
    it.rest = unroll (it.nextFuel fuel) PointsIt.rest := by
  intro fuel
  induction fuel with
  | zero => intro it h; omega
  | succ fuel ih =>
    intro it hlen
    unfold PointsIt.nextFuel PointsIt.rest
    rw [Line.PointsIt.yields it.segmentIter]
    cases it.segmentIter.next with
    | some r => rfl
    | none =>
      rw [unroll, List.nil_append]
      cases hv : it.vertices with
      | nil => rfl
      | cons start rest =>
        cases hr : rest with
        | nil => rfl
        | cons stop more =>
          rw [hv, hr, List.length_cons, List.length_cons] at hlen
          obtain ⟨f, rfl⟩ : ∃ f, fuel = f + 1 := ⟨fuel - 1, by omega⟩
          -- first call of `next` inside `nth(1)`: the first point of the new segment, discarded
          obtain ⟨p0, seg1, hn⟩ := Line.pointsIt_next ⟨start + it.translate, stop + it.translate⟩
          have hpts : Line.points ⟨start + it.translate, stop + it.translate⟩ = p0 :: seg1.toList := by
            rw [Line.points, Line.PointsIt.yields, hn]; rfl
          dsimp only
          rw [PointsIt.nextFuel, hn]
          -- second call: by induction
          rw [tailSegs, hpts, List.tail_cons]
          exact ih { vertices := stop :: more, translate := it.translate, segmentIter := seg1 }
            (by rw [List.length_cons]; omega)

theorem PointsIt.yields : Yields PointsIt.next PointsIt.rest :=
  fun it => PointsIt.nextFuel_spec _ it (by omega)

theorem PointsIt.drains : Drains PointsIt.next PointsIt.toListFuel :=
  ⟨fun _ => rfl, fun n it => by rw [PointsIt.toListFuel]; cases it.next <;> rfl⟩

theorem tailSegs_length (tr : Pt) : ∀ vs : List Pt, (tailSegs tr vs).length < budget tr vs
  | [] => by simp [tailSegs, budget]
  | [_] => by simp [tailSegs, budget]
  | a :: b :: rest => by
    have ih := tailSegs_length tr (b :: rest)
    simp only [tailSegs, budget, List.length_append, List.length_tail, Line.points_length',
      Line.majorLength_eq]
    omega

theorem line_empty_toList : Line.PointsIt.empty.toList = [] := rfl

theorem points_eq_spec (pl : Polyline) : pl.points = pl.pointsSpec := by
  unfold points pointsSpec pointsIt
  cases hv : pl.vertices with
  | nil =>
    simp only
    rw [PointsIt.drains.eq_rest PointsIt.yields] <;> simp [PointsIt.rest, line_empty_toList, tailSegs, budget]
  | cons a rest =>
    cases hr : rest with
    | nil =>
      simp only
      rw [PointsIt.drains.eq_rest PointsIt.yields] <;> simp [PointsIt.rest, line_empty_toList, tailSegs, budget]
    | cons b more =>
      simp only
      rw [PointsIt.drains.eq_rest PointsIt.yields]
      · rfl
      · have := tailSegs_length pl.translate (b :: more)
        simp only [PointsIt.rest, List.length_append, budget]
        have hl : (Line.pointsIt ⟨a + pl.translate, b + pl.translate⟩).toList.length =
            majorLength ⟨a + pl.translate, b + pl.translate⟩ := by
          have := Line.points_length' ⟨a + pl.translate, b + pl.translate⟩
          rw [Line.majorLength_eq]; exact this
        omega

/-- A segment line of the polyline moved by `d` (the `translate` field grows by `d`). -/
theorem segLine_translate (tr d a b : Pt) :
    Line.points ⟨a + (tr + d), b + (tr + d)⟩ = (Line.points ⟨a + tr, b + tr⟩).map (· + d) := by
  rw [← Line.points_translate]
  congr 1
  simp only [Line.translate, Line.mk.injEq, Pt.ext_iff', Pt.add_x, Pt.add_y]
  refine ⟨⟨?_, ?_⟩, ?_, ?_⟩ <;> omega

theorem tailSegs_translate (tr d : Pt) : ∀ ws : List Pt,
    tailSegs (tr + d) ws = (tailSegs tr ws).map (· + d)
  | [] => rfl
  | [_] => rfl
  | a :: b :: u => by
    simp only [tailSegs, List.map_append, segLine_translate, List.map_tail]
    rw [tailSegs_translate tr d (b :: u)]

theorem points_translateBy (tr d : Pt) (vs : List Pt) :
    Polyline.points ((⟨tr, vs⟩ : Polyline).translateBy d) = (Polyline.points ⟨tr, vs⟩).map (· + d) := by
  rw [points_eq_spec, points_eq_spec]
  unfold pointsSpec translateBy
  match vs with
  | [] => rfl
  | [_] => rfl
  | a :: b :: u =>
    simp only [List.map_append, segLine_translate, tailSegs_translate]

end Polyline
end EG
