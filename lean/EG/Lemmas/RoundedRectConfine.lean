/-
  EG.Lemmas.RoundedRectConfine — `CornerRadii::confine`: pure integer arithmetic.
  The loop keeps the side with the smallest ratio `size / corner_size` (cross-multiplied), starting
  from `1 / 1`; every radius is scaled by that ratio (rounding down). `Fits` (along each side the two
  radii add up to at most the side) is what `confine` establishes and what leaves it the identity;
  `map` / `All` speak about the four radii at once.
-/
import EG.Model.RoundedRect
namespace EG
namespace CornerRadii

/-- ratio `p.1 / p.2` is at most ratio `q.1 / q.2` (cross-multiplied) -/
def RatioLe (p q : Nat × Nat) : Prop := p.1 * q.2 ≤ q.1 * p.2

theorem RatioLe.refl (p : Nat × Nat) : RatioLe p p := Nat.le_refl _

theorem RatioLe.trans {p q r : Nat × Nat} (h1 : RatioLe p q) (h2 : RatioLe q r) (hq : 0 < q.2) :
    RatioLe p r := by
  unfold RatioLe at *
  apply Nat.le_of_mul_le_mul_right _ hq
  calc p.1 * r.2 * q.2 = p.1 * q.2 * r.2 := Nat.mul_right_comm _ _ _
    _ ≤ q.1 * p.2 * r.2 := Nat.mul_le_mul_right _ h1
    _ = q.1 * r.2 * p.2 := Nat.mul_right_comm _ _ _
    _ ≤ r.1 * q.2 * p.2 := Nat.mul_le_mul_right _ h2
    _ = r.1 * p.2 * q.2 := Nat.mul_right_comm _ _ _

theorem confineStep_spec (acc s : Nat × Nat) (hacc : 0 < acc.2) :
    0 < (confineStep acc s).2 ∧ RatioLe (confineStep acc s) acc ∧ RatioLe (confineStep acc s) s := by
  unfold confineStep
  by_cases h : s.1 * acc.2 < acc.1 * s.2
  · simp only [h, ↓reduceIte]
    refine ⟨?_, ?_, RatioLe.refl _⟩
    · cases hs : s.2 with
      | zero => rw [hs] at h; simp at h
      | succ n => omega
    · unfold RatioLe; omega
  · simp only [h, ↓reduceIte]
    refine ⟨hacc, RatioLe.refl _, ?_⟩
    unfold RatioLe; omega

theorem foldl_confineStep_spec : ∀ (l : List (Nat × Nat)) (acc : Nat × Nat), 0 < acc.2 →
    0 < (l.foldl confineStep acc).2 ∧ RatioLe (l.foldl confineStep acc) acc ∧
      ∀ s ∈ l, RatioLe (l.foldl confineStep acc) s := by
  intro l
  induction l with
  | nil => intro acc h; exact ⟨h, RatioLe.refl _, fun s hs => by cases hs⟩
  | cons t l ih =>
    intro acc hacc
    obtain ⟨h1, h2, h3⟩ := confineStep_spec acc t hacc
    obtain ⟨i1, i2, i3⟩ := ih (confineStep acc t) h1
    simp only [List.foldl_cons]
    refine ⟨i1, i2.trans h2 h1, ?_⟩
    intro s hs
    rcases List.mem_cons.mp hs with rfl | hs'
    · exact i2.trans h3 h1
    · exact i3 s hs'

theorem factor_spec (c : CornerRadii) (bb : Sz) :
    0 < (c.factor bb).2 ∧ (c.factor bb).1 ≤ (c.factor bb).2 ∧
      ∀ s ∈ c.sides bb, (c.factor bb).1 * s.2 ≤ s.1 * (c.factor bb).2 := by
  obtain ⟨h1, h2, h3⟩ := foldl_confineStep_spec (c.sides bb) (1, 1) (by decide)
  refine ⟨h1, ?_, h3⟩
  have := h2
  unfold RatioLe at this
  simp only [Nat.mul_one, Nat.one_mul] at this
  exact this

/-- Two radii along a side whose ratio bounds the factor fit into the side after scaling. -/
theorem scale_pair_le {f : Nat × Nat} (hf : 0 < f.2) {side a b : Nat}
    (h : f.1 * (a + b) ≤ side * f.2) : scaleLength f a + scaleLength f b ≤ side := by
  unfold scaleLength
  apply Nat.le_of_mul_le_mul_right _ hf
  have h1 : a * f.1 / f.2 * f.2 ≤ a * f.1 := Nat.div_mul_le_self _ _
  have h2 : b * f.1 / f.2 * f.2 ≤ b * f.1 := Nat.div_mul_le_self _ _
  calc (a * f.1 / f.2 + b * f.1 / f.2) * f.2 = a * f.1 / f.2 * f.2 + b * f.1 / f.2 * f.2 :=
        Nat.add_mul _ _ _
    _ ≤ a * f.1 + b * f.1 := Nat.add_le_add h1 h2
    _ = f.1 * (a + b) := by rw [← Nat.add_mul, Nat.mul_comm]
    _ ≤ side * f.2 := h

theorem scaleLength_le {f : Nat × Nat} (hf : f.1 ≤ f.2) (a : Nat) : scaleLength f a ≤ a := by
  unfold scaleLength
  apply Nat.div_le_of_le_mul
  rw [Nat.mul_comm f.2 a]
  exact Nat.mul_le_mul_left _ hf

/-- For each of the four sides the two radii along it add up to at most the side. -/
def Fits (c : CornerRadii) (bb : Sz) : Prop :=
  c.tl.w + c.tr.w ≤ bb.w ∧ c.tr.h + c.br.h ≤ bb.h ∧ c.bl.w + c.br.w ≤ bb.w ∧ c.tl.h + c.bl.h ≤ bb.h
instance (c : CornerRadii) (bb : Sz) : Decidable (c.Fits bb) := by unfold Fits; exact inferInstance

def map (f : Sz → Sz) (c : CornerRadii) : CornerRadii := ⟨f c.tl, f c.tr, f c.br, f c.bl⟩

def All (P : Sz → Prop) (c : CornerRadii) : Prop := P c.tl ∧ P c.tr ∧ P c.br ∧ P c.bl

theorem All.imp {P Q : Sz → Prop} (h : ∀ s, P s → Q s) {c : CornerRadii} (hc : c.All P) : c.All Q :=
  ⟨h _ hc.1, h _ hc.2.1, h _ hc.2.2.1, h _ hc.2.2.2⟩

theorem all_map {P : Sz → Prop} {f : Sz → Sz} {c : CornerRadii} :
    (c.map f).All P ↔ c.All (fun s => P (f s)) := Iff.rfl

theorem map_congr {f g : Sz → Sz} {c : CornerRadii} (h : c.All (fun s => f s = g s)) :
    c.map f = c.map g := by
  obtain ⟨h1, h2, h3, h4⟩ := h
  unfold map
  rw [h1, h2, h3, h4]

theorem Fits.all_le {c : CornerRadii} {bb : Sz} (h : c.Fits bb) :
    c.All (fun s => s.w ≤ bb.w ∧ s.h ≤ bb.h) := by
  unfold Fits at h
  unfold All
  omega

theorem confine_fits (c : CornerRadii) (bb : Sz) : (c.confine bb).Fits bb := by
  obtain ⟨hpos, hle, hs⟩ := factor_spec c bb
  have s1 := hs (bb.w, c.tl.w + c.tr.w) (by simp [sides])
  have s2 := hs (bb.h, c.tr.h + c.br.h) (by simp [sides])
  have s3 := hs (bb.w, c.bl.w + c.br.w) (by simp [sides])
  have s4 := hs (bb.h, c.tl.h + c.bl.h) (by simp [sides])
  simp only at s1 s2 s3 s4
  unfold confine
  by_cases hlt : (c.factor bb).1 < (c.factor bb).2
  · simp only [hlt, ↓reduceIte]
    exact ⟨scale_pair_le hpos s1, scale_pair_le hpos s2, scale_pair_le hpos s3, scale_pair_le hpos s4⟩
  · simp only [hlt, ↓reduceIte]
    have he : (c.factor bb).1 = (c.factor bb).2 := by omega
    rw [he] at s1 s2 s3 s4
    -- factor `1`: cancel it
    have cancel : ∀ {a n : Nat}, (c.factor bb).2 * a ≤ n * (c.factor bb).2 → a ≤ n := fun h =>
      Nat.le_of_mul_le_mul_right (Nat.mul_comm _ _ ▸ h) hpos
    exact ⟨cancel s1, cancel s2, cancel s3, cancel s4⟩

theorem confineStep_one {side : Nat × Nat} (h : side.2 ≤ side.1) : confineStep (1, 1) side = (1, 1) := by
  unfold confineStep
  rw [if_neg (by omega)]

theorem factor_of_fits (c : CornerRadii) (bb : Sz) (h : c.Fits bb) : c.factor bb = (1, 1) := by
  obtain ⟨h1, h2, h3, h4⟩ := h
  unfold factor sides
  simp only [List.foldl_cons, List.foldl_nil]
  rw [confineStep_one h1, confineStep_one h2, confineStep_one h3, confineStep_one h4]

theorem confine_noop (c : CornerRadii) (bb : Sz) (h : c.Fits bb) : c.confine bb = c := by
  unfold confine
  rw [factor_of_fits c bb h]
  simp

theorem confine_confine (c : CornerRadii) (bb : Sz) :
    (c.confine bb).confine bb = c.confine bb :=
  confine_noop _ bb (confine_fits c bb)

theorem confine_radius_le (c : CornerRadii) (bb : Sz) :
    (c.confine bb).tl.w ≤ bb.w ∧ (c.confine bb).tl.h ≤ bb.h ∧
    (c.confine bb).tr.w ≤ bb.w ∧ (c.confine bb).tr.h ≤ bb.h ∧
    (c.confine bb).br.w ≤ bb.w ∧ (c.confine bb).br.h ≤ bb.h ∧
    (c.confine bb).bl.w ≤ bb.w ∧ (c.confine bb).bl.h ≤ bb.h := by
  obtain ⟨⟨h1, h2⟩, ⟨h3, h4⟩, ⟨h5, h6⟩, h7, h8⟩ := (confine_fits c bb).all_le
  exact ⟨h1, h2, h3, h4, h5, h6, h7, h8⟩

end CornerRadii
end EG
