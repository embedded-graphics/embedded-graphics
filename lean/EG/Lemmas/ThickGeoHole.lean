/-
  EG.Lemmas.ThickGeoHole — a stroked line is SOLID: every lattice point within `w/2 - 1` of the
  ideal line whose projection lies at least one major step inside both ends is a stroked pixel.
  Every lattice point lies in exactly one band `tau n` (`band_index`); the accumulator that ends
  the run exceeds `2 w L` and counts at most `2 D` per parallel, so the bands of the points within
  `w/2 - 1` of the line have all been yielded (`idx_bound`); and a point of a band whose projection
  is a major step inside both ends lies in one of the columns of the band's parallel
  (`band_column`).
-/
import EG.Lemmas.ThickGeoMain
set_option linter.unusedSimpArgs false
namespace EG
namespace Thick
open ParallelsIterator StrokeCtx Line

theorem band_column (c : StrokeCtx) (hv : c.Valid) (s : Pt) (K : Int) (b : Bresenham)
    (ty : ParallelLineType) (hok : ParOK c s K b ty) (n : Nat)
    (hn1 : ty = .normal → (n : Int) = c.D + 1) (hn2 : ty = .extra → (n : Int) = c.D) (q : Pt)
    (hb1 : -c.D < c.ph q - c.ph s - K) (hb2 : c.ph q - c.ph s - K ≤ c.D)
    (h1 : 2 * c.D ≤ 2 * (c.dt q - c.dt s))
    (h2 : 2 * (c.dt q - c.dt s) ≤ 2 * (c.D * c.D + c.d * c.d) - 2 * c.D) :
    q ∈ parPts n b c.pp := by
  obtain ⟨e1, e2⟩ := parOK_err hv hok
  obtain ⟨hK, _, o1, o2⟩ := hok
  -- coordinates of `q` relative to the start of the parallel
  obtain ⟨k, hk⟩ : ∃ k, c.amaj q = c.amaj b.point + k := ⟨c.amaj q - c.amaj b.point, by omega⟩
  obtain ⟨j, hj⟩ : ∃ j, c.amin q = c.amin b.point + j := ⟨c.amin q - c.amin b.point, by omega⟩
  have hph : c.ph q - c.ph b.point = 2 * c.d * k - 2 * c.D * j := by
    unfold ph; rw [hk, hj]; ring
  have hdt : c.dt q - c.dt b.point = c.D * k + c.d * j := by
    unfold dt; rw [hk, hj]; ring
  have hcol := band_column_arith c.D c.d b.error k j (2 * (c.dt b.point - c.dt s)) n hv.hD hv.hd0
    hv.hdD e1
    (by cases ty with
        | normal => exact (o1 rfl).1
        | extra => have := o2 rfl; have := hv.hdD; omega)
    (by omega) (by omega)
    (by cases ty with
        | normal => exact Or.inl ⟨hn1 rfl, (o1 rfl).2⟩
        | extra => exact Or.inr ⟨hn2 rfl, (o2 rfl).2.2⟩)
    (by omega) (by omega)
  apply parPts_complete c hv n b e1 e2 q
  · omega
  · omega
  · unfold InBandK bandK
    constructor <;> omega

/-- **A stroked line is solid**: a lattice point `q` whose band value `X = ph q - ph start`
(`= -+ 2 cross(q)`) satisfies `X^2 <= (w - 2)^2 L2` (perpendicular distance at most `w/2 - 1`) and
whose projection lies at least a major step inside both ends is a stroked pixel. -/
theorem thickPoints_solid (l : Line) (hnd : l.start ≠ l.stop) (w : Nat) (hw : 2 ≤ w)
    (hw2 : w ≤ 2147483647) (ps : List Pt) (hps : thickPoints l w = some ps) (q : Pt)
    (hX : ((ctxOf l).ph q - (ctxOf l).ph l.start) * ((ctxOf l).ph q - (ctxOf l).ph l.start) ≤
      ((w : Int) - 2) * ((w : Int) - 2) * ((ctxOf l).D * (ctxOf l).D + (ctxOf l).d * (ctxOf l).d))
    (h1 : (ctxOf l).D ≤ (ctxOf l).dt q - (ctxOf l).dt l.start)
    (h2 : (ctxOf l).dt q - (ctxOf l).dt l.start ≤
      (ctxOf l).D * (ctxOf l).D + (ctxOf l).d * (ctxOf l).d - (ctxOf l).D) : q ∈ ps := by
  have hv := ctxOf_valid l
  have hfr := frameOK_ctxOf l
  have hsat : satAsI32 w = (w : Int) := by unfold satAsI32; simp only [hw2, ↓reduceIte]
  obtain ⟨it, xs, _, hgC, hacc, hthr, hrun, h⟩ := stroke_run l w
  have hg : NInv (ctxOf l) l.start (flipOf l) _ (0, 0) := ⟨_, _, _, hgC⟩
  rw [h ps hps]
  rw [hsat] at hthr
  obtain ⟨nL, nR, A, _, _, hlr, hA0, hA, hAle', hcov⟩ :=
    run_cover (ctxOf l) hv _ hfr l.start _ hrun (0, 0) hg hthr (by rw [hacc]; simp)
      (by rw [hacc]; have := hv.hD; have := hv.hd0; omega)
  obtain ⟨n, hb1, hb2⟩ := band_index (ctxOf l).D ((ctxOf l).ph (ctxOf l).M')
    ((ctxOf l).ph q - (ctxOf l).ph l.start) hv.hD (tau_cases hfr)
  obtain ⟨i1, i2⟩ := idx_bound (ctxOf l).D (ctxOf l).d w A _ _ n nL nR hv.hD hv.hd0 (by omega) hA0
    hA hX (tau_cases hfr) hb1 hb2 hAle' hlr
  obtain ⟨x, hx, hok⟩ := hcov n (by
    by_cases hn : 0 < n
    · left; exact ⟨by simpa using hn, i1 hn⟩
    · right; exact ⟨i2 (by omega), by simp; omega⟩)
  apply List.mem_flatMap.mpr
  refine ⟨x, hx, ?_⟩
  have hp : paramLine l = l := by simp [paramLine, hnd]
  have hDl : (ctxOf l).D = dmaj l := by unfold ctxOf; rw [hp]
  have hlen : (majorLength l : Int) = (ctxOf l).D + 1 := by
    rw [majorLength_eq, hDl]; have := dmaj_nonneg l; omega
  apply band_column (ctxOf l) hv l.start _ x.2.1 x.2.2 hok _ _ _ q hb1 hb2 (by omega) (by omega)
  · intro hty; rw [hty]; exact hlen
  · intro hty; rw [hty]; show ((majorLength l - 1 : Nat) : Int) = _; omega

end Thick
end EG
