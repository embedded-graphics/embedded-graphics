/-
  EG.Lemmas.JoinsBBoxWidth1 — a polyline of stroke width 1: `draw` / `pixels()` emit `points()`,
  `styled_bounding_box` is the fold over the boxes of the WIDTH-1 segments. Every corner of a
  width-1 join is the vertex itself (EG.Lemmas.JoinsWidth1; `i32` vertices: the rounding division
  of the intersection saturates to `i32`), so every segment box holds its two vertices, and every
  point of `points()` lies on the thin line between two consecutive vertices.
-/
import EG.Lemmas.JoinsBBoxPolyMain
import EG.Lemmas.JoinsWidth1
import EG.Lemmas.PolylineSet
set_option linter.unusedSimpArgs false
namespace EG
namespace Joins
open Thick (LineSide StrokeOffset)

def AllI32 (vs : List Pt) : Prop := ∀ v ∈ vs, inI32 v.x ∧ inI32 v.y

instance (vs : List Pt) : Decidable (AllI32 vs) := by unfold AllI32; exact inferInstance

theorem start_width1 (a b : Pt) : ∃ j, LineJoin.start a b 1 .none = some j ∧
    j.secondEdgeStart = ⟨a, a⟩ ∧ j.firstEdgeEnd = ⟨a, a⟩ := by
  unfold LineJoin.start
  rw [extents_width1_none]
  exact ⟨_, rfl, rfl, rfl⟩

theorem stop_width1 (a b : Pt) : ∃ j, LineJoin.stop a b 1 .none = some j ∧
    j.firstEdgeEnd = ⟨b, b⟩ := by
  unfold LineJoin.stop
  rw [extents_width1_none]
  exact ⟨_, rfl, rfl⟩

/-- Every segment line of the polyline is the (right = drawn) edge of a segment of the chain, moved by
the `translate` field. -/
theorem chainFrom_width1 (tr : Pt) : ∀ (vs : List Pt) (sj : LineJoin) (L : List ThickSegment), AllI32 vs →
    chainFrom 1 sj vs = some L → (∀ a, vs.head? = some a → sj.secondEdgeStart.right = a) →
    ∀ l ∈ Polyline.segments tr vs, ∃ s ∈ L, l = ⟨s.edges.1.start + tr, s.edges.1.stop + tr⟩
  | [], _, _, _, _, _, l, hl => by cases hl
  | [_], _, _, _, _, _, l, hl => by cases hl
  | [x, y], sj, L, _, h, hsj, l, hl => by
    simp only [Polyline.segments, List.mem_cons, List.not_mem_nil, or_false] at hl
    subst hl
    rw [chainFrom_two] at h
    obtain ⟨j, hj, c⟩ := stop_width1 x y
    rw [hj] at h
    cases h
    refine ⟨_, List.mem_cons_self, ?_⟩
    unfold ThickSegment.edges
    simp only [hsj x rfl, c]
  | x :: y :: z :: rest, sj, L, hi, h, hsj, l, hl => by
    rw [chainFrom_three] at h
    have hy := hi y (by simp)
    obtain ⟨j, hj, c1, c2⟩ := fromPoints_width1 x y z hy.1 hy.2
    rw [hj, Option.bind_some] at h
    obtain ⟨r, hr, h⟩ := Option.bind_eq_some_iff.mp h
    cases h
    rw [Polyline.segments] at hl
    rcases List.mem_cons.mp hl with rfl | hl
    · refine ⟨_, List.mem_cons_self, ?_⟩
      unfold ThickSegment.edges
      simp only [hsj x rfl, c1]
    · obtain ⟨s, hs, he⟩ := chainFrom_width1 tr (y :: z :: rest) j r
        (fun v hv => hi v (List.mem_cons_of_mem _ hv)) hr
        (by intro a' ha'; cases ha'; rw [c2]) l hl
      exact ⟨s, List.mem_cons_of_mem _ hs, he⟩

theorem points_in_bbox_width1 (pl : Polyline) (hi : AllI32 pl.vertices) (bb : Rect)
    (hb : styledBoundingBox pl 1 = some bb) : ∀ p ∈ Polyline.points pl, bb.contains p = true := by
  intro p hp
  rw [Polyline.points_eq_spec] at hp
  unfold Polyline.pointsSpec at hp
  rcases hv : pl.vertices with _ | ⟨x, _ | ⟨y, rest⟩⟩
  · rw [hv] at hp; cases hp
  · rw [hv] at hp; cases hp
  rw [hv] at hp
  obtain ⟨l, hl, hpl⟩ := (Polyline.mem_segments pl.translate p rest x y).mp hp
  unfold styledBoundingBox at hb
  rw [untranslatedBoundingBox_eq pl 1 ⟨by omega, by rw [hv]; simp⟩] at hb
  obtain ⟨ubb, hu, hb⟩ := Option.bind_eq_some_iff.mp hb
  obtain ⟨segs, hs, rfl⟩ := Option.map_eq_some_iff.mp hu
  cases hb
  rw [polySegments_eq_chain, hv] at hs
  -- the line runs between two points of the box
  unfold polyChain at hs
  dsimp only at hs
  obtain ⟨j, hj, c, _⟩ := start_width1 x y
  rw [hj, Option.bind_some] at hs
  obtain ⟨s, hsm, rfl⟩ := chainFrom_width1 pl.translate _ j segs (hv ▸ hi) hs
    (by intro a' ha'; cases ha'; rw [c]) l hl
  have ha := box_right_start (foldEdgeBoxes_boxIn segs s hsm)
  have hb' := box_right_stop (foldEdgeBoxes_boxIn segs s hsm)
  rw [← Rect.contains_translate _ pl.translate] at ha hb'
  have hbox := Line.mem_points_in_box hpl
  simp only [ThickSegment.edges] at hbox
  exact contains_between ha hb' ⟨by omega, by omega⟩ ⟨by omega, by omega⟩

end Joins
end EG
