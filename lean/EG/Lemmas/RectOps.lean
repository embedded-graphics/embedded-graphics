/-
  EG.Lemmas.RectOps — what the operations of the Rectangle model return: `intersection`
  (`Rect.common`), `offset`, the anchor points and `resized*`, `envelope` (on `Rect.atLeastOne`
  operands). A rectangle is the product of two intervals; the facts about two rectangles are one-axis
  facts about integers (`*_axis`) used per axis.
-/
import EG.Lemmas.Rect
namespace EG
namespace Rect

/-- The rectangle of the common points, as `top_left` and `size`. It is empty (possibly at an
odd place) when there is no common point. -/
def common (a b : Rect) : Rect :=
  ⟨⟨max a.tl.x b.tl.x, max a.tl.y b.tl.y⟩,
   ⟨(min (a.tl.x + a.size.w) (b.tl.x + b.size.w) - max a.tl.x b.tl.x).toNat,
    (min (a.tl.y + a.size.h) (b.tl.y + b.size.h) - max a.tl.y b.tl.y).toNat⟩⟩

theorem mem_common_axis {a b p : Int} {m n : Nat} :
    max a b ≤ p ∧ p < max a b + ((min (a + m) (b + n) - max a b).toNat : Int) ↔
      (a ≤ p ∧ p < a + m) ∧ (b ≤ p ∧ p < b + n) := by
  omega

theorem contains_common (a b : Rect) (p : Pt) :
    (common a b).contains p = true ↔ (a.contains p = true ∧ b.contains p = true) := by
  rw [contains_iff_axes, contains_iff_axes, contains_iff_axes]
  exact (and_congr mem_common_axis mem_common_axis).trans and_and_and_comm

theorem common_axis_empty_iff {a b : Int} {m n : Nat} :
    (min (a + m) (b + n) - max a b).toNat = 0 ↔ ¬ max a b < min (a + m) (b + n) := by
  omega

theorem common_isZeroSized_iff (a b : Rect) :
    (common a b).isZeroSized = true ↔
      ¬ (max a.tl.x b.tl.x < min (a.tl.x + a.size.w) (b.tl.x + b.size.w) ∧
         max a.tl.y b.tl.y < min (a.tl.y + a.size.h) (b.tl.y + b.size.h)) := by
  rw [isZeroSized_iff, Decidable.not_and_iff_not_or_not]
  exact or_congr common_axis_empty_iff common_axis_empty_iff

theorem common_axis_empty_left {a b : Int} {m n : Nat} (h : m = 0) :
    (min (a + m) (b + n) - max a b).toNat = 0 := by
  omega

theorem common_axis_empty_right {a b : Int} {m n : Nat} (h : n = 0) :
    (min (a + m) (b + n) - max a b).toNat = 0 := by
  omega

theorem common_isZeroSized_of_left {a : Rect} (b : Rect) (h : a.isZeroSized = true) :
    (common a b).isZeroSized = true := by
  rw [isZeroSized_iff] at h ⊢
  exact h.imp common_axis_empty_left common_axis_empty_left

theorem common_isZeroSized_of_right (a : Rect) {b : Rect} (h : b.isZeroSized = true) :
    (common a b).isZeroSized = true := by
  rw [isZeroSized_iff] at h ⊢
  exact h.imp common_axis_empty_right common_axis_empty_right

theorem common_axis_le_left {a b : Int} {m n : Nat} : (min (a + m) (b + n) - max a b).toNat ≤ m := by
  omega

theorem overlaps_axis {a b : Int} {m n : Nat} (hm : 0 < m) (hn : 0 < n) :
    overlaps a (a + m - 1) b (b + n - 1) = true ↔ max a b < min (a + m) (b + n) := by
  rw [overlaps_iff (by omega) (by omega)]; omega

theorem corners_axis {c d : Int} (h : c ≤ d) :
    min c d = c ∧ (c - d).natAbs + 1 = (d + 1 - c).toNat := by
  omega

/-- One axis of `with_corners(max of the top lefts, min of the bottom rights)` when the
intervals overlap. -/
theorem corners_common_axis {a b : Int} {m n : Nat} (h : max a b < min (a + m) (b + n)) :
    min (max a b) (min (a + m - 1) (b + n - 1)) = max a b ∧
    (max a b - min (a + m - 1) (b + n - 1)).natAbs + 1 = (min (a + m) (b + n) - max a b).toNat := by
  have e : min (a + m - 1) (b + n - 1) + 1 = min (a + m) (b + n) := by omega
  rw [← e]
  exact corners_axis (by omega)

/-- **`intersection`, closed form**: the common points when both operands have points and share one; an empty
operand whose corner lies in the other one; else `zero`. -/
theorem intersection_eq (a b : Rect) : a.intersection b =
    if 0 < a.size.w ∧ 0 < a.size.h then
      if 0 < b.size.w ∧ 0 < b.size.h then
        if max a.tl.x b.tl.x < min (a.tl.x + a.size.w) (b.tl.x + b.size.w) ∧
            max a.tl.y b.tl.y < min (a.tl.y + a.size.h) (b.tl.y + b.size.h) then common a b else zero
      else if a.contains b.tl then b else zero
    else if 0 < b.size.w ∧ 0 < b.size.h then (if b.contains a.tl then a else zero) else zero := by
  unfold intersection
  by_cases ha : 0 < a.size.w ∧ 0 < a.size.h <;> by_cases hb : 0 < b.size.w ∧ 0 < b.size.h
  · rw [bottomRight_some ha, bottomRight_some hb, if_pos ha, if_pos hb]
    simp only [Bool.and_eq_true, overlaps_axis ha.1 hb.1, overlaps_axis ha.2 hb.2]
    split
    · rename_i h
      have hx := corners_common_axis h.1
      have hy := corners_common_axis h.2
      simp only [withCorners, common, Pt.componentMax, Pt.componentMin, hx.1, hx.2, hy.1, hy.2]
    · rfl
  · rw [bottomRight_some ha, bottomRight_none hb, if_pos ha, if_neg hb]
  · rw [bottomRight_none ha, bottomRight_some hb, if_neg ha, if_pos hb]
  · rw [bottomRight_none ha, bottomRight_none hb, if_neg ha, if_neg hb]

/-- **What `intersection` returns**: the rectangle of the common points; or, when there is no
common point, `zero` or an empty operand whose top left corner lies in the other operand. -/
theorem intersection_cases (a b : Rect) :
    a.intersection b = common a b ∨
      ((common a b).isZeroSized = true ∧
        (a.intersection b = zero ∨
         (a.intersection b = a ∧ a.isZeroSized = true ∧ b.contains a.tl = true) ∨
         (a.intersection b = b ∧ b.isZeroSized = true ∧ a.contains b.tl = true))) := by
  rw [intersection_eq]
  by_cases ha : 0 < a.size.w ∧ 0 < a.size.h <;> by_cases hb : 0 < b.size.w ∧ 0 < b.size.h
  · rw [if_pos ha, if_pos hb]
    split
    · exact Or.inl rfl
    · rename_i h
      exact Or.inr ⟨(common_isZeroSized_iff a b).mpr h, Or.inl rfl⟩
  · have hb' : b.isZeroSized = true := isZeroSized_iff.mpr (by omega)
    rw [if_pos ha, if_neg hb]
    refine Or.inr ⟨common_isZeroSized_of_right a hb', ?_⟩
    split
    · rename_i hc
      exact Or.inr (Or.inr ⟨rfl, hb', hc⟩)
    · exact Or.inl rfl
  · have ha' : a.isZeroSized = true := isZeroSized_iff.mpr (by omega)
    rw [if_neg ha, if_pos hb]
    refine Or.inr ⟨common_isZeroSized_of_left b ha', ?_⟩
    split
    · rename_i hc
      exact Or.inr (Or.inl ⟨rfl, ha', hc⟩)
    · exact Or.inl rfl
  · rw [if_neg ha, if_neg hb]
    exact Or.inr ⟨common_isZeroSized_of_left b (isZeroSized_iff.mpr (by omega)), Or.inl rfl⟩

theorem intersection_eq_common (a b : Rect) :
    a.intersection b = common a b ∨
      ((a.intersection b).isZeroSized = true ∧ (common a b).isZeroSized = true) := by
  rcases intersection_cases a b with h | ⟨hc, h | ⟨h, hz, _⟩ | ⟨h, hz, _⟩⟩
  · exact Or.inl h
  · exact Or.inr ⟨by rw [h]; rfl, hc⟩
  · exact Or.inr ⟨by rw [h]; exact hz, hc⟩
  · exact Or.inr ⟨by rw [h]; exact hz, hc⟩

/-- **Intersection is the set of common points**, for all pairs of rectangles. -/
theorem mem_intersection (a b : Rect) (p : Pt) :
    (a.intersection b).contains p = true ↔ (a.contains p = true ∧ b.contains p = true) := by
  rw [← contains_common]
  rcases intersection_eq_common a b with h | ⟨hi, hc⟩
  · rw [h]
  · rw [contains_false_of_zero (isZeroSized_iff.mp hi), contains_false_of_zero (isZeroSized_iff.mp hc)]

theorem contains_intersection (a b : Rect) (p : Pt) :
    (a.intersection b).contains p = (a.contains p && b.contains p) := by
  rw [Bool.eq_iff_iff, mem_intersection, Bool.and_eq_true]

theorem contains_tl {r : Rect} (h : r.isZeroSized = false) : r.contains r.tl = true := by
  have := mt isZeroSized_iff.mpr (by rw [h]; exact Bool.false_ne_true)
  rw [contains_iff]; omega

theorem intersection_zero_of_disjoint (a b : Rect)
    (h : ∀ p, ¬ (a.contains p = true ∧ b.contains p = true)) :
    (a.intersection b).isZeroSized = true := by
  have hc : (common a b).isZeroSized = true := by
    cases hz : (common a b).isZeroSized
    · exact absurd ((contains_common a b _).mp (contains_tl hz)) (h _)
    · rfl
  rcases intersection_eq_common a b with h | ⟨hi, _⟩
  · rw [h]; exact hc
  · exact hi

theorem size_pos_of_contains {r : Rect} {p : Pt} (h : r.contains p = true) :
    0 < r.size.w ∧ 0 < r.size.h := by
  rw [contains_iff] at h; omega

/-- A non-empty rectangle inside another one, in coordinates (from its two extreme corners). -/
theorem bounds_of_subset {r c : Rect} (hr : 0 < r.size.w ∧ 0 < r.size.h)
    (h : ∀ p, r.contains p = true → c.contains p = true) :
    (c.tl.x ≤ r.tl.x ∧ r.tl.x + r.size.w ≤ c.tl.x + c.size.w) ∧
    (c.tl.y ≤ r.tl.y ∧ r.tl.y + r.size.h ≤ c.tl.y + c.size.h) := by
  have h1 := h r.tl (by rw [contains_iff]; omega)
  have h2 := h ⟨r.tl.x + r.size.w - 1, r.tl.y + r.size.h - 1⟩ (by rw [contains_iff]; simp only; omega)
  rw [contains_iff] at h1 h2
  simp only at h2
  omega

theorem common_axis_of_subset {a c : Int} {m n : Nat} (h : a ≤ c ∧ c + n ≤ a + m) :
    max a c = c ∧ (min (a + m) (c + n) - max a c).toNat = n := by
  omega

theorem intersection_eq_of_subset (A C : Rect) (hw : 0 < C.size.w) (hh : 0 < C.size.h)
    (hx0 : A.tl.x ≤ C.tl.x) (hx1 : C.tl.x + C.size.w ≤ A.tl.x + A.size.w)
    (hy0 : A.tl.y ≤ C.tl.y) (hy1 : C.tl.y + C.size.h ≤ A.tl.y + A.size.h) :
    A.intersection C = C := by
  have hx := common_axis_of_subset ⟨hx0, hx1⟩
  have hy := common_axis_of_subset ⟨hy0, hy1⟩
  have hc : common A C = C := by unfold common; rw [hx.2, hx.1, hy.2, hy.1]
  rcases intersection_eq_common A C with h | ⟨_, hz⟩
  · rw [h, hc]
  · rw [hc, isZeroSized_iff] at hz; omega

/-- `offset` on the x axis (the y axis is `offset_y`): growing moves the left side by `n` and adds
`2n` to the width, saturating; shrinking takes `2|n|` off the width, saturating at 0, about the
centre pixel. -/
theorem offset_x (r : Rect) (n : Int) :
    (r.offset n).tl.x =
      (if n ≥ 0 then r.tl.x - n
       else r.tl.x + (((r.size.w - 1) / 2 : Nat) : Int)
         - (((r.size.w - (-n).toNat * 2 - 1) / 2 : Nat) : Int)) ∧
    (r.offset n).size.w =
      (if n ≥ 0 then satAddU32 r.size.w (n.toNat * 2) else r.size.w - (-n).toNat * 2) := by
  unfold offset
  split <;> exact ⟨rfl, rfl⟩

theorem offset_y (r : Rect) (n : Int) :
    (r.offset n).tl.y =
      (if n ≥ 0 then r.tl.y - n
       else r.tl.y + (((r.size.h - 1) / 2 : Nat) : Int)
         - (((r.size.h - (-n).toNat * 2 - 1) / 2 : Nat) : Int)) ∧
    (r.offset n).size.h =
      (if n ≥ 0 then satAddU32 r.size.h (n.toNat * 2) else r.size.h - (-n).toNat * 2) := by
  unfold offset
  split <;> exact ⟨rfl, rfl⟩

/-- One axis of `offset` where nothing saturates: both sides move by `n`. -/
theorem offset_axis {x x' : Int} {w w' : Nat} {n : Int}
    (hx : x' = if n ≥ 0 then x - n
      else x + (((w - 1) / 2 : Nat) : Int) - (((w - (-n).toNat * 2 - 1) / 2 : Nat) : Int))
    (hw : w' = if n ≥ 0 then satAddU32 w (n.toNat * 2) else w - (-n).toNat * 2)
    (hr : 0 ≤ n ∨ (0 < w ∧ 0 < (w : Int) + 2 * n)) (hb : (w : Int) + 2 * n ≤ 4294967295) :
    x' = x - n ∧ (w' : Int) = w + 2 * n := by
  subst hx hw
  unfold satAddU32
  by_cases h0 : n ≥ 0
  · rw [if_pos h0, if_pos h0, if_pos (by omega)]
    omega
  · rw [if_neg h0, if_neg h0]
    omega

/-- Shrinking `[x, x + n)` by `k` on both sides about its centre pixel moves the origin by `k`,
as long as something is left. -/
theorem half_sub_half {n k : Nat} (h : 2 * k < n) :
    (((n - 1) / 2 : Nat) : Int) - (((n - 2 * k - 1) / 2 : Nat) : Int) = k := by
  omega

theorem offset_grow (r : Rect) (k : Nat)
    (hw : r.size.w + 2 * k ≤ 4294967295) (hh : r.size.h + 2 * k ≤ 4294967295) :
    r.offset (k : Int) = ⟨⟨r.tl.x - k, r.tl.y - k⟩, ⟨r.size.w + 2 * k, r.size.h + 2 * k⟩⟩ := by
  unfold offset
  have h0 : (k : Int) ≥ 0 := by omega
  simp only [h0, if_true, Sz.satAdd, Sz.newEqual, satAddU32, Int.toNat_natCast]
  have h1 : r.size.w + k * 2 ≤ 4294967295 := by omega
  have h2 : r.size.h + k * 2 ≤ 4294967295 := by omega
  simp only [h1, h2, ↓reduceIte, Rect.mk.injEq, Sz.mk.injEq]
  refine ⟨?_, ?_, ?_⟩
  · rw [Pt.ext_iff']; simp
  · omega
  · omega

/-- Closed form of `offset` by a non-positive amount: the size shrinks, saturating at 0. -/
theorem offset_shrink (r : Rect) (k : Nat)
    (hw : r.size.w ≤ 4294967295) (hh : r.size.h ≤ 4294967295) :
    r.offset (-(k : Int)) =
      ⟨⟨r.tl.x + (((r.size.w - 1) / 2 : Nat) : Int) - (((r.size.w - 2 * k - 1) / 2 : Nat) : Int),
        r.tl.y + (((r.size.h - 1) / 2 : Nat) : Int) - (((r.size.h - 2 * k - 1) / 2 : Nat) : Int)⟩,
       ⟨r.size.w - 2 * k, r.size.h - 2 * k⟩⟩ := by
  unfold offset
  by_cases hk : k = 0
  · -- `offset(-0)` takes the growing branch; the formula gives the same since `k = 0`
    subst hk
    simp only [Int.natCast_zero, Int.neg_zero, ge_iff_le, Int.le_refl,
      Sz.satAdd, Sz.newEqual, satAddU32, Int.toNat_zero, Nat.zero_mul, Nat.add_zero,
      hw, hh, ↓reduceIte, Nat.mul_zero, Nat.sub_zero, Rect.mk.injEq, and_true]
    rw [Pt.ext_iff']; simp only [Pt.sub_x, Pt.sub_y]; omega
  · have h0 : ¬ (-(k : Int) ≥ 0) := by omega
    simp only [h0, if_false, withCenter, center, centerOffset, Sz.satSub, Sz.newEqual,
      Int.neg_neg, Int.toNat_natCast, Rect.mk.injEq, Pt.mk.injEq, Sz.mk.injEq]
    refine ⟨⟨?_, ?_⟩, ?_, ?_⟩ <;> omega

theorem offset_zero (r : Rect) (hw : r.size.w ≤ 4294967295) (hh : r.size.h ≤ 4294967295) :
    r.offset 0 = r := by
  have := offset_grow r 0 (by omega) (by omega)
  simp only [Int.natCast_zero, Nat.mul_zero, Nat.add_zero] at this
  rw [this]
  cases r with | mk tl size =>
  cases tl; cases size
  simp only [Rect.mk.injEq, Pt.mk.injEq, and_true]
  constructor <;> omega

theorem tdiv2_nonneg {d : Int} (h : 0 ≤ d) : tdiv2 d = d / 2 := by unfold tdiv2; simp [h]

theorem anchorX_right {r : Rect} (h : r.size.w ≤ 2147483647) :
    r.anchorX .right = r.tl.x + max (r.size.w : Int) 1 - 1 := by
  simp only [anchorX, satAsI32_of_le h]; omega
theorem anchorY_bottom {r : Rect} (h : r.size.h ≤ 2147483647) :
    r.anchorY .bottom = r.tl.y + max (r.size.h : Int) 1 - 1 := by
  simp only [anchorY, satAsI32_of_le h]; omega
theorem anchorX_left (r : Rect) : r.anchorX .left = r.tl.x := by simp [anchorX]
theorem anchorY_top (r : Rect) : r.anchorY .top = r.tl.y := by simp [anchorY]
theorem anchorX_center {r : Rect} (h : r.size.w ≤ 2147483647) :
    r.anchorX .center = r.tl.x + (max (r.size.w : Int) 1 - 1) / 2 := by
  simp only [anchorX, satAsI32_of_le h]; rw [tdiv2_nonneg (by omega)]
theorem anchorY_center {r : Rect} (h : r.size.h ≤ 2147483647) :
    r.anchorY .center = r.tl.y + (max (r.size.h : Int) 1 - 1) / 2 := by
  simp only [anchorY, satAsI32_of_le h]; rw [tdiv2_nonneg (by omega)]

theorem anchorPoint_of_size_zero {r : Rect} (h : r.size = ⟨0, 0⟩) :
    r.anchorPoint ⟨.right, .bottom⟩ = r.tl := by
  have hw : r.size.w = 0 := by rw [h]
  have hh : r.size.h = 0 := by rw [h]
  unfold anchorPoint
  rw [anchorX_right (by omega), anchorY_bottom (by omega), hw, hh, Pt.ext_iff']
  exact ⟨by simp only; omega, by simp only; omega⟩

/-- The centre anchor of an interval resized from length `m` to `m'` moves by at most one. -/
theorem tdiv2_sub_add (m m' : Int) :
    (tdiv2 (m - m') + (m' - 1) / 2 - (m - 1) / 2).natAbs ≤ 1 := by
  unfold tdiv2
  split <;> omega

theorem anchorX_resizedWidth {r : Rect} {w : Nat} (hr : r.size.w ≤ 2147483647)
    (hw : w ≤ 2147483647) (a : AnchorX) :
    (a ≠ .center → (r.resizedWidth w a).anchorX a = r.anchorX a) ∧
    ((r.resizedWidth w a).anchorX a - r.anchorX a).natAbs ≤ 1 := by
  cases a
  · rw [anchorX_left, anchorX_left]
    simp only [resizedWidth, Int.add_zero, Int.sub_self]
    exact ⟨fun _ => trivial, by decide⟩
  · have hc := tdiv2_sub_add (max (r.size.w : Int) 1) (max (w : Int) 1)
    rw [anchorX_center hr, anchorX_center (r := r.resizedWidth w .center) hw]
    simp only [resizedWidth, satAsI32_of_le hr, satAsI32_of_le hw]
    generalize max (r.size.w : Int) 1 = m, max (w : Int) 1 = m' at hc ⊢
    exact ⟨fun h => absurd rfl h, by omega⟩
  · rw [anchorX_right hr, anchorX_right (r := r.resizedWidth w .right) hw]
    simp only [resizedWidth, satAsI32_of_le hr, satAsI32_of_le hw]
    generalize max (r.size.w : Int) 1 = m, max (w : Int) 1 = m'
    exact ⟨fun _ => by omega, by omega⟩

theorem anchorY_resizedHeight {r : Rect} {h : Nat} (hr : r.size.h ≤ 2147483647)
    (hh : h ≤ 2147483647) (a : AnchorY) :
    (a ≠ .center → (r.resizedHeight h a).anchorY a = r.anchorY a) ∧
    ((r.resizedHeight h a).anchorY a - r.anchorY a).natAbs ≤ 1 := by
  cases a
  · rw [anchorY_top, anchorY_top]
    simp only [resizedHeight, Int.add_zero, Int.sub_self]
    exact ⟨fun _ => trivial, by decide⟩
  · have hc := tdiv2_sub_add (max (r.size.h : Int) 1) (max (h : Int) 1)
    rw [anchorY_center hr, anchorY_center (r := r.resizedHeight h .center) hh]
    simp only [resizedHeight, satAsI32_of_le hr, satAsI32_of_le hh]
    generalize max (r.size.h : Int) 1 = m, max (h : Int) 1 = m' at hc ⊢
    exact ⟨fun h => absurd rfl h, by omega⟩
  · rw [anchorY_bottom hr, anchorY_bottom (r := r.resizedHeight h .bottom) hh]
    simp only [resizedHeight, satAsI32_of_le hr, satAsI32_of_le hh]
    generalize max (r.size.h : Int) 1 = m, max (h : Int) 1 = m'
    exact ⟨fun _ => by omega, by omega⟩

/-- The operand "treated as at least 1x1" (documented convention of `envelope`). -/
def atLeastOne (r : Rect) : Rect := ⟨r.tl, ⟨max r.size.w 1, max r.size.h 1⟩⟩

theorem contains_atLeastOne {r : Rect} {p : Pt} :
    r.atLeastOne.contains p = true ↔
      (r.tl.x ≤ p.x ∧ p.x < r.tl.x + max (r.size.w : Int) 1) ∧
      (r.tl.y ≤ p.y ∧ p.y < r.tl.y + max (r.size.h : Int) 1) := by
  rw [contains_iff_axes]
  simp only [atLeastOne]
  omega

/-- One axis of `with_corners(min of the top lefts, max of the bottom right anchors)`, for
lengths `m`, `n` that are at least 1. -/
theorem corners_hull_axis {a b m n : Int} (hm : 1 ≤ m) (hn : 1 ≤ n) :
    min (min a b) (max (a + m - 1) (b + n - 1)) = min a b ∧
    (min a b - max (a + m - 1) (b + n - 1)).natAbs + 1 = (max (a + m) (b + n) - min a b).toNat := by
  have e : max (a + m - 1) (b + n - 1) + 1 = max (a + m) (b + n) := by omega
  rw [← e]
  exact corners_axis (by omega)

/-- `envelope` in coordinates: from the smaller top left to the larger end, each size read as at
least 1 (the size bounds keep `saturating_as` out of the anchor points). -/
theorem envelope_eq (a b : Rect) (ha : a.size.w ≤ 2147483647 ∧ a.size.h ≤ 2147483647)
    (hb : b.size.w ≤ 2147483647 ∧ b.size.h ≤ 2147483647) :
    a.envelope b =
      ⟨⟨min a.tl.x b.tl.x, min a.tl.y b.tl.y⟩,
       ⟨(max (a.tl.x + max (a.size.w : Int) 1) (b.tl.x + max (b.size.w : Int) 1) - min a.tl.x b.tl.x).toNat,
        (max (a.tl.y + max (a.size.h : Int) 1) (b.tl.y + max (b.size.h : Int) 1) - min a.tl.y b.tl.y).toNat⟩⟩ := by
  unfold envelope anchorPoint
  rw [anchorX_right ha.1, anchorX_right hb.1, anchorY_bottom ha.2, anchorY_bottom hb.2]
  have hx := corners_hull_axis (a := a.tl.x) (b := b.tl.x) (Int.le_max_right (a.size.w : Int) 1)
    (Int.le_max_right (b.size.w : Int) 1)
  have hy := corners_hull_axis (a := a.tl.y) (b := b.tl.y) (Int.le_max_right (a.size.h : Int) 1)
    (Int.le_max_right (b.size.h : Int) 1)
  simp only [withCorners, Pt.componentMax, Pt.componentMin, hx.1, hx.2, hy.1, hy.2]

theorem mem_hull_axis {a b m n p : Int} (h : (a ≤ p ∧ p < a + m) ∨ (b ≤ p ∧ p < b + n)) :
    min a b ≤ p ∧ p < min a b + ((max (a + m) (b + n) - min a b).toNat : Int) := by
  omega

theorem bounds_of_atLeastOne_subset {r c : Rect}
    (h : ∀ p, r.atLeastOne.contains p = true → c.contains p = true) :
    (c.tl.x ≤ r.tl.x ∧ r.tl.x + max (r.size.w : Int) 1 ≤ c.tl.x + c.size.w) ∧
    (c.tl.y ≤ r.tl.y ∧ r.tl.y + max (r.size.h : Int) 1 ≤ c.tl.y + c.size.h) := by
  have := bounds_of_subset (r := r.atLeastOne) (by simp only [atLeastOne]; omega) h
  simp only [atLeastOne] at this
  omega

theorem hull_least_axis {a b m n c e p : Int} (ha : c ≤ a ∧ a + m ≤ e) (hb : c ≤ b ∧ b + n ≤ e)
    (hp : min a b ≤ p ∧ p < min a b + ((max (a + m) (b + n) - min a b).toNat : Int)) :
    c ≤ p ∧ p < e := by
  omega

/-- `envelope` is the least rectangle containing both operands (each treated as at least 1x1):
any rectangle containing both contains the envelope. -/
theorem envelope_least (a b c : Rect) (ha : a.size.w ≤ 2147483647 ∧ a.size.h ≤ 2147483647)
    (hb : b.size.w ≤ 2147483647 ∧ b.size.h ≤ 2147483647)
    (hc : ∀ p, (a.atLeastOne.contains p = true ∨ b.atLeastOne.contains p = true) → c.contains p = true)
    (p : Pt) (hp : (a.envelope b).contains p = true) : c.contains p = true := by
  rw [envelope_eq a b ha hb, contains_iff_axes] at hp
  have hca := bounds_of_atLeastOne_subset fun q h => hc q (Or.inl h)
  have hcb := bounds_of_atLeastOne_subset fun q h => hc q (Or.inr h)
  rw [contains_iff_axes]
  exact ⟨hull_least_axis hca.1 hcb.1 hp.1, hull_least_axis hca.2 hcb.2 hp.2⟩

end Rect
end EG
