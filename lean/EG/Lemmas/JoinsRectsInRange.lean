/-
  EG.Lemmas.JoinsRectsInRange — at display scale (vertices within +-1024, stroke width up to 128,
  `translate` within +-2^30) no `fill_solid` rectangle of a stroked polyline or a styled triangle
  saturates `i32`: the guards `PolyRectsInRange`, `TriRectsInRange` of the draw = pixels theorems hold.
  Every scanline of the run comes from segment scanlines, which stay in the column hull of the
  outline end points (`polyRows_good`, `triRows_good`); at display scale these lie within
  `K = 2^27 + 4096` of the origin (`Chk.Joins.ThickSegment.outline_ok`), and so do the rows of the
  bounding box.
-/
import EG.Lemmas.C01ThickPoly
import EG.Lemmas.C01ThickTri
import EG.Lemmas.JoinsBBoxTri
import EG.Lemmas.JoinsBBoxPolyMain
import EG.Lemmas.JoinsBoxDisplayScale
import EG.Lemmas.CheckedSegment
namespace EG
namespace Joins
open Thick (LineSide StrokeOffset)
open C01Thick (moveS)

theorem segOK_of_near {s : ThickSegment} (h : Chk.Joins.ThickSegment.SegNear s) :
    SegOK (-134221824) 134221824 s := by
  intro l hl
  obtain ⟨h1, h2⟩ := (Chk.Joins.ThickSegment.outline_ok h).2 l hl
  exact ⟨h1.1.1, h2.1.1, h1.1.2, h2.1.2⟩

/-- The 1-px rectangle of a scanline in the columns `-K ..= K` and in rows from `-K` up to
`K + (2 K + 1)`, moved by at most `2^30`, is in the `i32` range. -/
theorem goodLine_rect_inRange {r0 rEnd : Int} {sc : Scanline} {t : Pt}
    (hg : GoodLine (-134221824) 134221824 r0 rEnd sc) (h0 : -134221824 ≤ r0) (h1 : rEnd ≤ 402665473)
    (ht : MoveDS t) : (moveS sc t).toRectangle.InRange := by
  obtain ⟨g1, g2, g3, g4, g5⟩ := hg
  have hne : (moveS sc t).isEmpty = false := by
    rw [C01Thick.moveS_isEmpty, ← Bool.not_eq_true, isEmpty_iff]; omega
  rw [C01Thick.toRectangle_of_nonempty hne]
  unfold MoveDS at ht
  unfold Rect.InRange inI32 moveS
  dsimp only
  omega

theorem rows_of_near {r : Rect} (h : RectNear r) : -134221824 ≤ r.tl.y ∧ r.rowsEnd ≤ 402665473 := by
  obtain ⟨h1, -, -, h4⟩ := h
  unfold PtNear at h1
  have := rowsEnd_le r (by omega)
  omega

theorem polyRows_nil (r0 rEnd : Int) : polyRows [] r0 rEnd = [] :=
  List.flatMap_eq_nil_iff.mpr fun _ _ => rfl

theorem _root_.EG.C01Thick.polyRectsInRange_display_scale (pl : Polyline) (w : Nat)
    (hv : ∀ v ∈ pl.vertices, VDS v) (hw : w ≤ 128) (ht : MoveDS pl.translate) :
    C01Thick.PolyRectsInRange pl w := by
  unfold C01Thick.PolyRectsInRange
  rcases Nat.lt_or_ge w 2 with hw2 | hw2
  · rcases (show w = 0 ∨ w = 1 by omega) with rfl | rfl <;> exact fun r hr => by cases hr
  · obtain ⟨bb, hb⟩ := untranslatedBoundingBox_total pl w
    obtain ⟨segs, hs⟩ := polySegments_total pl.vertices w
    rw [C01Thick.drawStyled_eq_map pl w hw2, polyScanlineRun_eq hb hs]
    intro r hr
    obtain ⟨sc, hsc, rfl⟩ := List.mem_map.mp hr
    by_cases hn : 2 ≤ pl.vertices.length
    · obtain ⟨s, rest, rfl, hnear⟩ := polySegments_near hn hv hw hs
      rw [untranslatedBoundingBox_eq pl w ⟨by omega, by omega⟩, hs] at hb
      cases hb
      obtain ⟨h0, h1⟩ := rows_of_near (foldEdgeBoxes_near (hnear s List.mem_cons_self)
        fun x hx => hnear x (List.mem_cons_of_mem _ hx))
      exact goodLine_rect_inRange (polyRows_good (fun x hx => segOK_of_near (hnear x hx)) sc hsc) h0 h1 ht
    · rw [polySegments_short pl.vertices w (by omega)] at hs
      cases hs
      rw [polyRows_nil] at hsc
      cases hsc

theorem triCtx_display_scale {t : Tri} (h1 : VDS t.v1) (h2 : VDS t.v2) (h3 : VDS t.v3) {w : Nat}
    (hw : w ≤ 128) (off : StrokeOffset) (collapsed hasFill : Bool) :
    TriCtx t w off (-134221824) 134221824 collapsed hasFill := by
  constructor
  · intro _ _
    obtain ⟨segs, hs⟩ := closedSegments3_total t w off
    obtain ⟨s, rest, rfl, hnear⟩ := closedSegments3_near h1 h2 h3 hw hs
    exact ⟨_, hs, fun x hx => segOK_of_near (hnear x hx)⟩
  · intro _
    unfold VDS at h1 h2 h3
    omega

theorem triStyledBoundingBox_near {t : Tri} (h1 : VDS t.v1) (h2 : VDS t.v2) (h3 : VDS t.v3)
    {style : TriStyle} (hw : style.strokeWidth ≤ 128) {bb : Rect}
    (hb : triStyledBoundingBox t style = some bb) : RectNear bb := by
  rw [triStyledBoundingBox_eq] at hb
  split at hb
  · cases hb
    exact tri_boundingBox_near h1 h2 h3
  · obtain ⟨segs, hs, rfl⟩ := Option.map_eq_some_iff.mp hb
    obtain ⟨s1, s2, s3⟩ := sortedClockwise_VDS h1 h2 h3
    obtain ⟨s, rest, rfl, hnear⟩ := closedSegments3_near s1 s2 s3 hw hs
    exact foldEdgeBoxes_near (hnear s List.mem_cons_self) fun x hx => hnear x (List.mem_cons_of_mem _ hx)

theorem _root_.EG.C01Thick.triRectsInRange_display_scale (t : Tri) (style : TriStyle)
    (h1 : VDS t.v1) (h2 : VDS t.v2) (h3 : VDS t.v3) (hw : style.strokeWidth ≤ 128) :
    C01Thick.TriRectsInRange t style := by
  unfold C01Thick.TriRectsInRange
  obtain ⟨calls, hd⟩ := triDraw_total t style
  rw [hd]
  rw [triDraw_eq] at hd
  split at hd
  · cases hd
    exact fun rc hrc => by cases hrc
  · obtain ⟨bb, hb⟩ := triStyledBoundingBox_total t style
    obtain ⟨c, hc⟩ := isCollapsed_total t.sortedClockwise style.strokeWidth style.strokeAlignment.toOffset
    have hrun := triScanlineRun_eq t style hb hc
    unfold C01Thick.triScanlineRun at hrun
    rw [hrun] at hd
    cases hd
    obtain ⟨s1, s2, s3⟩ := sortedClockwise_VDS h1 h2 h3
    obtain ⟨h0, hEnd⟩ := rows_of_near (triStyledBoundingBox_near h1 h2 h3 hw hb)
    intro rc hrc
    obtain ⟨x, hx, hcall⟩ := List.mem_filterMap.mp hrc
    have hgood := triRows_good (r0 := bb.tl.y) (rEnd := bb.rowsEnd) _
      (triCtx_display_scale s1 s2 s3 hw style.strokeAlignment.toOffset _ style.fillColor.isSome) x hx
    -- a call is the rectangle of a coloured scanline
    unfold triCall at hcall
    split at hcall
    · dsimp only at hcall
      split at hcall
      · cases hcall
        have := goodLine_rect_inRange hgood h0 hEnd (t := Pt.zero) (by decide)
        rwa [C01Thick.moveS_zero] at this
      · cases hcall
    · cases hcall

end Joins
end EG
