/-
  EG.Lemmas.JoinsSegment — a `ThickSegment` moved by `d`: skeleton test, edges, box and outline move
  with it, and its scanline in row `y + d.y` is the scanline of the original in row `y`, moved.
  Empty scanlines carry a meaningless x range (`0..0`), so "moved" is the relation `SR`: same row
  up to `d.y`, and either both empty or exactly shifted (`SR0`: the same without the rows).
  `SR d s' s` (the MOVED scanline first) says what `Scanline.Moved d s s'` (the original first) says in
  the triangle model (Lemmas/TriangleTranslate.lean, which the join files cannot import: the two
  models repeat type names). The
  scanline operations of the iterators (`touches`, `try_extend`, `try_take`, `to_rectangle`)
  respect these relations.
-/
import EG.Lemmas.JoinsJoin
import EG.Lemmas.JoinsBox
import EG.Lemmas.RectTranslate
set_option linter.unusedSimpArgs false
namespace EG
namespace Joins
open Thick (LineSide StrokeOffset)

def ThickSegment.translate (s : ThickSegment) (d : Pt) : ThickSegment :=
  ⟨s.startJoin.translate d, s.endJoin.translate d⟩

theorem pt_beq_add (a b d : Pt) : (a + d == b + d) = (a == b) := by
  rw [Bool.eq_iff_iff]; simp only [beq_iff_eq, Pt.add_right_cancel']

theorem isSkeleton_translate (s : ThickSegment) (d : Pt) :
    (s.translate d).isSkeleton = s.isSkeleton := by
  unfold ThickSegment.isSkeleton ThickSegment.translate LineJoin.translate EdgeCorners.translate
  exact pt_beq_add _ _ _

theorem edges_translate (s : ThickSegment) (d : Pt) :
    (s.translate d).edges = (s.edges.1.translate d, s.edges.2.translate d) := rfl

theorem componentMin_add (a b d : Pt) : (a + d).componentMin (b + d) = a.componentMin b + d :=
  Pt.componentMin_add a b d

theorem componentMax_add (a b d : Pt) : (a + d).componentMax (b + d) = a.componentMax b + d :=
  Pt.componentMax_add a b d

theorem edgesBoundingBox_translate (s : ThickSegment) (d : Pt) :
    (s.translate d).edgesBoundingBox = s.edgesBoundingBox.translate d := by
  unfold ThickSegment.edgesBoundingBox
  rw [isSkeleton_translate, edges_translate]
  simp only [lineBoundingBox, translate_start, translate_stop, componentMin_add, componentMax_add,
    Rect.withCorners_translate]
  split <;> rfl

theorem midpoint_translate (l : Line) (d : Pt) : midpoint (l.translate d) = midpoint l + d := by
  unfold midpoint
  simp only [translate_start, translate_stop, pt_add_sub_add]
  rw [Pt.ext_iff']; simp only [Pt.add_x, Pt.add_y]; omega

theorem fillerLine_translate (j : LineJoin) (d : Pt) :
    (j.translate d).fillerLine = j.fillerLine.map (·.translate d) := by
  unfold LineJoin.fillerLine LineJoin.translate EdgeCorners.translate
  cases j.kind with
  | bevel side => cases side <;> rfl
  | degenerate side => cases side <;> rfl
  | miter => rfl
  | colinear => rfl
  | start => rfl
  | stop => rfl

def shiftCap (r : Line × Option Line) (d : Pt) : Line × Option Line :=
  (r.1.translate d, r.2.map (·.translate d))

theorem cap_translate (j : LineJoin) (c : EdgeCorners) (d : Pt) :
    (j.translate d).cap (c.translate d) = shiftCap (j.cap c) d := by
  unfold LineJoin.cap
  rw [fillerLine_translate]
  cases j.fillerLine with
  | none => rfl
  | some f =>
    simp only [Option.map_some, midpoint_translate]
    rfl

theorem startCapLines_translate (j : LineJoin) (d : Pt) :
    (j.translate d).startCapLines = shiftCap j.startCapLines d := cap_translate j _ d

theorem endCapLines_translate (j : LineJoin) (d : Pt) :
    (j.translate d).endCapLines = shiftCap j.endCapLines d := cap_translate j _ d

theorem outline_translate (s : ThickSegment) (d : Pt) :
    (s.translate d).outline = s.outline.map (·.translate d) := by
  unfold ThickSegment.outline
  rw [isSkeleton_translate, edges_translate]
  by_cases h : s.isSkeleton = true
  · simp only [h, ↓reduceIte, List.map_cons, List.map_nil]
  · simp only [h, Bool.false_eq_true, ↓reduceIte]
    have e1 : (s.translate d).startJoin = s.startJoin.translate d := rfl
    have e2 : (s.translate d).endJoin = s.endJoin.translate d := rfl
    rw [e1, e2, startCapLines_translate, endCapLines_translate]
    obtain ⟨a1, a2⟩ := s.startJoin.startCapLines
    obtain ⟨b1, b2⟩ := s.endJoin.endCapLines
    cases a2 <;> cases b2 <;> rfl

def shiftS (s : Scanline) (d : Pt) : Scanline := ⟨s.y + d.y, s.xs + d.x, s.xe + d.x⟩

/-- Both empty, or exactly shifted (rows are not compared: the parked scanlines of `LineConfig`
are only ever `try_take`n). -/
def SR0 (d : Pt) (s' s : Scanline) : Prop :=
  (s'.isEmpty = true ∧ s.isEmpty = true) ∨ s' = shiftS s d

def SR (d : Pt) (s' s : Scanline) : Prop :=
  s'.y = s.y + d.y ∧ ((s'.isEmpty = true ∧ s.isEmpty = true) ∨ s' = shiftS s d)

theorem SR_newEmpty (d : Pt) (y : Int) : SR d (Scanline.newEmpty (y + d.y)) (Scanline.newEmpty y) :=
  ⟨rfl, Or.inl ⟨rfl, rfl⟩⟩

theorem SR0_newEmpty (d : Pt) (y' y : Int) : SR0 d (Scanline.newEmpty y') (Scanline.newEmpty y) :=
  Or.inl ⟨rfl, rfl⟩

theorem isEmpty_shiftS (s : Scanline) (d : Pt) : (shiftS s d).isEmpty = s.isEmpty := by
  unfold Scanline.isEmpty shiftS
  rw [Bool.eq_iff_iff]; simp only [Bool.not_eq_true', decide_eq_false_iff_not]; omega

theorem SR0_isEmpty {d : Pt} {s' s : Scanline} (h : SR0 d s' s) : s'.isEmpty = s.isEmpty := by
  rcases h with ⟨a, b⟩ | e
  · rw [a, b]
  · rw [e, isEmpty_shiftS]

theorem SR0_of_nonempty {d : Pt} {s' s : Scanline} (h : SR0 d s' s) (hne : s.isEmpty = false) :
    s' = shiftS s d := by
  rcases h with ⟨_, b⟩ | e
  · rw [hne] at b; exact absurd b (by decide)
  · exact e

theorem SR_isEmpty {d : Pt} {s' s : Scanline} (h : SR d s' s) : s'.isEmpty = s.isEmpty :=
  SR0_isEmpty h.2

theorem SR_of_nonempty {d : Pt} {s' s : Scanline} (h : SR d s' s) (hne : s.isEmpty = false) :
    s' = shiftS s d :=
  SR0_of_nonempty h.2 hne

theorem SR_extend {d : Pt} {s' s : Scanline} (h : SR d s' s) (x : Int) :
    SR d (s'.extend (x + d.x)) (s.extend x) := by
  refine ⟨by rw [extend_y, extend_y, h.1], Or.inr ?_⟩
  rw [Scanline.extend_eq, Scanline.extend_eq]
  cases hem : s.isEmpty with
  | true =>
    have hem' : s'.isEmpty = true := by rw [SR_isEmpty h, hem]
    rw [if_neg ((isEmpty_iff s).mp hem), if_neg ((isEmpty_iff s').mp hem')]
    simp only [shiftS, h.1, Scanline.mk.injEq, true_and]; omega
  | false =>
    have hne : s.xs < s.xe := (Scanline.isEmpty_false_iff s).mp hem
    rw [SR_of_nonempty h hem, if_pos hne, if_pos (by simp only [shiftS]; omega)]
    simp only [shiftS, Scanline.mk.injEq, true_and]
    omega

theorem SR_foldl_extend {d : Pt} (ps : List Pt) {s' s : Scanline} (h : SR d s' s) :
    SR d ((ps.map (· + d)).foldl (fun s p => s.extend p.x) s') (ps.foldl (fun s p => s.extend p.x) s) := by
  induction ps generalizing s' s with
  | nil => exact h
  | cons p ps ih =>
    simp only [List.map_cons, List.foldl_cons, Pt.add_x]
    exact ih (SR_extend h p.x)

theorem inYb_translate (s' s : Scanline) (l : Line) (d : Pt) (hy : s'.y = s.y + d.y) :
    inYb s' (l.translate d) = inYb s l := by
  rw [Bool.eq_iff_iff, inYb_iff, inYb_iff, hy]
  simp only [translate_start, translate_stop, Pt.add_y]
  omega

theorem rowPoints_translate (s' s : Scanline) (l : Line) (d : Pt) (hy : s'.y = s.y + d.y) :
    rowPoints s' (l.translate d) = (rowPoints s l).map (· + d) := by
  unfold rowPoints
  rw [Line.points_translate, List.dropWhile_map, List.takeWhile_map]
  have e1 : ((fun (p : Pt) => p.y != s'.y) ∘ fun (x : Pt) => x + d) = (fun p => p.y != s.y) := by
    funext p
    simp only [Function.comp, Pt.add_y, hy]
    rw [Bool.eq_iff_iff]; simp only [bne_iff_ne, ne_eq]; omega
  have e2 : ((fun (p : Pt) => p.y == s'.y) ∘ fun (x : Pt) => x + d) = (fun p => p.y == s.y) := by
    funext p
    simp only [Function.comp, Pt.add_y, hy]
    rw [Bool.eq_iff_iff]; simp only [beq_iff_eq]; omega
  rw [e1, e2]

theorem SR_bint {d : Pt} {s' s : Scanline} (h : SR d s' s) (l : Line) :
    SR d (bint s' (l.translate d)) (bint s l) := by
  rw [bint_eq, bint_eq, inYb_translate s' s l d h.1, rowPoints_translate s' s l d h.1]
  by_cases hb : inYb s l = true
  · simp only [hb, ↓reduceIte]; exact SR_foldl_extend _ h
  · simp only [hb, Bool.false_eq_true, ↓reduceIte]; exact h

theorem SR_foldl_bint {d : Pt} (ls : List Line) {s' s : Scanline} (h : SR d s' s) :
    SR d ((ls.map (·.translate d)).foldl bint s') (ls.foldl bint s) := by
  induction ls generalizing s' s with
  | nil => exact h
  | cons l ls ih =>
    simp only [List.map_cons, List.foldl_cons]
    exact ih (SR_bint h l)

theorem intersection_translate_segment (s : ThickSegment) (d : Pt) (y : Int) :
    SR d ((s.translate d).intersection (y + d.y)) (s.intersection y) := by
  unfold ThickSegment.intersection
  rw [outline_translate]
  exact SR_foldl_bint _ (SR_newEmpty d y)

theorem touches_iff (s o : Scanline) :
    s.touches o = true ↔ s.xs < s.xe ∧ o.xs < o.xe ∧
      ((s.xs - 1 ≤ o.xs ∧ o.xs ≤ s.xe) ∨ (s.xs - 1 ≤ o.xe - 1 ∧ o.xe - 1 ≤ s.xe) ∨
       (o.xs - 1 ≤ s.xs ∧ s.xs ≤ o.xe) ∨ (o.xs - 1 ≤ s.xe - 1 ∧ s.xe - 1 ≤ o.xe)) := by
  rw [Scanline.touches_iff]
  unfold Scanline.Touch
  omega

/-- `touches` compares columns only, and an empty scanline touches nothing. -/
theorem touches_SR0 {d : Pt} {a' a b' b : Scanline} (ha : SR0 d a' a) (hb : SR0 d b' b) :
    a'.touches b' = a.touches b := by
  rw [Bool.eq_iff_iff, touches_iff, touches_iff]
  rcases ha with ⟨ea', ea⟩ | rfl
  · rw [isEmpty_iff] at ea' ea; omega
  · rcases hb with ⟨eb', eb⟩ | rfl
    · rw [isEmpty_iff] at eb' eb; omega
    · simp only [shiftS]; omega

theorem tryExtend_SR {d : Pt} {a' a b' b : Scanline} (ha : SR d a' a) (hb : SR d b' b) :
    (a'.tryExtend b').1 = (a.tryExtend b).1 ∧ SR d (a'.tryExtend b').2 (a.tryExtend b).2 := by
  unfold Scanline.tryExtend
  rw [touches_SR0 ha.2 hb.2]
  by_cases ht : a.touches b = true
  · simp only [ht, ↓reduceIte, true_and]
    -- scanlines that touch are not empty, so both are shifted exactly
    have hne := (touches_iff a b).mp ht
    have ea := SR_of_nonempty ha (by rw [← Bool.not_eq_true, isEmpty_iff]; omega)
    have eb := SR_of_nonempty hb (by rw [← Bool.not_eq_true, isEmpty_iff]; omega)
    subst ea eb
    refine ⟨rfl, Or.inr ?_⟩
    simp only [shiftS, Scanline.mk.injEq, true_and]
    omega
  · simp only [ht, Bool.false_eq_true, ↓reduceIte, true_and]; exact ha

theorem tryTake_y (a : Scanline) : a.tryTake.2.y = a.y := by
  unfold Scanline.tryTake; split <;> rfl

theorem tryTake_SR0 {d : Pt} {a' a : Scanline} (h : SR0 d a' a) :
    OptRel (fun x' x => x' = shiftS x d) a'.tryTake.1 a.tryTake.1 ∧ SR0 d a'.tryTake.2 a.tryTake.2 := by
  unfold Scanline.tryTake
  rw [SR0_isEmpty h]
  cases he : a.isEmpty with
  | true => exact ⟨trivial, h⟩
  | false => exact ⟨SR0_of_nonempty h he, Or.inl ⟨rfl, rfl⟩⟩

theorem tryTake_SR {d : Pt} {a' a : Scanline} (h : SR d a' a) :
    OptRel (fun x' x => x' = shiftS x d) a'.tryTake.1 a.tryTake.1 ∧ SR d a'.tryTake.2 a.tryTake.2 :=
  ⟨(tryTake_SR0 h.2).1, by rw [tryTake_y, tryTake_y]; exact h.1, (tryTake_SR0 h.2).2⟩

theorem toRectangle_shiftS (s : Scanline) (d : Pt) :
    (shiftS s d).toRectangle = s.toRectangle.translate d := by
  unfold Scanline.toRectangle
  rw [isEmpty_shiftS]
  simp only [shiftS, Rect.translate, Rect.mk.injEq, Pt.ext_iff', Pt.add_x, Pt.add_y, and_self, true_and]
  split
  · simp only [Sz.mk.injEq, and_true]; congr 1; omega
  · trivial

end Joins
end EG
