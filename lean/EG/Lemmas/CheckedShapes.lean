/-
  EG.Lemmas.CheckedShapes — range theorems of the `Circle` / `Ellipse` / `EllipseContains` kernels.

  Shape domain `S` (4 times the display scale in the coordinates, 8 times in the sizes):
    `S.coord x`  : |x| <= 4096      (top-left corners; covers stroke areas: 1024 + 128)
    `S.size n`   : n <= 8192        (sizes / diameters; covers stroke areas: 1024 + 2 * 128)
    `S.probe x`  : |x| <= 8192      (probe points of `contains`; covers every point of a stroke area)
  With these bounds the doubled difference `center_2x - 2 p` is at most 32767 in absolute value,
  the largest value whose squared length `x^2 + y^2` still fits `i32` (circle), and so at most
  46340, the largest `i32` whose square fits (ellipse).
-/
import EG.Lemmas.Checked
import EG.Model.CheckedShapes
-- `pow_two`, and the `Monoid` instances of `Int` and `Nat` through which `^` elaborates in the Checked and C08 files
import Mathlib.Algebra.Group.Int.Defs
import Mathlib.Algebra.Group.Nat.Defs
namespace EG.Chk
open EG

def S.coord (x : Int) : Prop := -4096 ≤ x ∧ x ≤ 4096
def S.size (n : Nat) : Prop := n ≤ 8192
def S.probe (x : Int) : Prop := -8192 ≤ x ∧ x ≤ 8192
instance (x : Int) : Decidable (S.coord x) := by unfold S.coord; exact inferInstance
instance (n : Nat) : Decidable (S.size n) := by unfold S.size; exact inferInstance
instance (x : Int) : Decidable (S.probe x) := by unfold S.probe; exact inferInstance
attribute [reducible] S.coord S.size S.probe

theorem diameterToThreshold_ok {d : Nat} (h : d ≤ 65535) :
    diameterToThreshold d = some (EG.diameterToThreshold d) := by
  have h2 : d * d ≤ 65535 * 65535 := Nat.mul_le_mul h h
  unfold diameterToThreshold EG.diameterToThreshold
  split
  · have : d / 2 ≤ d * d := Nat.le_trans (Nat.div_le_self d 2) (Nat.le_mul_self d)
    rw [chkU32_bind (by omega), subU_ok this]
  · exact chkU32_ok (by omega)

theorem lengthSquared_bounds {p : Pt} {B : Int} (hx : -B ≤ p.x ∧ p.x ≤ B) (hy : -B ≤ p.y ∧ p.y ≤ B) :
    0 ≤ EG.lengthSquared p ∧ EG.lengthSquared p ≤ B * B + B * B :=
  ⟨Int.add_nonneg (int_mul_self_nonneg p.x) (int_mul_self_nonneg p.y),
    Int.add_le_add (sq_le_of_abs_le hx.1 hx.2) (sq_le_of_abs_le hy.1 hy.2)⟩

/-- `+-32767` are the largest coordinates whose squared length fits `i32`. -/
theorem lengthSquared_ok {p : Pt} (hx : -32767 ≤ p.x ∧ p.x ≤ 32767) (hy : -32767 ≤ p.y ∧ p.y ≤ 32767) :
    lengthSquared p = some (EG.lengthSquared p) := by
  have h1 := sq_le_of_abs_le hx.1 hx.2
  have h2 := sq_le_of_abs_le hy.1 hy.2
  have h3 := int_mul_self_nonneg p.x
  have h4 := int_mul_self_nonneg p.y
  unfold lengthSquared EG.lengthSquared
  chk_simp

theorem Circle.center2x_ok {c : EG.Circle} (ht : W.pt c.tl) (hd : W.size c.d) :
    Circle.center2x c = some c.center2x := by
  unfold Circle.center2x
  rw [ptMul_ok (by omega), some_bind, ptAddSize_ok (by simp only; omega)]
  rfl

theorem Circle.delta_bounds {c : EG.Circle} (hx : S.coord c.tl.x) (hy : S.coord c.tl.y) (hd : S.size c.d)
    {p : Pt} (hpx : S.probe p.x) (hpy : S.probe p.y) :
    (-32767 ≤ c.center2x.x - p.x * 2 ∧ c.center2x.x - p.x * 2 ≤ 32767) ∧
    (-32767 ≤ c.center2x.y - p.y * 2 ∧ c.center2x.y - p.y * 2 ≤ 32767) := by
  simp only [EG.Circle.center2x]
  omega

theorem Circle.contains_ok {c : EG.Circle} (hx : S.coord c.tl.x) (hy : S.coord c.tl.y) (hd : S.size c.d)
    {p : Pt} (hpx : S.probe p.x) (hpy : S.probe p.y) :
    Circle.contains c p = some (c.contains p) := by
  have hδ := Circle.delta_bounds hx hy hd hpx hpy
  unfold Circle.contains
  rw [Circle.center2x_ok (by omega) (by omega), some_bind,
    ptMul_ok (by omega), some_bind, ptSub_ok (by simp only; omega), some_bind,
    lengthSquared_ok hδ.1 hδ.2, some_bind, diameterToThreshold_ok (by omega), some_bind,
    i32AsU32_nonneg (lengthSquared_bounds hδ.1 hδ.2).1]
  rfl

theorem Circle.withCenter_ok {ctr : Pt} {d : Nat}
    (hc : (-1073741824 ≤ ctr.x ∧ ctr.x ≤ 1073741824) ∧ (-1073741824 ≤ ctr.y ∧ ctr.y ≤ 1073741824))
    (hd : d ≤ 2147483648) : Circle.withCenter ctr d = some (EG.Circle.withCenter ctr d) := by
  unfold Circle.withCenter EG.Circle.withCenter
  rw [Chk.withCenter_ok hc ⟨hd, hd⟩]
  rfl

theorem Circle.offset_ok {c : EG.Circle} (ht : W.pt c.tl) (hd : W.size c.d) {o : Int} (ho : W.coord o) :
    Circle.offset c o = some (c.offset o) := by
  have hcb : c.tl.x ≤ c.boundingBox.center.x ∧ (c.boundingBox.center.x - c.tl.x) * 2 ≤ c.d ∧
      c.tl.y ≤ c.boundingBox.center.y ∧ (c.boundingBox.center.y - c.tl.y) * 2 ≤ c.d :=
    center_bounds c.boundingBox
  have hd' : c.d ≤ 2147483648 := Nat.le_trans hd (by decide)
  unfold Circle.offset EG.Circle.offset
  split
  · rw [ptSub_ok (by simp only; omega), some_bind, i32AsU32_nonneg (by omega),
      chkU32_bind (by omega)]
    rfl
  · rw [chkI32_bind (by omega), i32AsU32_nonneg (by omega), chkU32_bind (by omega),
      center_ok (r := c.boundingBox) ht ⟨hd', hd'⟩, some_bind]
    exact Circle.withCenter_ok (by omega) (by omega)

theorem EllipseContains.new_ok {s : Sz} (hw : s.w ≤ 65535) (hh : s.h ≤ 65535) :
    EllipseContains.new s = some (EG.EllipseContains.new s) := by
  have h1 : s.w * s.w ≤ 65535 * 65535 := Nat.mul_le_mul hw hw
  have h2 : s.h * s.h ≤ 65535 * 65535 := Nat.mul_le_mul hh hh
  have h3 : (s.h * s.h) * (s.w * s.w) ≤ (65535 * 65535) * (65535 * 65535) := Nat.mul_le_mul h2 h1
  unfold EllipseContains.new EG.EllipseContains.new
  simp only [Nat.pow_two]
  rw [chkU32_bind (by omega), chkU32_bind (by omega)]
  split
  · rw [diameterToThreshold_ok hw]; rfl
  · rw [chkU64_bind (by omega)]; rfl

theorem EllipseContains.new_ab {s : Sz} (hw : s.w ≤ 65535) (hh : s.h ≤ 65535) :
    (EG.EllipseContains.new s).a ≤ 4294967295 ∧ (EG.EllipseContains.new s).b ≤ 4294967295 := by
  have h1 : s.w * s.w ≤ 65535 * 65535 := Nat.mul_le_mul hw hw
  have h2 : s.h * s.h ≤ 65535 * 65535 := Nat.mul_le_mul hh hh
  simp only [EG.EllipseContains.new, Nat.pow_two]
  omega

/-- `a, b < 2^32` (`u32` squares) and `x^2, y^2 < 2^31` (`|x|, |y| <= 46340`): the `u64` products
`b x^2`, `a y^2` are below `2^63` each. -/
theorem EllipseContains.contains_ok {e : EG.EllipseContains} (ha : e.a ≤ 4294967295) (hb : e.b ≤ 4294967295)
    {p : Pt} (hx : -46340 ≤ p.x ∧ p.x ≤ 46340) (hy : -46340 ≤ p.y ∧ p.y ≤ 46340) :
    EllipseContains.contains e p = some (e.contains p) := by
  have h1 := sq_le_of_abs_le hx.1 hx.2
  have h2 := sq_le_of_abs_le hy.1 hy.2
  have h3 := int_mul_self_nonneg p.x
  have h4 := int_mul_self_nonneg p.y
  have h5 : e.b * (p.x * p.x).toNat ≤ 4294967295 * 2147395600 :=
    Nat.mul_le_mul hb (by omega)
  have h6 : e.a * (p.y * p.y).toNat ≤ 4294967295 * 2147395600 :=
    Nat.mul_le_mul ha (by omega)
  unfold EllipseContains.contains EG.EllipseContains.contains
  simp only [pow_two]
  rw [chkI32_bind (by omega), chkI32_bind (by omega)]
  split <;> chk_simp

theorem Ellipse.center2x_ok {e : EG.Ellipse} (ht : W.pt e.tl) (hs : W.sz e.size) :
    Ellipse.center2x e = some e.center2x := by
  unfold Ellipse.center2x Ellipse.center2xOf
  rw [ptMul_ok (by omega), some_bind, ptAddSize_ok (by simp only; omega)]
  rfl

theorem Ellipse.delta_bounds {e : EG.Ellipse} (hx : S.coord e.tl.x) (hy : S.coord e.tl.y)
    (hw : S.size e.size.w) (hh : S.size e.size.h) {p : Pt} (hpx : S.probe p.x) (hpy : S.probe p.y) :
    (-32767 ≤ p.x * 2 - e.center2x.x ∧ p.x * 2 - e.center2x.x ≤ 32767) ∧
    (-32767 ≤ p.y * 2 - e.center2x.y ∧ p.y * 2 - e.center2x.y ≤ 32767) := by
  simp only [EG.Ellipse.center2x, EG.Ellipse.center2xOf]
  omega

theorem Ellipse.contains_ok {e : EG.Ellipse} (hx : S.coord e.tl.x) (hy : S.coord e.tl.y)
    (hw : S.size e.size.w) (hh : S.size e.size.h) {p : Pt} (hpx : S.probe p.x) (hpy : S.probe p.y) :
    Ellipse.contains e p = some (e.contains p) := by
  have hδ := Ellipse.delta_bounds hx hy hw hh hpx hpy
  obtain ⟨ha, hb⟩ := EllipseContains.new_ab (s := e.size) (by omega) (by omega)
  unfold Ellipse.contains EG.Ellipse.contains
  rw [EllipseContains.new_ok (by omega) (by omega), some_bind, ptMul_ok (by omega), some_bind,
    Ellipse.center2x_ok (by omega) (by omega), some_bind,
    ptSub_ok (by simp only; omega), some_bind]
  exact EllipseContains.contains_ok ha hb (by simp only [Pt.sub_x]; omega) (by simp only [Pt.sub_y]; omega)

theorem Ellipse.withCenter_ok {ctr : Pt} {s : Sz}
    (hc : (-1073741824 ≤ ctr.x ∧ ctr.x ≤ 1073741824) ∧ (-1073741824 ≤ ctr.y ∧ ctr.y ≤ 1073741824))
    (hs : s.w ≤ 2147483648 ∧ s.h ≤ 2147483648) :
    Ellipse.withCenter ctr s = some (EG.Ellipse.withCenter ctr s) := by
  unfold Ellipse.withCenter EG.Ellipse.withCenter
  rw [Chk.withCenter_ok hc hs]
  rfl

theorem Ellipse.offset_ok {e : EG.Ellipse} (ht : W.pt e.tl) (hs : W.sz e.size) {o : Int} (ho : W.coord o) :
    Ellipse.offset e o = some (e.offset o) := by
  have hcb : e.tl.x ≤ e.boundingBox.center.x ∧ (e.boundingBox.center.x - e.tl.x) * 2 ≤ e.size.w ∧
      e.tl.y ≤ e.boundingBox.center.y ∧ (e.boundingBox.center.y - e.tl.y) * 2 ≤ e.size.h :=
    center_bounds e.boundingBox
  have hs' : e.size.w ≤ 2147483648 ∧ e.size.h ≤ 2147483648 :=
    ⟨Nat.le_trans hs.1 (by decide), Nat.le_trans hs.2 (by decide)⟩
  unfold Ellipse.offset EG.Ellipse.offset
  split
  · rw [ptSub_ok (by simp only; omega), some_bind, i32AsU32_nonneg (by omega),
      chkU32_bind (by omega)]
    rfl
  · rw [chkI32_bind (by omega), i32AsU32_nonneg (by omega), chkU32_bind (by omega),
      center_ok (r := e.boundingBox) ht hs', some_bind]
    apply Ellipse.withCenter_ok (by omega)
    simp only [Sz.satSub, Sz.newEqual]
    omega

/-! ## Why `u64`: the old `u32` arithmetic overflows inside the display scale -/

/-- The old `u32` threshold `w^2 * h^2` of a 320 x 240 ellipse does not fit. -/
theorem Old.ellipse_threshold_exceeds_u32 : ¬ (320 ^ 2 * 240 ^ 2 ≤ 4294967295) := by decide

/-- The old constructor panics for the 320 x 240 ellipse, the current one does not. -/
theorem Old.ellipseNew_320x240 :
    Old.ellipseNew ⟨320, 240⟩ = none ∧ (EllipseContains.new ⟨320, 240⟩).isSome = true := by
  constructor <;> decide

/-- The old `contains` sum `b x + a y` overflows `u32` although the threshold fits:
256 x 255 ellipse (threshold 65536 * 65025 < 2^32), probe point (256, 255) in doubled
coordinates (the corner of the bounding box). -/
theorem Old.ellipseContains_256x255 :
    (Old.ellipseNew ⟨256, 255⟩).isSome = true ∧
    Old.ellipseContains ⟨65536, 65025, 4261478400⟩ ⟨256, 255⟩ = none ∧
    (EllipseContains.contains ⟨65536, 65025, 4261478400⟩ ⟨256, 255⟩).isSome = true := by
  refine ⟨?_, ?_, ?_⟩ <;> decide

end EG.Chk
