/-
  EG.Lemmas.CallTranslate — the generic step from "the call list of `x.translate(d)` is the call
  list of `x` moved by `d`" to "the picture of `x.translate(d)` is the picture of `x` shifted by
  `d`", for both recording targets (`runNative` = R2 native fills, `runDefault` = R1 trait
  defaults). Side condition per call: the area handed to `fill_solid` / `fill_contiguous` lies in
  the `i32` range before and after the move (where `Rectangle::points` does not saturate) or is
  empty; `draw_iter` calls need nothing.
-/
import EG.Lemmas.PMapTranslate
namespace EG
open EG.Tgt

/-- A rectangle whose `points()` move with it: empty (no points before or after), or inside the
`i32` range before and after the move by `d` (no saturation in `rows()` / `columns()`). -/
def Rect.MoveOK (d : Pt) (a : Rect) : Prop :=
  a.isZeroSized = true ∨ (a.InRange ∧ (a.translate d).InRange)

instance (d : Pt) (a : Rect) : Decidable (a.MoveOK d) := by unfold Rect.MoveOK; exact inferInstance

theorem Rect.MoveOK.of_inRange {d : Pt} {a : Rect} (h : a.InRange) (h' : (a.translate d).InRange) :
    a.MoveOK d := Or.inr ⟨h, h'⟩

theorem Rect.pointsSpec_translate_of_moveOK {d : Pt} {a : Rect} (h : a.MoveOK d) :
    (a.translate d).pointsSpec = a.pointsSpec.map (fun p => p + d) := by
  rw [Rect.pointsSpec_eq_grid (h.imp id And.left),
    Rect.pointsSpec_eq_grid (r := a.translate d) (h.imp id And.right), Rect.grid_translate]

theorem Rect.points_translate_of_moveOK {d : Pt} {a : Rect} (h : a.MoveOK d) :
    (a.translate d).points = a.points.map (fun p => p + d) := by
  rw [Rect.points_eq_spec, Rect.points_eq_spec, Rect.pointsSpec_translate_of_moveOK h]

/-- The area a call hands to the target is empty or lies in the `i32` range before and after the
move by `d` (`clear` uses the target's box `B`). -/
def Call.MoveOK (B : Rect) (d : Pt) : Call → Prop
  | .drawIter _ => True
  | .fillContiguous a _ => a.MoveOK d
  | .fillSolid a _ => a.MoveOK d
  | .clear _ => B.MoveOK d

instance (B : Rect) (d : Pt) (c : Call) : Decidable (c.MoveOK B d) := by
  cases c <;> unfold Call.MoveOK <;> exact inferInstance

theorem Call.MoveOK.ok {B : Rect} {d : Pt} {c : Call} (h : c.MoveOK B d) :
    c.Ok B ∧ (c.translate d).Ok (B.translate d) := by
  cases c with
  | drawIter px => exact ⟨trivial, trivial⟩
  | fillContiguous a cs => exact ⟨h.imp id And.left, h.imp id And.right⟩
  | fillSolid a col => exact ⟨h.imp id And.left, h.imp id And.right⟩
  | clear col => exact ⟨h.imp id And.left, h.imp id And.right⟩

/-- **Moved calls on the moved target box leave the shifted picture**, natively (R2) and through the
trait defaults (R1): what the moved calls paint is what the calls paint, moved (`paint_translate`);
that nothing saturates is needed before and after the move, to read the list model as `paint`. -/
theorem picture_translate {B : Rect} {d : Pt} {cs cs' : List Call}
    (e : cs' = cs.map (Call.translate d)) (h : ∀ c ∈ cs, c.Ok B)
    (h' : ∀ c ∈ cs', c.Ok (B.translate d)) :
    runNative (B.translate d) cs' = PMap.shift d (runNative B cs) ∧
    runDefault (B.translate d) cs' = PMap.shift d (runDefault B cs) := by
  rw [runDefault_eq_runNative B cs]
  refine both_targets (funext fun q => ?_)
  rw [PMap.shift_at, runNative_eq_paint h, runNative_eq_paint h', e, paint_translate,
    Rect.contains_translate']

theorem picture_translate_of_moveOK {B : Rect} {d : Pt} {calls : List Call}
    (h : ∀ c ∈ calls, c.MoveOK B d) :
    runNative (B.translate d) (calls.map (Call.translate d)) = PMap.shift d (runNative B calls) ∧
    runDefault (B.translate d) (calls.map (Call.translate d)) = PMap.shift d (runDefault B calls) :=
  picture_translate rfl (fun c hc => (h c hc).ok.1) fun c hc => by
    obtain ⟨c', hc', rfl⟩ := List.mem_map.mp hc
    exact (h c' hc').ok.2

theorem Call.ok_drawIter (B : Rect) (px : Writes) : ∀ c ∈ [Call.drawIter px], c.Ok B :=
  List.forall_mem_singleton.mpr trivial

end EG
