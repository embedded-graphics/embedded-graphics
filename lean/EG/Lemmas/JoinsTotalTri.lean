/-
  EG.Lemmas.JoinsTotalTri — the model of a styled triangle is total: `triStyledBoundingBox`,
  `triDraw` and `triPixels` return `some` for every triangle and style (any stroke width, alignment,
  fill), and `toList` sees the complete scanline run.
  * everything that calls `Line::extents` (`joins`, `is_collapsed`, the closed segment iterator,
    `edge_intersections`) is total by EG.Lemmas.ExtentsTotal;
  * the scanline iterator runs the closed form of EG.Lemmas.JoinsTriRows from every state
    (`triLines`: `toList` sees the complete run);
  * the pixel iterator walks the coloured lines of that run point by point (`triPix_run`; the `loop`
    of `StyledPixelsIterator::next` never uses up its fuel), from the line `new` took, forgiving one
    `None` (`triPix_new_forgiven`); hence `triPixels` in closed form (`triPixels_eq_take`), for every
    style, and it never returns `none`.
-/
import EG.Lemmas.ExtentsTotal
import EG.Lemmas.JoinsTriMove
import EG.Lemmas.JoinsTotalPoly
import EG.Lemmas.JoinsTransparent
namespace EG
open C01Thick (Run triScanlines_toListFuel_eq triPixels_toListFuel_eq triScanlineRun)
namespace Joins
open Thick (LineSide StrokeOffset)

theorem joins_total (t : Tri) (w : Nat) (off : StrokeOffset) :
    ∃ j1 j2 j3, t.joins w off = some [j1, j2, j3] := by
  obtain ⟨j1, h1⟩ := fromPoints_total t.v3 t.v1 t.v2 w off
  obtain ⟨j2, h2⟩ := fromPoints_total t.v1 t.v2 t.v3 w off
  obtain ⟨j3, h3⟩ := fromPoints_total t.v2 t.v3 t.v1 w off
  refine ⟨j1, j2, j3, ?_⟩
  unfold Tri.joins
  simp only [h1, h2, h3, Option.bind_eq_bind, Option.bind_some, pure]

theorem closedSegments3_total (t : Tri) (w : Nat) (off : StrokeOffset) :
    ∃ segs, closedSegments3 t w off = some segs := by
  obtain ⟨j1, j2, j3, h⟩ := joins_total t w off
  exact ⟨_, by rw [closedSegments3_eq_joins, h]; rfl⟩

theorem triStyledBoundingBox_total (t : Tri) (style : TriStyle) :
    ∃ r, triStyledBoundingBox t style = some r := by
  rw [triStyledBoundingBox_eq]
  split
  · exact ⟨_, rfl⟩
  · obtain ⟨segs, h⟩ := closedSegments3_total t.sortedClockwise style.strokeWidth
      style.strokeAlignment.toOffset
    rw [h]
    exact ⟨_, rfl⟩

theorem joinCollapsed_total (t : Tri) (w : Nat) (off : StrokeOffset) (i : Nat) (j : LineJoin) :
    ∃ b, t.joinCollapsed w off i j = some b := by
  unfold Tri.joinCollapsed
  split
  · exact ⟨_, rfl⟩
  · obtain ⟨⟨a, b⟩, h⟩ := extents_total ⟨t.vertex (i + 1), t.vertex (i + 2)⟩ w off
    simp only [h, Option.bind_eq_bind, Option.bind_some, pure]
    exact ⟨_, rfl⟩

theorem isCollapsed_total (t : Tri) (w : Nat) (off : StrokeOffset) : ∃ c, t.isCollapsed w off = some c := by
  obtain ⟨j1, j2, j3, hj⟩ := joins_total t w off
  obtain ⟨c1, h1⟩ := joinCollapsed_total t w off 0 j1
  obtain ⟨c2, h2⟩ := joinCollapsed_total t w off 1 j2
  obtain ⟨c3, h3⟩ := joinCollapsed_total t w off 2 j3
  unfold Tri.isCollapsed
  simp only [hj, h1, h2, h3, Option.bind_eq_bind, Option.bind_some, pure]
  exact ⟨_, rfl⟩

/-- A triangle that collapses under an inside stroke of width 4 (the witness of the guard examples). -/
theorem inside_stroke_collapsed :
    (⟨⟨0, 0⟩, ⟨9, 1⟩, ⟨2, 7⟩⟩ : Tri).sortedClockwise.isCollapsed 4 .right = some true := by decide +kernel

namespace TriIntersections

theorem generateLines_total (it : TriIntersections) (y : Int) : ∃ c, it.generateLines y = some c :=
  ⟨_, generateLines_eq it y⟩

theorem reset_total (it : TriIntersections) (y : Int) : ∃ it', it.resetWithNewScanline y = some it' := by
  obtain ⟨c, h⟩ := generateLines_total it y
  unfold resetWithNewScanline
  simp only [h, Option.bind_eq_bind, Option.bind_some, pure]
  exact ⟨_, rfl⟩

theorem new_total (t : Tri) (w : Nat) (off : StrokeOffset) (fill : Bool) (y : Int) :
    ∃ it, TriIntersections.new t w off fill y = some it := by
  obtain ⟨c, hc⟩ := isCollapsed_total t w off
  rw [TriIntersections.new_eq, hc]
  exact reset_total _ y

end TriIntersections

namespace TriScanlines

theorem new_total (t : Tri) (w : Nat) (off : StrokeOffset) (fill : Bool) (bb : Rect) :
    ∃ it, TriScanlines.new t w off fill bb = some it := by
  unfold TriScanlines.new
  dsimp only
  split
  · obtain ⟨ints, h⟩ := TriIntersections.new_total t.sortedClockwise w off fill bb.tl.y
    simp only [h, Option.bind_eq_bind, Option.bind_some, pure]
    exact ⟨_, rfl⟩
  · exact ⟨_, rfl⟩

theorem next_total (it : TriScanlines) : ∃ r, it.next = some r := by
  obtain ⟨first, it', hn, -⟩ := next_rest it it.intersections.gen_row
  exact ⟨_, hn⟩

theorem toListFuel_total : ∀ (fuel : Nat) (it : TriScanlines), ∃ l, it.toListFuel fuel = some l := by
  intro fuel it
  rw [triScanlines_toListFuel_eq]
  exact ⟨_, (run_rest it.intersections.gen_row).listFuel_take fuel⟩

end TriScanlines

theorem triScanlines_total (t : Tri) (style : TriStyle) : ∃ it, triScanlines t style = some it := by
  obtain ⟨bb, hbb⟩ := triStyledBoundingBox_total t style
  unfold triScanlines
  simp only [hbb, Option.bind_eq_bind, Option.bind_some]
  exact TriScanlines.new_total _ _ _ _ _

end Joins

namespace C01Thick
open EG.Joins

/-- **The complete scanline run of a triangle's `ScanlineIterator`**: it exists, it is what
`toList` (the `for` loop of `draw_styled`) returns, and every scanline in it is non-empty. -/
theorem triLines (it : TriScanlines) :
    ∃ L, it.toList = some L ∧ Run TriScanlines.nextLoop it L ∧ ∀ x ∈ L, x.1.isEmpty = false :=
  ⟨_, TriScanlines.toList_rest it.intersections.gen_row, TriScanlines.run_rest it.intersections.gen_row,
    TriScanlines.rest_nonempty _ it⟩

theorem triScanlineRun_total (t : Tri) (style : TriStyle) : ∃ L, triScanlineRun t style = some L := by
  obtain ⟨it, hit⟩ := triScanlines_total t style
  obtain ⟨L, hL, -, -⟩ := triLines it
  exact ⟨L, by unfold triScanlineRun; rw [hit]; exact hL⟩

end C01Thick

namespace Joins

theorem triDraw_total (t : Tri) (style : TriStyle) : ∃ calls, triDraw t style = some calls := by
  rw [triDraw_eq]
  split
  · exact ⟨_, rfl⟩
  · obtain ⟨L, hL⟩ := C01Thick.triScanlineRun_total t style
    unfold triScanlineRun at hL
    rw [hL]
    exact ⟨_, rfl⟩

end Joins

namespace C01Thick
open EG.Tgt EG.Joins

theorem triRun_length {it : TriScanlines} {L : List (Scanline × PointType)}
    (h : Run TriScanlines.nextLoop it L) : L.length ≤ 3 * ((it.rowsEnd - it.rowsStart).toNat + 1) := by
  rw [h.unique (TriScanlines.run_rest it.intersections.gen_row)]
  exact TriScanlines.rest_length_le _ it

/-- The pixels of a scanline with an optional colour: none without a colour. -/
def linePixels (s : Scanline) (col : Option Nat) : Writes :=
  match col with
  | some c => s.points.map (fun p => (p, c))
  | none => []

def typedPixels (fc sc : Option Nat) (x : Scanline × PointType) : Writes :=
  linePixels x.1 (kindColor fc sc x.2)

/-- With enough fuel for the remaining scanlines the `loop` of `next` does not depend on the fuel. -/
theorem triPixels_nextFuel_indep {li : TriScanlines} {L : List (Scanline × PointType)}
    (h : Run TriScanlines.nextLoop li L) :
    ∀ (f1 f2 : Nat) (cur : Scanline) (col fc sc : Option Nat), L.length < f1 → L.length < f2 →
      TriPixels.nextFuel f1 ⟨li, cur, col, fc, sc⟩ = TriPixels.nextFuel f2 ⟨li, cur, col, fc, sc⟩ := by
  induction h with
  | done h1 =>
    intro f1 f2 cur col fc sc hf1 hf2
    obtain ⟨a, rfl⟩ : ∃ a, f1 = a + 1 := ⟨f1 - 1, by omega⟩
    obtain ⟨b, rfl⟩ : ∃ b, f2 = b + 1 := ⟨f2 - 1, by omega⟩
    rw [TriPixels.nextFuel_succ, TriPixels.nextFuel_succ]
    cases TriPixels.hit ⟨_, cur, col, fc, sc⟩ with
    | some r => rfl
    | none => dsimp only; rw [h1]
  | @step s s' x l h1 _ ih =>
    intro f1 f2 cur col fc sc hf1 hf2
    simp only [List.length_cons] at hf1 hf2
    obtain ⟨a, rfl⟩ : ∃ a, f1 = a + 1 := ⟨f1 - 1, by omega⟩
    obtain ⟨b, rfl⟩ : ∃ b, f2 = b + 1 := ⟨f2 - 1, by omega⟩
    rw [TriPixels.nextFuel_succ, TriPixels.nextFuel_succ]
    cases TriPixels.hit ⟨s, cur, col, fc, sc⟩ with
    | some r => rfl
    | none =>
      dsimp only
      rw [h1]
      obtain ⟨nl, nt⟩ := x
      dsimp only
      exact ih a b nl _ fc sc (by omega) (by omega)

theorem Run.of_next_eq {σ α : Type} {next : σ → Option (Option (α × σ))} {s1 s2 : σ} {l : List α}
    (he : next s1 = next s2) (h : Run next s2 l) : Run next s1 l := by
  cases h with
  | done h1 => exact Run.done (he.trans h1)
  | step h1 hr => exact Run.step (he.trans h1) hr

/-- Draining the current line first: `hR` covers the states that have no pixel of the current line to
give (no colour, or the line is used up). -/
theorem triPix_drain (li : TriScanlines) (fc sc : Option Nat) (R : Writes)
    (hR : ∀ (cur : Scanline) (col : Option Nat), TriPixels.hit ⟨li, cur, col, fc, sc⟩ = none →
      Run TriPixels.next ⟨li, cur, col, fc, sc⟩ R)
    (cur : Scanline) (col : Option Nat) :
    Run TriPixels.next ⟨li, cur, col, fc, sc⟩ (linePixels cur col ++ R) := by
  cases col with
  | none => exact hR cur none rfl
  | some c =>
    refine Run.drain_line (next := TriPixels.next) (fun cur => (⟨li, cur, some c, fc, sc⟩ : TriPixels))
      (fun p => (p, c)) R (fun cur he => ?_) (fun cur0 he => hR cur0 (some c) ?_) _ cur rfl
    · unfold TriPixels.next
      rw [TriPixels.nextFuel_succ]
      unfold TriPixels.hit
      dsimp only
      rw [Scanline.next_of_nonempty he]
    · unfold TriPixels.hit
      dsimp only
      rw [Scanline.next_of_isEmpty he]

/-- **The run of the pixel iterator** whose scanline iterator runs `L` and whose current line is
`cur` with colour `col`: the pixels of `cur`, then those of every coloured scanline of `L`. -/
theorem triPix_run (fc sc : Option Nat) {li : TriScanlines} {L : List (Scanline × PointType)}
    (h : Run TriScanlines.nextLoop li L) (cur : Scanline) (col : Option Nat) :
    Run TriPixels.next ⟨li, cur, col, fc, sc⟩ (linePixels cur col ++ L.flatMap (typedPixels fc sc)) := by
  induction h generalizing cur col with
  | done h1 =>
    refine triPix_drain _ fc sc _ (fun cur0 col0 hh => ?_) cur col
    apply Run.done
    unfold TriPixels.next
    rw [TriPixels.nextFuel_succ, hh]
    dsimp only
    rw [h1]
  | @step s s' x l h1 hr ih =>
    refine triPix_drain _ fc sc _ (fun cur0 col0 hh => ?_) cur col
    obtain ⟨nl, nt⟩ := x
    rw [List.flatMap_cons]
    have hrun := ih nl (kindColor fc sc nt)
    refine Run.of_next_eq ?_ hrun
    unfold TriPixels.next
    rw [TriPixels.nextFuel_succ, hh]
    dsimp only
    rw [h1]
    dsimp only
    apply triPixels_nextFuel_indep hr
    · have h2 := triRun_length (Run.step h1 hr)
      simp only [List.length_cons] at h2
      omega
    · have h2 := triRun_length hr
      omega

theorem linePixels_newEmpty (y : Int) (col : Option Nat) : linePixels (Scanline.newEmpty y) col = [] := by
  unfold linePixels
  cases col with
  | none => rfl
  | some c => simp [Scanline.points, Scanline.newEmpty, irange_empty]

theorem colorOf_eq_kindColor (style : TriStyle) (k : PointType) :
    style.colorOf k = kindColor style.fillColor style.effectiveStrokeColor k := by
  cases k <;> rfl

/-- The pixel iterator `StyledPixelsIterator::new` builds runs the pixels of the coloured lines of
`forgiven`: `new` takes the first line, forgiving one `None` of the scanline iterator. -/
theorem triPix_new_forgiven (t : Tri) (style : TriStyle) {li : TriScanlines} {cfg : Int → LineConfig}
    (hli : triScanlines t style = some li) (hg : TriIntersections.Gen cfg li.intersections) :
    ∃ it, TriPixels.new t style = some it ∧
      Run TriPixels.next it ((li.forgiven cfg).flatMap (typedPixels style.fillColor style.effectiveStrokeColor)) := by
  obtain ⟨first, li', hn, hg', hsome, hnone⟩ := TriScanlines.next_rest li hg
  have hrun := TriScanlines.run_rest hg'
  unfold TriPixels.new
  simp only [hli, hn, Option.bind_eq_bind, Option.bind_some, pure]
  refine ⟨_, rfl, ?_⟩
  cases first with
  | none =>
    have h := triPix_run style.fillColor style.effectiveStrokeColor hrun (Scanline.newEmpty 0)
      (style.colorOf .stroke)
    rw [linePixels_newEmpty, List.nil_append, (hnone rfl).2] at h
    exact h
  | some x =>
    obtain ⟨nl, nt⟩ := x
    have h := triPix_run style.fillColor style.effectiveStrokeColor hrun nl (style.colorOf nt)
    have e : linePixels nl (style.colorOf nt) =
        typedPixels style.fillColor style.effectiveStrokeColor (nl, nt) := by
      unfold typedPixels; rw [colorOf_eq_kindColor]
    rw [e, ← List.flatMap_cons, ← hsome _ rfl,
      ← forgiven_of_ne (by rw [hsome _ rfl]; exact List.cons_ne_nil _ _)] at h
    exact h

/-- **`pixels()` of a styled triangle, every style**: the coloured lines of `forgiven`, point by
point, cut at the model's fuel (the pixel count of the `for`-loop run `rest`, plus one). -/
theorem triPixels_eq_take (t : Tri) (style : TriStyle) {li : TriScanlines} {cfg : Int → LineConfig}
    (hli : triScanlines t style = some li) (hg : TriIntersections.Gen cfg li.intersections) :
    triPixels t style =
      some (((li.forgiven cfg).flatMap (typedPixels style.fillColor style.effectiveStrokeColor)).take
        (((li.rest cfg).map (fun x => (x.1.xe - x.1.xs).toNat)).sum + 1)) := by
  obtain ⟨it, hit, hrun⟩ := triPix_new_forgiven t style hli hg
  have hfuel : triPixelFuel t style =
      some (((li.rest cfg).map (fun x => (x.1.xe - x.1.xs).toNat)).sum + 1) := by
    rw [triPixelFuel_eq_run]
    unfold triScanlineRun
    rw [hli, Option.bind_some, TriScanlines.toList_rest hg]; rfl
  unfold triPixels
  simp only [hfuel, hit, Option.bind_eq_bind, Option.bind_some]
  rw [triPixels_toListFuel_eq]
  exact hrun.listFuel_take _

end C01Thick

namespace Joins

theorem triPixels_total (t : Tri) (style : TriStyle) : ∃ px, triPixels t style = some px := by
  obtain ⟨li, hli⟩ := triScanlines_total t style
  exact ⟨_, C01Thick.triPixels_eq_take t style hli li.intersections.gen_row⟩

end Joins
end EG
