/-
  EG.Lemmas.ColorConvLift — C13: the conversions through the luma (RGB -> gray, RGB -> binary), the
  thresholds, gray -> RGB -> gray, all for arbitrary well-formed records; and what membership in the
  generated `resolvedTable` gives (`Typed`): both ends in the colour table, of the kinds the conversion's
  kind calls for, with the helper types the bodies name.
-/
import EG.Lemmas.ColorConv
namespace EG.Conv
open EG EG.Generated EG.ColorSpec

/-- What the bodies of RGB -> gray / binary assume of the types they name: `v` (`Rgb888`) is an RGB
type with 8-bit channels, `g` (`Gray8`) an 8-bit gray type. -/
structure Helpers (v g : ColorSpec) : Prop where
  v_wf : v.WellFormed = true
  v_rgb : v.isRgb = true
  v_max : v.maxR = 255 ∧ v.maxG = 255 ∧ v.maxB = 255
  g_wf : g.WellFormed = true
  g_gray : g.kind = .gray
  g_bpp : g.rawBpp = 8

theorem Helpers.g_max {v g : ColorSpec} (h : Helpers v g) : maxLuma g = 255 := by
  have := maxLuma_succ h.g_wf h.g_gray
  rw [h.g_bpp] at this
  omega

/-- `V::from(other)`: also the reflexive impl is channel-wise `convert_channel` (between equal maxima) -/
theorem toVia_channels {a v : ColorSpec} (hv : v.WellFormed = true) (hkv : v.isRgb = true)
    (hn : a.name = v.name → a = v) (c : Nat) :
    v.chanR (toVia a v c) = convertChannel a.maxR v.maxR (a.chanR c)
    ∧ v.chanG (toVia a v c) = convertChannel a.maxG v.maxG (a.chanG c)
    ∧ v.chanB (toVia a v c) = convertChannel a.maxB v.maxB (a.chanB c) := by
  unfold toVia
  by_cases h : a.name = v.name
  · rw [hn h, beq_self_eq_true, if_pos rfl, cc_same, cc_same, cc_same]
    exact ⟨rfl, rfl, rfl⟩
  · rw [if_neg (by simpa using h)]
    exact rgbToRgb_channels hv hkv c

theorem chan_le_255 (v : ColorSpec) (z : Nat) : v.chanR z ≤ 255 ∧ v.chanG z ≤ 255 ∧ v.chanB z ≤ 255 :=
  ⟨Nat.le_of_lt_succ (Nat.lt_of_le_of_lt (chanR_le v z) (maxChan_lt_256 _)),
    Nat.le_of_lt_succ (Nat.lt_of_le_of_lt (chanG_le v z) (maxChan_lt_256 _)),
    Nat.le_of_lt_succ (Nat.lt_of_le_of_lt (chanB_le v z) (maxChan_lt_256 _))⟩

theorem lumaOf_eq (v : ColorSpec) (z : Nat) :
    lumaOf v z = (v.chanR z * 77 + v.chanG z * 150 + v.chanB z * 29 + 128) / 256 := by
  obtain ⟨a1, a2, a3⟩ := chan_le_255 v z
  simp only [lumaOf, lumaWR, lumaWG, lumaWB, lumaRound, lumaDiv]
  exact Nat.mod_eq_of_lt (by omega)

theorem lumaOf_mono (v : ColorSpec) (z z' : Nat) (h1 : v.chanR z ≤ v.chanR z') (h2 : v.chanG z ≤ v.chanG z')
    (h3 : v.chanB z ≤ v.chanB z') : lumaOf v z ≤ lumaOf v z' := by
  rw [lumaOf_eq, lumaOf_eq]
  omega

theorem rgbLuma_le (a v : ColorSpec) (c : Nat) : rgbLuma a v c ≤ 255 :=
  Nat.le_of_lt_succ (Nat.mod_lt _ (by decide))

theorem rgbLuma_mono {a v : ColorSpec} (hv : v.WellFormed = true) (hkv : v.isRgb = true)
    (hn : a.name = v.name → a = v) (c c' : Nat)
    (h1 : a.chanR c ≤ a.chanR c') (h2 : a.chanG c ≤ a.chanG c') (h3 : a.chanB c ≤ a.chanB c') :
    rgbLuma a v c ≤ rgbLuma a v c' := by
  obtain ⟨e1, e2, e3⟩ := toVia_channels hv hkv hn c
  obtain ⟨e1', e2', e3'⟩ := toVia_channels hv hkv hn c'
  apply lumaOf_mono
  · rw [e1, e1']
    exact cc_mono (maxChan_lt_256 _) (chanR_le a c') h1
  · rw [e2, e2']
    exact cc_mono (maxChan_lt_256 _) (chanG_le a c') h2
  · rw [e3, e3']
    exact cc_mono (maxChan_lt_256 _) (chanB_le a c') h3

/-- `Gray8::new(luma).into()`: the luma scaled to the target's range (also when the target is `Gray8`
itself and `.into()` is the reflexive impl) -/
theorem rgbToGray_luma {a v g b : ColorSpec} (h : Helpers v g) (hb : b.WellFormed = true)
    (hkb : b.kind = .gray) (hn : b.name = g.name → b = g) (c : Nat) :
    b.luma (rgbToGray a v g b c) = convertChannel 255 (maxLuma b) (rgbLuma a v c) := by
  have hl := rgbLuma_le a v c
  have e : g.grayNew (rgbLuma a v c) = rgbLuma a v c := by
    rw [Color.grayNew_eq h.g_wf, h.g_bpp]
    exact Nat.mod_eq_of_lt (by omega)
  unfold rgbToGray
  simp only [e]
  by_cases hbg : b.name = g.name
  · rw [hn hbg, beq_self_eq_true, if_pos rfl, h.g_max, cc_same]
    rfl
  · have hval : g.Valid (rgbLuma a v c) := by
      unfold Valid
      rw [h.g_gray, h.g_bpp]
      exact Nat.lt_succ_of_le hl
    rw [if_neg (by simpa using hbg), grayToGray_luma h.g_wf hb h.g_gray hkb hval, h.g_max]
    rfl

theorem rgbToBinary_iff (a v : ColorSpec) (c : Nat) :
    (rgbToBinary a v c = 1 ↔ 128 ≤ rgbLuma a v c) ∧ (rgbToBinary a v c = 0 ∨ rgbToBinary a v c = 1) := by
  unfold rgbToBinary rgbBinaryThreshold
  split <;> omega

theorem gray50_luma {a : ColorSpec} (ha : a.WellFormed = true) (hka : a.kind = .gray) :
    2 * a.luma (gray50 a) = maxLuma a + 1 := by
  have h1 := Color.one_le_bpp ha
  have h8 := Color.wf_gray ha hka
  have e : (8 : Nat) - 1 - (8 - a.rawBpp) = a.rawBpp - 1 := by omega
  unfold gray50 luma gray50Lit gray50ShiftBase
  rw [Color.grayNew_eq ha, Nat.shiftRight_eq_div_pow, show (128 : Nat) = 2 ^ (8 - 1) from rfl,
    Nat.pow_div (by omega) (by decide), e, Nat.two_pow_pred_mod_two_pow h1, maxLuma_succ ha hka,
    ← Nat.pow_succ', Nat.succ_eq_add_one, Nat.sub_add_cancel h1]

theorem grayToBinary_iff {a : ColorSpec} (ha : a.WellFormed = true) (hka : a.kind = .gray) (c : Nat) :
    (grayToBinary a c = 1 ↔ maxLuma a + 1 ≤ 2 * a.luma c) ∧ (grayToBinary a c = 0 ∨ grayToBinary a c = 1) := by
  have := gray50_luma ha hka
  unfold grayToBinary
  split <;> omega

/-- widths `k ≤ n ≤ 8`: a `k`-bit value scaled to `n` bits, on to 8 bits and back to `k` bits is unchanged
(decided for the 36 pairs of widths and all values) -/
theorem cc_three_steps : ∀ k ∈ List.range 9, ∀ n ∈ List.range 9, 1 ≤ k → k ≤ n → ∀ l ∈ List.range (2 ^ k),
    convertChannel 255 (2 ^ k - 1) (convertChannel (2 ^ n - 1) 255 (convertChannel (2 ^ k - 1) (2 ^ n - 1) l)) = l := by
  decide +kernel

/-- `luma` is a weighted mean rounded half up, so it lies between the smallest and the largest channel:
a monotone map that sends all three channels to `l` sends the luma to `l` -/
theorem apply_lumaOf_eq (v : ColorSpec) (z : Nat) {f : Nat → Nat} {l : Nat}
    (hf : ∀ x y, x ≤ y → y ≤ 255 → f x ≤ f y)
    (hr : f (v.chanR z) = l) (hg : f (v.chanG z) = l) (hb : f (v.chanB z) = l) : f (lumaOf v z) = l := by
  obtain ⟨a1, a2, a3⟩ := chan_le_255 v z
  have hL : lumaOf v z ≤ 255 := Nat.le_of_lt_succ (Nat.mod_lt _ (by decide))
  have h1 : v.chanR z ≤ lumaOf v z ∨ v.chanG z ≤ lumaOf v z ∨ v.chanB z ≤ lumaOf v z := by
    rw [lumaOf_eq]
    omega
  have h2 : lumaOf v z ≤ v.chanR z ∨ lumaOf v z ≤ v.chanG z ∨ lumaOf v z ≤ v.chanB z := by
    rw [lumaOf_eq]
    omega
  apply Nat.le_antisymm
  · rcases h2 with h | h | h
    · rw [← hr]; exact hf _ _ h a1
    · rw [← hg]; exact hf _ _ h a2
    · rw [← hb]; exact hf _ _ h a3
  · rcases h1 with h | h | h
    · rw [← hr]; exact hf _ _ h hL
    · rw [← hg]; exact hf _ _ h hL
    · rw [← hb]; exact hf _ _ h hL

/-- Every channel of the RGB colour is the gray value scaled to that channel's width, and scaling it
on to 8 bits and back to the gray type's width returns the gray value (`cc_three_steps`); so does the
luma, which lies between the three 8-bit channels. -/
theorem gray_rgb_gray {a b v g : ColorSpec} (h : Helpers v g) (ha : a.WellFormed = true)
    (hb : b.WellFormed = true) (hka : a.kind = .gray) (hkb : b.isRgb = true)
    (hbv : b.name = v.name → b = v) (hag : a.name = g.name → a = g)
    (w1 : a.rawBpp ≤ b.rbits) (w2 : a.rawBpp ≤ b.gbits) (w3 : a.rawBpp ≤ b.bbits) {c : Nat} (hc : a.Valid c) :
    rgbToGray b v g a (grayToRgb a b c) = c := by
  obtain ⟨br, bg, bb, _⟩ := Color.wf_rgb hb hkb
  obtain ⟨m1, m2, m3⟩ := h.v_max
  have k1 := Color.one_le_bpp ha
  have hA : maxLuma a = 2 ^ a.rawBpp - 1 := by have := maxLuma_succ ha hka; omega
  have hcl : c < 2 ^ a.rawBpp := Color.valid_gray_lt hka hc
  -- one channel: gray width -> channel width -> 8 bits -> gray width
  have step (n : Nat) (hn : n ≤ 8) (hkn : a.rawBpp ≤ n) :
      convertChannel 255 (maxLuma a) (convertChannel (maxChan n) 255 (convertChannel (maxLuma a) (maxChan n) c))
        = c := by
    rw [hA, Color.maxChan_eq hn]
    exact cc_three_steps _ (List.mem_range.mpr (by omega)) n (List.mem_range.mpr (by omega)) k1 hkn c
      (List.mem_range.mpr hcl)
  obtain ⟨x1, x2, x3⟩ := grayToRgb_channels ha hb hka hkb hc
  obtain ⟨y1, y2, y3⟩ := toVia_channels h.v_wf h.v_rgb hbv (grayToRgb a b c)
  rw [x1, m1] at y1
  rw [x2, m2] at y2
  rw [x3, m3] at y3
  have hL := rgbToGray_luma (a := b) h ha hka hag (grayToRgb a b c)
  unfold luma at hL
  rw [hL]
  apply apply_lumaOf_eq v _ (fun x y hxy hy => cc_mono (maxLuma_u8 ha hka).2 hy hxy)
  · rw [y1]; exact step _ br.2 w1
  · rw [y2]; exact step _ bg.2 w2
  · rw [y3]; exact step _ bb.2 w3

theorem apply_rgbRgb {x : Resolved} (hk : x.kind = .rgbRgb) (c : Nat) : x.apply c = rgbToRgb x.a x.b c := by
  unfold Resolved.apply; rw [hk]
theorem apply_grayGray {x : Resolved} (hk : x.kind = .grayGray) (c : Nat) : x.apply c = grayToGray x.a x.b c := by
  unfold Resolved.apply; rw [hk]
theorem apply_grayRgb {x : Resolved} (hk : x.kind = .grayRgb) (c : Nat) : x.apply c = grayToRgb x.a x.b c := by
  unfold Resolved.apply; rw [hk]
theorem apply_rgbGray {x : Resolved} (hk : x.kind = .rgbGray) (c : Nat) :
    x.apply c = rgbToGray x.a x.via x.g8 x.b c := by
  unfold Resolved.apply; rw [hk]
theorem apply_fromBinary {x : Resolved} (hk : x.kind = .fromBinary) (c : Nat) : x.apply c = fromBinary x.b c := by
  unfold Resolved.apply; rw [hk]
theorem apply_grayBinary {x : Resolved} (hk : x.kind = .grayBinary) (c : Nat) : x.apply c = grayToBinary x.a c := by
  unfold Resolved.apply; rw [hk]
theorem apply_rgbBinary {x : Resolved} (hk : x.kind = .rgbBinary) (c : Nat) : x.apply c = rgbToBinary x.a x.via c := by
  unfold Resolved.apply; rw [hk]

/-- the kind of `impl From<A> for B` that the kinds of `A` and `B` call for (`none`: both `BinaryColor`) -/
def kindFor : ColorKind → ColorKind → Option ConvKind
  | .binary, .binary => none
  | .binary, _ => some .fromBinary
  | .gray, .binary => some .grayBinary
  | .gray, .gray => some .grayGray
  | .gray, _ => some .grayRgb
  | _, .binary => some .rgbBinary
  | _, .gray => some .rgbGray
  | _, _ => some .rgbRgb

theorem ends_of_kindFor {a b : ColorSpec} {k : ConvKind} (h : kindFor a.kind b.kind = some k) :
    (k = .rgbRgb → a.isRgb = true ∧ b.isRgb = true)
    ∧ (k = .grayGray → a.kind = .gray ∧ b.kind = .gray)
    ∧ (k = .grayRgb → a.kind = .gray ∧ b.isRgb = true)
    ∧ (k = .rgbGray → a.isRgb = true ∧ b.kind = .gray)
    ∧ (k = .fromBinary → a.kind = .binary ∧ b.kind ≠ .binary)
    ∧ (k = .grayBinary → a.kind = .gray ∧ b.kind = .binary)
    ∧ (k = .rgbBinary → a.isRgb = true ∧ b.kind = .binary) := by
  unfold isRgb
  generalize a.kind = ka at *
  generalize b.kind = kb at *
  -- all sixteen pairs of kinds: `h` names the one kind `kindFor` gives, or is absurd
  cases ka <;> cases kb <;> cases h <;> decide

theorem kindFor_rgb_rgb {a b : ColorSpec} (ha : a.isRgb = true) (hb : b.isRgb = true) :
    kindFor a.kind b.kind = some .rgbRgb := by
  unfold isRgb at ha hb
  generalize a.kind = ka at *
  generalize b.kind = kb at *
  revert ha hb
  -- the four pairs of `rgb` / `bgr` give `.rgbRgb`, in the other twelve a hypothesis is false
  cases ka <;> cases kb <;> decide

theorem findSpec_some {n : String} {s : ColorSpec} (h : findSpec n = some s) : s ∈ colorTable ∧ s.name = n :=
  ⟨List.mem_of_find?_eq_some h, by simpa using List.find?_some h⟩

theorem resolve_some {e : ConvSpec} {x : Resolved} (h : resolve e = some x) :
    findSpec e.src = some x.a ∧ findSpec e.dst = some x.b ∧ x.kind = e.kind
    ∧ findSpec lumaVia = some x.via ∧ findSpec grayVia = some x.g8 := by
  unfold resolve at h
  split at h
  · cases h
    exact ⟨by assumption, by assumption, rfl, by assumption, by assumption⟩
  · cases h

theorem names_unique : ∀ s ∈ colorTable, ∀ t ∈ colorTable, s.name = t.name → s = t := by decide +kernel

/-- every entry of the conversion table names two types of the colour table and has the kind their
kinds call for; the helper types are in the colour table -/
theorem convTable_kinds :
    (convTable.all fun e =>
      match findSpec e.src, findSpec e.dst with
      | some a, some b => kindFor a.kind b.kind == some e.kind
      | _, _ => false) = true
    ∧ (findSpec lumaVia).isSome = true ∧ (findSpec grayVia).isSome = true := by decide +kernel

theorem helper_types : ∀ v ∈ colorTable, ∀ g ∈ colorTable, v.name = lumaVia → g.name = grayVia →
    v.isRgb = true ∧ (v.maxR = 255 ∧ v.maxG = 255 ∧ v.maxB = 255) ∧ g.kind = .gray ∧ g.rawBpp = 8 := by
  decide +kernel

theorem conv_entry_specs {e : ConvSpec} (he : e ∈ convTable) :
    ∃ a b, findSpec e.src = some a ∧ findSpec e.dst = some b ∧ kindFor a.kind b.kind = some e.kind := by
  have h := List.all_eq_true.mp convTable_kinds.1 e he
  split at h
  · rename_i a b ha hb
    exact ⟨a, b, ha, hb, by simpa using h⟩
  · cases h

structure Typed (x : Resolved) : Prop where
  a_mem : x.a ∈ colorTable
  b_mem : x.b ∈ colorTable
  kind : kindFor x.a.kind x.b.kind = some x.kind
  via : findSpec lumaVia = some x.via
  g8 : findSpec grayVia = some x.g8

theorem resolved_typed : ∀ x ∈ resolvedTable, Typed x := by
  intro x hx
  obtain ⟨e, he, hr⟩ := List.mem_filterMap.mp hx
  obtain ⟨ha, hb, hk, hv, hg⟩ := resolve_some hr
  obtain ⟨a, b, ha', hb', hk'⟩ := conv_entry_specs he
  rw [ha] at ha'
  rw [hb] at hb'
  cases ha'
  cases hb'
  exact ⟨(findSpec_some ha).1, (findSpec_some hb).1, by rw [hk]; exact hk', hv, hg⟩

theorem resolve_isSome {e : ConvSpec} (he : e ∈ convTable) : (resolve e).isSome = true := by
  obtain ⟨a, b, ha, hb, _⟩ := conv_entry_specs he
  obtain ⟨v, hv⟩ := Option.isSome_iff_exists.mp convTable_kinds.2.1
  obtain ⟨g, hg⟩ := Option.isSome_iff_exists.mp convTable_kinds.2.2
  unfold resolve
  rw [ha, hb, hv, hg]
  rfl

/-- a table entry, resolved, is in `resolvedTable` (names one conversion, e.g. as a witness) -/
theorem get_resolve_mem {e : ConvSpec} (he : e ∈ convTable) :
    (resolve e).get (resolve_isSome he) ∈ resolvedTable :=
  List.mem_filterMap.mpr ⟨e, he, (Option.some_get _).symm⟩

theorem resolved_all : resolvedTable.length = convTable.length := by
  have all (l : List ConvSpec) (h : ∀ e ∈ l, (resolve e).isSome = true) :
      (l.filterMap resolve).length = l.length := by
    induction l with
    | nil => rfl
    | cons e l ih =>
      obtain ⟨x, hx⟩ := Option.isSome_iff_exists.mp (h e List.mem_cons_self)
      rw [List.filterMap_cons_some hx, List.length_cons, List.length_cons,
        ih fun e' he' => h e' (List.mem_cons_of_mem _ he')]
  exact all _ fun _ => resolve_isSome

namespace Typed
variable {x : Resolved} (t : Typed x)
include t

theorem a_wf : x.a.WellFormed = true := Color.table_wellFormed _ t.a_mem
theorem b_wf : x.b.WellFormed = true := Color.table_wellFormed _ t.b_mem
theorem via_mem : x.via ∈ colorTable := (findSpec_some t.via).1
theorem g8_mem : x.g8 ∈ colorTable := (findSpec_some t.g8).1

theorem helpers : Helpers x.via x.g8 := by
  obtain ⟨h1, h2, h3, h4⟩ := helper_types _ t.via_mem _ t.g8_mem (findSpec_some t.via).2 (findSpec_some t.g8).2
  exact ⟨Color.table_wellFormed _ t.via_mem, h1, h2, Color.table_wellFormed _ t.g8_mem, h3, h4⟩

theorem a_via : x.a.name = x.via.name → x.a = x.via := names_unique _ t.a_mem _ t.via_mem
theorem b_g8 : x.b.name = x.g8.name → x.b = x.g8 := names_unique _ t.b_mem _ t.g8_mem

theorem rgbRgb (hk : x.kind = .rgbRgb) : x.a.isRgb = true ∧ x.b.isRgb = true :=
  have ⟨h, _⟩ := ends_of_kindFor t.kind
  h hk
theorem grayGray (hk : x.kind = .grayGray) : x.a.kind = .gray ∧ x.b.kind = .gray :=
  have ⟨_, h, _⟩ := ends_of_kindFor t.kind
  h hk
theorem grayRgb (hk : x.kind = .grayRgb) : x.a.kind = .gray ∧ x.b.isRgb = true :=
  have ⟨_, _, h, _⟩ := ends_of_kindFor t.kind
  h hk
theorem rgbGray (hk : x.kind = .rgbGray) : x.a.isRgb = true ∧ x.b.kind = .gray :=
  have ⟨_, _, _, h, _⟩ := ends_of_kindFor t.kind
  h hk
theorem fromBinary (hk : x.kind = .fromBinary) : x.a.kind = .binary ∧ x.b.kind ≠ .binary :=
  have ⟨_, _, _, _, h, _⟩ := ends_of_kindFor t.kind
  h hk
theorem grayBinary (hk : x.kind = .grayBinary) : x.a.kind = .gray ∧ x.b.kind = .binary :=
  have ⟨_, _, _, _, _, h, _⟩ := ends_of_kindFor t.kind
  h hk
theorem rgbBinary (hk : x.kind = .rgbBinary) : x.a.isRgb = true ∧ x.b.kind = .binary :=
  have ⟨_, _, _, _, _, _, h⟩ := ends_of_kindFor t.kind
  h hk

end Typed

theorem black_white_valid {s : ColorSpec} (hw : s.WellFormed = true) : s.Valid (black s) ∧ s.Valid (white s) := by
  rcases Color.kind_cases hw with ⟨hk, _⟩ | ⟨hk, _⟩ | hk
  · unfold black white Valid
    rw [hk]
    exact ⟨Nat.zero_lt_two, Nat.one_lt_two⟩
  · unfold black white
    rw [hk]
    exact ⟨Color.grayNew_valid hw hk _, Color.grayNew_valid hw hk _⟩
  · have e : black s = s.rgbNew 0 0 0 ∧ white s = s.rgbNew s.maxR s.maxG s.maxB := by
      unfold isRgb at hk
      unfold black white
      cases h : s.kind <;> simp [h] at hk ⊢
    rw [e.1, e.2]
    exact ⟨Color.rgbNew_valid hw hk _ _ _, Color.rgbNew_valid hw hk _ _ _⟩

/-- Whatever number a generated conversion is applied to, the result is `B::new(..)`, `BLACK` / `WHITE`,
or `Off` / `On`. -/
theorem apply_valid : ∀ x ∈ resolvedTable, ∀ c, x.b.Valid (x.apply c) := by
  intro x hx c
  have t := resolved_typed x hx
  have binary (hk : x.b.kind = .binary) {v : Nat} (hv : v = 0 ∨ v = 1) : x.b.Valid v := by
    unfold ColorSpec.Valid
    rw [hk]
    show v < 2
    omega
  cases hk : x.kind with
  | rgbRgb =>
    rw [apply_rgbRgb hk]
    exact Color.rgbNew_valid t.b_wf (t.rgbRgb hk).2 _ _ _
  | grayGray =>
    rw [apply_grayGray hk]
    exact Color.grayNew_valid t.b_wf (t.grayGray hk).2 _
  | grayRgb =>
    rw [apply_grayRgb hk]
    exact Color.rgbNew_valid t.b_wf (t.grayRgb hk).2 _ _ _
  | rgbGray =>
    rw [apply_rgbGray hk]
    unfold rgbToGray
    by_cases hn : x.b.name = x.g8.name
    · rw [if_pos (by simpa using hn), t.b_g8 hn]
      exact Color.grayNew_valid t.helpers.g_wf t.helpers.g_gray _
    · rw [if_neg (by simpa using hn)]
      exact Color.grayNew_valid t.b_wf (t.rgbGray hk).2 _
  | fromBinary =>
    rw [apply_fromBinary hk]
    unfold fromBinary
    split
    · exact (black_white_valid t.b_wf).2
    · exact (black_white_valid t.b_wf).1
  | grayBinary =>
    rw [apply_grayBinary hk]
    exact binary (t.grayBinary hk).2 (grayToBinary_iff t.a_wf (t.grayBinary hk).1 c).2
  | rgbBinary =>
    rw [apply_rgbBinary hk]
    exact binary (t.rgbBinary hk).2 (rgbToBinary_iff _ _ c).2

end EG.Conv
