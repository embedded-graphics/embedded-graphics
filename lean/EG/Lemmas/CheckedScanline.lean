/-
  EG.Lemmas.CheckedScanline — range theorems of the `Scanline` kernels and of the lazy
  consumption of `line::Points` (Model/CheckedScanline.lean).

  For a line with end points within `|x| <= 2^28` (`Chk.W`) every consumer of `line.points()`
  sees exactly the points of the plain walk (`Line.points`), however early it stops; hence
  `bresenham_intersection` and `any` agree with the plain model.
-/
import EG.Lemmas.CheckedLine
import EG.Lemmas.LineProps
import EG.Lemmas.Scanline
import EG.Model.CheckedScanline
namespace EG.Chk
open EG

theorem linePointsNew_ok {l : Line} (hs : W.pt l.start) (he : W.pt l.stop) :
    linePointsNew l = some (Line.pointsIt l) := by
  unfold linePointsNew
  rw [majorLength_ok hs he, bresenhamParametersNew_ok hs he]
  rfl

theorem linePointsFoldFuel_ok {σ : Type} (f : σ → Pt → Option (σ × Bool)) {P : BresenhamParameters} :
    ∀ (fuel : Nat) (b : Bresenham) (n : Nat) (B : Int) (s : σ), Walk P B b → 0 ≤ B →
      B + fuel ≤ 1073741824 →
      linePointsFoldFuel f fuel ⟨P, b, n⟩ s = foldUntil f (Line.PointsIt.toListFuel fuel ⟨P, b, n⟩) s := by
  intro fuel
  induction fuel with
  | zero => intro b n B s _ _ _; rfl
  | succ fuel ih =>
    intro b n B s w hB0 hBf
    unfold linePointsFoldFuel Line.PointsIt.toListFuel
    simp only [Line.PointsIt.next]
    by_cases hn : n > 0
    · simp only [hn, ↓reduceIte]
      obtain ⟨e, w'⟩ := bresenhamNext_ok w ⟨hB0, by omega⟩
      rw [e, some_bind, foldUntil]
      cases hq : f s (b.next P).1 with
      | none => rfl
      | some q =>
        rw [some_bind, some_bind]
        cases hq2 : q.2 with
        | false => rfl
        | true => exact ih (b.next P).2 (n - 1) (B + 1) q.1 w' (by omega) (by omega)
    · simp only [hn, ↓reduceIte]
      rfl

theorem linePointsFold_line {σ : Type} (f : σ → Pt → Option (σ × Bool)) {l : Line}
    (hs : W.pt l.start) (he : W.pt l.stop) (s : σ) :
    linePointsFoldFuel f (Line.pointsIt l).pointsRemaining (Line.pointsIt l) s =
      foldUntil f (Line.points l) s :=
  linePointsFoldFuel_ok f _ _ _ _ s (walk_new hs he) (by decide) (majorLength_le hs he)

theorem foldUntil_any (p : Pt) : ∀ (L : List Pt) (found : Bool),
    foldUntil (anyStep p) L found = some (found || L.any (fun q => q == p)) := by
  intro L
  induction L with
  | nil => intro found; simp [foldUntil]
  | cons q L ih =>
    intro found
    rw [foldUntil]
    by_cases h : q = p
    · have e : anyStep p found q = some (true, false) := by simp [anyStep, h]
      rw [e]; simp [h]
    · have e : anyStep p found q = some (found, true) := by simp [anyStep, h]
      rw [e]
      simp only [Option.bind_eq_bind, Option.bind_some, ↓reduceIte, List.any_cons]
      rw [ih]
      have hb : (q == p) = false := by simpa using h
      rw [hb, Bool.false_or]

theorem linePointsAny_ok {l : Line} (hs : W.pt l.start) (he : W.pt l.stop) (p : Pt) :
    linePointsAny (Line.pointsIt l) p = some ((Line.points l).any (fun q => q == p)) := by
  unfold linePointsAny
  rw [linePointsFold_line _ hs he, foldUntil_any]
  simp

namespace Scanline

theorem extend_ok (s : EG.Scanline) {x : Int} (h : -2147483648 ≤ x + 1 ∧ x + 1 ≤ 2147483647) :
    extend s x = some (s.extend x) := by
  unfold extend EG.Scanline.extend
  split
  · chk_simp
  · split
    · rfl
    · split
      · chk_simp
      · rfl

/-- not skipping any more: the rest of `take_while` -/
theorem foldUntil_bint_take : ∀ (L : List Pt) (s : EG.Scanline),
    (∀ q ∈ L, -2147483648 ≤ q.x + 1 ∧ q.x + 1 ≤ 2147483647) →
    ∃ st, foldUntil bintStep L (false, s) = some st ∧
      st.2 = (L.takeWhile (fun p => p.y == s.y)).foldl (fun s p => s.extend p.x) s := by
  intro L
  induction L with
  | nil => intro s _; exact ⟨(false, s), rfl, rfl⟩
  | cons q L ih =>
    intro s hb
    have hq := hb q (List.mem_cons_self ..)
    unfold foldUntil bintStep
    by_cases h : q.y = s.y
    · simp only [h, ↓reduceIte, extend_ok s hq, Option.bind_eq_bind, Option.bind_some, Option.pure_def]
      obtain ⟨st, e1, e2⟩ := ih (s.extend q.x) (fun r hr => hb r (List.mem_cons_of_mem _ hr))
      refine ⟨st, e1, ?_⟩
      rw [e2, EG.Scanline.extend_y]
      simp [h]
    · refine ⟨(false, s), ?_, ?_⟩
      · simp [h]
      · simp [h]

/-- `skip_while(y != ).take_while(y == ).for_each(extend)` over a list. -/
theorem foldUntil_bint : ∀ (L : List Pt) (s : EG.Scanline),
    (∀ q ∈ L, -2147483648 ≤ q.x + 1 ∧ q.x + 1 ≤ 2147483647) →
    ∃ st, foldUntil bintStep L (true, s) = some st ∧
      st.2 = ((L.dropWhile (fun p => p.y != s.y)).takeWhile (fun p => p.y == s.y)).foldl
        (fun s p => s.extend p.x) s := by
  intro L
  induction L with
  | nil => intro s _; exact ⟨(true, s), rfl, rfl⟩
  | cons q L ih =>
    intro s hb
    have hq := hb q (List.mem_cons_self ..)
    by_cases h : q.y = s.y
    · unfold foldUntil bintStep
      simp only [h, ↓reduceIte, extend_ok s hq, Option.bind_eq_bind, Option.bind_some, Option.pure_def]
      obtain ⟨st, e1, e2⟩ := foldUntil_bint_take L (s.extend q.x)
        (fun r hr => hb r (List.mem_cons_of_mem _ hr))
      refine ⟨st, e1, ?_⟩
      rw [e2, EG.Scanline.extend_y]
      simp [h]
    · obtain ⟨st, e1, e2⟩ := ih s (fun r hr => hb r (List.mem_cons_of_mem _ hr))
      refine ⟨st, ?_, ?_⟩
      · unfold foldUntil bintStep
        simp only [h, ↓reduceIte, Option.bind_eq_bind, Option.bind_some, Option.pure_def]
        exact e1
      · rw [e2]
        simp [h]

theorem bresenhamIntersection_ok (s : EG.Scanline) {l : Line} (hs : W.pt l.start) (he : W.pt l.stop) :
    bresenhamIntersection s l = some (s.bresenhamIntersection l.start l.stop (Line.points l)) := by
  unfold bresenhamIntersection EG.Scanline.bresenhamIntersection
  simp only
  generalize (if l.start.y ≤ l.stop.y then decide (l.start.y ≤ s.y ∧ s.y ≤ l.stop.y)
    else decide (l.stop.y ≤ s.y ∧ s.y ≤ l.start.y)) = inY
  cases inY
  · simp
  · rw [linePointsNew_ok hs he]
    simp only [Bool.not_true, Bool.false_eq_true, ↓reduceIte, Option.bind_eq_bind, Option.bind_some]
    rw [linePointsFold_line _ hs he]
    obtain ⟨st, e1, e2⟩ := foldUntil_bint (Line.points l) s (by
      intro q hq
      have hb := Line.mem_points_in_box hq
      omega)
    rw [e1]
    simp only [Option.bind_some, Option.pure_def, e2]

theorem ite_true_or {c : Prop} [Decidable c] {m : Option Bool} {b : Bool} (h : m = some b) :
    (if c then some true else m) = some (decide c || b) := by
  split <;> simp [*]

/-- `touches` for scanlines of one row whose ends are not `i32::MIN`. -/
theorem touches_ok {s o : EG.Scanline} (hy : s.y = o.y)
    (h1 : -2147483647 ≤ s.xs ∧ s.xs ≤ 2147483647) (h2 : -2147483647 ≤ s.xe ∧ s.xe ≤ 2147483647)
    (h3 : -2147483647 ≤ o.xs ∧ o.xs ≤ 2147483647) (h4 : -2147483647 ≤ o.xe ∧ o.xe ≤ 2147483647) :
    touches s o = some (s.touches o) := by
  unfold touches EG.Scanline.touches
  rw [assert_bind hy]
  split
  · rfl
  · chk_simp
    rw [ite_true_or (ite_true_or (ite_true_or rfl)), Bool.or_assoc]

theorem tryExtend_ok {s o : EG.Scanline} (hy : s.y = o.y)
    (h1 : -2147483647 ≤ s.xs ∧ s.xs ≤ 2147483647) (h2 : -2147483647 ≤ s.xe ∧ s.xe ≤ 2147483647)
    (h3 : -2147483647 ≤ o.xs ∧ o.xs ≤ 2147483647) (h4 : -2147483647 ≤ o.xe ∧ o.xe ≤ 2147483647) :
    tryExtend s o = some (s.tryExtend o) := by
  unfold tryExtend EG.Scanline.tryExtend
  rw [assert_bind hy, touches_ok hy h1 h2 h3 h4, some_bind]
  split <;> rfl

/-- Ends within `|x| < 2^30`: the `i32` difference `end - start`. -/
theorem toRectangle_ok {s : EG.Scanline} (h1 : -1073741823 ≤ s.xs ∧ s.xs ≤ 1073741823)
    (h2 : -1073741823 ≤ s.xe ∧ s.xe ≤ 1073741823) : toRectangle s = some s.toRectangle := by
  unfold toRectangle EG.Scanline.toRectangle
  by_cases he : s.isEmpty
  · simp [he]
  · have hlt : s.xs < s.xe := by
      unfold EG.Scanline.isEmpty at he; simpa using he
    simp only [he, Bool.not_false, ↓reduceIte]
    chk_simp

theorem drawRect_ok {s : EG.Scanline} (h1 : -1073741823 ≤ s.xs ∧ s.xs ≤ 1073741823)
    (h2 : -1073741823 ≤ s.xe ∧ s.xe ≤ 1073741823) :
    drawRect s = some (if s.isEmpty then none else some ⟨⟨s.xs, s.y⟩, ⟨(s.xe - s.xs).toNat, 1⟩⟩) := by
  unfold drawRect
  by_cases he : s.isEmpty
  · simp [he]
  · have hlt : s.xs < s.xe := by
      unfold EG.Scanline.isEmpty at he; simpa using he
    simp only [he, Bool.false_eq_true, ↓reduceIte]
    chk_simp

end Scanline
end EG.Chk
