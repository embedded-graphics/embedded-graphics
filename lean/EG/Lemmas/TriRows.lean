/-
  EG.Lemmas.TriRows — what a `for` loop sees of a non-fused row iterator: the pieces of the rows
  in order, up to the first row without any (`moreRows`); the closed forms of the two transcriptions
  of the triangle scanline iterator (EG.Lemmas.TrianglePoints, EG.Lemmas.JoinsTriRows) are stated
  with it.
-/
namespace EG

/-- Rows up to the first one without any piece (the iterators are not fused). -/
def moreRows {α : Type} (pend : Int → List α) : List Int → List α
  | [] => []
  | y :: ys => if pend y = [] then [] else pend y ++ moreRows pend ys

theorem moreRows_all {α : Type} (pend : Int → List α) : ∀ (ys : List Int),
    (∀ y ∈ ys, pend y ≠ []) → moreRows pend ys = ys.flatMap pend := by
  intro ys
  induction ys with
  | nil => intro _; rfl
  | cons y ys ih =>
    intro h
    simp only [moreRows, h y List.mem_cons_self, ↓reduceIte, List.flatMap_cons]
    rw [ih (fun y' hy' => h y' (List.mem_cons_of_mem _ hy'))]

theorem mem_moreRows {α : Type} {pend : Int → List α} {x : α} : ∀ {ys : List Int},
    x ∈ moreRows pend ys → ∃ y ∈ ys, x ∈ pend y := by
  intro ys
  induction ys with
  | nil => intro h; cases h
  | cons y ys ih =>
    intro h
    unfold moreRows at h
    split at h
    · cases h
    · rcases List.mem_append.mp h with h | h
      · exact ⟨y, List.mem_cons_self, h⟩
      · obtain ⟨y', hy', h'⟩ := ih h
        exact ⟨y', List.mem_cons_of_mem _ hy', h'⟩

end EG
