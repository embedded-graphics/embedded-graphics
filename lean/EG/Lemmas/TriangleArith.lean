/-
  EG.Lemmas.TriangleArith — the polynomial identities behind the triangle lemmas (`ring`):
  how `area_doubled` and the two barycentric numerators `s`, `t` of `contains` change under the two
  generating transpositions of the vertices and under translation, and how they are expressed by
  the edge functions.
-/
import EG.Model.Triangle
import Mathlib.Tactic.Ring
namespace EG
namespace Triangle

theorem areaDoubled_swap12 (a b c : Pt) : areaDoubled ⟨b, a, c⟩ = -areaDoubled ⟨a, b, c⟩ := by
  simp only [areaDoubled]; ring

theorem areaDoubled_swap23 (a b c : Pt) : areaDoubled ⟨a, c, b⟩ = -areaDoubled ⟨a, b, c⟩ := by
  simp only [areaDoubled]; ring

theorem baryS_swap12 (a b c p : Pt) :
    baryS ⟨b, a, c⟩ p = baryS ⟨a, b, c⟩ p + baryT ⟨a, b, c⟩ p - areaDoubled ⟨a, b, c⟩ := by
  simp only [baryS, baryT, areaDoubled]; ring

theorem baryT_swap12 (a b c p : Pt) : baryT ⟨b, a, c⟩ p = -baryT ⟨a, b, c⟩ p := by
  simp only [baryT]; ring

theorem baryS_swap23 (a b c p : Pt) : baryS ⟨a, c, b⟩ p = -baryT ⟨a, b, c⟩ p := by
  simp only [baryS, baryT]; ring

theorem baryT_swap23 (a b c p : Pt) : baryT ⟨a, c, b⟩ p = -baryS ⟨a, b, c⟩ p := by
  simp only [baryS, baryT]; ring

theorem areaDoubled_translate (t : Triangle) (d : Pt) : (t.translate d).areaDoubled = t.areaDoubled := by
  simp only [areaDoubled, translate, Pt.add_x, Pt.add_y]; ring

theorem baryS_translate (t : Triangle) (d p : Pt) : (t.translate d).baryS (p + d) = t.baryS p := by
  simp only [baryS, translate, Pt.add_x, Pt.add_y]; ring

theorem baryT_translate (t : Triangle) (d p : Pt) : (t.translate d).baryT (p + d) = t.baryT p := by
  simp only [baryT, translate, Pt.add_x, Pt.add_y]; ring

/-- `(b - a) × (p - a)`: twice the signed area of `a b p`. -/
def edgeFn (a b p : Pt) : Int := (b.x - a.x) * (p.y - a.y) - (b.y - a.y) * (p.x - a.x)

theorem edgeFn_swap (a b p : Pt) : edgeFn b a p = -edgeFn a b p := by
  unfold edgeFn; ring

theorem edgeFn_sum (a b c p : Pt) :
    edgeFn a b p + edgeFn b c p + edgeFn c a p = edgeFn a b c := by
  unfold edgeFn; ring

theorem edgeFn_area (t : Triangle) : edgeFn t.v1 t.v2 t.v3 = t.areaDoubled := by
  unfold edgeFn areaDoubled; ring

theorem edgeFn_of_row {a b c : Pt} (h1 : a.y = b.y) (h2 : a.y = c.y) : edgeFn a b c = 0 := by
  unfold edgeFn; rw [← h1, ← h2]; ring

/-- The row of `p` is the mean of the vertex rows weighted by the edge functions at `p` (barycentric
coordinates); the identity in the four arrangements used for the row range and for the sign of the
third edge function. -/
theorem edgeFn_row_top (a b c p : Pt) :
    (edgeFn a b p + edgeFn b c p + edgeFn c a p) * (p.y - a.y) =
      edgeFn c a p * (b.y - a.y) + edgeFn a b p * (c.y - a.y) := by
  unfold edgeFn; ring

theorem edgeFn_row_bottom (a b c p : Pt) :
    (edgeFn a b p + edgeFn b c p + edgeFn c a p) * (c.y - p.y) =
      edgeFn b c p * (c.y - a.y) + edgeFn c a p * (c.y - b.y) := by
  unfold edgeFn; ring

theorem edgeFn_third_top (a b c p : Pt) :
    (p.y - a.y) * edgeFn b c p = edgeFn a b p * (c.y - p.y) + edgeFn c a p * (b.y - p.y) := by
  unfold edgeFn; ring

theorem edgeFn_third_bottom (a b c p : Pt) :
    (c.y - p.y) * edgeFn a b p = edgeFn b c p * (p.y - a.y) + edgeFn c a p * (p.y - b.y) := by
  unfold edgeFn; ring

/-- `t`, `s` and `a - s - t` of `contains` are the edge functions of `v1 v2`, `v3 v1` and `v2 v3`:
the barycentric test is the closed three-half-plane test. -/
theorem edgeFn_12 (t : Triangle) (p : Pt) : edgeFn t.v1 t.v2 p = t.baryT p := by
  unfold edgeFn baryT; ring

theorem edgeFn_31 (t : Triangle) (p : Pt) : edgeFn t.v3 t.v1 p = t.baryS p := by
  unfold edgeFn baryS; ring

theorem edgeFn_23 (t : Triangle) (p : Pt) :
    edgeFn t.v2 t.v3 p = t.areaDoubled - t.baryS p - t.baryT p := by
  unfold edgeFn baryS baryT areaDoubled; ring

end Triangle
end EG
