/-
  EG.Lemmas.TriangleNear — "every covered point is inside the triangle or within one pixel of an
  edge". Metric (the oracle's, harness/src/m_tri.rs): Euclidean distance to the edge SEGMENT at
  most 1, in exact integer form (`NearSegment`).
  A Bresenham pixel is `NearSegment` to its segment (`pixel_near_segment`: it is half a pixel from
  the ideal line along the minor axis, `ptAt_cross`, which is more than the metric asks); a covered point of
  a non-degenerate triangle passes `contains()` (EG.Lemmas.TriangleExact), i.e. is in the closed
  triangle or an edge pixel; a point of a degenerate triangle is a pixel of its line `p1 p3`.
-/
import EG.Lemmas.TriangleExact
import EG.Lemmas.TriangleColinear
namespace EG
namespace Triangle
open Line

/-- The Euclidean distance from `p` to the segment `a b` is at most 1: with `s = (p-a)·(b-a)` and
`L = |b-a|²`, `s ≤ 0`: `|p-a|² ≤ 1`; `s ≥ L`: `|p-b|² ≤ 1`; otherwise `((b-a)×(p-a))² ≤ L`. -/
def NearSegment (a b p : Pt) : Prop :=
  let l := (b.x - a.x) * (b.x - a.x) + (b.y - a.y) * (b.y - a.y)
  let s := (p.x - a.x) * (b.x - a.x) + (p.y - a.y) * (b.y - a.y)
  if s ≤ 0 then (p.x - a.x) * (p.x - a.x) + (p.y - a.y) * (p.y - a.y) ≤ 1
  else if s ≥ l then (p.x - b.x) * (p.x - b.x) + (p.y - b.y) * (p.y - b.y) ≤ 1
  else edgeFn a b p * edgeFn a b p ≤ l

theorem sq_len_nonneg (a b : Pt) : 0 ≤ (b.x - a.x) * (b.x - a.x) + (b.y - a.y) * (b.y - a.y) :=
  Int.add_nonneg (mul_self_nonneg _) (mul_self_nonneg _)

theorem eq_of_sq_len_eq_zero {a b : Pt}
    (h : (b.x - a.x) * (b.x - a.x) + (b.y - a.y) * (b.y - a.y) = 0) : a = b := by
  have h1 := mul_self_nonneg (b.x - a.x)
  have h2 := mul_self_nonneg (b.y - a.y)
  have e1 : b.x - a.x = 0 := mul_self_eq_zero.mp (by omega)
  have e2 : b.y - a.y = 0 := mul_self_eq_zero.mp (by omega)
  rw [Pt.ext_iff']; omega

/-- Reversing a segment turns the parameter `s` into `L - s` and swaps the two end-point arms; the
arms overlap only for `L ≤ s ≤ 0`. -/
theorem ite_reverse {L s : Int} {A B C : Prop} (h : L ≤ s → s ≤ 0 → (A ↔ B)) :
    (if s ≤ 0 then A else if s ≥ L then B else C) ↔
      (if L - s ≤ 0 then B else if L - s ≥ L then A else C) := by
  by_cases c1 : s ≤ 0
  · by_cases c2 : L - s ≤ 0
    · rw [if_pos c1, if_pos c2]; exact h (by omega) c1
    · rw [if_pos c1, if_neg c2, if_pos (show L - s ≥ L by omega)]
  · by_cases c2 : s ≥ L
    · rw [if_neg c1, if_pos c2, if_pos (show L - s ≤ 0 by omega)]
    · rw [if_neg c1, if_neg c2, if_neg (show ¬ L - s ≤ 0 by omega), if_neg (show ¬ L - s ≥ L by omega)]

theorem nearSegment_comm (a b p : Pt) : NearSegment a b p ↔ NearSegment b a p := by
  unfold NearSegment
  dsimp only
  have el : (a.x - b.x) * (a.x - b.x) + (a.y - b.y) * (a.y - b.y) =
      (b.x - a.x) * (b.x - a.x) + (b.y - a.y) * (b.y - a.y) := by ring
  have es : (p.x - b.x) * (a.x - b.x) + (p.y - b.y) * (a.y - b.y) =
      ((b.x - a.x) * (b.x - a.x) + (b.y - a.y) * (b.y - a.y)) -
      ((p.x - a.x) * (b.x - a.x) + (p.y - a.y) * (b.y - a.y)) := by ring
  have ec : edgeFn b a p * edgeFn b a p = edgeFn a b p * edgeFn a b p := by
    rw [edgeFn_swap]; ring
  rw [el, es, ec]
  apply ite_reverse
  intro h1 h2
  -- `L ≤ s ≤ 0`: the segment is a point
  have := eq_of_sq_len_eq_zero (a := a) (b := b) (by have := sq_len_nonneg a b; omega)
  subst this
  exact Iff.rfl

theorem eq_of_between_of_mul_eq_zero {a b q : Int} (h1 : min a b ≤ q) (h2 : q ≤ max a b) :
    ((q - a) * (b - a) = 0 → q = a) ∧ ((b - q) * (b - a) = 0 → q = b) := by
  constructor <;> intro e <;> rcases Int.mul_eq_zero.mp e with e | e <;> omega

theorem dmaj_sq_le (l : Line) :
    dmaj l * dmaj l ≤ dxOf l * dxOf l + dyOf l * dyOf l := by
  have hx := mul_self_nonneg (dxOf l)
  have hy := mul_self_nonneg (dyOf l)
  have habs : ∀ a : Int, aabs a * aabs a = a * a := by
    intro a; unfold aabs; split
    · exact Int.neg_mul_neg a a
    · rfl
  unfold dmaj
  split <;> rw [habs] <;> omega

/-- `(D - 2 c) (D + 2 c) ≥ 0` gives `4 c² ≤ D² ≤ L`. -/
theorem sq_le_of_double_le {c D L : Int} (h1 : -D ≤ 2 * c) (h2 : 2 * c ≤ D) (hD : D * D ≤ L) :
    c * c ≤ L := by
  nlinarith [mul_nonneg (show 0 ≤ D - 2 * c by omega) (show 0 ≤ D + 2 * c by omega), mul_self_nonneg c]

/-- A Bresenham pixel is within (half) a pixel of its segment: at a pixel with `s ≤ 0` or `s ≥ L` it is
the start or the end point, otherwise it is half a pixel from the ideal line along the minor axis. -/
theorem pixel_near_segment (l : Line) {q : Pt} (hq : q ∈ Line.points l) :
    NearSegment l.start l.stop q := by
  obtain ⟨k, hk, rfl⟩ := Line.mem_points.mp hq
  obtain ⟨bx1, bx2, by1, by2⟩ := ptAt_in_box l k hk
  obtain ⟨c1, c2⟩ := ptAt_cross l k hk
  have hd := dmaj_sq_le l
  obtain ⟨px, rx⟩ := mul_nonneg_of_between bx1 bx2
  obtain ⟨py, ry⟩ := mul_nonneg_of_between by1 by2
  obtain ⟨px0, rx0⟩ := eq_of_between_of_mul_eq_zero bx1 bx2
  obtain ⟨py0, ry0⟩ := eq_of_between_of_mul_eq_zero by1 by2
  unfold dxOf dyOf at c1 c2 hd
  unfold NearSegment edgeFn
  dsimp only
  generalize (ptAt l k).x = qx at *
  generalize (ptAt l k).y = qy at *
  split
  · rw [px0 (by omega), py0 (by omega)]; simp
  · split
    · have e : (l.stop.x - l.start.x) * (l.stop.x - l.start.x) +
          (l.stop.y - l.start.y) * (l.stop.y - l.start.y) -
          ((qx - l.start.x) * (l.stop.x - l.start.x) + (qy - l.start.y) * (l.stop.y - l.start.y)) =
          (l.stop.x - qx) * (l.stop.x - l.start.x) + (l.stop.y - qy) * (l.stop.y - l.start.y) := by
        ring
      -- by `e`, `L - s ≤ 0` makes both products of `L - s` vanish
      rw [rx0 (by omega), ry0 (by omega)]; simp
    · exact sq_le_of_double_le c1 c2 hd

theorem nearEdge_of_mem_orders {t t' : Triangle} (h : t' ∈ orders t) (p : Pt) :
    (NearSegment t'.v1 t'.v2 p ∨ NearSegment t'.v2 t'.v3 p ∨ NearSegment t'.v3 t'.v1 p) ↔
      (NearSegment t.v1 t.v2 p ∨ NearSegment t.v2 t.v3 p ∨ NearSegment t.v3 t.v1 p) := by
  refine iff_of_mem_orders
    (fun t => NearSegment t.v1 t.v2 p ∨ NearSegment t.v2 t.v3 p ∨ NearSegment t.v3 t.v1 p) ?_ ?_ h <;>
    intro a b c <;> dsimp only
  · rw [nearSegment_comm b a, nearSegment_comm a c, nearSegment_comm c b]
    exact or_congr_right or_comm
  · rw [nearSegment_comm a c, nearSegment_comm c b, nearSegment_comm b a, or_comm, or_assoc,
      or_left_comm]

theorem closedIn_or_edge_pixel (t : Triangle) (h : t.boundingBox.InRange) (p : Pt)
    (hp : p ∈ t.points) :
    (t.areaDoubled ≠ 0 ∧ ClosedIn t p) ∨ ∃ l ∈ usedLines t, p ∈ Line.points l := by
  by_cases ha : t.areaDoubled = 0
  · exact Or.inr ⟨longLine t, long_edge_mem_usedLines t, (degenerate_points_iff t h ha p).mp hp⟩
  · by_cases he : p ∈ t.edgePoints
    · right
      unfold edgePoints at he
      obtain ⟨l, hl, hpl⟩ := List.mem_flatMap.mp he
      exact ⟨l, by rw [usedLines_of_nonzero ha]; exact hl, hpl⟩
    · exact Or.inl ⟨ha, closedIn_of_mem_points t h ha p hp he⟩

theorem covered_within_one_pixel (t : Triangle) (h : t.boundingBox.InRange) (p : Pt)
    (hp : p ∈ t.points) :
    (t.areaDoubled ≠ 0 ∧ ClosedIn t p) ∨
      NearSegment t.v1 t.v2 p ∨ NearSegment t.v2 t.v3 p ∨ NearSegment t.v3 t.v1 p := by
  rcases closedIn_or_edge_pixel t h p hp with hc | ⟨l, hl, hpl⟩
  · exact Or.inl hc
  · right
    rw [← nearEdge_of_mem_orders (sortedYx_mem_orders t) p]
    have hn := pixel_near_segment l hpl
    rcases usedLines_subset t l hl with rfl | rfl | rfl
    · exact Or.inl hn
    · exact Or.inr (Or.inr ((nearSegment_comm _ _ p).mp hn))
    · exact Or.inr (Or.inl hn)

end Triangle
end EG
