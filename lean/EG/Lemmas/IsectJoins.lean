/-
  EG.Lemmas.IsectJoins — the two plain models of the join kernels are the same functions.

  `EG.Isect` (Model/CheckedLine.lean) is the plain (unbounded) form against which the CHECKED
  kernels `Chk.Isect.*` of C08 are stated. `EG.Joins` (Model/LinearEquation.lean,
  Model/Intersection.lean, Model/LineJoin.lean) is the plain model the geometric theorems of
  C02 / C07 / C17 / C19 and the driver `Driver/Thick.lean` are about. They are two independent
  transcriptions of the same source (src/primitives/common/linear_equation.rs,
  line/intersection_params.rs, common/line_join.rs). This file proves, for every function both
  define, that they agree for ALL inputs (no range hypothesis), so "checked = plain" of C08 is a
  statement about the model the other properties use.

  Shape differences bridged here:
    * `Isect.LinearEquation` has fields `normal`, `originDistance`; `Joins.LinearEquation` has
      `normalVector`, `originDistance` (`toJoins`);
    * `Isect.intersection` takes the two equations and the denominator and returns
      `Option (Pt × Bool)` (`none` = colinear, `true` = outer side left); `Joins` bundles them in
      `IntersectionParams` and returns `Intersection` (`isectResult`);
    * `Isect.roundDiv sign den num` receives `sign = signum d` and `den = |d|`;
      `Joins.roundDiv n d` computes both itself;
    * `Isect.miterWithinLimit` is the comparison `Joins.LineJoin.fromExtents` performs inline.
-/
import EG.Model.CheckedLine
import EG.Model.LineJoin
namespace EG.IsectJoins
open EG

/-- An `Isect.LinearEquation` as a `Joins.LinearEquation`. -/
def toJoins (le : Isect.LinearEquation) : Joins.LinearEquation := ⟨le.normal, le.originDistance⟩

/-- An `Isect.intersection` result as a `Joins.Intersection`. -/
def isectResult : Option (Pt × Bool) → Joins.Intersection
  | none => .colinear
  | some (p, left) => .point p (if left then .left else .right)

theorem rotate90_eq (p : Pt) : Isect.rotate90 p = Joins.rotate90 p := rfl
theorem dot_eq (a b : Pt) : Isect.dot a b = Joins.dot a b := rfl
theorem det_eq (a b : Pt) : Isect.det a b = Joins.det a b := rfl

theorem fromLine_eq (l : Line) : toJoins (Isect.fromLine l) = Joins.LinearEquation.fromLine l := rfl

theorem fromLine_normal (l : Line) :
    (Isect.fromLine l).normal = (Joins.LinearEquation.fromLine l).normalVector := rfl

theorem fromLine_originDistance (l : Line) :
    (Isect.fromLine l).originDistance = (Joins.LinearEquation.fromLine l).originDistance := rfl

theorem distance_eq (le : Isect.LinearEquation) (p : Pt) :
    Isect.distance le p = (toJoins le).distance p := rfl

theorem denominator_eq (l1 l2 : Line) :
    Isect.denominator l1 l2 = (Joins.IntersectionParams.fromLines l1 l2).denominator := rfl

theorem signum_eq (a : Int) : Isect.signum a = Joins.isignum a := by
  unfold Isect.signum Joins.isignum
  split <;> split <;> (try split) <;> omega

theorem satI32_eq (a : Int) : Isect.satI32 a = Joins.satI32 a := rfl

theorem iabs_eq (a : Int) : (if a < 0 then -a else a) = Joins.iabs a := rfl

/-- The rounding closure: `Isect` is handed the sign and the absolute value, `Joins` derives them. -/
theorem roundDiv_eq (n d : Int) :
    Isect.roundDiv (Isect.signum d) (if d < 0 then -d else d) n = Joins.roundDiv n d := by
  unfold Isect.roundDiv Joins.roundDiv
  simp only [signum_eq, iabs_eq, satI32_eq]

theorem nearlyColinearHasError_eq (l1 l2 : Line) :
    Isect.nearlyColinearHasError l1 l2 =
      (Joins.IntersectionParams.fromLines l1 l2).nearlyColinearHasError := rfl

/-- `IntersectionParams::intersection`: the `Isect` form applied to the equations and the
denominator of `from_lines` is the `Joins` form. -/
theorem intersection_eq (l1 l2 : Line) :
    isectResult (Isect.intersection (Isect.fromLine l1) (Isect.fromLine l2) (Isect.denominator l1 l2)) =
      (Joins.IntersectionParams.fromLines l1 l2).intersection := by
  unfold Isect.intersection Joins.IntersectionParams.intersection
  rw [← denominator_eq]
  by_cases hd : Isect.denominator l1 l2 = 0
  · simp only [hd, ↓reduceIte, isectResult]
  · simp only [hd, ↓reduceIte, isectResult, roundDiv_eq]
    have hx : (Isect.fromLine l1).originDistance * (Isect.fromLine l2).normal.y -
        (Isect.fromLine l2).originDistance * (Isect.fromLine l1).normal.y =
        (Joins.IntersectionParams.fromLines l1 l2).xNumerator := rfl
    have hy : (Isect.fromLine l1).normal.x * (Isect.fromLine l2).originDistance -
        (Isect.fromLine l2).normal.x * (Isect.fromLine l1).originDistance =
        (Joins.IntersectionParams.fromLines l1 l2).yNumerator := rfl
    rw [hx, hy]
    by_cases hneg : Isect.denominator l1 l2 < 0
    · simp only [hneg, decide_true, ↓reduceIte]
    · simp only [hneg, decide_false, Bool.false_eq_true, ↓reduceIte]

/-- The miter test of `LineJoin::from_points`: `Isect.miterWithinLimit` is the comparison
`Joins.LineJoin.fromExtents` makes (`miterLengthSquared ≤ miterLimit`). -/
theorem miterWithinLimit_eq (mid outerPoint : Pt) (width : Nat) :
    Isect.miterWithinLimit (Line.delta ⟨mid, outerPoint⟩) width =
      decide ((Line.delta ⟨mid, outerPoint⟩).lengthSquared ≤ (((width * 2) * (width * 2) : Nat) : Int)) := rfl

end EG.IsectJoins
