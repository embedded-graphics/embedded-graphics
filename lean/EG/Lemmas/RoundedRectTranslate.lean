/-
  EG.Lemmas.RoundedRectTranslate — the styled rounded rectangle commutes with translation at the
  scanline level: `offset`, the areas, the corner quadrants, `RoundedRectangleContains`
  (`contains`, `x_start`, `x_end`, the scanline of a row), the scanline and styled-scanline
  iterators — for ALL corner radii (no `FillInStroke` / fitting-radii guard: nothing here looks at
  what the picture is). The call list of `draw()` and the pixel list of `pixels()` follow in
  Props/C07/RoundedRect.lean.
  Guards: `RoundedRect.InRange` of the iterated areas before and after the move.
-/
import EG.Lemmas.ScanlineTranslate
import EG.Lemmas.RoundedRectStyled
namespace EG

namespace EllipseQuadrant

/-- A corner quadrant moved by `d`; `center_2x` is a doubled coordinate and moves by `2 d`. -/
def shift (d : Pt) (q : EllipseQuadrant) : EllipseQuadrant :=
  ⟨q.bbox.translate d, ⟨q.center2x.x + 2 * d.x, q.center2x.y + 2 * d.y⟩, q.ellipse⟩

/-- `center_2x` along one axis moves by `2 d` with the box start `t` (ellipse starting at `t`, or `w`
before it). -/
theorem center2x_axis_add (t d w c : Int) :
    (t + d) * 2 + c = t * 2 + c + 2 * d ∧ (t + d - w) * 2 + c = (t - w) * 2 + c + 2 * d := by
  omega

theorem new_add (tl d : Pt) (radius : Sz) (k : Quadrant) :
    new (tl + d) radius k = (new tl radius k).shift d := by
  have hc : (new (tl + d) radius k).center2x =
      ⟨(new tl radius k).center2x.x + 2 * d.x, (new tl radius k).center2x.y + 2 * d.y⟩ := by
    -- per axis: `.1` where the ellipse starts at the box start (left, top), `.2` where it starts a
    -- radius before it (right, bottom)
    cases k
    · exact Pt.ext_iff'.mpr ⟨(center2x_axis_add _ _ 0 _).1, (center2x_axis_add _ _ 0 _).1⟩
    · exact Pt.ext_iff'.mpr ⟨(center2x_axis_add _ _ _ _).2, (center2x_axis_add _ _ 0 _).1⟩
    · exact Pt.ext_iff'.mpr ⟨(center2x_axis_add _ _ _ _).2, (center2x_axis_add _ _ _ _).2⟩
    · exact Pt.ext_iff'.mpr ⟨(center2x_axis_add _ _ 0 _).1, (center2x_axis_add _ _ _ _).2⟩
  unfold shift
  rw [← hc]
  rfl

theorem new_eq_shift {tl tl' d : Pt} (radius : Sz) (k : Quadrant) (hx : tl'.x = tl.x + d.x)
    (hy : tl'.y = tl.y + d.y) : new tl' radius k = (new tl radius k).shift d := by
  rw [← new_add]
  congr 1
  exact Pt.ext_iff'.mpr ⟨hx, hy⟩

theorem shift_contains (d : Pt) (q : EllipseQuadrant) (x y : Int) :
    (q.shift d).contains ⟨x + d.x, y + d.y⟩ = q.contains ⟨x, y⟩ := by
  have e : ∀ t c δ : Int, (t + δ) * 2 - (c + 2 * δ) = t * 2 - c := by
    intro t c δ
    omega
  unfold contains shift
  dsimp only
  rw [e, e]

theorem shift_colsStart (d : Pt) (q : EllipseQuadrant) : (q.shift d).colsStart = q.colsStart + d.x := rfl

theorem shift_colsEnd (d : Pt) (q : EllipseQuadrant) (h : q.bbox.InRange)
    (h' : (q.bbox.translate d).InRange) : (q.shift d).colsEnd = q.colsEnd + d.x := by
  unfold colsEnd shift
  dsimp only
  rw [Rect.columnsEnd_eq h', Rect.columnsEnd_eq h]
  simp only [Rect.translate_tl, Rect.translate_size, Pt.add_x]
  omega

end EllipseQuadrant

namespace RRContains

def shift (d : Pt) (c : RRContains) : RRContains :=
  { rowsStart := c.rowsStart + d.y, rowsEnd := c.rowsEnd + d.y,
    colsStart := c.colsStart + d.x, colsEnd := c.colsEnd + d.x,
    slStart := c.slStart + d.y, slEnd := c.slEnd + d.y,
    srStart := c.srStart + d.y, srEnd := c.srEnd + d.y,
    topLeft := c.topLeft.shift d, topRight := c.topRight.shift d,
    bottomLeft := c.bottomLeft.shift d, bottomRight := c.bottomRight.shift d }

/-- The column ends of the four corner boxes move with the boxes (no `i32` saturation). -/
structure ColsOK (d : Pt) (c : RRContains) : Prop where
  tl : (c.topLeft.shift d).colsEnd = c.topLeft.colsEnd + d.x
  tr : (c.topRight.shift d).colsEnd = c.topRight.colsEnd + d.x
  bl : (c.bottomLeft.shift d).colsEnd = c.bottomLeft.colsEnd + d.x
  br : (c.bottomRight.shift d).colsEnd = c.bottomRight.colsEnd + d.x

theorem leftCorner_shift (d : Pt) (c : RRContains) (y : Int) :
    (c.shift d).leftCorner (y + d.y) = (c.leftCorner y).map (EllipseQuadrant.shift d) := by
  unfold leftCorner shift
  simp only [Int.add_lt_add_iff_right, Int.add_le_add_iff_right, ge_iff_le]
  split
  · rfl
  · split <;> rfl

theorem rightCorner_shift (d : Pt) (c : RRContains) (y : Int) :
    (c.shift d).rightCorner (y + d.y) = (c.rightCorner y).map (EllipseQuadrant.shift d) := by
  unfold rightCorner shift
  simp only [Int.add_lt_add_iff_right, Int.add_le_add_iff_right, ge_iff_le]
  split
  · rfl
  · split <;> rfl

theorem colsEnd_of_left {d : Pt} {c : RRContains} (ok : ColsOK d c) {y : Int} {q : EllipseQuadrant}
    (h : c.leftCorner y = some q) : (q.shift d).colsEnd = q.colsEnd + d.x :=
  (forall_leftCorner (P := fun q => (q.shift d).colsEnd = q.colsEnd + d.x)).mpr
    ⟨fun _ => ok.tl, fun _ _ => ok.bl⟩ q h

theorem colsEnd_of_right {d : Pt} {c : RRContains} (ok : ColsOK d c) {y : Int} {q : EllipseQuadrant}
    (h : c.rightCorner y = some q) : (q.shift d).colsEnd = q.colsEnd + d.x :=
  (forall_rightCorner (P := fun q => (q.shift d).colsEnd = q.colsEnd + d.x)).mpr
    ⟨fun _ => ok.tr, fun _ _ => ok.br⟩ q h

theorem xStart_shift {d : Pt} {c : RRContains} (ok : ColsOK d c) (y : Int) :
    (c.shift d).xStart (y + d.y) = c.xStart y + d.x := by
  unfold xStart
  rw [leftCorner_shift]
  cases hl : c.leftCorner y with
  | none => rfl
  | some q =>
    simp only [Option.map_some, Option.getD_some]
    rw [colsEnd_of_left ok hl, EllipseQuadrant.shift_colsStart,
      rangeFind_shift d.x (p := fun x => q.contains ⟨x, y⟩)
        (fun x => EllipseQuadrant.shift_contains d q x y)]
    cases rangeFind (fun x => q.contains ⟨x, y⟩) q.colsStart q.colsEnd <;> rfl

theorem xEnd_shift {d : Pt} {c : RRContains} (ok : ColsOK d c) (y : Int) :
    (c.shift d).xEnd (y + d.y) = c.xEnd y + d.x := by
  unfold xEnd
  rw [rightCorner_shift]
  cases hl : c.rightCorner y with
  | none => rfl
  | some q =>
    simp only [Option.map_some, Option.getD_some]
    rw [colsEnd_of_right ok hl, EllipseQuadrant.shift_colsStart,
      rangeRFind_shift d.x (p := fun x => q.contains ⟨x, y⟩)
        (fun x => EllipseQuadrant.shift_contains d q x y)]
    cases rangeRFind (fun x => q.contains ⟨x, y⟩) q.colsStart q.colsEnd with
    | none => rfl
    | some x =>
      simp only [Option.map_some, Option.getD_some]
      omega

theorem row_shift {d : Pt} {c : RRContains} (ok : ColsOK d c) (y : Int) :
    (c.shift d).row (y + d.y) = (c.row y).shift d := by
  unfold row Scanline.shift
  rw [xStart_shift ok, xEnd_shift ok]

theorem toList_shift {d : Pt} {c : RRContains} (ok : ColsOK d c) :
    (c.shift d).toList = c.toList.map (Scanline.shift d) := by
  rw [toList_eq, toList_eq]
  have e1 : (c.shift d).rowsStart = c.rowsStart + d.y := rfl
  have e2 : (c.shift d).rowsEnd = c.rowsEnd + d.y := rfl
  rw [e1, e2, irange_shift, List.map_map, List.map_map]
  apply List.map_congr_left
  intro y _
  exact row_shift ok y

/-- Both sides are the same conjunction over the rows, the columns and the four corners; every
comparison of the moved one has `d` on both sides. Only the left corners enter through their column
END (`ok.tl`, `ok.bl`); the right ones enter through their column start. -/
theorem contains_shift {d : Pt} {c : RRContains} (ok : ColsOK d c) (x y : Int) :
    (c.shift d).contains ⟨x + d.x, y + d.y⟩ = c.contains ⟨x, y⟩ := by
  rw [Bool.eq_iff_iff, contains_iff, contains_iff, forall_leftCorner, forall_rightCorner,
    forall_leftCorner, forall_rightCorner]
  simp only [shift, ok.tl, ok.bl, EllipseQuadrant.shift_contains, EllipseQuadrant.shift_colsStart,
    Int.add_lt_add_iff_right, Int.add_le_add_iff_right, ge_iff_le]

end RRContains

namespace RoundedRect

theorem translate_rect (r : RoundedRect) (d : Pt) : (r.translate d).rect = r.rect.translate d := rfl
theorem translate_corners (r : RoundedRect) (d : Pt) : (r.translate d).corners = r.corners := rfl
theorem translate_boundingBox (r : RoundedRect) (d : Pt) :
    (r.translate d).boundingBox = r.boundingBox.translate d := rfl

theorem translate_offset (r : RoundedRect) (d : Pt) (o : Int) :
    (r.translate d).offset o = (r.offset o).translate d := by
  unfold offset translate
  simp only [Rect.offset_translate]

theorem translate_strokeArea (st : Style) (r : RoundedRect) (d : Pt) :
    (r.translate d).strokeArea st = (r.strokeArea st).translate d := translate_offset r d _

theorem translate_fillArea (st : Style) (r : RoundedRect) (d : Pt) :
    (r.translate d).fillArea st = (r.fillArea st).translate d := translate_offset r d _

theorem translate_styledBoundingBox (st : Style) (r : RoundedRect) (d : Pt) :
    (r.translate d).styledBoundingBox st = (r.styledBoundingBox st).translate d := by
  unfold styledBoundingBox
  rw [translate_boundingBox, Rect.offset_translate]

theorem axis_hi_add (x d w ρ : Int) : x + d + w - ρ = x + w - ρ + d := by
  omega

theorem translate_cornerQuadrant (r : RoundedRect) (d : Pt) (k : Quadrant) :
    (r.translate d).cornerQuadrant k = (r.cornerQuadrant k).shift d := by
  cases k
  · rw [cq_tl, cq_tl]
    exact EllipseQuadrant.new_eq_shift _ _ rfl rfl
  · rw [cq_tr, cq_tr]
    exact EllipseQuadrant.new_eq_shift _ _ (axis_hi_add _ _ _ _) rfl
  · rw [cq_br, cq_br]
    exact EllipseQuadrant.new_eq_shift _ _ (axis_hi_add _ _ _ _) (axis_hi_add _ _ _ _)
  · rw [cq_bl, cq_bl]
    exact EllipseQuadrant.new_eq_shift _ _ rfl (axis_hi_add _ _ _ _)

theorem cornerQuadrant_colsEnd_shift (r : RoundedRect) (d : Pt) (h : r.InRange)
    (h' : (r.translate d).InRange) (k : Quadrant) :
    ((r.cornerQuadrant k).shift d).colsEnd = (r.cornerQuadrant k).colsEnd + d.x := by
  apply EllipseQuadrant.shift_colsEnd d _ (cornerQuadrant_bbox_inRange r h k)
  have := cornerQuadrant_bbox_inRange (r.translate d) h' k
  rw [translate_cornerQuadrant] at this
  exact this

theorem new_colsOK (r : RoundedRect) (d : Pt) (h : r.InRange) (h' : (r.translate d).InRange) :
    RRContains.ColsOK d (RRContains.new r) :=
  ⟨cornerQuadrant_colsEnd_shift r d h h' .topLeft, cornerQuadrant_colsEnd_shift r d h h' .topRight,
    cornerQuadrant_colsEnd_shift r d h h' .bottomLeft, cornerQuadrant_colsEnd_shift r d h h' .bottomRight⟩

theorem new_translate (r : RoundedRect) (d : Pt) (h : r.InRange) (h' : (r.translate d).InRange) :
    RRContains.new (r.translate d) = (RRContains.new r).shift d := by
  have h'' : (r.rect.translate d).InRange := h'
  have hr : (r.rect.translate d).rowsEnd = r.rect.rowsEnd + d.y := by
    rw [Rect.rowsEnd_eq h'', Rect.rowsEnd_eq h]
    simp only [Rect.translate_tl, Rect.translate_size, Pt.add_y]; omega
  have hc : (r.rect.translate d).columnsEnd = r.rect.columnsEnd + d.x := by
    rw [Rect.columnsEnd_eq h'', Rect.columnsEnd_eq h]
    simp only [Rect.translate_tl, Rect.translate_size, Pt.add_x]; omega
  unfold RRContains.new RRContains.shift
  simp only [translate_cornerQuadrant, hr, hc, translate_rect, Rect.translate_tl, Pt.add_x, Pt.add_y,
    RRContains.mk.injEq, and_true, true_and]
  simp only [EllipseQuadrant.shift, Rect.translate_size]
  refine ⟨?_, ?_, ?_, ?_⟩ <;> omega

theorem scanlines_toList_translate (r : RoundedRect) (d : Pt) (h : r.InRange)
    (h' : (r.translate d).InRange) :
    (r.translate d).scanlines.toList = r.scanlines.toList.map (Scanline.shift d) := by
  unfold scanlines
  rw [new_translate r d h h', RRContains.toList_shift (new_colsOK r d h h')]

theorem fillRange_shift {d : Pt} (S F : RRContains) (okF : RRContains.ColsOK d F) (s : Scanline) :
    (⟨S.shift d, F.shift d⟩ : StyledScanlinesIt).fillRange (s.shift d) =
      ((⟨S, F⟩ : StyledScanlinesIt).fillRange s).map (fun r => (r.1 + d.x, r.2 + d.x)) := by
  unfold StyledScanlinesIt.fillRange Scanline.shift
  dsimp only [RRContains.shift]
  rw [rangeFind_shift d.x (p := fun x => F.contains ⟨x, s.y⟩)
      (fun x => RRContains.contains_shift okF x s.y),
    rangeRFind_shift d.x (p := fun x => F.contains ⟨x, s.y⟩)
      (fun x => RRContains.contains_shift okF x s.y)]
  simp only [Int.add_le_add_iff_right, Int.add_lt_add_iff_right]
  split
  · cases rangeFind (fun x => F.contains ⟨x, s.y⟩) s.xs s.xe with
    | none => rfl
    | some a =>
      cases rangeRFind (fun x => F.contains ⟨x, s.y⟩) s.xs s.xe with
      | none => rfl
      | some b =>
        simp only [Option.map_some, Option.some.injEq, Prod.mk.injEq, true_and]
        omega
  · rfl

theorem style_shift {d : Pt} (S F : RRContains) (okF : RRContains.ColsOK d F) (s : Scanline) :
    (⟨S.shift d, F.shift d⟩ : StyledScanlinesIt).style (s.shift d) =
      ((⟨S, F⟩ : StyledScanlinesIt).style s).shift d := by
  unfold StyledScanlinesIt.style
  rw [fillRange_shift S F okF, ← StyledScanline.new_shift]
  rfl

theorem styledScanlines_toList_translate (S F : RoundedRect) (d : Pt) (hS : S.InRange)
    (hS' : (S.translate d).InRange) (hF : F.InRange) (hF' : (F.translate d).InRange) :
    (styledScanlines (S.translate d) (F.translate d)).toList =
      (styledScanlines S F).toList.map (StyledScanline.shift d) := by
  rw [StyledScanlinesIt.toList_eq, StyledScanlinesIt.toList_eq]
  unfold styledScanlines scanlines
  dsimp only
  rw [new_translate S d hS hS', new_translate F d hF hF']
  have e1 : ((RRContains.new S).shift d).rowsStart = (RRContains.new S).rowsStart + d.y := rfl
  have e2 : ((RRContains.new S).shift d).rowsEnd = (RRContains.new S).rowsEnd + d.y := rfl
  rw [e1, e2, irange_shift, List.map_map, List.map_map]
  apply List.map_congr_left
  intro y _
  simp only [Function.comp]
  rw [RRContains.row_shift (new_colsOK S d hS hS')]
  exact style_shift _ _ (new_colsOK F d hF hF') _

end RoundedRect
end EG
