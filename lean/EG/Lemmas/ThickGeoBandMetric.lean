/-
  EG.Lemmas.ThickGeoBandMetric — `thickPoints_reach` (EG.Lemmas.ThickGeoBand) in the oracle's
  metrics `cross`, `L2` (EG.Lemmas.ThickGeoMetric), without square roots.
-/
import EG.Lemmas.ThickGeoBand
import EG.Lemmas.ThickGeoMetric
set_option linter.unusedSimpArgs false
namespace EG.C17.Stroke
open EG

theorem sq_le_of_le (t a B : Int) (ht : 0 ≤ t) (hta : t ≤ a) (ha : a * a ≤ B) : t ^ 2 ≤ B := by
  rw [sq]
  exact Int.le_trans (sq_le_of_abs_le (by omega) hta) ha

/-- The reach of a stroke in the oracle's metric, `E` the number of its `Extra` parallels and
`Y = 3 D - d + 2 (D - d) E`: `t = 4 |cross(p)| - Y` is at most `0` or `t^2 <= (2 w)^2 L2`; so a
pixel lies in the band `w/2 + m/4` whenever `Y <= m D`. -/
theorem reach_cross (l : Line) (w : Nat) (hw2 : w ≤ 2147483647) :
    ∃ E, Thick.ExtraParallels l w E ∧ 0 ≤ E ∧ (minorLen l = 0 → E = 0) ∧
      ∀ ps, Thick.thickPoints l w = some ps → ∀ p ∈ ps,
        (4 * ((cross l p).natAbs : Int) - (3 * majorLen l - minorLen l) -
            2 * (majorLen l - minorLen l) * E ≤ 0 ∨
          (4 * ((cross l p).natAbs : Int) - (3 * majorLen l - minorLen l) -
            2 * (majorLen l - minorLen l) * E) ^ 2 ≤ (2 * (w : Int)) ^ 2 * L2 l) ∧
        ∀ m : Int, 0 ≤ m →
          3 * majorLen l - minorLen l + 2 * (majorLen l - minorLen l) * E ≤ m * majorLen l →
          16 * cross l p ^ 2 ≤ (2 * (w : Int) + m) ^ 2 * L2 l := by
  obtain ⟨E, h1, h2, h3, h4⟩ := Thick.thickPoints_reach l w hw2
  refine ⟨E, h1, h2, by rw [minorLen_eq]; exact h3, ?_⟩
  intro ps h p hp
  obtain ⟨a, a1, a2, a3⟩ := h4 ps h p hp
  have ha : a * a ≤ (2 * (w : Int)) ^ 2 * L2 l := by
    rw [L2_eq]
    have : (2 * (w : Int)) ^ 2 = (w : Int) * 2 * ((w : Int) * 2) := by ring
    rw [this]; exact a1
  have hr : 4 * ((cross l p).natAbs : Int) ≤
      a + 3 * majorLen l - minorLen l + 2 * (majorLen l - minorLen l) * E := by
    rw [majorLen_eq, minorLen_eq]
    rcases ph_cross l p with hc | hc <;> rw [hc] at a2 a3 <;> omega
  refine ⟨?_, fun m hm hY => ?_⟩
  · by_cases ht : 4 * ((cross l p).natAbs : Int) - (3 * majorLen l - minorLen l) -
        2 * (majorLen l - minorLen l) * E ≤ 0
    · exact Or.inl ht
    · exact Or.inr (sq_le_of_le _ a _ (by omega) (by omega) ha)
  · rw [← Int.natAbs_sq, show (16 : Int) = 4 ^ 2 from rfl, ← mul_pow]
    exact Thick.reach_pow_le _ a (majorLen l) (L2 l) w m m (by omega) (Int.le_of_lt (majorLen_pos l))
      (majorLen_sq_le l) (by omega) hm (Int.le_refl m) ha (by omega)

end EG.C17.Stroke
