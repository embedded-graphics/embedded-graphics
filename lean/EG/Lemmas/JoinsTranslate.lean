/-
  EG.Lemmas.JoinsTranslate — translation lemmas for the integer kernels of the join code:
  `LinearEquation` (`from_line`, `distance`, `check_side`), `IntersectionParams`
  (`from_lines`, `nearly_colinear_has_error`, the numerators, `round_div`, `intersection`).
-/
import EG.Model.LineJoin
import Mathlib.Tactic.Ring
namespace EG
namespace Joins
open Thick (LineSide StrokeOffset)

theorem translate_start (l : Line) (d : Pt) : (l.translate d).start = l.start + d := rfl
theorem translate_stop (l : Line) (d : Pt) : (l.translate d).stop = l.stop + d := rfl

theorem pt_add_sub_add (a b d : Pt) : (a + d) - (b + d) = a - b := by
  rw [Pt.ext_iff']; simp only [Pt.sub_x, Pt.sub_y, Pt.add_x, Pt.add_y]; omega

theorem delta_translate (l : Line) (d : Pt) : (l.translate d).delta = l.delta := by
  unfold Line.delta Line.translate; exact pt_add_sub_add _ _ _

theorem fromLine_translate_normal (l : Line) (d : Pt) :
    (LinearEquation.fromLine (l.translate d)).normalVector = (LinearEquation.fromLine l).normalVector := by
  unfold LinearEquation.fromLine; simp only [delta_translate]

theorem fromLine_translate_origin (l : Line) (d : Pt) :
    (LinearEquation.fromLine (l.translate d)).originDistance =
      (LinearEquation.fromLine l).originDistance + dot d (LinearEquation.fromLine l).normalVector := by
  unfold LinearEquation.fromLine
  simp only [delta_translate, translate_start, dot, Pt.add_x, Pt.add_y]
  ring

theorem distance_translate (l : Line) (d p : Pt) :
    (LinearEquation.fromLine (l.translate d)).distance (p + d) = (LinearEquation.fromLine l).distance p := by
  unfold LinearEquation.distance
  rw [fromLine_translate_normal, fromLine_translate_origin]
  simp only [dot, Pt.add_x, Pt.add_y]
  ring

theorem checkSide_translate (l : Line) (d p : Pt) (side : LineSide) :
    (LinearEquation.fromLine (l.translate d)).checkSide (p + d) side =
      (LinearEquation.fromLine l).checkSide p side := by
  unfold LinearEquation.checkSide
  simp only [distance_translate]

theorem denominator_translate (l1 l2 : Line) (d : Pt) :
    (IntersectionParams.fromLines (l1.translate d) (l2.translate d)).denominator =
      (IntersectionParams.fromLines l1 l2).denominator := by
  unfold IntersectionParams.fromLines
  simp only [fromLine_translate_normal]

theorem nearlyColinearHasError_translate (l1 l2 : Line) (d : Pt) :
    (IntersectionParams.fromLines (l1.translate d) (l2.translate d)).nearlyColinearHasError =
      (IntersectionParams.fromLines l1 l2).nearlyColinearHasError := by
  unfold IntersectionParams.nearlyColinearHasError
  rw [denominator_translate]
  simp only [IntersectionParams.fromLines, delta_translate]
  rfl

theorem xNumerator_translate (l1 l2 : Line) (d : Pt) :
    (IntersectionParams.fromLines (l1.translate d) (l2.translate d)).xNumerator =
      (IntersectionParams.fromLines l1 l2).xNumerator +
        d.x * (IntersectionParams.fromLines l1 l2).denominator := by
  unfold IntersectionParams.xNumerator IntersectionParams.fromLines
  simp only [fromLine_translate_normal, fromLine_translate_origin, det, dot]
  ring

theorem yNumerator_translate (l1 l2 : Line) (d : Pt) :
    (IntersectionParams.fromLines (l1.translate d) (l2.translate d)).yNumerator =
      (IntersectionParams.fromLines l1 l2).yNumerator +
        d.y * (IntersectionParams.fromLines l1 l2).denominator := by
  unfold IntersectionParams.yNumerator IntersectionParams.fromLines
  simp only [fromLine_translate_normal, fromLine_translate_origin, det, dot]
  ring

/-- The `i64` quotient of `round_div`, before the saturating cast to `i32`. -/
def roundDivRaw (n d : Int) : Int := (2 * n * isignum d + iabs d) / (2 * iabs d)

theorem roundDiv_eq (n d : Int) : roundDiv n d = satI32 (roundDivRaw n d) := rfl

/-- The rounding closure without the case split on the sign: `s = signum d`, `s * d = |d|`. -/
theorem roundDivRaw_spec {d : Int} (hd : d ≠ 0) :
    ∃ s : Int, (s = 1 ∨ s = -1) ∧ s * d = iabs d ∧ 0 < iabs d ∧
      ∀ n, roundDivRaw n d = (2 * (s * n) + iabs d) / (2 * iabs d) := by
  unfold roundDivRaw isignum iabs
  by_cases h : d < 0
  · exact ⟨-1, Or.inr rfl, by simp only [h, ↓reduceIte]; ring, by simp only [h, ↓reduceIte]; omega,
      fun n => by simp only [h, ↓reduceIte]; congr 2; ring⟩
  · exact ⟨1, Or.inl rfl, by simp only [h, ↓reduceIte]; ring, by simp only [h, ↓reduceIte]; omega,
      fun n => by simp only [h, hd, ↓reduceIte]; congr 2; ring⟩

/-- Ties included: rounding them UP (not away from zero, as `roundDivOld` does) is what makes
this hold for every `n`. -/
theorem roundDivRaw_translate (n d t : Int) (hd : d ≠ 0) :
    roundDivRaw (n + t * d) d = roundDivRaw n d + t := by
  obtain ⟨s, -, hsd, ha, h⟩ := roundDivRaw_spec hd
  rw [h, h, show 2 * (s * (n + t * d)) + iabs d = 2 * (s * n) + iabs d + t * (2 * iabs d) by
    rw [← hsd]; ring, Int.add_mul_ediv_right _ _ (by omega)]

theorem satI32_of_inI32 {a : Int} (h : inI32 a) : satI32 a = a := by
  unfold inI32 at h; unfold satI32
  have h1 : ¬ a > 2147483647 := by omega
  have h2 : ¬ a < -2147483648 := by omega
  simp only [h1, h2, ↓reduceIte]

theorem roundDiv_translate (n d t : Int) (hd : d ≠ 0) (h1 : inI32 (roundDivRaw n d))
    (h2 : inI32 (roundDivRaw n d + t)) : roundDiv (n + t * d) d = roundDiv n d + t := by
  rw [roundDiv_eq, roundDiv_eq, roundDivRaw_translate n d t hd, satI32_of_inI32 h1, satI32_of_inI32 h2]

def Intersection.translate : Intersection → Pt → Intersection
  | .point p s, d => .point (p + d) s
  | .colinear, _ => .colinear

/-- The exact (`i64`) rounded intersection point, before the casts. -/
def IntersectionParams.rawPoint (p : IntersectionParams) : Pt :=
  ⟨roundDivRaw p.xNumerator p.denominator, roundDivRaw p.yNumerator p.denominator⟩

/-- "The casts of `intersection()` do not saturate, neither before nor after the move by `d`." -/
def IntersectionParams.NoSat (p : IntersectionParams) (d : Pt) : Prop :=
  inI32 p.rawPoint.x ∧ inI32 p.rawPoint.y ∧ inI32 (p.rawPoint.x + d.x) ∧ inI32 (p.rawPoint.y + d.y)

instance (p : IntersectionParams) (d : Pt) : Decidable (p.NoSat d) := by
  unfold IntersectionParams.NoSat; exact inferInstance

theorem rawPoint_translate (l1 l2 : Line) (d : Pt)
    (hd : (IntersectionParams.fromLines l1 l2).denominator ≠ 0) :
    (IntersectionParams.fromLines (l1.translate d) (l2.translate d)).rawPoint =
      (IntersectionParams.fromLines l1 l2).rawPoint + d := by
  unfold IntersectionParams.rawPoint
  rw [xNumerator_translate, yNumerator_translate, denominator_translate, Pt.ext_iff']
  simp only [Pt.add_x, Pt.add_y]
  exact ⟨roundDivRaw_translate _ _ _ hd, roundDivRaw_translate _ _ _ hd⟩

theorem intersection_translate (l1 l2 : Line) (d : Pt)
    (h : (IntersectionParams.fromLines l1 l2).NoSat d) :
    (IntersectionParams.fromLines (l1.translate d) (l2.translate d)).intersection =
      (IntersectionParams.fromLines l1 l2).intersection.translate d := by
  unfold IntersectionParams.intersection
  rw [denominator_translate]
  by_cases hd : (IntersectionParams.fromLines l1 l2).denominator = 0
  · simp only [hd, ↓reduceIte, Intersection.translate]
  · simp only [hd, ↓reduceIte, Intersection.translate]
    obtain ⟨h1, h2, h3, h4⟩ := h
    rw [xNumerator_translate, yNumerator_translate]
    congr 1
    rw [Pt.ext_iff']
    simp only [Pt.add_x, Pt.add_y]
    exact ⟨roundDiv_translate _ _ _ hd h1 h3, roundDiv_translate _ _ _ hd h2 h4⟩

/-- Without any guard: moved lines are colinear iff the lines are, and the outer side (the sign of
the determinant) is the same; only the rounded point may be affected by a saturating cast. -/
theorem intersection_translate_shape (l1 l2 : Line) (d : Pt) :
    match (IntersectionParams.fromLines l1 l2).intersection with
    | .colinear =>
      (IntersectionParams.fromLines (l1.translate d) (l2.translate d)).intersection = .colinear
    | .point _ s =>
      ∃ p', (IntersectionParams.fromLines (l1.translate d) (l2.translate d)).intersection = .point p' s := by
  unfold IntersectionParams.intersection
  rw [denominator_translate]
  by_cases hd : (IntersectionParams.fromLines l1 l2).denominator = 0
  · simp only [hd, ↓reduceIte]
  · simp only [hd, ↓reduceIte]
    exact ⟨_, rfl⟩

/-- The rounded point of this pair of lines is either discarded (`nearly_colinear_has_error`) or
its casts do not saturate, before and after the move. -/
def IntersectionParams.PointOK (p : IntersectionParams) (d : Pt) : Prop :=
  p.nearlyColinearHasError = true ∨ p.NoSat d

instance (p : IntersectionParams) (d : Pt) : Decidable (p.PointOK d) := by
  unfold IntersectionParams.PointOK; exact inferInstance

end Joins
end EG
