/-
  EG.Lemmas.JoinsBBoxTri — every scanline a styled triangle paints lies in the columns `lo ..= hi`
  and the rows `r0 .. rEnd`, given (`TriCtx`)
  * every outline line of the three edge segments ends in these columns (needed when the stroke is
    drawn from the edge segments: width > 0, not the collapsed case), and
  * the three vertices lie in these columns (needed when the plain triangle scanline is used: the
    collapsed inside stroke, or the fill of a row without stroke scanlines).
  `generateLines_ok`: the three lines of a row's configuration (`edge_intersections`,
  `generate_lines` of triangle/scanline_intersections.rs); hence the lines of the closed form of the
  run (`triRows_good`, `triForgiven_good`; EG.Lemmas.JoinsTriRows).
-/
import EG.Lemmas.JoinsBBoxPolyMain
import EG.Lemmas.JoinsTriMove
import EG.Model.ThickTriangle
set_option linter.unusedSimpArgs false
namespace EG
namespace Joins
open Thick (LineSide StrokeOffset)

def LineOK (lo hi r0 rEnd : Int) (sc : Scanline) : Prop :=
  ¬ sc.xs < sc.xe ∨ GoodLine lo hi r0 rEnd sc

theorem lineOK_of_within {lo hi r0 rEnd y : Int} {sc : Scanline} (hw : Within sc lo hi)
    (hy : sc.y = y) (h1 : r0 ≤ y) (h2 : y < rEnd) : LineOK lo hi r0 rEnd sc := by
  by_cases h : sc.xs < sc.xe
  · right
    rcases hw with hw | hw
    · rw [isEmpty_iff] at hw; exact absurd h hw
    · exact ⟨h, hw.1, hw.2, by omega, by omega⟩
  · left; exact h

theorem lineOK_newEmpty {lo hi r0 rEnd y : Int} : LineOK lo hi r0 rEnd (Scanline.newEmpty y) := by
  left; simp [Scanline.newEmpty]

theorem closedSegments3_eq_some {t : Tri} {w : Nat} {off : StrokeOffset} {segs : List ThickSegment}
    (h : closedSegments3 t w off = some segs) :
    ∃ j0 j1 j2, LineJoin.fromPoints t.v3 t.v1 t.v2 w off = some j0 ∧
      LineJoin.fromPoints t.v1 t.v2 t.v3 w off = some j1 ∧
      LineJoin.fromPoints t.v2 t.v3 t.v1 w off = some j2 ∧ segs = [⟨j0, j1⟩, ⟨j1, j2⟩, ⟨j2, j0⟩] := by
  unfold closedSegments3 at h
  obtain ⟨j0, h0, h⟩ := Option.bind_eq_some_iff.mp h
  obtain ⟨j1, h1, h⟩ := Option.bind_eq_some_iff.mp h
  obtain ⟨j2, h2, h⟩ := Option.bind_eq_some_iff.mp h
  exact ⟨j0, j1, j2, h0, h1, h2, (Option.some.inj h).symm⟩

theorem closedSegments3_of_joins {t : Tri} {w : Nat} {off : StrokeOffset} {j0 j1 j2 : LineJoin}
    (h0 : LineJoin.fromPoints t.v3 t.v1 t.v2 w off = some j0)
    (h1 : LineJoin.fromPoints t.v1 t.v2 t.v3 w off = some j1)
    (h2 : LineJoin.fromPoints t.v2 t.v3 t.v1 w off = some j2) :
    closedSegments3 t w off = some [⟨j0, j1⟩, ⟨j1, j2⟩, ⟨j2, j0⟩] := by
  unfold closedSegments3
  rw [h0, h1, h2]
  rfl

theorem vertex_mod (t : Tri) (i : Nat) :
    (i % 3 = 0 → t.vertex i = t.v1) ∧ (i % 3 = 1 → t.vertex i = t.v2) ∧ (i % 3 = 2 → t.vertex i = t.v3) := by
  unfold Tri.vertex
  refine ⟨fun h => ?_, fun h => ?_, fun h => ?_⟩ <;> rw [h] <;> rfl

/-- The segment the edge closure draws for index `idx` is one of the three closed segments
(`vertices[i % 3]`: the vertex with index 3 is the first one again). -/
theorem edge_segment_mem {tc : Tri} {w : Nat} {off : StrokeOffset} {segs : List ThickSegment}
    (hs : closedSegments3 tc w off = some segs) {idx : Nat} (hidx : idx < 3) {a b : LineJoin}
    (ha : LineJoin.fromPoints (tc.vertex idx) (tc.vertex (idx + 1)) (tc.vertex (idx + 2)) w off = some a)
    (hb : LineJoin.fromPoints (tc.vertex (idx + 1)) (tc.vertex (idx + 2)) (tc.vertex (idx + 3)) w off
      = some b) : (⟨a, b⟩ : ThickSegment) ∈ segs := by
  obtain ⟨j0, j1, j2, h0, h1, h2, rfl⟩ := closedSegments3_eq_some hs
  obtain rfl | rfl | rfl : idx = 0 ∨ idx = 1 ∨ idx = 2 := by omega
  · cases h1.symm.trans ha; cases h2.symm.trans hb; simp
  · cases h2.symm.trans ha; cases h0.symm.trans hb; simp
  · cases h0.symm.trans ha; cases h1.symm.trans hb; simp

def EdgesOK (tc : Tri) (w : Nat) (off : StrokeOffset) (lo hi : Int) : Prop :=
  ∃ segs, closedSegments3 tc w off = some segs ∧ ∀ s ∈ segs, SegOK lo hi s

/-- What the triangle passed to `ScanlineIntersections` has to satisfy. -/
structure TriCtx (tc : Tri) (w : Nat) (off : StrokeOffset) (lo hi : Int) (collapsed hasFill : Bool) :
    Prop where
  edges : w ≠ 0 → collapsed = false → EdgesOK tc w off lo hi
  verts : collapsed = true ∨ hasFill = true →
    (lo ≤ tc.v1.x ∧ tc.v1.x ≤ hi) ∧ (lo ≤ tc.v2.x ∧ tc.v2.x ≤ hi) ∧ (lo ≤ tc.v3.x ∧ tc.v3.x ≤ hi)

theorem tri_scanlineIntersection_within (t : Tri) (y lo hi : Int)
    (hv : (lo ≤ t.v1.x ∧ t.v1.x ≤ hi) ∧ (lo ≤ t.v2.x ∧ t.v2.x ≤ hi) ∧ (lo ≤ t.v3.x ∧ t.v3.x ≤ hi)) :
    Within (t.scanlineIntersection y) lo hi ∧ (t.scanlineIntersection y).y = y := by
  obtain ⟨s1, s2, s3⟩ := sortedYx_all (fun p => lo ≤ p.x ∧ p.x ≤ hi) t hv.1 hv.2.1 hv.2.2
  unfold Tri.scanlineIntersection
  simp only
  have h0 : Within (Scanline.newEmpty y) lo hi := within_newEmpty
  split
  · exact bint_within _ ⟨t.sortedYx.v1, t.sortedYx.v3⟩ lo hi h0 s1.1 s3.1 s1.2 s3.2
  · obtain ⟨a1, a2⟩ := bint_within _ ⟨t.sortedYx.v1, t.sortedYx.v2⟩ lo hi h0 s1.1 s2.1 s1.2 s2.2
    obtain ⟨b1, b2⟩ := bint_within _ ⟨t.sortedYx.v1, t.sortedYx.v3⟩ lo hi a1 s1.1 s3.1 s1.2 s3.2
    obtain ⟨c1, c2⟩ := bint_within _ ⟨t.sortedYx.v2, t.sortedYx.v3⟩ lo hi b1 s2.1 s3.1 s2.2 s3.2
    exact ⟨c1, by rw [c2, b2, a2]; rfl⟩

def InRow (lo hi y : Int) (sc : Scanline) : Prop := Within sc lo hi ∧ sc.y = y

theorem inRow_newEmpty {lo hi y : Int} : InRow lo hi y (Scanline.newEmpty y) :=
  ⟨within_newEmpty, rfl⟩

theorem inRow_tryExtend {lo hi y : Int} {a b : Scanline} (ha : InRow lo hi y a) (hb : InRow lo hi y b) :
    InRow lo hi y (a.tryExtend b).2 := by
  obtain ⟨x1, x2⟩ := tryExtend_within ha.1 hb.1
  exact ⟨x1, by rw [x2]; exact ha.2⟩

theorem inRow_taken {lo hi y : Int} {s : Scanline} (h : InRow lo hi y s) :
    InRow lo hi y { s with xs := 0, xe := 0 } :=
  ⟨Or.inl rfl, h.2⟩

/-- Column bounds as a relation: the same scanline on both sides, inside the columns, in row `y`. -/
theorem scanRel_inRow (lo hi y : Int) : ScanRel (fun a b => a = b ∧ InRow lo hi y a) where
  isEmpty := fun h => by rw [h.1]
  tryExtend := fun h1 h2 => by
    obtain ⟨rfl, ha⟩ := h1
    obtain ⟨rfl, hc⟩ := h2
    exact ⟨rfl, rfl, inRow_tryExtend ha hc⟩
  cleared := fun h => by
    obtain ⟨rfl, ha⟩ := h
    exact ⟨rfl, inRow_taken ha⟩

theorem segJ_inRow {lo hi : Int} (it : TriIntersections) {segs : List ThickSegment}
    (hsegs : closedSegments3 it.triangle it.strokeWidth it.strokeOffset = some segs)
    (hok : ∀ s ∈ segs, SegOK lo hi s) (y : Int) (i : Nat) (hi' : i < 3) :
    InRow lo hi y (it.segJ y i) := by
  obtain ⟨j1, h1⟩ := fromPoints_total (it.triangle.vertex i) (it.triangle.vertex (i + 1))
    (it.triangle.vertex (i + 2)) it.strokeWidth it.strokeOffset
  obtain ⟨j2, h2⟩ := fromPoints_total (it.triangle.vertex (i + 1)) (it.triangle.vertex (i + 2))
    (it.triangle.vertex (i + 3)) it.strokeWidth it.strokeOffset
  rw [TriIntersections.segJ_of_joins h1 h2]
  exact intersection_within_outline ⟨j1, j2⟩ y lo hi (hok _ (edge_segment_mem hsegs hi' h1 h2))

/-- The scanlines the edge closure hands out are non-empty pieces inside the columns, in the row. -/
theorem edgeNext_inv {lo hi : Int} (it : TriIntersections)
    (hseg : it.strokeWidth ≠ 0 → EdgesOK it.triangle it.strokeWidth it.strokeOffset lo hi)
    (y : Int) (st : EdgeIt) (hs : InRow lo hi y st.left ∧ InRow lo hi y st.right) :
    (InRow lo hi y (EdgeIt.next it.strokeWidth (it.segJ y) y st).2.left ∧
      InRow lo hi y (EdgeIt.next it.strokeWidth (it.segJ y) y st).2.right) ∧
    ∀ sc, (EdgeIt.next it.strokeWidth (it.segJ y) y st).1 = some sc → sc.xs < sc.xe ∧ InRow lo hi y sc := by
  by_cases hw : it.strokeWidth = 0
  · unfold EdgeIt.next
    rw [if_pos hw]
    exact ⟨hs, by intro sc h; cases h⟩
  · obtain ⟨segs, hsegs, hok⟩ := hseg hw
    obtain ⟨h1, h2⟩ := EdgeIt.next_rel (scanRel_inRow lo hi y)
      (fun i hi' => ⟨rfl, segJ_inRow it hsegs hok y i hi'⟩) it.strokeWidth (y := y) (y' := y)
      ⟨rfl, inRow_newEmpty⟩ (s := st) (s' := st) ⟨rfl, ⟨rfl, hs.1⟩, ⟨rfl, hs.2⟩⟩
    refine ⟨⟨h2.left.2, h2.right.2⟩, fun sc e => ?_⟩
    have hne := (isEmpty_iff sc).not.mp (by rw [EdgeIt.next_some_nonempty e]; decide)
    rw [e] at h1
    exact ⟨by omega, h1.2⟩

theorem lineOK_getD {lo hi r0 rEnd y : Int} (hy1 : r0 ≤ y) (hy2 : y < rEnd) {o : Option Scanline}
    (h : ∀ sc, o = some sc → sc.xs < sc.xe ∧ InRow lo hi y sc) :
    LineOK lo hi r0 rEnd (o.getD (Scanline.newEmpty y)) := by
  cases o with
  | none => exact lineOK_newEmpty
  | some f => exact lineOK_of_within (h f rfl).2.1 (h f rfl).2.2 hy1 hy2

theorem generateLines_ok {lo hi r0 rEnd : Int} (it : TriIntersections)
    (ctx : TriCtx it.triangle it.strokeWidth it.strokeOffset lo hi it.isCollapsed it.hasFill)
    (y : Int) (hy1 : r0 ≤ y) (hy2 : y < rEnd) (lines : LineConfig) (h : it.generateLines y = some lines) :
    LineOK lo hi r0 rEnd lines.internal ∧ LineOK lo hi r0 rEnd lines.first ∧
      LineOK lo hi r0 rEnd lines.second := by
  -- the plain triangle scanline, where it is used
  have htri : it.isCollapsed = true ∨ it.hasFill = true →
      LineOK lo hi r0 rEnd (it.triangle.scanlineIntersection y) := by
    intro hv
    obtain ⟨a, b⟩ := tri_scanlineIntersection_within it.triangle y lo hi (ctx.verts hv)
    exact lineOK_of_within a b hy1 hy2
  rw [TriIntersections.generateLines_eq] at h
  obtain rfl := Option.some.inj h
  unfold genLines
  by_cases hc : it.isCollapsed = true
  · rw [if_pos hc]
    exact ⟨htri (Or.inl hc), lineOK_newEmpty, lineOK_newEmpty⟩
  · have hc' : it.isCollapsed = false := by simpa using hc
    rw [if_neg hc]
    have hseg := fun hw => ctx.edges hw hc'
    obtain ⟨hs1, hf⟩ := edgeNext_inv it hseg y ⟨0, Scanline.newEmpty y, Scanline.newEmpty y⟩
      ⟨inRow_newEmpty, inRow_newEmpty⟩
    obtain ⟨_, hsnd⟩ := edgeNext_inv it hseg y _ hs1
    dsimp only
    generalize (EdgeIt.next it.strokeWidth (it.segJ y) y ⟨0, Scanline.newEmpty y, Scanline.newEmpty y⟩) = r1
      at hf hsnd ⊢
    generalize (EdgeIt.next it.strokeWidth (it.segJ y) y r1.2).1 = second at hsnd ⊢
    generalize r1.1 = first at hf ⊢
    refine ⟨?_, lineOK_getD hy1 hy2 hf, lineOK_getD hy1 hy2 hsnd⟩
    -- the fill between the two stroke scanlines
    by_cases hfill : it.hasFill = true
    · simp only [hfill, ↓reduceIte]
      cases first with
      | none =>
        cases second with
        | none => exact htri (Or.inr hfill)
        | some s => exact lineOK_newEmpty
      | some f =>
        cases second with
        | none => exact lineOK_newEmpty
        | some s =>
          obtain ⟨f1, f2, _⟩ := hf f rfl
          obtain ⟨s1, s2, _⟩ := hsnd s rfl
          rcases f2 with f2 | f2
          · rw [isEmpty_iff] at f2; exact absurd f1 f2
          rcases s2 with s2 | s2
          · rw [isEmpty_iff] at s2; exact absurd s1 s2
          simp only
          by_cases hlt : min f.xe s.xe < max f.xs s.xs
          · right
            exact ⟨hlt, by dsimp only; omega, by dsimp only; omega, hy1, hy2⟩
          · left; exact hlt
    · have hfill' : it.hasFill = false := by simpa using hfill
      simp only [hfill', Bool.false_eq_true, ↓reduceIte]
      exact lineOK_newEmpty

/-- The invariant of `triangle::scanline_intersections::ScanlineIntersections`: the three parked
lines lie in the columns and rows. The theorems below are about the closed form of the rows
(`pending`, `triRows`) and follow no state. -/
structure TIInv (tc : Tri) (w : Nat) (off : StrokeOffset) (hasFill collapsed : Bool)
    (lo hi r0 rEnd : Int) (it : TriIntersections) : Prop where
  tri : it.triangle = tc
  width : it.strokeWidth = w
  off : it.strokeOffset = off
  fill : it.hasFill = hasFill
  coll : it.isCollapsed = collapsed
  internal : LineOK lo hi r0 rEnd it.lines.internal
  first : LineOK lo hi r0 rEnd it.lines.first
  second : LineOK lo hi r0 rEnd it.lines.second

theorem pending_good {lo hi r0 rEnd : Int} {lc : LineConfig}
    (h : LineOK lo hi r0 rEnd lc.internal ∧ LineOK lo hi r0 rEnd lc.first ∧ LineOK lo hi r0 rEnd lc.second) :
    ∀ x ∈ lc.pending, GoodLine lo hi r0 rEnd x.1 := by
  obtain ⟨a, b, c⟩ := h
  intro x hx
  obtain ⟨hne, hx⟩ := LineConfig.mem_pending hx
  have hlt : x.1.xs < x.1.xe := by rw [← Bool.not_eq_true, isEmpty_iff] at hne; omega
  rcases hx with e | e | e <;> rw [e] at hlt ⊢
  · exact a.resolve_left (not_not_intro hlt)
  · exact b.resolve_left (not_not_intro hlt)
  · exact c.resolve_left (not_not_intro hlt)

theorem moreRows_good {lo hi r0 rEnd : Int} (it : TriIntersections)
    (ctx : TriCtx it.triangle it.strokeWidth it.strokeOffset lo hi it.isCollapsed it.hasFill)
    {ys : List Int} (hys : ∀ y ∈ ys, r0 ≤ y ∧ y < rEnd) :
    ∀ x ∈ moreRows (fun y => (it.row y).pending) ys, GoodLine lo hi r0 rEnd x.1 := by
  intro x hx
  obtain ⟨y, hy, hx⟩ := mem_moreRows hx
  exact pending_good (generateLines_ok it ctx y (hys y hy).1 (hys y hy).2 (it.row y) (it.gen_row y)) x hx

theorem triRows_good {lo hi r0 rEnd : Int} (it : TriIntersections)
    (ctx : TriCtx it.triangle it.strokeWidth it.strokeOffset lo hi it.isCollapsed it.hasFill) :
    ∀ x ∈ triRows it.row r0 rEnd, GoodLine lo hi r0 rEnd x.1 := by
  intro x hx
  unfold triRows at hx
  split at hx
  · rename_i hr
    rcases List.mem_append.mp hx with h | h
    · exact pending_good (generateLines_ok it ctx r0 (Int.le_refl _) hr (it.row r0) (it.gen_row r0)) x h
    · exact moreRows_good it ctx (fun y hy => by rw [mem_irange] at hy; omega) x h
  · cases hx

theorem triForgiven_good {lo hi r0 rEnd : Int} (it : TriIntersections)
    (ctx : TriCtx it.triangle it.strokeWidth it.strokeOffset lo hi it.isCollapsed it.hasFill) :
    ∀ x ∈ triForgiven it.row r0 rEnd, GoodLine lo hi r0 rEnd x.1 := by
  intro x hx
  unfold triForgiven at hx
  split at hx
  · exact moreRows_good it ctx (fun y hy => by rw [mem_irange] at hy; omega) x hx
  · exact triRows_good it ctx x hx

end Joins
end EG
