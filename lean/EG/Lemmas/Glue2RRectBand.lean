/-
  EG.Lemmas.Glue2RRectBand — glue for C18 (rounded rectangles), for the half-pixel band of the
  corners (Props/C18/RoundedRectBand.lean): the arithmetic of nested ellipses, the parity of the
  offsets, and a condition imposed corner by corner.

  Doubled coordinates: `X = dx2`, `Y = dy2` are the squared doubled offsets between the centre of the
  pixel and the centre of the corner ellipse (both odd squares, so >= 1); the ideal corner ellipse has
  doubled semi-axes `A = 2 rw`, `B = 2 rh`; the ellipse grown / shrunk by half a pixel has doubled
  semi-axes `A ± 1`, `B ± 1`. "Centre strictly inside the ellipse with doubled semi-axes a, b" is
  `b² X + a² Y < b² a²`.
-/
import EG.Lemmas.GlueRRectNested
import Mathlib.Tactic.Linarith
import Mathlib.Tactic.Ring
namespace EG.Glue2
open EG EG.RoundedRect EG.Glue

/-! ### arithmetic: nested ellipses

`P`, `Q` stand for the squared doubled semi-axes `a²`, `b²`; "strictly inside" is `Q X + P Y < Q P`. -/

/-- The two sides of the cross-multiplied comparison of two ellipses, written over the common terms
`a = Q X Q'` and `b = P Y P'`: `P a + Q b` against `P' a + Q' b` (for the non-strict variant below). -/
theorem cross_mul (P Q P' Q' X Y : Nat) :
    (Q' * X + P' * Y) * (Q * P) = P * (Q * X * Q') + Q * (P * Y * P') ∧
    Q' * P' * (Q * X + P * Y) = P' * (Q * X * Q') + Q' * (P * Y * P') :=
  ⟨by ring, by ring⟩

/-- A point strictly inside an ellipse is strictly inside every ellipse with larger semi-axes:
`ellipse_nested`, for natural numbers. -/
theorem inside_grow {P Q P' Q' X Y : Nat} (hP : P ≤ P') (hQ : Q ≤ Q')
    (h : Q * X + P * Y < Q * P) : Q' * X + P' * Y < Q' * P' := by
  have := ellipse_nested (a := P) (a' := P') (b := Q) (b' := Q') (X := X) (Y := Y)
    (Int.natCast_nonneg _) (Int.natCast_nonneg _) (Int.natCast_nonneg _) (Int.natCast_nonneg _)
    (by exact_mod_cast h) (by exact_mod_cast hP) (by exact_mod_cast hQ)
  exact_mod_cast this

/-- A point with a non-zero x offset inside or ON an ellipse is strictly inside an ellipse with a
larger x semi-axis and a y semi-axis that is not smaller. -/
theorem inside_grow_of_le {P Q P' Q' X Y : Nat} (pQ : 0 < Q) (hP : P < P') (hQ : Q ≤ Q')
    (hX : 1 ≤ X) (h : Q * X + P * Y ≤ Q * P) : Q' * X + P' * Y < Q' * P' := by
  obtain ⟨e1, e2⟩ := cross_mul P Q P' Q' X Y
  have pz : 0 < Q * X * Q' := Nat.mul_pos (Nat.mul_pos pQ (by omega)) (by omega)
  have k1 : P * (Q * X * Q') < P' * (Q * X * Q') := Nat.mul_lt_mul_of_pos_right hP pz
  have k2 : Q * (P * Y * P') ≤ Q' * (P * Y * P') := Nat.mul_le_mul_right _ hQ
  have k3 : Q' * P' * (Q * X + P * Y) ≤ Q' * P' * (Q * P) := Nat.mul_le_mul_left _ h
  have k4 : (Q' * X + P' * Y) * (Q * P) < Q' * P' * (Q * P) := by omega
  exact Nat.lt_of_mul_lt_mul_right k4

theorem odd_sq_pos (z : Int) (h : z % 2 = 1) : 1 ≤ (z ^ 2).toNat := by
  have hz : z ≠ 0 := by omega
  have : 0 < z ^ 2 := by
    rw [Int.pow_succ, Int.pow_succ, Int.pow_zero, Int.one_mul]
    rcases Int.lt_or_gt_of_ne hz with hn | hp
    · exact Int.mul_pos_of_neg_of_neg hn hn
    · exact Int.mul_pos hp hp
  omega

/-- The doubled offset `2 p + 1 - 2 c` is odd, so its square is not 0. -/
theorem dx2_pos (tl : Pt) (r : Sz) (k : Quadrant) (p : Pt) : 1 ≤ EllipseQuadrant.dx2 tl r k p := by
  unfold EllipseQuadrant.dx2
  exact odd_sq_pos _ (by omega)

theorem dy2_pos (tl : Pt) (r : Sz) (k : Quadrant) (p : Pt) : 1 ≤ EllipseQuadrant.dy2 tl r k p := by
  unfold EllipseQuadrant.dy2
  exact odd_sq_pos _ (by omega)

/-- A condition `T top_left radius quadrant p` imposed at each of the four corners whose box (the
`radius`-sized box at that corner of the rectangle) contains `p`; the radii are taken as they are. -/
def CornerWise (T : Pt → Sz → Quadrant → Pt → Prop) (r : RoundedRect) (p : Pt) : Prop :=
  (p.y < r.rect.tl.y + r.corners.tl.h → p.x < r.rect.tl.x + r.corners.tl.w →
    T r.rect.tl r.corners.tl .topLeft p) ∧
  (r.rect.tl.y + r.rect.size.h - r.corners.bl.h ≤ p.y → p.x < r.rect.tl.x + r.corners.bl.w →
    T ⟨r.rect.tl.x, r.rect.tl.y + r.rect.size.h - r.corners.bl.h⟩ r.corners.bl .bottomLeft p) ∧
  (p.y < r.rect.tl.y + r.corners.tr.h → r.rect.tl.x + r.rect.size.w - r.corners.tr.w ≤ p.x →
    T ⟨r.rect.tl.x + r.rect.size.w - r.corners.tr.w, r.rect.tl.y⟩ r.corners.tr .topRight p) ∧
  (r.rect.tl.y + r.rect.size.h - r.corners.br.h ≤ p.y →
    r.rect.tl.x + r.rect.size.w - r.corners.br.w ≤ p.x →
    T ⟨r.rect.tl.x + r.rect.size.w - r.corners.br.w,
      r.rect.tl.y + r.rect.size.h - r.corners.br.h⟩ r.corners.br .bottomRight p)

theorem cornerConds_iff_cornerWise (r : RoundedRect) (p : Pt) :
    CornerConds r p ↔
      CornerWise (fun tl rad k q => (EllipseQuadrant.new tl rad k).contains q = true) r p := Iff.rfl

/-- Inside the rectangle a corner box that contains the point has radii >= 1, so a corner-wise
condition can be replaced by any condition it implies for such radii. -/
theorem CornerWise.imp {T T' : Pt → Sz → Quadrant → Pt → Prop} {r : RoundedRect} {p : Pt}
    (hb : r.rect.contains p = true)
    (himp : ∀ tl rad k, 1 ≤ rad.w → 1 ≤ rad.h → T tl rad k p → T' tl rad k p)
    (h : CornerWise T r p) : CornerWise T' r p := by
  rw [Rect.contains_iff] at hb
  obtain ⟨x1, x2, y1, y2⟩ := hb
  obtain ⟨h1, h2, h3, h4⟩ := h
  exact ⟨fun hy hx => himp _ _ _ (radius_pos_lo x1 hx) (radius_pos_lo y1 hy) (h1 hy hx),
    fun hy hx => himp _ _ _ (radius_pos_lo x1 hx) (radius_pos_hi hy y2) (h2 hy hx),
    fun hy hx => himp _ _ _ (radius_pos_hi hx x2) (radius_pos_lo y1 hy) (h3 hy hx),
    fun hy hx => himp _ _ _ (radius_pos_hi hx x2) (radius_pos_hi hy y2) (h4 hy hx)⟩

theorem contains_confineRadii (r : RoundedRect) (p : Pt) : r.confineRadii.contains p = r.contains p := by
  have e : ∀ k, r.confineRadii.cornerQuadrant k = r.cornerQuadrant k := by
    intro k
    unfold RoundedRect.cornerQuadrant RoundedRect.confineRadii
    simp only [CornerRadii.confine_confine]
  unfold RoundedRect.contains RRContains.new
  simp only [e]
  rfl

end EG.Glue2
