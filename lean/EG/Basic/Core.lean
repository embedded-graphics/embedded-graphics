/-
  EG.Basic.Core — integer ranges, fixed-width integer helpers, points, sizes.
  Import-free (core Lean only) so that the driver links as a native executable.
-/
namespace EG

/-! ## Fixed-width integer helpers (Rust `i32` / `u32` semantics that the code relies on) -/

/-- `u32::saturating_as::<i32>()`, `as i32` after saturation. -/
def satAsI32 (n : Nat) : Int := if n ≤ 2147483647 then (n : Int) else 2147483647

/-- `i32::saturating_add`. -/
def satAddI32 (a b : Int) : Int :=
  if a + b > 2147483647 then 2147483647 else if a + b < -2147483648 then -2147483648 else a + b

/-- `u32::saturating_add`. -/
def satAddU32 (a b : Nat) : Nat := if a + b ≤ 4294967295 then a + b else 4294967295

/-- `i32` division by two, truncating toward zero (Rust `/`). -/
def tdiv2 (d : Int) : Int := if 0 ≤ d then d / 2 else -((-d) / 2)

/-- Rust `/` on `i32`: truncating division. Division by zero is not reachable in the modelled code. -/
def tdiv (a b : Int) : Int := Int.tdiv a b

def inI32 (a : Int) : Prop := -2147483648 ≤ a ∧ a ≤ 2147483647
instance (a : Int) : Decidable (inI32 a) := by unfold inI32; exact inferInstance

/-! ## Half-open integer ranges `a..b` -/

/-- The Rust range `a..b` over `i32`, as a list. -/
def irange (a b : Int) : List Int := (List.range (b - a).toNat).map (fun (i : Nat) => a + (i : Int))

theorem mem_irange {a b x : Int} : x ∈ irange a b ↔ a ≤ x ∧ x < b := by
  unfold irange
  simp only [List.mem_map, List.mem_range]
  constructor
  · rintro ⟨i, hi, rfl⟩; omega
  · rintro ⟨h1, h2⟩; exact ⟨(x - a).toNat, by omega, by omega⟩

theorem irange_length (a b : Int) : (irange a b).length = (b - a).toNat := by
  simp [irange]

theorem irange_empty {a b : Int} (h : b ≤ a) : irange a b = [] := by
  unfold irange
  have : (b - a).toNat = 0 := by omega
  simp [this]

theorem irange_cons {a b : Int} (h : a < b) : irange a b = a :: irange (a + 1) b := by
  unfold irange
  have : (b - a).toNat = (b - (a + 1)).toNat + 1 := by omega
  rw [this, List.range_succ_eq_map]
  simp only [List.map_cons, List.map_map]
  congr 1
  · simp
  · apply List.map_congr_left
    intro i _
    simp only [Function.comp]
    omega

theorem irange_getElem (a b : Int) (i : Nat) (h : i < (irange a b).length) :
    (irange a b)[i] = a + i := by
  simp [irange]

theorem irange_pairwise_lt (a b : Int) : (irange a b).Pairwise (· < ·) := by
  unfold irange
  rw [List.pairwise_map]
  have : (List.range (b - a).toNat).Pairwise (· < ·) := List.pairwise_lt_range
  exact this.imp (by intro x y h; omega)

theorem irange_nodup (a b : Int) : (irange a b).Nodup :=
  (irange_pairwise_lt a b).imp (by intro x y h; exact Int.ne_of_lt h)

/-! ## Points, sizes -/

structure Pt where
  x : Int
  y : Int
  deriving DecidableEq, Repr, Inhabited

structure Sz where
  w : Nat
  h : Nat
  deriving DecidableEq, Repr, Inhabited

namespace Pt
def zero : Pt := ⟨0, 0⟩
def add (a b : Pt) : Pt := ⟨a.x + b.x, a.y + b.y⟩
def sub (a b : Pt) : Pt := ⟨a.x - b.x, a.y - b.y⟩
def neg (a : Pt) : Pt := ⟨-a.x, -a.y⟩
instance : Add Pt := ⟨add⟩
instance : Sub Pt := ⟨sub⟩
instance : Neg Pt := ⟨neg⟩
@[simp] theorem add_x (a b : Pt) : (a + b).x = a.x + b.x := rfl
@[simp] theorem add_y (a b : Pt) : (a + b).y = a.y + b.y := rfl
@[simp] theorem sub_x (a b : Pt) : (a - b).x = a.x - b.x := rfl
@[simp] theorem sub_y (a b : Pt) : (a - b).y = a.y - b.y := rfl
@[simp] theorem neg_x (a : Pt) : (-a).x = -a.x := rfl
@[simp] theorem neg_y (a : Pt) : (-a).y = -a.y := rfl
def componentMin (a b : Pt) : Pt := ⟨min a.x b.x, min a.y b.y⟩
def componentMax (a b : Pt) : Pt := ⟨max a.x b.x, max a.y b.y⟩
theorem ext_iff' {a b : Pt} : a = b ↔ a.x = b.x ∧ a.y = b.y := by
  cases a; cases b; simp
/-- Row-major order (the order of `Rectangle::points`). -/
def rowMajorLt (a b : Pt) : Prop := a.y < b.y ∨ (a.y = b.y ∧ a.x < b.x)
instance (a b : Pt) : Decidable (rowMajorLt a b) := by unfold rowMajorLt; exact inferInstance
end Pt

namespace Sz
def zero : Sz := ⟨0, 0⟩
def satSub (a b : Sz) : Sz := ⟨a.w - b.w, a.h - b.h⟩
def satAdd (a b : Sz) : Sz := ⟨satAddU32 a.w b.w, satAddU32 a.h b.h⟩
def newEqual (n : Nat) : Sz := ⟨n, n⟩
end Sz

end EG
